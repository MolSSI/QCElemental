/-
Small list lemmas shared by the proof files (core Lean only).
-/
namespace QcelVerif

theorem find?_eq_some_of_first {α} (p : α → Bool) :
    ∀ (l : List α) (x : α), l.head? = some x → p x = true → l.find? p = some x
  | [], _, h, _ => by simp at h
  | y :: t, x, h, hp => by
      simp at h; subst h; simp [List.find?, hp]

theorem all_mono {α : Type} {p q : α → Bool} (l : List α) (h : ∀ a, p a = true → q a = true) :
    l.all p = true → l.all q = true := by
  intro hp
  rw [List.all_eq_true] at hp ⊢
  exact fun a ha => h a (hp a ha)

theorem any_mono {α : Type} {p q : α → Bool} (l : List α) (h : ∀ a, p a = true → q a = true) :
    l.any p = true → l.any q = true := by
  intro hp
  rw [List.any_eq_true] at hp ⊢
  obtain ⟨a, ha, hpa⟩ := hp
  exact ⟨a, ha, h a hpa⟩

theorem all_of_all₂ {α : Type} {p₁ p₂ q : α → Bool} {l : List α} (h₁ : l.all p₁ = true) (h₂ : l.all p₂ = true)
    (h : ∀ a, p₁ a = true → p₂ a = true → q a = true) : l.all q = true :=
  List.all_eq_true.2 fun a ha => h a (List.all_eq_true.1 h₁ a ha) (List.all_eq_true.1 h₂ a ha)

theorem flatMap_congr_of_mem {α β} {l : List α} {f g : α → List β} (h : ∀ a ∈ l, f a = g a) : l.flatMap f = l.flatMap g := by
  induction l with
  | nil => rfl
  | cons a t ih =>
    simp only [List.flatMap_cons]
    rw [h a (by simp), ih (fun b hb => h b (by simp [hb]))]

/-! ### a run of `p` elements, then a stopper

`∀ d ∈ r.head?, p d = false` says that `r` is empty or starts outside `p`: what may follow a run of `p` without extending it
(`d ∈ o` unfolds to `o = some d`, so on `r = d :: t` the hypothesis is used as `hr d rfl`). -/

theorem span_append {α} {p : α → Bool} {l r : List α} (hl : ∀ c ∈ l, p c = true) (hr : ∀ d ∈ r.head?, p d = false) :
    (l ++ r).takeWhile p = l ∧ (l ++ r).dropWhile p = r := by
  rw [List.takeWhile_append_of_pos hl, List.dropWhile_append_of_pos hl]
  cases r with
  | nil => simp
  | cons d t => simp [hr d rfl]

theorem takeWhile_all {α : Type} (p : α → Bool) (l : List α) (h : ∀ a ∈ l, p a = true) :
    l.takeWhile p = l ∧ l.dropWhile p = [] := by
  simpa using span_append (r := []) h nofun

theorem stop_cons {α} {p : α → Bool} {d : α} (hd : p d = false) (t : List α) : ∀ c ∈ (d :: t).head?, p c = false := by
  simpa using hd

/-- what `dropWhile p` leaves does not go on with a `p` element -/
theorem stop_dropWhile {α} (p : α → Bool) (l : List α) : ∀ d ∈ (l.dropWhile p).head?, p d = false := by
  intro d hd
  have := List.head?_dropWhile_not p l
  rwa [Option.mem_def.mp hd] at this

/-! ### a run in the image of a `map`, when the test on the images is a test `q` on the originals
(code points of characters, lower-cased text) -/

theorem takeWhile_map_of {α β} {f : α → β} {p : β → Bool} {q : α → Bool} (h : ∀ a, p (f a) = q a) (l : List α) :
    (l.map f).takeWhile p = (l.takeWhile q).map f := by
  rw [List.takeWhile_map, show p ∘ f = q from funext h]

theorem dropWhile_map_of {α β} {f : α → β} {p : β → Bool} {q : α → Bool} (h : ∀ a, p (f a) = q a) (l : List α) :
    (l.map f).dropWhile p = (l.dropWhile q).map f := by
  rw [List.dropWhile_map, show p ∘ f = q from funext h]

/-- a dictionary built by a left fold ("the last row with key `k` wins") returns the value of some row with that key -/
theorem foldl_lastAssoc_mem {α β} [BEq α] (k : α) :
    ∀ (l : List (α × β)) (acc : Option β) (v : β),
      l.foldl (fun acc p => if p.1 == k then some p.2 else acc) acc = some v →
      acc = some v ∨ ∃ p ∈ l, (p.1 == k) = true ∧ p.2 = v
  | [], acc, v, h => Or.inl h
  | p :: t, acc, v, h => by
      simp only [List.foldl_cons] at h
      rcases foldl_lastAssoc_mem k t _ v h with h' | ⟨q, hq, hk, hv⟩
      · by_cases hp : (p.1 == k) = true
        · rw [if_pos hp] at h'
          exact Or.inr ⟨p, List.mem_cons_self, hp, Option.some.inj h'⟩
        · rw [if_neg hp] at h'; exact Or.inl h'
      · exact Or.inr ⟨q, List.mem_cons_of_mem _ hq, hk, hv⟩

theorem map_eq_self {α} {f : α → α} {l : List α} (h : ∀ a ∈ l, f a = a) : l.map f = l :=
  (List.map_congr_left h).trans (List.map_id l)

end QcelVerif
