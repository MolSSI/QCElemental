/-
ASCII strings as byte lists (`List Nat`) and as one length-tagged base-256 `Nat`
(`pack s = 1·256^|s| + Σ s_i·256^(|s|-1-i)`), because kernel evaluation of `String` is unusably
slow at table scale.  Python `str` methods used by the table code, for ASCII.  Core Lean only.
-/
namespace QcelVerif.PStr

abbrev Bytes := List Nat

def pack (l : Bytes) : Nat := l.foldl (fun a b => a * 256 + b) 1

def unpackAux : Nat → Nat → Bytes → Bytes
  | 0, _, acc => acc
  | f + 1, n, acc => if n ≤ 1 then acc else unpackAux f (n / 256) ((n % 256) :: acc)

/-- inverse of `pack` for strings of at most 96 bytes -/
def unpack (n : Nat) : Bytes := unpackAux 96 n []

def isUpper (c : Nat) : Bool := 65 ≤ c && c ≤ 90
def isLower (c : Nat) : Bool := 97 ≤ c && c ≤ 122
def isAlpha (c : Nat) : Bool := isUpper c || isLower c
def isDigit (c : Nat) : Bool := 48 ≤ c && c ≤ 57
def toLower (c : Nat) : Nat := if isUpper c then c + 32 else c
def toUpper (c : Nat) : Nat := if isLower c then c - 32 else c

def lower (s : Bytes) : Bytes := s.map toLower
def upper (s : Bytes) : Bytes := s.map toUpper

/-- `str.capitalize()` on ASCII -/
def capitalize : Bytes → Bytes
  | [] => []
  | c :: t => toUpper c :: lower t

/-- Python `str.strip()` whitespace restricted to ASCII: \t \n \v \f \r, FS GS RS US, space -/
def isSpace (c : Nat) : Bool := (9 ≤ c && c ≤ 13) || (28 ≤ c && c ≤ 32)

def strip (s : Bytes) : Bytes := ((s.dropWhile isSpace).reverse.dropWhile isSpace).reverse

def ofString (s : String) : Bytes := s.toList.map Char.toNat
def toStr (b : Bytes) : String := String.ofList (b.map Char.ofNat)

/-- decimal digits of a natural number (fuel-bounded, enough for < 10^40) -/
def natDigitsAux : Nat → Nat → Bytes → Bytes
  | 0, _, acc => acc
  | f + 1, n, acc => if n < 10 then (48 + n) :: acc else natDigitsAux f (n / 10) ((48 + n % 10) :: acc)
def natDigits (n : Nat) : Bytes := natDigitsAux 40 n []

/-- value of a string of ASCII digits (no validation) -/
def digitsVal (s : Bytes) : Nat := s.foldl (fun a c => a * 10 + (c - 48)) 0

/-- Python `int(str)` for ASCII text: surrounding whitespace, optional sign, digits with single
underscores between digits.  `none` = ValueError. -/
def pyIntBody : Bytes → Bool → Option Nat → Option Nat
  -- args: remaining, previous-was-digit, accumulated value
  | [], prevDigit, acc => if prevDigit then acc else none
  | c :: t, prevDigit, acc =>
      if isDigit c then pyIntBody t true (some (acc.getD 0 * 10 + (c - 48)))
      else if c == 95 then (if prevDigit then pyIntBody t false acc else none)
      else none

/-- optional sign: (negative?, rest) -/
def pySign : Bytes → Bool × Bytes
  | [] => (false, [])
  | c :: t => if c == 43 then (false, t) else if c == 45 then (true, t) else (false, c :: t)

def pyInt (s : Bytes) : Option Int :=
  let sb := pySign (strip s)
  match pyIntBody sb.2 false none with
  | some n => some (if sb.1 then -(n : Int) else (n : Int))
  | none => none

end QcelVerif.PStr
