/-
`List.mapM` in `Option` and `Except` succeeds with `r` exactly when `map f` is `r` wrapped; the two membership facts the property
files use are read off that equation, lengths and the like with `List.length_map` where they are needed.  Core Lean only.
-/
namespace QcelVerif

/-- core Lean has no such instance (Batteries has, but the core-only files cannot see it); the `decide` proofs and tests
about equations between `Except` values (`render … = .ok …`, `fromArrays … = .error e`) need it -/
instance instDecidableEqExcept {ε α} [DecidableEq ε] [DecidableEq α] : DecidableEq (Except ε α) := fun a b =>
  match a, b with
  | .ok x, .ok y => if h : x = y then isTrue (h ▸ rfl) else isFalse (fun e => h (Except.ok.inj e))
  | .error x, .error y => if h : x = y then isTrue (h ▸ rfl) else isFalse (fun e => h (Except.error.inj e))
  | .ok _, .error _ => isFalse (fun e => by cases e)
  | .error _, .ok _ => isFalse (fun e => by cases e)

theorem mapM_eq_some_iff {α β} (f : α → Option β) : ∀ (l : List α) (r : List β),
    l.mapM f = some r ↔ l.map f = r.map some
  | [], r => by cases r <;> simp
  | a :: l, r => by
    cases r with
    | nil => cases hf : f a <;> cases hl : l.mapM f <;> simp [List.mapM_cons, hf, hl]
    | cons b r =>
      cases hf : f a <;> cases hl : l.mapM f <;> simp [List.mapM_cons, hf, hl, ← mapM_eq_some_iff f l r]

theorem mapM_eq_ok_iff {ε α β} (f : α → Except ε β) : ∀ (l : List α) (r : List β),
    l.mapM f = .ok r ↔ l.map f = r.map .ok
  | [], r => by cases r <;> simp [pure, Except.pure]
  | a :: l, r => by
    cases r with
    | nil =>
      cases hf : f a <;> cases hl : l.mapM f <;> simp [List.mapM_cons, hf, hl, bind, Except.bind, pure, Except.pure]
    | cons b r =>
      cases hf : f a <;> cases hl : l.mapM f <;>
        simp [List.mapM_cons, hf, hl, bind, Except.bind, pure, Except.pure, ← mapM_eq_ok_iff f l r]

theorem mapM_ok_of_mem_right {ε α β} {f : α → Except ε β} {l : List α} {r : List β}
    (h : l.mapM f = .ok r) (b : β) (hb : b ∈ r) : ∃ a ∈ l, f a = .ok b := by
  have := (mapM_eq_ok_iff f l r).1 h ▸ List.mem_map_of_mem (f := Except.ok) hb
  simpa using this

theorem mapM_ok_of_mem_left {ε α β} {f : α → Except ε β} {l : List α} {r : List β}
    (h : l.mapM f = .ok r) (a : α) (ha : a ∈ l) : ∃ b ∈ r, f a = .ok b := by
  have := (mapM_eq_ok_iff f l r).1 h ▸ List.mem_map_of_mem (f := f) ha
  simpa [eq_comm] using this

theorem mapM_opt_congr {α β : Type} (f g : α → Option β) (l : List α) (h : ∀ a ∈ l, f a = g a) :
    l.mapM f = l.mapM g := by
  induction l with
  | nil => rfl
  | cons x xs ih =>
    simp only [List.mapM_cons]
    rw [h x List.mem_cons_self, ih (fun a ha => h a (List.mem_cons_of_mem _ ha))]

theorem except_ok_bind {ε α β : Type} (v : α) (g : α → Except ε β) : Except.ok v >>= g = g v := rfl

theorem except_bind_ok {ε α : Type} (x : Except ε α) : x >>= Except.ok = x := by cases x <;> rfl

end QcelVerif
