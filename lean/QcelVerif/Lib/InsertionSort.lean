import QcelVerif.Model.Hash
/-!
The insertion sort `Hash.sortBy` of `Model/Hash.lean`: it returns a permutation of its input, sorted if the
comparison is total and transitive, and for a total order THE sorted permutation.  Core Lean only.
-/
namespace QcelVerif.Hash

structure TotalOrder {α} (le : α → α → Bool) : Prop where
  total : ∀ a b, le a b = true ∨ le b a = true
  trans : ∀ a b c, le a b = true → le b c = true → le a c = true
  antisymm : ∀ a b, le a b = true → le b a = true → a = b

variable {α : Type} {le : α → α → Bool}

theorem insertBy_perm (a : α) : ∀ l : List α, (insertBy le a l).Perm (a :: l)
  | [] => by simp [insertBy]
  | x :: l => by
      simp only [insertBy]
      split
      · exact List.Perm.refl _
      · exact ((insertBy_perm a l).cons x).trans (List.Perm.swap a x l)

theorem sortBy_perm : ∀ l : List α, (sortBy le l).Perm l
  | [] => by simp [sortBy]
  | x :: l => by
      simp only [sortBy]
      exact (insertBy_perm x _).trans ((sortBy_perm l).cons x)

def Sorted (le : α → α → Bool) (l : List α) : Prop := l.Pairwise (fun a b => le a b = true)

theorem insertBy_sorted (total : ∀ a b, le a b = true ∨ le b a = true)
    (trans : ∀ a b c, le a b = true → le b c = true → le a c = true) (a : α) :
    ∀ l : List α, Sorted le l → Sorted le (insertBy le a l)
  | [], _ => by simp [insertBy, Sorted]
  | x :: l, hs => by
      unfold Sorted at hs ⊢
      simp only [insertBy]
      by_cases hax : le a x = true
      · simp only [hax, if_true]
        refine List.Pairwise.cons ?_ hs
        intro y hy
        rcases List.mem_cons.mp hy with rfl | hy
        · exact hax
        · exact trans a x y hax ((List.pairwise_cons.mp hs).1 y hy)
      · simp only [hax, if_false, Bool.false_eq_true]
        have hxa : le x a = true := (total a x).resolve_left hax
        refine List.Pairwise.cons ?_ (insertBy_sorted total trans a l (List.pairwise_cons.mp hs).2)
        intro y hy
        have := (insertBy_perm (le := le) a l).mem_iff.mp hy
        rcases List.mem_cons.mp this with rfl | hy'
        · exact hxa
        · exact (List.pairwise_cons.mp hs).1 y hy'

theorem sortBy_sorted (total : ∀ a b, le a b = true ∨ le b a = true)
    (trans : ∀ a b c, le a b = true → le b c = true → le a c = true) : ∀ l : List α, Sorted le (sortBy le l)
  | [] => by simp [sortBy, Sorted]
  | x :: l => insertBy_sorted total trans x _ (sortBy_sorted total trans l)

theorem sortBy_of_sorted : ∀ l : List α, Sorted le l → sortBy le l = l
  | [], _ => rfl
  | x :: l, hs => by
      unfold Sorted at hs
      have ih := sortBy_of_sorted l (List.pairwise_cons.mp hs).2
      simp only [sortBy, ih]
      cases l with
      | nil => rfl
      | cons y t =>
        have : le x y = true := (List.pairwise_cons.mp hs).1 y (by simp)
        simp [insertBy, this]

/-- for a total order the result depends on the multiset only: two sorted permutations of one list are equal
(core's `List.Perm.eq_of_pairwise`) -/
theorem sortBy_perm_eq (h : TotalOrder le) {l₁ l₂ : List α} (p : l₁.Perm l₂) : sortBy le l₁ = sortBy le l₂ :=
  List.Perm.eq_of_pairwise (le := fun a b => le a b = true) (fun a b _ _ => h.antisymm a b)
    (sortBy_sorted h.total h.trans l₁) (sortBy_sorted h.total h.trans l₂)
    ((sortBy_perm l₁).trans (p.trans (sortBy_perm l₂).symm))

end QcelVerif.Hash
