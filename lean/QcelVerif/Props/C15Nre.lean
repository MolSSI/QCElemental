import QcelVerif.Model.Fragments
import Mathlib.Algebra.Field.Basic
import Mathlib.Algebra.BigOperators.Group.List.Basic
import Mathlib.Tactic.Ring
/-!
# C15 (nuclear repulsion part)

`nre dist atoms` is the pair sum of `Model/Fragments.lean` over an arbitrary field `K` and an
arbitrary distance function `dist` (the code: `np.linalg.norm` of the coordinate difference).
An atom is `(Zeff, position)` with `Zeff = Z * real`, so a ghost atom has `Zeff = 0`.
-/
namespace QcelVerif.Fragments
variable {K : Type} [Field K]

theorem ksum_eq_sum (l : List K) : ksum l = l.sum := by
  induction l with
  | nil => rfl
  | cons x t ih => simp [ksum, ih]

theorem ksum_perm {l₁ l₂ : List K} (h : l₁.Perm l₂) : ksum l₁ = ksum l₂ := by
  rw [ksum_eq_sum, ksum_eq_sum, h.sum_eq]

/-- the pair sum does not depend on the order of the atoms (symmetric pair function) -/
theorem pairSum_perm {β} (f : β → β → K) (hf : ∀ a b, f a b = f b a) {l₁ l₂ : List β}
    (h : l₁.Perm l₂) : pairSum f l₁ = pairSum f l₂ := by
  induction h with
  | nil => rfl
  | cons a p ih =>
    simp only [pairSum, ih]
    rw [ksum_perm (p.map _)]
  | swap a b l =>
    simp only [pairSum, List.map_cons, ksum]
    rw [hf a b]; ring
  | trans _ _ ih1 ih2 => exact ih1.trans ih2

theorem nreTerm_symm {γ} (dist : γ → γ → K) (hd : ∀ x y, dist x y = dist y x) (a b : Int × γ) :
    nreTerm dist a b = nreTerm dist b a := by
  simp only [nreTerm, hd a.2 b.2, Int.mul_comm a.1 b.1]

/-- **Atom reordering.** The nuclear repulsion energy is the same for any reordering of the atoms. -/
theorem nre_perm_invariant {γ} (dist : γ → γ → K) (hd : ∀ x y, dist x y = dist y x)
    {atoms atoms' : List (Int × γ)} (h : atoms.Perm atoms') : nre dist atoms = nre dist atoms' :=
  pairSum_perm _ (nreTerm_symm dist hd) h

theorem pairSum_map {β β'} (g : β → β') (f : β → β → K) (f' : β' → β' → K)
    (h : ∀ a b, f' (g a) (g b) = f a b) : ∀ l : List β, pairSum f' (l.map g) = pairSum f l
  | [] => rfl
  | a :: t => by
      simp only [List.map_cons, pairSum, pairSum_map g f f' h t, List.map_map, Function.comp_def, h]

/-- **Rigid motion.** Moving all positions by a map `g` that preserves the pair distances
(rotation, reflection, translation) does not change the nuclear repulsion energy. -/
theorem nre_rigid_invariant {γ γ'} (dist : γ → γ → K) (dist' : γ' → γ' → K) (g : γ → γ')
    (hg : ∀ x y, dist' (g x) (g y) = dist x y) (atoms : List (Int × γ)) :
    nre dist' (atoms.map (fun a => (a.1, g a.2))) = nre dist atoms := by
  unfold nre
  apply pairSum_map
  intro a b
  simp [nreTerm, hg]

theorem nreTerm_zero_left {γ} (dist : γ → γ → K) (a b : Int × γ) (h : a.1 = 0) :
    nreTerm dist a b = 0 := by simp [nreTerm, h]

theorem nreTerm_zero_right {γ} (dist : γ → γ → K) (a b : Int × γ) (h : b.1 = 0) :
    nreTerm dist a b = 0 := by simp [nreTerm, h]

theorem ksum_filter_zero {β} (q : β → Bool) (f : β → K) : ∀ l : List β, (∀ b ∈ l, q b = false → f b = 0) →
    ksum ((l.filter q).map f) = ksum (l.map f)
  | [], _ => rfl
  | b :: t, h => by
      have ih := ksum_filter_zero q f t (fun x hx => h x (List.mem_cons_of_mem b hx))
      cases hq : q b with
      | true => simp [List.filter, hq, ksum, ih]
      | false => simp [List.filter, hq, ksum, ih, h b List.mem_cons_self hq]

theorem ksum_zero {β} (f : β → K) (h : ∀ b, f b = 0) : ∀ l : List β, ksum (l.map f) = 0
  | [] => rfl
  | b :: t => by simp [ksum, h b, ksum_zero f h t]

/-- elements all of whose pair terms vanish can be left out of the pair sum -/
theorem pairSum_filter {β} (f : β → β → K) (q : β → Bool) : ∀ l : List β,
    (∀ a ∈ l, q a = false → ∀ b, f a b = 0 ∧ f b a = 0) → pairSum f (l.filter q) = pairSum f l
  | [], _ => rfl
  | a :: t, h => by
      have ih := pairSum_filter f q t (fun x hx => h x (List.mem_cons_of_mem a hx))
      have hk := ksum_filter_zero q (fun b => f b a) t (fun b hb hq => (h b (List.mem_cons_of_mem a hb) hq a).1)
      cases hq : q a with
      | true => simp only [List.filter_cons, hq, reduceIte, pairSum, ih, hk]
      | false =>
        simp [hq, pairSum, ih, ksum_zero _ (fun b => (h a List.mem_cons_self hq b).2)]

/-- removing atoms whose effective charge is zero does not change the pair sum -/
theorem nre_filter_of_zero {γ} (dist : γ → γ → K) (q : Int × γ → Bool) (atoms : List (Int × γ))
    (hq : ∀ a ∈ atoms, q a = false → a.1 = 0) :
    nre dist atoms = nre dist (atoms.filter q) :=
  (pairSum_filter _ q atoms (fun a ha h b =>
    ⟨nreTerm_zero_left dist a b (hq a ha h), nreTerm_zero_right dist b a (hq a ha h)⟩)).symm

/-- **Real nuclei only.** Ghost atoms (`Zeff = 0`) contribute nothing: the energy equals the
energy of the list with the ghost atoms removed. -/
theorem nre_real_only {γ} (dist : γ → γ → K) : ∀ atoms : List (Int × γ),
    nre dist atoms = nre dist (atoms.filter (fun a => a.1 != 0)) := fun atoms =>
  nre_filter_of_zero dist _ atoms (fun a _ ha => by simpa using ha)

/-- non-vacuity / test: a nucleus Z=2, a ghost, a nucleus Z=1 with pair "distance" (x-y)² -/
example : nre (K := ℚ) (fun (x y : ℚ) => (x - y) * (x - y))
    [((2 : Int), (0 : ℚ)), (0, 1), (1, 2)] = 1 / 2 := by
  norm_num [nre, pairSum, ksum, nreTerm]

end QcelVerif.Fragments
