import QcelVerif.Lemmas.UnitNamesChk
/-! C03 text level: every listed spelling of these table units resolves to its unit over the regenerated registry names, or is one of
the eight collisions of `collisionTable` (kernel evaluation, one table unit per lemma).  `spellingsOf_all` in `Props/C03Text.lean`
assembles these per-unit checks. -/
namespace QcelVerif.Units.Text

theorem sp_au_hyper1 : (spellingsOf (.au .hyper1)).all chk = true := by decide +kernel
theorem sp_au_hyper2 : (spellingsOf (.au .hyper2)).all chk = true := by decide +kernel
theorem sp_au_action : (spellingsOf (.au .action)).all chk = true := by decide +kernel
theorem sp_au_chargeDensity : (spellingsOf (.au .chargeDensity)).all chk = true := by decide +kernel
theorem sp_au_current : (spellingsOf (.au .current)).all chk = true := by decide +kernel
theorem sp_au_dipole : (spellingsOf (.au .dipole)).all chk = true := by decide +kernel
theorem sp_au_efield : (spellingsOf (.au .efield)).all chk = true := by decide +kernel
theorem sp_au_efg : (spellingsOf (.au .efg)).all chk = true := by decide +kernel
theorem sp_au_polarizability : (spellingsOf (.au .polarizability)).all chk = true := by decide +kernel
theorem sp_au_potential : (spellingsOf (.au .potential)).all chk = true := by decide +kernel

end QcelVerif.Units.Text
