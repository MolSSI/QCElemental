import QcelVerif.Props.C10
/-!
# C10 — msgpack-ext byte-stream round trip over whole payload trees

For every value tree `v` that msgpack can hold, `mpDecode (mpEnc v) = .ok v` — the decoder (object hook included) reads
back exactly the tree that was written, ndarray leaves come back as ndarray leaves with the same dtype, shape and bytes —
and re-serialising what was read gives the identical payload. No bound on depth, width or sizes other than the limits of
the wire format itself; the `_nd_` side condition on user maps is necessary, not only sufficient (`hook_keeps_map_iff`).
-/
namespace QcelVerif.Ser

/-! ## the side conditions -/

/-- decidable form of `ndWF`: rank ≥ 1, known non-zero itemsize, `len(data) = itemsize · ∏ shape` -/
def ndOK (dt : Bytes) (shape : List Nat) (data : Bytes) : Bool :=
  decide (1 ≤ shape.length) &&
    match itemsize dt with
    | some isz => decide (0 < isz) && decide (data.length = isz * prodL shape)
    | none => false

theorem ndOK_iff (dt : Bytes) (shape : List Nat) (data : Bytes) :
    ndOK dt shape data = true ↔ ndWF dt shape data := by
  unfold ndOK ndWF
  cases h : itemsize dt with
  | none => simp
  | some isz => simp

mutual
  /-- `wf v`: what the wire format can hold and the reader maps back to the same tree.
  * ints in −2^63 … 2^64−1 (msgpack's int64 ∪ uint64; anything else makes `msgpack.dumps` raise OverflowError)
  * float payloads exactly 8 bytes
  * str / bin / array / map lengths < 2^32 (the widest length field)
  * a user map has no `bytes` key `b"_nd_"` (the hook treats every such map as an array envelope)
  * ndarray leaves: rank ≥ 1 and `len(data) = itemsize · ∏ shape` (`ndWF`), dtype string / data / rank < 2^32, each
    extent < 2^64 -/
  def wf : Val → Bool
    | .nil => true
    | .bool _ => true
    | .int i => decide (-9223372036854775808 ≤ i) && decide (i < 18446744073709551616)
    | .f64 b => decide (b.length = 8)
    | .str s => decide (s.length < 4294967296)
    | .bin b => decide (b.length < 4294967296)
    | .arr l => decide (l.length < 4294967296) && wfL l
    | .map l => decide (l.length < 4294967296) && (lookupBin "_nd_" l).isNone && wfP l
    | .nd dt shape data =>
        ndOK dt shape data && decide (dt.length < 4294967296) && decide (data.length < 4294967296)
          && decide (shape.length < 4294967296) && shape.all (fun n => decide (n < 18446744073709551616))
  def wfL : List Val → Bool
    | [] => true
    | v :: t => wf v && wfL t
  def wfP : List (Val × Val) → Bool
    | [] => true
    | (k, v) :: t => wf k && wf v && wfP t
end

/-- the hypothesis of the round-trip theorems: `v` is a tree the wire format can hold (`wf`) -/
def WellFormed (v : Val) : Prop := wf v = true

instance : DecidablePred WellFormed := fun v => inferInstanceAs (Decidable (wf v = true))

/-- what `WellFormed` says of an ndarray leaf, in terms of the model's `ndWF` -/
theorem wellFormed_nd_iff (dt : Bytes) (shape : List Nat) (data : Bytes) :
    WellFormed (.nd dt shape data) ↔
      ndWF dt shape data ∧ dt.length < 4294967296 ∧ data.length < 4294967296 ∧ shape.length < 4294967296 ∧
        ∀ n ∈ shape, n < 18446744073709551616 := by
  unfold WellFormed
  rw [wf]
  simp only [Bool.and_eq_true, ndOK_iff, decide_eq_true_eq, List.all_eq_true, and_assoc]

/-- the hook leaves a decoded map alone exactly when it has no `b"_nd_"` key: the side condition on user maps is
necessary as well as sufficient -/
theorem hook_keeps_map_iff (l : List (Val × Val)) : mpHook l = .ok (.map l) ↔ lookupBin "_nd_" l = none := by
  constructor
  · intro h
    cases hk : lookupBin "_nd_" l with
    | none => rfl
    | some x =>
      exfalso
      unfold mpHook at h
      rw [hk] at h
      simp only [] at h
      repeat' split at h
      all_goals first | exact absurd h (by simp) | skip
  · intro h
    unfold mpHook
    rw [h]

/-! ## decode one value from a prefix of the stream -/

theorem wfL_mem : ∀ {l : List Val} {x : Val}, wfL l = true → x ∈ l → wf x = true ∧ (mpEnc x).length ≤ (mpEncL l).length
  | v :: t, x, h, hx => by
    rw [wfL, Bool.and_eq_true] at h
    rw [mpEncL, List.length_append]
    rcases List.mem_cons.mp hx with rfl | hx
    · exact ⟨h.1, Nat.le_add_right ..⟩
    · have := wfL_mem h.2 hx
      exact ⟨this.1, by omega⟩

theorem wfP_mem : ∀ {l : List (Val × Val)} {p : Val × Val}, wfP l = true → p ∈ l →
    wf p.1 = true ∧ wf p.2 = true ∧ (mpEnc p.1).length + (mpEnc p.2).length ≤ (mpEncP l).length
  | (k, v) :: t, p, h, hp => by
    rw [wfP, Bool.and_eq_true, Bool.and_eq_true] at h
    rw [mpEncP, List.length_append, List.length_append]
    rcases List.mem_cons.mp hp with rfl | hp
    · exact ⟨h.1.1, h.1.2, Nat.le_add_right ..⟩
    · have := wfP_mem h.2 hp
      exact ⟨this.1, this.2.1, by omega⟩

theorem wfL_shape : ∀ shape : List Nat, (∀ n ∈ shape, n < 18446744073709551616) →
    wfL (shape.map fun (n : Nat) => Val.int (n : Int)) = true
  | [], _ => rfl
  | n :: t, h => by
    have := h n (List.mem_cons_self ..)
    rw [List.map_cons, wfL, wf, wfL_shape t fun x hx => h x (List.mem_cons_of_mem _ hx)]
    simp only [Bool.and_eq_true, decide_eq_true_eq, and_true]
    omega

theorem wfP_ndList {dt data : Bytes} {shape : List Nat} (hdt : dt.length < 4294967296) (hdata : data.length < 4294967296)
    (hrank : shape.length < 4294967296) (hdims : ∀ n ∈ shape, n < 18446744073709551616) :
    wfP (ndList dt shape data) = true := by
  have hs := wfL_shape shape hdims
  unfold ndList
  split <;> simp [wfP, wf, hdt, hdata, hrank, hs, len_key_nd, len_key_dtype, len_key_data, len_key_shape]

theorem mpEnc_length_pos : ∀ v : Val, 1 ≤ (mpEnc v).length
  | .nil | .bool false | .bool true => by rw [mpEnc]; exact Nat.le_refl 1
  | .int i => by rw [mpEnc]; exact mpInt_length_pos i
  | .f64 b => by rw [mpEnc]; exact Nat.succ_le_succ (Nat.zero_le _)
  | .str s => by rw [mpEnc, List.length_append]; exact Nat.le_trans (mpStrHead_length_pos _) (Nat.le_add_right ..)
  | .bin b => by rw [mpEnc, List.length_append]; exact Nat.le_trans (mpBinHead_length_pos _) (Nat.le_add_right ..)
  | .arr l => by rw [mpEnc, List.length_append]; exact Nat.le_trans (mpArrHead_length_pos _) (Nat.le_add_right ..)
  | .map l => by rw [mpEnc, List.length_append]; exact Nat.le_trans (mpMapHead_length_pos _) (Nat.le_add_right ..)
  | .nd dt shape data => by
    rw [mpEnc_nd_eq, List.length_append]; exact Nat.le_trans (mpMapHead_length_pos _) (Nat.le_add_right ..)

theorem dec_map {f : Nat} {l : List (Val × Val)} {v : Val} (hl : wfP l = true) (hlen : l.length < 4294967296)
    (hk : mpHook l = .ok v) (hf : (mpMapHead l.length ++ mpEncP l).length ≤ f + 1)
    (ih : ∀ x, wf x = true → (mpEnc x).length ≤ f → ∀ r, mpDec f (mpEnc x ++ r) = .ok (x, r)) (rest : Bytes) :
    mpDec (f + 1) (mpMapHead l.length ++ mpEncP l ++ rest) = .ok (v, rest) := by
  rw [List.length_append] at hf
  have hp := mpMapHead_length_pos l.length
  rw [List.append_assoc, dec_mapHead f _ _ hlen]
  refine mapOf_ok (decP_all l rest fun p hp r => ?_) hk
  obtain ⟨h1, h2, h3⟩ := wfP_mem hl hp
  exact ⟨ih _ h1 (by omega) r, ih _ h2 (by omega) r⟩

/-- the round trip of one value, by induction on the fuel (which is what the decoder recurses on): an element of an
array or map is shorter than the whole, so it decodes with one unit less; an ndarray leaf is its envelope, a map -/
theorem dec_enc : ∀ (fuel : Nat) (v : Val), wf v = true → (mpEnc v).length ≤ fuel → ∀ rest : Bytes,
    mpDec fuel (mpEnc v ++ rest) = .ok (v, rest)
  | 0, v, _, hf, _ => absurd (mpEnc_length_pos v) (by omega)
  | f + 1, .nil, _, _, rest => by rw [mpEnc]; exact dec_nil f rest
  | f + 1, .bool false, _, _, rest => by rw [mpEnc]; exact dec_false f rest
  | f + 1, .bool true, _, _, rest => by rw [mpEnc]; exact dec_true f rest
  | f + 1, .int i, h, _, rest => by
    have ⟨h1, h2⟩ : -9223372036854775808 ≤ i ∧ i < 18446744073709551616 := by rw [wf] at h; simpa using h
    rw [mpEnc]; exact dec_int f i rest h1 h2
  | f + 1, .f64 b, h, _, rest => by
    have hb : b.length = 8 := by rw [wf] at h; simpa using h
    rw [mpEnc, List.cons_append]; exact dec_f64 f b rest hb
  | f + 1, .str s, h, _, rest => by
    have hs : s.length < 4294967296 := by rw [wf] at h; simpa using h
    rw [mpEnc, List.append_assoc]; exact dec_str f _ s rest rfl hs
  | f + 1, .bin b, h, _, rest => by
    have hb : b.length < 4294967296 := by rw [wf] at h; simpa using h
    rw [mpEnc, List.append_assoc]; exact dec_bin f _ b rest rfl hb
  | f + 1, .arr l, h, hf, rest => by
    have ⟨hlen, hl⟩ : l.length < 4294967296 ∧ wfL l = true := by rw [wf] at h; simpa using h
    rw [mpEnc, List.length_append] at hf
    have hp := mpArrHead_length_pos l.length
    rw [mpEnc, List.append_assoc, dec_arrHead f _ _ hlen]
    refine arrOf_ok (decL_all l rest fun x hx r => ?_)
    obtain ⟨h1, h2⟩ := wfL_mem hl hx
    exact dec_enc f x h1 (by omega) r
  | f + 1, .map l, h, hf, rest => by
    have ⟨⟨hlen, hk⟩, hl⟩ : (l.length < 4294967296 ∧ lookupBin "_nd_" l = none) ∧ wfP l = true := by
      rw [wf] at h; simpa using h
    rw [mpEnc] at hf ⊢
    exact dec_map hl hlen ((hook_keeps_map_iff l).2 hk) hf (dec_enc f) rest
  | f + 1, .nd dt shape data, h, hf, rest => by
    obtain ⟨hwf, hdt, hdata, hrank, hdims⟩ := (wellFormed_nd_iff dt shape data).1 h
    rw [mpEnc_nd_eq] at hf ⊢
    exact dec_map (wfP_ndList hdt hdata hrank hdims) (ndList_length_lt dt shape data)
      (ext_envelope_roundtrip_msgpack dt data shape hwf _ (ndEnvelope_eq dt shape data)) hf (dec_enc f) rest

theorem dec_encL : ∀ (l : List Val), wfL l = true → ∀ (fuel : Nat) (rest : Bytes), (mpEncL l).length ≤ fuel →
      mpDecL fuel l.length (mpEncL l ++ rest) = .ok (l, rest) :=
  fun l h fuel rest hf =>
    decL_all l rest fun x hx r => dec_enc fuel x (wfL_mem h hx).1 (Nat.le_trans (wfL_mem h hx).2 hf) r

theorem dec_encP : ∀ (l : List (Val × Val)), wfP l = true → ∀ (fuel : Nat) (rest : Bytes),
      (mpEncP l).length ≤ fuel → mpDecP fuel l.length (mpEncP l ++ rest) = .ok (l, rest) :=
  fun l h fuel rest hf =>
    decP_all l rest fun p hp r =>
      have ⟨h1, h2, h3⟩ := wfP_mem h hp
      ⟨dec_enc fuel _ h1 (by omega) r, dec_enc fuel _ h2 (by omega) r⟩

/-- **decode one value from a prefix**: on the bytes of a well-formed tree followed by anything, one decoding step with
at least `len(bytes)` fuel returns exactly that tree and exactly the rest of the stream -/
theorem mpDec_mpEnc_prefix (v : Val) (h : WellFormed v) (fuel : Nat) (rest : Bytes)
    (hf : (mpEnc v).length ≤ fuel) : mpDec fuel (mpEnc v ++ rest) = .ok (v, rest) :=
  dec_enc fuel v h hf rest

/-- **msgpack-ext round trip over whole trees**: `msgpack.loads(msgpack.dumps(v, default=msgpackext_encode),
object_hook=msgpackext_decode)` is `v` — scalars, strings, bytes, lists and dicts nested at any depth come back
unchanged and every ndarray leaf comes back as an ndarray with the same dtype, shape and bytes. The fuel `mpDecode`
derives from the input length (`len + 1`) suffices, and no trailing bytes are left. -/
theorem msgpack_roundtrip : ∀ v : Val, WellFormed v → mpDecode (mpEnc v) = .ok v := by
  intro v h
  have hd := dec_enc ((mpEnc v).length + 1) v h (by omega) []
  rw [List.append_nil] at hd
  unfold mpDecode
  rw [hd]

/-- **identical re-serialisation**: `msgpackext_dumps` of what `msgpackext_loads` read back is byte-for-byte the payload
that was read -/
theorem reserialise_identical (v v' : Val) (h : WellFormed v) (hd : mpDecode (mpEnc v) = .ok v') :
    mpEnc v' = mpEnc v := by
  rw [msgpack_roundtrip v h] at hd
  cases hd
  rfl

/-! ## non-vacuity of `msgpack_roundtrip` / `reserialise_identical`, and tests -/

/-- a payload shaped like a model dump: a (2,3) float64 geometry, a list mixing int16 / uint32 / float / nil / bool
scalars, and a dict under a `bytes` key holding an int-keyed empty bool array two levels down -/
def exampleTree : Val :=
  .map [(.str (asciiBytes "geometry"), .nd (asciiBytes "<f8") [2, 3] (List.replicate 48 0x11)),
        (.str (asciiBytes "n"),
          .arr [.int (-129), .int 70000, .f64 [0x40, 0x09, 0x21, 0xfb, 0x54, 0x44, 0x2d, 0x18], .nil, .bool true]),
        (.bin [1, 2, 3], .map [(.int 5, .nd (asciiBytes "|b1") [0] [])])]

/-- non-vacuity: the hypotheses of `msgpack_roundtrip` hold of a nested tree with two ndarray leaves … -/
example : WellFormed exampleTree := by decide

/-- … so it round-trips through the byte stream and re-serialises identically -/
example : mpDecode (mpEnc exampleTree) = .ok exampleTree := msgpack_roundtrip _ (by decide)
example (v' : Val) (hd : mpDecode (mpEnc exampleTree) = .ok v') : mpEnc v' = mpEnc exampleTree :=
  reserialise_identical _ _ (by decide) hd

/-- non-vacuity at the width boundaries: the extreme ints, and a rank-1 array (no `shape` key in its envelope) -/
example : WellFormed (.arr [.int (-9223372036854775808), .int 18446744073709551615,
    .nd (asciiBytes ">i4") [2] [0, 0, 0, 1, 0, 0, 0, 2]]) := by decide

/-- the side conditions bite: one past either end of the integer range, a 7-byte float payload, a user dict with a
`b"_nd_"` key, a rank-0 array and an array whose buffer does not match its shape are all outside `WellFormed` -/
example : ¬ WellFormed (.int 18446744073709551616) := by decide
example : ¬ WellFormed (.int (-9223372036854775809)) := by decide
example : ¬ WellFormed (.f64 [0, 0, 0, 0, 0, 0, 0]) := by decide
example : ¬ WellFormed (.map [(.bin (asciiBytes "_nd_"), .nil)]) := by decide
example : ¬ WellFormed (.nd (asciiBytes "<f8") [] [0, 0, 0, 0, 0, 0, 0, 0]) := by decide
example : ¬ WellFormed (.nd (asciiBytes "<f8") [2] [0, 0, 0, 0, 0, 0, 0, 0]) := by decide

/-- TEST (concrete): the bytes of a small tree — fixarray(2), int16 −129, fixstr "a" -/
example : mpEnc (.arr [.int (-129), .str [0x61]]) = [0x92, 0xd1, 0xff, 0x7f, 0xa1, 0x61] := by decide

end QcelVerif.Ser
