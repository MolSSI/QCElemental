import QcelVerif.Lemmas.Hash
import QcelVerif.Props.C11Preimage
/-!
# C11 — the molecular hash is a canonical identity for the molecule: property theorems

Model: `Model/Hash.lean` (`canon` = the data `get_hash` serialises after `float_prep`, `preimage` =
the concatenated `json.dumps`, `hash = sha1 ∘ preimage`, `prepBonds` = the stored connectivity).
All theorems hold for molecules of any size.  Parameters and what is assumed of them:
  * `P.fl`    — rounding of `x * 10**k` to a double inside `np.around`; `FlOk`: within 1/256 for `|y| ≤ 2^45`;
  * `P.reprF`, `P.reprB` — CPython `repr(float)`; `Params.Ok`: injective, non-empty, no `,` `[` `]`;
  * `P.sha1`  — SHA-1; injectivity on preimages is an explicit hypothesis where the "only if" needs it;
  * `P.massOf` — `periodictable.to_mass` (C01), arbitrary.

`Params.Ok`, `Canon.Valid`, `Rd.ofInt` and `preimage_injective` (the "only if" direction) are in
`Props/C11Preimage.lean`; `FlOk` is in `Lemmas/Hash.lean`, the facts about the sort in `Lib/InsertionSort.lean`.
-/
namespace QcelVerif.Hash

/-! ## 1. equal canonical data, equal hash — and what canonical data ignores -/

theorem hash_of_canon {D} (P : Params D) (a b : Mol) (h : canon P a = canon P b) : hash P a = hash P b := by
  unfold hash; rw [h]

/-- `==` is hash equality (molecule.py:591). -/
theorem molEq_iff {D} [DecidableEq D] (P : Params D) (a b : Mol) : molEq P a b = true ↔ hash P a = hash P b := by
  simp [molEq]

/-- Fields outside `hash_fields` never matter. -/
theorem hash_indep_nonhash {D} (P : Params D) (m : Mol) (o : Other) : hash P { m with other := o } = hash P m := rfl

/-- `canon` reads the molecule through these ten accessors only -/
theorem canon_congr {D} (P : Params D) (a b : Mol)
    (h1 : a.symbols = b.symbols) (h2 : a.massesR P.massOf = b.massesR P.massOf) (h3 : a.charge = b.charge)
    (h4 : a.mult = b.mult) (h5 : a.realR = b.realR)
    (h6 : a.geometry.map (prepArr P.fl GEOMETRY_NOISE) = b.geometry.map (prepArr P.fl GEOMETRY_NOISE))
    (h7 : a.fragmentsR = b.fragmentsR) (h8 : a.fragChargesR = b.fragChargesR) (h9 : a.fragMultsR = b.fragMultsR)
    (h10 : a.connectivity = b.connectivity) : canon P a = canon P b := by
  unfold canon
  rw [h1, h2, h3, h4, h5, h6, h7, h8, h9, h10]

/-! ### `float_prep` depends on the rounded integer only -/

/-- the zero-band step of `prepArr` (molecule.py:69) on its own: a rounded value inside the band becomes `+0.0` -/
def flipBand (k : Nat) (r : Rd) : Rd := if zeroBand k r then ⟨false, 0⟩ else r

/-- the scaled value is below `2^45` rounding units (geometry: `|x| < 3.5e5` bohr) -/
def Bdd (k : Nat) (x : Dbl) : Prop := |x.toRat * (10 : Rat) ^ k| ≤ 2 ^ 45

theorem zeroBand_zero (k : Nat) (b : Bool) : zeroBand k ⟨b, 0⟩ = true := by
  simp [zeroBand]

theorem bdd_val {k : Nat} {q : Rat} : Bdd k (.val q) ↔ |q * (10 : Rat) ^ k| ≤ 2 ^ 45 := Iff.rfl

theorem roundTo_near {fl : Rat → Rat} (hfl : FlOk fl) (k : Nat) (q : Rat) (n : Int) (hb : Bdd k (.val q))
    (h : |q * (10 : Rat) ^ k - n| < 1/2 - 1/256) : roundTo fl k (.val q) = n :=
  rint_fl_near hfl _ n hb h

theorem Dbl.isNeg_eq {x : Dbl} (h : x.toRat ≠ 0) : x.isNeg = decide (x.toRat < 0) := by
  cases x with
  | negZero => exact absurd rfl h
  | val q => rfl

theorem around_eq {fl : Rat → Rat} {k : Nat} {x : Dbl} (hn : roundTo fl k x ≠ 0)
    (e : |(roundTo fl k x : Rat) - x.toRat * (10 : Rat) ^ k| ≤ 1/2 + 1/256) :
    around fl k x = Rd.ofInt (roundTo fl k x) := by
  unfold around
  generalize roundTo fl k x = n at hn e ⊢
  suffices x.isNeg = decide (n < 0) by rw [this]; rfl
  have hp : (0 : Rat) < (10 : Rat) ^ k := by positivity
  replace e := abs_le.mp e
  -- an integer other than 0 is at least 1 in absolute value, so `x·10^k`, within `1/2 + 1/256` of it, has its sign
  rcases lt_or_gt_of_ne hn with h | h
  · have h1 : (n : Rat) ≤ -1 := by exact_mod_cast Int.le_sub_one_of_lt h
    have hx : x.toRat < 0 := by
      by_contra hx
      have := mul_nonneg (not_lt.mp hx) hp.le
      linarith
    rw [Dbl.isNeg_eq hx.ne, decide_eq_true hx, decide_eq_true h]
  · have h1 : (1 : Rat) ≤ n := by exact_mod_cast Int.add_one_le_of_lt h
    have hx : 0 < x.toRat := by
      by_contra hx
      have := mul_nonpos_of_nonpos_of_nonneg (not_lt.mp hx) hp.le
      linarith
    rw [Dbl.isNeg_eq hx.ne', decide_eq_false (not_lt.mpr hx.le), decide_eq_false (not_lt.mpr h.le)]

/-- array branch: `float_prep(x)` is the zero-flip of the rounded integer -/
theorem prepArr_eq {fl : Rat → Rat} (hfl : FlOk fl) (k : Nat) (x : Dbl) (hx : Bdd k x) :
    prepArr fl k x = flipBand k (Rd.ofInt (roundTo fl k x)) := by
  unfold prepArr flipBand
  by_cases hn : roundTo fl k x = 0
  · simp [around, hn, Rd.ofInt, zeroBand_zero]
  · rw [around_eq hn (rint_fl_err hfl _ hx)]

/-- scalar branch: `float_prep(x)` is the rounded integer (no band) -/
theorem prepScalar_eq (k : Nat) (x : Dbl) : prepScalar k x = Rd.ofInt (roundTo id k x) := by
  unfold prepScalar
  by_cases hn : roundTo id k x = 0
  · simp [around, hn, Rd.ofInt]
  · rw [around_eq hn ((rint_err (x.toRat * (10 : Rat) ^ k)).trans (by norm_num))]
    exact if_neg (show ¬ (roundTo id k x).natAbs = 0 by omega)

theorem Rd.ofInt_injective : Function.Injective Rd.ofInt := by
  intro a b h
  simp only [Rd.ofInt, Rd.mk.injEq, decide_eq_decide] at h
  omega

/-! ### sign of zero, sub-rounding magnitudes -/

def Dbl.posZero : Dbl → Dbl
  | .negZero => .val 0
  | x => x

theorem roundTo_posZero (fl : Rat → Rat) (k : Nat) (x : Dbl) : roundTo fl k x.posZero = roundTo fl k x := by
  cases x <;> simp [Dbl.posZero, roundTo, Dbl.toRat]

theorem bdd_posZero (k : Nat) (x : Dbl) : Bdd k x.posZero ↔ Bdd k x := by
  cases x <;> simp [Dbl.posZero, Bdd, Dbl.toRat]

/-- every float of the molecule with `-0.0` replaced by `+0.0` -/
def Mol.posZeros (m : Mol) : Mol :=
  { m with
    masses := m.masses.map (·.map Dbl.posZero)
    charge := m.charge.posZero
    geometry := m.geometry.map Dbl.posZero
    fragCharges := m.fragCharges.map (·.map Dbl.posZero) }

/-- all array entries the hash rounds are below `2^45` rounding units -/
structure Mol.Bounded {D} (P : Params D) (m : Mol) : Prop where
  masses : ∀ x ∈ m.massesR P.massOf, Bdd MASS_NOISE x
  geometry : ∀ x ∈ m.geometry, Bdd GEOMETRY_NOISE x
  fragCharges : ∀ x ∈ m.fragChargesR, Bdd CHARGE_NOISE x

theorem map_prepArr_posZero {fl : Rat → Rat} (hfl : FlOk fl) (k : Nat) (l : List Dbl) (hl : ∀ x ∈ l, Bdd k x) :
    (l.map Dbl.posZero).map (prepArr fl k) = l.map (prepArr fl k) := by
  rw [List.map_map]
  apply List.map_congr_left
  intro x hx
  simp only [Function.comp]
  rw [prepArr_eq hfl k _ ((bdd_posZero k x).mpr (hl x hx)), prepArr_eq hfl k x (hl x hx), roundTo_posZero]

/-- **The hash does not depend on the sign of zero** (geometry, masses, charge, fragment charges). -/
theorem hash_sign_of_zero {D} (P : Params D) (hfl : FlOk P.fl) (m : Mol) (hm : m.Bounded P) :
    hash P m.posZeros = hash P m := by
  apply hash_of_canon
  have hc : prepScalar CHARGE_NOISE m.charge.posZero = prepScalar CHARGE_NOISE m.charge := by
    rw [prepScalar_eq, prepScalar_eq, roundTo_posZero]
  have hmass : (m.posZeros.massesR P.massOf).map (prepArr P.fl MASS_NOISE) = (m.massesR P.massOf).map (prepArr P.fl MASS_NOISE) := by
    have hb := hm.masses
    unfold Mol.massesR Mol.posZeros at *
    cases hmm : m.masses with
    | none => simp
    | some l =>
      simp only [hmm, Option.map_some] at hb ⊢
      exact map_prepArr_posZero hfl _ l hb
  have hfc : (m.posZeros.fragChargesR).map (prepArr P.fl CHARGE_NOISE) = m.fragChargesR.map (prepArr P.fl CHARGE_NOISE) := by
    have hb := hm.fragCharges
    unfold Mol.fragChargesR Mol.posZeros at *
    cases hmm : m.fragCharges with
    | none =>
      simp only [hmm, Option.map_none] at hb ⊢
      exact map_prepArr_posZero hfl _ [m.charge] hb
    | some l =>
      simp only [hmm, Option.map_some] at hb ⊢
      exact map_prepArr_posZero hfl _ l hb
  have hg := map_prepArr_posZero hfl GEOMETRY_NOISE m.geometry hm.geometry
  unfold canon
  simp only [Canon.mk.injEq]
  refine ⟨rfl, hmass, hc, rfl, rfl, hg, rfl, hfc, rfl, rfl⟩

/-- An array entry of sub-rounding magnitude (`|x|·10^k < 1/2 − 1/256`; geometry: `|x| < 4.96e-9`) is hashed
as `+0.0`, whatever its sign. -/
theorem prepArr_small_zero {fl : Rat → Rat} (hfl : FlOk fl) (k : Nat) (q : Rat)
    (h : |q * (10 : Rat) ^ k| < 1/2 - 1/256) : prepArr fl k (.val q) = ⟨false, 0⟩ := by
  have hb : Bdd k (.val q) := bdd_val.mpr (h.le.trans (by norm_num))
  rw [prepArr_eq hfl k _ hb, roundTo_near hfl k q 0 hb (by simpa using h)]
  simp [flipBand, Rd.ofInt, zeroBand_zero]

/-! ### sub-rounding noise away from a rounding boundary -/

/-- `x·10^k` is within 0.48 of the integer `n` (not near a rounding boundary), the noise `d` is at most
1/100 of a unit (geometry: `|d| ≤ 1e-10`): `x + d` and `x` round to the same `n`. -/
theorem round_stable {fl : Rat → Rat} (hfl : FlOk fl) (k : Nat) (x d : Rat) (n : Int)
    (hb : |x * (10 : Rat) ^ k| ≤ 2 ^ 45 - 1)
    (hn : |x * (10 : Rat) ^ k - n| ≤ 48 / 100) (hd : |d| * (10 : Rat) ^ k ≤ 1 / 100) :
    roundTo fl k (.val (x + d)) = n ∧ roundTo fl k (.val x) = n ∧
      prepArr fl k (.val (x + d)) = prepArr fl k (.val x) := by
  have hp : (0 : Rat) < (10 : Rat) ^ k := by positivity
  have hd' : |d * (10 : Rat) ^ k| ≤ 1 / 100 := by rw [abs_mul, abs_of_pos hp]; exact hd
  have hbx : Bdd k (.val x) := bdd_val.mpr (by linarith)
  have hbxd : Bdd k (.val (x + d)) := by
    rw [bdd_val, add_mul]
    exact (abs_add_le _ _).trans (by linarith)
  have r1 : roundTo fl k (.val (x + d)) = n := by
    refine roundTo_near hfl k _ n hbxd ?_
    rw [add_mul, add_sub_right_comm]
    exact (abs_add_le _ _).trans_lt (by linarith)
  have r2 : roundTo fl k (.val x) = n := roundTo_near hfl k x n hbx (by linarith)
  refine ⟨r1, r2, ?_⟩
  rw [prepArr_eq hfl k _ hbxd, prepArr_eq hfl k _ hbx, r1, r2]

/-- geometry entries related by sub-rounding noise away from rounding boundaries -/
def NoiseClose (x y : Dbl) : Prop :=
  ∃ (q d : Rat) (n : Int), x = .val q ∧ y = .val (q + d) ∧ |q * (10 : Rat) ^ 8| ≤ 2 ^ 45 - 1 ∧
    |q * (10 : Rat) ^ 8 - n| ≤ 48 / 100 ∧ |d| ≤ 1 / 10 ^ 10

/-- entrywise `NoiseClose` geometries have the same rounded entries (`float_prep` at 8 decimals) -/
theorem noise_map {fl : Rat → Rat} (hfl : FlOk fl) (g g' : List Dbl) (h : List.Forall₂ NoiseClose g g') :
    g'.map (prepArr fl GEOMETRY_NOISE) = g.map (prepArr fl GEOMETRY_NOISE) := by
  induction h with
  | nil => rfl
  | cons hxy _ ih =>
    obtain ⟨q, d, n, rfl, rfl, hb, hn, hd⟩ := hxy
    simp only [List.map_cons, ih, List.cons.injEq, and_true]
    have : |d| * (10 : Rat) ^ 8 ≤ 1 / 100 := by
      have : |d| * (10 : Rat) ^ 8 ≤ 1 / 10 ^ 10 * (10 : Rat) ^ 8 := by
        apply mul_le_mul_of_nonneg_right hd; positivity
      norm_num at this ⊢; linarith
    exact (round_stable hfl 8 q d n hb hn this).2.2

/-- **Noise ≤ 1e-10 on coordinates that are not near a rounding boundary never changes the hash.** -/
theorem hash_noise {D} (P : Params D) (hfl : FlOk P.fl) (m : Mol) (g' : List Dbl)
    (h : List.Forall₂ NoiseClose m.geometry g') : hash P { m with geometry := g' } = hash P m := by
  apply hash_of_canon
  exact canon_congr P _ _ rfl rfl rfl rfl rfl (noise_map hfl _ _ h) rfl rfl rfl rfl

/-! ### construction-time rounding is invisible to the hash -/

/-- Re-rounding a stored coordinate (`get_hash` after the constructor's `float_prep`) changes nothing. -/
theorem prep_idempotent {fl : Rat → Rat} (hfl : FlOk fl) (k : Nat) (x : Dbl) (hx : Bdd k x)
    (hm : ((prepArr fl k x).mag : Rat) ≤ 2 ^ 45) :
    prepArr fl k ((prepArr fl k x).toDbl k) = prepArr fl k x := by
  have hp : (0 : Rat) < (10 : Rat) ^ k := by positivity
  have hp' : ((10 : Rat) ^ k) ≠ 0 := ne_of_gt hp
  rw [prepArr_eq hfl k x hx] at hm ⊢
  generalize roundTo fl k x = n at *
  unfold flipBand at hm ⊢
  by_cases hz : zeroBand k (Rd.ofInt n) = true
  · -- stored as +0.0
    simp only [hz, if_true]
    have e0 : (⟨false, 0⟩ : Rd).toDbl k = .val 0 := by simp [Rd.toDbl]
    rw [e0]
    exact prepArr_small_zero hfl k 0 (by norm_num)
  · simp only [hz, if_false, Bool.false_eq_true] at hm ⊢
    have hn0 : n ≠ 0 := by
      intro h0; subst h0; exact hz (by simp [Rd.ofInt, zeroBand_zero])
    have hmag : (Rd.ofInt n).mag ≠ 0 := by simp only [Rd.ofInt]; omega
    have hcast : ((n.natAbs : Nat) : Rat) = |(n : Rat)| := by rw [Nat.cast_natAbs, Int.cast_abs]
    -- the stored value is exactly n / 10^k
    have hval : (Rd.ofInt n).toDbl k = .val ((n : Rat) / (10 : Rat) ^ k) := by
      simp only [Rd.toDbl, hmag, if_false]
      congr 2
      simp only [Rd.ofInt, hcast]
      by_cases hneg : n < 0
      · simp [hneg, abs_of_neg (show (n : Rat) < 0 by exact_mod_cast hneg)]
      · simp [hneg, abs_of_nonneg (show (0 : Rat) ≤ n by exact_mod_cast not_lt.mp hneg)]
    have hb : Bdd k (.val ((n : Rat) / (10 : Rat) ^ k)) := by
      rw [bdd_val, div_mul_cancel₀ _ hp', ← hcast]; exact hm
    rw [hval, prepArr_eq hfl k _ hb, roundTo_near hfl k _ n hb (by rw [div_mul_cancel₀ _ hp']; norm_num)]
    simp [flipBand, hz]

/-- **Building a molecule (geometry pre-rounded and stored, bonds canonicalised) gives the hash of the
un-rounded geometry with canonical bonds**: `float_prep` at construction is invisible to `get_hash`. -/
theorem construct_hash {D} (P : Params D) (hfl : FlOk P.fl) (m : Mol)
    (hg : ∀ x ∈ m.geometry, Bdd GEOMETRY_NOISE x ∧ ((prepArr P.fl GEOMETRY_NOISE x).mag : Rat) ≤ 2 ^ 45) :
    hash P (construct P.fl m) = hash P { m with connectivity := m.connectivity.map prepBonds } := by
  apply hash_of_canon
  have : (m.geometry.map (fun x => (prepArr P.fl GEOMETRY_NOISE x).toDbl GEOMETRY_NOISE)).map (prepArr P.fl GEOMETRY_NOISE)
      = m.geometry.map (prepArr P.fl GEOMETRY_NOISE) := by
    rw [List.map_map, Function.comp_def]
    exact List.map_congr_left fun x hx => prep_idempotent hfl GEOMETRY_NOISE x (hg x hx).1 (hg x hx).2
  exact canon_congr P _ _ rfl rfl rfl rfl rfl this rfl rfl rfl rfl

/-! ## 2. bonds: order and orientation of the listing are immaterial -/

/-- the model's sort returns a sorted permutation of its input … -/
theorem sortBy_sorted_perm {α : Type} {le : α → α → Bool} (h : TotalOrder le) (l : List α) :
    Sorted le (sortBy le l) ∧ (sortBy le l).Perm l :=
  ⟨sortBy_sorted h.total h.trans l, sortBy_perm l⟩

/-- … and that determines it: any sorted permutation of `l` (what `list.sort()` returns) is `sortBy le l`. -/
theorem sortBy_unique {α : Type} {le : α → α → Bool} (h : TotalOrder le) (l l' : List α)
    (hs : Sorted le l') (hp : l'.Perm l) : l' = sortBy le l := by
  rw [← sortBy_of_sorted l' hs]
  exact sortBy_perm_eq h hp

/-- **Bond lists that agree up to order and orientation are stored identically.** -/
theorem bonds_order_free (bs bs' : List Bond) (h : (bs.map orient).Perm (bs'.map orient)) :
    prepBonds bs = prepBonds bs' :=
  sortBy_perm_eq bondLe_total h

theorem orient_flip (x : Bond) : orient ⟨x.b, x.a, x.order⟩ = orient x := by
  simp [orient, Nat.min_comm, Nat.max_comm]

/-- reversing any bonds and permuting the list ("permuted and reversed bond lists" of the property text) -/
theorem bonds_permuted_reversed (bs bs' : List Bond) (flip : Bond → Bool)
    (h : bs'.Perm (bs.map (fun x => if flip x then ⟨x.b, x.a, x.order⟩ else x))) : prepBonds bs' = prepBonds bs := by
  apply bonds_order_free
  refine (h.map orient).trans ?_
  rw [List.map_map]
  have : (orient ∘ fun x => if flip x then (⟨x.b, x.a, x.order⟩ : Bond) else x) = orient := by
    funext x; simp only [Function.comp]; split
    · exact orient_flip x
    · rfl
  rw [this]

/-- the stored bond lists are equal exactly when the oriented bonds agree as multisets -/
theorem prepBonds_eq_iff (bs bs' : List Bond) : prepBonds bs = prepBonds bs' ↔ (bs.map orient).Perm (bs'.map orient) := by
  constructor
  · intro h
    have p1 := sortBy_perm (le := bondLe) (bs.map orient)
    have p2 := sortBy_perm (le := bondLe) (bs'.map orient)
    unfold prepBonds at h
    exact p1.symm.trans (h ▸ p2)
  · exact bonds_order_free bs bs'

/-- the order of `conn.sort(key=lambda t: t[0])`, a stable sort by the first atom only — NOT what from_arrays.py
does (plain `conn.sort()`, whole tuple); it serves the counter-example below -/
def firstAtomLe (x y : Bond) : Bool := decide (x.a ≤ y.a)

/-- counter-example: sorting by the first atom only is not order-free — the bonds `(0,1)`, `(0,2)` listed in the two
orders are stored differently (any bond order `o`), whereas the full sort stores them identically. -/
theorem bonds_first_atom_sort_not_order_free (o : Rat) :
    sortBy firstAtomLe ([⟨0, 1, o⟩, ⟨0, 2, o⟩].map orient) ≠ sortBy firstAtomLe ([⟨0, 2, o⟩, ⟨0, 1, o⟩].map orient)
    ∧ prepBonds [⟨0, 1, o⟩, ⟨0, 2, o⟩] = prepBonds [⟨2, 0, o⟩, ⟨1, 0, o⟩] := by
  constructor
  · simp [sortBy, insertBy, firstAtomLe, orient]
  · apply bonds_order_free
    simp only [List.map_cons, List.map_nil, orient]
    exact List.Perm.swap _ _ _

/-! ## 3. equal canonical data ⇔ the listed fields agree after the documented rounding -/

/-- The ten listed fields agree after rounding to 6 / 4 / 8 decimals (as `np.around` / `round` round). -/
structure FieldsAgree {D} (P : Params D) (a b : Mol) : Prop where
  symbols : a.symbols = b.symbols
  masses : (a.massesR P.massOf).map (roundTo P.fl MASS_NOISE) = (b.massesR P.massOf).map (roundTo P.fl MASS_NOISE)
  charge : roundTo id CHARGE_NOISE a.charge = roundTo id CHARGE_NOISE b.charge
  mult : a.mult = b.mult
  real : a.realR = b.realR
  geometry : a.geometry.map (roundTo P.fl GEOMETRY_NOISE) = b.geometry.map (roundTo P.fl GEOMETRY_NOISE)
  fragments : a.fragmentsR = b.fragmentsR
  fragCharges : a.fragChargesR.map (roundTo P.fl CHARGE_NOISE) = b.fragChargesR.map (roundTo P.fl CHARGE_NOISE)
  fragMults : a.fragMultsR = b.fragMultsR
  connectivity : a.connectivity = b.connectivity

/-- the rounded entry is zero or outside the band `(0, 5^-(k+1))` that `float_prep` zeroes -/
def NoBand (fl : Rat → Rat) (k : Nat) (x : Dbl) : Prop := zeroBand k (Rd.ofInt (roundTo fl k x)) = true → roundTo fl k x = 0

/-- no rounded array entry lies in the zero band -/
structure Mol.NoBand {D} (P : Params D) (m : Mol) : Prop where
  masses : ∀ x ∈ m.massesR P.massOf, Hash.NoBand P.fl MASS_NOISE x
  geometry : ∀ x ∈ m.geometry, Hash.NoBand P.fl GEOMETRY_NOISE x
  fragCharges : ∀ x ∈ m.fragChargesR, Hash.NoBand P.fl CHARGE_NOISE x

theorem prepArr_noBand {fl : Rat → Rat} (hfl : FlOk fl) (k : Nat) (x : Dbl) (hx : Bdd k x) (hb : NoBand fl k x) :
    prepArr fl k x = Rd.ofInt (roundTo fl k x) := by
  rw [prepArr_eq hfl k x hx]
  unfold flipBand
  by_cases hz : zeroBand k (Rd.ofInt (roundTo fl k x)) = true
  · rw [hb hz]; simp [Rd.ofInt, zeroBand_zero]
  · simp [hz]

theorem map_prepArr_noBand {fl : Rat → Rat} (hfl : FlOk fl) (k : Nat) (l : List Dbl)
    (hb : ∀ x ∈ l, Bdd k x) (hn : ∀ x ∈ l, NoBand fl k x) :
    l.map (prepArr fl k) = (l.map (roundTo fl k)).map Rd.ofInt := by
  rw [List.map_map]
  exact List.map_congr_left fun x hx => prepArr_noBand hfl k x (hb x hx) (hn x hx)

theorem map_prepArr_eq_iff {fl : Rat → Rat} (hfl : FlOk fl) (k : Nat) (l l' : List Dbl)
    (hb : ∀ x ∈ l, Bdd k x) (hn : ∀ x ∈ l, NoBand fl k x) (hb' : ∀ x ∈ l', Bdd k x) (hn' : ∀ x ∈ l', NoBand fl k x) :
    l.map (prepArr fl k) = l'.map (prepArr fl k) ↔ l.map (roundTo fl k) = l'.map (roundTo fl k) := by
  rw [map_prepArr_noBand hfl k l hb hn, map_prepArr_noBand hfl k l' hb' hn']
  exact (List.map_injective_iff.mpr Rd.ofInt_injective).eq_iff

/-- **Canonical data are equal exactly when the listed fields agree after the documented rounding** —
provided no rounded array entry lies in `(0, 5^-(k+1))` (`NoBand`) and every scaled entry is below `2^45` (`Bounded`). -/
theorem canon_eq_iff_fields_agree {D} (P : Params D) (hfl : FlOk P.fl) (a b : Mol)
    (ha : a.Bounded P) (hb : b.Bounded P) (na : a.NoBand P) (nb : b.NoBand P) :
    canon P a = canon P b ↔ FieldsAgree P a b := by
  have i1 := map_prepArr_eq_iff hfl MASS_NOISE _ _ ha.masses na.masses hb.masses nb.masses
  have i2 := map_prepArr_eq_iff hfl GEOMETRY_NOISE _ _ ha.geometry na.geometry hb.geometry nb.geometry
  have i3 := map_prepArr_eq_iff hfl CHARGE_NOISE _ _ ha.fragCharges na.fragCharges hb.fragCharges nb.fragCharges
  have i4 : prepScalar CHARGE_NOISE a.charge = prepScalar CHARGE_NOISE b.charge ↔ roundTo id CHARGE_NOISE a.charge = roundTo id CHARGE_NOISE b.charge := by
    rw [prepScalar_eq, prepScalar_eq]
    exact Rd.ofInt_injective.eq_iff
  unfold canon
  simp only [Canon.mk.injEq]
  constructor
  · rintro ⟨h1, h2, h3, h4, h5, h6, h7, h8, h9, h10⟩
    exact ⟨h1, i1.mp h2, i4.mp h3, h4, h5, i2.mp h6, h7, i3.mp h8, h9, h10⟩
  · rintro ⟨h1, h2, h3, h4, h5, h6, h7, h8, h9, h10⟩
    exact ⟨h1, i1.mpr h2, i4.mpr h3, h4, h5, i2.mpr h6, h7, i3.mpr h8, h9, h10⟩

/-- **The excluded band is necessary** (the defect of `float_prep`): fragment charges `2e-4` / `3e-4`, and
coordinates `1e-7` / `3e-7`, differ after rounding (2 ≠ 3 units, 10 ≠ 30 units) yet `float_prep` maps both to `0.0`. -/
theorem zero_band_counterexample :
    (roundTo id 4 (.val (2 / 10000)) ≠ roundTo id 4 (.val (3 / 10000)) ∧
      prepArr id 4 (.val (2 / 10000)) = prepArr id 4 (.val (3 / 10000))) ∧
    (roundTo id 8 (.val (1 / 10000000)) ≠ roundTo id 8 (.val (3 / 10000000)) ∧
      prepArr id 8 (.val (1 / 10000000)) = prepArr id 8 (.val (3 / 10000000))) := by
  have b1 : Bdd 4 (.val (2 / 10000)) := by rw [bdd_val, abs_le]; constructor <;> norm_num
  have b2 : Bdd 4 (.val (3 / 10000)) := by rw [bdd_val, abs_le]; constructor <;> norm_num
  have b3 : Bdd 8 (.val (1 / 10000000)) := by rw [bdd_val, abs_le]; constructor <;> norm_num
  have b4 : Bdd 8 (.val (3 / 10000000)) := by rw [bdd_val, abs_le]; constructor <;> norm_num
  have r1 : roundTo id 4 (.val (2 / 10000)) = 2 := roundTo_near flOk_id 4 _ 2 b1 (by norm_num)
  have r2 : roundTo id 4 (.val (3 / 10000)) = 3 := roundTo_near flOk_id 4 _ 3 b2 (by norm_num)
  have r3 : roundTo id 8 (.val (1 / 10000000)) = 10 := roundTo_near flOk_id 8 _ 10 b3 (by norm_num)
  have r4 : roundTo id 8 (.val (3 / 10000000)) = 30 := roundTo_near flOk_id 8 _ 30 b4 (by norm_num)
  refine ⟨⟨by rw [r1, r2]; decide, ?_⟩, ⟨by rw [r3, r4]; decide, ?_⟩⟩
  · rw [prepArr_eq flOk_id 4 _ b1, prepArr_eq flOk_id 4 _ b2, r1, r2]
    simp [flipBand, zeroBand, Rd.ofInt]
  · rw [prepArr_eq flOk_id 8 _ b3, prepArr_eq flOk_id 8 _ b4, r3, r4]
    simp [flipBand, zeroBand, Rd.ofInt]

/-- the validated-molecule invariants, on the molecule -/
def Mol.Valid {D} (P : Params D) (m : Mol) : Prop := (canon P m).Valid

/-- **hash equal ⇔ listed fields agree after rounding** (validated, bounded, out of the zero band; float
printing as assumed in `Params.Ok`; SHA-1 injective on the two preimages — the collision-freeness assumption). -/
theorem hash_eq_iff_fields_agree {D} (P : Params D) (hP : P.Ok) (hfl : FlOk P.fl) (a b : Mol)
    (hsha : P.sha1 (preimage P (canon P a)) = P.sha1 (preimage P (canon P b)) → preimage P (canon P a) = preimage P (canon P b))
    (va : a.Valid P) (vb : b.Valid P) (ha : a.Bounded P) (hb : b.Bounded P) (na : a.NoBand P) (nb : b.NoBand P) :
    hash P a = hash P b ↔ FieldsAgree P a b := by
  rw [← canon_eq_iff_fields_agree P hfl a b ha hb na nb]
  constructor
  · intro h
    exact preimage_injective P hP _ _ va vb (hsha h)
  · exact hash_of_canon P a b

/-! ## 4. an edit above the rounding unit changes the canonical data -/

/-- values at least (1 + 1/64) rounding units apart round differently -/
theorem round_separates {fl : Rat → Rat} (hfl : FlOk fl) (k : Nat) (x y : Rat)
    (hx : Bdd k (.val x)) (hy : Bdd k (.val y)) (h : 1 + 1 / 64 ≤ |x - y| * (10 : Rat) ^ k) :
    roundTo fl k (.val x) ≠ roundTo fl k (.val y) := by
  intro he
  have hp : (0 : Rat) < (10 : Rat) ^ k := by positivity
  -- both scaled values are within `1/2 + 1/256` of the common rounded integer
  have ex : |(roundTo fl k (.val x) : Rat) - x * (10 : Rat) ^ k| ≤ 1/2 + 1/256 := rint_fl_err hfl _ hx
  have ey : |(roundTo fl k (.val y) : Rat) - y * (10 : Rat) ^ k| ≤ 1/2 + 1/256 := rint_fl_err hfl _ hy
  rw [he, abs_sub_comm] at ex
  have := abs_sub_le (x * (10 : Rat) ^ k) (roundTo fl k (.val y)) (y * (10 : Rat) ^ k)
  rw [← sub_mul, abs_mul, abs_of_pos hp] at this
  linarith

/-- **One coordinate moved by more than the rounding unit changes the canonical data** (hence, by
`preimage_injective`, the preimage; and the hash unless SHA-1 collides) — outside the zero band. -/
theorem single_edit_changes_canon {D} (P : Params D) (hfl : FlOk P.fl) (m : Mol) (l₁ l₂ : List Dbl) (x y : Rat)
    (hgeo : m.geometry = l₁ ++ .val x :: l₂)
    (hedit : 1 + 1 / 64 ≤ |x - y| * (10 : Rat) ^ 8)
    (b : Mol) (hb : b = { m with geometry := l₁ ++ .val y :: l₂ })
    (bm : m.Bounded P) (bb : b.Bounded P) (nm : m.NoBand P) (nb : b.NoBand P) :
    canon P m ≠ canon P b := by
  intro h
  have fa := (canon_eq_iff_fields_agree P hfl m b bm bb nm nb).mp h
  have hg := fa.geometry
  rw [hgeo, hb] at hg
  simp only [List.map_append, List.map_cons] at hg
  have hx : Bdd GEOMETRY_NOISE (.val x) := bm.geometry _ (by rw [hgeo]; simp)
  have hy : Bdd GEOMETRY_NOISE (.val y) := bb.geometry _ (by rw [hb]; simp)
  have := List.append_cancel_left hg
  exact round_separates hfl 8 x y hx hy hedit (List.cons.inj this).1

/-- **A change of any discrete listed field changes the canonical data.** -/
theorem discrete_edit_changes_canon {D} (P : Params D) (a b : Mol)
    (h : a.symbols ≠ b.symbols ∨ a.mult ≠ b.mult ∨ a.realR ≠ b.realR ∨ a.fragmentsR ≠ b.fragmentsR ∨
      a.fragMultsR ≠ b.fragMultsR ∨ a.connectivity ≠ b.connectivity) : canon P a ≠ canon P b := by
  intro he
  unfold canon at he
  simp only [Canon.mk.injEq] at he
  obtain ⟨h1, _, _, h4, h5, _, h7, _, h9, h10⟩ := he
  rcases h with h | h | h | h | h | h
  · exact h h1
  · exact h h4
  · exact h h5
  · exact h h7
  · exact h h9
  · exact h h10

end QcelVerif.Hash
