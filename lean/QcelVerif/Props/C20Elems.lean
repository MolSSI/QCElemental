import QcelVerif.Props.C20
import QcelVerif.Model.ProtocolsElems
/-!
# C20 — element values: reshape keeps the row-major elements, protocols never alter a retained array

Model: `Model/ProtocolsElems.lean` (arrays = shape + row-major element sequence).  Two families of theorems, all for
every payload type `π` (in particular `π = List α`, abstract elements) and every input:

  * `*_shapes` — forgetting the elements maps each element-level function onto the shape model of
    `Model/Protocols.lean` (same verdict, same error, same shapes): every theorem of `Props/C20.lean` therefore also
    describes the element-level model;
  * `reshape_preserves_elements`, `*_data`, `*_retains` — elements are never changed, dropped inside an array, reordered
    or moved to another key.
-/
namespace QcelVerif.Protocols

/-! ## reshape -/

/-- `reshape` is the identity on the row-major element sequence; the new shape is the one the shape model computes -/
theorem reshape_preserves_elements {π : Type} (f : Shape → Option Shape) (a a' : Arr π)
    (h : a.reshapeWith f = some a') : a'.data = a.data ∧ f a.shape = some a'.shape := by
  unfold Arr.reshapeWith at h
  cases hf : f a.shape with
  | none => simp [hf] at h
  | some s =>
    simp only [hf, Option.map_some, Option.some.injEq] at h
    subst h
    exact ⟨rfl, rfl⟩

/-- with a list of elements as payload: every reshape the validators perform (properties, wavefunction arrays,
gradient / Hessian return) keeps "as many elements as the shape says" -/
theorem reshape_wellformed {α : Type} (a a' : Arr (List α)) (hw : a.WellFormed) :
    (∀ natom r, a.reshapeWith (applyPropRule natom r) = some a' → a'.WellFormed) ∧
    (∀ nbf r, a.reshapeWith (applyArrRule nbf r) = some a' → a'.WellFormed) ∧
    (a.reshapeWith reshapeCols3 = some a' → a'.WellFormed) ∧
    (a.reshapeWith reshapeSquare = some a' → a'.WellFormed) := by
  unfold Arr.WellFormed at *
  have key : ∀ {f : Shape → Option Shape}, (∀ {s t}, f s = some t → prod t = prod s) → a.reshapeWith f = some a' →
      a'.data.length = prod a'.shape := by
    intro f hf h
    obtain ⟨h1, h2⟩ := reshape_preserves_elements _ _ _ h
    rw [h1, hw, hf h2]
  exact ⟨fun natom r => key (bySize_prop natom r).size, fun nbf r => key applyArrRule_size,
    key bySize_cols3.size, key bySize_square.size⟩

example : (⟨[6], [1, 2, 3, 4, 5, 6]⟩ : Arr (List Nat)).reshapeWith (reshapeExact [2, 3]) = some ⟨[2, 3], [1, 2, 3, 4, 5, 6]⟩ := by
  decide   -- test: flat → (2,3), elements in row-major order

theorem reshapeWith_join_shape {π : Type} (f : Shape → Option Shape) (a : Option (Arr π)) :
    ((a.map (Arr.reshapeWith f)).join).map (·.shape) = ((a.map (·.shape)).map f).join := by
  cases a with
  | none => rfl
  | some a =>
    simp only [Option.map_some, Option.join_some, Arr.reshapeWith]
    cases f a.shape <;> rfl

theorem reshapeWith_join_data {π : Type} {f : Shape → Option Shape} {a : Option (Arr π)} {a' : Arr π}
    (h : (a.map (Arr.reshapeWith f)).join = some a') : ∃ a0, a = some a0 ∧ a'.data = a0.data := by
  obtain ⟨a0, h0, hr⟩ := map_join_eq_some.mp h
  exact ⟨a0, h0, (reshape_preserves_elements _ _ _ hr).1⟩

/-! ## AtomicResultProperties -/

/-- forgetting the elements, `validatePropsE` is `validateProps` -/
theorem validatePropsE_shapes {π : Type} (p : PropsInE π) :
    (validatePropsE p).map PropsInE.shapes = validateProps p.shapes := by
  unfold validatePropsE validateProps
  cases h : propFails p.shapes with
  | nil =>
    simp only [Except.map]
    congr 1
    exact PropsIn.ext' rfl (fun k => reshapeWith_join_shape _ (p.arr k))
  | cons x l => rfl

/-- every array of an accepted properties object holds exactly the elements supplied under the same name -/
theorem validatePropsE_data {π : Type} (p o : PropsInE π) (h : validatePropsE p = .ok o) :
    ∀ k a', o.arr k = some a' → ∃ a, p.arr k = some a ∧ a'.data = a.data := by
  unfold validatePropsE at h
  cases hf : propFails p.shapes with
  | cons x l => simp [hf] at h
  | nil =>
    simp only [hf, Except.ok.injEq] at h
    subst h
    exact fun k a' hk => reshapeWith_join_data hk

/-! ## the wavefunction protocol -/

theorem dropBetaE_shapes {π β : Type} (w : WfnE π β) : (dropBetaE w).shapes = dropBeta w.shapes := by
  refine Wfn.ext' (by rfl) (by rfl) ?_ ?_
  · intro k
    simp only [WfnE.shapes, dropBetaE, dropBeta]
    split <;> rfl
  · intro k; rfl

theorem setE_shapes {π β : Type} (ret : WfnE π β) (rk : PtrKey) (key : ArrKey) (v : Arr π) :
    (setArrE (setPtrE ret rk key) key v).shapes = setArr (setPtr ret.shapes rk key) key v.shape := by
  refine Wfn.ext' (by rfl) (by rfl) ?_ ?_
  · intro k
    simp only [WfnE.shapes, setArrE, setPtrE, setArr, setPtr]
    split <;> rfl
  · intro k; rfl

theorem keepLoopE_shapes {π β : Type} (w : WfnE π β) :
    ∀ (rest : List PtrKey) (ret : WfnE π β),
      (keepLoopE w rest ret).map WfnE.shapes = keepLoop w.shapes rest ret.shapes
  | [], ret => rfl
  | rk :: rest, ret => by
    have hp : w.shapes.ptr rk = w.ptr rk := rfl
    unfold keepLoopE keepLoop
    rw [hp]
    cases hk : w.ptr rk with
    | none => exact keepLoopE_shapes w rest ret
    | some key =>
      have ha : w.shapes.arr key = (w.arr key).map (·.shape) := rfl
      simp only [ha]
      cases hv : w.arr key with
      | none => rfl
      | some v =>
        simp only [Option.map_some]
        rw [← setE_shapes]
        exact keepLoopE_shapes w rest _

/-- forgetting the elements, `wfnProtocolE` is `wfnProtocol` -/
theorem wfnProtocolE_shapes {π β : Type} (p : WfnProto) (w : WfnE π β) :
    (wfnProtocolE p w).map (Option.map WfnE.shapes) = wfnProtocol p w.shapes := by
  have hr : w.shapes.restricted = w.restricted := rfl
  unfold wfnProtocolE wfnProtocol
  rw [hr]
  cases w.restricted with
  | none => rfl
  | some r =>
    have hw : (if r then dropBeta w.shapes else w.shapes) = (if r then dropBetaE w else w).shapes := by
      cases r
      · rfl
      · exact (dropBetaE_shapes w).symm
    simp only [hw]
    generalize (if r then dropBetaE w else w) = w1
    have hk : ∀ keep, keepLoop w1.shapes keep ⟨some r, w1.shapes.basis, fun _ => none, fun _ => none⟩
        = (keepLoopE w1 keep ⟨some r, w1.basis, fun _ => none, fun _ => none⟩).map WfnE.shapes :=
      fun keep => (keepLoopE_shapes w1 keep ⟨some r, w1.basis, fun _ => none, fun _ => none⟩).symm
    cases p <;> simp only [keepList] <;> try rfl
    all_goals rw [hk]; cases keepLoopE w1 _ _ <;> rfl

theorem keepLoopE_retains {π β : Type} (w : WfnE π β) :
    ∀ (rest : List PtrKey) (ret ret' : WfnE π β),
      (∀ k a, ret.arr k = some a → w.arr k = some a) → keepLoopE w rest ret = .ok ret' →
      ∀ k a, ret'.arr k = some a → w.arr k = some a
  | [], ret, ret', hinv, h => by
    simp only [keepLoopE, Except.ok.injEq] at h
    subst h; exact hinv
  | rk :: rest, ret, ret', hinv, h => by
    unfold keepLoopE at h
    cases hk : w.ptr rk with
    | none => rw [hk] at h; exact keepLoopE_retains w rest ret ret' hinv h
    | some key =>
      rw [hk] at h
      cases hv : w.arr key with
      | none => simp [hv] at h
      | some v =>
        simp only [hv] at h
        refine keepLoopE_retains w rest _ ret' ?_ h
        intro k a hka
        simp only [setArrE, setPtrE] at hka
        by_cases hkk : k = key
        · subst hkk
          simp only [if_true, Option.some.injEq] at hka
          subst hka; exact hv
        · simp only [hkk, if_false] at hka
          exact hinv k a hka

/-- THE PROTOCOLS DO NOT ALTER RETAINED ARRAYS: whatever array the wavefunction protocol keeps under a key is exactly
(shape and elements) the array supplied under that same key — never another key's array, never a changed one -/
theorem wfnProtocolE_retains {π β : Type} (p : WfnProto) (w w' : WfnE π β)
    (h : wfnProtocolE p w = .ok (some w')) : ∀ k a, w'.arr k = some a → w.arr k = some a := by
  unfold wfnProtocolE at h
  cases hr : w.restricted with
  | none => simp [hr] at h
  | some r =>
    simp only [hr] at h
    have hdrop : ∀ k a, (if r then dropBetaE w else w).arr k = some a → w.arr k = some a := by
      intro k a hk
      cases r
      · exact hk
      · simp only [if_true, dropBetaE] at hk
        split at hk
        · cases hk
        · exact hk
    cases p
    case none => simp at h
    case all =>
      simp only [keepList, Except.ok.injEq, Option.some.injEq] at h
      subst h; exact hdrop
    all_goals
      simp only [keepList] at h
      split at h
      · rename_i ret hl
        simp only [Except.ok.injEq, Option.some.injEq] at h
        subst h
        intro k a hk
        exact hdrop k a (keepLoopE_retains _ _ _ _ (by intro k a hk; cases hk) hl k a hk)
      · cases h

/-! ## WavefunctionProperties -/

/-- forgetting the elements, `validateWfnE` is `validateWfn` -/
theorem validateWfnE_shapes {π : Type} (w : WfnE π BasisIn) :
    (validateWfnE w).map WfnE.shapes = validateWfn w.shapes := by
  have hb : w.shapes.basis = w.basis := rfl
  unfold validateWfnE validateWfn
  rw [hb]
  cases basisStage w.basis with
  | error e => rfl
  | ok bb =>
    obtain ⟨b', blocs⟩ := bb
    simp only
    cases wfnLocs b' blocs w.shapes with
    | nil =>
      simp only [Except.map]
      congr 1
      exact Wfn.ext' (by rfl) (by rfl) (fun k => reshapeWith_join_shape _ (w.arr k)) (fun _ => rfl)
    | cons x l => rfl

/-- every array of accepted WavefunctionProperties holds exactly the elements supplied under the same name -/
theorem validateWfnE_data {π : Type} (w o : WfnE π BasisIn) (h : validateWfnE w = .ok o) :
    ∀ k a', o.arr k = some a' → ∃ a, w.arr k = some a ∧ a'.data = a.data := by
  unfold validateWfnE at h
  cases hbs : basisStage w.basis with
  | error e => simp [hbs] at h
  | ok bb =>
    obtain ⟨b', blocs⟩ := bb
    simp only [hbs] at h
    cases hl : wfnLocs b' blocs w.shapes with
    | cons x l => simp [hl] at h
    | nil =>
      simp only [hl, Except.ok.injEq] at h
      subst h
      exact fun k a' hk => reshapeWith_join_data hk

/-! ## return_result -/

theorem RRE.asArr_shape {π : Type} (v : RRE π) : v.asArr.shape = v.shapes.asShape := by
  cases v <;> rfl

/-- forgetting the elements, `validateRRE` is `validateRR` -/
theorem validateRRE_shapes {π : Type} (d : Driver) (v : RRE π) :
    (validateRRE d v).map RRE.shapes = validateRR d v.shapes := by
  cases d with
  | energy => rfl
  | properties => rfl
  | gradient =>
    simp only [validateRRE, validateRR, Arr.reshapeWith, RRE.asArr_shape]
    cases reshapeCols3 v.shapes.asShape <;> rfl
  | hessian =>
    simp only [validateRRE, validateRR, Arr.reshapeWith, RRE.asArr_shape]
    cases reshapeSquare v.shapes.asShape <;> rfl

/-- the validated return value holds exactly the supplied elements -/
theorem validateRRE_data {π : Type} (d : Driver) (v v' : RRE π) (h : validateRRE d v = some v') :
    v'.asArr.data = v.asArr.data := by
  have key : ∀ {f : Shape → Option Shape}, (v.asArr.reshapeWith f).map RRE.arr = some v' → v'.asArr.data = v.asArr.data := by
    intro f h
    obtain ⟨a, hr, rfl⟩ := Option.map_eq_some_iff.mp h
    exact (reshape_preserves_elements _ _ _ hr).1
  cases d with
  | energy => cases h; rfl
  | properties => cases h; rfl
  | gradient => exact key h
  | hessian => exact key h

/-! ## AtomicResult -/

theorem wfnFieldE_shapes {π : Type} (p : WfnProto) (w : Option (WfnE π BasisIn)) :
    (wfnFieldE p w).map (Option.map WfnE.shapes) = wfnField p (w.map WfnE.shapes) := by
  cases w with
  | none => rfl
  | some w =>
    simp only [wfnFieldE, wfnField, Option.map_some, ← wfnProtocolE_shapes]
    cases wfnProtocolE p w with
    | error e => rfl
    | ok ow =>
      cases ow with
      | none => rfl
      | some w1 =>
        simp only [Except.map, Option.map_some, ← validateWfnE_shapes]
        cases validateWfnE w1 with
        | ok w2 => rfl
        | error e => cases e <;> rfl

/-- forgetting the elements, `atomicResultE` is `atomicResult`: same verdict, same error locations, same shapes,
same retained keys — so every C20 theorem about `atomicResult` describes `atomicResultE` as well -/
theorem atomicResultE_shapes {π γ σ : Type} (i : ARInE π γ σ) :
    (atomicResultE i).map AROutE.shapes = atomicResult i.shapes := by
  -- with each field's shape-level outcome written as the image of its element-level one, both sides are the same match
  simp only [atomicResultE, atomicResult, ARInE.shapes, ← validatePropsE_shapes, ← wfnFieldE_shapes, ← validateRRE_shapes]
  cases validatePropsE i.props <;> cases validateRRE i.driver i.rr <;> cases wfnFieldE i.wp i.wfn with
  | error e => cases e <;> rfl
  | ok w => rfl

theorem wfnFieldE_data {π : Type} (p : WfnProto) (w : Option (WfnE π BasisIn)) (o : WfnE π BasisIn)
    (h : wfnFieldE p w = .ok (some o)) :
    ∃ w0, w = some w0 ∧ ∀ k a', o.arr k = some a' → ∃ a, w0.arr k = some a ∧ a'.data = a.data := by
  cases w with
  | none => simp [wfnFieldE] at h
  | some w0 =>
    refine ⟨w0, rfl, ?_⟩
    simp only [wfnFieldE] at h
    cases hp : wfnProtocolE p w0 with
    | error e => simp [hp] at h
    | ok ow =>
      cases ow with
      | none => simp [hp] at h
      | some w1 =>
        simp only [hp] at h
        cases hv : validateWfnE w1 with
        | error e => cases e <;> simp [hv] at h
        | ok w2 =>
          simp only [hv, Except.ok.injEq, Option.some.injEq] at h
          subst h
          intro k a' hk
          obtain ⟨a, ha, hd⟩ := validateWfnE_data w1 w2 hv k a' hk
          exact ⟨a, wfnProtocolE_retains p w0 w1 hp k a ha, hd⟩

/-- ELEMENT VALUES END TO END: in an accepted AtomicResult every properties array, every retained wavefunction array
and the return value hold exactly the row-major elements that were supplied under the same name -/
theorem atomicResultE_data {π γ σ : Type} (i : ARInE π γ σ) (o : AROutE π γ σ) (h : atomicResultE i = .ok o) :
    (∀ k a', o.props.arr k = some a' → ∃ a, i.props.arr k = some a ∧ a'.data = a.data) ∧
    (∀ w', o.wfn = some w' → ∃ w, i.wfn = some w ∧
        ∀ k a', w'.arr k = some a' → ∃ a, w.arr k = some a ∧ a'.data = a.data) ∧
    o.rr.asArr.data = i.rr.asArr.data := by
  simp only [atomicResultE] at h
  cases hw : wfnFieldE i.wp i.wfn with
  | error e => cases e <;> simp [hw] at h
  | ok w =>
    simp only [hw] at h
    cases hp : validatePropsE i.props with
    | error l => simp [hp] at h
    | ok pv =>
      cases hr : validateRRE i.driver i.rr with
      | none => simp [hp, hr] at h
      | some r =>
        simp only [hp, hr, Except.ok.injEq] at h
        subst h
        refine ⟨validatePropsE_data _ _ hp, ?_, validateRRE_data _ _ _ hr⟩
        intro w' hw'
        simp only at hw'
        subst hw'
        exact wfnFieldE_data _ _ _ hw

/-- non-vacuity: a flat `return_gradient` and a flat return value under the gradient driver; no wavefunction -/
def exARE : ARInE (List Nat) Unit Unit :=
  { wp := .all, so := false, nf := .none, driver := .gradient,
    props := { natom := some 1, arr := fun k => if k = .return_gradient then some ⟨[3], [7, 8, 9]⟩ else none },
    wfn := none, rr := .arr ⟨[6], [1, 2, 3, 4, 5, 6]⟩, stdout := none, native := none }

example : ∃ o, atomicResultE exARE = .ok o ∧ o.rr = .arr ⟨[2, 3], [1, 2, 3, 4, 5, 6]⟩ ∧
    o.props.arr .return_gradient = some ⟨[1, 3], [7, 8, 9]⟩ := by
  refine ⟨_, rfl, ?_, ?_⟩ <;> decide

end QcelVerif.Protocols
