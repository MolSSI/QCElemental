import QcelVerif.Lemmas.C04Schema
import QcelVerif.Props.C04C06
/-!
# C04 — the schema round trip: `from_schema (to_schema r v)` for v ∈ {1, 2}

Model: `Model/FromArrays.lean`
(`fromSchema`, `contiguize`, `fromArrays`) and `Model/FromArraysSchema.lean` (`toSchemaU`: `to_schema` for a
record stored in either unit, `exportGeom`, `schemaImage`).

Statement (`schema_roundtrip`), for ANY number of atoms / fragments and ANY reconciler:

    Inv r  →  r has at least one atom  →  the exported geometry passes the default overlap screen
           →  every atom of r re-validates to itself under from_schema's settings
           →  fromSchema env (toSchemaU P r v) = ok (schemaImage P r)

with `schemaImage P r` = `r` except: `units = "Bohr"`, `input_units_to_au` absent, `name` defaulted with
`formula_generator(elem)`, geometry as exported (× 1 in Bohr, else × the Å→a₀ factor used), separators
canonical (`clamp(s)`: unchanged unless negative).  None of the three extra hypotheses can be dropped:

  * zero atoms: `from_schema` calls `from_arrays` with `missing_enabled_return='error'`
    (`schema_roundtrip_needs_atoms`);
  * `from_schema` has no `tooclose=` keyword: a record validated in Bohr with a smaller threshold may hold a
    pair of atoms closer than 0.1 a₀ (`schema_roundtrip_needs_geometry`);
  * `from_schema` has no `mtol=` keyword and the reconciler need not be idempotent
    (`from_arrays_not_idempotent_c06`); with the C06 model plugged in the hypothesis is discharged here for
    self-consistent atoms (`schema_roundtrip_c06_partial`), supplied masses (`schema_roundtrip_c06_masses`),
    plain molecules under `rd64` (`schema_roundtrip_c06_plain`) and every record that has itself come out of
    `from_schema` (`schema_roundtrip_twice_c06`: the second round trip is the identity), and in
    `Props/C04Default.lean` for every record built at the default settings (`schema_roundtrip_default`).

Also here: the exported geometry (`exported_geometry_bohr`) and the refusals of `from_schema`
(`from_schema_refuses_…`: unrecognised name / version, bad fragment pattern, wrong array length, dropped atoms).
-/
namespace QcelVerif.FromArrays

/-- **Exported geometry.** The geometry in the schema is the stored geometry when the record is in Bohr;
otherwise every coordinate is ONE rounded product with the factor used: the record's own
`input_units_to_au` when it is in Angstrom and has one, else `conversion_factor(units, "Bohr")`.
Both dtypes. -/
theorem exported_geometry_bohr (P : SchemaParams) (r : Molrec) (v : Int) :
    (toSchemaU P r v).body.geom = some (exportGeom P r) ∧
    (r.units = sBohr → exportGeom P r = r.geom) ∧
    (r.units = sAngstrom → ∀ f, r.iutau = some f → exportGeom P r = r.geom.map (fun x => P.fl (x * f))) ∧
    (r.units = sAngstrom → r.iutau = none → exportGeom P r = r.geom.map (fun x => P.fl (x * P.cf sAngstrom))) := by
  refine ⟨rfl, exportGeom_bohr P r, ?_, ?_⟩
  · intro hu f hf
    simp [exportGeom, exportFactor, hu, hf, sAngstrom_ne_sBohr]
  · intro hu hf
    simp [exportGeom, exportFactor, hu, hf, sAngstrom_ne_sBohr]

/-- the export keeps three coordinates per atom -/
theorem exported_geometry_length (P : SchemaParams) (r : Molrec) : (exportGeom P r).length = r.geom.length := by
  unfold exportGeom
  split <;> simp

/-- the exported geometry of a record that satisfies the invariant holds three coordinates per atom -/
theorem Inv.exportGeom_length {valid a st tc} {r : Molrec} (I : Inv valid a st tc r) (P : SchemaParams) :
    (exportGeom P r).length = 3 * r.elem.length := by
  rw [exported_geometry_length, I.lengths.2.2.2.2.2]

/-- for a record in Bohr (and `nonphysical=False`) `toSchemaU` is `toSchema` of `Model/FromArrays.lean` -/
theorem toSchemaU_bohr (P : SchemaParams) (r : Molrec) (v : Int) (hu : r.units = sBohr) (hn : P.nonphysical = false) :
    toSchemaU P r v = toSchema P.formula r v := by
  unfold toSchemaU toSchema
  rw [exportGeom_bohr P r hu, hn]

/-- from_schema.py:29-41: is `schema_name` / `schema_version` one of the two recognised combinations -/
def recognised (s : Schema) : Bool :=
  ((startsWith (s.schemaName.getD []) "qc_schema".toList || startsWith (s.schemaName.getD []) "qcschema".toList)
      && s.schemaVersion == some 1)
    || (startsWith (s.schemaName.getD []) "qcschema_molecule".toList && s.schemaVersion == some 2)

/-- the fragment pattern `from_schema` works with (43-46) -/
def patternOf (s : Schema) : List (List Nat) := s.fragments.getD [List.range ((s.body.elem.getD []).length)]

theorem fromSchema_unfold (env : Env) (s : Schema) :
    fromSchema env s =
      if !recognised s then .error .validation
      else match contiguize (patternOf s) s.body with
        | .error e => .error e
        | .ok cg => fromArrays env { s.body with
            units := sBohr, iutau := none, seps := some cg.seps
            minimal := false, speclabel := false, zgf := false
            mtol := dfltMtol, tooclose := dfltTooclose } := rfl

/-- `from_schema` on a `to_schema` dictionary reaches `from_arrays` with the arguments `schemaInp` -/
theorem fromSchema_toSchemaU (env : Env) (P : SchemaParams) (r : Molrec) (v : Int) (hv : v = 1 ∨ v = 2)
    {valid a st tc} (I : Inv valid a st tc r) (hn : r.elem.length ≠ 0) :
    fromSchema env (toSchemaU P r v) = fromArrays env (schemaInp P r) := by
  obtain ⟨l1, l2, l3, l4, l5, _⟩ := I.lengths
  have hl := I.exportGeom_length P
  have hnat : (exportGeom P r).length / 3 = r.elem.length := by omega
  obtain ⟨rows, hrows, hlen⟩ := rows3_of_length r.elem.length (exportGeom P r) hl
  obtain ⟨cg, hcg, hcs⟩ := contiguize_pattern r.elem.length r.seps (toSchemaU P r v).body (exportGeom P r) rows
    (I.frag_nonempty hn) rfl hrows hlen (lenOk_map_some l1) (lenOk_map_some l2) (lenOk_map_some rfl)
    (lenOk_map_some l3) (lenOk_map_some l4) (lenOk_map_some l5)
  have hrec : recognised (toSchemaU P r v) = true := by rcases hv with rfl | rfl <;> rfl
  have hpat : patternOf (toSchemaU P r v) = npSplit (List.range r.elem.length) r.seps := by
    simp only [patternOf, toSchemaU, hnat, Option.getD_some]
  rw [fromSchema_unfold, hrec, hpat, hcg]
  simp only [Bool.not_true, Bool.false_eq_true, if_false, hcs]
  simp only [toSchemaU, schemaInp, hnat]

/-- **Schema round trip** (dtype 1 and 2; any number of atoms and fragments; any reconciler).
A record satisfying the invariant, with at least one atom, whose exported geometry passes the default
overlap screen and whose atoms re-validate to themselves under `from_schema`'s settings
(`speclabel=False`, the caller's `nonphysical`, default `mtol`), is returned by
`from_schema (to_schema r v)` as `schemaImage P r`: the same record in Bohr — field by field
`units = "Bohr"`, no `input_units_to_au`, `name` filled in (`formula_generator`), geometry as exported,
canonical separators; `comment`, bonds, all six per-atom arrays, total / fragment charges and
multiplicities, frame flags and point group unchanged. -/
theorem schema_roundtrip (env : Env) (P : SchemaParams) (r : Molrec) (v : Int) (hv : v = 1 ∨ v = 2)
    {valid : NucSettings → Nuc → Prop} {st : NucSettings} {tc : Rat} (I : Inv valid env.angToAu st tc r)
    (hn : r.elem.length ≠ 0)
    (hgeo : validateGeometry dfltTooclose (exportGeom P r) = .ok (exportGeom P r))
    (hre : ∀ u ∈ recNucs r, env.recon (schemaSettings P) (clueOf u) = .ok u) :
    fromSchema env (toSchemaU P r v) = .ok (schemaImage P r) := by
  rw [fromSchema_toSchemaU env P r v hv I hn]
  have hl := I.exportGeom_length P
  have hgne : exportGeom P r ≠ [] := by
    intro h0
    rw [h0] at hl
    simp only [List.length_nil] at hl
    omega
  have hseps : (schemaInp P r).seps = some (canonSeps r.elem.length r.seps) := by
    have hnat : (exportGeom P r).length / 3 = r.elem.length := by omega
    simp only [schemaInp, hnat]
  exact fromArrays_feed I I.cols_recNucs ⟨rfl, rfl, rfl, rfl, rfl, rfl, rfl, rfl, rfl, rfl, rfl, rfl, rfl, rfl, rfl⟩
    (missingGeom_of_geom rfl hgne) (exported_geometry_length P r) hgeo rfl (Or.inr rfl) rfl (fun x hx => by cases hx) hre
    hseps (length_canonSeps _ _) (fun l hl => npSplit_canonSeps l _ hl r.seps)

/-! ## the hypotheses, executable; sufficient conditions -/

/-- the driver's test (`Driver/C04c.lean`, op `TSh`) decides the three extra hypotheses of `schema_roundtrip` -/
theorem roundtripHypB_iff (env : Env) (P : SchemaParams) (r : Molrec) :
    roundtripHypB env P r = true ↔
      (r.elem.length ≠ 0 ∧ validateGeometry dfltTooclose (exportGeom P r) = .ok (exportGeom P r) ∧
       ∀ u ∈ recNucs r, env.recon (schemaSettings P) (clueOf u) = .ok u) := by
  unfold roundtripHypB
  simp only [Bool.and_eq_true, bne_iff_ne, ne_eq, List.all_eq_true, feedClue_eq_clueOf]
  constructor
  · rintro ⟨⟨h1, h2⟩, h3⟩
    refine ⟨h1, ?_, ?_⟩
    · cases hx : validateGeometry dfltTooclose (exportGeom P r) with
      | ok g => rw [(validateGeometry_ok hx).1]
      | error e => rw [hx] at h2; cases h2
    · intro u hu
      have := h3 u hu
      cases hx : env.recon (schemaSettings P) (clueOf u) with
      | ok u' => rw [hx] at this; simp only [decide_eq_true_eq] at this; rw [this]
      | error e => rw [hx] at this; cases this
  · rintro ⟨h1, h2, h3⟩
    refine ⟨⟨h1, by rw [h2]⟩, ?_⟩
    intro u hu
    rw [h3 u hu]
    simp

/-- a record in Bohr validated with a threshold not below the default one passes the default screen
unchanged (`from_schema` has no `tooclose=` keyword) -/
theorem geometry_hyp_of_bohr (P : SchemaParams) (r : Molrec) {valid a st tc} (I : Inv valid a st tc r)
    (hu : r.units = sBohr) (htc : dfltTooclose * dfltTooclose ≤ tc * tc) :
    validateGeometry dfltTooclose (exportGeom P r) = .ok (exportGeom P r) := by
  rw [exportGeom_bohr P r hu]
  obtain ⟨rows, hr, _, hp⟩ := I.geom
  exact validateGeometry_of_pairwise hr (pairwise_tooclose_mono htc hp)

/-- `from_schema` never returns an atom-less record (it calls `from_arrays` with `missing_enabled_return='error'`) -/
theorem fromSchema_nonempty {env : Env} {s : Schema} {r : Molrec} (h : fromSchema env s = .ok r) :
    r.elem.length ≠ 0 := by
  obtain ⟨seps, hfa⟩ := fromSchema_ok h
  have hl := (from_arrays_inv_plain hfa).lengths.2.2.2.2.2
  obtain ⟨g, _, _, _, _, _, _, hg0, _, _, _, _, _, _, _, rfl⟩ := fromArrays_ok hfa
  rcases missingGeom_ok hg0 with ⟨hne, _⟩ | ⟨_, hmin⟩
  · intro h0
    rw [h0] at hl
    exact hne (List.length_eq_zero_iff.1 hl)
  · cases hmin

/-- **Round trip of a record returned by `from_arrays`** — any reconciler that is idempotent (`NucIdem`,
C06), the record validated with the default `mtol` and the `nonphysical` flag later given to `from_schema`. -/
theorem schema_roundtrip_of_from_arrays (env : Env) (hid : NucIdem env.recon) (P : SchemaParams)
    (i : Inp) (r : Molrec) (v : Int) (hv : v = 1 ∨ v = 2) (h : fromArrays env i = .ok r)
    (hmt : i.mtol = dfltMtol) (hnp : i.nonphysical = P.nonphysical) (hn : r.elem.length ≠ 0)
    (hgeo : validateGeometry dfltTooclose (exportGeom P r) = .ok (exportGeom P r)) :
    fromSchema env (toSchemaU P r v) = .ok (schemaImage P r) := by
  have I := from_arrays_inv_plain h
  refine schema_roundtrip env P r v hv I hn hgeo ?_
  rw [schemaSettings_eq hmt hnp]
  exact recNucs_forall h fun c u hc => hid _ c u hc

theorem schemaImage_units (P : SchemaParams) (r : Molrec) : (schemaImage P r).units = sBohr := rfl

/-- `schemaImage` is a projection: the image of an image is itself -/
theorem schemaImage_idem (P : SchemaParams) (r : Molrec) : schemaImage P (schemaImage P r) = schemaImage P r := by
  have hg : exportGeom P (schemaImage P r) = exportGeom P r := exportGeom_bohr P _ rfl
  unfold schemaImage at hg ⊢
  simp only [hg, canonSeps_idem, Option.getD_some]

/-- a record in Bohr, without `input_units_to_au`, with a name and canonical (non-negative) separators is
its own image: the round trip returns exactly the record -/
theorem schemaImage_self (P : SchemaParams) (r : Molrec) (hu : r.units = sBohr) (hi : r.iutau = none)
    (nm : String) (hnm : r.name = some nm) (hs : canonSeps r.elem.length r.seps = r.seps) :
    schemaImage P r = r := by
  cases r
  simp only at hu hi hnm hs
  subst hu hi hnm
  simp [schemaImage, exportGeom, hs]

/-- **Second round trip = identity.**  Under the hypotheses of `schema_roundtrip`, the record `r'` returned
by the first round trip, exported again (either dtype) and read back, is returned unchanged: `r'' = r'`. -/
theorem schema_roundtrip_twice (env : Env) (P : SchemaParams) (r : Molrec) (v v' : Int)
    (hv : v = 1 ∨ v = 2) (hv' : v' = 1 ∨ v' = 2)
    {valid : NucSettings → Nuc → Prop} {st : NucSettings} {tc : Rat} (I : Inv valid env.angToAu st tc r)
    (hn : r.elem.length ≠ 0)
    (hgeo : validateGeometry dfltTooclose (exportGeom P r) = .ok (exportGeom P r))
    (hre : ∀ u ∈ recNucs r, env.recon (schemaSettings P) (clueOf u) = .ok u) :
    fromSchema env (toSchemaU P r v) = .ok (schemaImage P r) ∧
    fromSchema env (toSchemaU P (schemaImage P r) v') = .ok (schemaImage P r) := by
  have h1 := schema_roundtrip env P r v hv I hn hgeo hre
  refine ⟨h1, ?_⟩
  have I' := (from_schema_inv env (fun _ _ => True) (fun _ _ _ _ => trivial) _ _ h1).1
  have h2 := schema_roundtrip env P (schemaImage P r) v' hv' I' hn
    (by rw [exportGeom_bohr P _ rfl]; exact hgeo) hre
  rw [schemaImage_idem] at h2
  exact h2

/-- **Every record that came out of `from_schema` round-trips, and the second trip is the identity**, for any
reconciler that reproduces the record's atoms under `from_schema`'s settings.  `tooclose`, the units and the
non-empty geometry need no hypothesis: `from_schema` fixed them itself. -/
theorem schema_roundtrip_twice_of_schema (env : Env) (P : SchemaParams) (s : Schema) (r : Molrec) (v v' : Int)
    (hv : v = 1 ∨ v = 2) (hv' : v' = 1 ∨ v' = 2) (h : fromSchema env s = .ok r)
    (hre : ∀ u ∈ recNucs r, env.recon (schemaSettings P) (clueOf u) = .ok u) :
    fromSchema env (toSchemaU P r v) = .ok (schemaImage P r) ∧
    fromSchema env (toSchemaU P (schemaImage P r) v') = .ok (schemaImage P r) := by
  obtain ⟨I, hu⟩ := from_schema_inv env (fun _ _ => True) (fun _ _ _ _ => trivial) s r h
  exact schema_roundtrip_twice env P r v v' hv hv' I (fromSchema_nonempty h)
    (geometry_hyp_of_bohr P r I hu Rat.le_refl) hre

/-- **Exact fixed point**: a validated record in Bohr, named, without `input_units_to_au`, with non-negative
separators comes back from the round trip as itself. -/
theorem schema_roundtrip_bohr_named (env : Env) (P : SchemaParams) (r : Molrec) (v : Int) (hv : v = 1 ∨ v = 2)
    {valid : NucSettings → Nuc → Prop} {st : NucSettings} {tc : Rat} (I : Inv valid env.angToAu st tc r)
    (hn : r.elem.length ≠ 0) (hu : r.units = sBohr) (hi : r.iutau = none) (nm : String) (hnm : r.name = some nm)
    (hpos : ∀ s ∈ r.seps, 0 ≤ s) (htc : dfltTooclose * dfltTooclose ≤ tc * tc)
    (hre : ∀ u ∈ recNucs r, env.recon (schemaSettings P) (clueOf u) = .ok u) :
    fromSchema env (toSchemaU P r v) = .ok r := by
  have h := schema_roundtrip env P r v hv I hn (geometry_hyp_of_bohr P r I hu htc) hre
  rw [schemaImage_self P r hu hi nm hnm (canonSeps_of_nonneg _ _ hpos (I.frag_nonempty hn))] at h
  exact h

/-! ## with the C06 model of `reconcile_nucleus` as the reconciler -/

/-- round trip of a `from_arrays` record when the reconciler reproduces the record's own atoms -/
theorem schema_roundtrip_c06_of (rd : Rat → Rat) (angToAu : Rat) (P : SchemaParams)
    (i : Inp) (r : Molrec) (v : Int) (hv : v = 1 ∨ v = 2) (h : fromArrays (envC06 rd angToAu) i = .ok r)
    (hmt : i.mtol = dfltMtol) (hnp : i.nonphysical = P.nonphysical) (hn : r.elem.length ≠ 0)
    (hgeo : validateGeometry dfltTooclose (exportGeom P r) = .ok (exportGeom P r))
    (hid : ∀ u ∈ recNucs r, reconOfC06 rd { nucSettings i with speclabel := false } (clueOf u) = .ok u) :
    fromSchema (envC06 rd angToAu) (toSchemaU P r v) = .ok (schemaImage P r) := by
  have I := from_arrays_inv_c06 rd angToAu i r h
  refine schema_roundtrip (envC06 rd angToAu) P r v hv I hn hgeo ?_
  rw [schemaSettings_eq hmt hnp]
  exact hid

/-- **Round trip, C06 model — PARTIAL.**  A record returned by `from_arrays` (C06 model over the shipped
table; default `mtol`; the `nonphysical` flag later given to `from_schema`) with at least one atom, whose
exported geometry passes the default overlap screen and all of whose atoms are `SelfConsistent`, comes back
from `from_schema (to_schema r v)` as `schemaImage P r`.  Any odd rounding function.
Without `hself`: proved for `rd64` and `nonphysical = False` as `schema_roundtrip_default`
(`Props/C04Default.lean`); also when every mass was supplied (`schema_roundtrip_c06_masses`) and for plain
molecules (`schema_roundtrip_c06_plain`).  `hself` is evaluated by the driver on every record of the run
(op `TSh`).  A record built with a wide window (`mtol = 2`, excluded by `hmt`) has an atom that is refused
when fed back: `from_arrays_not_idempotent_c06`.
-- FULL: the same without `hself`; not proved for `nonphysical = True` with a mass number supplied without a
-- mass, nor for a rounding function other than `rd64`. -/
theorem schema_roundtrip_c06_partial (rd : Rat → Rat) (hodd : ∀ x, rd (-x) = -(rd x)) (angToAu : Rat)
    (P : SchemaParams) (i : Inp) (r : Molrec) (v : Int) (hv : v = 1 ∨ v = 2)
    (h : fromArrays (envC06 rd angToAu) i = .ok r)
    (hmt : i.mtol = dfltMtol) (hnp : i.nonphysical = P.nonphysical) (hn : r.elem.length ≠ 0)
    (hgeo : validateGeometry dfltTooclose (exportGeom P r) = .ok (exportGeom P r))
    (hself : ∀ u ∈ recNucs r, SelfConsistent Nucleus.shippedN rd dfltMtol u) :
    fromSchema (envC06 rd angToAu) (toSchemaU P r v) = .ok (schemaImage P r) := by
  apply schema_roundtrip_c06_of rd angToAu P i r v hv h hmt hnp hn hgeo
  intro u hu
  obtain ⟨c, _, hc⟩ := recNucs_answers h u hu
  exact recon_c06_idem_partial Nucleus.shippedN rd _ Nucleus.shipped_coherent.1 shipped_roundtrips hodd (nucSettings i) c u hc
    (by rw [show (nucSettings i).mtol = dfltMtol from hmt]; exact hself u hu)

/-- **Round trip, C06 model, every mass supplied** (each supplied `m` with `rd (rd m) = rd m`, e.g. already a
double): no hypothesis on the record's atoms. -/
theorem schema_roundtrip_c06_masses (rd : Rat → Rat) (hodd : ∀ x, rd (-x) = -(rd x)) (angToAu : Rat)
    (P : SchemaParams) (i : Inp) (r : Molrec) (v : Int) (hv : v = 1 ∨ v = 2)
    (h : fromArrays (envC06 rd angToAu) i = .ok r)
    (hmt : i.mtol = dfltMtol) (hnp : i.nonphysical = P.nonphysical) (hn : r.elem.length ≠ 0)
    (hgeo : validateGeometry dfltTooclose (exportGeom P r) = .ok (exportGeom P r))
    (l : List (Option Rat)) (hl : i.mass = some l) (hall : ∀ x ∈ l, ∃ m, x = some m ∧ rd (rd m) = rd m) :
    fromSchema (envC06 rd angToAu) (toSchemaU P r v) = .ok (schemaImage P r) := by
  exact schema_roundtrip_c06_of rd angToAu P i r v hv h hmt hnp hn hgeo
    (recNucs_reproduced_of_masses rd hodd angToAu i r h l hl hall)

theorem dfltMtol_nonneg : (0 : Rat) ≤ dfltMtol := by decide +kernel

/-- **Round trip, plain molecules — no hypothesis on the reconciler or the rounding function** (`rd64`,
shipped table): no `elea`, no `mass`, labels not consulted as nucleus specifications. -/
theorem schema_roundtrip_c06_plain (angToAu : Rat)
    (P : SchemaParams) (i : Inp) (r : Molrec) (v : Int) (hv : v = 1 ∨ v = 2)
    (h : fromArrays (envC06 Nucleus.rd64 angToAu) i = .ok r)
    (hmt : i.mtol = dfltMtol) (hnp : i.nonphysical = P.nonphysical) (hn : r.elem.length ≠ 0)
    (hgeo : validateGeometry dfltTooclose (exportGeom P r) = .ok (exportGeom P r))
    (hA : i.elea = none) (hM : i.mass = none) (hl : i.speclabel = false ∨ i.elbl = none) :
    fromSchema (envC06 Nucleus.rd64 angToAu) (toSchemaU P r v) = .ok (schemaImage P r) := by
  apply schema_roundtrip_c06_partial Nucleus.rd64 rd64_odd angToAu P i r v hv h hmt hnp hn hgeo
  rw [← hmt]
  exact recNucs_selfConsistent_of_plain angToAu i r h hA hM hl (by rw [hmt]; exact dfltMtol_nonneg)

/-- **Every record that came out of `from_schema` round-trips, and the second trip is the identity** (C06
model; `rd` odd; the masses in the dictionary all given and already rounded).  Whatever dictionary `s` was
read (a user's, version 1 or 2, partial arrays): the record `r` it produced is exported and read back as
`schemaImage P r`, and that image exported and read back is returned unchanged.  `tooclose`, `mtol`, the
non-empty geometry need no hypothesis here: `from_schema` fixed them itself. -/
theorem schema_roundtrip_twice_c06 (rd : Rat → Rat) (hodd : ∀ x, rd (-x) = -(rd x)) (angToAu : Rat)
    (P : SchemaParams) (s : Schema) (r : Molrec) (v v' : Int) (hv : v = 1 ∨ v = 2) (hv' : v' = 1 ∨ v' = 2)
    (h : fromSchema (envC06 rd angToAu) s = .ok r) (hnp : s.body.nonphysical = P.nonphysical)
    (l : List (Option Rat)) (hl : s.body.mass = some l) (hall : ∀ x ∈ l, ∃ m, x = some m ∧ rd (rd m) = rd m) :
    fromSchema (envC06 rd angToAu) (toSchemaU P r v) = .ok (schemaImage P r) ∧
    fromSchema (envC06 rd angToAu) (toSchemaU P (schemaImage P r) v') = .ok (schemaImage P r) := by
  obtain ⟨seps, hfa⟩ := fromSchema_ok h
  refine schema_roundtrip_twice_of_schema _ P s r v v' hv hv' h fun u hu => ?_
  have := recNucs_reproduced_of_masses rd hodd angToAu _ r hfa l hl hall u hu
  simpa [schemaSettings, nucSettings, hnp, envC06, reconOfC06] using this

/-! ## `from_schema` refuses malformed dictionaries (never repairs) -/

/-- **Unrecognised schema name / version ⇒ ValidationError** (wrong name, version other than 1 / 2, a
version-1 name with version 2, either key missing). -/
theorem from_schema_refuses_unrecognised (env : Env) (s : Schema) (h : recognised s = false) :
    fromSchema env s = .error .validation := by
  rw [fromSchema_unfold, h]; rfl

/-- **Malformed fragment pattern ⇒ ValidationError**: a pattern whose concatenation is not `0, 1, …, nat-1`
— atoms skipped, repeated, out of range, fragments interleaved (non-contiguous), or a single fragment that
is offset — is refused whatever else the dictionary holds; no atom is ever reordered or dropped. -/
theorem from_schema_refuses_bad_pattern (env : Env) (s : Schema)
    (h : (patternOf s).flatten ≠ List.range (patternOf s).flatten.length) :
    fromSchema env s = .error .validation := by
  rw [fromSchema_unfold]
  split
  · rfl
  · rw [contiguize_refuses_bad_pattern _ _ h]

/-- **Single offset fragment ⇒ ValidationError** (`fragments = [[1, 2, 3]]` for three atoms): one fragment
that is not `[0, …, len-1]`. -/
theorem from_schema_refuses_single_offset (env : Env) (s : Schema) (p : List Nat)
    (hf : s.fragments = some [p]) (hp : p ≠ List.range p.length) :
    fromSchema env s = .error .validation := by
  apply from_schema_refuses_bad_pattern
  simp only [patternOf, hf, Option.getD_some, List.flatten_cons, List.flatten_nil, List.append_nil]
  exact hp

/-- **Per-atom array of the wrong length ⇒ ValidationError** (one entry too many or too few in
`mass_numbers`, `atomic_numbers`, `symbols`, `masses`, `real`, `atom_labels`). -/
theorem from_schema_refuses_wrong_length (env : Env) (s : Schema) (g : List Rat) (hg : s.body.geom = some g)
    (hm : LengthMismatch s.body (g.length / 3)) : fromSchema env s = .error .validation := by
  rw [fromSchema_unfold]
  split
  · rfl
  · split
    · rename_i e he
      rw [contiguize_error he]
    · rename_i cg _
      exact refuses_length_mismatch env _ g hg hm

/-- **Geometry that does not hold three coordinates for each atom of the pattern ⇒ ValidationError**
(not a multiple of 3, or "dropped atoms"). -/
theorem from_schema_refuses_dropped_atoms (env : Env) (s : Schema) (g : List Rat) (hg : s.body.geom = some g)
    (hne : g.length ≠ 3 * (patternOf s).flatten.length) : fromSchema env s = .error .validation := by
  rw [fromSchema_unfold]
  split
  · rfl
  · split
    · rename_i e he
      rw [contiguize_error he]
    · rename_i cg hc
      exfalso
      obtain ⟨rows, hr, hl⟩ := contiguize_ok_geom hc
      rw [hg] at hr
      have := rows3_length _ _ hr
      simp only [Option.getD_some] at this
      omega

/-! ## why the extra hypotheses of `schema_roundtrip` cannot be dropped (kernel-checked counter-examples, toy
reconciler of `Props/C04.lean`); tests of non-vacuity -/

instance : DecidableEq (Except Err (List Rat)) := fun a b =>
  match a, b with
  | .ok x, .ok y => if h : x = y then isTrue (h ▸ rfl) else isFalse (fun e => h (Except.ok.inj e))
  | .error x, .error y => if h : x = y then isTrue (h ▸ rfl) else isFalse (fun e => h (Except.error.inj e))
  | .ok _, .error _ => isFalse (fun e => by cases e)
  | .error _, .ok _ => isFalse (fun e => by cases e)

/-- parameters for the examples: exact products, a fixed Å→a₀ factor, a constant formula -/
def toyP : SchemaParams := { formula := fun _ => "X2", cf := fun _ => 189 / 100, fl := fun x => x, nonphysical := false }

/-- the atom-less record (`from_arrays(geom=[], missing_enabled_return='minimal')`) -/
def emptyRec : Molrec :=
  { units := sBohr, iutau := none, name := none, comment := none, conn := none, geom := [], elea := [], elez := [],
    elem := [], mass := [], real := [], elbl := [], seps := [], c := 0, fc := [0], m := 1, fm := [1],
    fixCom := false, fixOrient := false, fixSymm := none }

/-- the atom-less call `from_arrays(geom=None, …, missing_enabled_return='minimal')` of the toy input -/
def emptyInp : Inp :=
  { toyInp with geom := none, elez := none, seps := none, c := none, conn := none
                fixSymm := none, fixOrient := .none, minimal := true }

-- test [decide +kernel]: the atom-less record is what `from_arrays` returns for it
theorem emptyRec_ok : fromArrays toyEnv emptyInp = .ok emptyRec := by decide +kernel

/-- **`hn` is needed**: the atom-less record satisfies the invariant (by `from_arrays_inv_plain`), but its dictionary
is refused by `from_schema` (which calls `from_arrays` with `missing_enabled_return='error'`). -/
theorem schema_roundtrip_needs_atoms :
    Inv (fun _ _ => True) toyEnv.angToAu ⟨true, false, 1 / 1000⟩ (1 / 10) emptyRec ∧
    fromSchema toyEnv (toSchemaU toyP emptyRec 2) = .error .validation :=
  ⟨from_arrays_inv_plain emptyRec_ok, by decide +kernel⟩

/-- two atoms 1/20 a₀ apart, validated with `tooclose = 1/100` -/
def closeInp : Inp := { toyInp with geom := some [0, 0, 0, 0, 0, 1 / 20], tooclose := 1 / 100, mtol := dfltMtol }
def closeRec : Molrec := { toyRecOut with geom := [0, 0, 0, 0, 0, 1 / 20] }

theorem closeRec_ok : fromArrays toyEnv closeInp = .ok closeRec := by decide +kernel

/-- **`hgeo` is needed**: a record validated in Bohr with a smaller overlap threshold satisfies the invariant and
re-validates atom by atom, but `from_schema` (no `tooclose=` keyword) refuses its dictionary. -/
theorem schema_roundtrip_needs_geometry :
    Inv (fun _ _ => True) toyEnv.angToAu (nucSettings closeInp) (1 / 100) closeRec ∧
    fromSchema toyEnv (toSchemaU toyP closeRec 1) = .error .validation :=
  ⟨from_arrays_inv_plain closeRec_ok, by decide +kernel⟩

/-- the toy input of `Props/C04.lean` in Angstrom with a pinned `input_units_to_au`, default `mtol` / `tooclose` -/
def toyInpA : Inp :=
  { toyInp with units := "ANGSTROM".toList, iutau := some (19 / 10), mtol := dfltMtol, tooclose := dfltTooclose
                seps := some [-1] }
def toyRecA : Molrec := { toyRecOut with units := sAngstrom, iutau := some (19 / 10), seps := [-1] }

/-- test [decide +kernel]: `from_arrays` (toy reconciler) returns `toyRecA` for `toyInpA` -/
theorem toyA_ok : fromArrays toyEnv toyInpA = .ok toyRecA := by decide +kernel

/-- the image of `toyRecA` spelled out: Bohr, no factor, name filled in, geometry × 19/10, separator 1 -/
theorem toyImageA : schemaImage toyP toyRecA = { toyRecOut with name := some "X2", geom := [0, 0, 0, 0, 0, 19 / 5] } := by
  decide +kernel

/-- test: the hypotheses of `schema_roundtrip_of_from_arrays` (hence of `schema_roundtrip`) are met by a two-atom,
two-fragment record stored in Angstrom with its own conversion factor, a NEGATIVE separator, a bond and a point
group — by the theorem -/
example : fromSchema toyEnv (toSchemaU toyP toyRecA 1) =
    .ok { toyRecOut with name := some "X2", geom := [0, 0, 0, 0, 0, 19 / 5] } :=
  toyImageA ▸ schema_roundtrip_of_from_arrays toyEnv toyRec_idem toyP toyInpA toyRecA 1 (Or.inl rfl) toyA_ok rfl rfl
    (by decide) (by decide +kernel)

/-- test: … and the second round trip (other dtype) is the identity, by `schema_roundtrip_twice` -/
example : fromSchema toyEnv (toSchemaU toyP { toyRecOut with name := some "X2", geom := [0, 0, 0, 0, 0, 19 / 5] } 2) =
    .ok { toyRecOut with name := some "X2", geom := [0, 0, 0, 0, 0, 19 / 5] } :=
  toyImageA ▸ (schema_roundtrip_twice toyEnv toyP toyRecA 1 2 (Or.inl rfl) (Or.inr rfl) (from_arrays_inv_plain toyA_ok)
    (by decide) (by decide +kernel) fun u hu => by
      obtain ⟨c, _, hc⟩ := recNucs_answers toyA_ok u hu
      exact toyRec_idem (nucSettings toyInpA) c u hc).2

/-- test (C06 model, shipped table, `rd64`): the water-like record of `Props/C04C06.lean` (an isotope given by label
with its mass, a ghost, two fragments) meets the hypotheses of `schema_roundtrip_c06_partial` — by the theorem -/
example : fromSchema (envC06 Nucleus.rd64 1) (toSchemaU toyP hdoRec 2) = .ok (schemaImage toyP hdoRec) :=
  schema_roundtrip_c06_partial Nucleus.rd64 rd64_odd 1 toyP hdoInp hdoRec 2 (Or.inr rfl) hdo_ok rfl rfl (by decide)
    (by decide +kernel) hdo_selfConsistent

/-- tests: refusals of `from_schema` on the toy dictionary -/
example : fromSchema toyEnv { toSchemaU toyP toyRecOut 2 with schemaVersion := some 3 } = .error .validation :=
  from_schema_refuses_unrecognised _ _ (by decide)
example : fromSchema toyEnv { toSchemaU toyP toyRecOut 2 with fragments := some [[1], [0]] } = .error .validation :=
  from_schema_refuses_bad_pattern _ _ (by decide)
example : fromSchema toyEnv { toSchemaU toyP toyRecOut 2 with fragments := some [[1, 2]] } = .error .validation :=
  from_schema_refuses_single_offset _ _ [1, 2] rfl (by decide)
example : fromSchema toyEnv { toSchemaU toyP toyRecOut 2 with fragments := some [[0], [2]] } = .error .validation :=
  from_schema_refuses_bad_pattern _ _ (by decide)

end QcelVerif.FromArrays
