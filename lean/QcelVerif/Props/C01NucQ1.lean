import QcelVerif.Props.C01NucRow
/-! C01: quarter 1 of the nuclide table (`C01Nuclides` assembles the four quarters). -/
namespace QcelVerif.PT
open QcelVerif
theorem tree_rows_q1 : Gen.PT.nuclidesQ1.all treeRowOk = true := by decide +kernel
theorem nuclides_resolve_q1 : Gen.PT.nuclidesQ1.all nuclideRowOk = true :=
  all_of_all₂ (p₁ := spelledOk) (by decide +kernel) tree_rows_q1 fun _ => nuclideRowOk_of
theorem nuclides_anycase_q1 : Gen.PT.nuclidesQ1.all nuclideRowAnycaseOk = true :=
  all_mono _ (fun _ => nuclideRowAnycaseOk_of) nuclides_resolve_q1
theorem masses_float_q1 : Gen.PT.nuclidesQ1.all massFloatOk = true := by rw [massFloatOk_eq]; decide +kernel
end QcelVerif.PT
