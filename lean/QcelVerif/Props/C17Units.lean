import QcelVerif.Model.Radii
import QcelVerif.Lemmas.RadiiF64
/-!
# C17 — the unit clauses for ANY radius table (uses the general facts about the rounding model)
-/
namespace QcelVerif.Radii
open QcelVerif QcelVerif.PStr QcelVerif.PT

/-- **The native unit returns the tabulated number exactly** (any table, any decimal): when the
factor is 1 the answer is `float(Decimal)` itself, because a double times `1.0` is that double. -/
theorem native_unit_exact_any (t : Table) (conv : Bytes → Option Rat) (k : Nat) (m : Option Rat)
    (d : Datum) (n : Bool) (c : Nat) (e : Int)
    (hd : lookupK t k = some d) (hdec : d.data = .dec n c e) (hf : conv d.units = some 1) :
    getByKey t conv k false m = .ok (.value (ofDec n c e)) := by
  have h : getByKey t conv k false m = .ok (.value (fmul 1 (ofDec n c e))) := by
    simp [getByKey, hd, Datum.toUnits, hf, hdec, Payload.scale]
  rw [h]
  unfold ofDec
  rw [fmul_one_rnd64]

/-- **The converted value is the factor times the tabulated decimal** up to the two roundings the
code performs (`float(Decimal)` and one multiplication): relative error at most `2u + u²`,
`u = 2^-53`, for every factor and every decimal. -/
theorem unit_value_accuracy (f : Rat) (n : Bool) (c : Nat) (e : Int) :
    |fmul f (ofDec n c e) - f * decVal n c e|
      ≤ (2 * (2 : Rat) ^ (-53 : Int) + ((2 : Rat) ^ (-53 : Int)) ^ 2) * |f * decVal n c e| := by
  have h := rel_err_compose (F64.zpow2_pos _).le (mul_rnd64_err f (decVal n c e)) (rnd64_err (f * rnd64 (decVal n c e)))
  rw [show 2 * (2 : Rat) ^ (-53 : Int) + ((2 : Rat) ^ (-53 : Int)) ^ 2
    = (1 + (2 : Rat) ^ (-53 : Int)) * (1 + (2 : Rat) ^ (-53 : Int)) - 1 by ring]
  exact h

/-- **Linearity in the unit factor, exactly, for binary scalings**: scaling the factor by `2^k`
scales the result by exactly `2^k` (no additional rounding), for every entry. -/
theorem units_linear_pow2 (f x : Rat) (k : Int) : fmul ((2 : Rat) ^ k * f) x = (2 : Rat) ^ k * fmul f x := by
  unfold fmul
  rw [mul_assoc, rnd64_pow2_scale]

end QcelVerif.Radii
