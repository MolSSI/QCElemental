import QcelVerif.Gen.HashSrc
import QcelVerif.Props.C11Concrete
/-!
# C11 — the hand model computes what the SOURCE-DERIVED terms compute

`Gen/HashSrc.lean` is generated by `harness/c11_src.py:gen_hash_src` (python `ast`) from five regions of the source: the
body of `float_prep`, the loop of `Molecule.get_hash` (+ `hash_fields`), `Molecule.__eq__` and the `geometry_noise`
default / rounding branch of `Molecule.__init__` in `qcelemental/models/molecule.py`, and the `connectivity` block of
`qcelemental/molparse/from_arrays.py`.  Each is a term of the small syntax of `Model/HashAst.lean`, whose evaluator
(`Src.floatPrep`, `Src.srcPreimage`, `Src.srcHash`, `Src.srcMolEq`, `Src.srcPrepBonds`, `Src.srcConstruct`) is generic.

This file proves that the evaluator AT THE GENERATED TERMS equals `Model/Hash.lean`'s `prepArr` / `prepScalar` /
`preimage ∘ canon` / `hash` / `molEq` for all inputs, and `prepBonds` / `construct` for bond orders in [0, 5] (outside
that range the `connectivity` block raises: `src_prepBonds_rejects`).  It then restates the main theorems of
`Props/C11.lean` / `Props/C11Concrete.lean` over the source-derived functions.  A change in one of the five regions
changes a generated term and makes a proof of this file fail.
-/
namespace QcelVerif.Hash
open Src

/-- the translator recognised every region (otherwise it emits inert terms and `false` here) -/
theorem src_translated : Gen.translationOk = true := rfl

/-! ## `float_prep` -/

/-- the zero band written in the source, `|x| < 5 ** (-(around + 1))` on a value rounded to `k` decimals, is the model's -/
theorem src_zeroBand_eq (k : Nat) (r : Rd) :
    (Val.rd k r).below k (.pow 5 (.neg (.add .around (.lit 1)))) = zeroBand k r := by
  have h1 : ¬ (0 : Int) ≤ -((k : Int) + 1) := by omega
  have h2 : (-(-((k : Int) + 1))).toNat = k + 1 := by omega
  simp only [Val.below, ThrE.eval, IntE.eval, h1, if_false, h2, zeroBand]
  -- the source compares in `Int`, the model in `Nat`
  congr 1
  apply propext
  norm_cast
  rw [Nat.one_mul]

/-- the body the source runs on an array (an `ndarray` or a `list`), entry by entry, is `prepArr` -/
theorem src_arrBody : ∃ b, Gen.floatPrep.body? .ndarray = some b ∧ Gen.floatPrep.body? .list = some b ∧
    ∀ (fl : Rat → Rat) (k : Nat) (x : Dbl), runBody fl k b (.raw x) = .rd k (prepArr fl k x) := by
  refine ⟨_, rfl, rfl, fun fl k x => ?_⟩
  simp [runBody, runStmt, Val.toDbl, prepArr, src_zeroBand_eq, Val.setZero]
  split <;> rfl

/-- the body the source runs on a scalar (a `float` or an `int`) is `prepScalar` -/
theorem src_scalarBody : ∃ b, Gen.floatPrep.body? .float = some b ∧ Gen.floatPrep.body? .int = some b ∧
    ∀ (fl : Rat → Rat) (k : Nat) (x : Dbl), runBody fl k b (.raw x) = .rd k (prepScalar k x) := by
  refine ⟨_, rfl, rfl, fun fl k x => ?_⟩
  simp [runBody, runStmt, Val.toDbl, prepScalar, Val.isZero, Val.setZero]
  split <;> rfl

/-- **source-derived `float_prep`, list / ndarray argument = the model's `prepArr`, for every double and every `around`** -/
theorem src_prepArr_eq (fl : Rat → Rat) (k : Nat) (x : Dbl) :
    floatPrep Gen.floatPrep fl k .ndarray x = some (.rd k (prepArr fl k x))
    ∧ floatPrep Gen.floatPrep fl k .list x = some (.rd k (prepArr fl k x)) := by
  obtain ⟨b, h1, h2, hr⟩ := src_arrBody
  simp only [floatPrep, h1, h2, Option.map_some, hr, and_self]

/-- **source-derived `float_prep`, float / int argument = the model's `prepScalar`** -/
theorem src_prepScalar_eq (fl : Rat → Rat) (k : Nat) (x : Dbl) :
    floatPrep Gen.floatPrep fl k .float x = some (.rd k (prepScalar k x))
    ∧ floatPrep Gen.floatPrep fl k .int x = some (.rd k (prepScalar k x)) := by
  obtain ⟨b, h1, h2, hr⟩ := src_scalarBody
  simp only [floatPrep, h1, h2, Option.map_some, hr, and_self]

/-- any other class: `TypeError` -/
theorem src_prep_typeError (fl : Rat → Rat) (k : Nat) (x : Dbl) : floatPrep Gen.floatPrep fl k .other x = none := by
  simp [floatPrep, Gen.floatPrep, PrepFn.body?]

/-- test: `-0.0` through the array branch at 8 decimals is `+0.0` -/
example : floatPrep Gen.floatPrep id 8 .ndarray .negZero = some (.rd 8 ⟨false, 0⟩) := by decide +kernel

/-! ## `get_hash` -/

/-- an array field the source routes through `float_prep(·, k)` -/
theorem src_applyPrep_floats (fl : Rat → Rat) (k : Nat) (ty : PyType) (hty : ty = .ndarray ∨ ty = .list) (l : List Dbl) :
    applyPrep Gen.floatPrep fl k (.floats ty (l.map .raw)) = .floats .ndarray (l.map (fun x => .rd k (prepArr fl k x))) := by
  obtain ⟨b, h1, h2, hr⟩ := src_arrBody
  have hb : Gen.floatPrep.body? ty = some b := by rcases hty with rfl | rfl <;> assumption
  simp only [applyPrep, hb, List.map_map, Function.comp_def, hr]

theorem src_applyPrep_float (fl : Rat → Rat) (k : Nat) (x : Dbl) :
    applyPrep Gen.floatPrep fl k (.float (.raw x)) = .float (.rd k (prepScalar k x)) := by
  obtain ⟨b, h1, -, hr⟩ := src_scalarBody
  simp only [applyPrep, h1, hr]

section fields
variable {D : Type} (P : Params D) (rr : Dbl → List Char) (m : Mol)

/-- **the string the source's loop concatenates (fields of `hash_fields` in source order, each through the first
matching branch of the `if/elif` chain, `json.dumps`-ed) is the model's `preimage (canon m)`** — for every molecule,
every mass table / rounding / printing parameter, and whatever `repr` of an un-prepped double would print -/
theorem src_preimage_eq : srcPreimage Gen.floatPrep Gen.getHash P rr m = preimage P (canon P m) := by
  have hfields : Gen.getHash.fields = [.symbols, .masses, .molecular_charge, .molecular_multiplicity, .real, .geometry,
      .fragments, .fragment_charges, .fragment_multiplicities, .connectivity] := by
    simp [Gen.getHash]
  -- the four fields the chain routes through `float_prep`, before `json.dumps`
  have hm : srcFieldVal Gen.floatPrep Gen.getHash P m .masses
      = applyPrep Gen.floatPrep P.fl 6 (.floats .ndarray ((m.massesR P.massOf).map .raw)) := by
    simp [Gen.getHash, srcFieldVal, FieldTest.holds, getField]
  have hc : srcFieldVal Gen.floatPrep Gen.getHash P m .molecular_charge
      = applyPrep Gen.floatPrep P.fl 4 (.float (.raw m.charge)) := by
    simp [Gen.getHash, srcFieldVal, FieldTest.holds, getField]
  have hg : srcFieldVal Gen.floatPrep Gen.getHash P m .geometry
      = applyPrep Gen.floatPrep P.fl 8 (.floats .ndarray (m.geometry.map .raw)) := by
    simp [Gen.getHash, srcFieldVal, FieldTest.holds, getField]
  have hf : srcFieldVal Gen.floatPrep Gen.getHash P m .fragment_charges
      = applyPrep Gen.floatPrep P.fl 4 (.floats .list (m.fragChargesR.map .raw)) := by
    simp [Gen.getHash, srcFieldVal, FieldTest.holds, getField]
  unfold srcPreimage
  rw [hfields]
  simp only [List.map_cons, List.map_nil, hm, hc, hg, hf, src_applyPrep_floats _ _ _ (Or.inl rfl),
    src_applyPrep_floats _ _ _ (Or.inr rfl), src_applyPrep_float]
  simp [Gen.getHash, srcFieldVal, FieldTest.holds, getField, dumps, FieldVal.hasNdarray, renderList_map, renderVal,
    preimage, canon, MASS_NOISE, CHARGE_NOISE, GEOMETRY_NOISE]

/-- **source-derived `get_hash()` = the model's `hash`** -/
theorem src_hash_eq : srcHash Gen.floatPrep Gen.getHash P rr m = hash P m := by
  unfold srcHash hash
  rw [src_preimage_eq]

end fields

/-- the digest is `hashlib.sha1().hexdigest()` over `concat.encode("utf-8")`, `sort_keys` is not passed and the
`default=lambda x: x.ravel().tolist()` hook is -/
theorem src_digest_sha1_utf8 : Gen.getHash.digestSha1Hex = true ∧ Gen.getHash.encodingUtf8 = true
    ∧ Gen.getHash.dumps.sortKeys = false ∧ Gen.getHash.dumps.defaultRavelTolist = true := by
  simp [Gen.getHash]

/-! ## `__eq__` -/

/-- **source-derived `a == b` (two Molecule objects) never raises and is the model's `molEq`: equality of the two
`get_hash()` values, left operand `self`, right operand `other`**.
Scope note: like `molEq`, this covers the `isinstance(other, Molecule)` branch; the dict branch
(`other = Molecule(orient=False, **other)`) is only recorded (`src_eq_accepts_dict`), not evaluated — validation of a
dict is C04's subject. -/
theorem src_molEq_eq {D} [DecidableEq D] (P : Params D) (rr : Dbl → List Char) (a b : Mol) :
    srcMolEq Gen.floatPrep Gen.getHash Gen.eqFn P rr a b = some (molEq P a b) := by
  simp [srcMolEq, Gen.eqFn, src_hash_eq, molEq]

/-- `__eq__` also accepts a dict (re-validated with `orient=False`) -/
theorem src_eq_accepts_dict : Gen.eqFn.acceptsDict = true := by simp [Gen.eqFn]

/-! ## bond canonicalisation and construction-time rounding -/

theorem src_connOne_eq (x : RawBond) : connOne Gen.connFn x =
    if x.at1 < 0 then .error 0 else if x.at2 < 0 then .error 1
    else if x.order < 0 ∨ 5 < x.order then .error 2
    else .ok ⟨(min x.at1 x.at2).toNat, (max x.at1 x.at2).toNat, x.order⟩ := by
  simp only [connOne, Gen.connFn, BCheck.fires, IdxE.eval, OrdE.eval, List.findIdx?_cons, List.findIdx?_nil,
    if_true, Bool.false_eq_true, if_false, Bool.or_eq_true, decide_eq_true_eq, Int.cast_zero, Int.cast_ofNat]
  by_cases h1 : x.at1 < 0
  · simp only [h1, if_true]
  by_cases h2 : x.at2 < 0
  · simp only [h1, h2, if_true, if_false, Option.map_some]
  by_cases h3 : x.order < 0 ∨ 5 < x.order
  · simp only [h1, h2, h3, if_true, if_false, Option.map_some]
  · simp only [h1, h2, h3, if_false, Option.map_none]

theorem src_connOne_ok (x : Bond) (h : 0 ≤ x.order ∧ x.order ≤ 5) : connOne Gen.connFn x.toRaw = .ok (orient x) := by
  have a0 : ¬ ((x.a : Int) < 0) := by omega
  have b0 : ¬ ((x.b : Int) < 0) := by omega
  have m1 : (min (x.a : Int) (x.b : Int)).toNat = min x.a x.b := by omega
  have m2 : (max (x.a : Int) (x.b : Int)).toNat = max x.a x.b := by omega
  simp [src_connOne_eq, Bond.toRaw, orient, not_lt.mpr h.1, not_lt.mpr h.2, m1, m2, a0, b0]

theorem src_connAll_ok : ∀ (bs : List Bond), (∀ b ∈ bs, 0 ≤ b.order ∧ b.order ≤ 5) →
    connAll Gen.connFn (bs.map Bond.toRaw) = .ok (bs.map orient)
  | [], _ => rfl
  | x :: t, h => by
    have hx := src_connOne_ok x (h x (by simp))
    have ht := src_connAll_ok t (fun b hb => h b (by simp [hb]))
    simp only [List.map_cons, connAll, hx, ht]

theorem src_sort_le : Gen.connFn.sort.le = bondLe := by
  funext x y
  simp [Gen.connFn, SortSpec.le]

/-- **source-derived bond canonicalisation = the model's `prepBonds`** on every bond list with orders in [0, 5]
(indices are naturals by the type of `Bond`): `(int(min), int(max), float(order))` per entry in source order, then the
plain `conn.sort()` (whole-tuple order) -/
theorem src_prepBonds_eq (bs : List Bond) (h : ∀ b ∈ bs, 0 ≤ b.order ∧ b.order ≤ 5) :
    srcPrepBonds Gen.connFn (bs.map Bond.toRaw) = .ok (prepBonds bs) := by
  simp only [srcPrepBonds, src_connAll_ok bs h, src_sort_le, prepBonds]

/-- non-vacuity of `src_prepBonds_eq` (test): two bonds given reversed and out of order -/
example : srcPrepBonds Gen.connFn [⟨3, 1, 2⟩, ⟨1, 0, 1⟩] = .ok [⟨0, 1, 1⟩, ⟨1, 3, 2⟩] := by decide +kernel

/-- **the validations, in source order**: an entry with a negative first index, negative second index, or an order
outside [0, 5] is refused by check 0 / 1 / 2 (first one that fires), whatever follows in the list.
Scope note: `RawBond` has integer indices, so the `not float(atN).is_integer()` half of the first two checks can never
fire here; a non-integral index is outside the model. -/
theorem src_prepBonds_rejects (x : RawBond) (t : List RawBond) :
    (x.at1 < 0 → srcPrepBonds Gen.connFn (x :: t) = .error 0)
    ∧ (0 ≤ x.at1 → x.at2 < 0 → srcPrepBonds Gen.connFn (x :: t) = .error 1)
    ∧ (0 ≤ x.at1 → 0 ≤ x.at2 → (x.order < 0 ∨ 5 < x.order) → srcPrepBonds Gen.connFn (x :: t) = .error 2) := by
  refine ⟨fun h => ?_, fun h1 h2 => ?_, fun h1 h2 h3 => ?_⟩
  · simp [srcPrepBonds, connAll, src_connOne_eq, h]
  · simp [srcPrepBonds, connAll, src_connOne_eq, not_lt.mpr h1, h2]
  · simp [srcPrepBonds, connAll, src_connOne_eq, not_lt.mpr h1, not_lt.mpr h2, h3]

/-- non-vacuity (test): a bond of order 6 is refused by the third check -/
example : srcPrepBonds Gen.connFn [⟨0, 1, 6⟩] = .error 2 := by decide +kernel

/-- the default rounding of the constructor is the value of `GEOMETRY_NOISE` the hash uses -/
theorem src_cons_default : Gen.consFn.defaultConst = .GEOMETRY_NOISE ∧ Gen.consFn.defaultNoise = GEOMETRY_NOISE
    ∧ Gen.consFn.prepOnValidate = true := by
  simp [Gen.consFn, GEOMETRY_NOISE]

/-- **source-derived construction (`geometry_noise` default popped from kwargs, `float_prep(values["geometry"],
geometry_noise)` on the validate branch, bonds through the `connectivity` block) = the model's `construct`**, for every
molecule whose bond orders lie in [0, 5] -/
theorem src_construct_eq (fl : Rat → Rat) (m : Mol)
    (h : ∀ l, m.connectivity = some l → ∀ b ∈ l, 0 ≤ b.order ∧ b.order ≤ 5) :
    srcConstruct Gen.floatPrep Gen.consFn Gen.connFn fl m = some (construct fl m) := by
  obtain ⟨b, hb, -, hr⟩ := src_arrBody
  unfold srcConstruct
  simp only [src_cons_default.2.2, src_cons_default.2.1, if_true, hb, Option.map_some, hr, Val.toDbl]
  cases hc : m.connectivity with
  | none => simp [construct, hc]
  | some l =>
    simp only [src_prepBonds_eq l (h l hc)]
    simp [construct, hc]

/-- non-vacuity of `src_construct_eq` / `src_construct_hash` (test): a bond list inside the accepted range, given reversed -/
example : ∀ l, (some [(⟨1, 0, 3 / 2⟩ : Bond), ⟨2, 0, 1⟩] : Option (List Bond)) = some l → ∀ b ∈ l, 0 ≤ b.order ∧ b.order ≤ 5 := by
  intro l h b hb
  cases h
  simp only [List.mem_cons, List.not_mem_nil, or_false] at hb
  rcases hb with rfl | rfl <;> constructor <;> norm_num

/-- test: the source-derived constructor on such a molecule — coordinate 1/3 stored as 0.33333333, `-0.0` as `+0.0`, the
bonds oriented and sorted -/
example : (srcConstruct Gen.floatPrep Gen.consFn Gen.connFn id
      { symbols := [], masses := none, charge := .val 0, mult := 1, real := none, geometry := [.val (1 / 3), .negZero],
        fragments := none, fragCharges := none, fragMults := none, connectivity := some [⟨1, 0, 3 / 2⟩, ⟨2, 0, 1⟩] }).map
      (fun s => (s.geometry, s.connectivity))
    = some ([.val (33333333 / 100000000), .val 0], some [⟨0, 1, 3 / 2⟩, ⟨0, 2, 1⟩]) := by decide +kernel

/-! ## the main theorems, over the source-derived functions -/

section headline
variable {D : Type} (massOf : List Char → Dbl) (sha1 : List Char → D) (rr : Dbl → List Char)

local notation "CP" => concreteParams massOf sha1
local notation "srcH" => srcHash Gen.floatPrep Gen.getHash (concreteParams massOf sha1) rr

/-- **source-derived hash equal ⇔ listed fields agree after the documented rounding** (validated, bounded, out of the
zero band, at the concrete rounding and printers; SHA-1 not colliding on the two SOURCE-DERIVED preimages) -/
theorem src_hash_eq_iff_fields_agree (a b : Mol)
    (hsha : sha1 (srcPreimage Gen.floatPrep Gen.getHash CP rr a) = sha1 (srcPreimage Gen.floatPrep Gen.getHash CP rr b) →
      srcPreimage Gen.floatPrep Gen.getHash CP rr a = srcPreimage Gen.floatPrep Gen.getHash CP rr b)
    (va : a.Valid CP) (vb : b.Valid CP)
    (pa : (canon CP a).BondsIn DecPrintable) (pb : (canon CP b).BondsIn DecPrintable)
    (ha : a.Bounded CP) (hb : b.Bounded CP) (na : a.NoBand CP) (nb : b.NoBand CP) :
    srcH a = srcH b ↔ FieldsAgree CP a b := by
  rw [src_hash_eq, src_hash_eq]
  rw [src_preimage_eq, src_preimage_eq] at hsha
  exact hash_eq_iff_fields_agree_concrete massOf sha1 a b hsha va vb pa pb ha hb na nb

/-- the hypotheses of `src_hash_eq_iff_fields_agree` are, proposition by proposition, those of
`hash_eq_iff_fields_agree_concrete` (the SHA-1 hypothesis after rewriting with `src_preimage_eq`).  `Props/C11Examples.lean`
/ `Props/C11Concrete.lean` have examples for single pieces of them (a `Canon.Valid` record with `DecPrintable` bonds, one
`Bdd` coordinate, one `NoBand` entry at `fl = id`), not for a whole molecule.  Here: the SHA-1 hypothesis holds on `a = b` -/
example (a : Mol) :
    (sha1 (srcPreimage Gen.floatPrep Gen.getHash CP rr a) = sha1 (srcPreimage Gen.floatPrep Gen.getHash CP rr a) →
      srcPreimage Gen.floatPrep Gen.getHash CP rr a = srcPreimage Gen.floatPrep Gen.getHash CP rr a) := fun _ => rfl

/-- source-derived `==` ⇔ listed fields agree (same hypotheses) -/
theorem src_eq_iff_fields_agree [DecidableEq D] (a b : Mol)
    (hsha : sha1 (srcPreimage Gen.floatPrep Gen.getHash CP rr a) = sha1 (srcPreimage Gen.floatPrep Gen.getHash CP rr b) →
      srcPreimage Gen.floatPrep Gen.getHash CP rr a = srcPreimage Gen.floatPrep Gen.getHash CP rr b)
    (va : a.Valid CP) (vb : b.Valid CP)
    (pa : (canon CP a).BondsIn DecPrintable) (pb : (canon CP b).BondsIn DecPrintable)
    (ha : a.Bounded CP) (hb : b.Bounded CP) (na : a.NoBand CP) (nb : b.NoBand CP) :
    srcMolEq Gen.floatPrep Gen.getHash Gen.eqFn CP rr a b = some true ↔ FieldsAgree CP a b := by
  rw [src_molEq_eq, Option.some.injEq, molEq_iff]
  rw [src_preimage_eq, src_preimage_eq] at hsha
  exact hash_eq_iff_fields_agree_concrete massOf sha1 a b hsha va vb pa pb ha hb na nb

/-- **independence from the unlisted fields**: name, comment, labels, identifiers, provenance, extras, frame flags, id -/
theorem src_hash_indep_nonhash {D'} (P : Params D') (m : Mol) (o : Other) :
    srcHash Gen.floatPrep Gen.getHash P rr { m with other := o } = srcHash Gen.floatPrep Gen.getHash P rr m := by
  rw [src_hash_eq, src_hash_eq]
  exact hash_indep_nonhash P m o

/-- **sign of zero** -/
theorem src_hash_sign_of_zero (m : Mol) (hm : m.Bounded CP) : srcH m.posZeros = srcH m := by
  rw [src_hash_eq, src_hash_eq]
  exact hash_sign_of_zero_concrete massOf sha1 m hm

/-- **sub-rounding noise away from rounding boundaries** -/
theorem src_hash_noise (m : Mol) (g' : List Dbl) (h : List.Forall₂ NoiseClose m.geometry g') :
    srcH { m with geometry := g' } = srcH m := by
  rw [src_hash_eq, src_hash_eq]
  exact hash_noise_concrete massOf sha1 m g' h

/-- **order and orientation of the bond list**: reverse any bonds, permute the list — the source-derived stored
connectivity is the same (orders in [0, 5]) -/
theorem src_bonds_permuted_reversed (bs bs' : List Bond) (flip : Bond → Bool)
    (hb : ∀ b ∈ bs, 0 ≤ b.order ∧ b.order ≤ 5)
    (h : bs'.Perm (bs.map (fun x => if flip x then ⟨x.b, x.a, x.order⟩ else x))) :
    srcPrepBonds Gen.connFn (bs'.map Bond.toRaw) = srcPrepBonds Gen.connFn (bs.map Bond.toRaw) := by
  have hb' : ∀ b ∈ bs', 0 ≤ b.order ∧ b.order ≤ 5 := by
    intro b hbm
    have := (h.mem_iff).mp hbm
    rw [List.mem_map] at this
    obtain ⟨x, hx, rfl⟩ := this
    split
    · exact hb x hx
    · exact hb x hx
  rw [src_prepBonds_eq bs hb, src_prepBonds_eq bs' hb', bonds_permuted_reversed bs bs' flip h]

/-- non-vacuity of `src_bonds_permuted_reversed`: its hypotheses hold of a two-bond list with one bond reversed and the
list swapped -/
example : (∀ b ∈ ([⟨0, 1, 2⟩, ⟨1, 2, 1⟩] : List Bond), 0 ≤ b.order ∧ b.order ≤ 5)
    ∧ ([⟨2, 1, 1⟩, ⟨0, 1, 2⟩] : List Bond).Perm
        (([⟨0, 1, 2⟩, ⟨1, 2, 1⟩] : List Bond).map (fun x => if x.a == 1 then ⟨x.b, x.a, x.order⟩ else x)) := by
  refine ⟨?_, by decide⟩
  intro b hb
  simp only [List.mem_cons, List.not_mem_nil, or_false] at hb
  rcases hb with rfl | rfl <;> constructor <;> norm_num

/-- such a pair, evaluated (test) -/
example : srcPrepBonds Gen.connFn (([⟨2, 1, 1⟩, ⟨1, 0, 2⟩] : List Bond).map Bond.toRaw)
    = srcPrepBonds Gen.connFn (([⟨0, 1, 2⟩, ⟨1, 2, 1⟩] : List Bond).map Bond.toRaw) := by decide +kernel

/-- **construction rounding is invisible to the hash**, source-derived on both sides -/
theorem src_construct_hash (m : Mol)
    (hc : ∀ l, m.connectivity = some l → ∀ b ∈ l, 0 ≤ b.order ∧ b.order ≤ 5)
    (hg : ∀ x ∈ m.geometry, Bdd GEOMETRY_NOISE x ∧ ((prepArr rndDouble GEOMETRY_NOISE x).mag : Rat) ≤ 2 ^ 45) :
    (srcConstruct Gen.floatPrep Gen.consFn Gen.connFn rndDouble m).map srcH
      = some (srcH { m with connectivity := m.connectivity.map prepBonds }) := by
  rw [src_construct_eq rndDouble m hc, Option.map_some, src_hash_eq, src_hash_eq]
  exact congrArg some (construct_hash_concrete massOf sha1 m hg)

end headline

end QcelVerif.Hash
