import QcelVerif.Lemmas.MolDict
/-!
# C09 (c) — `Molecule.__init__` / `dict()` around the schema functions: property theorems

Model: `Model/MolDict.lean` (`filterDefaults`, `merge`, `construct`, `dictOf`, `rebuild`, the accessors).
-/
namespace QcelVerif.MolDict
open QcelVerif.MolSchema

section
variable {K : Type} [Mul K] [DecidableEq K]

/-- **Closed form of the constructor after `from_schema`.**  Whatever record `r` `from_schema` returned, the part
of `Molecule.__init__` that follows (to_schema dtype 2 → `_filter_defaults` → `validated = True` →
`{**kwargs, **schema}` → title-cased symbols, `float_prep`'d geometry) succeeds — `to_schema` writes every key
`_filter_defaults` pops — and is this expression. -/
theorem after_from_schema_closed_form (P : Params K) (kw : MolDict K) (r : Molrec K) :
    afterFromSchema P kw r =
      .ok (finish P (merge { kw with validated := some true } (filteredOf P.massOf (molDict P.dflt P.fg r)))) := by
  unfold afterFromSchema
  rw [filterDefaults_full P.massOf _ (full_molDict P.dflt P.fg r)]

theorem construct_sets_validated (P : Params K) (fa : FAArgs K → Except Err (Molrec K)) (nm : Option String)
    (ver : Option Int) (kw m : MolDict K) (h : construct P fa nm ver kw = .ok m) : m.validated = some true := by
  unfold construct at h
  split at h
  · cases h
  · rename_i r _
    rw [after_from_schema_closed_form] at h
    cases h
    simp [finish, merge, filteredOf, molDict, orElse']

/-- `Molecule(**d)` with `d["validated"] = True` runs no validation: the object holds exactly `d` -/
theorem rebuild_validated_identity (P : Params K) (fa : FAArgs K → Except Err (Molrec K)) (nm : Option String)
    (ver : Option Int) (d : MolDict K) (h : d.validated = some true) : rebuild P fa nm ver d = .ok d := by
  simp [rebuild, h]

/-- **dict_fixed_point.**  `Molecule(**mol.dict())` is `mol` — for every Molecule `mol` that a validating
construction returned, whatever the keyword arguments, the `from_arrays` behaviour and the parameters were:
`dict()` carries `validated = True`, so the rebuild validates nothing, rounds nothing and re-titles nothing. -/
theorem dict_fixed_point (P : Params K) (fa : FAArgs K → Except Err (Molrec K)) (nm : Option String)
    (ver : Option Int) (kw m : MolDict K) (h : construct P fa nm ver kw = .ok m)
    (fa' : FAArgs K → Except Err (Molrec K)) (nm' : Option String) (ver' : Option Int) :
    rebuild P fa' nm' ver' (dictOf m) = .ok m :=
  rebuild_validated_identity P fa' nm' ver' m (construct_sets_validated P fa nm ver kw m h)

end

section
variable {K : Type} [DecidableEq K]

/-- **Which keys `_filter_defaults` drops** (dictionary with every key present): `atomic_numbers` always;
`masses` and `mass_numbers` exactly when the masses ARE the default masses (exact equality — masses merely
close to the defaults are kept: the test is `np.array_equal`, molecule.py:1495); `real` exactly when all
atoms are real; `atom_labels` exactly when all labels are empty; the three fragment keys exactly when the
pattern is the one fragment `[0, …, nat-1]`; every other key is kept as it is. -/
theorem filter_drops_exactly_defaults (massOf : String → K) (d f : MolDict K) (hd : Full d)
    (h : filterDefaults massOf d = .ok f) :
    f.atomicNumbers = none ∧
    (f.masses = none ↔ d.masses = some ((d.symbols.getD []).map massOf)) ∧
    (f.massNumbers = none ↔ d.masses = some ((d.symbols.getD []).map massOf)) ∧
    (f.masses ≠ none → f.masses = d.masses ∧ f.massNumbers = d.massNumbers) ∧
    (f.real = none ↔ (d.real.getD []).all id = true) ∧ (f.real ≠ none → f.real = d.real) ∧
    (f.atomLabels = none ↔ d.atomLabels = some (List.replicate (d.symbols.getD []).length "")) ∧
    (f.fragments = none ↔ d.fragments = some [arangeI (d.symbols.getD []).length]) ∧
    (f.fragCharges = none ↔ f.fragments = none) ∧ (f.fragMults = none ↔ f.fragments = none) ∧
    (f.fragments ≠ none → f.fragments = d.fragments ∧ f.fragCharges = d.fragCharges ∧ f.fragMults = d.fragMults) ∧
    f.symbols = d.symbols ∧ f.geometry = d.geometry ∧ f.name = d.name ∧ f.comment = d.comment ∧
    f.charge = d.charge ∧ f.mult = d.mult ∧ f.fixCom = d.fixCom ∧ f.fixOri = d.fixOri ∧ f.fixSym = d.fixSym ∧
    f.connectivity = d.connectivity ∧ f.validated = d.validated := by
  rw [filterDefaults_full massOf d hd] at h
  cases h
  obtain ⟨sy, an, ms, mn, re, lb, fr, fc, fm, _, _, hms, hmn, hre, hlb, hfr, hfc, hfm⟩ := hd.entries
  unfold filteredOf dfltMasses allReal noLabels oneFragment
  simp only [hms, hmn, hre, hlb, hfr, hfc, hfm, Option.getD_some, decide_eq_true_eq]
  refine ⟨trivial, ?_, ?_, ?_, ?_, ?_, ?_, ?_, ?_, ?_, ?_, trivial, trivial, trivial, trivial, trivial, trivial,
    trivial, trivial, trivial, trivial, trivial⟩
  all_goals (split <;> simp_all)

end

/-! ### `_filter_defaults` is invisible to the accessors (hence to `get_hash`) -/

/-- **`_filter_defaults` followed by the merge with the caller's keywords changes no accessor value `get_hash` reads**
(`masses`, `real`, `fragments`, `fragment_charges`, `fragment_multiplicities`), provided the caller's own entries agree with the
schema's (`agreesB`); the other hypotheses are those of `filter_invisible_to_accessors`, its case `kw = {}`.
`Props/C09Hash.lean: molecule_canon_of_record` is the case `d = to_schema(r)`. -/
theorem merge_filter_invisible {K : Type} [DecidableEq K] (massOf : String → K) (zero : K) (kw d : MolDict K)
    (hd : Full d) (hreal : ∀ l, d.real = some l → l.length = (d.symbols.getD []).length)
    (hc : d.charge.isSome = true) (hm : d.mult.isSome = true) (hs : singleOkB d = true)
    (hag : agreesB massOf kw d = true) :
    massesR massOf (merge kw (filteredOf massOf d)) = massesR massOf d ∧
    realR (merge kw (filteredOf massOf d)) = realR d ∧
    fragmentsR (merge kw (filteredOf massOf d)) = fragmentsR d ∧
    fragChargesR zero (merge kw (filteredOf massOf d)) = fragChargesR zero d ∧
    fragMultsR (merge kw (filteredOf massOf d)) = fragMultsR d := by
  obtain ⟨sy, an, ms, mn, re, lb, fr, fc, fm, hsy, _, hms, _, hre, _, hfr, hfc, hfm⟩ := hd.entries
  obtain ⟨c, hcc⟩ := Option.isSome_iff_exists.1 hc
  obtain ⟨m, hmm⟩ := Option.isSome_iff_exists.1 hm
  have hrl := hreal re hre
  simp only [agreesB, Bool.and_eq_true] at hag
  obtain ⟨⟨⟨⟨⟨a1, a2⟩, a3⟩, a4⟩, a5⟩, _⟩ := hag
  have hs' : oneFragment d = true → fc = [c] ∧ fm = [m] := by
    intro h1; simpa [singleOkB, h1, hfc, hfm, hcc, hmm] using hs
  simp only [hsy, Option.getD_some] at hrl
  simp only [massesR, realR, fragmentsR, fragChargesR, fragMultsR, merge, filteredOf, hsy, hms, hre, hfr, hfc, hfm, hcc, hmm,
    orElse', Option.getD_some] at a1 a2 a3 a4 a5 ⊢
  -- each accessor is a function `g` of the one entry; where the filter dropped the entry, the default it restores is the entry
  refine ⟨?_, ?_, ?_, ?_, ?_⟩
  · refine merged_entry (fun o => match o with | some l => l | none => sy.map massOf) (by simpa [hms] using a1) rfl fun h => ?_
    simpa [dfltMasses, hsy, hms, eq_comm] using h
  · refine merged_entry (fun o => match o with | some l => l | none => sy.map fun _ => true) (by simpa [hre] using a2) rfl
      fun h => ?_
    have : ∀ b ∈ re, b = true := by simpa [allReal, hre] using h
    show sy.map (fun _ => true) = re
    rw [List.map_const', ← hrl]; exact (List.eq_replicate_iff.2 ⟨rfl, this⟩).symm
  · refine merged_entry (fun o => match o with | some l => l | none => [arangeI sy.length]) (by simpa [hfr] using a3) rfl
      fun h => ?_
    simpa [oneFragment, hsy, hfr, eq_comm] using h
  · exact merged_entry (fun o => match o with | some l => l | none => [c]) (by simpa [hfc] using a4) rfl fun h => (hs' h).1.symm
  · exact merged_entry (fun o => match o with | some l => l | none => [m]) (by simpa [hfm] using a5) rfl fun h => (hs' h).2.symm

/-- **`_filter_defaults` changes no accessor value** — what `masses`, `real`, `atom_labels`, `fragments`,
`fragment_charges`, `fragment_multiplicities` (molecule.py:449-509) return is the same before and after the
filter, for a full dictionary whose `real` array has one entry per symbol (`hreal`) and which has its charge and
multiplicity, PROVIDED a one-fragment dictionary lists the molecular charge / multiplicity as the fragment's
(`singleOkB`; not implied by validation — see the counter-example below). -/
theorem filter_invisible_to_accessors {K : Type} [DecidableEq K] (massOf : String → K) (zero : K) (d : MolDict K)
    (hd : Full d) (hreal : ∀ l, d.real = some l → l.length = (d.symbols.getD []).length)
    (hc : d.charge.isSome = true) (hm : d.mult.isSome = true) (hs : singleOkB d = true) :
    massesR massOf (filteredOf massOf d) = massesR massOf d ∧
    realR (filteredOf massOf d) = realR d ∧
    atomLabelsR (filteredOf massOf d) = atomLabelsR d ∧
    fragmentsR (filteredOf massOf d) = fragmentsR d ∧
    fragChargesR zero (filteredOf massOf d) = fragChargesR zero d ∧
    fragMultsR (filteredOf massOf d) = fragMultsR d := by
  have h := merge_filter_invisible massOf zero emptyDict d hd hreal hc hm hs (by simp [agreesB, optAgree, emptyDict])
  simp only [massesR, realR, fragmentsR, fragChargesR, fragMultsR, merge, emptyDict, orElse'_none] at h
  obtain ⟨g1, g2, g3, g4, g5⟩ := h
  refine ⟨g1, g2, ?_, g3, g4, g5⟩
  obtain ⟨sy, hsy⟩ := Option.isSome_iff_exists.1 hd.symbols
  obtain ⟨lb, hlb⟩ := Option.isSome_iff_exists.1 hd.atomLabels
  unfold atomLabelsR filteredOf noLabels
  simp only [hsy, hlb, Option.getD_some, Option.some.injEq, decide_eq_true_eq]
  by_cases h : lb = List.replicate sy.length ""
  · simp only [h, if_true]
    exact List.map_const' ..
  · simp [h]

/-- a one-atom, one-fragment dictionary with total multiplicity 1 and fragment multiplicity 3 (what
`from_arrays` returns for `He` with `fragment_multiplicities=[3]`, `molecular_multiplicity=1`: the open finding
`C05-molecule-from-string-single-fragment-mult`) -/
def heTriplet : MolDict Int :=
  { symbols := some ["He"], geometry := some [0, 0, 0], masses := some [4], atomicNumbers := some [2],
    massNumbers := some [4], atomLabels := some [""], real := some [true], name := some "He", comment := none,
    charge := some 0, mult := some 1, fragments := some [[0]], fragCharges := some [0], fragMults := some [3],
    fixCom := some false, fixOri := some false, fixSym := none, connectivity := none, validated := some true }

/-- **The proviso `singleOkB` is needed** (test, `decide`): on `heTriplet` the filter drops the fragment keys and
the accessor then reports `[molecular_multiplicity] = [1]` where the dictionary said `[3]`. -/
theorem filter_single_fragment_multiplicity_counterexample :
    Full heTriplet ∧ singleOkB heTriplet = false ∧
    fragMultsR heTriplet = [3] ∧ fragMultsR (filteredOf (fun _ => 4) heTriplet) = [1] := by
  refine ⟨⟨rfl, rfl, rfl, rfl, rfl, rfl, rfl, rfl, rfl⟩, ?_, ?_, ?_⟩ <;> decide

/-! ### `{**kwargs, **schema}` -/

/-- molecule.py:364, `{**kwargs, **schema}`: an entry of the schema wins over the caller's -/
theorem merge_schema_wins {K : Type} (kw s : MolDict K) :
    (∀ x, s.masses = some x → (merge kw s).masses = some x) ∧ (∀ x, s.real = some x → (merge kw s).real = some x) ∧
    (∀ x, s.geometry = some x → (merge kw s).geometry = some x) ∧ (∀ x, s.symbols = some x → (merge kw s).symbols = some x) ∧
    (∀ x, s.fragments = some x → (merge kw s).fragments = some x) ∧
    (∀ x, s.connectivity = some x → (merge kw s).connectivity = some x) ∧
    (∀ x, s.name = some x → (merge kw s).name = some x) := by
  refine ⟨?_, ?_, ?_, ?_, ?_, ?_, ?_⟩ <;> intro x h <;> simp [merge, orElse', h]

/-- a key only the caller gave is kept (so defaults the caller SPELLED OUT survive `_filter_defaults`) -/
theorem merge_keeps_caller_entry {K : Type} (kw s : MolDict K) :
    (s.masses = none → (merge kw s).masses = kw.masses) ∧ (s.real = none → (merge kw s).real = kw.real) ∧
    (s.atomLabels = none → (merge kw s).atomLabels = kw.atomLabels) ∧
    (s.atomicNumbers = none → (merge kw s).atomicNumbers = kw.atomicNumbers) ∧
    (s.massNumbers = none → (merge kw s).massNumbers = kw.massNumbers) ∧
    (s.fragments = none → (merge kw s).fragments = kw.fragments) ∧
    (s.fragCharges = none → (merge kw s).fragCharges = kw.fragCharges) ∧
    (s.fragMults = none → (merge kw s).fragMults = kw.fragMults) := by
  refine ⟨?_, ?_, ?_, ?_, ?_, ?_, ?_, ?_⟩ <;> intro h <;> simp [merge, orElse', h] <;> split <;> simp_all

/-! ### non-vacuity (tests): a water-like record, its Molecule, the rebuild -/

def exP : Params Int :=
  { dflt := 2, fg := fun _ => "H2O", massOf := fun s => if s = "O" then 16 else 1, prep := fun x => x, title := titleAscii }

def exKw : MolDict Int :=
  { (emptyDict : MolDict Int) with symbols := some ["o", "H", "h"], geometry := some [0, 0, 0, 0, 0, 2, 0, 2, 0],
                                   real := some [true, true, true] }

def exRec : Molrec Int :=
  { units := .bohr, iutau := none, geom := [0, 0, 0, 0, 0, 2, 0, 2, 0], elea := [16, 1, 1], elez := [8, 1, 1],
    elem := ["O", "H", "H"], mass := [16, 1, 1], real := [true, true, true], elbl := ["", "", ""], seps := [],
    fragCharges := [0], fragMults := [1], charge := 0, mult := 1, fixCom := false, fixOri := false, fixSym := none,
    name := none, comment := none, connectivity := none }

/-- test: the constructed object keeps the caller's `real`, drops masses / labels / fragments / atomic numbers -/
example : (match construct exP (fun _ => .ok exRec) none none exKw with
    | .ok m => decide (keysOf m = ["symbols", "geometry", "real", "name", "molecular_charge", "molecular_multiplicity",
                                    "fix_com", "fix_orientation", "validated"])
    | .error _ => false) = true := by decide

/-- test: hypothesis of `dict_fixed_point` satisfiable -/
example : ∃ m, construct exP (fun _ => .ok exRec) none none exKw = .ok m := by
  have h : fromSchema (fun _ => Except.ok exRec)
      { schemaName := some ((none : Option String).getD "qcschema_molecule"), schemaVersion := some ((none : Option Int).getD 2),
        molecule := none, top := exKw } = Except.ok exRec := by rfl
  exact ⟨_, by unfold construct; rw [h]; exact after_from_schema_closed_form exP exKw exRec⟩

/-- test: hypotheses of `filter_invisible_to_accessors` satisfiable -/
example : Full (molDict 2 (fun _ => "H2O") exRec) ∧ singleOkB (molDict 2 (fun _ => "H2O") exRec) = true := by
  refine ⟨full_molDict _ _ _, by decide⟩

end QcelVerif.MolDict
