import QcelVerif.Lemmas.FragmentsSrcOrdered
import QcelVerif.Props.C15Frag
import QcelVerif.Props.C15Nre
import QcelVerif.Props.C15FormulaStr
/-!
# C15 — the source-derived `nelectrons`, `nuclear_repulsion_energy`, `molecular_formula_from_symbols` and `get_fragment` equal the hand models

`Gen/FragmentsSrc.lean` holds the bodies of these functions as read from `molecule.py` / `molecular_formula.py`
(`harness/c15_src.py`); `Model/FragmentsAst.lean` evaluates them.  This file proves them equal to
`Model/Fragments.lean` / `Model/Formula.lean` for all inputs; for `get_fragment` it covers the grouped path
(`group_fragments=True`), the order-preserving path and the argument forms being in `Props/C15SrcOrdered.lean`.
The evaluator's list lemmas are in `Lemmas/FragmentsAst.lean`, the program logic (`wp`, `Frame`, the loop rules) in
`Lemmas/FragAstLogic.lean`, the `else:` branch `gOrdered` and its loop invariants in `Lemmas/FragmentsSrcOrdered.lean`.
-/
namespace QcelVerif.FragSrc
open QcelVerif.FragAst QcelVerif.Fragments QcelVerif.ChgMult

/-! ## `Zeff` -/

/-- `Zeff = [z * int(real) for z, real in zip(self.atomic_numbers, self.real)]` -/
def zeffOf (zs : List Int) (real : List Bool) : List Int := List.zipWith (fun z r => z * b2i r) zs real

theorem zeff_comp (inp v : List Val) (x y : Nat) (hxy : x ≠ y) (hx : x < v.length) (hy : y < v.length)
    (zs : List Int) (real : List Bool)
    (h6 : inp[6]? = some (.l (intL zs))) (h7 : inp[7]? = some (.l (boolL real))) :
    evalE inp v (.zipComp (.mul (.var x) (.var y)) x y (.inp 6) (.inp 7)) = some (.l (intL (zeffOf zs real))) := by
  simp only [evalE, h6, h7]
  have : (intL zs).zip (boolL real) = (zs.zip real).map (fun p => (some p.1, some (b2i p.2))) := by
    simp [intL, boolL, List.zip_map]
  rw [this, mapO_map _ _ (fun p => some (p.1 * b2i p.2))]
  · simp [intL, zeffOf, List.map_zip_eq_zipWith]
    rfl
  · intro p _
    simp [setSlot, hx, hy, hxy.symm]

/-! ## nelectrons -/

theorem srcNel_none (zs : List Int) (real : List Bool) (frags : List (List Nat)) (fc : List Int) (c : Int) :
    srcNel zs real frags fc c none = some (isum (zeffOf zs real) - c) := by
  have hz := zeff_comp (inputs zs.length zs real frags fc [] c)
    [.s none, .s none, .s none, .s none, .s none, .s none, .s none, .s none] 2 3 (by decide) (by decide) (by decide)
    zs real rfl rfl
  simp only [srcNel, run, Gen.FragmentsSrc.nelectrons, Gen.FragmentsSrc.neSlots, Gen.FragmentsSrc.NE.v_ifr, exec,
    Option.map_none, List.replicate, List.foldl, setSlot, List.set, hz]
  simp [evalE, osum_intL, inputs, readInt, b2v, Val.truthy]

theorem compO_enum {cond : Nat × Option Int → Option Bool} {body : Nat × Option Int → Option (Option Int)}
    (fr : List Nat) (hc : ∀ i x, cond (i, some x) = some (fr.contains i)) (hb : ∀ i x, body (i, some x) = some (some x)) :
    ∀ (Z : List Int) (n : Nat), compO cond body (enumFrom' n (intL Z)) =
      some (intL (((Z.zipIdx n).filter (fun p => fr.contains p.2)).map (·.1)))
  | [], _ => rfl
  | z :: t, n => by
    have ih := compO_enum fr hc hb t (n + 1)
    simp only [intL, List.map_cons, enumFrom', compO, hc, hb, List.zipIdx_cons, List.filter_cons] at ih ⊢
    cases h : fr.contains n <;> simp [ih]

theorem srcNel_some (zs : List Int) (real : List Bool) (frags : List (List Nat)) (fc : List Int) (c : Int) (k : Nat)
    (fr : List Nat) (q : Int) (hfr : frags[k]? = some fr) (hq : fc[k]? = some q) :
    srcNel zs real frags fc c (some k) = some (zeffIn (zeffOf zs real) fr - q) := by
  have hz := zeff_comp (inputs zs.length zs real frags fc [] c)
    [.s none, .s (some (k : Int)), .s none, .s none, .s none, .s none, .s none, .s none] 2 3 (by decide) (by simp) (by simp)
    zs real rfl rfl
  simp only [srcNel, run, Gen.FragmentsSrc.nelectrons, Gen.FragmentsSrc.neSlots, Gen.FragmentsSrc.NE.v_ifr, exec,
    Option.map_some, List.replicate, List.foldl, setSlot, List.set, hz, List.length_cons, List.length_nil, Nat.reduceAdd,
    Nat.reduceLT, reduceIte]
  have hk : nth? (frags.map natL) (k : Int) = some (natL fr) := by simp [nth?, hfr]
  have hq' : nth? (intL fc) (k : Int) = some (some q) := by simp [nth?, intL, hq]
  simp only [evalE, inputs, setSlot, List.set, List.getElem?_cons_succ, List.getElem?_cons_zero, hk, hq', Option.map_some]
  rw [compO_enum fr]
  · simp [osum_intL, readInt, zeffIn, b2v, Val.truthy]
  · intro i x; simp [b2v, Val.truthy, mem_natL]; split <;> simp_all
  · intro i x; simp

/-! ## nuclear repulsion energy -/

section nre
variable {K : Type} [Field K]

/-- the order in which the source adds the pair terms: for every atom in turn, its terms with all EARLIER atoms -/
def triSum {β} (f : β → β → K) : List β → List β → K
  | _, [] => 0
  | pre, x :: t => ksum (pre.map (f x)) + triSum f (pre ++ [x]) t

theorem triSum_eq {β} (f : β → β → K) : ∀ (l pre : List β),
    triSum f pre l = ksum (l.map (fun x => ksum (pre.map (f x)))) + pairSum f l
  | [], _ => by simp [triSum, pairSum, ksum]
  | x :: t, pre => by
    simp only [triSum, triSum_eq f t, List.map_cons, pairSum, List.map_append, ksum_eq_sum, List.sum_append,
      List.map_nil, List.sum_cons, List.sum_nil, List.sum_map_add]
    simp
    ring

theorem triSum_nil {β} (f : β → β → K) (l : List β) : triSum f [] l = pairSum f l := by
  rw [triSum_eq]; simp [ksum_eq_sum]

/-- one pair term `Zeff[x] * Zeff[y] / dist(x, y)` -/
def zterm (Z : List Int) (dist : Nat → Nat → K) (x y : Nat) : K := ((Z.getD x 0 * Z.getD y 0 : Int) : K) / dist x y

theorem triSum_snoc {β} (f : β → β → K) (x : β) : ∀ (l p : List β),
    triSum f p (l ++ [x]) = triSum f p l + ksum ((p ++ l).map (f x))
  | [], p => by simp [triSum]
  | a :: t, p => by simp [triSum, triSum_snoc f x t, add_assoc]

variable {inp : List Val} {dist : Nat → Nat → K}

def nreInner : Stmt :=
  (.seq (.kset 1 (.dist (.var 7) (.var 8))) (.kadd 0 (.div (.ofInt (.mul (.idx (.var 4) (.var 7)) (.idx (.var 4) (.var 8)))) (.var 1))))

def nreOuter : Stmt := .forIn 8 (.slice (.var 5) (.var 6)) nreInner

/-- `for at2 in atoms[:iat1]:` the terms of `at1 = x` with the earlier atoms `ys` -/
theorem nre_inner {st : St K} {Z : List Int} {x : Nat} {ys : List Nat} {acc : K} (hx : x < Z.length) (hys : ∀ y ∈ ys, y < Z.length)
    (hsrc : evalE inp st.v (.slice (.var 5) (.var 6)) = some (.l (natL ys))) (hlen : st.v.length = 9) (hk : st.k.length = 2)
    (h4 : st.v[4]? = some (.l (intL Z))) (h7 : st.v[7]? = some (.s (some (x : Int)))) (h0 : st.k[0]? = some acc) :
    wp (exec inp dist nreOuter st) (fun st' => st'.k[0]? = some (acc + ksum (ys.map (zterm Z dist x)))) := by
  refine wp_forIn (fun (y : Nat) => .s (some (y : Int))) ys (fun pre s => s.k[0]? = some (acc + ksum (pre.map (zterm Z dist x))))
    ?_ ?_ (by simpa [ksum] using h0) ?_
  · simp [hsrc, Val.items, natL]
  · omega
  intro pre y post s hl hF h
  have h4 := hF.lookup (by decide) h4
  have h7 := hF.lookup (by decide) h7
  have hk' : s.k.length = 2 := hF.klength.trans hk
  simp [-getElem?_pos, nreInner, exec, evalK, evalE, getElem?_setSlot, hF.length, hlen, h4, h7, hk', h, nth?_intL, hx,
    hys y (by simp [hl]), zterm, ksum_eq_sum, add_assoc]

theorem take_natL (pre rest : List Nat) : (natL (pre ++ rest)).take pre.length = natL pre := by
  simp [natL, List.map_append, List.take_left']

theorem pairSum_zterm (Z : List Int) (dist : Nat → Nat → K) (A : List Nat) :
    pairSum (zterm Z dist) A = nreMol Z dist (some A) := by
  simp only [nreMol, Option.getD_some, nre]
  exact (pairSum_map (fun i => (Z.getD i 0, i)) (zterm Z dist) (nreTerm dist) (fun a b => rfl) A).symm

/-- the loops of the body, from a state with `nre = 0.0` -/
theorem nre_loops {st : St K} {Z : List Int} {A : List Nat} (hA : ∀ y ∈ A, y < Z.length) (hlen : st.v.length = 9)
    (hk : st.k.length = 2) (h4 : st.v[4]? = some (.l (intL Z))) (h5 : st.v[5]? = some (.l (natL A))) (h0 : st.k[0]? = some 0) :
    wp (exec inp dist (.forEnum 6 7 (.var 5) nreOuter) st) (fun st' => st'.k[0]? = some (nreMol Z dist (some A))) := by
  rw [← pairSum_zterm, ← triSum_nil]
  refine wp_forEnum (fun (y : Nat) => .s (some (y : Int))) A (fun pre s => s.k[0]? = some (triSum (zterm Z dist) [] pre))
    ?_ ?_ ?_ (by simpa [triSum] using h0) ?_
  · simp [evalE, h5, Val.items, natL]
  · omega
  · omega
  intro pre x post s hl hF h
  have h4 := hF.lookup (by decide) h4
  have h5 := hF.lookup (by decide) h5
  refine (nre_inner (Z := Z) (x := x) (ys := pre) (acc := triSum (zterm Z dist) [] pre) (hA x (by simp [hl])) (fun y hy => hA y (by simp [hl, hy])) ?_ ?_ ?_
    ?_ ?_ ?_).mono ?_
  · simp [-getElem?_pos, evalE, getElem?_setSlot, hF.length, hlen, h5, hl, take_natL]
  · simp [hF.length, hlen]
  · exact hF.klength.trans hk
  · simpa [-getElem?_pos, getElem?_setSlot] using h4
  · simp [-getElem?_pos, getElem?_setSlot, hF.length, hlen]
  · exact h
  · intro s' h'
    simpa [triSum_snoc] using h'

/-- [regenerated from molecule.py] the body of `nuclear_repulsion_energy` is: Zeff comprehension, `atoms = range(n)`, the
`if ifr is not None` replacement, `nre = 0.0`, and the double loop over `enumerate(atoms)` / `atoms[:iat1]` with the
`Zeff[at1] * Zeff[at2] / dist` term the loop lemmas are about -/
theorem nre_shape : Gen.FragmentsSrc.nre =
    (.seq (.set 4 (.zipComp (.mul (.var 2) (.var 3)) 2 3 (.inp 6) (.inp 7)))
    (.seq (.set 5 (.range (.int 0) (.len (.inp 3))))
    (.seq (.ite (.not_ (.isNone (.var 1))) (.set 5 (.idx (.inp 0) (.var 1))) .skip)
    (.seq (.kset 0 .zero) (.forEnum 6 7 (.var 5) nreOuter))))) ∧
    Gen.FragmentsSrc.nreSlots = 9 ∧ Gen.FragmentsSrc.nreKSlots = 2 ∧ Gen.FragmentsSrc.nreRet = 0 ∧
    Gen.FragmentsSrc.NRE.v_ifr = 1 := by decide

/-- **source-derived NRE = the model's pair sum** (any field, any distance function, any molecule whose selected atoms have a
`Zeff` entry): `ifr = None` walks `range(n)`, `ifr = k` walks `fragments[k]` -/
theorem srcNre_eq (n : Nat) (zs : List Int) (real : List Bool) (frags : List (List Nat)) (dist : Nat → Nat → K)
    (ifr : Option Nat) (A : List Nat)
    (hsel : match ifr with
      | none => A = List.range n
      | some k => frags[k]? = some A)
    (hA : ∀ y ∈ A, y < (zeffOf zs real).length) :
    srcNre n zs real frags dist ifr = some (nreMol (zeffOf zs real) dist (some A)) := by
  obtain ⟨st', h1, h2⟩ := nre_loops (inp := inputs n zs real frags [] [] 0) (dist := dist)
    (st := ⟨[.s none, .s (ifr.map (fun (k : Nat) => (k : Int))), .s none, .s none, .l (intL (zeffOf zs real)), .l (natL A), .s none,
      .s none, .s none], [0, 0]⟩) hA rfl rfl rfl rfl rfl
  have hz := zeff_comp (inputs n zs real frags [] [] 0)
    [.s none, .s (ifr.map (fun (k : Nat) => (k : Int))), .s none, .s none, .s none, .s none, .s none, .s none, .s none] 2 3
    (by decide) (by simp) (by simp) zs real rfl rfl
  have hrun : run (inputs n zs real frags [] [] 0) dist Gen.FragmentsSrc.nreSlots Gen.FragmentsSrc.nreKSlots
      [(Gen.FragmentsSrc.NRE.v_ifr, .s (ifr.map (fun (k : Nat) => (k : Int))))] Gen.FragmentsSrc.nre = some st' := by
    rw [← h1]
    simp only [nre_shape]
    -- the loops stay closed while the straight-line statements before them are run
    generalize Stmt.forEnum 6 7 (.var 5) nreOuter = loops
    simp only [run, List.replicate, List.foldl, setSlot, List.set]
    rw [step_seq, step_set, hz]
    cases ifr with
    | none => simp at hsel; simp [andThen, exec, evalE, evalK, inputs, setSlot, natL, b2v, Val.truthy, hsel]
    | some k => simp at hsel; simp [andThen, exec, evalE, evalK, inputs, setSlot, natL, nth?, b2v, Val.truthy, hsel]
  simp only [srcNre, hrun, nre_shape.2.2.2.1, h2]

end nre

/-! ## molecular_formula_from_symbols -/

section formula
open QcelVerif.Formula

/-- [regenerated from molecular_formula.py] the rearrangement between `sorted(count.keys())` and the output loop, and the
output loop body, are the statements the theorems below are about -/
theorem formula_shape :
    Gen.FragmentsSrc.formulaRearrange =
      [.ite (.and_ (.orderIs "hill") (.has "C")) [.ite (.has "H") [.toFront "H"] [], .toFront "C"] []] ∧
    Gen.FragmentsSrc.formulaOut = [.key, .countIfGt 1] := by
  constructor <;> rfl

theorem srcElementOrder_eq (ord : Order) (o : List String) :
    execFs (ordName ord) Gen.FragmentsSrc.formulaRearrange o =
      some (match ord with
        | .alphabetical => o
        | .hill => hillOrder "C" "H" o) := by
  rw [formula_shape.1]
  cases ord
  · simp [execFs, execF, evalFC, ordName]
  · by_cases hC : "C" ∈ o <;> by_cases hH : "H" ∈ o <;>
      simp [execFs, execF, evalFC, ordName, hillOrder, hC, hH]

/-- **source-derived molecular_formula_from_symbols = the model**, for every symbol list and both orders (never raises) -/
theorem srcFromSymbols_eq (syms : List String) (ord : Order) :
    srcFromSymbols syms ord = some (fromSymbols syms ord) := by
  simp only [srcFromSymbols, srcElementOrder_eq, Option.map_some, formula_shape.2, fromSymbols, render, tokens, elementOrder]
  congr 1
  have hpiece : ∀ (k : String) (c : Nat), (k ++ if 1 < c then c.repr else "") = (if 1 < c then k ++ c.repr else k) := by
    intro k c; split <;> simp
  cases ord <;> simp [renderF, outPiece, List.map_map, Function.comp_def, hpiece]

end formula

/-! ## get_fragment, `group_fragments=True` -/

/-- a requested fragment number names a fragment whose atoms exist and which has a charge and a multiplicity -/
def FragOK (n : Nat) (frags : List (List Nat)) (fcs fms : List Int) (k : Nat) : Prop :=
  ∃ fr cf mf, frags[k]? = some fr ∧ (∀ y ∈ fr, y < n) ∧ fcs[k]? = some cf ∧ fms[k]? = some mf

theorem FragOK.getD {n : Nat} {frags : List (List Nat)} {fcs fms : List Int} {k : Nat} (h : FragOK n frags fcs fms k) :
    frags[k]? = some (frags.getD k []) ∧ (∀ y ∈ frags.getD k [], y < n) ∧ fcs[k]? = some (fcs.getD k 0) ∧
      fms[k]? = some (fms.getD k 0) := by
  obtain ⟨fr, cf, mf, h1, h2, h3, h4⟩ := h
  simpa [List.getD_eq_getElem?_getD, h1, h3, h4] using h2

/-- what the grouped path has collected after some blocks: the row lists appended to `geom_blocks`, the rows of `symbols` and
`masses` (their concatenation), the flags, the new index lists, the fragment charges and multiplicities; `frag_start` is the
number of rows -/
structure GAcc where
  blocks : List (List Nat)
  idx : List Nat
  real : List Bool
  frags : List (List Nat)
  fc : List Int
  fm : List Int

/-- one more block: the fragment `fr` with charge `cf` and multiplicity `mf`, real or ghost -/
def GAcc.push (isReal : Bool) (fr : List Nat) (cf mf : Int) (a : GAcc) : GAcc :=
  { blocks := a.blocks ++ [fr], idx := a.idx ++ fr, real := a.real ++ List.replicate fr.length isReal
    frags := a.frags ++ [(List.range fr.length).map (a.idx.length + ·)]
    fc := a.fc ++ [if isReal then cf else 0], fm := a.fm ++ [if isReal then mf else 1] }

/-- the blocks of the fragments numbered `ks` -/
def GAcc.pushAll (frags : List (List Nat)) (fcs fms : List Int) (isReal : Bool) (ks : List Nat) (a : GAcc) : GAcc :=
  ks.foldl (fun a k => a.push isReal (frags.getD k []) (fcs.getD k 0) (fms.getD k 0)) a

theorem GAcc.pushAll_eq (frags : List (List Nat)) (fcs fms : List Int) (isReal : Bool) : ∀ (ks : List Nat) (a : GAcc),
    a.pushAll frags fcs fms isReal ks =
      { blocks := a.blocks ++ ks.map (fun k => frags.getD k [])
        idx := a.idx ++ ks.flatMap (fun k => frags.getD k [])
        real := a.real ++ List.replicate (ks.flatMap (fun k => frags.getD k [])).length isReal
        frags := a.frags ++ ranges a.idx.length (ks.map (fun k => (frags.getD k []).length))
        fc := a.fc ++ ks.map (fun k => if isReal then fcs.getD k 0 else 0)
        fm := a.fm ++ ks.map (fun k => if isReal then fms.getD k 0 else 1) }
  | [], a => by simp [GAcc.pushAll, ranges]
  | k :: t, a => by
    rw [GAcc.pushAll, List.foldl_cons]
    exact (GAcc.pushAll_eq frags fcs fms isReal t _).trans (by simp [GAcc.push, ranges])

section grouped
variable {inp : List Val} {d : Nat → Nat → Int} {n : Nat} {frags : List (List Nat)} {fcs fms : List Int}
  (hI : GfInp inp n frags fcs fms)

def gInner (b : Int) : Stmt :=
  (.seq (.append 6 (.idx (.inp 1) (.var 16))) (.seq (.append 8 (.int b)) (.append 7 (.idx (.inp 2) (.var 16)))))

include hI in
/-- `for idx in self.fragments[frag]:` the symbols, flags and masses of one block -/
theorem g_inner {st : St Int} {b : Int} {k : Nat} {fr : List Nat} {S M F : List (Option Int)} (hfr : ∀ y ∈ fr, y < n)
    (hlen : st.v.length = 33) (h14 : st.v[14]? = some (.s (some (k : Int)))) (hk : frags[k]? = some fr)
    (h6 : st.v[6]? = some (.l S)) (h7 : st.v[7]? = some (.l M)) (h8 : st.v[8]? = some (.l F)) :
    wp (exec inp d (.forIn 16 (.idx (.inp 0) (.var 14)) (gInner b)) st) (fun st' =>
      st'.v[6]? = some (.l (S ++ natL fr)) ∧ st'.v[7]? = some (.l (M ++ natL fr)) ∧
      st'.v[8]? = some (.l (F ++ List.replicate fr.length (some b)))) := by
  refine wp_forIn (fun (y : Nat) => .s (some (y : Int))) fr
    (fun pre s => s.v[6]? = some (.l (S ++ natL pre)) ∧ s.v[7]? = some (.l (M ++ natL pre)) ∧
      s.v[8]? = some (.l (F ++ List.replicate pre.length (some b)))) ?_ ?_ (by simpa [show natL [] = [] from rfl] using ⟨h6, h7, h8⟩) ?_
  · simp [evalE, hI.frags, h14, nth?, hk, Val.items, natL]
  · omega
  intro pre y post s hl hF ⟨i6, i7, i8⟩
  have hy : y < n := hfr y (by simp [hl])
  simp only [gInner, step_seq, step_append, evalE, getElem?_setSlot, length_setSlot, hF.length, hlen, i6, i7, i8,
    hI.symbols, hI.masses, nth?_range n y hy, appendVal_l_s, natL_append, List.replicate_succ', List.length_append, List.length_cons,
    List.length_nil, show natL [y] = [some (y : Int)] from rfl, Option.map_some, andThen_some, wp_some,
    Nat.reduceLT, Nat.reduceEqDiff, if_true, if_false, List.append_assoc, and_self]

def gOuter (isReal : Bool) : Stmt :=
  (.seq (.set 15 (.len (.idx (.inp 0) (.var 14))))
  (.seq (.append 5 (.idx (.inp 3) (.idx (.inp 0) (.var 14))))
  (.seq (.forIn 16 (.idx (.inp 0) (.var 14)) (gInner (if isReal then 1 else 0)))
  (.seq (.append 9 (.range (.var 13) (.add (.var 13) (.var 15))))
  (.seq (.addAssign 13 (.var 15))
  (.seq (.append 10 (if isReal then .idx (.inp 4) (.var 14) else .int 0))
        (.append 11 (if isReal then .idx (.inp 5) (.var 14) else .int 1))))))))

/-- the accumulators of the grouped path hold the blocks collected so far, `frag_start` is their number of rows -/
def GRep (a : GAcc) (st : St Int) : Prop :=
  st.v[5]? = some (llv (a.blocks.map natL)) ∧ st.v[6]? = some (.l (natL a.idx)) ∧ st.v[7]? = some (.l (natL a.idx)) ∧
  st.v[8]? = some (.l (boolL a.real)) ∧ st.v[9]? = some (llv (a.frags.map natL)) ∧ st.v[10]? = some (.l (intL a.fc)) ∧
  st.v[11]? = some (.l (intL a.fm)) ∧ st.v[13]? = some (.s (some (a.idx.length : Nat)))

include hI in
/-- one turn of a block loop of the grouped path (real blocks: `isReal`, ghost blocks: not) -/
theorem g_outer_step (isReal : Bool) {st : St Int} {k : Nat} {fr : List Nat} {cf mf : Int}
    (hk : frags[k]? = some fr) (hfr : ∀ y ∈ fr, y < n) (hcf : fcs[k]? = some cf) (hmf : fms[k]? = some mf)
    {a : GAcc} (ha : GRep a st) (hlen : st.v.length = 33) (h14 : st.v[14]? = some (.s (some (k : Int)))) :
    wp (exec inp d (gOuter isReal) st) (GRep (a.push isReal fr cf mf)) := by
  obtain ⟨a5, a6, a7, a8, a9, a10, a11, a13⟩ := ha
  have hk' : nth? (frags.map natL) (k : Int) = some (natL fr) := by simp [nth?, hk]
  have hcf' : nth? (intL fcs) (k : Int) = some (some cf) := by simp [nth?, intL, hcf]
  have hmf' : nth? (intL fms) (k : Int) = some (some mf) := by simp [nth?, intL, hmf]
  unfold gOuter
  simp only [step_seq, step_set, step_append, evalE, getElem?_setSlot, hlen, h14, hI.frags, hI.geometry, hk',
    mapO_natL_range n fr hfr, a5, appendVal_llv, Option.map_some, andThen_some, Nat.reduceLT, Nat.reduceEqDiff,
    if_true, if_false]
  rw [wp_andThen]
  refine (wp_frame (g_inner hI (b := if isReal then 1 else 0) (k := k) (S := natL a.idx) (M := natL a.idx) (F := boolL a.real)
    hfr ?_ ?_ hk ?_ ?_ ?_)).mono ?_
  · simp [hlen]
  · simp [-getElem?_pos, getElem?_setSlot, h14]
  · simp [-getElem?_pos, getElem?_setSlot, a6]
  · simp [-getElem?_pos, getElem?_setSlot, a7]
  · simp [-getElem?_pos, getElem?_setSlot, a8]
  intro st' ⟨⟨h6, h7, h8⟩, hF⟩
  have hl' : st'.v.length = 33 := by simpa [hlen] using hF.length
  simp only [intL] at hcf' hmf'
  have hg : ∀ j, j ∉ [16, 6, 8, 7] → st'.v[j]? = (setSlot (setSlot st.v 15 (.s (some ((natL fr).length : Nat)))) 5
      (llv (a.blocks.map natL ++ [natL fr])))[j]? := hF.get
  cases isReal <;>
    simp [-getElem?_pos, step_seq, step_append, step_addAssign, hg, hlen, hl', getElem?_setSlot, a9, a13, a10, a11, h14, evalE,
      hI.fc, hI.fm, hcf', hmf', appendVal_llv, appendVal_l_s, GRep, h6, h7, h8, GAcc.push, natL, intL, boolL, b2i, List.map_map,
      Function.comp_def]

include hI in
/-- a block loop of the grouped path over the fragment numbers `ks` -/
theorem g_outer (isReal : Bool) {st : St Int} {src : Expr} {ks : List Nat} {a : GAcc} (hsrc : evalE inp st.v src = some (.l (natL ks)))
    (hks : ∀ k ∈ ks, FragOK n frags fcs fms k) (ha : GRep a st) (hlen : st.v.length = 33) :
    wp (exec inp d (.forIn 14 src (gOuter isReal)) st) (GRep (a.pushAll frags fcs fms isReal ks)) := by
  refine wp_forIn (fun (k : Nat) => .s (some (k : Int))) ks (fun pre s => GRep (a.pushAll frags fcs fms isReal pre) s) ?_ ?_ ha ?_
  · simp [hsrc, Val.items, natL]
  · omega
  intro pre k post s hl hF hG
  obtain ⟨hk, hfr, hcf, hmf⟩ := FragOK.getD (hks k (by simp [hl]))
  refine (g_outer_step hI isReal hk hfr hcf hmf (a := a.pushAll frags fcs fms isReal pre) ?_ (by simp [hF.length, hlen]) ?_).mono ?_
  · simpa [-getElem?_pos, GRep, getElem?_setSlot] using hG
  · simp [-getElem?_pos, getElem?_setSlot, hF.length, hlen]
  · intro s' h
    simpa [GAcc.pushAll, List.foldl_append] using h

include hI in
/-- one turn of a block loop on a fragment number without a fragment: `self.fragments[frag]` raises -/
theorem g_outer_oob (isReal : Bool) (k : Nat) (hk : frags.length ≤ k) (st : St Int) :
    exec inp d (gOuter isReal) { st with v := setSlot st.v 14 (.s (some (k : Int))) } = none := by
  have hn : nth? (frags.map natL) (k : Int) = none := by simp [nth?, hk]
  unfold gOuter
  rw [step_seq, step_set]
  by_cases h14 : 14 < st.v.length
  · have : (setSlot st.v 14 (.s (some (k : Int))))[14]? = some (.s (some (k : Int))) := by simp [setSlot, h14]
    simp [evalE, hI.frags, this, hn]
  · have : (setSlot st.v 14 (.s (some (k : Int))))[14]? = none := by simp [setSlot]; omega
    simp [evalE, hI.frags, this]

end grouped

/-! ### the whole body -/

/-- the `constructor_dict[...] = ...` statements at the end of `get_fragment` -/
def gfSuffix : Stmt :=
  (.seq (.set 26 (.var 9)) (.seq (.set 27 (.var 10)) (.seq (.set 28 (.var 11)) (.seq (.set 29 (.var 6))
  (.seq (.set 30 (.vstack (.var 5))) (.seq (.set 31 (.var 8)) (.set 32 (.var 7))))))))

def gfNormReal : Stmt := .ite (.isInt (.var 1)) (.set 1 (.list1 (.var 1))) .skip

def gfNormGhost : Stmt := .ite (.isInt (.var 2)) (.set 2 (.list1 (.var 2))) (.ite (.isNone (.var 2)) (.set 2 .nil) .skip)

/-- the body of `get_fragment` from the overlap test on, around the `if group_fragments:` statement -/
def gfMain (grouped ordered : Stmt) : Stmt :=
  (.seq (.ite (.anyCommon (.var 1) (.var 2)) (.raise 0) .skip) (.seq (.set 5 .nil) (.seq (.set 6 .nil) (.seq (.set 7 .nil) (.seq (.set 8 .nil) (.seq (.set 9 .nil) (.seq (.set 10 .nil) (.seq (.set 11 .nil) (.seq (.set 12 (.int 0)) (.seq (.ite (.var 4) grouped ordered) gfSuffix))))))))))

/-- the body of `get_fragment`: the two argument normalisations, then `gfMain` -/
def gfTop (grouped ordered : Stmt) : Stmt := .seq gfNormReal (.seq gfNormGhost (gfMain grouped ordered))

/-- `(x - 1 for x in fragment_multiplicities)` -/
def multE : Expr := .comp (.sub (.var 18) (.int 1)) 18 (.var 11) (.int 1)

/-- the grouped branch up to the ghost loop: `frag_start = 0`, the real blocks, the two totals -/
def gReal (rest : Stmt) : Stmt :=
  (.seq (.set 13 (.int 0)) (.seq (.forIn 14 (.var 1) (gOuter true))
  (.seq (.set 17 (.sum (.var 10))) (.seq (.set 19 (.add (.sum multE) (.int 1))) rest))))

def gGrouped : Stmt := gReal (.forIn 14 (.var 2) (gOuter false))

/-- [regenerated from molecule.py] the body of `get_fragment` is the statement list the lemmas are about, with its slot numbers -/
theorem gf_shape : Gen.FragmentsSrc.getFragment = gfTop gGrouped gOrdered ∧ Gen.FragmentsSrc.gfSlots = 33 ∧
    Gen.FragmentsSrc.GF.v_real = 1 ∧ Gen.FragmentsSrc.GF.v_ghost = 2 ∧ Gen.FragmentsSrc.GF.v_orient = 3 ∧
    Gen.FragmentsSrc.GF.v_group_fragments = 4 ∧
    Gen.FragmentsSrc.GF.v_cd_molecular_charge = 17 ∧ Gen.FragmentsSrc.GF.v_cd_molecular_multiplicity = 19 ∧
    Gen.FragmentsSrc.GF.v_cd_fragments = 26 ∧ Gen.FragmentsSrc.GF.v_cd_fragment_charges = 27 ∧
    Gen.FragmentsSrc.GF.v_cd_fragment_multiplicities = 28 ∧ Gen.FragmentsSrc.GF.v_cd_symbols = 29 ∧
    Gen.FragmentsSrc.GF.v_cd_geometry = 30 ∧ Gen.FragmentsSrc.GF.v_cd_real = 31 ∧ Gen.FragmentsSrc.GF.v_cd_masses = 32 ∧
    Gen.FragmentsSrc.gfOrientPassedThrough = true := by
  refine ⟨rfl, rfl, rfl, rfl, rfl, rfl, rfl, rfl, rfl, rfl, rfl, rfl, rfl, rfl, rfl, rfl⟩

theorem any_natL (R G : List Nat) : (natL R).any ((natL G).contains ·) = R.any (G.contains ·) := by
  simp only [natL, List.any_map]
  congr 1
  funext k
  exact contains_natL G k

/-- the state in which the body starts: the four parameters, every local `None` -/
def argInit (rv gv o g : Val) : St Int :=
  ⟨[.s none, rv, gv, o, g, .s none, .s none, .s none, .s none, .s none, .s none, .s none,
    .s none, .s none, .s none, .s none, .s none, .s none, .s none, .s none, .s none, .s none, .s none, .s none, .s none,
    .s none, .s none, .s none, .s none, .s none, .s none, .s none, .s none], []⟩

def gfInit (R G : List Nat) (orient group : Bool) : St Int := argInit (.l (natL R)) (.l (natL G)) (b2v orient) (b2v group)

/-- `gfRun` is the generated body run from `argInit` -/
theorem gfRun_eq {α} (mol : Mol α) (rv gv : Val) (orient group : Bool) :
    gfRun mol rv gv orient group =
      exec (gfInputs mol) (fun _ _ => (0 : Int)) (gfTop gGrouped gOrdered) (argInit rv gv (b2v orient) (b2v group)) := by
  unfold gfRun run
  simp only [gf_shape]
  rfl

theorem gfRun_lists {α} (mol : Mol α) (R G : List Nat) (orient group : Bool) :
    gfRun mol (.l (natL R)) (.l (natL G)) orient group =
      exec (gfInputs mol) (fun _ _ => (0 : Int)) (gfTop gGrouped gOrdered) (gfInit R G orient group) :=
  gfRun_eq mol _ _ orient group

section top
variable (inp : List Val) (d : Nat → Nat → Int) (R G : List Nat) (orient group : Bool)

/-- list arguments are left as they are -/
theorem gf_norm_lists (rest : Stmt) :
    exec inp d (.seq gfNormReal (.seq gfNormGhost rest)) (gfInit R G orient group) = exec inp d rest (gfInit R G orient group) := by
  have h1 : exec inp d gfNormReal (gfInit R G orient group) = some (gfInit R G orient group) := by
    simp [gfNormReal, exec, evalE, gfInit, argInit, b2v, Val.truthy]
  have h2 : exec inp d gfNormGhost (gfInit R G orient group) = some (gfInit R G orient group) := by
    simp [gfNormGhost, exec, evalE, gfInit, argInit, b2v, Val.truthy]
  rw [step_seq, h1, andThen_some, step_seq, h2, andThen_some]

/-- from the overlap test to the constructor arguments: the one `raise` of the body on a common fragment number, else the
common initialisations, the selected branch and the `constructor_dict` statements -/
theorem gf_main (grouped ordered : Stmt) :
    exec inp d (gfMain grouped ordered) (gfInit R G orient group) =
      if R.any (G.contains ·) then none
      else (exec inp d (if group then grouped else ordered) (gfStart R G orient group)).bind (exec inp d gfSuffix) := by
  have h3 : exec inp d (.ite (.anyCommon (.var 1) (.var 2)) (.raise 0) .skip) (gfInit R G orient group) =
      if R.any (G.contains ·) then none else some (gfInit R G orient group) := by
    simp only [exec, evalE, gfInit, argInit, List.getElem?_cons_succ, List.getElem?_cons_zero, any_natL]
    cases R.any (G.contains ·) <;> simp [b2v, Val.truthy]
  unfold gfMain
  rw [step_seq, h3]
  split
  · rfl
  · rw [andThen_some]
    unfold gfInit argInit
    iterate 8
      rw [step_seq]
      simp only [step_set, andThen_some, evalE, setSlot, List.set, List.length_cons, List.length_nil,
        Nat.reduceAdd, Nat.reduceLT, reduceIte]
    rw [step_seq]
    simp only [step_ite, evalE, List.getElem?_cons_succ, List.getElem?_cons_zero]
    cases group <;> simp [gfStart, b2v, Val.truthy, andThen]

end top

theorem gf_pre (inp : List Val) (R G : List Nat) (orient group : Bool) (hov : R.any (G.contains ·) = false)
    (grouped ordered : Stmt) :
    exec inp (fun _ _ => (0 : Int)) (gfTop grouped ordered) (gfInit R G orient group) =
      (exec inp (fun _ _ => (0 : Int)) (if group then grouped else ordered) (gfStart R G orient group)).bind
        (exec inp (fun _ _ => (0 : Int)) gfSuffix) := by
  rw [gfTop, gf_norm_lists, gf_main, hov]
  rfl

theorem osum_map_some {β} (f : β → Int) (l : List β) : osum (l.map (fun k => some (f k))) = some (isum (l.map f)) := by
  have := osum_intL (l.map f)
  simpa [intL, List.map_map, Function.comp_def] using this

/-- the keyword arguments the grouped path collects, written with the parent's lists -/
def groupedCtor (frags : List (List Nat)) (fcs fms : List Int) (R G : List Nat) : SrcCtor :=
  let idx := R.flatMap (fun k => frags.getD k []) ++ G.flatMap (fun k => frags.getD k [])
  { sym := idx, mass := idx, geom := idx
    real := List.replicate (R.flatMap (fun k => frags.getD k [])).length true ++
      List.replicate (G.flatMap (fun k => frags.getD k [])).length false
    frags := ranges 0 (R.map (fun k => (frags.getD k []).length)) ++
      ranges (R.flatMap (fun k => frags.getD k [])).length (G.map (fun k => (frags.getD k []).length))
    fc := R.map (fun k => fcs.getD k 0) ++ G.map (fun _ => 0)
    fm := R.map (fun k => fms.getD k 0) ++ G.map (fun _ => 1)
    c := some (isum (R.map (fun k => fcs.getD k 0)))
    m := some (isum ((R.map (fun k => fms.getD k 0)).map (· - 1)) + 1) }

section groupedBranch
variable {inp : List Val} {n : Nat} {frags : List (List Nat)} {fcs fms : List Int} (hI : GfInp inp n frags fcs fms)
  (d : Nat → Nat → Int) (R G : List Nat) (orient : Bool)

include hI in
/-- the grouped branch up to the ghost loop, from the state after the common initialisations: the blocks of the real fragments
are collected, the two totals are taken from their charges and multiplicities -/
theorem g_real (hR : ∀ k ∈ R, FragOK n frags fcs fms k) (rest : Stmt) :
    let a := GAcc.pushAll frags fcs fms true R ⟨[], [], [], [], [], []⟩
    ∃ s, exec inp d (gReal rest) (gfStart R G orient true) = exec inp d rest s ∧ GRep a s ∧
      s.v[17]? = some (.s (some (isum a.fc))) ∧ s.v[19]? = some (.s (some (isum (a.fm.map (· - 1)) + 1))) ∧
      s.v[2]? = some (.l (natL G)) ∧ s.v.length = 33 := by
  intro a
  obtain ⟨s2, he, hG, hF⟩ := wp_frame (g_outer hI (d := d) true (src := .var 1) (ks := R) (a := ⟨[], [], [], [], [], []⟩)
    (st := { gfStart R G orient true with v := setSlot (gfStart R G orient true).v 13 (.s (some 0)) }) rfl hR
    ⟨rfl, rfl, rfl, rfl, rfl, rfl, rfl, rfl⟩ rfl)
  change GRep a s2 at hG
  clear_value a
  obtain ⟨g5, g6, g7, g8, g9, g10, g11, g13⟩ := hG
  have hl2 : s2.v.length = 33 := hF.length
  have h2 : s2.v[2]? = some (.l (natL G)) := hF.get 2 (by decide)
  have hcomp : evalE inp (setSlot s2.v 17 (.s (some (isum a.fc)))) multE = some (.l (a.fm.map (fun x => some (x - 1)))) := by
    rw [multE, evalE_comp_eq, show evalE inp _ (.var 11) = some (.l (a.fm.map some)) by
      simp only [evalE, getElem?_setSlot, Nat.reduceEqDiff, if_false]; exact g11]
    simp only []
    rw [compO_map some (fun x => some (x - 1)) (fun x => by simp [evalE, Val.truthy]) a.fm
      (fun k _ => by simp [-getElem?_pos, evalE, getElem?_setSlot, hl2])]
    rfl
  rw [gReal, step_seq, show exec inp d (.set 13 (.int 0)) (gfStart R G orient true) = some _ from rfl, andThen_some, step_seq, he,
    andThen_some]
  simp only [step_seq, step_set, evalE, length_setSlot, hl2, g10, hcomp, osum_intL, osum_map_some, 
    Option.map_some, andThen_some, Nat.reduceLT, if_true]
  refine ⟨_, rfl, ?_⟩
  simp [-getElem?_pos, GRep, getElem?_setSlot, hl2, g5, g6, g7, g8, g9, g10, g11, g13, h2]

end groupedBranch

theorem decNatL_natL (xs : List Nat) : decNatL (.l (natL xs)) = some xs := by
  simpa [decNatL, natL] using mapO_map decNat (fun (k : Nat) => some (k : Int)) id xs (fun a _ => by simp [decNat])

theorem decIntL_intL (l : List Int) : decIntL (.l (intL l)) = some l := by
  simpa [decIntL, intL] using mapO_map (id : Option Int → Option Int) some id l (fun _ _ => rfl)

theorem decLL_natL (xss : List (List Nat)) : decLL (llv (xss.map natL)) = some xss := by
  cases xss with
  | nil => rfl
  | cons a t =>
    simpa [llv, decLL] using mapO_map (mapO decNat) natL id (a :: t) (fun y _ => by simpa [decNatL] using decNatL_natL y)

theorem decBoolL_boolL (l : List Bool) : decBoolL (.l (boolL l)) = some l := by
  simpa [decBoolL, boolL] using mapO_map (fun x : Option Int => x.map (· != 0)) (fun b => some (b2i b)) id l
    (fun b _ => by cases b <;> simp [b2i])

theorem flatten_map_natL (xss : List (List Nat)) : (xss.map natL).flatten = natL xss.flatten := by
  induction xss with
  | nil => rfl
  | cons a t ih => simp [natL_append, ih]

theorem vstack_llv (inp : List Val) (B : List (List (Option Int))) :
    evalE inp [llv B] (.vstack (.var 0)) = if B = [] then none else some (.l B.flatten) := by
  cases B <;> simp [evalE, llv]

/-- the `constructor_dict` statements followed by the reading of the keyword arguments, on a state whose accumulators hold
encoded lists: when `np.vstack(geom_blocks)` raises so does the body, otherwise the arguments are the decoded accumulators
and the rows `np.vstack` returns -/
theorem suffix_read {inp : List Val} {d : Nat → Nat → Int} {st : St Int} (hlen : st.v.length = 33) {ge : Val}
    (rows : Option (List Nat)) {sym mass : List Nat} {real : List Bool} {fr : List (List Nat)} {fc fm : List Int} {c m : Option Int}
    (hge : evalE inp [ge] (.vstack (.var 0)) = rows.map (fun r => .l (natL r)))
    (h5 : st.v[5]? = some ge) (h6 : st.v[6]? = some (.l (natL sym))) (h7 : st.v[7]? = some (.l (natL mass)))
    (h8 : st.v[8]? = some (.l (boolL real))) (h9 : st.v[9]? = some (llv (fr.map natL))) (h10 : st.v[10]? = some (.l (intL fc)))
    (h11 : st.v[11]? = some (.l (intL fm))) (h17 : st.v[17]? = some (.s c)) (h19 : st.v[19]? = some (.s m)) :
    (exec inp d gfSuffix st).bind (fun st => readCtor st.v) =
      rows.map (fun r =>
        { sym := sym, mass := mass, geom := r, real := real, frags := fr, fc := fc, fm := fm, c := c, m := m }) := by
  simp only [evalE, List.getElem?_cons_zero] at hge
  unfold gfSuffix
  simp only [step_seq, step_set, evalE, getElem?_setSlot, length_setSlot, hlen, h5, h6, h9, h10, h11, hge,
    andThen_some, Nat.reduceLT, Nat.reduceEqDiff, if_true, if_false]
  cases rows with
  | none => rfl
  | some r =>
    simp only [step_seq, step_set, evalE, getElem?_setSlot, length_setSlot, hlen, h7, h8, h17, h19, readCtor,
      Option.bind_some, Option.map_some, andThen_some, Nat.reduceLT, Nat.reduceEqDiff, if_true, if_false,
      gf_shape.2,
      decNatL_natL, decBoolL_boolL, decLL_natL, decIntL_intL, decOptInt]
    rfl

/-- **source-derived get_fragment, `group_fragments=True`** on any molecule and any lists of valid fragment numbers without a
common element, not both empty: the body runs to the constructor call with exactly these keyword arguments — the rows of
`symbols`, `masses`, `geometry` are the atoms of the real fragments then of the ghost fragments in the order requested,
flags true.. false.., fresh index ranges, charges / multiplicities kept for real and (0, 1) for ghost fragments, totals
from the real ones; the `orient` argument does not enter the record -/
theorem srcExtract_grouped_run {α} (mol : Mol α) (R G : List Nat) (orient : Bool)
    (hR : ∀ k ∈ R, FragOK mol.atoms.length mol.frags mol.fc mol.fm k)
    (hG : ∀ k ∈ G, FragOK mol.atoms.length mol.frags mol.fc mol.fm k)
    (hov : R.any (G.contains ·) = false) (hne : R ++ G ≠ []) :
    (gfRun mol (.l (natL R)) (.l (natL G)) orient true).bind (fun st => readCtor st.v) =
      some (groupedCtor mol.frags mol.fc mol.fm R G) := by
  have hI := gfInp_inputs mol.atoms.length [] mol.real mol.frags mol.fc mol.fm mol.c
  have hne' : ¬ (R = [] ∧ G = []) := by cases R <;> cases G <;> simp_all
  obtain ⟨s, h1, hA, h17, h19, h2, hl⟩ := g_real hI (fun _ _ => (0 : Int)) R G orient hR (.forIn 14 (.var 2) (gOuter false))
  obtain ⟨s', he, hG', hF⟩ := wp_frame (g_outer hI (d := fun _ _ => (0 : Int)) false (src := .var 2) (ks := G) h2 hG hA hl)
  rw [gfRun_lists, gf_pre _ R G orient true hov, if_pos rfl, gfInputs, gGrouped, h1, he, Option.bind_some]
  simp only [GAcc.pushAll_eq, List.nil_append, List.length_nil] at hG' h17 h19
  obtain ⟨g5, g6, g7, g8, g9, g10, g11, _⟩ := hG'
  refine (suffix_read (hF.length.trans hl)
    (some (R.flatMap (fun k => mol.frags.getD k []) ++ G.flatMap (fun k => mol.frags.getD k []))) ?_ g5 g6 g7 g8 g9 g10 g11
    (hF.lookup (by decide) h17) (hF.lookup (by decide) h19)).trans ?_
  · rw [vstack_llv, if_neg, flatten_map_natL]
    · simp [List.flatMap_def]
    · simpa using hne'
  · simp [groupedCtor]

/-! ### … and the hand model `extractGrouped` builds the same record -/

theorem srcExtract_eq_bind {α} (mol : Mol α) (R G : List Nat) (group : Bool) :
    srcExtract mol R G group = (gfRun mol (.l (natL R)) (.l (natL G)) false group).bind (fun st => readCtor st.v) := by
  unfold srcExtract
  cases gfRun mol (.l (natL R)) (.l (natL G)) false group <;> rfl

/-- **source-derived get_fragment (grouped path) = the hand model**: under the hypotheses of `srcExtract_grouped_run` the model's
`extractGrouped` succeeds and returns the record the source-derived body hands to the constructor (its three per-atom arrays
agree, and are the rows of the model's atom list) -/
theorem srcExtract_grouped_eq_model {α} (mol : Mol α) (R G : List Nat)
    (hR : ∀ k ∈ R, FragOK mol.atoms.length mol.frags mol.fc mol.fm k)
    (hG : ∀ k ∈ G, FragOK mol.atoms.length mol.frags mol.fc mol.fm k)
    (hov : R.any (G.contains ·) = false) (hne : R ++ G ≠ []) :
    ∃ k, srcExtract mol R G true = some k ∧ ∃ c, k.toCtor mol = some c ∧ extractGrouped mol R G = .ok c := by
  refine ⟨groupedCtor mol.frags mol.fc mol.fm R G, ?_, ?_⟩
  · rw [srcExtract_eq_bind, srcExtract_grouped_run mol R G false hR hG hov hne]
  · have hidx : ∀ i ∈ R.flatMap (fun k => mol.frags.getD k []) ++ G.flatMap (fun k => mol.frags.getD k []),
        i < mol.atoms.length := by
      intro i hi
      rcases List.mem_append.1 hi with h | h <;> obtain ⟨k, hk, hik⟩ := List.mem_flatMap.1 h
      · exact (hR k hk).getD.2.1 i hik
      · exact (hG k hk).getD.2.1 i hik
    obtain ⟨atoms, hat⟩ := pick_exists mol.atoms _ hidx
    have p1 := pick_getD mol.frags [] R (fun k hk => (hR k hk).getD.1)
    have p2 := pick_getD mol.frags [] G (fun k hk => (hG k hk).getD.1)
    have p3 := pick_getD mol.fc 0 R (fun k hk => (hR k hk).getD.2.2.1)
    have p4 := pick_getD mol.fm 0 R (fun k hk => (hR k hk).getD.2.2.2)
    have hidx' : (R.map (fun k => mol.frags.getD k []) ++ G.map (fun k => mol.frags.getD k [])).flatten =
        R.flatMap (fun k => mol.frags.getD k []) ++ G.flatMap (fun k => mol.frags.getD k []) := by
      simp [List.flatMap_def]
    refine ⟨_, by rw [SrcCtor.toCtor, if_pos ⟨rfl, rfl⟩]; exact congrArg _ hat, ?_⟩
    simp only [extractGrouped, p1, p2, p3, p4, liftIdx, hidx', hat, bind, Except.bind, pure, Except.pure, groupedCtor,
      List.map_append, ranges_append, List.map_map, Function.comp_def, Nat.zero_add, ← List.flatMap_def,
      ← List.length_flatMap]

/-! ## headline statements over the source-derived procedures -/

theorem zeffOf_eq_zeffList {α} (zOf : α → Int) (atoms : List α) (real : List Bool) :
    zeffOf (atoms.map zOf) real = zeffList zOf atoms real := by
  simp [zeffOf, zeffList, List.zipWith_map_left]

/-- **source-derived `nelectrons()` = the model** (every molecule): sum of `Z * real` minus the molecular charge -/
theorem srcNelectrons_eq {α} (zOf : α → Int) (mol : Mol α) :
    srcNelectrons zOf mol none = some (nelectrons zOf mol) := by
  simp only [srcNelectrons, srcNel_none, zeffOf_eq_zeffList, nelectrons]

/-- **source-derived `nelectrons(ifr)` = the model** for every fragment number that has a fragment and a charge -/
theorem srcNelectronsFrag_eq {α} (zOf : α → Int) (mol : Mol α) (k : Nat) (fr : List Nat) (q : Int)
    (hfr : mol.frags[k]? = some fr) (hq : mol.fc[k]? = some q) :
    srcNelectrons zOf mol (some k) = nelectronsFrag zOf mol k := by
  simp only [srcNelectrons, srcNel_some _ _ _ _ _ k fr q hfr hq, zeffOf_eq_zeffList, nelectronsFrag, hfr, hq,
    Option.bind_eq_bind, Option.bind_some, Option.pure_def]

/-- `nelectrons_fragment` restated over the source-derived body: for a duplicate-free fragment the source's enumerate / `in`
sum is the sum of Z over the fragment's atoms flagged real, minus the fragment charge -/
theorem srcNelectrons_fragment {α} (zOf : α → Int) (mol : Mol α) (k : Nat) (fr : List Nat) (q : Int)
    (hfr : mol.frags[k]? = some fr) (hq : mol.fc[k]? = some q) (hnd : fr.Nodup) :
    srcNelectrons zOf mol (some k) =
      some (isum ((fr.filter (fun i => mol.real.getD i false)).map (zAt zOf mol.atoms)) - q) := by
  rw [srcNelectronsFrag_eq zOf mol k fr q hfr hq, nelectrons_fragment zOf mol k fr q hfr hq hnd]

/-- non-vacuity (test): H | ghost-O H with charges (0, 1): the second fragment has 1 - 1 = 0 electrons -/
example : srcNelectrons (fun z : Int => z) ⟨[1, 8, 1], [true, false, true], [[0], [1, 2]], [0, 1], [1, 2], 1, 2⟩ (some 1) = some 0 := by
  decide

section nre_headline
variable {K : Type} [Field K]

/-- `nre_fragment` restated over the source-derived loops: `nuclear_repulsion_energy(k)` = the pair sum over the atoms of the
fragment with non-zero `Z * real` (ghost atoms contribute nothing, atoms outside the fragment do not enter) -/
theorem srcNre_fragment (n : Nat) (zs : List Int) (real : List Bool) (frags : List (List Nat)) (dist : Nat → Nat → K)
    (k : Nat) (fr : List Nat) (hfr : frags[k]? = some fr) (hA : ∀ y ∈ fr, y < (zeffOf zs real).length) :
    srcNre n zs real frags dist (some k) =
      some (nre dist ((fr.filter (fun i => (zeffOf zs real).getD i 0 != 0)).map (fun i => ((zeffOf zs real).getD i 0, i)))) := by
  rw [srcNre_eq n zs real frags dist (some k) fr hfr hA, nre_fragment]

/-- `nuclear_repulsion_energy()` (whole molecule) over the source-derived loops = the model's `nreMol … none` -/
theorem srcNre_whole (zs : List Int) (real : List Bool) (frags : List (List Nat)) (dist : Nat → Nat → K) :
    srcNre (zeffOf zs real).length zs real frags dist none = some (nreMol (zeffOf zs real) dist none) := by
  rw [srcNre_eq _ zs real frags dist none (List.range (zeffOf zs real).length) rfl (by simp), nre_whole]

/-- `nre_perm_invariant` restated over the source-derived loops: two fragments listing the same atoms in different orders have
the same source-derived energy (symmetric distance) -/
theorem srcNre_perm (n : Nat) (zs : List Int) (real : List Bool) (frags : List (List Nat)) (dist : Nat → Nat → K)
    (hd : ∀ x y, dist x y = dist y x) (k k' : Nat) (A A' : List Nat) (hk : frags[k]? = some A) (hk' : frags[k']? = some A')
    (hp : A.Perm A') (hA : ∀ y ∈ A, y < (zeffOf zs real).length) :
    srcNre n zs real frags dist (some k) = srcNre n zs real frags dist (some k') := by
  rw [srcNre_eq n zs real frags dist (some k) A hk hA,
    srcNre_eq n zs real frags dist (some k') A' hk' (fun y hy => hA y (hp.mem_iff.2 hy))]
  simp only [nreMol, Option.getD_some]
  rw [nre_perm_invariant dist hd (hp.map _)]

/-- non-vacuity (test) of `srcNre_perm`: fragments [0, 2] and [2, 0] of a three-atom molecule, |i - j| as distance -/
example : ([0, 2] : List Nat).Perm [2, 0] ∧ (∀ y ∈ ([0, 2] : List Nat), y < (zeffOf [2, 3, 1] [true, false, true]).length) ∧
    (∀ x y : Nat, ((x : ℚ) - y) * (if x < y then -1 else 1) = ((y : ℚ) - x) * (if y < x then -1 else 1) ∨ x = y) := by
  refine ⟨List.Perm.swap _ _ _, by decide, ?_⟩
  intro x y
  rcases Nat.lt_trichotomy x y with h | h | h
  · left; simp [h, Nat.lt_asymm h]
  · right; exact h
  · left; simp [h, Nat.lt_asymm h]

/-- `nre_rigid_invariant` restated over the source-derived loops: replacing the geometry by one with the same pair distances
does not change the source-derived energy -/
theorem srcNre_rigid (n : Nat) (zs : List Int) (real : List Bool) (frags : List (List Nat)) (dist dist' : Nat → Nat → K)
    (hg : ∀ x y, dist' x y = dist x y) (ifr : Option Nat) :
    srcNre n zs real frags dist' ifr = srcNre n zs real frags dist ifr := by
  have : dist' = dist := funext fun x => funext fun y => hg x y
  rw [this]

/-- non-vacuity (test): He, ghost Li, H on a line — the source-derived energy of fragment [0,1,2] is 2*1/2 = 1 -/
example : srcNre (K := ℚ) 3 [2, 3, 1] [true, false, true] [[0, 1, 2]]
    (fun i j => ((i : ℚ) - j) * (if i < j then -1 else 1)) (some 0) = some 1 := by
  rw [srcNre_eq 3 [2, 3, 1] [true, false, true] [[0, 1, 2]] _ (some 0) [0, 1, 2] rfl (by decide)]
  norm_num [nreMol, nre, pairSum, ksum, nreTerm, zeffOf, b2i]

end nre_headline

section formula_headline
open QcelVerif.Formula

/-- `order_formula_of_formula` restated over the source-derived writer: re-ordering the formula the source-derived
`molecular_formula_from_symbols` writes in convention `ord` into `ord'` gives what it writes in `ord'` (WFSym symbols) -/
theorem order_formula_of_formula_src (syms : List String) (ord ord' : Order) (hwf : ∀ s ∈ syms, WFSym (title s)) :
    (srcFromSymbols syms ord).bind (fun f => orderFormula f ord') = srcFromSymbols syms ord' := by
  simp only [srcFromSymbols_eq, Option.bind_some, order_formula_of_formula syms ord ord' hwf]

/-- tests (evaluated, `#guard`): the source-derived writer on concrete lists, both orders; Hill without carbon is alphabetical;
non-vacuity of the hypothesis: these symbols are words of ASCII letters (so their title-cased forms are WFSym) -/
example : ∀ s ∈ ["h", "C", "o", "H", "cl"], rawSym s.toList = true := by decide
#guard srcFromSymbols ["h", "C", "o", "H", "cl"] .hill == some "CH2ClO"
#guard srcFromSymbols ["h", "C", "o", "H", "cl"] .alphabetical == some "CClH2O"
#guard srcFromSymbols ["h", "o", "H", "cl"] .hill == some "ClH2O"

end formula_headline

/-! ## get_fragment, `group_fragments=False` — concrete runs

`srcExtract_ordered_partial`: the generated body of the order-preserving path (the `at2fr` double loop with item assignment,
the atom loop with the `ifr in real or ifr in ghost` test, `real_atoms.append(ifr in real)`, the `at2at` remap and the
fragment loop with its comprehension) is run by the same evaluator and agrees with `extractOrdered` on the concrete molecules
below (tests, by kernel evaluation) and on every generated case of the differential stream (driver line `sgf|0|…`).
The statement for all molecules and selections is `srcExtract_ordered_eq_model` in `Props/C15SrcOrdered.lean`, from the loop
invariants of `Lemmas/FragmentsSrcOrdered.lean`. -/

def testMol : Mol Nat := ⟨[10, 11, 12, 13, 14], [true, true, false, true, true], [[0, 1], [2], [3, 4]], [0, -1, 1], [1, 2, 2], 0, 3⟩

/-- tests (kernel evaluation of the generated body): real = [2], ghost = [0] in the order-preserving path keeps the parent's
atom order (ghost block first), flags ghost atoms `false`, remaps the index lists, takes (0, 1) for the ghost and (1, 2)
for the real fragment; same against the hand model for a second selection; and the model agrees -/
theorem srcExtract_ordered_partial :
    srcExtract testMol [2] [0] false =
      some ⟨[0, 1, 3, 4], [0, 1, 3, 4], [0, 1, 3, 4], [false, false, true, true], [[0, 1], [2, 3]], [0, 1], [1, 2], none, none⟩ ∧
    ((srcExtract testMol [2] [0] false).bind (SrcCtor.toCtor testMol)) = (extractOrdered testMol [2] [0]).toOption ∧
    ((srcExtract testMol [1, 0] [2] false).bind (SrcCtor.toCtor testMol)) = (extractOrdered testMol [1, 0] [2]).toOption ∧
    ((srcExtract testMol [0] [] false).bind (SrcCtor.toCtor testMol)) = (extractOrdered testMol [0] []).toOption ∧
    srcExtract testMol [0] [0] false = none := by
  decide +kernel

/-- tests (kernel evaluation) of the grouped path incl. the `isinstance(real, int)` / `ghost is None` argument forms;
the statement for all molecules and argument forms is `srcExtract_args` in `Props/C15SrcOrdered.lean` -/
theorem srcExtract_args_partial :
    ((gfRun testMol (.s (some 2)) (.s none) false true).bind (fun st => readCtor st.v)) = srcExtract testMol [2] [] true ∧
    ((gfRun testMol (.l (natL [2, 0])) (.s (some 1)) true true).bind (fun st => readCtor st.v)) = srcExtract testMol [2, 0] [1] true ∧
    srcExtract testMol [2, 0] [1] true = some (groupedCtor testMol.frags testMol.fc testMol.fm [2, 0] [1]) := by
  decide +kernel

/-- non-vacuity of `srcExtract_grouped_eq_model` (test): its hypotheses hold for real = [2, 0], ghost = [1] of the test molecule -/
example : (∀ k ∈ [2, 0], FragOK testMol.atoms.length testMol.frags testMol.fc testMol.fm k) ∧
    (∀ k ∈ [1], FragOK testMol.atoms.length testMol.frags testMol.fc testMol.fm k) ∧
    ([2, 0].any ([1].contains ·) = false) := by
  refine ⟨?_, ?_, by decide⟩ <;> intro k hk <;> simp at hk
  · rcases hk with rfl | rfl
    · exact ⟨[3, 4], 1, 2, rfl, by decide, rfl, rfl⟩
    · exact ⟨[0, 1], 0, 1, rfl, by decide, rfl, rfl⟩
  · subst hk; exact ⟨[2], -1, 2, rfl, by decide, rfl, rfl⟩

end QcelVerif.FragSrc
