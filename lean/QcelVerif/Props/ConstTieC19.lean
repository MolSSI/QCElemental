import QcelVerif.Props.C19Wide
import QcelVerif.Gen.SrcConsts
import QcelVerif.Props.ConstTieLib
/-!
# C19 — the keyword defaults, the `atol >= 1` refusal and the massaged keys of the comparison models are the source's

`Model/Compare.lean` / `Model/CompareWide.lean` hard-code: the defaults `equal_nan / equal_phase / passnone = False`
(`VOpts`), `atol = 1.0e-6`, `rtol = 1.0e-16` (`atolDefault`, `rtolDefault`: what `ProtoModel.compare` falls back to),
`forgive = None`, `equal_phase = False` (`CompareKw`), the refusal `atol >= 1` (a `ValueError`), the four keys `massage_dicts` normalises (in its order) and the provenance key it
pops.  `Gen/SrcConsts.lean` is rewritten on every run from `qcelemental/testing.py` and `models/basemodels.py` (by `ast`).
Core Lean only.
-/
namespace QcelVerif.Compare
open QcelVerif QcelVerif.ConstTie

theorem testing_float_literals_ok :
    FloatLit.ok Src.compare_values.atol Src.compare_values.atol_dec Src.compare_values.atol_bits Src.compare_values.atol_f64 = true ∧
    FloatLit.ok Src.compare_values.rtol Src.compare_values.rtol_dec Src.compare_values.rtol_bits Src.compare_values.rtol_f64 = true ∧
    FloatLit.ok Src.compare_recursive.atol Src.compare_recursive.atol_dec Src.compare_recursive.atol_bits Src.compare_recursive.atol_f64 = true ∧
    FloatLit.ok Src.compare_recursive.rtol Src.compare_recursive.rtol_dec Src.compare_recursive.rtol_bits Src.compare_recursive.rtol_f64 = true ∧
    FloatLit.ok Src.compare_molrecs.atol Src.compare_molrecs.atol_dec Src.compare_molrecs.atol_bits Src.compare_molrecs.atol_f64 = true ∧
    FloatLit.ok Src.compare_molrecs.rtol Src.compare_molrecs.rtol_dec Src.compare_molrecs.rtol_bits Src.compare_molrecs.rtol_f64 = true := by
  decide +kernel

/-- `atol=1.0e-6`, `rtol=1.0e-16`: the model's defaults are the doubles of `compare_recursive`'s literals, and
`compare_values` and `compare_molrecs` declare the same two defaults -/
theorem tolerance_defaults_match_source :
    atolDefault = Src.compare_recursive.atol_f64 ∧ rtolDefault = Src.compare_recursive.rtol_f64 ∧
    Src.compare_values.atol_f64 = Src.compare_recursive.atol_f64 ∧ Src.compare_values.rtol_f64 = Src.compare_recursive.rtol_f64 ∧
    Src.compare_molrecs.atol_f64 = Src.compare_recursive.atol_f64 ∧ Src.compare_molrecs.rtol_f64 = Src.compare_recursive.rtol_f64 := by
  decide +kernel

/-- options left out of a `compare_values` call mean the source's defaults -/
theorem flag_defaults_match_source (a r : Rat) :
    ({ atol := a, rtol := r } : VOpts).equalNan = Src.compare_values.equal_nan ∧
    ({ atol := a, rtol := r } : VOpts).equalPhase = Src.compare_values.equal_phase ∧
    ({ atol := a, rtol := r } : VOpts).passnone = Src.compare_values.passnone := by
  exact ⟨(by decide : false = Src.compare_values.equal_nan), (by decide : false = Src.compare_values.equal_phase),
    (by decide : false = Src.compare_values.passnone)⟩

/-- `a.compare(b)` without keywords: `compare_recursive` at the source's default tolerances, `forgive=None`,
`equal_phase=False` (`ProtoModel.compare` forwards `**kwargs` and nothing else) -/
theorem proto_compare_defaults_match_source (a b : Tree) :
    protoCompare {} a b = compareRecursiveW Src.compare_recursive.atol_f64 Src.compare_recursive.rtol_f64 none .off a b ∧
    Src.compare_recursive.forgive = none ∧ Src.compare_recursive.equal_phase = false ∧
    Src.proto_compare.forwards_kwargs = true ∧
    Src.compare_molrecs.forgive = none ∧ Src.compare_molrecs.relative_geoms = "exact" ∧ Src.compare_molrecs.forwards = true := by
  refine ⟨?_, by decide, by decide, by decide, by decide, by decide, by decide⟩
  rw [← tolerance_defaults_match_source.1, ← tolerance_defaults_match_source.2.1]
  rfl

theorem atol_refused_from_eq : ((Src.compare_recursive.atol_refused_from : Int) : Rat) = 1 := by decide +kernel

/-- `if atol >= k: raise ValueError` with the source's `k`: both recursion models refuse from `k` on, for every input -/
theorem atol_refusal_matches_source (atol rtol : Rat) (forgive : Option (List String)) (phase : PhaseOpt) (e c : Tree)
    (h : ((Src.compare_recursive.atol_refused_from : Int) : Rat) ≤ atol) :
    compareRecursive atol rtol forgive phase e c = .raised .valueError ∧
    compareRecursiveW atol rtol forgive phase e c = .raised .valueError := by
  rw [atol_refused_from_eq] at h
  exact ⟨compareRecursive_atol_ge_one _ _ _ _ _ _ h, compareRecursiveW_atol_ge_one _ _ _ _ _ _ h⟩

/-- … and only from there: on modelled inputs the wide model raises iff `atol >= k` (through `compare_recursiveW_raises_iff`) -/
theorem atol_refusal_iff_source_bound (atol rtol : Rat) (forgive : Option (List String)) (phase : PhaseOpt) (e c : Tree)
    (hm : ItemW.unmodelled ∉ recErrsW ⟨atol, rtol, false⟩ "root" e c)
    (hm' : ItemW.unmodelled ∉ recErrsW ⟨atol, rtol, true⟩ "root" e c) (x : Exc) :
    compareRecursiveW atol rtol forgive phase e c = .raised x ↔
      ((Src.compare_recursive.atol_refused_from : Int) : Rat) ≤ atol := by
  rw [atol_refused_from_eq]
  exact compare_recursiveW_raises_iff atol rtol forgive phase e c hm hm' x

/-- tests (non-vacuity): `atol = 1` meets the hypothesis of the refusal, the default does not -/
example : ((Src.compare_recursive.atol_refused_from : Int) : Rat) ≤ 1 := by decide +kernel
example : ¬ (((Src.compare_recursive.atol_refused_from : Int) : Rat) ≤ Src.compare_recursive.atol_f64) := by decide +kernel

/-- `massage_dicts` normalises exactly the source's keys, in the source's order (the order decides which exception
surfaces first); every other field is compared as it is; each listed key really has a normaliser (a bare integer
under it is refused) -/
theorem massaged_keys_match_source :
    Src.compare_molrecs.massaged_keys = ["fragment_files", "fragment_separators", "provenance", "connectivity"] ∧
    (∀ (j : String) (v : Tree), j ∉ Src.compare_molrecs.massaged_keys → fieldNorm j v = .ok v) ∧
    Src.compare_molrecs.massaged_keys.all (fun j => (fieldNorm j (.sc (.int 0))).toOption.isNone) = true := by
  have hl : Src.compare_molrecs.massaged_keys = ["fragment_files", "fragment_separators", "provenance", "connectivity"] := by
    decide
  refine ⟨hl, ?_, by decide⟩
  intro j v hj
  rw [hl] at hj
  simp only [List.mem_cons, List.not_mem_nil, or_false, not_or] at hj
  obtain ⟨h1, h2, h3, h4⟩ := hj
  simp [fieldNorm, h1, h2, h3, h4]

/-- test (non-vacuity): `geom` is not a massaged key -/
example : "geom" ∉ Src.compare_molrecs.massaged_keys := by decide

/-- `dicary["provenance"].pop(key)` with the source's key: removed when present, `KeyError` when absent -/
theorem provenance_pop_matches_source (kv : List (String × Tree)) :
    normProv (.dict kv) =
      if hasKey Src.compare_molrecs.provenance_popped kv
      then .ok (.dict (kv.filter (fun p => !(p.1 == Src.compare_molrecs.provenance_popped))))
      else .error (.raised .keyError) := by
  have h : Src.compare_molrecs.provenance_popped = "version" := by decide
  rw [h]
  rfl

end QcelVerif.Compare
