import QcelVerif.Lemmas.MeasureReal
import QcelVerif.Props.C18
import Mathlib.Tactic.NormNum
/-!
# C18 over ℝ — the final transcendental step (`sqrt`, `arccos`, `arctan2`, `degrees`)

`Props/C18.lean` proves invariance, reflection, reversal and textbook agreement about the exact
*arguments* handed to `sqrt` / `arccos` / `arctan2`, over every (ordered) field.  This file
instantiates the same model at `K = ℝ`, applies the real functions of Mathlib exactly where the
code applies numpy's, and lifts those theorems through that last step.

Real-valued measurements, defined exactly as the code computes them (line numbers of `/repo`,
`qcelemental/util/misc.py`):

* `distR p q      = √(distSq p q)`                                         (`_norm(p - q)`, :216)
* `angleR p1 p2 p3 = π − arccos (clip (v12·v23 / (‖v12‖·‖v23‖)) (−1) 1)`     (:248-254)
  with `v12 = p1 − p2`, `v23 = p2 − p3`, `‖·‖ = normR = √(·,·)` (`_norm`, :137-143) — i.e.
  `π − arccos (angleCos (normR v12) (normR v23) p1 p2 p3)` with the model's code-shaped `angleCos`
* `dihedralR p1 p2 p3 p4 = atan2 y x`, `(x, y) = dihedralXY (normR (p3 − p2)) p1 p2 p3 p4` (:297-315)
* `degrees a = a · (180/π)`                                                (`np.degrees`, :256-259, :317-320)

`atan2 y x := Complex.arg (x + y i)` (`Lemmas/MeasureReal.lean`), with values in `(-π, π]`.

## What is outside the real-number model

* **signed zero.**  ℝ has one zero.  `atan2 0 x = π` for all `x < 0`; IEEE / numpy return
  `arctan2(+0.0, x) = +π` but `arctan2(-0.0, x) = −π`.  So the implementation's dihedral lies in
  the closed interval `[−π, π]` (this is what the property text says, and what the run-time oracle
  demands), while the real-number `dihedralR` lies in `(−π, π]`; the two ends are the same
  geometric angle (exactly planar *trans* arrangement).  Likewise `arctan2(-0.0, -0.0) = −π` but
  `atan2 0 0 = 0`.
* **division by zero.**  In Lean `a / 0 = 0`; numpy gives `nan` (with a warning).  The model and the
  code therefore differ on *degenerate* inputs (`p1 = p2` or `p2 = p3` for the angle, `p2 = p3` for
  the dihedral); these are outside the property's quantifier ("non-degenerate").  Theorems below that
  need non-degeneracy say so in their hypotheses; the others hold for all inputs of the *model*.
* **libm / IEEE.**  `np.sqrt`, `np.arccos`, `np.arctan2`, `np.degrees`, `np.pi` and every
  floating-point `+ − × ÷` are approximations of the real functions used here; their error is not
  modelled and is checked differentially (1e-9) on every run by `harness/c18.py`, which evaluates
  the closed forms `distR = √d²`, `angleR_eq_args`, `dihedralR_eq_args` proved below on the exact
  rational arguments printed by the Lean driver.
-/
namespace QcelVerif.Measure
open V3

/-! ## the real-valued measurements, as coded -/

/-- `compute_distance` for one row: `_norm(points1 - points2)` -/
noncomputable def distR (p q : V3 ℝ) : ℝ := Real.sqrt (distSq p q)

/-- `compute_angle` for one row, radians: `np.pi - np.arccos(cosine_angle)` with
`cosine_angle = np.clip(einsum(v12, v23) / (_norm(v12) * _norm(v23)), -1, 1)` -/
noncomputable def angleR (p1 p2 p3 : V3 ℝ) : ℝ :=
  Real.pi - Real.arccos (angleCos (normR (p1 - p2)) (normR (p2 - p3)) p1 p2 p3)

/-- `compute_dihedral` for one row, radians: `np.arctan2(y, x)` with `(x, y)` as coded -/
noncomputable def dihedralR (p1 p2 p3 p4 : V3 ℝ) : ℝ :=
  atan2 (dihedralXY (normR (p3 - p2)) p1 p2 p3 p4).2 (dihedralXY (normR (p3 - p2)) p1 p2 p3 p4).1

/-- `np.degrees` -/
noncomputable def degrees (a : ℝ) : ℝ := a * (180 / Real.pi)

/-- `compute_angle(…, degrees=True)` -/
noncomputable def angleDegR (p1 p2 p3 : V3 ℝ) : ℝ := degrees (angleR p1 p2 p3)

/-- `compute_dihedral(…, degrees=True)` -/
noncomputable def dihedralDegR (p1 p2 p3 p4 : V3 ℝ) : ℝ := degrees (dihedralR p1 p2 p3 p4)

/-! ## the two-argument arctangent of the model is the usual one -/

/-- `atan2 y x = Complex.arg (x + y i)` has the range `(−π, π]` and obeys the usual case table of
C's / numpy's `arctan2` on reals: `arctan (y/x)` for `x > 0`; `arctan (y/x) + π` for `x < 0 ≤ y`;
`arctan (y/x) − π` for `x < 0`, `y < 0`; `±π/2` on the imaginary axis; `0` at the origin.
(numpy additionally distinguishes `y = −0.0`: `arctan2(-0.0, x<0) = −π`, `arctan2(-0.0, -0.0) = −π` —
no counterpart over ℝ.) -/
theorem atan2_cases (y x : ℝ) :
    (-Real.pi < atan2 y x ∧ atan2 y x ≤ Real.pi) ∧
    (0 < x → atan2 y x = Real.arctan (y / x)) ∧
    (x < 0 → 0 ≤ y → atan2 y x = Real.arctan (y / x) + Real.pi) ∧
    (x < 0 → y < 0 → atan2 y x = Real.arctan (y / x) - Real.pi) ∧
    (x = 0 → 0 < y → atan2 y x = Real.pi / 2) ∧
    (x = 0 → y < 0 → atan2 y x = -(Real.pi / 2)) ∧
    (x = 0 → y = 0 → atan2 y x = 0) := by
  refine ⟨atan2_mem y x, fun h => atan2_of_pos h y, fun h1 h2 => atan2_of_neg_of_nonneg h1 h2,
    fun h1 h2 => atan2_of_neg_of_neg h1 h2, ?_, ?_, ?_⟩
  · rintro rfl h
    exact atan2_zero_of_pos h
  · rintro rfl h
    exact atan2_zero_of_neg h
  · rintro rfl rfl
    exact atan2_zero_zero

/-- TEST (every branch of `atan2_cases` is inhabited): `atan2 1 1 = π/4`, `atan2 0 (−1) = π` -/
example : atan2 1 1 = Real.pi / 4 ∧ atan2 0 (-1) = Real.pi := by
  refine ⟨?_, ?_⟩
  · rw [atan2_of_pos one_pos, div_one, Real.arctan_one]
  · rw [atan2_of_neg_of_nonneg (by norm_num) le_rfl, zero_div, Real.arctan_zero, zero_add]

/-! ## distance -/

/-- range clause: the distance lies in `[0, ∞)`, is `0` iff the points coincide, is symmetric -/
theorem distR_range (p q : V3 ℝ) :
    0 ≤ distR p q ∧ (distR p q = 0 ↔ p = q) ∧ distR p q = distR q p := by
  obtain ⟨h0, hz, hs⟩ := distSq_nonneg_zero p q
  refine ⟨Real.sqrt_nonneg _, ?_, ?_⟩
  · unfold distR
    rw [Real.sqrt_eq_zero h0]
    exact hz
  · unfold distR
    rw [hs]

/-- textbook definition: `√((Δx)² + (Δy)² + (Δz)²)`; and `distR² = d²` (the driver's argument) -/
theorem distR_textbook (p q : V3 ℝ) :
    distR p q = Real.sqrt ((p.x - q.x) ^ 2 + (p.y - q.y) ^ 2 + (p.z - q.z) ^ 2) ∧
    distR p q * distR p q = distSq p q := by
  refine ⟨?_, Real.mul_self_sqrt (distSq_nonneg_zero p q).1⟩
  unfold distR
  congr 1
  v3_unfold
  ring

/-- the distance is unchanged by `p ↦ R p + t` for every orthogonal `R` — in particular by every
proper rigid motion (`R Rᵀ = I`, `det R = 1`) and by every reflection -/
theorem distR_rigid_invariant (T : Motion ℝ) (h : T.R.IsOrthogonal) (p q : V3 ℝ) :
    distR (T.apply p) (T.apply q) = distR p q := by
  unfold distR
  rw [dist_rigid_invariant T h]

/-! ## angle -/

/-- range clause: the angle lies in `[0, π]` -/
theorem angleR_range (p1 p2 p3 : V3 ℝ) : 0 ≤ angleR p1 p2 p3 ∧ angleR p1 p2 p3 ≤ Real.pi := by
  unfold angleR
  refine ⟨sub_nonneg.mpr (Real.arccos_le_pi _), ?_⟩
  linarith [Real.arccos_nonneg (angleCos (normR (p1 - p2)) (normR (p2 - p3)) p1 p2 p3)]

/-- textbook definition, for non-degenerate input: the angle at the vertex `p2` is the `arccos` of
the normalised dot product of the two bond vectors `p1 − p2`, `p3 − p2`; its cosine *is* that
normalised dot product (the clip is inactive, and `π − arccos c = arccos (−c)`). -/
theorem angleR_textbook (p1 p2 p3 : V3 ℝ) (h12 : p1 ≠ p2) (h32 : p3 ≠ p2) :
    angleR p1 p2 p3
      = Real.arccos (dot (p1 - p2) (p3 - p2) / (normR (p1 - p2) * normR (p3 - p2))) ∧
    Real.cos (angleR p1 p2 p3)
      = dot (p1 - p2) (p3 - p2) / (normR (p1 - p2) * normR (p3 - p2)) := by
  have h23 : p2 ≠ p3 := fun e => h32 e.symm
  obtain ⟨-, hneg, hlo, hhi⟩ := angle_textbook (normR (p1 - p2)) (normR (p2 - p3)) p1 p2 p3
    (normR_sub_pos h12) (normR_sub_pos h23) (normR_mul_self _) (normR_mul_self _)
  have hA : angleR p1 p2 p3
      = Real.arccos (dot (p1 - p2) (p3 - p2) / (normR (p1 - p2) * normR (p3 - p2))) := by
    unfold angleR
    rw [← Real.arccos_neg, hneg, normR_sub_comm p2 p3]
  refine ⟨hA, ?_⟩
  rw [hA, ← normR_sub_comm p2 p3, ← hneg]
  exact Real.cos_arccos (by linarith) (by linarith)

/-- closed form evaluated by the harness on the driver's exact arguments `(dt, nn) = angleArgs`:
`angle = atan2 (√(nn − dt²)) (−dt)` (non-degenerate input). -/
theorem angleR_eq_args (p1 p2 p3 : V3 ℝ) (h12 : p1 ≠ p2) (h32 : p3 ≠ p2) :
    angleR p1 p2 p3 =
      atan2 (Real.sqrt ((angleArgs p1 p2 p3).2 - (angleArgs p1 p2 p3).1 * (angleArgs p1 p2 p3).1))
        (-(angleArgs p1 p2 p3).1) := by
  have h23 : p2 ≠ p3 := fun e => h32 e.symm
  have p12 := normR_sub_pos h12
  have p23 := normR_sub_pos h23
  obtain ⟨hval, -, -, -⟩ := angle_textbook (normR (p1 - p2)) (normR (p2 - p3)) p1 p2 p3
    p12 p23 (normR_mul_self _) (normR_mul_self _)
  obtain ⟨-, hnn, hD⟩ := angleCos_from_args (normR (p1 - p2)) (normR (p2 - p3)) p1 p2 p3
    p12 p23 (normR_mul_self _) (normR_mul_self _)
  have hdt : (angleArgs p1 p2 p3).1 = dot (p1 - p2) (p2 - p3) := rfl
  set dt := (angleArgs p1 p2 p3).1 with hdt'
  set nn := (angleArgs p1 p2 p3).2 with hnn'
  set D := normR (p1 - p2) * normR (p2 - p3) with hDdef
  have hcs : 0 ≤ nn - dt * dt := by
    have := cauchy_schwarz (p1 - p2) (p2 - p3)
    have e : nn = nsq (p1 - p2) * nsq (p2 - p3) := rfl
    rw [e, hdt]
    linarith
  have hsum : -dt * -dt + Real.sqrt (nn - dt * dt) * Real.sqrt (nn - dt * dt) = D * D := by
    rw [Real.mul_self_sqrt hcs, hnn]
    ring
  rw [atan2_of_nonneg (Real.sqrt_nonneg _) hD hsum]
  unfold angleR
  rw [hval, ← hdt, ← Real.arccos_neg, neg_div]

/-- the same in the oracle's textbook form: `atan2 (|a × b|) (a · b)`, `a = p1 − p2`, `b = p3 − p2` -/
theorem angleR_textbook_atan2 (p1 p2 p3 : V3 ℝ) (h12 : p1 ≠ p2) (h32 : p3 ≠ p2) :
    angleR p1 p2 p3 = atan2 (normR (cross (p1 - p2) (p3 - p2))) (dot (p1 - p2) (p3 - p2)) := by
  rw [angleR_eq_args p1 p2 p3 h12 h32]
  have e1 : -(angleArgs p1 p2 p3).1 = dot (p1 - p2) (p3 - p2) := by
    unfold angleArgs
    v3_unfold
    ring
  have e2 : (angleArgs p1 p2 p3).2 - (angleArgs p1 p2 p3).1 * (angleArgs p1 p2 p3).1
      = nsq (cross (p1 - p2) (p3 - p2)) := by
    unfold angleArgs
    v3_unfold
    ring
  rw [e1, e2]
  rfl

/-- the angle is unchanged by every orthogonal motion of the three points — in particular by every
proper rigid motion.  Holds for all inputs of the model. -/
theorem angleR_rigid_invariant (T : Motion ℝ) (h : T.R.IsOrthogonal) (p1 p2 p3 : V3 ℝ) :
    angleR (T.apply p1) (T.apply p2) (T.apply p3) = angleR p1 p2 p3 := by
  unfold angleR
  rw [normR_motion h, normR_motion h, angleCos_motion h]

/-- listing the three points backwards gives the same angle -/
theorem angleR_reversal (p1 p2 p3 : V3 ℝ) : angleR p3 p2 p1 = angleR p1 p2 p3 := by
  unfold angleR
  rw [normR_sub_comm p3 p2, normR_sub_comm p2 p1, angleCos_reversal]

/-! ## dihedral -/

/-- range clause: the real-number dihedral lies in `(−π, π]` ⊂ `[−π, π]`.
The `−π` end is not attained over ℝ: `atan2 0 x = π` for `x < 0`.  numpy reaches `−π` only through
the IEEE signed zero (`arctan2(-0.0, x<0) = −π`), which denotes the same planar-trans angle; see
the header. -/
theorem dihedralR_range (p1 p2 p3 p4 : V3 ℝ) :
    -Real.pi < dihedralR p1 p2 p3 p4 ∧ dihedralR p1 p2 p3 p4 ≤ Real.pi :=
  atan2_mem _ _

/-- the dihedral is unchanged by every proper rigid motion (`R Rᵀ = I`, `det R = 1`, any
translation).  Holds for all inputs of the model. -/
theorem dihedralR_rigid_invariant (T : Motion ℝ) (h : T.R.IsRotation) (p1 p2 p3 p4 : V3 ℝ) :
    dihedralR (T.apply p1) (T.apply p2) (T.apply p3) (T.apply p4) = dihedralR p1 p2 p3 p4 := by
  unfold dihedralR
  rw [normR_motion h.1, (dihedral_xy_rigid_invariant T h _ p1 p2 p3 p4).1]

/-- under an improper orthogonal map (`det R = −1`: a reflection, possibly composed with a rotation
and a translation) the dihedral changes sign — exactly, except on the branch cut (`dihedral = π`,
the planar trans arrangement `y = 0, x < 0`) where it stays `π`. -/
theorem dihedralR_reflection (T : Motion ℝ) (h : T.R.IsReflection) (p1 p2 p3 p4 : V3 ℝ) :
    dihedralR (T.apply p1) (T.apply p2) (T.apply p3) (T.apply p4)
      = if dihedralR p1 p2 p3 p4 = Real.pi then Real.pi else -dihedralR p1 p2 p3 p4 := by
  unfold dihedralR
  rw [normR_motion h.1, dihedral_xy_reflection T h _ p1 p2 p3 p4]
  exact atan2_neg _ _

/-- sign flip away from the edge: if the dihedral is not `π` it is exactly negated -/
theorem dihedralR_reflection_neg (T : Motion ℝ) (h : T.R.IsReflection) (p1 p2 p3 p4 : V3 ℝ)
    (hedge : dihedralR p1 p2 p3 p4 ≠ Real.pi) :
    dihedralR (T.apply p1) (T.apply p2) (T.apply p3) (T.apply p4) = -dihedralR p1 p2 p3 p4 := by
  rw [dihedralR_reflection T h, if_neg hedge]

/-- sign flip as a statement modulo `2π`, with no exception: on the edge `π ≡ −π` -/
theorem dihedralR_reflection_mod_two_pi (T : Motion ℝ) (h : T.R.IsReflection)
    (p1 p2 p3 p4 : V3 ℝ) :
    ∃ k : ℤ, dihedralR (T.apply p1) (T.apply p2) (T.apply p3) (T.apply p4)
      = -dihedralR p1 p2 p3 p4 + k * (2 * Real.pi) := by
  rw [dihedralR_reflection T h]
  split
  · next e => exact ⟨1, by rw [e]; push_cast; ring⟩
  · exact ⟨0, by push_cast; ring⟩

/-- listing the four points backwards gives the same dihedral.  Holds for all inputs of the model. -/
theorem dihedralR_reversal (p1 p2 p3 p4 : V3 ℝ) :
    dihedralR p4 p3 p2 p1 = dihedralR p1 p2 p3 p4 := by
  unfold dihedralR
  rw [normR_sub_comm p2 p3, dihedralXY_reversal _ p1 p2 p3 p4 (normR_mul_self _)]

/-- textbook definition (IUPAC signed angle between the half-planes `(p1,p2,p3)` and `(p2,p3,p4)`),
`atan2` form, for a non-degenerate central bond: with `b1 = p2−p1`, `b2 = p3−p2`, `b3 = p4−p3`
`dihedral = atan2 (|b2| · b1·(b2×b3)) ((b1×b2)·(b2×b3))`. -/
theorem dihedralR_textbook (p1 p2 p3 p4 : V3 ℝ) (h23 : p3 ≠ p2) :
    dihedralR p1 p2 p3 p4 =
      atan2 (normR (p3 - p2) * dot (p2 - p1) (cross (p3 - p2) (p4 - p3)))
        (dot (cross (p2 - p1) (p3 - p2)) (cross (p3 - p2) (p4 - p3))) := by
  have hn := normR_sub_pos h23
  obtain ⟨tx, ty⟩ := dihedral_textbook (normR (p3 - p2)) p1 p2 p3 p4 (normR_mul_self _) hn.ne'
  unfold dihedralR
  rw [← tx, ← ty, atan2_pos_mul (nsq_sub_pos h23)]

/-- closed form evaluated by the harness on the driver's exact arguments
`(XN, Y, N) = dihedralArgs`: `dihedral = atan2 (Y · √N) XN` (non-degenerate central bond). -/
theorem dihedralR_eq_args (p1 p2 p3 p4 : V3 ℝ) (h23 : p3 ≠ p2) :
    dihedralR p1 p2 p3 p4 =
      atan2 ((dihedralArgs p1 p2 p3 p4).2.1 * Real.sqrt (dihedralArgs p1 p2 p3 p4).2.2)
        (dihedralArgs p1 p2 p3 p4).1 := by
  obtain ⟨t1, t2, t3⟩ := dihedralArgs_textbook p1 p2 p3 p4
  rw [dihedralR_textbook p1 p2 p3 p4 h23, t1, t2, t3, mul_comm]
  rfl

/-- the branch-cut edge in geometric terms: the dihedral is `π` exactly for the planar trans
arrangement (`b1·(b2×b3) = 0` and `(b1×b2)·(b2×b3) < 0`) -/
theorem dihedralR_eq_pi_iff (p1 p2 p3 p4 : V3 ℝ) (h23 : p3 ≠ p2) :
    dihedralR p1 p2 p3 p4 = Real.pi ↔
      dot (cross (p2 - p1) (p3 - p2)) (cross (p3 - p2) (p4 - p3)) < 0 ∧
      dot (p2 - p1) (cross (p3 - p2) (p4 - p3)) = 0 := by
  rw [dihedralR_textbook p1 p2 p3 p4 h23, atan2_eq_pi_iff]
  have hn := normR_sub_pos h23
  constructor
  · rintro ⟨hx, hy⟩
    exact ⟨hx, (mul_eq_zero.mp hy).resolve_left hn.ne'⟩
  · rintro ⟨hx, hy⟩
    exact ⟨hx, by rw [hy, mul_zero]⟩

theorem ne_of_cross_ne_zero {a p q : V3 ℝ} (h : cross a (p - q) ≠ ⟨0, 0, 0⟩) : p ≠ q := by
  rintro rfl
  apply h
  ext <;> v3_unfold <;> ring

/-- textbook definition, (cos, sin) form, when both planes are defined (`n1 = b1×b2 ≠ 0`,
`n2 = b2×b3 ≠ 0`, i.e. no collinear triple): `cos φ = n1·n2 / (|n1||n2|)` — `φ` is, up to sign, the
angle between the plane normals — and `sin φ = |b2| (b1·n2) / (|n1||n2|)` fixes the sign. -/
theorem dihedralR_cos_sin (p1 p2 p3 p4 : V3 ℝ)
    (hn1 : cross (p2 - p1) (p3 - p2) ≠ ⟨0, 0, 0⟩) (hn2 : cross (p3 - p2) (p4 - p3) ≠ ⟨0, 0, 0⟩) :
    Real.cos (dihedralR p1 p2 p3 p4)
      = dot (cross (p2 - p1) (p3 - p2)) (cross (p3 - p2) (p4 - p3))
          / (normR (cross (p2 - p1) (p3 - p2)) * normR (cross (p3 - p2) (p4 - p3))) ∧
    Real.sin (dihedralR p1 p2 p3 p4)
      = normR (p3 - p2) * dot (p2 - p1) (cross (p3 - p2) (p4 - p3))
          / (normR (cross (p2 - p1) (p3 - p2)) * normR (cross (p3 - p2) (p4 - p3))) := by
  have h23 := ne_of_cross_ne_zero hn1
  have hD := mul_pos (normR_pos hn1) (normR_pos hn2)
  set X := dot (cross (p2 - p1) (p3 - p2)) (cross (p3 - p2) (p4 - p3)) with hX
  set Y := dot (p2 - p1) (cross (p3 - p2) (p4 - p3)) with hY
  set n := normR (p3 - p2) with hn
  -- `(X, n Y)` lies on the circle of radius `|n1| |n2|`
  have hid : X * X + (n * Y) * (n * Y)
      = (normR (cross (p2 - p1) (p3 - p2)) * normR (cross (p3 - p2) (p4 - p3)))
        * (normR (cross (p2 - p1) (p3 - p2)) * normR (cross (p3 - p2) (p4 - p3))) := by
    have := dihedral_norm_identity (p2 - p1) (p3 - p2) (p4 - p3)
    rw [← normR_mul_self (p3 - p2), ← normR_mul_self (cross (p2 - p1) _),
      ← normR_mul_self (cross (p3 - p2) _)] at this
    linear_combination this
  rw [dihedralR_textbook p1 p2 p3 p4 h23]
  exact ⟨cos_atan2 hD hid, sin_atan2 hD hid⟩

/-- …and these two equations determine the dihedral: any `θ ∈ (−π, π]` with that cosine and sine
is the measured value (so `dihedralR` *is* the textbook signed angle, not merely one solution). -/
theorem dihedralR_unique (p1 p2 p3 p4 : V3 ℝ)
    (hn1 : cross (p2 - p1) (p3 - p2) ≠ ⟨0, 0, 0⟩) (hn2 : cross (p3 - p2) (p4 - p3) ≠ ⟨0, 0, 0⟩)
    (θ : ℝ) (h1 : -Real.pi < θ) (h2 : θ ≤ Real.pi)
    (hc : Real.cos θ = dot (cross (p2 - p1) (p3 - p2)) (cross (p3 - p2) (p4 - p3))
          / (normR (cross (p2 - p1) (p3 - p2)) * normR (cross (p3 - p2) (p4 - p3))))
    (hs : Real.sin θ = normR (p3 - p2) * dot (p2 - p1) (cross (p3 - p2) (p4 - p3))
          / (normR (cross (p2 - p1) (p3 - p2)) * normR (cross (p3 - p2) (p4 - p3)))) :
    dihedralR p1 p2 p3 p4 = θ := by
  have h23 := ne_of_cross_ne_zero hn1
  have q1 := normR_pos hn1
  have q2 := normR_pos hn2
  have hr := mul_pos q1 q2
  rw [dihedralR_textbook p1 p2 p3 p4 h23]
  refine atan2_unique hr h1 h2 ?_ ?_
  · rw [hc]
    field_simp
  · rw [hs]
    field_simp

/-! ## index-based form over ℝ -/

/-- the real value denoted by a measured quantity of the model (`Meas` carries the exact arguments
of the final transcendental function, as printed by the driver): the closed forms the harness
evaluates with libm -/
noncomputable def Meas.valR : Meas ℝ → ℝ
  | .dist d2 => Real.sqrt d2
  | .angle dt nn => atan2 (Real.sqrt (nn - dt * dt)) (-dt)
  | .dihedral xn y n => atan2 (y * Real.sqrt n) xn

/-- index-based `measure_coordinates` of 2 / 3 / 4 valid indices, evaluated through `Meas.valR`,
is the row-wise real-valued `distR` / `angleR` / `dihedralR` of the picked points (distinct
neighbours) -/
theorem forms_agree_real (coords : List (V3 ℝ)) (i j k l : Nat) (p q r s : V3 ℝ)
    (hi : coords[i]? = some p) (hj : coords[j]? = some q) (hk : coords[k]? = some r)
    (hl : coords[l]? = some s) (hpq : p ≠ q) (hrq : r ≠ q) :
    (measureOne coords [(i : Int), j]).map Meas.valR = .ok (distR p q) ∧
    (measureOne coords [(i : Int), j, k]).map Meas.valR = .ok (angleR p q r) ∧
    (measureOne coords [(i : Int), j, k, l]).map Meas.valR = .ok (dihedralR p q r s) := by
  obtain ⟨h1, h2, h3⟩ := forms_agree_measure coords i j k l p q r s hi hj hk hl
  rw [h1, h2, h3]
  refine ⟨rfl, ?_, ?_⟩
  · show Except.ok _ = _
    rw [angleR_eq_args p q r hpq hrq]
    rfl
  · show Except.ok _ = _
    rw [dihedralR_eq_args p q r s hrq]
    rfl

/-! ## degrees -/

/-- `degrees=True` returns radians · 180/π (and back: · π/180); hence the degree ranges
`[0, 180]` for angles and `(−180, 180]` for dihedrals -/
theorem degrees_spec (p1 p2 p3 p4 : V3 ℝ) :
    angleDegR p1 p2 p3 = angleR p1 p2 p3 * (180 / Real.pi) ∧
    dihedralDegR p1 p2 p3 p4 = dihedralR p1 p2 p3 p4 * (180 / Real.pi) ∧
    angleDegR p1 p2 p3 * (Real.pi / 180) = angleR p1 p2 p3 ∧
    dihedralDegR p1 p2 p3 p4 * (Real.pi / 180) = dihedralR p1 p2 p3 p4 ∧
    (0 ≤ angleDegR p1 p2 p3 ∧ angleDegR p1 p2 p3 ≤ 180) ∧
    (-180 < dihedralDegR p1 p2 p3 p4 ∧ dihedralDegR p1 p2 p3 p4 ≤ 180) := by
  have hpi := Real.pi_pos
  have hk : 0 < 180 / Real.pi := by positivity
  have hpk : Real.pi * (180 / Real.pi) = 180 := by field_simp
  obtain ⟨a0, a1⟩ := angleR_range p1 p2 p3
  obtain ⟨d0, d1⟩ := dihedralR_range p1 p2 p3 p4
  unfold angleDegR dihedralDegR degrees
  refine ⟨rfl, rfl, ?_, ?_, ⟨?_, ?_⟩, ⟨?_, ?_⟩⟩
  · field_simp
  · field_simp
  · positivity
  · calc angleR p1 p2 p3 * (180 / Real.pi) ≤ Real.pi * (180 / Real.pi) :=
          mul_le_mul_of_nonneg_right a1 hk.le
      _ = 180 := hpk
  · calc (-180 : ℝ) = -Real.pi * (180 / Real.pi) := by rw [neg_mul, hpk]
      _ < dihedralR p1 p2 p3 p4 * (180 / Real.pi) := mul_lt_mul_of_pos_right d0 hk
  · calc dihedralR p1 p2 p3 p4 * (180 / Real.pi) ≤ Real.pi * (180 / Real.pi) :=
          mul_le_mul_of_nonneg_right d1 hk.le
      _ = 180 := hpk

/-- the `degrees=True` variants are unchanged by proper rigid motions as well -/
theorem degrees_rigid_invariant (T : Motion ℝ) (h : T.R.IsRotation) (p1 p2 p3 p4 : V3 ℝ) :
    angleDegR (T.apply p1) (T.apply p2) (T.apply p3) = angleDegR p1 p2 p3 ∧
    dihedralDegR (T.apply p1) (T.apply p2) (T.apply p3) (T.apply p4) = dihedralDegR p1 p2 p3 p4 := by
  unfold angleDegR dihedralDegR
  rw [angleR_rigid_invariant T h.1, dihedralR_rigid_invariant T h]
  exact ⟨rfl, rfl⟩

/-! ## non-vacuity: the hypotheses are met by non-trivial values (these are tests) -/
section examples

/-- a real proper rotation that is not a coordinate permutation (hypothesis of the invariance
theorems), and a real reflection (hypothesis of `dihedralR_reflection`) -/
example : (quatRot (1 : ℝ) 2 3 4).IsRotation := quatRot_isRotation _ _ _ _ (by norm_num)

example : (householder (⟨1, 2, 2⟩ : V3 ℝ)).IsReflection :=
  householder_isReflection _ (by norm_num [V3.nsq, V3.dot])

private theorem ne_of_x {a b : V3 ℝ} (h : a.x ≠ b.x) : a ≠ b := fun e => h (congrArg V3.x e)
private theorem ne_of_y {a b : V3 ℝ} (h : a.y ≠ b.y) : a ≠ b := fun e => h (congrArg V3.y e)
private theorem ne_of_z {a b : V3 ℝ} (h : a.z ≠ b.z) : a ≠ b := fun e => h (congrArg V3.z e)

/-- hypotheses of `angleR_textbook` / `angleR_eq_args` / `dihedralR_textbook`: distinct points -/
example : (⟨1, 0, 0⟩ : V3 ℝ) ≠ ⟨0, 0, 0⟩ ∧ (⟨0, 1, 0⟩ : V3 ℝ) ≠ ⟨0, 0, 0⟩ :=
  ⟨ne_of_x (by norm_num), ne_of_y (by norm_num)⟩

/-- hypotheses of `dihedralR_cos_sin` / `dihedralR_unique`: both plane normals non-zero for
`p = (1,0,0), (0,0,0), (0,1,0), (0,1,1)` -/
example :
    cross ((⟨0, 0, 0⟩ : V3 ℝ) - ⟨1, 0, 0⟩) (⟨0, 1, 0⟩ - ⟨0, 0, 0⟩) ≠ ⟨0, 0, 0⟩ ∧
    cross ((⟨0, 1, 0⟩ : V3 ℝ) - ⟨0, 0, 0⟩) (⟨0, 1, 1⟩ - ⟨0, 1, 0⟩) ≠ ⟨0, 0, 0⟩ := by
  refine ⟨ne_of_z ?_, ne_of_x ?_⟩ <;> v3_unfold <;> norm_num

/-- hypotheses of `forms_agree_real`: four listed points, neighbours distinct -/
example : ∃ coords : List (V3 ℝ), coords[0]? = some ⟨1, 0, 0⟩ ∧ coords[1]? = some ⟨0, 0, 0⟩ ∧
    coords[2]? = some ⟨0, 1, 0⟩ ∧ coords[3]? = some ⟨0, 1, 1⟩ :=
  ⟨[⟨1, 0, 0⟩, ⟨0, 0, 0⟩, ⟨0, 1, 0⟩, ⟨0, 1, 1⟩], rfl, rfl, rfl, rfl⟩

/-- TEST: `distR (3,4,0) (0,0,0) = 5` -/
example : distR ⟨3, 4, 0⟩ ⟨0, 0, 0⟩ = 5 := by
  unfold distR
  have : distSq (⟨3, 4, 0⟩ : V3 ℝ) ⟨0, 0, 0⟩ = 5 * 5 := by v3_unfold; norm_num
  rw [this, Real.sqrt_mul_self (by norm_num)]

/-- TEST: the right angle of the test-suite: `angleR (1,0,0) (0,0,0) (0,1,0) = π/2` -/
example : angleR ⟨1, 0, 0⟩ ⟨0, 0, 0⟩ ⟨0, 1, 0⟩ = Real.pi / 2 := by
  rw [(angleR_textbook _ _ _ (ne_of_x (by norm_num)) (ne_of_y (by norm_num))).1]
  have : dot ((⟨1, 0, 0⟩ : V3 ℝ) - ⟨0, 0, 0⟩) (⟨0, 1, 0⟩ - ⟨0, 0, 0⟩) = 0 := by
    v3_unfold; norm_num
  rw [this, zero_div, Real.arccos_zero]

/-- TEST: a non-planar dihedral with a sign: `dihedralR (1,0,0) (0,0,0) (0,1,0) (0,1,1) = −π/2`
(the implementation returns `-1.5707963…` on these points) -/
example : dihedralR ⟨1, 0, 0⟩ ⟨0, 0, 0⟩ ⟨0, 1, 0⟩ ⟨0, 1, 1⟩ = -(Real.pi / 2) := by
  rw [dihedralR_textbook _ _ _ _ (ne_of_y (by norm_num))]
  have hx : dot (cross ((⟨0, 0, 0⟩ : V3 ℝ) - ⟨1, 0, 0⟩) (⟨0, 1, 0⟩ - ⟨0, 0, 0⟩))
      (cross ((⟨0, 1, 0⟩ : V3 ℝ) - ⟨0, 0, 0⟩) (⟨0, 1, 1⟩ - ⟨0, 1, 0⟩)) = 0 := by
    v3_unfold; norm_num
  have hy : dot ((⟨0, 0, 0⟩ : V3 ℝ) - ⟨1, 0, 0⟩)
      (cross ((⟨0, 1, 0⟩ : V3 ℝ) - ⟨0, 0, 0⟩) (⟨0, 1, 1⟩ - ⟨0, 1, 0⟩)) = -1 := by
    v3_unfold; norm_num
  have hn : normR ((⟨0, 1, 0⟩ : V3 ℝ) - ⟨0, 0, 0⟩) = 1 := by
    unfold normR
    have : nsq ((⟨0, 1, 0⟩ : V3 ℝ) - ⟨0, 0, 0⟩) = 1 := by v3_unfold; norm_num
    rw [this, Real.sqrt_one]
  rw [hx, hy, hn]
  exact atan2_zero_of_neg (by norm_num)

/-- TEST: the branch-cut edge is real — the planar trans arrangement `(1,0,0) (0,0,0) (0,1,0)
(−1,1,0)` has dihedral exactly `π`; the mirror `z ↦ −z` fixes all four points, so the dihedral
cannot be negated there (`dihedralR_reflection` returns `π`, the implementation returns `π` or,
through `-0.0`, `−π`) -/
example : dihedralR ⟨1, 0, 0⟩ ⟨0, 0, 0⟩ ⟨0, 1, 0⟩ ⟨-1, 1, 0⟩ = Real.pi := by
  rw [dihedralR_eq_pi_iff _ _ _ _ (ne_of_y (by norm_num))]
  refine ⟨?_, ?_⟩ <;> v3_unfold <;> norm_num

end examples

end QcelVerif.Measure
