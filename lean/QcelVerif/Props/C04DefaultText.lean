import QcelVerif.Props.C04Default
import QcelVerif.Props.C07Full
/-!
# C04 ∘ C07 — the text round-trip theorems of C07 for EVERY record built at the default settings

C07's end-to-end theorems (`Props/C07Full.lean`) are stated about a record `r` that is a
fixed point of `from_arrays` (`hfix : fromArrays env (asInput i₀ r) = .ok r`).  `from_arrays_idempotent_default`
(`Props/C04Default.lean`) makes that hypothesis a consequence of `r` having been BUILT by `from_arrays` at the
default settings (`mtol = 1.0e-3`, `nonphysical = False`), whatever was supplied.  The theorems below are C07's
with `hfix` replaced by the build itself; every other hypothesis is C07's, unchanged.
-/
namespace QcelVerif.TextToMol
open QcelVerif QcelVerif.MolText QcelVerif.FromArrays QcelVerif.Hash
open QcelVerif.Nucleus (rd64)

/-- **psi4 text read back — for every record built at the default settings** (`read_write_validated_psi4`
with `hfix` discharged by `from_arrays_idempotent_default`). -/
theorem read_write_validated_psi4_default (angToAu : Rat) (i : Inp) (r : Molrec)
    (h : fromArrays (envC06 rd64 angToAu) i = .ok r) (hnp : i.nonphysical = false) (hmt : i.mtol = dfltMtol)
    (m : MolRec) (hok : RecOk m) (hatoms : ForallPairs Carried (allAtoms m) (recNucs r))
    (g : List Rat) (hg : optMapM (floatOf rd64) (projectPsi4 m).geom = some g)
    (hscreen : validateGeometry dfltTooclose g = .ok g)
    (hseps : (projectPsi4 m).seps.map (fun (k : Nat) => (k : Int)) = r.seps)
    (hfc : optMapM (optOpt (chargeOf rd64)) (projectPsi4 m).fragChg = some (r.fc.map some))
    (hfm : optMapM (optOpt multOf) (projectPsi4 m).fragMult = some (r.fm.map some))
    (hshape : Psi4Shape r m) :
    readMol (envC06 rd64 angToAu) rd64 .psi4 (render (writePsi4 m)) =
      .mol { r with units := unitsOf (some m.bohr), iutau := none, name := none, comment := none, conn := none, geom := g,
                    fixCom := m.fixCom, fixOrient := m.fixOrient, fixSymm := none } :=
  read_write_validated_psi4 angToAu i r (from_arrays_idempotent_default angToAu i r h hnp hmt)
    m hok hatoms g hg hscreen hseps hfc hfm hshape

/-- **xyz+ text read back — for every record built at the default settings.** -/
theorem read_write_validated_xyzplus_default (angToAu : Rat) (i : Inp) (r : Molrec)
    (h : fromArrays (envC06 rd64 angToAu) i = .ok r) (hnp : i.nonphysical = false) (hmt : i.mtol = dfltMtol)
    (hseps : r.seps = []) (hfc1 : r.fc = [r.c]) (hfm1 : r.fm = [r.m])
    (natS : Str) (m : MolRec) (hok : XyzOk natS m) (hname : Clean m.name) (hne : allAtoms m ≠ [])
    (hatoms : ForallPairs (fun a u => Carried a u ∧ u.label = "") (allAtoms m) (recNucs r))
    (g : List Rat) (hg : optMapM (floatOf rd64) (projectXyzPlus m).geom = some g)
    (hscreen : validateGeometry dfltTooclose g = .ok g)
    (hc : chargeOf rd64 m.chg.parts = some r.c) (hmu : multOf m.mult = some r.m) :
    readMol (envC06 rd64 angToAu) rd64 .xyzPlus (render (writeXyz natS m)) =
      .mol { r with units := unitsOf (some m.bohr), iutau := none, name := none, comment := none, conn := none, geom := g,
                    fixCom := false, fixOrient := false, fixSymm := none } :=
  read_write_validated_xyzplus angToAu i r (from_arrays_idempotent_default angToAu i r h hnp hmt)
    hseps hfc1 hfm1 natS m hok hname hne hatoms g hg hscreen hc hmu

/-- **The hash survives Molecule → psi4 text → Molecule — for every record built at the default settings**
(`text_roundtrip_same_hash` with `hfix` discharged). -/
theorem text_roundtrip_same_hash_default {D} (P : Params D) (hfl : FlOk P.fl) (angToAu : Rat) (i : Inp) (r : Molrec)
    (h : fromArrays (envC06 rd64 angToAu) i = .ok r) (hnp : i.nonphysical = false) (hmt : i.mtol = dfltMtol)
    (hunits : r.units = sBohr) (hconn : r.conn = none)
    (m : MolRec) (hok : RecOk m) (hbohr : m.bohr = true)
    (hatoms : ForallPairs Carried (allAtoms m) (recNucs r))
    (g : List Rat) (hg : optMapM (floatOf rd64) (projectPsi4 m).geom = some g)
    (hscreen : validateGeometry dfltTooclose g = .ok g)
    (hseps : (projectPsi4 m).seps.map (fun (k : Nat) => (k : Int)) = r.seps)
    (hfc : optMapM (optOpt (chargeOf rd64)) (projectPsi4 m).fragChg = some (r.fc.map some))
    (hfm : optMapM (optOpt multOf) (projectPsi4 m).fragMult = some (r.fm.map some))
    (hshape : Psi4Shape r m)
    (hprec : List.Forall₂ (fun x x' => ∃ n : Int, |x * (10 : Rat) ^ 8| ≤ 2 ^ 45 - 1 ∧
        |x * (10 : Rat) ^ 8 - n| ≤ 48 / 100 ∧ |x' - x| * (10 : Rat) ^ 8 ≤ 1 / 100) r.geom g) :
    ∃ r', readMol (envC06 rd64 angToAu) rd64 .psi4 (render (writePsi4 m)) = .mol r' ∧
      r' = readBack r sBohr g m.fixCom m.fixOrient none ∧ r'.units = r.units ∧
      hash P (molOfRec r' r'.geom) = hash P (molOfRec r r.geom) :=
  text_roundtrip_same_hash P hfl angToAu i r (from_arrays_idempotent_default angToAu i r h hnp hmt)
    hunits hconn m hok hbohr hatoms g hg hscreen hseps hfc hfm hshape hprec

/-! ## test: non-vacuity -/

section NonVacuity
open QcelVerif.Nucleus

local instance exDecide'' {ε α} [DecidableEq ε] [DecidableEq α] : DecidableEq (Except ε α) := fun a b =>
  match a, b with
  | .ok x, .ok y => if h : x = y then isTrue (h ▸ rfl) else isFalse (fun e => h (Except.ok.inj e))
  | .error x, .error y => if h : x = y then isTrue (h ▸ rfl) else isFalse (fun e => h (Except.error.inj e))
  | .ok _, .error _ => isFalse (fun e => by cases e)
  | .error _, .ok _ => isFalse (fun e => by cases e)


/-- test: every hypothesis of `read_write_validated_psi4_default` is met by C07's two-fragment example (helium + labelled
ghost); the build hypothesis supplied is `exR_fix` (Props/C07E2E.lean, kernel evaluation): `from_arrays` at the
default settings on the arguments `asInput hdoInp exR` returns `exR` -/
example : readMol (envC06 rd64 1) rd64 .psi4 (render (writePsi4 exM)) =
    .mol { exR with units := unitsOf (some true), iutau := none, name := none, comment := none, conn := none,
                    geom := [0, 0, 0, 0, 0, 5 / 2], fixCom := true, fixOrient := false, fixSymm := none } :=
  read_write_validated_psi4_default 1 (asInput hdoInp exR) exR exR_fix rfl rfl exM exM_ok exCarried [0, 0, 0, 0, 0, 5 / 2]
    (by decide +kernel) (by decide +kernel) (by decide +kernel) (by decide +kernel) (by decide +kernel)
    (Or.inl ⟨by decide +kernel, by decide +kernel⟩)

end NonVacuity

end QcelVerif.TextToMol
