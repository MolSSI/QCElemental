import QcelVerif.Lemmas.JsonText
import QcelVerif.Props.C10Msgpack
/-!
# C10 — the JSON text layer: `json.loads(json.dumps(v)) = v` at character level, and the text-level statements for
`json-ext` and for the two flat encodings

Everything is stated for an ARBITRARY float codec `P` (CPython's `float.__repr__` / `float()`); the only thing needed of
it is `floatOk P b` for the floats `b` that occur in the tree — a decidable per-value statement (`twf P j = true`) which
the driver evaluates, with the concrete codec it runs, for every tree it prints.  Strings range over all Unicode scalar
values (Lean `Char`); depth, width and sizes are unbounded.
-/
namespace QcelVerif.Ser

-- The equation lemmas of these functions are derived here once; without this, every proof that unfolds them derives them again.
section
attribute [local simp] parseV parseMembers parseRest printV printMembers printRest flatEnc twf
end

section codec
variable (P : FloatCodec)

/-! ## dispatch lemmas of the parser (no property statements) -/

theorem parseV_ws (f : Nat) (w s : List Char) (hw : ∀ c ∈ w, isJWs c = true) : parseV P f (w ++ s) = parseV P f s := by
  cases f with
  | zero => rw [parseV, parseV]
  | succ f => rw [parseV, parseV, skipWs_all_ws w s hw]

theorem parseV_space (f : Nat) (s : List Char) : parseV P f (' ' :: s) = parseV P f s :=
  parseV_ws P f [' '] s (by decide)

theorem parseKey_space (s : List Char) : parseKey (' ' :: s) = parseKey s := by
  rw [parseKey, parseKey, skipWs_space]

theorem parseV_num (f : Nat) (c : Char) (r : List Char) (h : c = '-' ∨ c.isDigit = true) :
    parseV P (f + 1) (c :: r) = parseNum P (c :: r) := by
  rw [parseV]
  simp only [skipWs_of_head (isJWs_of_numStart h)]
  rw [if_pos h]

theorem parseV_tok (f : Nat) (tok rest : List Char) (k : NumKind) (hall : ∀ c ∈ tok, isNumChar c = true)
    (hstart : startsNum tok = true) (hk : numKind tok = some k) (hs : stopOK rest = true) :
    parseV P (f + 1) (tok ++ rest) =
      match k with
      | .int => .ok (.int (intOfTok tok), rest)
      | .float =>
        match P.parseF tok with
        | some b => .ok (.num b, rest)
        | none => .error .badNum := by
  obtain ⟨c, t, rfl⟩ : ∃ c t, tok = c :: t := by
    cases tok with
    | nil => exact absurd hstart (by decide)
    | cons c t => exact ⟨c, t, rfl⟩
  -- the lone `-`, which `parseNum` tries as the start of `-Infinity`, is no number
  have hne : c :: t ≠ ['-'] := fun e => by rw [e, show numKind ['-'] = none by decide] at hk; cases hk
  have hsp := span_tok (c :: t) rest hall hs
  rw [List.cons_append, parseV_num P f c _ (by simpa [startsNum] using hstart), ← List.cons_append]
  simp only [parseNum, hsp.1, hsp.2, if_neg hne, hk]
  cases k <;> rfl

theorem parseV_null (f : Nat) (rest : List Char) :
    parseV P (f + 1) ('n' :: 'u' :: 'l' :: 'l' :: rest) = .ok (.null, rest) := rfl
theorem parseV_true (f : Nat) (rest : List Char) :
    parseV P (f + 1) ('t' :: 'r' :: 'u' :: 'e' :: rest) = .ok (.bool true, rest) := rfl
theorem parseV_false (f : Nat) (rest : List Char) :
    parseV P (f + 1) ('f' :: 'a' :: 'l' :: 's' :: 'e' :: rest) = .ok (.bool false, rest) := rfl
theorem parseV_NaN (f : Nat) (rest : List Char) :
    parseV P (f + 1) ('N' :: 'a' :: 'N' :: rest) = .ok (.num canonNaN, rest) := rfl
theorem parseV_Infinity (f : Nat) (rest : List Char) :
    parseV P (f + 1) ('I' :: 'n' :: 'f' :: 'i' :: 'n' :: 'i' :: 't' :: 'y' :: rest) = .ok (.num posInf, rest) := rfl
theorem parseV_negInfinity (f : Nat) (rest : List Char) :
    parseV P (f + 1) ('-' :: 'I' :: 'n' :: 'f' :: 'i' :: 'n' :: 'i' :: 't' :: 'y' :: rest) = .ok (.num negInf, rest) := rfl
theorem parseV_arr_nil (f : Nat) (rest : List Char) : parseV P (f + 1) ('[' :: ']' :: rest) = .ok (.arr [], rest) := rfl
theorem parseV_obj_nil (f : Nat) (rest : List Char) : parseV P (f + 1) ('{' :: '}' :: rest) = .ok (.obj [], rest) := rfl
theorem parseRest_close (f : Nat) (rest : List Char) : parseRest P (f + 1) (']' :: rest) = .ok ([], rest) := rfl
theorem parseMembers_close (f : Nat) (rest : List Char) : parseMembers P (f + 1) ('}' :: rest) = .ok ([], rest) := rfl

theorem parseV_str (f : Nat) (s rest : List Char) :
    parseV P (f + 1) ('"' :: (escStr s ++ '"' :: rest)) = .ok (.str s, rest) := by
  rw [parseV]
  simp only [skipWs_of_head (show isJWs '"' = false by decide)]
  rw [if_neg (show ¬ (('"' : Char) = '-' ∨ Char.isDigit '"' = true) by decide), if_pos trivial, parseStr_printStr]

theorem parseV_arr_cons (f : Nat) (s r : List Char) (hs : ∃ c t, s = c :: t ∧ isJWs c = false ∧ c ≠ ']')
    (v : JV) (r3 : List Char) (l : List JV) (r4 : List Char)
    (h1 : parseV P f (s ++ r) = .ok (v, r3)) (h2 : parseRest P f r3 = .ok (l, r4)) :
    parseV P (f + 1) ('[' :: (s ++ r)) = .ok (.arr (v :: l), r4) := by
  obtain ⟨c, t, rfl, hws, hne⟩ := hs
  rw [List.cons_append] at h1 ⊢
  rw [parseV]
  simp only [skipWs_of_head (show isJWs '[' = false by decide)]
  rw [if_neg (show ¬ (('[' : Char) = '-' ∨ Char.isDigit '[' = true) by decide)]
  simp [skipWs_of_head hws, hne, h1, h2]

theorem parseRest_comma (f : Nat) (s : List Char) (v : JV) (r1 : List Char) (l : List JV) (r2 : List Char)
    (h1 : parseV P f s = .ok (v, r1)) (h2 : parseRest P f r1 = .ok (l, r2)) :
    parseRest P (f + 1) (',' :: ' ' :: s) = .ok (v :: l, r2) := by
  rw [parseRest]
  simp [skipWs_of_head (show isJWs ',' = false by decide), parseV_space, h1, h2]

theorem parseKey_print (k rest : List Char) :
    parseKey ('"' :: (escStr k ++ '"' :: ':' :: rest)) = .ok (k, rest) := by
  rw [parseKey]
  simp only [skipWs_of_head (show isJWs '"' = false by decide)]
  rw [if_pos trivial, parseStr_printStr]
  simp [skipWs_of_head (show isJWs ':' = false by decide)]

theorem parseV_obj_cons (f : Nat) (k s : List Char) (v : JV) (r4 : List Char) (l : List (List Char × JV)) (r5 : List Char)
    (h2 : parseV P f s = .ok (v, r4)) (h3 : parseMembers P f r4 = .ok (l, r5)) :
    parseV P (f + 1) ('{' :: '"' :: (escStr k ++ '"' :: ':' :: ' ' :: s)) = .ok (.obj ((k, v) :: l), r5) := by
  rw [parseV]
  simp only [skipWs_of_head (show isJWs '{' = false by decide)]
  rw [if_neg (show ¬ (('{' : Char) = '-' ∨ Char.isDigit '{' = true) by decide)]
  simp [skipWs_of_head (show isJWs '"' = false by decide), parseKey_print, parseV_space, h2, h3]

theorem parseMembers_comma (f : Nat) (k s : List Char) (v : JV) (r2 : List Char) (l : List (List Char × JV))
    (r3 : List Char) (h2 : parseV P f s = .ok (v, r2)) (h3 : parseMembers P f r2 = .ok (l, r3)) :
    parseMembers P (f + 1) (',' :: ' ' :: '"' :: (escStr k ++ '"' :: ':' :: ' ' :: s)) = .ok ((k, v) :: l, r3) := by
  rw [parseMembers]
  simp [skipWs_of_head (show isJWs ',' = false by decide), parseKey_space, parseKey_print, parseV_space, h2, h3]

/-! ## floats -/

theorem printNum_cases {b : Bytes} (h : floatOk P b = true) :
    (b = canonNaN ∧ printNum P b = ['N', 'a', 'N']) ∨
    (b = posInf ∧ printNum P b = ['I', 'n', 'f', 'i', 'n', 'i', 't', 'y']) ∨
    (b = negInf ∧ printNum P b = ['-', 'I', 'n', 'f', 'i', 'n', 'i', 't', 'y']) ∨
    (printNum P b = P.reprF b ∧ tokOk (P.reprF b) = true ∧ P.parseF (P.reprF b) = some b) := by
  simp only [floatOk, Bool.and_eq_true, decide_eq_true_eq] at h
  obtain ⟨_, h⟩ := h
  unfold printNum
  by_cases hn : isNaNB b = true
  · rw [if_pos hn] at h ⊢
    exact .inl ⟨by simpa using h, rfl⟩
  rw [if_neg hn] at h ⊢
  by_cases hp : b = posInf
  · subst hp
    exact .inr (.inl ⟨rfl, rfl⟩)
  by_cases hm : b = negInf
  · subst hm
    exact .inr (.inr (.inl ⟨rfl, rfl⟩))
  rw [if_neg (by simpa using hp), if_neg (by simpa using hm)]
  rw [if_neg (by simp [hp, hm])] at h
  exact .inr (.inr (.inr ⟨rfl, by simpa using h⟩))

theorem parseV_printNum (b : Bytes) (h : floatOk P b = true) (f : Nat) (rest : List Char) (hs : stopOK rest = true) :
    parseV P (f + 1) (printNum P b ++ rest) = .ok (.num b, rest) := by
  rcases printNum_cases P h with ⟨rfl, hp⟩ | ⟨rfl, hp⟩ | ⟨rfl, hp⟩ | ⟨hp, htok, hparse⟩ <;> rw [hp]
  · exact parseV_NaN P f rest
  · exact parseV_Infinity P f rest
  · exact parseV_negInfinity P f rest
  · obtain ⟨hall, hstart, hk⟩ := tokOk_spec htok
    rw [parseV_tok P f _ rest _ hall hstart hk hs, hparse]

/-! ## heads of printed values -/

/-- a token that starts like a number starts with a character that is neither whitespace nor `]` -/
theorem startsNum_head {t : List Char} (h : startsNum t = true) : ∃ c tl, t = c :: tl ∧ isJWs c = false ∧ c ≠ ']' := by
  cases t with
  | nil => simp [startsNum] at h
  | cons c tl =>
    have hc : c = '-' ∨ c.isDigit = true := by simpa [startsNum] using h
    refine ⟨c, tl, rfl, isJWs_of_numStart hc, ?_⟩
    rcases hc with rfl | hc
    · decide
    · intro he; subst he; simp [Char.isDigit] at hc

theorem printV_head (v : JV) (h : twf P v = true) :
    ∃ c t, printV P v = c :: t ∧ isJWs c = false ∧ c ≠ ']' := by
  cases v with
  | null => exact ⟨'n', ['u', 'l', 'l'], by simp [printV], by decide, by decide⟩
  | bool b =>
    cases b
    · exact ⟨'f', ['a', 'l', 's', 'e'], by simp [printV], by decide, by decide⟩
    · exact ⟨'t', ['r', 'u', 'e'], by simp [printV], by decide, by decide⟩
  | int i =>
    exact startsNum_head (printInt_spec i).2.1
  | num b =>
    have hb : floatOk P b = true := by simpa [twf] using h
    rw [printV]
    rcases printNum_cases P hb with ⟨_, hp⟩ | ⟨_, hp⟩ | ⟨_, hp⟩ | ⟨hp, htok, _⟩ <;> rw [hp]
    · exact ⟨_, _, rfl, by decide, by decide⟩
    · exact ⟨_, _, rfl, by decide, by decide⟩
    · exact ⟨_, _, rfl, by decide, by decide⟩
    · exact startsNum_head (tokOk_spec htok).2.1
  | str s => exact ⟨'"', escStr s ++ ['"'], by simp [printV, printStr], by decide, by decide⟩
  | arr l => exact ⟨'[', printElems P l ++ [']'], by simp [printV], by decide, by decide⟩
  | obj l => exact ⟨'{', printPairs P l ++ ['}'], by simp [printV], by decide, by decide⟩

theorem stopOK_printRest (t : List JV) (rest : List Char) : stopOK (printRest P t ++ ']' :: rest) = true := by
  cases t <;> simp [printRest, stopOK, isNumChar, Char.isDigit]

theorem stopOK_printMembers (t : List (List Char × JV)) (rest : List Char) :
    stopOK (printMembers P t ++ '}' :: rest) = true := by
  rcases t with _ | ⟨⟨k, v⟩, t⟩ <;> simp [printMembers, stopOK, isNumChar, Char.isDigit]


/-! ## the round trip, one value from a prefix of the text -/

mutual
  /-- the induction behind `json_text_prefix` (the audited statement), mutual with the rest of an array / of an object -/
  theorem parse_print : ∀ (v : JV), twf P v = true → ∀ (fuel : Nat) (rest : List Char), stopOK rest = true →
      (printV P v).length ≤ fuel → parseV P fuel (printV P v ++ rest) = .ok (v, rest)
    | v, h, 0, _, _, hf => by
      obtain ⟨c, t, hv, _⟩ := printV_head P v h
      rw [hv] at hf
      exact absurd hf (Nat.not_succ_le_zero _)
    | .null, _, f + 1, rest, _, _ => parseV_null P f rest
    | .bool true, _, f + 1, rest, _, _ => parseV_true P f rest
    | .bool false, _, f + 1, rest, _, _ => parseV_false P f rest
    | .int i, _, f + 1, rest, hs, _ => by
      obtain ⟨hall, hstart, hk, hi⟩ := printInt_spec i
      rw [printV, parseV_tok P f _ rest _ hall hstart hk hs, hi]
    | .num b, h, f + 1, rest, hs, _ => by
      rw [printV]
      exact parseV_printNum P b (by simpa [twf] using h) f rest hs
    | .str s, _, f + 1, rest, _, _ => by
      simp only [printV, printStr, List.cons_append, List.append_assoc, List.nil_append]
      exact parseV_str P f s rest
    | .arr [], _, f + 1, rest, _, _ => parseV_arr_nil P f rest
    | .arr (v :: t), h, f + 1, rest, _, hf => by
      have ⟨hv, ht⟩ : twf P v = true ∧ twfL P t = true := by simpa [twf, twfL] using h
      simp only [printV, printElems, List.length_cons, List.length_append, List.length_nil] at hf
      have h1 := parse_print v hv f (printRest P t ++ ']' :: rest) (stopOK_printRest P t rest) (by omega)
      have h2 := parse_printRest t ht f rest (by omega)
      simp only [printV, printElems, List.cons_append, List.append_assoc, List.nil_append]
      exact parseV_arr_cons P f _ _ (printV_head P v hv) v _ t rest h1 h2
    | .obj [], _, f + 1, rest, _, _ => parseV_obj_nil P f rest
    | .obj ((k, v) :: t), h, f + 1, rest, _, hf => by
      have ⟨hv, ht⟩ : twf P v = true ∧ twfP P t = true := by simpa [twf, twfP] using h
      simp only [printV, printPairs, printStr, List.length_cons, List.length_append, List.length_nil] at hf
      have h1 := parse_print v hv f (printMembers P t ++ '}' :: rest) (stopOK_printMembers P t rest) (by omega)
      have h2 := parse_printMembers t ht f rest (by omega)
      simp only [printV, printPairs, printStr, List.cons_append, List.append_assoc, List.nil_append]
      exact parseV_obj_cons P f k _ v _ t rest h1 h2
  theorem parse_printRest : ∀ (l : List JV), twfL P l = true → ∀ (fuel : Nat) (rest : List Char),
      (printRest P l).length + 1 ≤ fuel → parseRest P fuel (printRest P l ++ ']' :: rest) = .ok (l, rest)
    | _, _, 0, _, hf => absurd hf (Nat.not_succ_le_zero _)
    | [], _, f + 1, rest, _ => parseRest_close P f rest
    | v :: t, h, f + 1, rest, hf => by
      have ⟨hv, ht⟩ : twf P v = true ∧ twfL P t = true := by simpa [twfL] using h
      simp only [printRest, List.length_cons, List.length_append] at hf
      have h1 := parse_print v hv f (printRest P t ++ ']' :: rest) (stopOK_printRest P t rest) (by omega)
      have h2 := parse_printRest t ht f rest (by omega)
      simp only [printRest, List.cons_append, List.append_assoc]
      exact parseRest_comma P f _ v _ t rest h1 h2
  theorem parse_printMembers : ∀ (l : List (List Char × JV)), twfP P l = true → ∀ (fuel : Nat) (rest : List Char),
      (printMembers P l).length + 1 ≤ fuel → parseMembers P fuel (printMembers P l ++ '}' :: rest) = .ok (l, rest)
    | _, _, 0, _, hf => absurd hf (Nat.not_succ_le_zero _)
    | [], _, f + 1, rest, _ => parseMembers_close P f rest
    | (k, v) :: t, h, f + 1, rest, hf => by
      have ⟨hv, ht⟩ : twf P v = true ∧ twfP P t = true := by simpa [twfP] using h
      simp only [printMembers, printStr, List.length_cons, List.length_append, List.length_nil] at hf
      have h1 := parse_print v hv f (printMembers P t ++ '}' :: rest) (stopOK_printMembers P t rest) (by omega)
      have h2 := parse_printMembers t ht f rest (by omega)
      simp only [printMembers, printStr, List.cons_append, List.append_assoc, List.nil_append]
      exact parseMembers_comma P f k _ v _ t rest h1 h2
end


/-- **one value from a prefix of the text**: on the text of a tree followed by anything that cannot continue a number
token, one parsing step with at least `len(text)` fuel returns exactly that tree and exactly the rest -/
theorem json_text_prefix (v : JV) (h : twf P v = true) (rest : List Char) (hs : stopOK rest = true) (fuel : Nat)
    (hf : (printV P v).length ≤ fuel) : parseV P fuel (printV P v ++ rest) = .ok (v, rest) :=
  parse_print P v h fuel rest hs hf

theorem not_numChar_of_ws {c : Char} (h : isJWs c = true) : isNumChar c = false := by
  simp only [isJWs, Bool.or_eq_true, beq_iff_eq] at h
  rcases h with ((rfl | rfl) | rfl) | rfl <;> decide

/-- whitespace tolerance of the reader around a document: any JSON whitespace before and after the text is ignored -/
theorem json_text_roundtrip_ws (v : JV) (h : twf P v = true) (w1 w2 : List Char)
    (h1 : ∀ c ∈ w1, isJWs c = true) (h2 : ∀ c ∈ w2, isJWs c = true) :
    jsonParse P (w1 ++ (printV P v ++ w2)) = .ok v := by
  have hs : stopOK w2 = true := by
    cases w2 with
    | nil => rfl
    | cons c t => simp [stopOK, not_numChar_of_ws (h2 c (List.mem_cons_self ..))]
  have hp := parse_print P v h ((w1 ++ (printV P v ++ w2)).length + 1) w2 hs (by simp only [List.length_append]; omega)
  have hw2 : skipWs w2 = [] := by simpa [skipWs] using skipWs_all_ws w2 [] h2
  rw [jsonParse, parseV_ws P _ w1 _ h1, hp]
  simp [hw2]

/-- **`json.loads(json.dumps(v)) == v` at character level**, for every JSON tree (any depth and width; strings over all
Unicode scalar values with every escape class; unbounded ints; NaN / ±Infinity; finite floats satisfying `floatOk`) -/
theorem json_text_roundtrip (v : JV) (h : twf P v = true) : jsonParse P (printV P v) = .ok v := by
  simpa using json_text_roundtrip_ws P v h [] [] (by simp) (by simp)

/-- **the printer `printV` (`json.dumps`) is injective** on trees whose floats satisfy `floatOk`: same text, same tree -/
theorem jsonPrint_injective (a b : JV) (ha : twf P a = true) (hb : twf P b = true)
    (h : printV P a = printV P b) : a = b := by
  have h1 := json_text_roundtrip P a ha
  have h2 := json_text_roundtrip P b hb
  rw [h, h2] at h1
  exact (Except.ok.inj h1).symm

end codec

/-! ## payload trees ↔ JSON trees -/

/-- UTF-8 (Lean core's codec): decoding the encoding of a character list gives it back -/
theorem utf8Dec_utf8Enc (cs : List Char) : utf8Dec (utf8Enc cs) = some cs := by
  have e : ByteArray.mk ((String.ofList cs).toUTF8.data.toList.toArray) = cs.utf8Encode := by
    simp [String.toByteArray_ofList]
  unfold utf8Dec utf8Enc
  rw [e, List.utf8Decode?_utf8Encode]
  simp

theorem utf8Enc_of_utf8Dec {b : Bytes} {cs : List Char} (h : utf8Dec b = some cs) : utf8Enc cs = b := by
  unfold utf8Dec at h
  cases hd : (ByteArray.mk b.toArray).utf8Decode? with
  | none => rw [hd] at h; simp at h
  | some arr =>
    rw [hd] at h
    simp only [Option.map_some, Option.some.injEq] at h
    subst h
    have hs : ((ByteArray.mk b.toArray).utf8Decode?).isSome = true := by rw [hd]; rfl
    have hg := @ByteArray.utf8Encode_get_utf8Decode? (ByteArray.mk b.toArray) hs
    have e : ((ByteArray.mk b.toArray).utf8Decode?.get hs) = arr := by simp [hd]
    rw [e] at hg
    simp [utf8Enc, String.toByteArray_ofList, hg]

mutual
  theorem ofJ_toJ : ∀ (v : Val) (j : JV), toJ v = some j → ofJ j = v
    | .nil, j, h => by simp [toJ] at h; subst h; simp [ofJ]
    | .bool b, j, h => by simp [toJ] at h; subst h; simp [ofJ]
    | .int i, j, h => by simp [toJ] at h; subst h; simp [ofJ]
    | .f64 b, j, h => by simp [toJ] at h; subst h; simp [ofJ]
    | .str s, j, h => by
      simp only [toJ] at h
      cases hd : utf8Dec s with
      | none => rw [hd] at h; simp at h
      | some cs => rw [hd] at h; simp at h; subst h; simp [ofJ, utf8Enc_of_utf8Dec hd]
    | .bin _, j, h => by simp [toJ] at h
    | .nd _ _ _, j, h => by simp [toJ] at h
    | .arr l, j, h => by
      simp only [toJ] at h
      cases hl : toJL l with
      | none => rw [hl] at h; simp at h
      | some l' => rw [hl] at h; simp at h; subst h; simp [ofJ, ofJL_toJL l l' hl]
    | .map l, j, h => by
      simp only [toJ] at h
      cases hl : toJP l with
      | none => rw [hl] at h; simp at h
      | some l' => rw [hl] at h; simp at h; subst h; simp [ofJ, ofJP_toJP l l' hl]
  theorem ofJL_toJL : ∀ (l : List Val) (l' : List JV), toJL l = some l' → ofJL l' = l
    | [], l', h => by simp [toJL] at h; subst h; simp [ofJL]
    | v :: t, l', h => by
      simp only [toJL] at h
      cases hv : toJ v with
      | none => rw [hv] at h; simp at h
      | some v' =>
        cases ht : toJL t with
        | none => rw [hv, ht] at h; simp at h
        | some t' =>
          rw [hv, ht] at h; simp at h; subst h
          simp [ofJL, ofJ_toJ v v' hv, ofJL_toJL t t' ht]
  theorem ofJP_toJP : ∀ (l : List (Val × Val)) (l' : List (List Char × JV)), toJP l = some l' → ofJP l' = l
    | [], l', h => by simp [toJP] at h; subst h; simp [ofJP]
    | (k, v) :: t, l', h => by
      cases k with
      | str kb =>
        simp only [toJP] at h
        cases hk : utf8Dec kb with
        | none => rw [hk] at h; simp at h
        | some k' =>
          cases hv : toJ v with
          | none => rw [hk, hv] at h; simp at h
          | some v' =>
            cases ht : toJP t with
            | none => rw [hk, hv, ht] at h; simp at h
            | some t' =>
              rw [hk, hv, ht] at h; simp at h; subst h
              simp [ofJP, utf8Enc_of_utf8Dec hk, ofJ_toJ v v' hv, ofJP_toJP t t' ht]
      | _ => simp [toJP] at h
end

section entry
variable (P : FloatCodec)

/-- the scope of the text-level statements for a payload tree `w` that JSON can hold: it has a JSON tree (str keys, valid
UTF-8, no bytes) all of whose floats satisfy the codec hypothesis -/
def TextOK (w : Val) : Prop := ∃ j, toJ w = some j ∧ twf P j = true

/-- **json-ext at text level**: `deserialize(serialize(v, "json-ext"), "json-ext") = v` — the text is produced and read
back character by character, and every ndarray leaf (any depth) comes back with the same dtype, shape and bytes -/
theorem jsonext_text_roundtrip (v : Val) (hv : JWF v) (ht : TextOK P (jxEnc v)) :
    ∃ t, serializeJsonExt P v = some t ∧ deserializeJsonExt P t = .ok v := by
  obtain ⟨j, hj, hw⟩ := ht
  refine ⟨printV P j, by simp [serializeJsonExt, hj], ?_⟩
  have h1 := json_text_roundtrip P j hw
  have h2 := ofJ_toJ _ _ hj
  simp [deserializeJsonExt, h1, h2, jsonext_roundtrip v hv]

/-- **identical re-serialisation at text level** (json-ext): serialising what was read back gives the same text -/
theorem json_text_reserialise_identical (v v' : Val) (hv : JWF v) (ht : TextOK P (jxEnc v)) (t : List Char)
    (hs : serializeJsonExt P v = some t) (hd : deserializeJsonExt P t = .ok v') : serializeJsonExt P v' = some t := by
  obtain ⟨t', hs', hd'⟩ := jsonext_text_roundtrip P v hv ht
  rw [hs] at hs'
  cases hs'
  rw [hd'] at hd
  cases hd
  exact hs

/-- plain `json.loads` (pydantic's reader for `parse_raw(encoding="json")`, no hook) reads a JSON-native tree back from
its text -/
theorem json_hookless_text_roundtrip (w : Val) (j : JV) (hj : toJ w = some j) (hw : twf P j = true) :
    deserializeJsonPlain P (printV P j) = .ok w := by
  simp [deserializeJsonPlain, json_text_roundtrip P j hw, ofJ_toJ _ _ hj]

/-! ## the flat encodings (`json`, `msgpack`): arrays go out as the row-major flat list and the reshape restores them -/

/-- **row-major order**: the flat list of an array whose buffer is the concatenation of its rows' element blocks is the
`ravel` of the rows, element by element -/
theorem flat_elems_ravel (dt : Bytes) (isz : Nat) (hisz : itemsize dt = some isz) (hpos : 0 < isz)
    (rowsB : List (List Bytes)) (hblk : ∀ blk ∈ ravel rowsB, blk.length = isz) :
    elemsOf dt (ravel rowsB).flatten = mapM? (decodeElem dt) (ravel rowsB) := by
  obtain ⟨k, rfl⟩ : ∃ k, isz = k + 1 := ⟨isz - 1, by omega⟩
  have hlen := length_flatten_rows (k + 1) (ravel rowsB) hblk
  have hdiv : (ravel rowsB).flatten.length / (k + 1) = (ravel rowsB).length := by
    rw [hlen]; exact Nat.mul_div_cancel _ (by omega)
  simp only [elemsOf, hisz, hdiv, chunk_flatten (k + 1) (ravel rowsB) hblk]

/-- an ndarray leaf is emitted by the flat encoders as the list of its elements in buffer (row-major) order -/
theorem flat_nd_emits_list (dt : Bytes) (shape : List Nat) (data : Bytes) :
    flatEnc (.nd dt shape data) = (elemsOf dt data).map .arr := by
  simp [flatEnc]

/-- **reshape and ravel are mutually inverse on the declared shapes**: a flat list of `n·m` elements reshapes to `n`
rows of `m` whose `ravel` is the list again (with `flat_reshape_roundtrip`: `reshape (ravel rows) = rows`) -/
theorem flat_reshape_composes {α : Type} (n m : Nat) (flat : List α) (h : flat.length = n * m) :
    ∃ rows, reshapeRows n m flat = some rows ∧ ravel rows = flat ∧ rows.length = n ∧ ∀ r ∈ rows, r.length = m := by
  obtain ⟨h1, h2, h3⟩ := flatten_chunk m n flat h
  exact ⟨chunk m n flat, by simp [reshapeRows, h], h1, h2, h3⟩

/-- **plain json at text level**: whatever the flat encoder hands on is written and read back character by character;
for an `(n, m)` ndarray leaf the reader gets the flat element list, and the models' reshape restores the rows -/
theorem flat_json_text_roundtrip (v w : Val) (hf : flatEnc v = some w) (ht : TextOK P w) :
    ∃ t, serializeJson P v = some t ∧ deserializeJsonPlain P t = .ok w := by
  obtain ⟨j, hj, hw⟩ := ht
  exact ⟨printV P j, by simp [serializeJson, hf, hj], json_hookless_text_roundtrip P w j hj hw⟩

theorem flat_json_array_restored (dt data : Bytes) (n m : Nat) (es : List Val) (he : elemsOf dt data = some es)
    (hlen : es.length = n * m) (ht : TextOK P (.arr es)) :
    ∃ t rows, serializeJson P (.nd dt [n, m] data) = some t ∧ deserializeJsonPlain P t = .ok (.arr es) ∧
      reshapeRows n m es = some rows ∧ ravel rows = es := by
  obtain ⟨t, h1, h2⟩ := flat_json_text_roundtrip P (.nd dt [n, m] data) (.arr es) (by simp [flatEnc, he]) ht
  obtain ⟨rows, h3, h4, _, _⟩ := flat_reshape_composes n m es hlen
  exact ⟨t, rows, h1, h2, h3, h4⟩

/-- **plain msgpack at byte level**: the flat tree is written and read back byte by byte (`msgpack_roundtrip`), so an
ndarray leaf arrives as its flat element list -/
theorem flat_msgpack_roundtrip (v w : Val) (hf : flatEnc v = some w) (hw : WellFormed w) :
    ∃ bs, serializeMsgpack v = some bs ∧ mpDecode bs = .ok w :=
  ⟨mpEnc w, by simp [serializeMsgpack, hf], msgpack_roundtrip w hw⟩

theorem flat_msgpack_array_restored (dt data : Bytes) (n m : Nat) (es : List Val) (he : elemsOf dt data = some es)
    (hlen : es.length = n * m) (hw : WellFormed (.arr es)) :
    ∃ bs rows, serializeMsgpack (.nd dt [n, m] data) = some bs ∧ mpDecode bs = .ok (.arr es) ∧
      reshapeRows n m es = some rows ∧ ravel rows = es := by
  obtain ⟨bs, h1, h2⟩ := flat_msgpack_roundtrip (.nd dt [n, m] data) (.arr es) (by simp [flatEnc, he]) hw
  obtain ⟨rows, h3, h4, _, _⟩ := flat_reshape_composes n m es hlen
  exact ⟨bs, rows, h1, h2, h3, h4⟩

end entry


/-! ## non-vacuity and tests -/

/-- a toy codec that knows one float, 1.5 (the theorems hold for every codec; the driver runs `F64.concreteCodec`) -/
def toyCodec : FloatCodec :=
  { reprF := fun _ => ['1', '.', '5'], parseF := fun _ => some [0x3f, 0xf8, 0, 0, 0, 0, 0, 0] }

/-- a tree with every leaf kind: a key needing escapes (quote, backslash, newline, U+0001, é, ✓, an astral character),
empty string / array / object, negative and large ints, 1.5, NaN, −Infinity, nesting -/
def exampleJV : JV :=
  .obj [(['a', '"', '\\', '\n', '\x01', 'é', '✓', '😀'],
          .arr [.null, .bool true, .int (-12), .int 18446744073709551616, .num [0x3f, 0xf8, 0, 0, 0, 0, 0, 0],
                .num canonNaN, .num negInf, .arr [], .obj [], .str []]),
        ([], .obj [(['k'], .arr [.arr [.arr [.str ['/', '\x7f']]]])])]

/-- non-vacuity of `json_text_roundtrip` / `json_text_prefix` / `jsonPrint_injective`: the hypotheses hold of it … -/
example : twf toyCodec exampleJV = true := by decide
/-- … so it round-trips through its text, also with whitespace around it -/
example : jsonParse toyCodec (printV toyCodec exampleJV) = .ok exampleJV := json_text_roundtrip _ _ (by decide)
example : jsonParse toyCodec ([' ', '\n'] ++ (printV toyCodec exampleJV ++ ['\t'])) = .ok exampleJV :=
  json_text_roundtrip_ws _ _ (by decide) _ _ (by decide) (by decide)
example (b : JV) (hb : twf toyCodec b = true) (h : printV toyCodec exampleJV = printV toyCodec b) : exampleJV = b :=
  jsonPrint_injective _ _ _ (by decide) hb h

/-- TEST (concrete): the exact characters `json.dumps` writes for a small tree — separators `", "` and `": "`, short
escapes, `\u00XX`, `\uXXXX`, a surrogate pair, lower-case hex -/
example : printV toyCodec (.obj [(['a', '"'], .arr [.int 1, .str ['\n', '\x01', 'é', '😀', '\x7f']]), (['b'], .num posInf)])
    = "{\"a\\\"\": [1, \"\\n\\u0001\\u00e9\\ud83d\\ude00\\u007f\"], \"b\": Infinity}".toList := by decide

/-- TEST (concrete): the reader accepts what the writer never emits — `\/`, upper-case hex, `-0`, inner whitespace —
and refuses raw control characters, lone surrogates, leading zeros and trailing garbage -/
example : jsonParse toyCodec "[ \"\\/\\u00E9\" , -0 ,\n{ \"k\" : null } ]".toList
    = .ok (.arr [.str ['/', 'é'], .int 0, .obj [(['k'], .null)]]) := by rfl
example : jsonParse toyCodec ['"', '\x01', '"'] = .error .ctrlInStr := by rfl
example : jsonParse toyCodec "\"\\ud800\"".toList = .error .loneSurrogate := by rfl
example : jsonParse toyCodec "01".toList = .error .badNum := by rfl
example : jsonParse toyCodec "1 2".toList = .error .extra := by rfl

/-- non-vacuity of `jsonext_text_roundtrip` / `json_text_reserialise_identical`: a dict holding a float64 vector -/
def exampleVal : Val := .map [(.str [103], .nd (asciiBytes "<f8") [1] [0, 0, 0, 0, 0, 0, 0xf8, 0x3f])]

example : JWF exampleVal :=
  .map _ (by decide) (by intro p hp; simp [exampleVal] at hp; subst hp; exact .nd _ _ _ ⟨by decide, 8, by decide, by decide, by decide⟩)

example : TextOK toyCodec (jxEnc exampleVal) :=
  ⟨.obj [(['g'], .obj [("_nd_".toList, .bool true), ("dtype".toList, .str "<f8".toList),
      ("data".toList, .str "000000000000f83f".toList)])], by rfl, by decide⟩

/-- non-vacuity of the flat statements: a (1,2) little-endian int16 array is emitted as `[1, -2]` and restored -/
example : elemsOf (asciiBytes "<i2") [1, 0, 0xfe, 0xff] = some [.int 1, .int (-2)] := by rfl
example : TextOK toyCodec (.arr [.int 1, .int (-2)]) := ⟨.arr [.int 1, .int (-2)], by rfl, by decide⟩
example : WellFormed (.arr [.int 1, .int (-2)]) := by decide
example : serializeJson toyCodec (.nd (asciiBytes "<i2") [1, 2] [1, 0, 0xfe, 0xff]) = some "[1, -2]".toList := by rfl
/-- non-vacuity of `flat_elems_ravel`: two rows of two 2-byte blocks -/
example : ∀ blk ∈ ravel [[[1, 0], [2, 0]], [[3, 0], [4, 0]]], blk.length = 2 := by decide

/-- non-vacuity of `flat_reshape_composes` / `flat_json_array_restored` / `flat_msgpack_array_restored`: six elements as (2,3) -/
example : ∃ rows, reshapeRows 2 3 [1, 2, 3, 4, 5, 6] = some rows ∧ ravel rows = [1, 2, 3, 4, 5, 6] ∧ rows.length = 2 ∧
    ∀ r ∈ rows, r.length = 3 := flat_reshape_composes 2 3 _ (by decide)
example : ∃ bs rows, serializeMsgpack (.nd (asciiBytes "<i2") [1, 2] [1, 0, 0xfe, 0xff]) = some bs ∧
    mpDecode bs = .ok (.arr [.int 1, .int (-2)]) ∧ reshapeRows 1 2 [Val.int 1, .int (-2)] = some rows ∧
    ravel rows = [.int 1, .int (-2)] :=
  flat_msgpack_array_restored _ _ 1 2 _ (by rfl) (by decide) (by decide)
/-- non-vacuity of `ofJ_toJ` / `json_hookless_text_roundtrip`: a str-keyed dict with a non-ASCII value -/
example : toJ (.map [(.str [107], .str [0xc3, 0xa9])]) = some (.obj [(['k'], .str ['é'])]) := by rfl

end QcelVerif.Ser
