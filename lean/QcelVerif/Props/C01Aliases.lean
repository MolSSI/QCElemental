import QcelVerif.Model.PTShipped
/-! C01: every alias form of every element row of the shipped table, by kernel evaluation over the generated tables. -/
namespace QcelVerif.PT
open QcelVerif QcelVerif.PStr

/-- row predicate of `aliases_agree` -/
def aliasRowOk (r : Nat × Nat × Nat) : Bool :=
  [PyVal.int r.1, .str (natDigits r.1), .str (unpack r.2.1), .str (unpack r.2.2)].all (fun a =>
    [false, true].all (fun b =>
      shipped.resolve a b == some r.2.1 &&
      shipped.toZ a b == some r.1 && shipped.toE a b == some r.2.1 &&
      shipped.toName a b == some r.2.2))

/-- **Element aliases agree**: for every element row, atomic number as integer, as digit string,
symbol and element name all resolve — strict or not — to the element's own symbol, and the
accessors return that row's Z, symbol and name. -/
theorem aliases_agree : shipped.elements.all aliasRowOk = true := by decide +kernel


end QcelVerif.PT
