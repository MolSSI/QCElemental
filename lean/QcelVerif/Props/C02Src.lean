import QcelVerif.Lemmas.ConstantsSrc
import QcelVerif.Props.C02Dec
import QcelVerif.Props.C02Ctx2014
import QcelVerif.Props.C02Ctx2018
/-!
# C02 — the alias definitions REGENERATED FROM `context.py` agree with the specification

`Gen/ContextSrc.lean` is produced on every run by `harness/c02_src.py` from the `ast` of
`qcelemental/physical_constants/context.py` (symbolic execution of `__init__` per context string).  The hand-written
model (`Model/Constants.lean`) holds the 27 alias definitions as a *specification* transcribed from the documentation
block (context.py:247-271), the rename map, the three derived legacy constants and the translate table.  This file
proves, for both CODATA sets, that the pieces read from the source are the model's: translate table, rename dict,
derived constants, calorie insertion, data-table choice; the alias trees symbolically (26 of 27 — `dipmom_au2debye`
is written `a·1.E21 / b` in the source for the documented `a / (b·1.E-21)`, so its trees differ and it is covered by
value equality) and by value on the shipped tables (all 27 and the 3 derived); the whole `pc` built in the code's
staging equals the model's `pc`, so the theorems about `pc2014/pc2018` hold of the source-derived contexts; and the
2·10⁻²⁷ bound holds for the SOURCE formulas through the general `evalDec_approx`.

Hand-modelled (shape-checked by the translator, tied by the correspondence): the constant loop, the body of the
rename loop, the insertion loop, the attribute loop, `get`.
-/
namespace QcelVerif.Constants
open QcelVerif QcelVerif.PStr QcelVerif.Codata
open Gen.ContextSrc

/-- the translator accepted the source (a stub with `translated = false` is written otherwise, and every table theorem
below fails with it) -/
theorem source_translated : translated = true := by decide

/-- **`label.translate(_transtable)` as read from the source = the model's `mangle`, for every string** (in
particular for each of the 128 ASCII characters, kernel-evaluated; characters ≥ 128 are left alone by both) -/
theorem mangle_src_eq_model (s : Bytes) : mangleSrc s = mangle s := mangleWith_eq s

/-- the per-character form: every ASCII character -/
theorem mangle_src_eq_model_ascii : ∀ c, c < 128 → mangleSrc [c] = mangle [c] := by
  intro c _; exact mangle_src_eq_model [c]

/-- test (not a property): '/' → 'p', '{' → '_', '.' deleted, letters kept -/
example : mangleSrc b!"{220} mom.um in MeV/c" = b!"_220_momum_in_MeVpc" := by decide

/-- **the rename dict of the source (2018 path, in dict order) is the model's `renameMap`**; the 2014 path executes no
rename loop -/
theorem renames_src_eq_model : renames2018 = renameMap ∧ renames2014 = [] := by decide +kernel

/-- **the three derived legacy constants of the source (the list `aliases` is first assigned on the 2018 path) are the
model's `derived2018`** — name, units, comment literally, expression trees equal once constant names are lower-cased
(the source writes the lower-case keys, the model NIST's spelling; `lowerPc_same_value`: same value); none on the 2014 path -/
theorem derived_src_eq_model : initial2018.map lowerDef = derived2018.map lowerDef ∧ initial2014 = [] := by decide +kernel

/-- lower-casing the constant names of a definition never changes its value (justifies the comparison above) -/
theorem lowerPc_same_value (pc : PC) (tbl : List AliasDef) (f : Nat) (e : Expr) :
    (lowerPc e).evalDec pc tbl f = e.evalDec pc tbl f := by
  induction f generalizing e with
  | zero => cases e <;> rfl
  | succ f ih =>
    cases e with
    | pc n => simp only [lowerPc, Expr.evalDec, lower_lower]
    | lit t => rfl
    | «alias» n => rfl
    | mul a b => simp only [lowerPc, Expr.evalDec, ih]
    | div a b => simp only [lowerPc, Expr.evalDec, ih]

/-- **the literal-key insertion of the source is the model's calorie-joule relationship** (key, label, unit J,
Decimal("4.184") = 4184·10⁻³, comment, no doi), on every table, for both contexts -/
theorem extras_src_eq_model (pc : PC) :
    addExtras extras2014 pc = some (addCalorie pc) ∧ addExtras extras2018 pc = some (addCalorie pc) := by
  have parse_4184 : Dec.parse b!"4.184" = some ⟨false, 4184, -3⟩ := by decide
  constructor <;> simp [addExtras, extras2014, extras2018, Expr.evalDec, evalFuel, parse_4184, addCalorie]

/-- **each context loads its own year's table, and the default / singleton context is CODATA2014** (what
`tools/gen_codata.py` and the driver's `default` context assume) -/
theorem dataset_src_eq_model :
    dataSet2014 = b!"nist_2014_codata" ∧ dataSet2018 = b!"nist_2018_codata" ∧
    defaultContext = b!"CODATA2014" ∧ singletonContext = b!"CODATA2014" := by decide

/-- **27 source tuples ↔ 27 specification entries, in order: same name, units, comment; for every alias except the
regrouped `dipmom_au2debye` the normalised expression trees are EQUAL** (normalisation: constant names lower-cased,
the two operands of each product in a fixed order, `hartree2kJmol` / `cal2J` inlined, `calorie-joule relationship` ↦ its literal, 2014 legacy names ↦ the 2018 names they
copy, derived legacy constants ↦ their formulas — all taken from the source's own tables).  No constant value enters. -/
theorem aliases_src_eq_spec_symbolic :
    allPairs2 (symOk env2014) extended2014 aliasSpec = true ∧ allPairs2 (symOk env2018) extended2018 aliasSpec = true := by
  decide +kernel

/-- the exclusion is necessary: for `dipmom_au2debye` the source tree `(a·1.E21)/b` is NOT the documented
`a/(b·1.E-21)` (value equality: `aliases_src_eq_spec_value_*`) -/
theorem regrouped_differs :
    allPairs2 (symDiffers env2014) extended2014 aliasSpec = true ∧ allPairs2 (symDiffers env2018) extended2018 aliasSpec = true := by
  decide +kernel

/-- **Symbolically equal definitions give the same Decimal on EVERY table of constants**: if the table is consistent
with the normalisation environment (`EnvOk`: each replaced constant holds the value of the expression that replaces
it) and both the source expression and the specification expression evaluate, their Decimals are identical. -/
theorem sym_eq_same_value (pc : PC) (env : Env) (tbl : List AliasDef) (hE : EnvOk pc env)
    (s p : Expr) (hsym : commNorm (normExpr env [] evalFuel s) = commNorm (normExpr env tbl evalFuel p))
    (v w : Dec) (hs : s.evalDec pc [] evalFuel = some v) (hp : p.evalDec pc tbl evalFuel = some w) : v = w := by
  obtain ⟨g1, h1⟩ := norm_sound pc env [] hE _ _ _ hs
  obtain ⟨g2, h2⟩ := norm_sound pc env tbl hE _ _ _ hp
  have a := evalDec_mono _ _ _ _ _ _ h1 (le_max_left g1 g2)
  have b := evalDec_mono _ _ _ _ _ _ h2 (le_max_right g1 g2)
  rw [← evalDec_commNorm, hsym, evalDec_commNorm] at a
  rw [a] at b
  exact Option.some.inj b

/-- non-vacuity of `sym_eq_same_value` (and a test of the operand ordering): on a one-constant table `10 * x` and
`X * 10` are different trees, symbolically equal after normalisation, and both evaluate (to 41.84) -/
example :
    let pc : PC := [(pack b!"x", ⟨pack b!"x", pack b!"", ⟨false, 4184, -3⟩, pack b!"", none⟩)]
    EnvOk pc [] ∧
    commNorm (normExpr [] [] evalFuel (.mul (.lit b!"10") (.pc b!"x"))) = commNorm (normExpr [] [] evalFuel (.mul (.pc b!"X") (.lit b!"10"))) ∧
    (Expr.mul (.lit b!"10") (.pc b!"x")).evalDec pc [] evalFuel = some ⟨false, 41840, -3⟩ ∧
    (Expr.mul (.pc b!"X") (.lit b!"10")).evalDec pc [] evalFuel = some ⟨false, 41840, -3⟩ := by
  refine ⟨fun k e' h => by simp [envFind] at h, by decide, by decide, by decide⟩

/-- **What `aliases_src_eq_spec_symbolic` gives on any table** (any constant values — e.g. a future CODATA set put through the same
code): on every table consistent with the environment, each of the 26 symbolically equal aliases has the same Decimal
from the source's arithmetic as from the documented formula. -/
theorem aliases_src_eq_spec_any_table (pc : PC) (env : Env) (src : List AliasDef) (hE : EnvOk pc env)
    (hsym : allPairs2 (symOk env) src aliasSpec = true) :
    ∀ sp ∈ src.zip aliasSpec, regrouped.contains sp.1.name = false →
      ∀ v w, sp.1.expr.evalDec pc [] evalFuel = some v → sp.2.expr.evalDec pc aliasSpec evalFuel = some w → v = w := by
  intro sp hsp hreg v w hv hw
  have h := ((allPairs2_iff _ _ _).1 hsym).2 sp hsp
  unfold symOk at h
  simp only [Bool.and_eq_true, Bool.or_eq_true, hreg, Bool.false_eq_true, false_or] at h
  unfold symEq at h
  exact sym_eq_same_value pc env aliasSpec hE _ _ (of_decide_eq_true h.2) v w hv hw

theorem srcChecks2014_holds :
    withPC2 Src.pre2014 pcSrc2014 (srcChecks env2014 initial2014 extended2014 []) = true := by
  unfold Src.pre2014 Src.pre pcSrc2014 buildPCFrom; rw [loadRows_2014]; decide +kernel

theorem srcChecks2018_holds :
    withPC2 Src.pre2018 pcSrc2018 (srcChecks env2018 initial2018 extended2018 derived2018) = true := by
  unfold Src.pre2018 Src.pre pcSrc2018 buildPCFrom; rw [loadRows_2018]; decide +kernel

/-- non-vacuity of `aliases_src_eq_spec_any_table`: the environment hypothesis holds of both shipped contexts (and
the symbolic hypothesis is `aliases_src_eq_spec_symbolic`) -/
theorem envOk_shipped :
    withPC pcSrc2014 (fun pc => envOkB pc env2014) = true ∧ withPC pcSrc2018 (fun pc => envOkB pc env2018) = true :=
  ⟨withPC2_right (fun _ _ h => by unfold srcChecks at h; simp only [Bool.and_eq_true] at h; exact h.2) srcChecks2014_holds,
   withPC2_right (fun _ _ h => by unfold srcChecks at h; simp only [Bool.and_eq_true] at h; exact h.2) srcChecks2018_holds⟩

/-- non-vacuity of `aliases_src_eq_spec_any_table`: a table satisfying both hypotheses exists (the shipped 2014 context;
that the expressions evaluate on it is `aliases_src_eq_spec_value_2014`) -/
example : ∃ pc, EnvOk pc env2014 ∧ allPairs2 (symOk env2014) extended2014 aliasSpec = true := by
  obtain ⟨pc, -, h⟩ := withPC_iff.1 envOk_shipped.1
  exact ⟨pc, envOk_of_B pc _ h, aliases_src_eq_spec_symbolic.1⟩

/-- **Value form, 2014**: for all 27 aliases the source expression evaluated on the table the
code evaluates it on (constant loop + calorie; nothing else inserted yet) is digit for digit the documented formula
evaluated on the finished context — this is the clause that covers the regrouped `dipmom_au2debye`. -/
theorem aliases_src_eq_spec_value_2014 :
    withPC2 Src.pre2014 pcSrc2014 (fun pre fin => allPairs2 (valEq aliasSpec pre fin) extended2014 aliasSpec) = true :=
  withPC2_imp (fun _ _ h => by unfold srcChecks at h; simp only [Bool.and_eq_true] at h; exact h.1.1.1) srcChecks2014_holds

/-- **value form, 2018** (table = constant loop + calorie + the 26 legacy names); also the three derived constants
against `derived2018` -/
theorem aliases_src_eq_spec_value_2018 :
    withPC2 Src.pre2018 pcSrc2018 (fun pre fin =>
      allPairs2 (valEq aliasSpec pre fin) extended2018 aliasSpec && allPairs2 (valEq [] pre fin) initial2018 derived2018) = true :=
  withPC2_imp (fun _ _ h => by
    unfold srcChecks at h; simp only [Bool.and_eq_true] at h ⊢; exact h.1.1) srcChecks2018_holds

/-- what `staging_eq` needs besides `srcChecks`; no constant value enters -/
theorem staging_checks_2014 :
    allPairs2 metaEq extended2014 aliasSpec = true ∧ allAliases (readsApart aliasSpec extended2014) aliasSpec = true := by decide +kernel

theorem staging_checks_2018 :
    (allPairs2 metaEq initial2018 derived2018 = true ∧ allPairs2 metaEq extended2018 aliasSpec = true) ∧
    allAliases (readsApart [] (initial2018 ++ extended2018)) derived2018 = true ∧
    allAliases (readsApart aliasSpec extended2018) aliasSpec = true := by decide +kernel

/-- **The whole context built from the source-derived pieces in the code's staging IS the model's context (2014)** -/
theorem context_src_eq_model_2014 : pcSrc2014 = pc2014 := by
  have h := srcChecks2014_holds
  have hc := staging_checks_2014
  unfold Src.pre2014 Src.pre pcSrc2014 buildPCFrom at h
  unfold pcSrc2014 buildPCFrom pc2014 buildPC
  cases h1 : loadRows Gen.Codata2014.doi Gen.Codata2014.shipped [] with
  | none => rfl
  | some pc1 =>
    simp only [h1, Option.bind_eq_bind, Option.bind_some, (extras_src_eq_model pc1).1, renames_src_eq_model.2, addRenames] at h ⊢
    cases hs : evalAll (addCalorie pc1) [] Src.defs2014 with
    | none => rw [hs] at h; cases h
    | some avs =>
      simp only [hs, Option.bind_some, withPC2, srcChecks, Bool.and_eq_true, pure] at h
      obtain ⟨dv, av, hdv, hav, he⟩ := staging_eq (D := []) hs rfl hc.1 h.1.1.2 h.1.1.1 rfl hc.2
      cases hdv
      simp [hav, ← he]

/-- **… (2018)**: all 30 tuples evaluated on the renamed table before any insertion (the code) = derived constants
first, then the documented formulas on the table holding them (the model) -/
theorem context_src_eq_model_2018 : pcSrc2018 = pc2018 := by
  have h := srcChecks2018_holds
  have hc := staging_checks_2018
  unfold Src.pre2018 Src.pre pcSrc2018 buildPCFrom at h
  unfold pcSrc2018 buildPCFrom pc2018 buildPC
  cases h1 : loadRows Gen.Codata2018.doi Gen.Codata2018.shipped [] with
  | none => rfl
  | some pc1 =>
    simp only [h1, Option.bind_eq_bind, Option.bind_some, (extras_src_eq_model pc1).2, renames_src_eq_model.1] at h ⊢
    cases h3 : addRenames renameMap (addCalorie pc1) with
    | none => rw [h3] at h; cases h
    | some pc3 =>
      simp only [h3, Option.bind_some] at h ⊢
      cases hs : evalAll pc3 [] Src.defs2018 with
      | none => rw [hs] at h; cases h
      | some avs =>
        simp only [hs, Option.bind_some, withPC2, srcChecks, Bool.and_eq_true, pure] at h
        obtain ⟨dv, av, hdv, hav, he⟩ := staging_eq hs hc.1.1 hc.1.2 h.1.1.2 h.1.1.1 hc.2.1 hc.2.2
        simp [hdv, hav, he]

theorem ctxSrc_eq {o o' : Option PC} (h : o = o') (year : Nat) :
    o.map (fun pc => (⟨year, pc, buildAttrsWith transTable pc []⟩ : Ctx)) = o'.map fun pc => ⟨year, pc, buildAttrs pc []⟩ := by
  simp only [h, buildAttrsWith_eq]

theorem ctx_src_eq_model_2014 : ctxSrc2014 = ctx2014 := ctxSrc_eq context_src_eq_model_2014 2014

theorem ctx_src_eq_model_2018 : ctxSrc2018 = ctx2018 := ctxSrc_eq context_src_eq_model_2018 2018

/-- every source-derived definition (27 aliases per context, 3 derived constants) performs at most three rounded
operations — kernel evaluation of the translated trees, no constant value involved -/
theorem aliasSrc_roundings :
    allAliases (roundingsLe3 []) Src.defs2014 = true ∧ allAliases (roundingsLe3 []) Src.defs2018 = true := by
  decide +kernel

/-- **digit-for-digit, source form (2014)**: every entry the insertion loop stores is the SOURCE expression evaluated
in precision-28 decimal arithmetic — also when read back from the finished context (no alias overwrites a constant
another alias reads) — under the tuple's name with its units and comment and no doi -/
theorem aliases_src_stored_2014 : withPC pcSrc2014 (fun pc => allAliases (aliasOk [] pc) Src.defs2014) = true :=
  withPC2_right (fun _ _ h => by unfold srcChecks at h; simp only [Bool.and_eq_true] at h; exact h.1.2.1) srcChecks2014_holds

theorem aliases_src_stored_2018 : withPC pcSrc2018 (fun pc => allAliases (aliasOk [] pc) Src.defs2018) = true :=
  withPC2_right (fun _ _ h => by unfold srcChecks at h; simp only [Bool.and_eq_true] at h; exact h.1.2.1) srcChecks2018_holds

/-- **`aliases_close_2014` restated for the source-derived definitions**: each of the 27 stored aliases is within
2·10⁻²⁷ (relative) of the exact rational value of the SOURCE formula — from the digit-for-digit clause through the
general theorem `aliasClose_of_aliasOk` (`evalDec_approx`), not a per-row evaluation -/
theorem aliases_src_close_2014 : withPC pcSrc2014 (fun pc => allAliases (aliasClose [] pc) Src.defs2014) = true :=
  withPC_imp (fun pc h => close_all_of_ok_all [] Src.defs2014 pc aliasSrc_roundings.1 h) aliases_src_stored_2014

/-- **`aliases_close_2018` and `derived_close_2018` restated for the source-derived definitions** (all 30 tuples) -/
theorem aliases_src_close_2018 : withPC pcSrc2018 (fun pc => allAliases (aliasClose [] pc) Src.defs2018) = true :=
  withPC_imp (fun pc h => close_all_of_ok_all [] Src.defs2018 pc aliasSrc_roundings.2 h) aliases_src_stored_2018

theorem allAliases_append_right (p : AliasDef → Bool) (l1 l2 : List AliasDef) (h : allAliases p (l1 ++ l2) = true) :
    allAliases p l2 = true := by
  rw [allAliases_iff] at *
  intro a ha; exact h a (List.mem_append_right l1 ha)

theorem allAliases_append_left (p : AliasDef → Bool) (l1 l2 : List AliasDef) (h : allAliases p (l1 ++ l2) = true) :
    allAliases p l1 = true := by
  rw [allAliases_iff] at *
  intro a ha; exact h a (List.mem_append_left l2 ha)

/-- **Each source-derived alias equals its documented exact rational definition within the proved rounding bound
(2014)**: |stored Decimal − exact value of the DOCUMENTED formula| ≤ 2·10⁻²⁷·|exact value|, composed of
`aliases_src_close_2014` (general rounding theorem applied to the source tree) and the kernel-checked identity in ℚ
"exact value of the source formula = exact value of the documented formula" (`sameQ`; this is where the regrouping
`a·1.E21/b = a/(b·1.E-21)` is an identity). -/
theorem aliases_src_exact_def_2014 :
    withPC pcSrc2014 (fun pc => allPairs2 (closeTo aliasSpec pc) extended2014 aliasSpec) = true := by
  have hq : withPC pcSrc2014 (fun pc => allPairs2 (sameQ aliasSpec pc) extended2014 aliasSpec) = true :=
    withPC2_right (fun _ _ h => by unfold srcChecks at h; simp only [Bool.and_eq_true] at h; exact h.1.2.2.1) srcChecks2014_holds
  obtain ⟨pc, hp, hc⟩ := withPC_iff.1 aliases_src_close_2014
  rw [hp] at hq ⊢
  exact allPairs2_of _ _ _ (closeTo_of aliasSpec pc) _ _ (allAliases_append_right _ initial2014 extended2014 hc) hq

/-- **… (2018)**, and the three derived constants against the exact values of `derived2018`'s formulas -/
theorem aliases_src_exact_def_2018 :
    withPC pcSrc2018 (fun pc => allPairs2 (closeTo aliasSpec pc) extended2018 aliasSpec &&
      allPairs2 (closeTo [] pc) initial2018 derived2018) = true := by
  have hq : withPC pcSrc2018 (fun pc => allPairs2 (sameQ aliasSpec pc) extended2018 aliasSpec &&
      allPairs2 (sameQ [] pc) initial2018 derived2018) = true :=
    withPC2_right (fun _ _ h => by unfold srcChecks at h; simp only [Bool.and_eq_true] at h ⊢; exact h.1.2.2) srcChecks2018_holds
  obtain ⟨pc, hp, hc⟩ := withPC_iff.1 aliases_src_close_2018
  rw [hp] at hq ⊢
  simp only [withPC, Bool.and_eq_true] at hq ⊢
  exact ⟨allPairs2_of _ _ _ (closeTo_of aliasSpec pc) _ _ (allAliases_append_right _ initial2018 extended2018 hc) hq.1,
         allPairs2_of _ _ _ (closeTo_of [] pc) _ _ (allAliases_append_left _ initial2018 extended2018 hc) hq.2⟩

/-- every published constant retrievable, aliases follow the documentation, attributes/floats (2014) — the theorems of
`Props/C02Pc2014.lean` / `C02Ctx2014.lean` hold of the context built from the source-derived definitions -/
theorem shipped_theorems_src_2014 :
    withPC pcSrc2014 (fun pc => allRows (rowEntryOk pc Gen.Codata2014.doi) Gen.Codata2014.shipped) = true ∧
    withPC pcSrc2014 aliasChecks = true ∧
    withPC pcSrc2014 (fun pc => allAliases (aliasClose aliasSpec pc) aliasSpec) = true ∧
    withCtx ctxSrc2014 ctxChecks = true := by
  rw [context_src_eq_model_2014, ctx_src_eq_model_2014]
  exact ⟨constants_retrievable_2014, aliases_follow_spec_2014, aliases_close_2014, attrs_and_floats_2014⟩

/-- … (2018), with the 26 renames and the 3 derived constants -/
theorem shipped_theorems_src_2018 :
    withPC pcSrc2018 (fun pc => allRows (rowEntryOk pc Gen.Codata2018.doi) Gen.Codata2018.shipped) = true ∧
    withPC pcSrc2018 aliasChecks = true ∧
    withPC pcSrc2018 (fun pc => allAliases (aliasClose aliasSpec pc) aliasSpec) = true ∧
    withPC pcSrc2018 renamesOk = true ∧ withPC pcSrc2018 derivedChecks = true ∧
    withPC pcSrc2018 (fun pc => allAliases (aliasClose [] pc) derived2018) = true ∧
    withCtx ctxSrc2018 ctxChecks = true := by
  rw [context_src_eq_model_2018, ctx_src_eq_model_2018]
  exact ⟨constants_retrievable_2018, aliases_follow_spec_2018, aliases_close_2018, renames_2018, legacy_derived_2018,
    derived_close_2018, attrs_and_floats_2018⟩

/-- tests (not properties): list sizes of the translation -/
example : extended2014.length = 27 ∧ extended2018.length = 27 ∧ initial2018.length = 3 ∧ renames2018.length = 26 ∧
    transTable.length = 9 ∧ extras2014.length = 1 := by decide

end QcelVerif.Constants
