import QcelVerif.Model.RadiiSession
import QcelVerif.Model.RadiiShipped
/-!
# C17 — call sequences: a lookup depends on its arguments only

The differential correspondence of the call-sequence stream (harness/c17.py, stream S) compares
every lookup made after an arbitrary history of calls with the STATELESS model `getU` on the
initial tables; `get_after_calls` is what licenses that.
-/
namespace QcelVerif.Radii
open QcelVerif QcelVerif.PStr QcelVerif.PT

theorem exec_preserves_table (T : Tables) (convF : Bytes → Bytes → Option Rat) (t : Table) (c : Call) :
    (c.exec T convF t).1 = t := by
  cases c <;> rfl

/-- **No public call changes the table**: after any sequence of lookups (any options), header
writes (any `missing`), listings and `str`, the table is the one the object was loaded with. -/
theorem calls_preserve_table (T : Tables) (convF : Bytes → Bytes → Option Rat) (t : Table) (cs : List Call) :
    (runCalls T convF t cs).1 = t := by
  induction cs generalizing t with
  | nil => rfl
  | cons c cs ih =>
    simp only [runCalls]
    rw [exec_preserves_table, ih]

/-- **A lookup after any history is the lookup on the loaded table**: same answer as in a fresh
process, for every argument, `return_tuple`, `units`, `missing`. -/
theorem get_after_calls (T : Tables) (convF : Bytes → Bytes → Option Rat) (t : Table) (cs : List Call)
    (a : PyVal) (rt : Bool) (u : Option Bytes) (m : Option Rat) :
    ((Call.get a rt u m).exec T convF (runCalls T convF t cs).1).2 = .out (getU T t convF a rt u m) := by
  rw [calls_preserve_table]
  rfl

/-- **Every reply of a session is history-free**: the i-th reply is what that call alone returns
on the loaded table (so the order of calls, repeated calls and earlier options cannot matter). -/
theorem replies_history_free (T : Tables) (convF : Bytes → Bytes → Option Rat) (t : Table) (cs : List Call) :
    (runCalls T convF t cs).2 = cs.map (fun c => (c.exec T convF t).2) := by
  induction cs generalizing t with
  | nil => rfl
  | cons c cs ih =>
    simp only [runCalls, List.map_cons]
    rw [exec_preserves_table, ih]

/-- **The header's `missing` is text only**: an element gets the filler row exactly when it has no
entry, and (by `calls_preserve_table`) it still has no entry afterwards. -/
theorem header_filler_iff_untabulated (T : Tables) (t : Table) (missing : Rat) (r : Nat × Nat × Nat)
    (hr : r ∈ T.elements) :
    (HeaderRow.filler r.2.1 missing ∈ headerRows T t missing ∧ lookupK t r.2.1 = none) ∨
    (∃ d, lookupK t r.2.1 = some d ∧ HeaderRow.entry d ∈ headerRows T t missing) := by
  unfold headerRows
  cases h : lookupK t r.2.1 with
  | none =>
    left
    refine ⟨List.mem_map.mpr ⟨r, hr, ?_⟩, rfl⟩
    simp [h]
  | some d =>
    right
    refine ⟨d, rfl, List.mem_map.mpr ⟨r, hr, ?_⟩⟩
    simp [h]

/-- after a header write with filler `x` on a table where `k` is untabulated, the missing-data
contract of `get` is intact: `DataUnavailable` without a fallback, the caller's own fallback `m`
(not `x`) with one -/
theorem missing_contract_after_header (T : Tables) (convF : Bytes → Bytes → Option Rat) (t : Table) (x : Rat)
    (k : Nat) (hk : lookupK t k = none) (rt : Bool) (m : Option Rat) (conv : Bytes → Option Rat) :
    let t' := ((Call.writeCHeader x).exec T convF t).1
    getByKey t' conv k rt m =
      (match m with
       | some v => if !rt then .ok (.value v) else .error .DataUnavailable
       | none => .error .DataUnavailable) := by
  intro t'
  have ht : t' = t := exec_preserves_table T convF t _
  rw [ht]
  unfold getByKey
  rw [hk]
  cases m <;> rfl

/-- the hypotheses are satisfiable on the shipped data: Fe has no van der Waals radius, and a
header write with the default filler 2.0 leaves it so (test) -/
example : lookupK vdw (pack [70, 101]) = none ∧
    lookupK ((Call.writeCHeader 2).exec shipped (fun _ _ => some 1) vdw).1 (pack [70, 101]) = none := by
  decide +kernel

end QcelVerif.Radii
