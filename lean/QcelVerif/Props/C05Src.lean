import QcelVerif.Props.C05
import QcelVerif.Lemmas.ChgMultAst
import QcelVerif.Model.ChgMultSrc
/-!
# C05 — the decision logic regenerated from `chgmult.py` is the hand model's

`Gen/ChgMultSrc.lean` is rewritten on every run from `qcelemental/molparse/chgmult.py` by `harness/c05_src.py`
(rule lambdas with their guards and loops, candidate-list statements of the four search dimensions, the product order
of `reconcile`).  `Model/ChgMultAst.lean` evaluates those terms; `vfcSrc` (`Model/ChgMultSrc.lean`) is
`validate_and_fill_chgmult` run on them.  Proved here, for any fragment count: the generated rule list evaluates
(without raising) to the hand model's `rulesOk`, the generated candidate statements to its `candC / candFc / candM /
candFm`; hence `vfcSrc = vfc`, and C05's property theorems are restated for `vfcSrc`.

The early multiplicity screen, the `zero_ghost_fragments` rewriting, `unique_everseen` and the `itertools.product`
order (`candidatesOf`) are hand-modelled and shared by both procedures; the generated order lists are only compared
with that order (`order_src_eq_model`).
-/
set_option linter.unusedSimpArgs false
namespace QcelVerif.ChgMult
open Ast QcelVerif.Gen.ChgMultSrc

-- the evaluator of `Model/ChgMultAst.lean` is unfolded wherever a generated term is met
attribute [local simp] evalItem evalGuarded evalB evalL evalI evalO evalOL envOf Env.noCand Env.push bind2 Cmp.eval evalGen evalGens evalPerFragAt

/-- one entry per fragment in the specification and in the candidate (what `from_arrays` passes and what
`itertools.product` yields; outside it Python raises IndexError or ignores the surplus) -/
structure Shape (e : Inp) (o : Out) : Prop where
  fc : e.fc.length = e.frags.length
  fm : e.fm.length = e.frags.length
  ofc : o.fc.length = e.frags.length
  ofm : o.fm.length = e.frags.length

theorem rule_1_eval (e : Inp) (o : Out) : evalItem (envOf e (some o)) rule_1 = some true := by
  simp [rule_1]
  rw [optAll_some o.fc _ (fun _ => true) (by simp), optAll_some o.fm _ (fun _ => true) (by simp)]
  have : ∀ l : List Int, l.all (fun _ => true) = true := by intro l; induction l <;> simp_all
  rw [this, this]

theorem rule_2_eval (e : Inp) (o : Out) :
    evalItem (envOf e (some o)) rule_2 = some (o.c == isum o.fc) := by
  simp [rule_2]

theorem rule_3_eval (e : Inp) (o : Out) : evalItem (envOf e (some o)) rule_3 =
    some (decide (1 ≤ o.m) && o.fm.all (fun x => decide (1 ≤ x))) := by
  simp [rule_3]
  rw [optAll_some o.fm _ (fun x => decide (1 ≤ x)) (by intro x _; simp)]
  cases h : decide (1 ≤ o.m) <;> simp

theorem rule_4_eval (e : Inp) (o : Out) : evalItem (envOf e (some o)) rule_4 =
    some (sufficient (isum (e.frags.map isum)) o.c o.m) := by
  simp [rule_4, zel_1, isum_flatten, sufficient]

theorem rule_5_eval (e : Inp) (o : Out) : evalItem (envOf e (some o)) rule_5 =
    some (parityOk (isum (e.frags.map isum)) o.c o.m) := by
  simp [rule_5, zel_1, isum_flatten, parityOk, pyMod_two]

theorem rule_4i_eval (e : Inp) (o : Out) (S : Shape e o) : evalItem (envOf e (some o)) rule_4i =
    some (allN e.frags.length (fun k =>
      sufficient ((e.frags.map isum).getD k 0) (o.fc.getD k 0) (o.fm.getD k 0))) := by
  refine evalItem_each rfl fun k hk => ?_
  obtain ⟨c, h1, h1'⟩ := exists_getD o.fc k 0 (by rw [S.ofc]; exact hk)
  obtain ⟨m, h2, h2'⟩ := exists_getD o.fm k 0 (by rw [S.ofm]; exact hk)
  obtain ⟨z, h3, h3'⟩ := exists_getD (e.frags.map isum) k 0 (by simpa using hk)
  rw [h1', h2', h3']
  simp [h1, h2, h3, sufficient]

theorem rule_5i_eval (e : Inp) (o : Out) (S : Shape e o) : evalItem (envOf e (some o)) rule_5i =
    some (allN e.frags.length (fun k =>
      parityOk ((e.frags.map isum).getD k 0) (o.fc.getD k 0) (o.fm.getD k 0))) := by
  refine evalItem_each rfl fun k hk => ?_
  obtain ⟨c, h1, h1'⟩ := exists_getD o.fc k 0 (by rw [S.ofc]; exact hk)
  obtain ⟨m, h2, h2'⟩ := exists_getD o.fm k 0 (by rw [S.ofm]; exact hk)
  obtain ⟨z, h3, h3'⟩ := exists_getD (e.frags.map isum) k 0 (by simpa using hk)
  rw [h1', h2', h3']
  simp [h1, h2, h3, parityOk, pyMod_two]

theorem rule_6_eval (e : Inp) (o : Out) :
    evalItem (envOf e (some o)) rule_6 = some (keeps e.c o.c) := by
  cases h : e.c <;>
    simp [rule_6, keeps, h]

theorem rule_7_eval (e : Inp) (o : Out) :
    evalItem (envOf e (some o)) rule_7 = some (keeps e.m o.m) := by
  cases h : e.m <;>
    simp [rule_7, keeps, h]

theorem rule_6i_eval (e : Inp) (o : Out) (S : Shape e o) : evalItem (envOf e (some o)) rule_6i =
    some (allN e.frags.length (fun k => keeps (e.fc.getD k none) (o.fc.getD k 0))) := by
  refine S.fc ▸ evalItem_each (n := e.fc.length) rfl fun k hk => ?_
  rw [S.fc] at hk
  obtain ⟨c, h1, h1'⟩ := exists_getD o.fc k 0 (by rw [S.ofc]; exact hk)
  obtain ⟨s, h2, h2'⟩ := exists_getD e.fc k none (by rw [S.fc]; exact hk)
  rw [h1', h2']
  cases s <;>
    simp [h1, h2, keeps]

theorem rule_7i_eval (e : Inp) (o : Out) (S : Shape e o) : evalItem (envOf e (some o)) rule_7i =
    some (allN e.frags.length (fun k => keeps (e.fm.getD k none) (o.fm.getD k 0))) := by
  refine S.fm ▸ evalItem_each (n := e.fm.length) rfl fun k hk => ?_
  rw [S.fm] at hk
  obtain ⟨c, h1, h1'⟩ := exists_getD o.fm k 0 (by rw [S.ofm]; exact hk)
  obtain ⟨s, h2, h2'⟩ := exists_getD e.fm k none (by rw [S.fm]; exact hk)
  rw [h1', h2']
  cases s <;>
    simp [h1, h2, keeps]

theorem rule_8_eval (e : Inp) (o : Out) : evalItem (envOf e (some o)) rule_8 =
    some (!(highSpinRequired e) || o.m == highSpin o.fm) := by
  simp [rule_8]
  rw [optAny_some e.fm _ (fun x => x.isNone) (by intro x _; simp)]
  rw [optMap_some o.fm _ (fun x => x - 1) (by intro x _; simp)]
  simp [highSpinRequired, highSpin]
  cases h1 : e.m.isNone <;> cases h2 : e.fm.any (·.isNone) <;> simp_all

theorem rule_9i_eval (e : Inp) (o : Out) (S : Shape e o) : evalItem (envOf e (some o)) rule_9i =
    some (allN e.frags.length (fun k =>
      !(isGhost (e.frags.getD k [])) || (o.fc.getD k 0 == 0 && o.fm.getD k 0 == 1))) := by
  refine evalItem_each rfl fun k hk => ?_
  obtain ⟨c, h1, h1'⟩ := exists_getD o.fc k 0 (by rw [S.ofc]; exact hk)
  obtain ⟨m, h2, h2'⟩ := exists_getD o.fm k 0 (by rw [S.ofm]; exact hk)
  obtain ⟨f, h3, h3'⟩ := exists_getD e.frags k [] hk
  rw [h1', h2', h3']
  simp [h1, h2, h3]
  rw [optAll_some f _ (fun x => x == 0) (by intro x _; simp)]
  have hgf : (f.all fun x => x == 0) = isGhost f := rfl
  rw [hgf]
  cases isGhost f <;> cases hc : (c == 0) <;> simp [hc]

theorem fragRules_eq_allN : ∀ (fs : List (List Int)) (cs ms : List Int),
    cs.length = fs.length → ms.length = fs.length →
    fragRules fs cs ms =
      (allN fs.length (fun k => sufficient ((fs.map isum).getD k 0) (cs.getD k 0) (ms.getD k 0)) &&
       allN fs.length (fun k => parityOk ((fs.map isum).getD k 0) (cs.getD k 0) (ms.getD k 0)) &&
       allN fs.length (fun k => !(isGhost (fs.getD k [])) || (cs.getD k 0 == 0 && ms.getD k 0 == 1)))
  | [], [], [], _, _ => by simp [fragRules, allN]
  | [], _ :: _, _, h, _ => by simp at h
  | [], [], _ :: _, _, h => by simp at h
  | _ :: _, [], _, h, _ => by simp at h
  | _ :: _, _ :: _, [], _, h => by simp at h
  | f :: fs, c :: cs, m :: ms, h1, h2 => by
      have ih := fragRules_eq_allN fs cs ms (by simpa using h1) (by simpa using h2)
      simp only [fragRules, List.length_cons, allN_succ, List.map_cons, List.getD_cons_zero,
        List.getD_cons_succ, ih]
      ac_rfl

theorem keepsAll_eq_allN : ∀ (s : List (Option Int)) (v : List Int), v.length = s.length →
    keepsAll s v = allN s.length (fun k => keeps (s.getD k none) (v.getD k 0))
  | [], [], _ => by simp [keepsAll, allN]
  | [], _ :: _, h => by simp at h
  | _ :: _, [], h => by simp at h
  | a :: s, x :: v, h => by
      have ih := keepsAll_eq_allN s v (by simpa using h)
      simp only [keepsAll, List.length_cons, allN_succ, List.getD_cons_zero, List.getD_cons_succ, ih]

/-- **The generated rule list is the model's rule predicate.**  For every specification `e` and every candidate `o`
with one entry per fragment, evaluating the rule lambdas translated from `chgmult.py` (with their guards, the
per-fragment ones for every fragment index) never raises and gives exactly `rulesOk e o`. -/
theorem rules_src_eq_model (e : Inp) (o : Out) (S : Shape e o) :
    evalRules (envOf e (some o)) genRules = some (rulesOk e o) := by
  have hfr := fragRules_eq_allN e.frags o.fc o.fm S.ofc S.ofm
  have hk1 := keepsAll_eq_allN e.fc o.fc (by rw [S.ofc, S.fc])
  have hk2 := keepsAll_eq_allN e.fm o.fm (by rw [S.ofm, S.fm])
  rw [S.fc] at hk1
  rw [S.fm] at hk2
  simp only [genRules, evalRules, rule_1_eval, rule_2_eval, rule_3_eval, rule_4_eval, rule_5_eval, rule_6_eval,
    rule_7_eval, rule_8_eval, rule_4i_eval e o S, rule_5i_eval e o S, rule_6i_eval e o S, rule_7i_eval e o S,
    rule_9i_eval e o S, rulesOk, hfr, hk1, hk2, S.ofc, S.ofm, beq_self_eq_true, Bool.true_and, Bool.and_true]
  congr 1
  ac_rfl

/-- test: `Shape` is satisfiable (He/He with total charge +2 and the candidate `(2, [2, 0], 1, [1, 1])`) -/
example : Shape { frags := [[2],[2]], c := some 2, fc := [none, none], m := none, fm := [none, none], zgf := false }
    { c := 2, fc := [2, 0], m := 1, fm := [1, 1] } := ⟨rfl, rfl, rfl, rfl⟩

/-- an environment outside the rule lambdas (no candidate), under any binders -/
abbrev envB (e : Inp) (b : List (Option Int)) : Env := { e := e, o := none, b := b }

theorem eval_applyDefault (env : Env) (L : OLExpr) (xs : List (Option Int)) (d : Int)
    (h : evalOL env L = some xs) :
    evalL env (.mapOpt L (.ite (.isNone (.bvar 0)) (.lit d) (.ofOpt (.bvar 0)))) = some (applyDefault xs d) := by
  simp only [evalL, h]
  rw [optMap_some xs _ (fun o => o.getD d)]
  · rfl
  · intro x _
    cases x <;> simp

theorem eval_highSpin (env : Env) (X : LExpr) (ys : List Int) (h : evalL env X = some ys) :
    evalI env (.add (.lit 1) (.sumOver X (.sub (.bvar 0) (.lit 1)))) = some (highSpin ys) := by
  simp only [evalI, h]
  rw [optMap_some ys _ (fun x => x - 1) (by intro x _; simp)]
  simp [highSpin]

theorem eval_missing_frag_chg (e : Inp) (b) :
    evalI (envB e b) missing_frag_chg_2 = some (e.c.getD 0 - sumKnown e.fc) := by
  cases h : e.c <;>
    simp [missing_frag_chg_2, missing_frag_chg_1, h]

theorem eval_frag_mult_lo_1 (e : Inp) (b) :
    evalI (envB e b) frag_mult_lo_1 = some (highSpin (applyDefault e.fm 1)) :=
  eval_highSpin _ _ _ (eval_applyDefault _ _ _ _ rfl)

theorem eval_frag_mult_hi_1 (e : Inp) (b) :
    evalI (envB e b) frag_mult_hi_1 = some (highSpin (applyDefault e.fm 2)) :=
  eval_highSpin _ _ _ (eval_applyDefault _ _ _ _ rfl)

theorem eval_removeNone (e : Inp) (b) (h : e.fm.any (·.isNone) = true) :
    evalOL (envB e b) (.removeNone .fragMults) = some (removeFirstNone e.fm) := by
  simp only [evalOL]
  rw [if_pos h]

theorem eval_frag_mult_lo_2 (e : Inp) (b) (h : e.fm.any (·.isNone) = true) :
    evalI (envB e b) frag_mult_lo_2 = some (highSpin (applyDefault (removeFirstNone e.fm) 1)) :=
  eval_highSpin _ _ _ (eval_applyDefault _ _ _ _ (eval_removeNone e b h))

theorem eval_frag_mult_hi_2 (e : Inp) (b) (h : e.fm.any (·.isNone) = true) :
    evalI (envB e b) frag_mult_hi_2 = some (highSpin (applyDefault (removeFirstNone e.fm) 2)) :=
  eval_highSpin _ _ _ (eval_applyDefault _ _ _ _ (eval_removeNone e b h))


/-- the condition of the S6 `if` -/
theorem eval_s6cond (e : Inp) (b) :
    evalB (envB e b) (.and (.not (.isNone .molMult)) (.anyO .fragMults (.isNone (.bvar 0)))) =
      some (e.m.isSome && e.fm.any (·.isNone)) := by
  simp only [evalB, evalO, evalOL]
  rw [optAny_some e.fm _ (fun x => x.isNone) (by intro x _; simp)]
  cases e.m <;> simp

/-- `(missing_mult_lo, missing_mult_hi)` of S6 -/
theorem eval_missing_mult (e : Inp) (b) :
    evalI (envB e b) missing_mult_lo_3 = some (missingMult e).1 ∧
    evalI (envB e b) missing_mult_hi_3 = some (missingMult e).2 := by
  simp only [missing_mult_lo_3, missing_mult_hi_3, evalI, eval_s6cond]
  cases hm : e.m with
  | none => simp [missingMult, hm, missing_mult_lo_2, missing_mult_hi_2]
  | some m =>
    cases ha : e.fm.any (·.isNone) with
    | false => simp [missingMult, hm, ha, missing_mult_lo_2, missing_mult_hi_2]
    | true =>
      simp [missingMult, hm, ha, missing_mult_lo_1, missing_mult_hi_1, eval_frag_mult_hi_2 e b ha, eval_frag_mult_lo_2 e b ha]

theorem gens_c_eval (e : Inp) : evalGens (envOf e none) gens_c = some (candC e) := by
  cases h : e.c <;>
    simp [gens_c, candC, h]

theorem gens_m_eval (e : Inp) : evalGens (envOf e none) gens_m = some (candM e) := by
  have e1 := eval_frag_mult_lo_1 e []
  have e2 := eval_frag_mult_hi_1 e []
  cases h : e.m <;>
    simp [gens_m, candM, h, e1, e2, pyRange_succ]

theorem gens_fc_at (e : Inp) (k : Nat) (hk : k < e.fc.length) (hl : e.fc.length = e.frags.length) :
    evalPerFragAt (envOf e none) k gens_fc =
      some (match e.fc[k] with | some x => [x] | none => [e.c.getD 0 - sumKnown e.fc, 0]) := by
  have hm := eval_missing_frag_chg e [some (k : Int)]
  have hx : e.fc[k]? = some e.fc[k] := List.getElem?_eq_getElem hk
  have hk' : k < e.frags.length := hl ▸ hk
  cases hv : e.fc[k] <;> rw [hv] at hx <;>
    simp [gens_fc, hk, hk', hx, hv, hm]


theorem max_eq (x y : Int) : (if x < y then y else x) = max x y := by
  simp only [Int.max_def]; split <;> split <;> omega

theorem gens_fm_at (e : Inp) (k : Nat) (hk : k < e.fm.length) (hl : e.fm.length = e.frags.length) :
    evalPerFragAt (envOf e none) k gens_fm =
      some (match e.fm[k] with
        | some x => [x]
        | none => (irange (max (missingMult e).1 1) (missingMult e).2).reverse ++ [1, 2]) := by
  obtain ⟨hlo, hhi⟩ := eval_missing_mult e [some (k : Int)]
  have hx : e.fm[k]? = some e.fm[k] := List.getElem?_eq_getElem hk
  have hk' : k < e.frags.length := hl ▸ hk
  cases hv : e.fm[k] <;> rw [hv] at hx <;>
    simp [gens_fm, hk, hk', hx, hv, hlo, hhi, max_eq, pyRange_succ]

theorem gens_fc_eval (e : Inp) (hl : e.fc.length = e.frags.length) :
    evalPerFrag (envOf e none) gens_fc = some (candFc e) :=
  optTab_some e.fc _ _ hl fun k hk => gens_fc_at e k hk hl

theorem gens_fm_eval (e : Inp) (hl : e.fm.length = e.frags.length) :
    evalPerFrag (envOf e none) gens_fm = some (candFm e) :=
  optTab_some e.fm _ _ hl fun k hk => gens_fm_at e k hk hl

/-- the hand model's four candidate lists, as the `Ranges` that `evalDims` returns -/
def modelRanges (e : Inp) : Ranges := { c := candC e, fc := candFc e, m := candM e, fm := candFm e }

/-- **The generated candidate statements build the model's candidate lists.**  For every specification with one entry
per fragment, evaluating the append / range statements translated from `chgmult.py` (in source order, the
per-fragment ones for every fragment index) never raises and gives exactly `candC`, `candFc`, `candM`, `candFm`. -/
theorem ranges_src_eq_model (e : Inp) (hfc : e.fc.length = e.frags.length) (hfm : e.fm.length = e.frags.length) :
    evalDims (envOf e none) genDims = some (modelRanges e) := by
  simp only [evalDims, genDims, gens_c_eval, gens_m_eval, gens_fc_eval e hfc, gens_fm_eval e hfm, modelRanges]

/-- test: the hypothesis `e.fc.length = e.frags.length` holds of a three-fragment specification -/
example : (Inp.mk [[7],[7],[7]] (some 1) [none, some (-1), none] (some 3) [none, none, some 2] false).fc.length =
    (Inp.mk [[7],[7],[7]] (some 1) [none, some (-1), none] (some 3) [none, none, some 2] false).frags.length := rfl

theorem candidatesOf_modelRanges (e : Inp) : candidatesOf (modelRanges e) = candidates e := rfl

/-- The generated lists `genOrder` (arguments of `itertools.product` in `reconcile`, leftmost slowest) and `genDeduped`
(lists passed through `unique_everseen`) are both `[c, fc, m, fm]`: total charge, fragment charges, total multiplicity,
fragment multiplicities — the order in which the rule lambdas take them and the one `candidatesOf` hard-codes (`vfcSrc`
does not read `genOrder`). -/
theorem order_src_eq_model :
    genOrder = [Dim.c, Dim.fc, Dim.m, Dim.fm] ∧ genDeduped = [Dim.c, Dim.fc, Dim.m, Dim.fm] := by decide

/-- every candidate of the product has one entry per fragment -/
theorem candidates_shape (e : Inp) (hfc : e.fc.length = e.frags.length) (hfm : e.fm.length = e.frags.length)
    (o : Out) (ho : o ∈ candidates e) : Shape e o := by
  rw [mem_candidates] at ho
  obtain ⟨_, h2, _, h4⟩ := ho
  have l2 := h2.length
  have l4 := h4.length
  simp only [candFc, candFm, List.length_map] at l2 l4
  exact ⟨hfc, hfm, by rw [l2, hfc], by rw [l4, hfm]⟩

/-- any way of assessing candidates that agrees with the model's rule predicate on well-shaped candidates gives the
hand model -/
theorem vfcGen_eq_vfc (ev : Env → List RuleItem → Option Bool)
    (hev : ∀ e o, Shape e o → ev (envOf e (some o)) genRules = some (rulesOk e o)) (i : Inp) :
    vfcGen ev genRules genDims i = vfc i := by
  unfold vfcGen vfc
  cases hw : wellFormed i with
  | false => simp
  | true =>
    cases hp : precheckFails i with
    | true => simp
    | false =>
      have hl := effective_lengths i hw
      simp only [Bool.not_true, Bool.false_eq_true, ↓reduceIte]
      rw [ranges_src_eq_model _ hl.1 hl.2]
      simp only [candidatesOf_modelRanges]
      rw [searchFirst_eq_find _ (rulesOk (effective i)) _
        (fun o ho => hev _ o (candidates_shape _ hl.1 hl.2 o ho))]
      cases List.find? (rulesOk (effective i)) (candidates (effective i)) <;> rfl

/-- **The source-derived procedure is the hand model**, on every input (any fragment count, any electron counts,
either flag, malformed input included). -/
theorem vfcSrc_eq_vfc (i : Inp) : vfcSrc i = vfc i :=
  vfcGen_eq_vfc evalRules rules_src_eq_model i

/-- … and so is its lazily-assessing variant (the one the driver runs on every case line) -/
theorem vfcSrcLazy_eq_vfc (i : Inp) : vfcSrcLazy i = vfc i :=
  vfcGen_eq_vfc evalRulesLazy
    (fun e o S => evalRulesLazy_of_evalRules _ _ _ (rules_src_eq_model e o S)) i

/-! ### the property theorems of `Props/C05.lean`, restated for `vfcSrc` through `vfcSrc_eq_vfc` -/

/-- **Soundness** of the procedure built from the source's own rules and ranges. -/
theorem vfc_sound_src (i : Inp) (o : Out) (h : vfcSrc i = .ok o) : Rules (effective i) o :=
  vfc_sound i o (vfcSrc_eq_vfc i ▸ h)

theorem vfc_sound_plain_src (i : Inp) (o : Out) (hz : i.zgf = false) (h : vfcSrc i = .ok o) : Rules i o :=
  vfc_sound_plain i o hz (vfcSrc_eq_vfc i ▸ h)

theorem vfc_error_is_validation_src (i : Inp) (hw : wellFormed i = true) :
    (∃ o, vfcSrc i = .ok o ∧ Rules (effective i) o) ∨ vfcSrc i = .error .validation := by
  rw [vfcSrc_eq_vfc]; exact vfc_error_is_validation i hw

theorem vfc_deterministic_src (i j : Inp) (h : i = j) : vfcSrc i = vfcSrc j := by rw [h]

theorem vfc_accepts_valid_full_src (frags : List (List Int)) (o : Out)
    (hR : Rules (fullSpec frags o false) o) : vfcSrc (fullSpec frags o false) = .ok o := by
  rw [vfcSrc_eq_vfc]; exact vfc_accepts_valid_full frags o hR

theorem vfc_idem_src (i : Inp) (o : Out) (h : vfcSrc i = .ok o) : vfcSrc (specifiedBy i o) = .ok o := by
  rw [vfcSrc_eq_vfc] at h ⊢; exact vfc_idem i o h

theorem vfc_default_src (frags : List (List Int)) (hz : ∀ f ∈ frags, 0 ≤ isum f) :
    vfcSrc (unspec frags) = .ok (defaultOut frags) := by
  rw [vfcSrc_eq_vfc]; exact vfc_default frags hz

/-! ### tests: `vfcSrc` on concrete inputs (`decide +kernel`), and satisfiable hypotheses of the `_src` theorems -/

/-- test: hypotheses of the `_src` implications are satisfiable (He/He, +2) -/
example : vfcSrc { frags := [[2],[2]], c := some 2, fc := [none, none], m := none, fm := [none, none], zgf := false }
    = .ok { c := 2, fc := [2, 0], m := 1, fm := [1, 1] } := by decide +kernel
/-- test: three 7-electron fragments, total charge and multiplicity and some fragment values given: completed -/
example : vfcSrc { frags := [[7],[7],[7]], c := some 1, fc := [none, some (-1), none], m := some 3, fm := [none, none, some 2], zgf := false }
    = .ok { c := 1, fc := [2, -1, 0], m := 3, fm := [2, 1, 2] } := by decide +kernel
/-- test: a specification no candidate satisfies is refused with `ValidationError` -/
example : vfcSrc { frags := [[2],[2],[10]], c := some 2, fc := [none, some (-2), some 0], m := none, fm := [none, none, none], zgf := false }
    = .error .validation := by decide +kernel
/-- test: a well-formed input for `vfc_error_is_validation_src` -/
example : wellFormed { frags := [[0,0],[2]], c := none, fc := [some 2, none], m := none, fm := [none, none], zgf := false } = true := by decide
/-- test: `Rules (fullSpec …)` is satisfiable (for `vfc_accepts_valid_full_src`) -/
example : Rules (fullSpec [[2],[2]] { c := 2, fc := [2, 0], m := 1, fm := [1, 1] } false) { c := 2, fc := [2, 0], m := 1, fm := [1, 1] } :=
  (rulesOk_iff_Rules _ _ rfl rfl).1 (by decide)
/-- test: non-negative electron counts (for `vfc_default_src`) -/
example : ∀ f ∈ [[1], [2, 0]], 0 ≤ isum f := by decide

end QcelVerif.ChgMult
