import QcelVerif.Props.C12Full
import QcelVerif.Props.C12Unique
import QcelVerif.Gen.KabschSrc
import QcelVerif.Gen.B787Src
/-!
# C12 — the alignment code as re-read from the source equals the hand models

`Gen/KabschSrc.lean` and `Gen/B787Src.lean` are regenerated from `qcelemental/molutil/align.py` on every run
(`harness/c12_src.py`).  This file proves, for all inputs, that what was read means what the hand models say: the 16
assignments `F[i, j] = …` give (both triangles) `Fmat cov` and the 9 assignments `U[i, j] = …` give `quatRot q`; the
translated body of `kabsch_align` (centroids, centring, covariance operands, shift, residual matrix, head-off) evaluates
to `kabschAlign`; the translated `filter_permutative`, best-so-far blocks and the loop built from them are those of
`Model/B787.lean`.  The main theorems are then restated over the source-derived functions (`kabschAlignSrc_*`,
`runSrc_*`).

Missing: `kabschAlign_src_partial` needs `R.length = C.length` (the source divides BOTH column sums by
`rgeom.shape[0]`; B787 checks the shapes before, align.py:109).
-/
namespace QcelVerif.KabschAst
open QcelVerif.Kabsch QcelVerif.Gen
variable {K : Type}

/-- both triangles written by align.py:526-536 are the symmetric matrix `Fmat cov` of the hand model -/
theorem F_src [CommRing K] (cv : M3 K) (q : Q4 K) :
    upper4 (build cv q KabschSrc.F zeros) = Fmat cv ∧ lower4 (build cv q KabschSrc.F zeros) = Fmat cv :=
  ⟨rfl, rfl⟩

/-- the nine entries written by align.py:545-553 are `quatRot q` of the hand model -/
theorem U_src [CommRing K] (cv : M3 K) (q : Q4 K) :
    toM3 (build cv q KabschSrc.U zeros) = quatRot q :=
  rfl

theorem resid_src [CommRing K] (U : M3 K) : ∀ (A B : List (V3 K)),
    sumNrm2 (List.zipWith V3.sub A (B.map (fun x => rowMul x U))) = resid U (A.zip B)
  | [], _ => by simp [sumNrm2, resid]
  | _ :: _, [] => by simp [sumNrm2, resid]
  | a :: as, b :: bs => by simp [sumNrm2, resid, resid_src U as bs]

/-- **`kabsch_align` as read from the source is the hand model** (weight=None, eigenvector supplied), for all equally long
    geometries and every `q`.  `_partial`: without `R.length = C.length` the two differ (the source divides the column
    sums of `C` by `rgeom.shape[0]`, the hand model by `len(C)`); numpy raises on unequal shapes at `R - C` and B787
    refuses them at align.py:109. -/
theorem kabschAlign_src_partial [Field K] [LinearOrder K] (R C : List (V3 K)) (q : Q4 K) (hlen : R.length = C.length) :
    kabschAlignSrc KabschSrc.prog KabschSrc.F KabschSrc.U R C q = kabschAlign R C q := by
  have hr : KabschSrc.prog.rcent.eval R C = centroid R := by
    simp [KabschSrc.prog, CentDef.eval, centroid]
  have hc : KabschSrc.prog.ccent.eval R C = centroid C := by
    simp [KabschSrc.prog, CentDef.eval, centroid, hlen]
  unfold kabschAlignSrc kabschAlign
  simp only [hr, hc]
  simp only [KabschSrc.prog, GE.eval, VE.eval, ME.eval, Env.arg, (F_src _ _).1, U_src, resid_src, centre]

-- non-vacuity (test): two atoms, equal lengths; the source-derived function gives the hand model's shift
example : (kabschAlignSrc KabschSrc.prog KabschSrc.F KabschSrc.U [(⟨1, 2, 3⟩ : V3 ℚ), ⟨0, 0, 1⟩] [⟨2, 2, 3⟩, ⟨1, 0, 1⟩]
    ⟨1, 0, 0, 0⟩).T = ⟨1, 0, 0⟩ := by
  decide +kernel

/-! ### the main theorems over the source-derived `kabsch_align` -/

/-- **the returned rotation is proper** (source-derived): for a unit eigenvector the rotation `kabsch_align` returns — head-off
    or not — is orthogonal on both sides with determinant +1 -/
theorem kabschAlignSrc_rotation_proper [Field K] [LinearOrder K] (R C : List (V3 K)) (q : Q4 K)
    (hlen : R.length = C.length) (hq : q.nrm2 = 1) :
    let U := (kabschAlignSrc KabschSrc.prog KabschSrc.F KabschSrc.U R C q).U
    U.mul U.transpose = M3.one ∧ U.transpose.mul U = M3.one ∧ U.det = 1 := by
  rw [kabschAlign_src_partial R C q hlen]
  have h := kabschAlign_isRot R C q hq
  exact ⟨h.orth, h.orth', h.det⟩

example : (⟨1, 0, 0, 0⟩ : Q4 ℚ).nrm2 = 1 := by decide +kernel

/-- per-atom recipe identity lifted to whole geometries: with `T = c̄ − U·r̄` and `UᵀU = I` the squared distance between the
    reference and the concern geometry sent through the recipe `(c − T)·U` is the centred residual -/
theorem dist2_recipe [CommRing K] (U : M3 K) (h : U.transpose.mul U = M3.one) (rc cc : V3 K) :
    ∀ (Rg Cg : List (V3 K)),
      dist2 (Cg.map (fun c => rowMul (c.sub (cc.sub (matVec U rc))) U)) Rg
        = resid U ((Rg.map (fun r => r.sub rc)).zip (Cg.map (fun c => c.sub cc)))
  | [], [] => by simp [dist2, resid]
  | [], _ :: _ => by simp [dist2, resid]
  | _ :: _, [] => by simp [dist2, resid]
  | r :: rs, c :: cs => by
    have ih := dist2_recipe U h rc cc rs cs
    have e := recipe_pointwise U h rc cc r c
    simp only [List.map_cons, dist2, List.zip_cons_cons, resid, ih, e]
    simp only [V3.nrm2, V3.sub]; ring

/-- **the reported RMSD is the RMSD obtained** (source-derived, exact arithmetic): when the head-off does not fire and `q` is a
    unit vector, the squared residual `kabsch_align` reports (`res2 = N·rmsd²/bohr2angstroms²`) is exactly the squared distance
    between the reference and the concern geometry sent through the returned recipe `(c − TT)·RR` (what B787 recomputes) -/
theorem kabschAlignSrc_rmsd_obtained [Field K] [LinearOrder K] (R C : List (V3 K)) (q : Q4 K)
    (hlen : R.length = C.length) (hq : q.nrm2 = 1)
    (hs : (kabschAlignSrc KabschSrc.prog KabschSrc.F KabschSrc.U R C q).shortcut = false) :
    let o := kabschAlignSrc KabschSrc.prog KabschSrc.F KabschSrc.U R C q
    dist2 (C.map (fun c => rowMul (c.sub o.T) o.U)) R = o.res2 := by
  rw [kabschAlign_src_partial R C q hlen] at hs ⊢
  unfold kabschAlign at hs ⊢
  by_cases hg : geomEq R C = true
  · simp only [hg, if_true] at hs; cases hs
  · simp only [hg]
    exact dist2_recipe (quatRot q) (quatRot_orthogonal q hq).2 (centroid R) (centroid C) R C

-- non-vacuity (tests) of `kabschAlignSrc_rmsd_obtained` / `dist2_recipe`: a shifted copy does not fire the head-off, q = (1,0,0,0) is a
-- unit vector, the identity is orthogonal
example : (kabschAlignSrc KabschSrc.prog KabschSrc.F KabschSrc.U [(⟨1, 2, 3⟩ : V3 ℚ), ⟨0, 0, 1⟩] [⟨2, 2, 3⟩, ⟨1, 0, 1⟩]
    ⟨1, 0, 0, 0⟩).shortcut = false := by
  decide +kernel
example : (M3.one : M3 ℚ).transpose.mul M3.one = M3.one := by decide +kernel

/-- `shortcut_exact` over the source-derived `kabsch_align` -/
theorem kabschAlignSrc_shortcut_exact [Field K] [LinearOrder K] (R C : List (V3 K)) (q : Q4 K)
    (hlen : R.length = C.length)
    (h : (kabschAlignSrc KabschSrc.prog KabschSrc.F KabschSrc.U R C q).shortcut = true) :
    let o := kabschAlignSrc KabschSrc.prog KabschSrc.F KabschSrc.U R C q
    o.U = M3.one ∧ o.T = V3.zero ∧ o.res2 = 0 ∧ C.map (fun v => rowMul (v.sub V3.zero) M3.one) = C ∧ dist2 C R = 0 := by
  rw [kabschAlign_src_partial R C q hlen] at h ⊢
  exact shortcut_exact R C q h

example : (kabschAlignSrc KabschSrc.prog KabschSrc.F KabschSrc.U [(⟨1, 2, 3⟩ : V3 ℚ), ⟨0, 0, 1⟩] [⟨1, 2, 3⟩, ⟨0, 0, 1⟩]
    ⟨1, 0, 0, 0⟩).shortcut = true := by
  decide +kernel

-- non-vacuity: by `kabschAlign_src_partial` the hypotheses are those of `kabschAlign_optimal`; the example after
-- `recovery_rigid` in Props/C12Full.lean shows a certificate accepted over ℝ on two centred atom pairs (not an instance
-- of the `kabschAlign` record itself)
/-- **optimality given the certified eigen step** (source-derived, over ℝ; `kabschAlign_optimal` restated): head-off not fired and
    the captured eigenvector accepted by the proved checker on the SOURCE-derived matrix `F` ⇒ the reported squared residual is
    within the slack of the residual of every proper rigid motion -/
theorem kabschAlignSrc_optimal (Rg Cg : List (V3 ℝ)) (hlen : Rg.length = Cg.length) (q : Q4 ℝ) (δ ε : ℝ)
    (hs : (kabschAlignSrc KabschSrc.prog KabschSrc.F KabschSrc.U Rg Cg q).shortcut = false)
    (h : isTopEig (kabschAlignSrc KabschSrc.prog KabschSrc.F KabschSrc.U Rg Cg q).F q δ ε = true)
    (R : M3 ℝ) (ho : R.mul R.transpose = M3.one) (hd : R.det = 1) (s : V3 ℝ) :
    (kabschAlignSrc KabschSrc.prog KabschSrc.F KabschSrc.U Rg Cg q).res2
      ≤ dist2 Rg (Cg.map (fun c => rowMul (c.sub s) R)) + 2 * ε
        + δ * (2 + δ) * (kabschAlignSrc KabschSrc.prog KabschSrc.F KabschSrc.U Rg Cg q).sc2 := by
  rw [kabschAlign_src_partial Rg Cg q hlen] at hs h ⊢
  exact kabschAlign_optimal Rg Cg hlen q δ ε hs h R ho hd s

-- non-vacuity: by `kabschAlign_src_partial` the hypotheses are those of `kabschAlign_recovers_motion`; the right-triangle
-- example after it in Props/C12Unique.lean instantiates them with the recipe `(Aᵀ, t)` itself (the unit `q` of that
-- rotation is not rational)
/-- **exact rigid copies are recovered** (source-derived; `kabschAlign_recovers_motion` restated): if the recipe the source-derived
    `kabsch_align` returns superimposes a rotated + translated copy of a non-collinear reference exactly, its rotation is the
    inverse of the applied one and its shift the applied one -/
theorem kabschAlignSrc_recovers_motion [Field K] [LinearOrder K] [IsStrictOrderedRing K]
    (A : M3 K) (hoA : A.mul A.transpose = M3.one) (hdA : A.det = 1) (t : V3 K)
    (Rg : List (V3 K)) (q : Q4 K) (hq : q.nrm2 = 1)
    (hal : alignCoords false
      (kabschAlignSrc KabschSrc.prog KabschSrc.F KabschSrc.U Rg (Rg.map (fun r => (rowMul r A).add t)) q).T
      (kabschAlignSrc KabschSrc.prog KabschSrc.F KabschSrc.U Rg (Rg.map (fun r => (rowMul r A).add t)) q).U
      (List.range Rg.length) (Rg.map (fun r => (rowMul r A).add t)) = some Rg)
    (hnc : NonCollinear (centre Rg)) :
    (kabschAlignSrc KabschSrc.prog KabschSrc.F KabschSrc.U Rg (Rg.map (fun r => (rowMul r A).add t)) q).U = A.transpose
      ∧ (kabschAlignSrc KabschSrc.prog KabschSrc.F KabschSrc.U Rg (Rg.map (fun r => (rowMul r A).add t)) q).T = t := by
  have hlen : Rg.length = (Rg.map (fun r => (rowMul r A).add t)).length := by simp
  rw [kabschAlign_src_partial Rg _ q hlen] at hal ⊢
  exact kabschAlign_recovers_motion A hoA hdA t Rg q hq hal hnc

end QcelVerif.KabschAst

/-! ## `filter_permutative` and the trial loop -/
namespace QcelVerif.B787Ast
open QcelVerif.B787 QcelVerif.Gen

theorem zipDists_tail (D : List (List Rat)) : ∀ l : List Nat, zipDists D l l.tail = chainDists D l
  | [] => by simp [zipDists, chainDists]
  | [_] => by simp [zipDists, chainDists]
  | a :: b :: t => by
    have ih := zipDists_tail D (b :: t)
    simp only [List.tail_cons] at ih ⊢
    simp only [zipDists, chainDists, ih]

/-- **the permutative filter as read from the source is the hand model's** (align.py:330-344), for all distance matrices,
    tolerances and index groups -/
theorem filter_src (rtol atol : Rat) (RR CC : List (List Rat)) (rgp cgp : List Nat) :
    B787Src.filter.eval rtol atol RR CC rgp cgp = filterPermutative rtol atol RR CC rgp cgp := by
  simp only [PermFilter.eval, B787Src.filter, ChainE.eval, SeqE.eval, zipDists_tail, pickList, filterPermutative,
    List.map_id']
  rfl

/-- hence the whole permutative candidate generation with the source-derived filter is the hand model's -/
theorem candidates_src (rtol atol : Rat) (ref cur : List Nat) (RR CC : List (List Rat)) :
    candidatesSrc B787Src.filter rtol atol ref cur RR CC = candidates rtol atol ref cur RR CC := by
  simp only [candidatesSrc, candidates, filter_src]

/-- the translated best-so-far block of the plain trial is the hand model's `update` (strict `<`, both stores, break test) -/
theorem update_src_plain (cfg : Cfg) (st : State) (i : Nat) (m : Bool) (v : Int) :
    B787Src.loopBody.plain.eval cfg st i m v = some (update cfg st i m v) := by
  simp only [UpdBlock.eval, B787Src.loopBody, Cmp.eval, Locals.num, CmpOp.eval, assignAll, assign1, update,
    Option.bind, Option.map, bind, pure]
  by_cases h : v < st.best <;> simp [h]

/-- the same for the block of the mirror trial, which the source writes out a second time, token for token -/
theorem update_src_mir (cfg : Cfg) (st : State) (i : Nat) (m : Bool) (v : Int) :
    B787Src.loopBody.mir.eval cfg st i m v = some (update cfg st i m v) :=
  update_src_plain cfg st i m v

/-- the plain trial builds its recipe with `mirror=False`, the mirror trial with `mirror=True` -/
theorem mirror_flags_src : B787Src.loopBody.plainMirror = false ∧ B787Src.loopBody.mirMirror = true := by
  constructor <;> rfl

/-- **the trial loop assembled from the translated blocks is the hand model's loop**, for all configurations, candidate
    lists and states -/
theorem loop_src (cfg : Cfg) : ∀ (ts : List Trial) (i : Nat) (st : State),
    loopSrc B787Src.loopBody cfg i ts st = some (loop cfg i ts st)
  | [], i, st => by simp [loopSrc, loop]
  | t :: ts, i, st => by
    simp only [loopSrc, loop, update_src_plain, update_src_mir, mirror_flags_src.1, mirror_flags_src.2]
    rcases h1 : update cfg st i false t.plain with ⟨st1, b1⟩
    cases b1
    · simp only []
      by_cases hm : mirrorOn cfg = true
      · simp only [hm, if_true]
        rcases h2 : update cfg st1 i true t.mir with ⟨st2, b2⟩
        cases b2
        · simp only []; exact loop_src cfg ts (i + 1) st2
        · simp only []
      · simp only [hm]; exact loop_src cfg ts (i + 1) st1
    · simp only []

/-- `B787`'s search with the translated blocks returns what the hand model returns -/
theorem run_src (cfg : Cfg) (ts : List Trial) :
    runSrc B787Src.loopBody cfg ts = (match run cfg ts with | .ok st => RunSrc.ok st | .error e => RunSrc.err e) := by
  simp only [runSrc, run, loop_src]
  cases (loop cfg 0 ts init).sel <;> rfl

theorem runSrc_ok_iff (cfg : Cfg) (ts : List Trial) (st : State) :
    runSrc B787Src.loopBody cfg ts = .ok st ↔ run cfg ts = .ok st := by
  rw [run_src]
  cases h : run cfg ts with
  | ok s => simp
  | error e => simp

/-- **mirror images are matched only on request** over the source-derived loop -/
theorem runSrc_mirror_only_on_request (cfg : Cfg) (ts : List Trial) (st : State)
    (hreq : cfg.runMirror = false ∨ cfg.superimposable = true) (h : runSrc B787Src.loopBody cfg ts = .ok st) :
    ∀ j m, st.sel = some (j, m) → m = false :=
  mirror_only_on_request cfg ts st hreq ((runSrc_ok_iff cfg ts st).1 h)

/-- **run to completion ⇒ the returned RMSD is the minimum over the trials** over the source-derived loop -/
theorem runSrc_best_is_min (cfg : Cfg) (hc : cfg.runToCompletion = true) (ts : List Trial) (st : State)
    (h : runSrc B787Src.loopBody cfg ts = .ok st) :
    ∀ t ∈ ts, st.best ≤ t.plain ∧ (mirrorOn cfg = true → st.best ≤ t.mir) :=
  best_is_min cfg hc ts st ((runSrc_ok_iff cfg ts st).1 h)

/-- **the held recipe is one of the trials and `best` is that trial's RMSD** over the source-derived loop: the stored map is
    updated together with the stored RMSD -/
theorem runSrc_sel_attains_best (cfg : Cfg) (ts : List Trial) (st : State)
    (h : runSrc B787Src.loopBody cfg ts = .ok st) :
    ∃ j m t, st.sel = some (j, m) ∧ ts[j]? = some t ∧ st.best = t.val m :=
  sel_attains_best cfg ts st ((runSrc_ok_iff cfg ts st).1 h)

-- non-vacuity (tests): the source-derived loop returns a held recipe; with the request the mirror trial can win
example : runSrc B787Src.loopBody ⟨true, false, true, 0⟩ [⟨5, 1⟩, ⟨3, 7⟩] = .ok ⟨1, some (0, true), 4⟩ := by decide
example : runSrc B787Src.loopBody ⟨false, false, false, 0⟩ [⟨5, 1⟩] = .ok ⟨5, some (0, false), 1⟩ := by decide

end QcelVerif.B787Ast
