import QcelVerif.Model.PeriodicSrcShipped
import QcelVerif.Props.C01General
/-!
# C01 — the lookup logic REGENERATED FROM THE SOURCE equals the hand model

`Gen/PeriodicSrc.lean` is what `harness/c01_src.py` reads out of `qcelemental/periodic_table.py` on every run:
the ladders of `to_period` / `to_group`, the statements of `_resolve_atom_to_key` (and its nested function),
the accessor bodies and the dictionary constructions of `__init__`.  This file proves, for ANY table of the hand
model, that the translated ladders, resolver (run by `Stmt.exec`; NotAnElementError and no other class exactly where
the model says `none`) and accessor bodies are the model's, and restates the general C01 theorems for them.  The
dictionary constructions on the shipped data are in `C01SrcShipped.lean`.
-/
namespace QcelVerif.PT.Src
open QcelVerif QcelVerif.PStr

-- The equation lemmas of these functions are derived here once; without this, every proof that unfolds them derives them again.
section
attribute [local simp] Stmt.exec Expr.eval
end

/-- **`to_period`'s ladder as translated = the model's**, for every atomic number (total function): `Ladder.eval` on the
translated arms is the model's chain of `if z ≤ n`, arm for arm. -/
theorem period_src_eq_model (z : Nat) : periodSrc z = some (periodOfZ z) := by
  simp only [periodSrc, Gen.PeriodicSrc.periodLadder, Gen.PeriodicSrc.periodElse, Ladder.eval, Test.holds, periodOfZ,
    decide_eq_true_eq, apply_ite some]

/-- **`to_group`'s membership ladder as translated = the model's**, for every atomic number: `Ladder.eval` on the translated
arms unfolds to the very chain of `if [ … ].contains z` that `groupOfZ` is. -/
theorem group_src_eq_model (z : Nat) : groupSrc z = groupOfZ z := rfl

/-- `period_group_standard` for the source-derived ladders: the standard 18-column layout, every `Z`. -/
theorem period_group_standard_src (z : Nat) : periodSrc z = some (specPeriod z) ∧ groupSrc z = specGroup z := by
  rw [period_src_eq_model, group_src_eq_model, (period_group_standard z).1, (period_group_standard z).2]
  exact ⟨rfl, rfl⟩

/-! What `Env.ofTables` answers where the translated resolver asks it.  The proofs below rewrite with these equations; unfolding
the whole environment at every leaf of a symbolic execution costs seven times as much. -/

/-- the three look-ups of the nested `resolve_eliso` -/
theorem dictGet_resolve (T : Tables) :
    (∀ s, (Env.ofTables T).dictGet .eliso2mass (.str s) =
      match T.eliso.lookup (pack s) with | some r => .ok (.pstr r.2.2) | none => .error .KeyError) ∧
    (∀ i, (Env.ofTables T).dictGet .z2el (.int i) =
      match T.z2el i with | some e => .ok (.pstr e) | none => .error .KeyError) ∧
    (∀ s, (Env.ofTables T).dictGet .element2el (.str s) =
      match T.name2el (pack s) with | some e => .ok (.pstr e) | none => .error .KeyError) := by
  refine ⟨fun s => ?_, fun _ => rfl, fun s => ?_⟩
  · simp only [Env.ofTables]; cases T.eliso.lookup (pack s) <;> rfl
  · simp only [Env.ofTables]; cases T.name2el (pack s) <;> rfl

/-- `x in self.E` for a string typed in and for one fetched from a table -/
theorem inList_E (T : Tables) :
    (∀ s, (Env.ofTables T).inList .E (.str s) = .ok (T.isElementSymbol (pack s))) ∧
    (∀ n, (Env.ofTables T).inList .E (.pstr n) = .ok (T.isElementSymbol n)) :=
  ⟨fun _ => rfl, fun _ => rfl⟩

/-- runs the generated resolver bodies down one path: statement and expression evaluators and the two loop bodies unfolded; the
outcomes of the table look-ups are the hypotheses passed in -/
local macro "exec_simp" "[" ts:Lean.Parser.Tactic.simpLemma,* "]" : tactic =>
  `(tactic| simp [runBody, Stmt.exec, Expr.eval, Locals.get, Locals.set, Gen.PeriodicSrc.innerBody,
      Gen.PeriodicSrc.outerBody, dictGet_resolve, ofOption, Tables.resolveEliso, $ts,*])

set_option linter.unusedSimpArgs false in
/-- the nested `resolve_eliso` on an int: `.capitalize()` raises AttributeError, `int(atom)` is `atom` -/
theorem inner_int (T : Tables) (i : Int) :
    runBody (Env.ofTables T) (fun _ => .error .unsupported) Gen.PeriodicSrc.innerBody [(0, .int i)]
      = ofOption ((T.z2el i).map .pstr) := by
  cases hz : T.z2el i <;> exec_simp [hz]

set_option linter.unusedSimpArgs false in
/-- the nested `resolve_eliso` on a str: the `else:` branch returns the capitalised text itself, the handlers a
symbol fetched from `_z2el` / `_element2el` -/
theorem inner_str (T : Tables) (s : Bytes) :
    runBody (Env.ofTables T) (fun _ => .error .unsupported) Gen.PeriodicSrc.innerBody [(0, .str s)]
      = if T.eliso.contains (pack (capitalize s)) then .ok (.str (capitalize s))
        else ofOption ((T.resolveEliso (.str s)).map .pstr) := by
  cases hl : T.eliso.lookup (pack (capitalize s)) with
  | some row =>
    have hc : T.eliso.contains (pack (capitalize s)) = true := by simp [Bst.contains, hl]
    exec_simp [hl, hc]
  | none =>
    have hc : T.eliso.contains (pack (capitalize s)) = false := by simp [Bst.contains, hl]
    cases hp : pyInt s with
    | none => cases hn : T.name2el (pack (capitalize s)) <;> exec_simp [hl, hc, hp, hn]
    | some z =>
      cases hz : T.z2el z with
      | some e => exec_simp [hl, hc, hp, hz]
      | none => cases hn : T.name2el (pack (capitalize s)) <;> exec_simp [hl, hc, hp, hz, hn]

set_option linter.unusedSimpArgs false in
/-- the statements after the nested function, over any environment and any meaning of the nested function: with
`strict`, the result must be in `self.E` -/
theorem outer_exec (E : Env) (inner : Val → Except Exc Val) (x : Val) (strict : Bool) :
    runBody E inner Gen.PeriodicSrc.outerBody [(0, x), (1, .bool strict)]
      = match inner x with
        | .error e => .error e
        | .ok v =>
          if strict then
            match E.inList .E v with
            | .ok b => if b then .ok v else .error .NotAnElementError
            | .error e => .error e
          else .ok v := by
  cases hi : inner x with
  | error e => exec_simp [hi]
  | ok v =>
    cases strict
    · exec_simp [hi]
    · cases hl : E.inList .E v with
      | error e => exec_simp [hi, hl]
      | ok b => cases b <;> exec_simp [hi, hl]

/-- **The translated `_resolve_atom_to_key` = the hand model's `resolve`**: for ANY table, every argument of the
documented types (int | ASCII str) and both values of `strict`, executing the translated statements (nested
try/except/else in source order, `capitalize`, `int()`, the three dictionaries, the strict test against
`self.E`) returns the model's key, and where the model says `none` it raises NotAnElementError and nothing else
(no KeyError / ValueError / AttributeError / AssertionError escapes). -/
theorem resolve_src_eq_model (T : Tables) (a : PyVal) (strict : Bool) :
    resolveSrcT T a strict = ofOption (T.resolve a strict) := by
  unfold resolveSrcT resolveProg
  simp only [outer_exec]
  cases a with
  | int i =>
    simp only [inner_int, Tables.resolve, Tables.resolveEliso]
    cases T.z2el i with
    | none => rfl
    | some e => cases strict <;> cases hs : T.isElementSymbol e <;> simp [ofOption, inList_E, Val.key?, hs]
  | str s =>
    simp only [inner_str, Tables.resolve]
    by_cases hc : T.eliso.contains (pack (capitalize s)) = true
    · have hr : T.resolveEliso (.str s) = some (pack (capitalize s)) := by simp [Tables.resolveEliso, hc]
      cases strict <;> cases hs : T.isElementSymbol (pack (capitalize s)) <;>
        simp [hc, hr, ofOption, inList_E, Val.key?, hs]
    · cases T.resolveEliso (.str s) with
      | none => simp [hc, ofOption]
      | some e => cases strict <;> cases hs : T.isElementSymbol e <;> simp [hc, ofOption, inList_E, Val.key?, hs]

/-- chain of dictionary lookups after a successful resolution, over the hand model's tables -/
theorem run_ofTables (T : Tables) (acc : Accessor) (a : PyVal) (strict : Bool) :
    acc.run (Env.ofTables T) Gen.PeriodicSrc.innerBody Gen.PeriodicSrc.outerBody a strict
      = match ofOption (T.resolve a (acc.passesStrict && strict)) with
        | .error x => .error x
        | .ok k => acc.chain.foldlM (fun v d => (Env.ofTables T).dictGet d v) (.pstr k) := by
  unfold Accessor.run
  rw [← resolve_src_eq_model]; rfl

theorem foldlM_toOption {α β ε : Type} (f : β → α → Except ε β) : ∀ (l : List α) (b : β),
    (l.foldlM f b).toOption = l.foldlM (fun b a => (f b a).toOption) b
  | [], _ => rfl
  | a :: l, b => by
    simp only [List.foldlM_cons]
    cases f b a with
    | error e => rfl
    | ok b' => exact foldlM_toOption f l b'

theorem run_toOption (T : Tables) (acc : Accessor) (a : PyVal) (strict : Bool) :
    (acc.run (Env.ofTables T) Gen.PeriodicSrc.innerBody Gen.PeriodicSrc.outerBody a strict).toOption
      = (T.resolve a (acc.passesStrict && strict)).bind fun k =>
          acc.chain.foldlM (fun v d => ((Env.ofTables T).dictGet d v).toOption) (.pstr k) := by
  rw [run_ofTables]
  cases T.resolve a (acc.passesStrict && strict) with
  | none => rfl
  | some k => exact foldlM_toOption _ _ _

theorem dictGet_pstr (T : Tables) (k : Nat) :
    ((Env.ofTables T).dictGet .eliso2el (.pstr k)).toOption = (T.eliso.lookup k).map (fun r => .pstr r.1) ∧
    ((Env.ofTables T).dictGet .eliso2a (.pstr k)).toOption = (T.eliso.lookup k).map (fun r => .int r.2.1) ∧
    ((Env.ofTables T).dictGet .eliso2mass (.pstr k)).toOption = (T.eliso.lookup k).map (fun r => .pstr r.2.2) ∧
    ((Env.ofTables T).dictGet .el2z (.pstr k)).toOption = (T.el2z k).map (fun z => .int z) ∧
    ((Env.ofTables T).dictGet .el2element (.pstr k)).toOption = (T.el2name k).map .pstr := by
  simp only [Env.ofTables]
  cases T.eliso.lookup k <;> cases T.el2z k <;> cases T.el2name k <;> exact ⟨rfl, rfl, rfl, rfl, rfl⟩

/-- **The translated accessor bodies = the hand model's accessors** (any table): `key = _resolve_atom_to_key(atom
[, strict=strict])` followed by the dictionaries the source applies to the key, in its order, gives the model's
to_Z / to_E / to_element / to_A / to_mass (to_A and to_mass do not hand `strict` on).  Compared as values
(`toOption`): on a table whose dictionaries are inconsistent the source raises KeyError where the model says
`none`; on the shipped table that cannot happen (`aliases_agree_src`, `nuclides_resolve_src`). -/
theorem accessors_src_eq_model (T : Tables) (a : PyVal) (strict : Bool) :
    (accessorRun (Env.ofTables T) .to_Z a strict).toOption = (T.toZ a strict).map (fun z => Val.int z) ∧
    (accessorRun (Env.ofTables T) .to_E a strict).toOption = (T.toE a strict).map Val.pstr ∧
    (accessorRun (Env.ofTables T) .to_element a strict).toOption = (T.toName a strict).map Val.pstr ∧
    (accessorRun (Env.ofTables T) .to_A a strict).toOption = (T.toA a).map (fun n => Val.int n) ∧
    (accessorRun (Env.ofTables T) .to_mass a strict).toOption = (T.toMass a).map Val.pstr := by
  have h1 : accessorOf .to_Z = some ⟨.to_Z, true, [.eliso2el, .el2z]⟩ := by decide
  have h2 : accessorOf .to_E = some ⟨.to_E, true, [.eliso2el]⟩ := by decide
  have h3 : accessorOf .to_element = some ⟨.to_element, true, [.eliso2el, .el2element]⟩ := by decide
  have h4 : accessorOf .to_A = some ⟨.to_A, false, [.eliso2a]⟩ := by decide
  have h5 : accessorOf .to_mass = some ⟨.to_mass, false, [.eliso2mass]⟩ := by decide
  -- both sides are chains of `Option.bind` over the resolved key: the model's by definition, the source's by `run_toOption`
  simp only [accessorRun, h1, h2, h3, h4, h5, run_toOption, List.foldlM_cons, List.foldlM_nil, Tables.toZ, Tables.toName,
    Tables.toE, Tables.toA, Tables.toMass, Bool.true_and, Bool.false_and]
  simp [dictGet_pstr, Option.map_eq_bind, Option.bind_assoc, Function.comp_def]

/-- the class-level second names are bound to the same translated bodies -/
theorem aliases_src (E : Env) (a : PyVal) (strict : Bool) :
    accessorRun E .to_atomic_number a strict = accessorRun E .to_Z a strict ∧
    accessorRun E .to_symbol a strict = accessorRun E .to_E a strict ∧
    accessorRun E .to_name a strict = accessorRun E .to_element a strict ∧
    accessorRun E .to_mass_number a strict = accessorRun E .to_A a strict := by
  have h1 : accessorOf .to_atomic_number = accessorOf .to_Z := by decide
  have h2 : accessorOf .to_symbol = accessorOf .to_E := by decide
  have h3 : accessorOf .to_name = accessorOf .to_element := by decide
  have h4 : accessorOf .to_mass_number = accessorOf .to_A := by decide
  simp only [accessorRun, h1, h2, h3, h4, and_self]

/-- **`to_period` / `to_group` as translated** (`Z = self.to_Z(atom)`, then the ladder) = the model's. -/
theorem period_group_src_eq_model (T : Tables) (a : PyVal) :
    (toPeriodSrc (Env.ofTables T) a).toOption = (T.toPeriod a).map some ∧
    (toGroupSrc (Env.ofTables T) a).toOption = T.toGroup a := by
  have hz := (accessors_src_eq_model T a false).1
  unfold toPeriodSrc toGroupSrc Tables.toPeriod Tables.toGroup
  cases hr : accessorRun (Env.ofTables T) .to_Z a false with
  | error x =>
    rw [hr] at hz
    cases hm : T.toZ a false with
    | none => simp [Except.toOption]
    | some z => simp [hm, Except.toOption] at hz
  | ok v =>
    rw [hr] at hz
    cases hm : T.toZ a false with
    | none => simp [hm, Except.toOption] at hz
    | some z =>
      simp [hm, Except.toOption] at hz
      subst hz
      have hn : ¬ ((z : Int) < 0) := by omega
      simp [Except.toOption, period_src_eq_model, group_src_eq_model, hn]

theorem ofOption_ok {α} (o : Option α) (k : α) : ofOption o = .ok k ↔ o = some k := by
  cases o <;> simp [ofOption]

/-- the source-derived resolver raises NotAnElementError and nothing else -/
theorem resolve_src_error_class (T : Tables) (a : PyVal) (strict : Bool) (x : Exc)
    (h : resolveSrcT T a strict = .error x) : x = .NotAnElementError := by
  rw [resolve_src_eq_model] at h
  cases hr : T.resolve a strict <;> simp [hr, ofOption] at h
  exact h.symm

example : resolveSrcT shipped (.str (ofString "cat")) false = .error .NotAnElementError := by decide +kernel

/-- `resolve_case_insensitive` for the source-derived resolver -/
theorem resolve_case_insensitive_src (T : Tables) (s s' : Bytes) (h : lower s = lower s') (strict : Bool) :
    resolveSrcT T (.str s) strict = resolveSrcT T (.str s') strict := by
  rw [resolve_src_eq_model, resolve_src_eq_model, resolve_case_insensitive T s s' h]

/-- `accessors_case_insensitive` for the translated accessor bodies, second names and ladders -/
theorem accessors_case_insensitive_src (T : Tables) (s s' : Bytes) (h : lower s = lower s') (strict : Bool) :
    (∀ n, accessorRun (Env.ofTables T) n (.str s) strict = accessorRun (Env.ofTables T) n (.str s') strict) ∧
    toPeriodSrc (Env.ofTables T) (.str s) = toPeriodSrc (Env.ofTables T) (.str s') ∧
    toGroupSrc (Env.ofTables T) (.str s) = toGroupSrc (Env.ofTables T) (.str s') := by
  have key : ∀ n b, accessorRun (Env.ofTables T) n (.str s) b = accessorRun (Env.ofTables T) n (.str s') b := by
    intro n b
    unfold accessorRun
    cases accessorOf n with
    | none => rfl
    | some acc => simp only [run_ofTables, resolve_case_insensitive T s s' h]
  exact ⟨fun n => key n strict, by simp only [toPeriodSrc, key], by simp only [toGroupSrc, key]⟩

example : lower [107, 82, 56, 52] = lower [75, 114, 56, 52] := by decide  -- "kR84" ~ "Kr84"

/-- `no_wrong_species` for the source-derived resolver -/
theorem no_wrong_species_src (T : Tables) (a : PyVal) (strict : Bool) (k : Nat)
    (h : resolveSrcT T a strict = .ok k) :
    (∃ s, a = .str s ∧ k = pack (capitalize s) ∧ T.eliso.contains k = true) ∨
    (∃ z, (a = .int z ∨ ∃ s, a = .str s ∧ pyInt s = some z) ∧ T.z2el z = some k) ∨
    (∃ s, a = .str s ∧ T.name2el (pack (capitalize s)) = some k) := by
  rw [resolve_src_eq_model, ofOption_ok] at h
  exact no_wrong_species T a strict k h

example : resolveSrcT shipped (.str (ofString "kr84")) false = .ok (pack (ofString "Kr84")) := by decide +kernel

/-- `strict_exact` for the source-derived resolver -/
theorem strict_exact_src (T : Tables) (a : PyVal) (k : Nat) :
    resolveSrcT T a true = .ok k ↔ (resolveSrcT T a false = .ok k ∧ T.isElementSymbol k = true) := by
  simp only [resolve_src_eq_model, ofOption_ok]
  exact strict_exact T a k


end QcelVerif.PT.Src
