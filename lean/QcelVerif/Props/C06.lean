import QcelVerif.Props.C06Sound
import QcelVerif.Props.C06Hist
import QcelVerif.Props.C06Idem
import QcelVerif.Props.C06Shipped
import QcelVerif.Props.C06Elements
import QcelVerif.Props.C06Tol
/-!
# C06 — nucleus reconciliation

`C06Sound`: any table, any rounding function, all inputs.  `C06Hist`: the result does not depend on the call history
(`lru_cache`).  `C06Idem`: feeding a result back.  `C06Tol`: `mtol = 0 / 0.0 / False` is honoured as given (exact-mass
matching).  `C06Shipped`: kernel evaluation over the generated table.  `C06Elements`: every element row reconciles to its default
isotope (`shipped_elements_default`), by argument for any table plus a row check of look-ups on the generated one; it rests on
`C06Bare` (calls with one element clue and no isotope clue).
Not imported here: `C06Regex` (the hand recogniser equals the regex generated from the source), `C06Src*` (the procedure
regenerated from `nucleus.py` equals the model), `ConstTieC06` (the model's literals are those of `nucleus.py`).
-/
