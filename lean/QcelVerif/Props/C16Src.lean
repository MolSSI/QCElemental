import QcelVerif.Props.C16
import QcelVerif.Props.C16Unique
import QcelVerif.Model.OrientSrc
import Mathlib.Tactic.Ring
import Mathlib.Tactic.FieldSimp

/-!
# C16 — the orientation code regenerated from `molecule.py` equals the hand model `Model/Orient.lean`

`Gen/OrientSrc.lean` is rewritten on every run by `harness/c16_src.py` from `qcelemental/models/molecule.py`
(`Molecule._orient_molecule_internal`, `Molecule._inertial_tensor`, `float_prep`, `GEOMETRY_NOISE`); its terms are evaluated by
`Model/OrientAst.lean`.  Here the evaluator is instantiated at any linearly ordered field (`fieldOps`) and

1. every stage is proved equal to the hand model for ALL inputs and ALL `eigh` outputs: `_inertial_tensor`, the centre of
   mass with `np.average`'s refusals, the tensor handed to `eigh`, `np.dot(new_geometry, evecs)`, the in-place phase loop
   (= the sign-tracking `phase`, with or without the `break`), everything after `eigh` (= `orientCore`), `geom_noise`,
   `float_prep`'s array branch;
2. the headline theorems of `Props/C16.lean` / `C16Unique.lean` are stated over the source-derived functions;
3. what the driver executes (`Model/OrientSrc.lean`, Mathlib-free, core `Rat`) is tied to 1.

`np.linalg.eigh` stays an opaque step: its second output `V` is universally quantified.  A source change that alters any translated
construct changes `Gen/OrientSrc.lean`, and the proofs below (which unfold the generated term) stop checking.
-/

namespace QcelVerif.Orient
open QcelVerif.OrientAst
open QcelVerif.Gen.OrientSrc (orient)

section Ordered
variable {K : Type} [Field K] [LinearOrder K] [IsStrictOrderedRing K]

/-- the scalar operations of any linearly ordered field -/
def fieldOps (K : Type) [Field K] [LinearOrder K] : Ops K where
  add := (· + ·)
  sub := (· - ·)
  mul := (· * ·)
  div := (· / ·)
  abs := fun a => |a|
  ofInt := fun i => (i : K)
  lt := fun a b => decide (a < b)
  le := fun a b => decide (a ≤ b)
  eqb := fun a b => decide (a = b)

def ofV3 (p : V3 K) : P3 K := ⟨p.x, p.y, p.z⟩
def toV3 (p : P3 K) : V3 K := ⟨p.x, p.y, p.z⟩
def ofM3 (A : M3 K) : T3 K := ⟨A.xx, A.xy, A.xz, A.yx, A.yy, A.yz, A.zx, A.zy, A.zz⟩
def toM3 (A : T3 K) : M3 K := ⟨A.xx, A.xy, A.xz, A.yx, A.yy, A.yz, A.zx, A.zy, A.zz⟩

@[simp] theorem toV3_ofV3 (p : V3 K) : toV3 (ofV3 p) = p := rfl
@[simp] theorem ofV3_toV3 (p : P3 K) : ofV3 (toV3 p) = p := rfl
@[simp] theorem toM3_ofM3 (A : M3 K) : toM3 (ofM3 A) = A := rfl
theorem map_toV3_ofV3 (g : List (V3 K)) : (g.map ofV3).map toV3 = g := by simp [List.map_map, Function.comp_def]
theorem map_ofV3_toV3 (g : List (P3 K)) : (g.map toV3).map ofV3 = g := by simp [List.map_map, Function.comp_def]

/-- errors of the hand model as errors of the source evaluator -/
def cvtErr : QcelVerif.Orient.Err → QcelVerif.OrientAst.Err
  | .zeroDivision => .zeroDivision
  | .shape => .shape

def cvt : Except QcelVerif.Orient.Err (List (V3 K)) → Except QcelVerif.OrientAst.Err (List (P3 K))
  | .ok g => .ok (g.map ofV3)
  | .error e => .error (cvtErr e)

/-! ## sums -/

theorem sumL_massSum (ms : List K) : sumL (fieldOps K) ms = massSum ms := by
  induction ms with
  | nil => simp [sumL, massSum, fieldOps]
  | cons m t ih => simp only [sumL, massSum, ← ih]; rfl

theorem sumL_w1 (f : V3 K → K) : ∀ (ms : List K) (g : List (V3 K)),
    sumL (fieldOps K) (List.zipWith (fieldOps K).mul ms (g.map f)) = wsumF f ms g
  | [], _ => by simp [sumL, wsumF, fieldOps]
  | _ :: _, [] => by simp [sumL, wsumF, fieldOps]
  | m :: ms, p :: g => by
      simp only [List.map_cons, List.zipWith_cons_cons, sumL, wsumF, sumL_w1 f ms g]; rfl

theorem sumL_w2 (f1 f2 : V3 K → K) : ∀ (ms : List K) (g : List (V3 K)),
    sumL (fieldOps K) (List.zipWith (fieldOps K).mul (List.zipWith (fieldOps K).mul ms (g.map f1)) (g.map f2))
      = wsumF (fun p => f1 p * f2 p) ms g
  | [], _ => by simp [sumL, wsumF, fieldOps]
  | _ :: _, [] => by simp [sumL, wsumF, fieldOps]
  | m :: ms, p :: g => by
      simp only [List.map_cons, List.zipWith_cons_cons, sumL, wsumF, sumL_w2 f1 f2 ms g]
      show m * f1 p * f2 p + _ = _
      ring

theorem sumL_w3 (f1 f2 : V3 K → K) : ∀ (ms : List K) (g : List (V3 K)),
    sumL (fieldOps K) (List.zipWith (fieldOps K).mul ms
        (List.zipWith (fieldOps K).add (g.map f1) (g.map f2)))
      = wsumF (fun p => f1 p + f2 p) ms g := fun ms g => by
  rw [List.zipWith_map, List.zipWith_self]
  exact sumL_w1 _ ms g

/-! ## the inertia tensor -/

/-- **`_inertial_tensor` as read from the source = `inertia`** — for all weights and geometries -/
theorem src_inertia_eq (ms : List K) (g : List (V3 K)) :
    evalTensor (fieldOps K) orient.tensor ms (g.map ofV3) = ofM3 (inertia ms g) := by
  simp only [orient, evalTensor, List.foldl_cons, List.foldl_nil, T3.set, evalSE, evalCE, List.map_map]
  simp only [sumL_w2, sumL_w3]
  simp only [inertia, ofM3]
  congr 1 <;> first
    | (apply wsumF_congr; intro p; simp [Function.comp_def, ofV3, P3.comp, npow, fieldOps]; try ring)
    | (show ((-1 : Int) : K) * _ = -1 * _
       congr 1
       simp)

/-! ## the centre of mass -/

theorem psum_wsum : ∀ (ms : List K) (g : List (V3 K)),
    psum (fieldOps K) (List.zipWith (fun m p => (⟨(fieldOps K).mul m p.x, (fieldOps K).mul m p.y, (fieldOps K).mul m p.z⟩ : P3 K))
      ms (g.map ofV3)) = ofV3 (wsum ms g)
  | [], _ => by simp [psum, wsum, V3.zero, ofV3, fieldOps]
  | _ :: _, [] => by simp [psum, wsum, V3.zero, ofV3, fieldOps]
  | m :: ms, p :: g => by
      simp only [List.map_cons, List.zipWith_cons_cons, psum, wsum, psum_wsum ms g]; rfl

/-- **the centring vector as read from the source = `com`**, with the two refusals of `np.average` -/
theorem src_centre_eq (ms : List K) (xs : List (V3 K)) :
    evalCentre (fieldOps K) ms (xs.map ofV3) orient.centre =
      if ms.length ≠ xs.length then .error .shape
      else if massSum ms = 0 then .error .zeroDivision else .ok (ofV3 (com ms xs)) := by
  simp only [orient, evalCentre, List.length_map, sumL_massSum, psum_wsum]
  by_cases h1 : ms.length = xs.length
  · by_cases h2 : massSum ms = 0
    · simp [h1, h2, fieldOps]
    · simp only [h1, h2, fieldOps, ne_eq, not_true_eq_false, if_false, Int.cast_zero, decide_false, Bool.false_eq_true]
      simp only [com, V3.smul, ofV3]
      congr 2 <;> ring
  · simp [h1]

theorem subRow_eq (g : List (V3 K)) (c : V3 K) :
    subRow (fieldOps K) (g.map ofV3) (ofV3 c) = (g.map (fun p => V3.sub p c)).map ofV3 := by
  simp only [subRow, List.map_map]
  rfl

/-- **the centred geometry as read from the source = `center`** -/
theorem src_centred_eq (ms : List K) (xs : List (V3 K)) :
    centred (fieldOps K) orient ms (xs.map ofV3) =
      if ms.length ≠ xs.length then .error .shape
      else if massSum ms = 0 then .error .zeroDivision else .ok ((center ms xs).map ofV3) := by
  unfold centred
  rw [src_centre_eq]
  split_ifs <;> simp [subRow_eq, center]

/-- **the tensor handed to `eigh` as read from the source = `orientTensor`** -/
theorem src_tensorStage_eq (ms : List K) (xs : List (V3 K)) :
    evalTensorStage (fieldOps K) orient ms (xs.map ofV3) =
      if ms.length ≠ xs.length then .error .shape
      else if massSum ms = 0 then .error .zeroDivision else .ok (ofM3 (orientTensor ms xs)) := by
  unfold evalTensorStage
  rw [src_centred_eq]
  split_ifs <;> simp [src_inertia_eq, orientTensor]

/-! ## the rotation -/

theorem transposeN_V (V : M3 K) :
    transposeN (fieldOps K) 3 (ofM3 V).toRows = [[V.xx, V.yx, V.zx], [V.xy, V.yy, V.zy], [V.xz, V.yz, V.zz]] := by
  simp [transposeN, T3.toRows, ofM3, List.range_succ]

theorem toP3s_map {α : Type} (f : α → P3 K) (r : α → List K) (h : ∀ a, r a = [(f a).x, (f a).y, (f a).z]) :
    ∀ l : List α, toP3s (l.map r) = .ok (l.map f)
  | [] => rfl
  | a :: l => by
      simp only [List.map_cons, h a, toP3s, toP3s_map f r h l]

theorem toP3s_rows (V : M3 K) (g : List (V3 K)) :
    toP3s (matmul (fieldOps K) ((g.map ofV3).map P3.toRow) 3 (ofM3 V).toRows) = .ok ((rotate g V).map ofV3) := by
  simp only [matmul, transposeN_V, rotate, List.map_map]
  apply toP3s_map
  intro p
  simp only [Function.comp_def, ofV3, P3.toRow, sumL, List.map_cons, List.map_nil, List.zipWith_cons_cons,
    List.zipWith_nil_right, V3.mulMat, fieldOps, Int.cast_zero, add_zero]
  congr 1
  · ring
  · congr 1
    · ring
    · congr 1; ring

/-- **`new_geometry = np.dot(new_geometry, evecs)` as read from the source = `rotate`** -/
theorem src_rot_eq (g : List (V3 K)) (V : M3 K) :
    evalRot (fieldOps K) orient (g.map ofV3) (ofM3 V) = .ok ((rotate g V).map ofV3) := by
  simp only [evalRot, orient, evalME, if_true]
  exact toP3s_rows V g

/-! ## the phase loop: the in-place loop of the source = the sign-tracking fold of the hand model -/

/-- the hand model's fold state: per column `(phase_check[x], sign applied so far)` -/
abbrev St (K : Type) := (Bool × K) × (Bool × K) × (Bool × K)

/-- the state of the source's loop that corresponds to the hand model's state `st`: the array holds the ORIGINAL rows with
the column signs applied (that is what the in-place `*= -1` leaves behind) -/
def conc (g0 : List (V3 K)) (st : St K) (val : K) : PState K :=
  ⟨st.1.1, st.2.1.1, st.2.2.1, (g0.map (V3.flip st.1.2 st.2.1.2 st.2.2.2)).map ofV3, val, false⟩

def rowStep (noise : K) (st : St K) (r : V3 K) : St K :=
  (colStep noise st.1 r.x, colStep noise st.2.1 r.y, colStep noise st.2.2 r.z)

def V3.comp (r : V3 K) : Ax → K
  | .a0 => r.x | .a1 => r.y | .a2 => r.z

def St.col (st : St K) : Ax → Bool × K
  | .a0 => st.1 | .a1 => st.2.1 | .a2 => st.2.2

def St.setCol (st : St K) (c : Bool × K) : Ax → St K
  | .a0 => (c, st.2.1, st.2.2) | .a1 => (st.1, c, st.2.2) | .a2 => (st.1, st.2.1, c)

def stepCol (noise : K) (st : St K) (r : V3 K) (x : Ax) : St K :=
  st.setCol (colStep noise (st.col x) (r.comp x)) x

def allSet (st : St K) : Prop := st.1.1 = true ∧ st.2.1.1 = true ∧ st.2.2.1 = true

theorem mulcol0 (g0 : List (V3 K)) (a b c : K) :
    ((g0.map (V3.flip a b c)).map ofV3).map (fun p => mulComp (fieldOps K) ((fieldOps K).ofInt (-1)) p 0)
      = (g0.map (V3.flip (-a) b c)).map ofV3 := by
  simp only [List.map_map]; apply List.map_congr_left; intro p _
  simp [mulComp, ofV3, V3.flip, fieldOps]
theorem mulcol1 (g0 : List (V3 K)) (a b c : K) :
    ((g0.map (V3.flip a b c)).map ofV3).map (fun p => mulComp (fieldOps K) ((fieldOps K).ofInt (-1)) p 1)
      = (g0.map (V3.flip a (-b) c)).map ofV3 := by
  simp only [List.map_map]; apply List.map_congr_left; intro p _
  simp [mulComp, ofV3, V3.flip, fieldOps]
theorem mulcol2 (g0 : List (V3 K)) (a b c : K) :
    ((g0.map (V3.flip a b c)).map ofV3).map (fun p => mulComp (fieldOps K) ((fieldOps K).ofInt (-1)) p 2)
      = (g0.map (V3.flip a b (-c))).map ofV3 := by
  simp only [List.map_map]; apply List.map_congr_left; intro p _
  simp [mulComp, ofV3, V3.flip, fieldOps]

theorem setCol_col (st : St K) (x : Ax) : St.setCol st (st.col x) x = st := by cases x <;> rfl
theorem col_setCol (st : St K) (c : Bool × K) (x : Ax) : St.col (St.setCol st c x) x = c := by cases x <;> rfl
theorem setCol_setCol (st : St K) (c c' : Bool × K) (x : Ax) : St.setCol (St.setCol st c x) c' x = St.setCol st c' x := by
  cases x <;> rfl

theorem conc_flag (g0 : List (V3 K)) (st : St K) (v : K) (x : Ax) : (conc g0 st v).flag x = (st.col x).1 := by
  cases x <;> rfl

theorem conc_entry {g0 : List (V3 K)} {num : Nat} {r : V3 K} (h : g0[num]? = some r) (st : St K) (v : K) (x : Ax) :
    getEntry (conc g0 st v).g num x.toNat = some ((st.col x).2 * r.comp x) := by
  cases x <;> simp [getEntry, conc, h, compN?, ofV3, V3.flip, Ax.toNat, St.col, V3.comp]

theorem conc_readVal (g0 : List (V3 K)) (st : St K) (v w : K) : ({ conc g0 st v with val := w } : PState K) = conc g0 st w :=
  rfl

theorem conc_setFlag (g0 : List (V3 K)) (st : St K) (w : K) (x : Ax) :
    (conc g0 st w).setFlag x = conc g0 (St.setCol st (true, (st.col x).2) x) w := by
  cases x <;> rfl

/-- `new_geometry[:, x] *= -1` negates the sign carried by column `x` -/
theorem conc_negate (g0 : List (V3 K)) (st : St K) (w : K) (x : Ax) :
    ({ conc g0 st w with
        g := (conc g0 st w).g.map (fun p => mulComp (fieldOps K) ((fieldOps K).ofInt (-1)) p x.toNat) } : PState K)
      = conc g0 (St.setCol st ((st.col x).1, -(st.col x).2) x) w := by
  cases x
  · simp only [conc, Ax.toNat, mulcol0, St.setCol, St.col]
  · simp only [conc, Ax.toNat, mulcol1, St.setCol, St.col]
  · simp only [conc, Ax.toNat, mulcol2, St.setCol, St.col]

/-- one pass of the inner-loop body of the source for column `x` at atom `num` = one `colStep` of the hand model on that column -/
theorem body_step (noise : K) (g0 : List (V3 K)) (num : Nat) (r : V3 K) (h : g0[num]? = some r) (x : Ax) (st : St K) (v : K) :
    ∃ v', evalBody (fieldOps K) noise num x orient.body (conc g0 st v) = conc g0 (stepCol noise st r x) v' := by
  have hx : x.toNat < 3 := by cases x <;> decide
  by_cases hf : (st.col x).1 = true
  · exact ⟨v, by simp only [orient, evalBody, conc_flag, hf, if_true, stepCol, colStep, setCol_col]⟩
  · refine ⟨(st.col x).2 * r.comp x, ?_⟩
    have hval : ∀ st' : St K, (conc g0 st' ((st.col x).2 * r.comp x)).val = (st.col x).2 * r.comp x := fun _ => rfl
    simp only [orient, evalBody, conc_flag, hf, idxVal, conc_entry h, conc_readVal, cmpB, fieldOps, Int.cast_zero, mulAxis, hx,
      conc_setFlag, hval, if_true, Bool.false_eq_true, if_false, decide_eq_true_eq, stepCol, colStep]
    by_cases ha : |(st.col x).2 * r.comp x| < noise
    · rw [if_pos ha, if_pos ha, setCol_col]
    · rw [if_neg ha, if_neg ha]
      by_cases hn : (st.col x).2 * r.comp x < 0
      · rw [if_pos hn, if_pos hn]
        exact (conc_negate g0 _ _ x).trans (by rw [col_setCol, setCol_setCol])
      · rw [if_neg hn, if_neg hn]
/-- `for x in range(3): <body>` at atom `num` = the hand model's row step -/
theorem inner_step (noise : K) (g0 : List (V3 K)) (num : Nat) (r : V3 K) (h : g0[num]? = some r) (st : St K) (v : K) :
    ∃ v', evalInner (fieldOps K) noise orient.body num (conc g0 st v) = conc g0 (rowStep noise st r) v' := by
  obtain ⟨v1, h1⟩ := body_step noise g0 num r h .a0 st v
  obtain ⟨v2, h2⟩ := body_step noise g0 num r h .a1 (stepCol noise st r .a0) v1
  obtain ⟨v3, h3⟩ := body_step noise g0 num r h .a2 (stepCol noise (stepCol noise st r .a0) r .a1) v2
  refine ⟨v3, ?_⟩
  have hc : ∀ (st : St K) (v : K), (conc g0 st v).err = false := fun _ _ => rfl
  simp only [evalInner, List.foldl_cons, List.foldl_nil, hc, h1, h2, h3, Bool.false_eq_true, if_false]
  rfl

/-- once all three flags are set an iteration changes nothing: this is why the `break` of the source only skips no-ops -/
theorem rowStep_allSet (noise : K) (st : St K) (r : V3 K) (h : allSet st) : rowStep noise st r = st := by
  obtain ⟨⟨f0, s0⟩, ⟨f1, s1⟩, ⟨f2, s2⟩⟩ := st
  obtain ⟨h0, h1, h2⟩ := h
  simp only at h0 h1 h2
  subst h0 h1 h2
  simp [rowStep, colStep]

def rowStepO (noise : K) (st : St K) : Option (V3 K) → St K
  | some r => rowStep noise st r
  | none => st

theorem outer_fold (noise : K) (hb : Bool) (g0 : List (V3 K)) :
    ∀ (idxs : List Nat), (∀ i ∈ idxs, i < g0.length) → ∀ (st : St K) (v : K) (d : Bool), (d = true → allSet st) →
      ∃ v' d', idxs.foldl (evalOuterStep (fieldOps K) noise orient.body hb) (conc g0 st v, d)
        = (conc g0 (idxs.foldl (fun st i => rowStepO noise st g0[i]?) st) v', d')
  | [], _, st, v, d, _ => ⟨v, d, rfl⟩
  | i :: idxs, hi, st, v, d, hd => by
      have hlt : i < g0.length := hi i (by simp)
      have hget : g0[i]? = some g0[i] := List.getElem?_eq_getElem hlt
      have hi' : ∀ j ∈ idxs, j < g0.length := fun j hj => hi j (by simp [hj])
      simp only [List.foldl_cons, hget, rowStepO]
      cases d
      · obtain ⟨v1, h1⟩ := inner_step noise g0 i g0[i] hget st v
        have e : evalOuterStep (fieldOps K) noise orient.body hb (conc g0 st v, false) i
            = (conc g0 (rowStep noise st g0[i]) v1,
                hb && (rowStep noise st g0[i]).1.1 && (rowStep noise st g0[i]).2.1.1 && (rowStep noise st g0[i]).2.2.1) := by
          simp only [evalOuterStep, h1]
          simp [conc]
        rw [e]
        apply outer_fold noise hb g0 idxs hi'
        intro hd'
        simp only [Bool.and_eq_true] at hd'
        exact ⟨hd'.1.1.2, hd'.1.2, hd'.2⟩
      · have e : evalOuterStep (fieldOps K) noise orient.body hb (conc g0 st v, true) i = (conc g0 st v, true) := by
          simp [evalOuterStep]
        rw [e, rowStep_allSet noise st g0[i] (hd rfl)]
        exact outer_fold noise hb g0 idxs hi' st v true hd

theorem foldl_range_get {α σ : Type} (hh : σ → Option α → σ) : ∀ (l : List α) (init : σ),
    (List.range l.length).foldl (fun st i => hh st l[i]?) init = l.foldl (fun st r => hh st (some r)) init
  | [], _ => rfl
  | a :: l, init => by
      simp only [List.length_cons, List.range_succ_eq_map, List.foldl_cons, List.foldl_map, List.getElem?_cons_zero,
        List.getElem?_cons_succ]
      exact foldl_range_get hh l _

theorem conc_init (g : List (V3 K)) (v : K) :
    (⟨false, false, false, g.map ofV3, v, false⟩ : PState K) = conc g ((false, 1), (false, 1), (false, 1)) v := by
  simp only [conc, List.map_id'' flip_one]

/-- **the phase loop as read from the source — in-place column negation, both strict tests, with or without the `break` —
returns exactly `phase noise g`** (for every threshold, every geometry) -/
theorem src_phase_eq (noise : K) (hb : Bool) (g : List (V3 K)) :
    evalPhase (fieldOps K) noise orient.body hb (g.map ofV3) = .ok ((phase noise g).map ofV3) := by
  obtain ⟨v', d', h⟩ := outer_fold noise hb g (List.range g.length) (by simp)
    ((false, 1), (false, 1), (false, 1)) ((fieldOps K).ofInt 0) false (by simp)
  unfold evalPhase
  simp only [List.length_map, conc_init, h, foldl_range_get (fun st o => rowStepO noise st o) g]
  simp [conc, phase, phaseLoop, rowStepO, rowStep]

/-! ## the whole function -/

/-- `geom_noise = 10 ** (-GEOMETRY_NOISE)` as read from the source -/
def srcNoise (K : Type) [Field K] [LinearOrder K] : K := noiseOf (fieldOps K) orient

theorem srcNoise_eq : srcNoise K = 1 / 100000000 := by
  simp only [srcNoise, noiseOf, orient, fieldOps]
  norm_num

theorem srcNoise_pos : (0 : K) < srcNoise K := by
  rw [srcNoise_eq]; norm_num

/-- **everything after the `eigh` call, as read from the source, = `orientCore`** — for ALL masses, geometries and ALL
eigh outputs `V`, errors included -/
theorem src_afterEigh_eq (ms : List K) (xs : List (V3 K)) (V : M3 K) :
    evalAfterEigh (fieldOps K) orient ms (xs.map ofV3) (ofM3 V) = cvt (orientCore (srcNoise K) ms xs V) := by
  unfold evalAfterEigh orientCore
  rw [src_centred_eq]
  split_ifs
  · rfl
  · rfl
  · simp only [src_rot_eq, srcNoise, cvt]
    exact src_phase_eq _ _ _

/-- a successful run of the source-derived function is a successful run of the hand model -/
theorem src_ok {ms : List K} {xs : List (V3 K)} {V : M3 K} {out : List (P3 K)}
    (h : evalAfterEigh (fieldOps K) orient ms (xs.map ofV3) (ofM3 V) = .ok out) :
    orientCore (srcNoise K) ms xs V = .ok (out.map toV3) := by
  rw [src_afterEigh_eq] at h
  cases hc : orientCore (srcNoise K) ms xs V with
  | error e => rw [hc] at h; simp [cvt] at h
  | ok g =>
    rw [hc] at h
    simp only [cvt, Except.ok.injEq] at h
    subst h
    rw [map_toV3_ofV3]

theorem src_tensor_ok {ms : List K} {xs : List (V3 K)} {T : T3 K}
    (h : evalTensorStage (fieldOps K) orient ms (xs.map ofV3) = .ok T) : toM3 T = orientTensor ms xs := by
  rw [src_tensorStage_eq] at h
  split_ifs at h
  simp only [Except.ok.injEq] at h
  subst h
  rfl

/-! ## the headline theorems over the source-derived functions -/

/-- **Centre of mass at the origin** (source-derived): the centring vector the source computes for its own output is `0` -/
theorem src_com_origin {ms : List K} {xs : List (V3 K)} {V : M3 K} {out : List (P3 K)}
    (h : evalAfterEigh (fieldOps K) orient ms (xs.map ofV3) (ofM3 V) = .ok out) :
    evalCentre (fieldOps K) ms out orient.centre = .ok ⟨0, 0, 0⟩ := by
  have h' := src_ok h
  obtain ⟨hl, hM, _⟩ := orientCore_ok h'
  have hz := orient_com_zero h'
  have hlen : ms.length = (out.map toV3).length := hl.trans (orientCore_length h').symm
  rw [← map_ofV3_toV3 out, src_centre_eq, if_neg (by simpa using hlen), if_neg hM]
  simp [com, hz, V3.smul, V3.zero, ofV3]

/-- **No distortion** (source-derived): with `V Vᵀ = 1` the output is the image of the input under one map preserving every
squared interatomic distance -/
theorem src_isometry {ms : List K} {xs : List (V3 K)} {V : M3 K} {out : List (P3 K)}
    (hV : M3.mul V (M3.tr V) = M3.one)
    (h : evalAfterEigh (fieldOps K) orient ms (xs.map ofV3) (ofM3 V) = .ok out) :
    ∃ f : V3 K → V3 K, out.map toV3 = xs.map f ∧ ∀ p q, V3.distSq (f p) (f q) = V3.distSq p q :=
  orient_isometry hV (src_ok h)

/-- indexed form: every interatomic squared distance is preserved -/
theorem src_isometry_get {ms : List K} {xs : List (V3 K)} {V : M3 K} {out : List (P3 K)}
    (hV : M3.mul V (M3.tr V) = M3.one)
    (h : evalAfterEigh (fieldOps K) orient ms (xs.map ofV3) (ofM3 V) = .ok out)
    (i j : Nat) (hi : i < xs.length) (hj : j < xs.length) :
    ∃ (hi' : i < out.length) (hj' : j < out.length), V3.distSq (toV3 out[i]) (toV3 out[j]) = V3.distSq xs[i] xs[j] := by
  obtain ⟨hi', hj', e⟩ := orient_isometry_get hV (src_ok h) i j hi hj
  refine ⟨by simpa using hi', by simpa using hj', ?_⟩
  simpa using e

/-- **Diagonal inertia tensor, ascending moments** (source-derived on both sides): `T` = the tensor the source hands to
`eigh`; under the certified relations `Orth V`, `Vᵀ T V = diag l`, the tensor the source's `_inertial_tensor` computes for
the returned geometry is exactly `diag l`, and with `l` ascending the moments ascend -/
theorem src_inertia_diagonal {ms : List K} {xs : List (V3 K)} {V : M3 K} {out : List (P3 K)} {T : T3 K} {l : V3 K}
    (hT : evalTensorStage (fieldOps K) orient ms (xs.map ofV3) = .ok T)
    (hV : Orth V) (hD : M3.mul (M3.mul (M3.tr V) (toM3 T)) V = M3.diag l.x l.y l.z)
    (h : evalAfterEigh (fieldOps K) orient ms (xs.map ofV3) (ofM3 V) = .ok out) :
    evalTensor (fieldOps K) orient.tensor ms out = ofM3 (M3.diag l.x l.y l.z) ∧
      (l.x ≤ l.y → l.y ≤ l.z →
        (evalTensor (fieldOps K) orient.tensor ms out).xx ≤ (evalTensor (fieldOps K) orient.tensor ms out).yy ∧
        (evalTensor (fieldOps K) orient.tensor ms out).yy ≤ (evalTensor (fieldOps K) orient.tensor ms out).zz) := by
  rw [src_tensor_ok hT] at hD
  obtain ⟨e, _⟩ := orient_inertia_diagonal hV hD (src_ok h)
  have e2 : evalTensor (fieldOps K) orient.tensor ms out = ofM3 (M3.diag l.x l.y l.z) := by
    rw [← map_ofV3_toV3 out, src_inertia_eq, e]
  refine ⟨e2, fun h1 h2 => ?_⟩
  rw [e2]
  exact ⟨h1, h2⟩

/-- **Sign convention** (source-derived): in each column of the returned geometry, every entry before the first off-plane
one is within `geom_noise` and that first off-plane entry is `≥ geom_noise > 0` -/
theorem src_phase_convention {ms : List K} {xs : List (V3 K)} {V : M3 K} {out : List (P3 K)}
    (h : evalAfterEigh (fieldOps K) orient ms (xs.map ofV3) (ofM3 V) = .ok out)
    (proj : V3 K → K) (hproj : proj = (·.x) ∨ proj = (·.y) ∨ proj = (·.z))
    (pre : List K) (v : K) (suf : List K)
    (hcol : (out.map toV3).map proj = pre ++ v :: suf) (hpre : ∀ u ∈ pre, |u| < srcNoise K) (hv : ¬ |v| < srcNoise K) :
    srcNoise K ≤ v ∧ 0 < v := by
  obtain ⟨_, _, e⟩ := orientCore_ok (src_ok h)
  rw [e] at hcol
  have := phase_convention _ proj hproj pre v suf hcol hpre hv
  exact ⟨this, lt_of_lt_of_le srcNoise_pos this⟩

/-- **Idempotence** (source-derived, exact arithmetic): exact certificate `(V, l)` for the tensor the source hands to `eigh`
for `xs`, distinct moments, `out` the returned geometry, ANY exact certificate `(V2, l2)` for the tensor the source hands to
`eigh` for `out`, every column of `out` has an off-plane atom → the source-derived function returns `out` unchanged -/
theorem src_idempotent {ms : List K} {xs : List (V3 K)} {V V2 : M3 K} {l l2 : V3 K} {out : List (P3 K)} {T T2 : T3 K}
    (hT : evalTensorStage (fieldOps K) orient ms (xs.map ofV3) = .ok T)
    (hc : isEigFrame (toM3 T) V l 0 0 = true) (hxy : l.x < l.y) (hyz : l.y < l.z)
    (h : evalAfterEigh (fieldOps K) orient ms (xs.map ofV3) (ofM3 V) = .ok out)
    (hT2 : evalTensorStage (fieldOps K) orient ms out = .ok T2)
    (hc2 : isEigFrame (toM3 T2) V2 l2 0 0 = true)
    (hox : HasOff (srcNoise K) ((out.map toV3).map (·.x))) (hoy : HasOff (srcNoise K) ((out.map toV3).map (·.y)))
    (hoz : HasOff (srcNoise K) ((out.map toV3).map (·.z))) :
    evalAfterEigh (fieldOps K) orient ms out (ofM3 V2) = .ok out := by
  rw [src_tensor_ok hT] at hc
  rw [← map_ofV3_toV3 out] at hT2
  rw [src_tensor_ok hT2] at hc2
  have := orient_idempotent srcNoise_pos hc hxy hyz (src_ok h) hc2 hox hoy hoz
  conv_lhs => rw [← map_ofV3_toV3 out]
  rw [src_afterEigh_eq, this, cvt, map_ofV3_toV3]

/-- **Rigid copies orient to the same coordinates** (source-derived, exact arithmetic): `y = xR + t`, `R` orthogonal; ANY
exact certificates for the tensors the source hands to `eigh` for `x` and for `y`, distinct moments, an off-plane atom in
every column → the source-derived function returns the same geometry for both -/
theorem src_rigid_invariant {ms : List K} {xs : List (V3 K)} {R V V' : M3 K} (t : V3 K) {l l' : V3 K} {T T' : T3 K}
    (hl : ms.length = xs.length) (hM : massSum ms ≠ 0) (hR : Orth R)
    (hT : evalTensorStage (fieldOps K) orient ms (xs.map ofV3) = .ok T)
    (hT' : evalTensorStage (fieldOps K) orient ms ((xs.map (fun p => V3.add (V3.mulMat p R) t)).map ofV3) = .ok T')
    (hc : isEigFrame (toM3 T) V l 0 0 = true) (hc' : isEigFrame (toM3 T') V' l' 0 0 = true)
    (hxy : l.x < l.y) (hyz : l.y < l.z)
    (hox : HasOff (srcNoise K) ((rotate (center ms xs) V).map (·.x)))
    (hoy : HasOff (srcNoise K) ((rotate (center ms xs) V).map (·.y)))
    (hoz : HasOff (srcNoise K) ((rotate (center ms xs) V).map (·.z))) :
    evalAfterEigh (fieldOps K) orient ms ((xs.map (fun p => V3.add (V3.mulMat p R) t)).map ofV3) (ofM3 V')
      = evalAfterEigh (fieldOps K) orient ms (xs.map ofV3) (ofM3 V) := by
  rw [src_tensor_ok hT] at hc
  rw [src_tensor_ok hT'] at hc'
  rw [src_afterEigh_eq, src_afterEigh_eq, orient_rigid_invariant srcNoise_pos t hl hM hR hc hc' hxy hyz hox hoy hoz]

/-- the non-geometric fields: the source-derived function has no access to them (its inputs are masses, geometry, evecs) —
`nongeometric_untouched` of Props/C16.lean is about the wrapper `orientMol`, which stays hand-modelled. -/
theorem src_inputs_only (ms : List K) (xs : List (V3 K)) (V : M3 K) :
    evalAfterEigh (fieldOps K) orient ms (xs.map ofV3) (ofM3 V)
      = match orientMol (α := Unit) (srcNoise K) ⟨ms, xs, ()⟩ V with
        | .ok m => .ok (m.geometry.map ofV3)
        | .error e => .error (cvtErr e) := by
  rw [src_afterEigh_eq]
  unfold orientMol
  cases orientCore (srcNoise K) ms xs V <;> rfl

end Ordered

/-! ## `float_prep` (array branch) -/
section Floor
variable {K : Type} [Field K] [LinearOrder K] [IsStrictOrderedRing K] [FloorRing K]
open QcelVerif.Gen.OrientSrc (prep)

theorem band_iff (d : Nat) (k : Int) :
    |(k : K) / (10 : K) ^ d| < 1 / (5 : K) ^ (d + 1) ↔ k.natAbs * 5 ^ (d + 1) < 10 ^ d := by
  have h10 : (0 : K) < (10 : K) ^ d := by positivity
  have h5 : (0 : K) < (5 : K) ^ (d + 1) := by positivity
  rw [abs_div, abs_of_pos h10, div_lt_div_iff₀ h10 h5, one_mul]
  have e : |(k : K)| = ((k.natAbs : Nat) : K) := by
    rw [← Int.cast_abs, Int.abs_eq_natAbs, Int.cast_natCast]
  rw [e]
  have : ((k.natAbs : Nat) : K) * (5 : K) ^ (d + 1) = ((k.natAbs * 5 ^ (d + 1) : Nat) : K) := by push_cast; ring
  rw [this]
  have : (10 : K) ^ d = ((10 ^ d : Nat) : K) := by push_cast; ring
  rw [this, Nat.cast_lt]

/-- **`float_prep`'s array branch as read from the source** (`np.around(array, around)` = `rint(v·10^d)/10^d`, then entries with
`np.abs(array) < 5 ** (-(around + 1))` set to `0`) **= `floatPrepK`**, the integer number of units of `10^-d` the hand model
returns — for every `d` and every value -/
theorem src_prep_eq (d : Nat) (v : K) :
    evalPrep (fieldOps K) roundHalfEven prep d v = ((floatPrepK d v : Int) : K) / (10 : K) ^ d := by
  simp only [evalPrep, prep, if_true, cmpB, fieldOps, floatPrepK]
  have e10 : (((10 ^ d : Nat) : Int) : K) = (10 : K) ^ d := by push_cast; ring
  have e5 : (((5 ^ (d + 1) : Nat) : Int) : K) = (5 : K) ^ (d + 1) := by push_cast; ring
  rw [e10, e5]
  simp only [Int.cast_one, Int.cast_zero, decide_eq_true_eq, band_iff]
  split_ifs <;> simp

end Floor

/-! ## what the driver runs is what the theorems are about -/

/-- the Mathlib-free operations record the driver evaluates the regenerated code with is the field record at `ℚ` -/
theorem ratOps_eq : QcelVerif.OrientSrc.ratOps = fieldOps ℚ := by
  unfold QcelVerif.OrientSrc.ratOps fieldOps
  congr 1
  · funext a
    split_ifs with h
    · exact (abs_of_neg h).symm
    · exact (abs_of_nonneg (not_lt.mp h)).symm

/-- **three-way, proved side**: the functions the driver compares with the hand model on every captured call
(`srcCentre`, `srcTensor`, `srcRotated`, `srcOrient` of `Model/OrientSrc.lean`) equal the hand model for ALL inputs -/
theorem driver_src_eq_model (ms : List ℚ) (xs : List (V3 ℚ)) (V : M3 ℚ) :
    QcelVerif.OrientSrc.srcOrient ms (xs.map ofV3) (ofM3 V) = cvt (orientCore (1 / 100000000) ms xs V) ∧
    QcelVerif.OrientSrc.srcTensor ms (xs.map ofV3) =
      (if ms.length ≠ xs.length then .error .shape
       else if massSum ms = 0 then .error .zeroDivision else .ok (ofM3 (orientTensor ms xs))) ∧
    QcelVerif.OrientSrc.srcCentre ms (xs.map ofV3) =
      (if ms.length ≠ xs.length then .error .shape
       else if massSum ms = 0 then .error .zeroDivision else .ok (ofV3 (com ms xs))) ∧
    QcelVerif.OrientSrc.srcRotated ms (xs.map ofV3) (ofM3 V) =
      (if ms.length ≠ xs.length then .error .shape
       else if massSum ms = 0 then .error .zeroDivision else .ok ((rotate (center ms xs) V).map ofV3)) ∧
    QcelVerif.OrientSrc.srcNoiseQ = 1 / 100000000 := by
  unfold QcelVerif.OrientSrc.srcOrient QcelVerif.OrientSrc.srcTensor QcelVerif.OrientSrc.srcCentre
    QcelVerif.OrientSrc.srcRotated QcelVerif.OrientSrc.srcNoiseQ
  rw [ratOps_eq]
  refine ⟨?_, src_tensorStage_eq ms xs, src_centre_eq ms xs, ?_, srcNoise_eq⟩
  · rw [src_afterEigh_eq, srcNoise_eq]
  · rw [src_centred_eq]
    split_ifs
    · rfl
    · rfl
    · exact src_rot_eq _ _

theorem rintQ_eq (t : ℚ) : QcelVerif.OrientSrc.rintQ t = roundHalfEven t := by
  unfold QcelVerif.OrientSrc.rintQ roundHalfEven
  rfl

/-- three-way, proved side, rounding: the source-derived `float_prep` entry the driver compares equals the hand model's -/
theorem driver_prep_eq (d : Nat) (v : ℚ) :
    QcelVerif.OrientSrc.srcPrep d v = ((floatPrepK d v : Int) : ℚ) / (10 : ℚ) ^ d := by
  unfold QcelVerif.OrientSrc.srcPrep
  rw [ratOps_eq, show QcelVerif.OrientSrc.rintQ = roundHalfEven from funext rintQ_eq]
  exact src_prep_eq d v

/-- the `break` of the source only skips iterations that change nothing: with and without it the loop returns the same -/
theorem src_break_irrelevant {K : Type} [Field K] [LinearOrder K] [IsStrictOrderedRing K] (noise : K) (g : List (V3 K)) :
    evalPhase (fieldOps K) noise orient.body true (g.map ofV3) = evalPhase (fieldOps K) noise orient.body false (g.map ofV3) := by
  rw [src_phase_eq, src_phase_eq]

/-! ## tests (kernel-evaluated, concrete): the hypotheses above are satisfiable -/

/-- test: the source-derived tensor stage on the bent triatomic of Props/C16.lean -/
example : evalTensorStage (fieldOps ℚ) orient exMs (exXs.map ofV3) = .ok (ofM3 (M3.diag 2 16 18)) := by decide +kernel
/-- test: … and `V = 1` is an exact eigen-frame of it with distinct ascending moments -/
example : isEigFrame (toM3 (ofM3 (M3.diag (2 : ℚ) 16 18))) M3.one ⟨2, 16, 18⟩ 0 0 = true := by decide +kernel
/-- test: the source-derived function returns a geometry (both columns flipped) -/
example : evalAfterEigh (fieldOps ℚ) orient exMs (exXs.map ofV3) (ofM3 M3.one) = .ok [⟨2, 1, 0⟩, ⟨2, -1, 0⟩, ⟨-2, 0, 0⟩] := by
  decide +kernel
/-- test: second pass with `V2 = diag(-1, 1, 1)` returns it unchanged (instance of `src_idempotent`'s conclusion) -/
example : evalAfterEigh (fieldOps ℚ) orient exMs [⟨2, 1, 0⟩, ⟨2, -1, 0⟩, ⟨-2, 0, 0⟩] (ofM3 (M3.diag (-1) 1 1))
    = .ok [⟨2, 1, 0⟩, ⟨2, -1, 0⟩, ⟨-2, 0, 0⟩] := by decide +kernel
/-- test: zero total mass is refused with ZeroDivision, a length mismatch with Shape -/
example : evalAfterEigh (fieldOps ℚ) orient [1, -1] ([⟨0, 0, 0⟩, ⟨1, 0, 0⟩] : List (P3 ℚ)) (ofM3 M3.one) = .error .zeroDivision := by
  decide +kernel
example : evalAfterEigh (fieldOps ℚ) orient [1] ([⟨0, 0, 0⟩, ⟨1, 0, 0⟩] : List (P3 ℚ)) (ofM3 M3.one) = .error .shape := by
  decide +kernel
/-- test: a column with an off-plane atom exists in the example output (HasOff is satisfiable) -/
example : HasOff (srcNoise ℚ) (([⟨2, 1, 0⟩, ⟨2, -1, 0⟩, ⟨-2, 0, 0⟩] : List (V3 ℚ)).map (·.x)) :=
  ⟨2, by simp, by rw [srcNoise_eq]; norm_num⟩

end QcelVerif.Orient
