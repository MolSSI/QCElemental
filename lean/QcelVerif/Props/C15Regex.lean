import QcelVerif.Lemmas.FormulaRe
import QcelVerif.Props.C15Symbols
/-!
# C15 (formula part) — the two regular expressions are the ones in the source

`Gen/FormulaRegex.lean` is regenerated on every run from `qcelemental/molutil/molecular_formula.py` by
`harness/c15.py:gen_formula_regex`: CPython's own parse trees of the pattern given to `re.findall` and of the pattern given to
`re.match` in `order_molecular_formula`, the two group numbers read, and the entry points (the translator compares the whole
function body with the shape `Model/FormulaRe.lean` transcribes and refuses any other).  The theorems below tie the
hand-written cuts of `Model/Formula.lean` — `cutUpper`, `splitCount`, the ones every string-level C15 theorem reasons
about — to the generic regex engine run on those generated ASTs, for
**every** string (no length bound, no restriction to ASCII on the Lean side: the engine's classes are `Nat` ranges):

`findall` on the generated `[A-Z][^A-Z]*` is `cutUpper`, `match` on the generated `(\D+)(\d*)` with the two group
reads is `splitCount`, the `assert match_n` cannot fire, hence `order_molecular_formula` through the generated regexes is
the hand `orderFormula`; the string-level theorems of `Props/C15FormulaStr.lean` / `C15Symbols.lean` then hold of the
source's own patterns.  `formula_regex_shape` (by `rfl`) is the obligation an edit of the patterns breaks.

What stays differential: that the engine (+ its `findall`) and the translator reproduce CPython's `re` on ASCII text
(three-way `cut` / `spl` / `ofr` lines and the `fi` probe lines of the driver), and `str.title()` / `str(int)` / `int(str)`.
-/
namespace QcelVerif.Formula
open QcelVerif.Regex

/-- **`_shape` obligations** (`rfl`, the pattern texts by `decide`: an edit that changes CPython's parse tree, the groups
read or the entry points breaks it) -/
theorem formula_regex_shape :
    Gen.FormulaRegex.cut = cutShape ∧ Gen.FormulaRegex.split = splitShape ∧
    Gen.FormulaRegex.cutEntry = Entry.findall ∧ Gen.FormulaRegex.splitEntry = Entry.match ∧
    Gen.FormulaRegex.cutGroups = 0 ∧ Gen.FormulaRegex.splitGroups = 2 ∧
    Gen.FormulaRegex.nameGroup = 1 ∧ Gen.FormulaRegex.countGroup = 2 ∧
    Gen.FormulaRegex.cutPattern = toCodes "[A-Z][^A-Z]*".toList ∧
    Gen.FormulaRegex.splitPattern = toCodes "(\\D+)(\\d*)".toList :=
  ⟨rfl, rfl, rfl, rfl, rfl, rfl, rfl, rfl, by decide +kernel, by decide +kernel⟩

/-- the generated ASTs repeat no nullable body: `rep_fuel_irrelevant` applies to every repetition in them -/
theorem generated_formula_wf : Gen.FormulaRegex.cut.wf = true ∧ Gen.FormulaRegex.split.wf = true := by decide +kernel

/-! ### `re.findall(r"[A-Z][^A-Z]*", ·)` -/

theorem scan_cut_eq (n : Nat) : ∀ (l : List Char) (prev : Option Nat), l.length ≤ n →
    (scan cutShape 0 prev (toCodes l)).map (·.text) = (cutUpper l).2.map toCodes := by
  induction n with
  | zero =>
    intro l prev h
    have : l = [] := List.length_eq_zero_iff.1 (Nat.le_zero.1 h)
    subst this
    rw [show toCodes [] = [] from rfl, scan_cut_nil]; rfl
  | succ n ih =>
    intro l prev h
    cases l with
    | nil => rw [show toCodes [] = [] from rfl, scan_cut_nil]; rfl
    | cons c t =>
      rw [show toCodes (c :: t) = c.toNat :: toCodes t from rfl]
      have ht : t.length ≤ n := by simpa using h
      by_cases hc : isAsciiUpper c = true
      · have hcN : upN c.toNat = true := (cls_upper c).trans hc
        rw [scan_cut_upper _ _ _ hcN, cutUpper_upper c t hc, takeWhile_codes nupN _ cls_notUpper,
          dropWhile_codes nupN _ cls_notUpper]
        simp only [List.map_cons]
        rw [ih _ _ (Nat.le_trans (List.dropWhile_sublist _).length_le ht)]
        rfl
      · have hc' : isAsciiUpper c = false := eq_false_of_ne_true hc
        have hcN : upN c.toNat = false := (cls_upper c).trans hc'
        rw [scan_cut_other _ _ _ hcN, cutUpper_other c t hc']
        exact ih t _ ht

/-- **`re.findall` on the generated pattern is the hand cut** — for every string: the engine's `findall` run on the AST
regenerated from the source returns exactly the chunks of `cutUpper`, in order (as code points) -/
theorem cutUpper_eq_findall (l : List Char) :
    Gen.FormulaRegex.cut.findall0 (toCodes l) = (cutUpper l).2.map toCodes := by
  rw [formula_regex_shape.1]
  unfold Re.findall0 Re.finditer
  exact scan_cut_eq l.length l none (Nat.le_refl _)

/-- the same on characters: `cutRe` (what `orderFormulaRe` runs) -/
theorem cutRe_eq (l : List Char) : cutRe l = (cutUpper l).2 := by
  unfold cutRe
  rw [cutUpper_eq_findall, List.map_map]
  simp [Function.comp_def, ofCodes_toCodes]

/-- **the validity test**: `"".join(matches) == formula` holds exactly when the hand cut leaves no unmatched text in front -/
theorem cut_join_iff (l : List Char) : (cutRe l).flatten = l ↔ (cutUpper l).1 = [] := by
  rw [cutRe_eq]
  have h := cutUpper_join l
  constructor
  · intro e
    rw [e] at h
    exact List.append_left_eq_self.1 h
  · intro e
    rwa [e, List.nil_append] at h

/-! ### `re.match(r"(\D+)(\d*)", ·)` -/

/-- **the groups of `re.match` on the generated pattern** — for every string: there is a match iff the text starts with a
non-digit; then group 1 is the leading run of non-digits and group 2 the run of digits that follows it (possibly empty) -/
theorem split_groups (m : List Char) :
    (Gen.FormulaRegex.split.matchPrefix (toCodes m)).map (fun st => (st.group 1, st.group 2)) =
      if m.takeWhile (fun c => !isAsciiDigit c) = [] then none
      else some (some (toCodes (m.takeWhile (fun c => !isAsciiDigit c))),
                 some (toCodes ((m.dropWhile (fun c => !isAsciiDigit c)).takeWhile isAsciiDigit))) := by
  rw [formula_regex_shape.2.1, matchPrefix_split, takeWhile_codes ndN _ cls_notDigit, dropWhile_codes ndN _ cls_notDigit,
    takeWhile_codes dN _ cls_digit]
  cases h : m.takeWhile (fun c => !isAsciiDigit c) with
  | nil => simp [toCodes]
  | cons a t => simp [toCodes, St.group, List.lookup]

/-- **`re.match` + the group reads on the generated pattern is the hand split** — for every string that starts with a
non-digit `splitCountRe = some ∘ splitCount`; for the others (empty, digit first) there is no match -/
theorem splitCount_eq_match (m : List Char) :
    splitCountRe m = if m.takeWhile (fun c => !isAsciiDigit c) = [] then none else some (splitCount m) := by
  -- `splitCountRe` reads nothing of the match but the two groups
  have h : splitCountRe m =
      ((Gen.FormulaRegex.split.matchPrefix (toCodes m)).map fun st => (st.group 1, st.group 2)).map fun g =>
        (String.ofList (ofCodes (g.1.getD [])),
          if (ofCodes (g.2.getD [])).isEmpty then 1 else digitsVal (ofCodes (g.2.getD []))) := by
    unfold splitCountRe
    cases Gen.FormulaRegex.split.matchPrefix (toCodes m) <;> rfl
  rw [h, split_groups]
  split
  · rfl
  · simp [splitCount, ofCodes_toCodes]

/-- a chunk returned by `findall` starts with an upper-case letter, so `re.match` succeeds on it -/
theorem splitCountRe_chunk {m : List Char} (h : ∃ c body, m = c :: body ∧ isAsciiUpper c = true) :
    splitCountRe m = some (splitCount m) := by
  obtain ⟨c, body, rfl, hc⟩ := h
  rw [splitCount_eq_match, if_neg]
  simp [not_digit_of_upper hc]

/-- **`assert match_n` never fails**: on every chunk that `re.findall(<cut>, formula)` returns, for every formula
string, `re.match(<split>, chunk)` matches -/
theorem assert_never_fails (l : List Char) : ∀ m ∈ cutRe l, splitCountRe m ≠ none := by
  intro m hm
  rw [cutRe_eq] at hm
  rw [splitCountRe_chunk (cutUpper_chunk_head l m hm)]
  simp

theorem foldCountsRe_eq : ∀ (ms : List (List Char)) (acc : List (String × Nat)),
    (∀ m ∈ ms, ∃ c body, m = c :: body ∧ isAsciiUpper c = true) →
    foldCountsRe ms acc = .ok (ms.foldl (fun acc m => let (k, n) := splitCount m; addCount acc k n) acc)
  | [], _, _ => rfl
  | m :: ms, acc, h => by
      rw [foldCountsRe, splitCountRe_chunk (h m (List.mem_cons_self ..))]
      simp only [List.foldl_cons]
      exact foldCountsRe_eq ms _ (fun m' hm' => h m' (List.mem_cons_of_mem _ hm'))

/-- lines 23-34 through the generated regexes = the hand model's `parseCounts`, for every string -/
theorem parseCountsRe_eq (l : List Char) :
    parseCountsRe l = match parseCounts l with | some t => .ok t | none => .error .invalid := by
  unfold parseCountsRe parseCounts
  simp only
  have hj := cut_join_iff l
  rw [cutRe_eq] at hj ⊢
  cases hcu : cutUpper l with
  | mk pre ms =>
    rw [hcu] at hj
    simp only at hj ⊢
    by_cases hp : pre = []
    · have : ms.flatten = l := hj.2 hp
      subst hp
      simp only [this, bne_self_eq_false, Bool.false_eq_true, if_false, List.isEmpty_nil, Bool.not_true]
      have hch := cutUpper_chunk_head l
      rw [hcu] at hch
      exact foldCountsRe_eq ms [] hch
    · have hne : ms.flatten ≠ l := fun e => hp (hj.1 e)
      have hie : pre.isEmpty = false := by cases pre <;> simp_all
      simp [hne, hie]

/-- **`order_molecular_formula` through the source's own patterns is the hand model** — for EVERY formula string and
both orders: the model that runs the generic engine on the generated ASTs returns what the hand model returns; a `none` of
the hand model is the `ValueError` of line 25, and the `AssertionError` of line 29 is never raised -/
theorem orderFormulaRe_eq (formula : String) (ord : Order) :
    orderFormulaRe formula ord = match orderFormula formula ord with | some s => .ok s | none => .error .invalid := by
  unfold orderFormulaRe
  rw [parseCountsRe_eq, orderFormula_eq]
  cases parseCounts formula.toList <;> rfl

/-! ### the string-level theorems over the generated regexes -/

/-- **parse ∘ render = id through the source's patterns.**  For every token list whose keys satisfy `KeyOK`, are pairwise
distinct, and whose counts are positive: `re.findall` / `re.match` (engine on the generated ASTs) and the dict fold applied
to the rendered string give exactly the element counts back, in the same order. -/
theorem parse_render_re (toks : List (String × Nat)) (hk : ∀ t ∈ toks, KeyOK t.1)
    (hpos : ∀ t ∈ toks, 0 < t.2) (hnd : (toks.map Prod.fst).Nodup) :
    parseCountsRe (render toks).toList = .ok toks := by
  rw [parseCountsRe_eq, parse_render toks hk hpos hnd]

/-- **`order_molecular_formula` (generated regexes) on a formula written by the library** — all symbol lists whose
title-cased forms are `WFSym`, both conventions `ord`, `ord'`: succeeds and equals the formula of the same symbols in `ord'` -/
theorem order_formula_of_formula_re (syms : List String) (ord ord' : Order) (hwf : ∀ s ∈ syms, WFSym (title s)) :
    orderFormulaRe (fromSymbols syms ord) ord' = .ok (fromSymbols syms ord') := by
  rw [orderFormulaRe_eq, order_formula_of_formula syms ord ord' hwf]

/-- **… for every list of periodic-table symbols** (no hypothesis left; the table is regenerated from the source) -/
theorem order_formula_periodic_re (syms : List String) (ord ord' : Order)
    (h : ∀ s ∈ syms, ∃ row ∈ Gen.PT.elements, s = PStr.toStr (PStr.unpack row.2.1)) :
    orderFormulaRe (fromSymbols syms ord) ord' = .ok (fromSymbols syms ord') := by
  rw [orderFormulaRe_eq, order_formula_periodic syms ord ord' h]

/-! non-vacuity and tests (concrete evaluations of the engine on the generated ASTs) -/

-- non-vacuity of `parse_render_re` / `order_formula_of_formula_re`: hypotheses met, conclusion computed by the engine model
example : (∀ t ∈ [("C", 2), ("H", 12), ("Cl", 1)], KeyOK t.1) ∧ (∀ t ∈ [("C", 2), ("H", 12), ("Cl", 1)], 0 < t.2) := by decide +kernel
#guard parseCountsRe (render [("C", 2), ("H", 12), ("Cl", 1), ("Uue", 3)]).toList == .ok [("C", 2), ("H", 12), ("Cl", 1), ("Uue", 3)]
#guard orderFormulaRe (fromSymbols ["h", "C", "cL", "H", "O", "HE"] .alphabetical) .hill == .ok (fromSymbols ["h", "C", "cL", "H", "O", "HE"] .hill)
-- non-vacuity of `order_formula_periodic_re`: the hypothesis is met by rows of the regenerated table (here chlorine)
example : ∃ row ∈ Gen.PT.elements, PStr.unpack row.2.1 = [67, 108] := ⟨Gen.PT.elements[17], List.getElem_mem _, by decide +kernel⟩
-- non-vacuity of `assert_never_fails` / `splitCountRe_chunk`: 'CH3(OH)' has chunks, each matched
#guard cutRe "CH3(OH)".toList == ["C".toList, "H3(".toList, "O".toList, "H)".toList]
#guard ("CH3(OH)".toList |> cutRe).map splitCountRe == [some ("C", 1), some ("H", 3), some ("O", 1), some ("H)", 1)]
-- tests: near-miss strings — lower-case or digit first: not valid formulas; empty: valid; the hand model agrees
#guard orderFormulaRe "cH4" .alphabetical == .error .invalid && orderFormula "cH4" .alphabetical == none
#guard orderFormulaRe "2H" .hill == .error .invalid && orderFormula "2H" .hill == none
#guard orderFormulaRe "" .hill == .ok "" && orderFormula "" .hill == some ""
#guard orderFormulaRe "CH3(OH)" .hill == .ok "CH3H)O" && orderFormula "CH3(OH)" .hill == some "CH3H)O"
-- tests: a digit-first / empty text has no `(\D+)(\d*)` match
#guard splitCountRe "12".toList == none && splitCountRe [] == none
-- tests of the generic findall, empty-match rule of CPython >= 3.7: re.findall('x*', 'ax') == ['', 'x', ''];
-- re.findall('x*', 'xa') == ['x', '', '']; re.findall('a|', 'ba') == ['', 'a', '']
example : (Re.rep 0 none true (.cls false [.ch 120])).findall0 [97, 120] = [[], [120], []] := by decide +kernel
example : (Re.rep 0 none true (.cls false [.ch 120])).findall0 [120, 97] = [[120], [], []] := by decide +kernel
example : (Re.alt (.cls false [.ch 97]) .eps).findall0 [98, 97] = [[], [97], []] := by decide +kernel
-- test: lazy `x*?` reports an empty match first, then (must_advance) the non-empty one at the same place: ['', 'x', '']
example : (Re.rep 0 none false (.cls false [.ch 120])).findall0 [120] = [[], [120], []] := by decide +kernel

end QcelVerif.Formula
