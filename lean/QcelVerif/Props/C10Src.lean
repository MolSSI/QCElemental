import QcelVerif.Model.SerializeSrc
import QcelVerif.Props.C10Msgpack
import QcelVerif.Props.C10Text
/-!
# C10 — the encoder / decoder LOGIC as regenerated from the source equals the hand model, for all inputs

`Gen/SerializeSrc.lean` is the translation of every function body of `qcelemental/util/serialization.py` (python `ast`,
harness/c10_src.py, every run) into the AST of `Model/SerializeAst.lean`; `Model/SerializeSrc.lean` evaluates it on the
model's own value trees.  Here: for ALL payload trees / maps / encoding strings the source-derived hooks, walkers and
dispatch compute what `Model/Serialize.lean` (+ the flat encoders of `Model/JsonText.lean`) compute, and the round-trip /
identical-re-serialisation theorems of `Props/C10*.lean` are restated over the source-derived functions.

A change of the source that alters the envelope's keys or their order, the rank test guarding `shape`, the rank-0 test,
the primitives applied (`ravel`, `tobytes`, `hex`, `fromhex`, `frombuffer`), the `pydantic_encoder` guard, the order of the
`isinstance` / `in` tests, a wrapper's callee / keyword arguments or an arm / spelling of the `encoding.lower()` dispatch
regenerates a different term and one of the theorems below stops checking.
-/
namespace QcelVerif.Ser.Src
open QcelVerif.Ser QcelVerif.Ser.Ast

-- The equation lemmas of these functions are derived here once; without this, every proof that unfolds them derives them again.
section
attribute [local simp] execS execL evalE evalEs evalKV bindArgs lookupVar dictSet primApply prim1 prim2 truthy tolist isinstanceOf
end

theorem lookupB_eq (k : String) : ∀ l, lookupB (asciiBytes k) l = lookupBin k l
  | [] => rfl
  | (a, b) :: t => by simp [lookupB, lookupBin, lookupB_eq k t]

theorem lookupS_eq (k : String) : ∀ l, lookupS (asciiBytes k) l = lookupStr k l
  | [] => rfl
  | (a, b) :: t => by simp [lookupS, lookupStr, lookupS_eq k t]

/-- the hand model's decoder outcome inside the evaluator's exception type -/
def liftH : Except HookErr Val → Except Exc Val
  | .ok v => .ok v
  | .error e => .error (.hook e)

/-- the hand model's flat-encoder outcome (`none` = element kind outside the flat model) -/
def liftO {α : Type} : Option α → Except Exc α
  | some v => .ok v
  | none => .error .flatDtype

/-- `kb1`–`kb3`, `int_lt2`: what `src_simp` needs to run `data[b"shape"] = …` (no envelope key equals `"shape"`, so the
entry is appended) and the test `len(obj.shape) > 1` at rank ≥ 2 -/
theorem kb1 : asciiBytes "_nd_" ≠ asciiBytes "shape" := by decide
theorem kb2 : asciiBytes "dtype" ≠ asciiBytes "shape" := by decide
theorem kb3 : asciiBytes "data" ≠ asciiBytes "shape" := by decide
theorem int_lt2 (k : Nat) : (1 : Int) < (k : Int) + 1 + 1 := by omega

/-- runs an encoder's body on one value: an ndarray leaf of a given rank, or a value that is not an ndarray -/
macro "src_simp" : tactic => `(tactic| simp [*, mxEncodeSrc, mpFlatEncodeSrc, jxDefaultSrc, jsonFlatDefaultSrc, defaultHook, runFn,
    Gen.Src.msgpackext_encode, Gen.Src.msgpack_encode, Gen.Src.JSONExtArrayEncoder_default, Gen.Src.JSONArrayEncoder_default,
    bindArgs, execL, execS, evalE, evalEs, evalKV, primApply, prim1, prim2, lookupVar, truthy, excMatches, liftO, tolist,
    isinstanceOf, shapeVal, ndEnvelope, jxEnvelope, dictSet, pyEq, kb1, kb2, kb3, int_lt2, prodL])

/-! ## the `default` hooks (encoders) -/

/-- **msgpackext_encode, from the source**: an ndarray of rank ≥ 1 becomes exactly the hand model's envelope
(`b"_nd_"`, `b"dtype"`, `b"data"` in this order, `b"shape"` appended iff rank > 1) -/
theorem msgpackext_encode_src (dt data : Bytes) (shape : List Nat) (h : shape ≠ []) :
    mxEncodeSrc (.nd dt shape data) = .ok (ndEnvelope dt shape data) := by
  match shape, h with
  | [_], _ | _ :: _ :: _, _ => src_simp

/-- rank 0: no envelope, the array decays to its one element (`obj.tolist()`) -/
theorem msgpackext_encode_src_rank0 (dt data : Bytes) :
    mxEncodeSrc (.nd dt [] data) = tolist (.nd dt [] data) := by
  rcases h : elemsOf dt data with _ | ⟨_ | ⟨x, _ | _⟩⟩ <;> src_simp

/-- anything that is not an ndarray falls through: `return obj` -/
theorem msgpackext_encode_src_other (v : Val) (h : ∀ dt s d, v ≠ .nd dt s d) : mxEncodeSrc v = .ok v := by
  cases v <;> first | exact absurd rfl (h _ _ _) | src_simp

/-- **JSONExtArrayEncoder.default, from the source**: the json-ext envelope (str keys, hex data) of the hand model -/
theorem jsonext_default_src (dt data : Bytes) (shape : List Nat) (h : shape ≠ []) :
    jxDefaultSrc (.nd dt shape data) = .ok (jxEnvelope dt shape data) := by
  match shape, h with
  | [_], _ | _ :: _ :: _, _ => src_simp

theorem jsonext_default_src_rank0 (dt data : Bytes) :
    jxDefaultSrc (.nd dt [] data) = tolist (.nd dt [] data) := by
  rcases h : elemsOf dt data with _ | ⟨_ | ⟨x, _ | _⟩⟩ <;> src_simp

/-- anything else is refused (`json.JSONEncoder.default` raises `TypeError`): the hand model's `jxEnc` leaves such
leaves alone and `toJ` then has no JSON form for them -/
theorem jsonext_default_src_other (v : Val) (h : ∀ dt s d, v ≠ .nd dt s d) : jxDefaultSrc v = .error .typeError := by
  cases v <;> first | exact absurd rfl (h _ _ _) | src_simp

/-- **the flat encoders, from the source** (`JSONArrayEncoder.default`, `msgpack_encode`): an ndarray of rank ≥ 1 is
handed on as `ravel().tolist()` — the element list in buffer (row-major) order, exactly the hand model's flat leaf -/
theorem json_flat_default_src (dt data : Bytes) (shape : List Nat) (h : shape ≠ []) :
    jsonFlatDefaultSrc (.nd dt shape data) = liftO ((elemsOf dt data).map .arr) := by
  match shape, h with
  | _ :: _, _ => cases he : elemsOf dt data <;> src_simp

theorem msgpack_flat_encode_src (dt data : Bytes) (shape : List Nat) (h : shape ≠ []) :
    mpFlatEncodeSrc (.nd dt shape data) = liftO ((elemsOf dt data).map .arr) := by
  match shape, h with
  | _ :: _, _ => cases he : elemsOf dt data <;> src_simp

/-! ## the object hooks (decoders) -/

/-- what both object hooks compute, over the stated primitives: `look k` is `obj[k]` for the hook's kind of key, `pre`
what is applied to `obj["data"]` before it reaches `np.frombuffer` -/
def ndHook (look : String → List (Val × Val) → Option Val) (pre : Val → Except Exc Val) (l : List (Val × Val)) :
    Except Exc Val :=
  match look "_nd_" l with
  | none => .ok (.map l)
  | some _ =>
    match look "data" l with
    | none => .error (.hook .keyData)
    | some d =>
      match pre d with
      | .error e => .error e
      | .ok buf =>
        match look "dtype" l with
        | none => .error (.hook .keyData)
        | some dt =>
          match frombuffer buf dt with
          | .error e => .error e
          | .ok arr =>
            match look "shape" l with
            | none => .ok arr
            | some s => setShape arr s

/-- runs one path of a decoder's body: the lookups, `fromhex`, `frombuffer` and `setShape` stay opaque, their outcomes
are the hypotheses in the context -/
macro "hook_simp" : tactic => `(tactic| simp [*, ndHook, mpHookSrc, jxHookSrc, objectHook, runFn,
    Gen.Src.msgpackext_decode, Gen.Src.jsonext_decode, bindArgs, execL, execS, evalE, evalEs, primApply, prim1, prim2,
    lookupVar, truthy, lookupKey, lookupB_eq, lookupS_eq])

theorem mpHookSrc_eq (l : List (Val × Val)) : mpHookSrc l = ndHook lookupBin .ok l := by
  cases h0 : lookupBin "_nd_" l
  · hook_simp
  cases h1 : lookupBin "data" l
  · hook_simp
  cases h2 : lookupBin "dtype" l
  · hook_simp
  rename_i d dt
  cases h3 : frombuffer d dt
  · hook_simp
  cases h4 : lookupBin "shape" l
  · hook_simp
  rename_i arr s
  cases h5 : setShape arr s <;> hook_simp

theorem jxHookSrc_eq (l : List (Val × Val)) : jxHookSrc l = ndHook lookupStr fromhex l := by
  cases h0 : lookupStr "_nd_" l
  · hook_simp
  cases h1 : lookupStr "data" l
  · hook_simp
  rename_i d
  cases h6 : fromhex d
  · hook_simp
  cases h2 : lookupStr "dtype" l
  · hook_simp
  rename_i buf dt
  cases h3 : frombuffer buf dt
  · hook_simp
  cases h4 : lookupStr "shape" l
  · hook_simp
  rename_i arr s
  cases h5 : setShape arr s <;> hook_simp

/-- the part the hand model's hooks share: the buffer `data` as an array of dtype `dt`, with the envelope's `shape` entry,
if it has one, applied -/
def ndOfBuffer (dt data : Bytes) (shape? : Option Val) : Except HookErr Val :=
  match itemsize dt with
  | none | some 0 => .error .badBuffer
  | some isz =>
    if data.length % isz ≠ 0 then .error .badBuffer
    else
      match shape? with
      | none => .ok (.nd dt [data.length / isz] data)
      | some (.arr sv) =>
        match shapeOfVals sv with
        | some shape => if prodL shape = data.length / isz then .ok (.nd dt shape data) else .error .badShape
        | none => .error .badShape
      | some _ => .error .badShape

/-- `np.frombuffer` followed by the optional `arr.shape = …`, as the hand model classes the outcomes -/
theorem frombuffer_setShape (dt data : Bytes) (s : Option Val) :
    (match frombuffer (.bin data) (.str dt) with
      | .error e => .error e
      | .ok arr =>
        match s with
        | none => .ok arr
        | some s => setShape arr s) = liftH (ndOfBuffer dt data s) := by
  simp only [ndOfBuffer, frombuffer]
  cases itemsize dt with
  | none => rfl
  | some isz =>
    cases isz with
    | zero => rfl
    | succ k =>
      by_cases hm : data.length % (k + 1) = 0
      · simp only [hm, ne_eq, not_true_eq_false, if_false]
        cases s with
        | none => rfl
        | some s =>
          cases s <;> try rfl
          rename_i sv
          simp only [setShape, prodL_singleton]
          cases shapeOfVals sv with
          | none => rfl
          | some shape => by_cases hp : prodL shape = data.length / (k + 1) <;> simp only [hp, if_true, if_false] <;> rfl
      · simp only [hm, ne_eq, not_false_eq_true, if_true]
        rfl

/-- **msgpackext_decode, from the source, equals the hand model's `mpHook` on EVERY decoded map** — same array, same
refusals, same error class -/
theorem msgpackext_decode_src (l : List (Val × Val)) : mpHookSrc l = liftH (mpHook l) := by
  rw [mpHookSrc_eq]
  unfold ndHook mpHook
  cases lookupBin "_nd_" l with
  | none => rfl
  | some _ =>
    cases lookupBin "data" l with
    | none => cases lookupBin "dtype" l <;> rfl
    | some d =>
      cases lookupBin "dtype" l with
      | none => cases d <;> rfl
      | some dt =>
        cases d <;> cases dt <;> try rfl
        exact frombuffer_setShape _ _ _

/-- `jsonext_decode` with Python's evaluation order made explicit: `bytes.fromhex(obj["data"])` is evaluated (and may
raise) BEFORE `obj["dtype"]` is looked up.  Differs from the hand model's `jxHook` only in the error CLASS of a corrupted
envelope whose data is bad and whose dtype is missing. -/
def jxHookOrd (l : List (Val × Val)) : Except HookErr Val :=
  match lookupStr "_nd_" l with
  | none => .ok (.map l)
  | some _ =>
    match lookupStr "data" l with
    | none => .error .keyData
    | some (.str hx) =>
      (match unhex (bytesToChars hx) with
       | none => .error .badBuffer
       | some data =>
         match lookupStr "dtype" l with
         | none => .error .keyData
         | some (.str dt) =>
           (match itemsize dt with
            | none => .error .badBuffer
            | some 0 => .error .badBuffer
            | some isz =>
              if data.length % isz ≠ 0 then .error .badBuffer
              else
                match lookupStr "shape" l with
                | none => .ok (.nd dt [data.length / isz] data)
                | some (.arr sv) =>
                  (match shapeOfVals sv with
                   | some shape => if prodL shape = data.length / isz then .ok (.nd dt shape data) else .error .badShape
                   | none => .error .badShape)
                | some _ => .error .badShape)
         | some _ => .error .badBuffer)
    | some _ => .error .badBuffer

/-- **jsonext_decode, from the source, on EVERY parsed object** (no side condition): the order-explicit hook -/
theorem jsonext_decode_src_full (l : List (Val × Val)) : jxHookSrc l = liftH (jxHookOrd l) := by
  rw [jxHookSrc_eq]
  unfold ndHook jxHookOrd
  cases lookupStr "_nd_" l with
  | none => rfl
  | some _ =>
    cases lookupStr "data" l with
    | none => rfl
    | some d =>
      cases d <;> try rfl
      rename_i hx
      simp only [fromhex]
      cases unhex (bytesToChars hx) with
      | none => rfl
      | some data =>
        cases lookupStr "dtype" l with
        | none => rfl
        | some dt =>
          cases dt <;> try rfl
          exact frombuffer_setShape _ _ _

/-- the order-explicit hook is the hand model's, except on an envelope with `"data"` and without `"dtype"`, which both
refuse (the hand model for the missing key, the order-explicit one possibly for the bad buffer first) -/
theorem jxHookOrd_cases (l : List (Val × Val)) :
    jxHookOrd l = jxHook l ∨
      (lookupStr "_nd_" l ≠ none ∧ lookupStr "data" l ≠ none ∧ lookupStr "dtype" l = none ∧
        jxHook l = .error .keyData ∧ ∃ e, jxHookOrd l = .error e) := by
  unfold jxHookOrd jxHook
  cases lookupStr "_nd_" l with
  | none => exact .inl rfl
  | some _ =>
    cases lookupStr "data" l with
    | none => cases lookupStr "dtype" l <;> exact .inl rfl
    | some d =>
      cases lookupStr "dtype" l with
      | none =>
        refine .inr ⟨nofun, nofun, rfl, ?_⟩
        cases d with
        | str hx =>
          dsimp only
          cases unhex (bytesToChars hx) <;> exact ⟨rfl, _, rfl⟩
        | _ => exact ⟨rfl, _, rfl⟩
      | some dt =>
        left
        cases d with
        | str hx =>
          cases dt
          all_goals
            dsimp only
            cases unhex (bytesToChars hx) <;> rfl
        | _ => cases dt <;> rfl

/-- **jsonext_decode, from the source, equals the hand model's `jxHook`** on every parsed object that is not the
evaluation-order corner below (no `"_nd_"`, or no `"data"`, or a `"dtype"` present) -/
theorem jsonext_decode_src (l : List (Val × Val))
    (h : lookupStr "_nd_" l = none ∨ lookupStr "data" l = none ∨ lookupStr "dtype" l ≠ none) :
    jxHookSrc l = liftH (jxHook l) := by
  rw [jsonext_decode_src_full]
  obtain heq | ⟨h0, h1, h2, _⟩ := jxHookOrd_cases l
  · rw [heq]
  · rcases h with h | h | h <;> contradiction

/-- the order-explicit hook and the hand model's accept exactly the same objects with the same result -/
theorem jxHookOrd_ok_iff (l : List (Val × Val)) (v : Val) : jxHookOrd l = .ok v ↔ jxHook l = .ok v := by
  obtain heq | ⟨_, _, _, hj, e, ho⟩ := jxHookOrd_cases l
  · rw [heq]
  · rw [hj, ho]
    exact ⟨nofun, nofun⟩

/-- whenever the hand model's hook accepts, the source-derived hook returns the same value (no side condition) -/
theorem jsonext_decode_src_ok (l : List (Val × Val)) (v : Val) (h : jxHook l = .ok v) : jxHookSrc l = .ok v := by
  rw [jsonext_decode_src_full, (jxHookOrd_ok_iff l v).mpr h]
  rfl

/-- the corner, as a concrete TEST: a corrupted envelope whose `"data"` is not a hex string AND whose `"dtype"` is
missing.  Python evaluates `bytes.fromhex(obj["data"])` before `obj["dtype"]`, so the source-derived hook reports the
buffer error; the hand model `jxHook` classes it as the missing key.  Both refuse; only the error CLASS differs. -/
example : jxHookSrc [(.str (asciiBytes "_nd_"), .bool true), (.str (asciiBytes "data"), .int 5)] = .error (.hook .badBuffer)
    ∧ jxHook [(.str (asciiBytes "_nd_"), .bool true), (.str (asciiBytes "data"), .int 5)] = .error .keyData := by
  constructor <;> rfl

/-! ## whole trees: what the native writers are handed -/

mutual
  /-- every ndarray leaf has rank ≥ 1 (rank-0 arrays decay to scalars before they reach a `Val` tree) -/
  def rk1 : Val → Bool
    | .arr l => rk1L l
    | .map l => rk1P l
    | .nd _ shape _ => !shape.isEmpty
    | _ => true
  def rk1L : List Val → Bool
    | [] => true
    | v :: t => rk1 v && rk1L t
  def rk1P : List (Val × Val) → Bool
    | [] => true
    | (_, v) :: t => rk1 v && rk1P t
end

theorem ne_nil_of_not_isEmpty {α : Type} {l : List α} (h : (!l.isEmpty) = true) : l ≠ [] := by
  cases l <;> simp_all

mutual
  /-- **json-ext, whole trees**: `json.dumps(v, cls=JSONExtArrayEncoder)` with the source-derived `default` is handed
  exactly the hand model's `jxEnc v` -/
  theorem jsonext_tree_src : ∀ v : Val, rk1 v = true → walkD jxDefaultSrc v = .ok (jxEnc v)
    | .nil, _ | .bool _, _ | .int _, _ | .f64 _, _ | .str _, _ | .bin _, _ => by simp [walkD, jxEnc]
    | .arr l, h => by
      simp only [rk1] at h
      simp [walkD, jxEnc, jsonext_tree_srcL l h]
    | .map l, h => by
      simp only [rk1] at h
      simp [walkD, jxEnc, jsonext_tree_srcP l h]
    | .nd dt shape data, h => by
      simp only [rk1] at h
      simp only [walkD, jxEnc]
      exact jsonext_default_src dt data shape (ne_nil_of_not_isEmpty h)
  theorem jsonext_tree_srcL : ∀ l : List Val, rk1L l = true → walkDL jxDefaultSrc l = .ok (jxEncL l)
    | [], _ => by simp [walkDL, jxEncL]
    | v :: t, h => by
      simp only [rk1L, Bool.and_eq_true] at h
      simp [walkDL, jxEncL, jsonext_tree_src v h.1, jsonext_tree_srcL t h.2]
  theorem jsonext_tree_srcP : ∀ l : List (Val × Val), rk1P l = true → walkDP jxDefaultSrc l = .ok (jxEncP l)
    | [], _ => by simp [walkDP, jxEncP]
    | (k, v) :: t, h => by
      simp only [rk1P, Bool.and_eq_true] at h
      simp [walkDP, jxEncP, jsonext_tree_src v h.1, jsonext_tree_srcP t h.2]
end

/-- `d` agrees with the hand model's flat leaf (`ravel().tolist()`) on every array of rank ≥ 1 -/
def FlatLeaf (d : Val → Except Exc Val) : Prop :=
  ∀ dt data shape, shape ≠ [] → d (.nd dt shape data) = liftO ((elemsOf dt data).map .arr)

mutual
  /-- the flat walkers: with any `default` that is a `FlatLeaf`, the native writer is handed `flatEnc v` -/
  theorem flat_tree_gen (d : Val → Except Exc Val) (hd : FlatLeaf d) : ∀ v : Val, rk1 v = true → walkD d v = liftO (flatEnc v)
    | .nil, _ | .bool _, _ | .int _, _ | .f64 _, _ | .str _, _ | .bin _, _ => by simp [walkD, flatEnc, liftO]
    | .arr l, h => by
      simp only [rk1] at h
      simp only [walkD, flatEnc, flat_tree_genL d hd l h]
      cases flatEncL l <;> simp [liftO]
    | .map l, h => by
      simp only [rk1] at h
      simp only [walkD, flatEnc, flat_tree_genP d hd l h]
      cases flatEncP l <;> simp [liftO]
    | .nd dt shape data, h => by
      simp only [rk1] at h
      simp only [walkD, flatEnc]
      exact hd dt data shape (ne_nil_of_not_isEmpty h)
  theorem flat_tree_genL (d : Val → Except Exc Val) (hd : FlatLeaf d) :
      ∀ l : List Val, rk1L l = true → walkDL d l = liftO (flatEncL l)
    | [], _ => by simp [walkDL, flatEncL, liftO]
    | v :: t, h => by
      simp only [rk1L, Bool.and_eq_true] at h
      simp only [walkDL, flatEncL, flat_tree_gen d hd v h.1, flat_tree_genL d hd t h.2]
      cases flatEnc v <;> cases flatEncL t <;> simp [liftO]
  theorem flat_tree_genP (d : Val → Except Exc Val) (hd : FlatLeaf d) :
      ∀ l : List (Val × Val), rk1P l = true → walkDP d l = liftO (flatEncP l)
    | [], _ => by simp [walkDP, flatEncP, liftO]
    | (k, v) :: t, h => by
      simp only [rk1P, Bool.and_eq_true] at h
      simp only [walkDP, flatEncP, flat_tree_gen d hd v h.1, flat_tree_genP d hd t h.2]
      cases flatEnc v <;> cases flatEncP t <;> simp [liftO]
end

/-- **plain json, whole trees**: `json.dumps(v, cls=JSONArrayEncoder)` with the source-derived `default` is handed the
hand model's `flatEnc v` (or both refuse an element kind outside the flat model) -/
theorem json_flat_tree_src (v : Val) (h : rk1 v = true) : walkD jsonFlatDefaultSrc v = liftO (flatEnc v) :=
  flat_tree_gen _ (fun dt data shape hs => json_flat_default_src dt data shape hs) v h

/-- **plain msgpack, whole trees**: `msgpack.dumps(v, default=msgpack_encode)` with the source-derived hook, likewise -/
theorem msgpack_flat_tree_src (v : Val) (h : rk1 v = true) : walkD mpFlatEncodeSrc v = liftO (flatEnc v) :=
  flat_tree_gen _ (fun dt data shape hs => msgpack_flat_encode_src dt data shape hs) v h

mutual
  /-- the tree `msgpack.dumps(v, default=msgpackext_encode)` packs natively: ndarray leaves replaced by their envelopes -/
  def mxEnc : Val → Val
    | .arr l => .arr (mxEncL l)
    | .map l => .map (mxEncP l)
    | .nd dt shape data => ndEnvelope dt shape data
    | v => v
  def mxEncL : List Val → List Val
    | [] => []
    | v :: t => mxEnc v :: mxEncL t
  def mxEncP : List (Val × Val) → List (Val × Val)
    | [] => []
    | (k, v) :: t => (k, mxEnc v) :: mxEncP t
end

mutual
  theorem msgpackext_tree_src : ∀ v : Val, rk1 v = true → walkD mxEncodeSrc v = .ok (mxEnc v)
    | .nil, _ | .bool _, _ | .int _, _ | .f64 _, _ | .str _, _ | .bin _, _ => by simp [walkD, mxEnc]
    | .arr l, h => by
      simp only [rk1] at h
      simp [walkD, mxEnc, msgpackext_tree_srcL l h]
    | .map l, h => by
      simp only [rk1] at h
      simp [walkD, mxEnc, msgpackext_tree_srcP l h]
    | .nd dt shape data, h => by
      simp only [rk1] at h
      simp only [walkD, mxEnc]
      exact msgpackext_encode_src dt data shape (ne_nil_of_not_isEmpty h)
  theorem msgpackext_tree_srcL : ∀ l : List Val, rk1L l = true → walkDL mxEncodeSrc l = .ok (mxEncL l)
    | [], _ => by simp [walkDL, mxEncL]
    | v :: t, h => by
      simp only [rk1L, Bool.and_eq_true] at h
      simp [walkDL, mxEncL, msgpackext_tree_src v h.1, msgpackext_tree_srcL t h.2]
  theorem msgpackext_tree_srcP : ∀ l : List (Val × Val), rk1P l = true → walkDP mxEncodeSrc l = .ok (mxEncP l)
    | [], _ => by simp [walkDP, mxEncP]
    | (k, v) :: t, h => by
      simp only [rk1P, Bool.and_eq_true] at h
      simp [walkDP, mxEncP, msgpackext_tree_src v h.1, msgpackext_tree_srcP t h.2]
end

theorem mxEncL_length : ∀ l, (mxEncL l).length = l.length
  | [] => rfl
  | _ :: t => by simp [mxEncL, mxEncL_length t]

theorem mxEncP_length : ∀ l, (mxEncP l).length = l.length
  | [] => rfl
  | (_, _) :: t => by simp [mxEncP, mxEncP_length t]

mutual
  /-- the hand model's `mpEnc` of an ndarray leaf IS the packing of its envelope: the bytes of the tree the source-derived
  encoder hands to the packer are the bytes of the hand model, for every tree -/
  theorem mpEnc_mxEnc : ∀ v : Val, mpEnc (mxEnc v) = mpEnc v
    | .nil | .bool _ | .int _ | .f64 _ | .str _ | .bin _ => by simp [mxEnc]
    | .arr l => by
      simp only [mxEnc]; rw [mpEnc, mpEnc, mxEncL_length, mpEnc_mxEncL l]
    | .map l => by
      simp only [mxEnc]; rw [mpEnc, mpEnc, mxEncP_length, mpEnc_mxEncP l]
    | .nd dt shape data => by
      simp only [mxEnc]
      rw [ndEnvelope_eq, mpEnc_nd_eq, mpEnc]
  theorem mpEnc_mxEncL : ∀ l : List Val, mpEncL (mxEncL l) = mpEncL l
    | [] => by simp [mxEncL]
    | v :: t => by
      simp only [mxEncL]; rw [mpEncL, mpEncL, mpEnc_mxEnc v, mpEnc_mxEncL t]
  theorem mpEnc_mxEncP : ∀ l : List (Val × Val), mpEncP (mxEncP l) = mpEncP l
    | [] => by simp [mxEncP]
    | (k, v) :: t => by
      simp only [mxEncP]; rw [mpEncP, mpEncP, mpEnc_mxEnc v, mpEnc_mxEncP t]
end

/-! ## decoding whole trees with the source-derived hook -/

mutual
  /-- whatever the hand model's `jxDec` reads, `json.loads(object_hook=<source-derived jsonext_decode>)` reads the same -/
  theorem decW_jx_ok : ∀ (v w : Val), jxDec v = .ok w → decW jxHookSrc v = .ok w
    | .nil, w, h | .bool _, w, h | .int _, w, h | .f64 _, w, h | .str _, w, h | .bin _, w, h | .nd _ _ _, w, h => by simpa [jxDec, decW] using h
    | .arr l, w, h => by
      simp only [jxDec] at h
      cases hl : jxDecL l with
      | error e => simp [hl, Except.map] at h
      | ok l' =>
        simp [hl, Except.map] at h
        subst h
        simp [decW, decW_jx_okL l l' hl]
    | .map l, w, h => by
      simp only [jxDec] at h
      cases hl : jxDecP l with
      | error e => simp [hl] at h
      | ok l' =>
        simp [hl] at h
        simp [decW, decW_jx_okP l l' hl, jsonext_decode_src_ok l' w h]
  theorem decW_jx_okL : ∀ (l l' : List Val), jxDecL l = .ok l' → decWL jxHookSrc l = .ok l'
    | [], l', h => by simpa [jxDecL, decWL] using h
    | v :: t, l', h => by
      simp only [jxDecL] at h
      cases hv : jxDec v with
      | error e => simp [hv] at h
      | ok v' =>
        cases ht : jxDecL t with
        | error e => simp [hv, ht, Except.map] at h
        | ok t' =>
          simp [hv, ht, Except.map] at h
          subst h
          simp [decWL, decW_jx_ok v v' hv, decW_jx_okL t t' ht]
  theorem decW_jx_okP : ∀ (l l' : List (Val × Val)), jxDecP l = .ok l' → decWP jxHookSrc l = .ok l'
    | [], l', h => by simpa [jxDecP, decWP] using h
    | (k, v) :: t, l', h => by
      simp only [jxDecP] at h
      cases hv : jxDec v with
      | error e => simp [hv] at h
      | ok v' =>
        cases ht : jxDecP t with
        | error e => simp [hv, ht, Except.map] at h
        | ok t' =>
          simp [hv, ht, Except.map] at h
          subst h
          simp [decWP, decW_jx_ok v v' hv, decW_jx_okP t t' ht]
end

/-! ## the msgpack byte decoder with the hook as a parameter equals the hand model's at `mpHook` -/

theorem mpHookSrcH_eq : mpHookSrcH = mpHook := by
  funext l
  unfold mpHookSrcH
  rw [msgpackext_decode_src]
  cases mpHook l <;> rfl

theorem mpDecW_eq_aux (fuel : Nat) (hW : ∀ bs, mpDecW mpHook fuel bs = mpDec fuel bs) :
    (∀ k bs, mpDecLW mpHook fuel k bs = mpDecL fuel k bs) ∧ (∀ k bs, mpDecPW mpHook fuel k bs = mpDecP fuel k bs) := by
  constructor
  · intro k
    induction k with
    | zero => intro bs; rw [mpDecLW, mpDecL]
    | succ k ih => intro bs; rw [mpDecLW, mpDecL, hW]; simp only [ih]; rfl
  · intro k
    induction k with
    | zero => intro bs; rw [mpDecPW, mpDecP]
    | succ k ih => intro bs; rw [mpDecPW, mpDecP, hW]; simp only [hW, ih]; rfl

set_option maxRecDepth 20000 in
theorem mpDecW_eq : ∀ (fuel : Nat) (bs : Bytes), mpDecW mpHook fuel bs = mpDec fuel bs
  | 0, bs => by rw [mpDecW, mpDec]
  | fuel + 1, [] => by rw [mpDecW, mpDec] <;> simp
  | fuel + 1, h :: r => by
    obtain ⟨hL, hP⟩ := mpDecW_eq_aux fuel (mpDecW_eq fuel)
    rw [mpDecW, mpDec]
    simp only [hL, hP]
    rfl

/-- **the source-derived msgpack reader IS the hand model's reader**: `msgpack.loads(object_hook=<source-derived
msgpackext_decode>)` = `mpDecode` on every byte string -/
theorem mpDecodeSrc_eq (bs : Bytes) : mpDecodeSrc bs = mpDecode bs := by
  unfold mpDecodeSrc mpDecodeW mpDecode
  rw [mpHookSrcH_eq, mpDecW_eq]
  rfl

/-! ## the dispatch on the encoding string -/

def encOfLower (s : Bytes) : Option Enc :=
  if s = asciiBytes "json" then some .json
  else if s = asciiBytes "json-ext" then some .jsonExt
  else if s = asciiBytes "msgpack" then some .msgpack
  else if s = asciiBytes "msgpack-ext" then some .msgpackExt
  else none

/-- the encoding a name selects: ASCII-lower-cased, then one of the four spellings -/
def encOfName (enc : Bytes) : Option Enc := encOfLower (enc.map lowerByte)

def writerFn : Enc → String
  | .json => "json_dumps" | .jsonExt => "jsonext_dumps" | .msgpack => "msgpack_dumps" | .msgpackExt => "msgpackext_dumps"

def readerFn : Enc → String
  | .json => "json_loads" | .jsonExt => "jsonext_loads" | .msgpack => "msgpack_loads" | .msgpackExt => "msgpackext_loads"

/-- the `assert isinstance(blob, …)` of each arm of `deserialize` -/
def blobOK : Enc → Val → Bool
  | .json, .str _ => true
  | .jsonExt, .str _ => true
  | .jsonExt, .bin _ => true
  | .msgpack, .bin _ => true
  | .msgpackExt, .bin _ => true
  | _, _ => false

/-- runs `serialize` / `deserialize` down one arm of the `encoding.lower()` chain; which comparisons hold, and what the
arm's `isinstance` test says of the blob, are the hypotheses in the context -/
macro "disp_simp" : tactic => `(tactic| simp (config := { decide := true }) [*, runTail, Gen.Src.serialize, Gen.Src.deserialize, bindArgs, execL, execS,
    evalE, evalEs, primApply, prim1, prim2, lookupVar, truthy, pyEq, encOfName, encOfLower, writerFn, readerFn])

/-- **serialize's dispatch, from the source, for EVERY encoding string**: the arm taken is the one of the lower-cased
name among "json", "json-ext", "msgpack", "msgpack-ext" (each calling its own `*_dumps` on `data`); anything else raises
`KeyError` -/
theorem serialize_dispatch_src (v : Val) (enc : Bytes) :
    runTail Gen.Src.serialize [v, .str enc] =
      match encOfName enc with
      | some e => .ok (writerFn e, [v], [])
      | none => .error (.raised "KeyError") := by
  by_cases h1 : enc.map lowerByte = asciiBytes "json"
  · disp_simp
  by_cases h2 : enc.map lowerByte = asciiBytes "json-ext"
  · disp_simp
  by_cases h3 : enc.map lowerByte = asciiBytes "msgpack"
  · disp_simp
  by_cases h4 : enc.map lowerByte = asciiBytes "msgpack-ext"
  · disp_simp
  · disp_simp

/-- **deserialize's dispatch, from the source, for every encoding string and blob** -/
theorem deserialize_dispatch_src (blob : Val) (enc : Bytes) :
    runTail Gen.Src.deserialize [blob, .str enc] =
      match encOfName enc with
      | some e => if blobOK e blob then .ok (readerFn e, [blob], []) else .error .assertion
      | none => .error (.raised "KeyError") := by
  have hs : isinstanceOf "str" blob = .ok (.bool (blobOK .json blob)) := by cases blob <;> rfl
  have hsb : isinstanceOf "(str, bytes)" blob = .ok (.bool (blobOK .jsonExt blob)) := by cases blob <;> rfl
  have hb : isinstanceOf "bytes" blob = .ok (.bool (blobOK .msgpack blob)) := by cases blob <;> rfl
  have hbx : blobOK .msgpackExt blob = blobOK .msgpack blob := by cases blob <;> rfl
  by_cases h1 : enc.map lowerByte = asciiBytes "json"
  · cases hk : blobOK .json blob <;> disp_simp
  by_cases h2 : enc.map lowerByte = asciiBytes "json-ext"
  · cases hk : blobOK .jsonExt blob <;> disp_simp
  by_cases h3 : enc.map lowerByte = asciiBytes "msgpack"
  · cases hk : blobOK .msgpack blob <;> disp_simp
  by_cases h4 : enc.map lowerByte = asciiBytes "msgpack-ext"
  · cases hk : blobOK .msgpack blob <;> disp_simp
  · disp_simp

/-- the four canonical spellings and a mixed-case one (TESTS of `encOfName`) -/
example : encOfName (asciiBytes "json") = some .json ∧ encOfName (asciiBytes "json-ext") = some .jsonExt ∧
    encOfName (asciiBytes "msgpack") = some .msgpack ∧ encOfName (asciiBytes "msgpack-ext") = some .msgpackExt ∧
    encOfName (asciiBytes "MsgPack-EXT") = some .msgpackExt ∧ encOfName (asciiBytes "msgpack_ext") = none ∧
    encOfName (asciiBytes "") = none := by decide

/-! ## the wrappers: callee, keyword arguments and the hook they name (by evaluation of the generated terms) -/

theorem fd_json_dumps : findDef "json_dumps" Gen.Src.defs = some Gen.Src.json_dumps := rfl
theorem fd_jsonext_dumps : findDef "jsonext_dumps" Gen.Src.defs = some Gen.Src.jsonext_dumps := rfl
theorem fd_msgpack_dumps : findDef "msgpack_dumps" Gen.Src.defs = some Gen.Src.msgpack_dumps := rfl
theorem fd_msgpackext_dumps : findDef "msgpackext_dumps" Gen.Src.defs = some Gen.Src.msgpackext_dumps := rfl
theorem fd_json_loads : findDef "json_loads" Gen.Src.defs = some Gen.Src.json_loads := rfl
theorem fd_jsonext_loads : findDef "jsonext_loads" Gen.Src.defs = some Gen.Src.jsonext_loads := rfl
theorem fd_msgpack_loads : findDef "msgpack_loads" Gen.Src.defs = some Gen.Src.msgpack_loads := rfl
theorem fd_msgpackext_loads : findDef "msgpackext_loads" Gen.Src.defs = some Gen.Src.msgpackext_loads := rfl

theorem wr_json_dumps (a : Val) :
    resolveWrapper Gen.Src.defs Gen.Src.json_dumps a = .ok (.jsonDumps, Gen.Src.JSONArrayEncoder_default, a) := rfl
theorem wr_jsonext_dumps (a : Val) :
    resolveWrapper Gen.Src.defs Gen.Src.jsonext_dumps a = .ok (.jsonDumps, Gen.Src.JSONExtArrayEncoder_default, a) := rfl
theorem wr_msgpack_dumps (a : Val) :
    resolveWrapper Gen.Src.defs Gen.Src.msgpack_dumps a = .ok (.msgpackDumps, Gen.Src.msgpack_encode, a) := rfl
theorem wr_msgpackext_dumps (a : Val) :
    resolveWrapper Gen.Src.defs Gen.Src.msgpackext_dumps a = .ok (.msgpackDumps, Gen.Src.msgpackext_encode, a) := rfl
theorem wr_json_loads (a : Val) :
    resolveWrapper Gen.Src.defs Gen.Src.json_loads a = .ok (.jsonLoads, Gen.Src.jsonext_decode, a) := rfl
theorem wr_jsonext_loads (a : Val) :
    resolveWrapper Gen.Src.defs Gen.Src.jsonext_loads a = .ok (.jsonLoads, Gen.Src.jsonext_decode, a) := rfl
theorem wr_msgpack_loads (a : Val) :
    resolveWrapper Gen.Src.defs Gen.Src.msgpack_loads a = .ok (.msgpackLoads, Gen.Src.msgpackext_decode, a) := rfl
theorem wr_msgpackext_loads (a : Val) :
    resolveWrapper Gen.Src.defs Gen.Src.msgpackext_loads a = .ok (.msgpackLoads, Gen.Src.msgpackext_decode, a) := rfl

/-- what the hand model hands the native writer for each encoding -/
def handEncode : Enc → Val → Except Exc (Lib × Val)
  | .json, v => (match flatEnc v with | some t => .ok (.jsonDumps, t) | none => .error .flatDtype)
  | .jsonExt, v => .ok (.jsonDumps, jxEnc v)
  | .msgpack, v => (match flatEnc v with | some t => .ok (.msgpackDumps, t) | none => .error .flatDtype)
  | .msgpackExt, v => .ok (.msgpackDumps, mxEnc v)

/-- **serialize, end to end from the source** (dispatch → wrapper → keyword arguments → hook body → walker), for every
encoding string and every payload tree whose arrays have rank ≥ 1: the native writer chosen and the tree it is handed are
the hand model's; an unknown name raises `KeyError` -/
theorem encodeSrc_eq (enc : Bytes) (v : Val) (h : rk1 v = true) :
    encodeSrc enc v = match encOfName enc with
      | some e => handEncode e v
      | none => .error (.raised "KeyError") := by
  unfold encodeSrc
  rw [serialize_dispatch_src]
  cases he : encOfName enc with
  | none => rfl
  | some e =>
    cases e
    · simp only [writerFn, fd_json_dumps, wr_json_dumps, handEncode]
      have := json_flat_tree_src v h
      unfold jsonFlatDefaultSrc at this
      rw [this]; cases flatEnc v <;> rfl
    · simp only [writerFn, fd_jsonext_dumps, wr_jsonext_dumps, handEncode]
      have := jsonext_tree_src v h
      unfold jxDefaultSrc at this
      rw [this]
    · simp only [writerFn, fd_msgpack_dumps, wr_msgpack_dumps, handEncode]
      have := msgpack_flat_tree_src v h
      unfold mpFlatEncodeSrc at this
      rw [this]; cases flatEnc v <;> rfl
    · simp only [writerFn, fd_msgpackext_dumps, wr_msgpackext_dumps, handEncode]
      have := msgpackext_tree_src v h
      unfold mxEncodeSrc at this
      rw [this]

/-- the reader family a (native reader, hook) pair is -/
def familyOf (lib : Lib) (hookName : String) : Option Reader :=
  if lib = .jsonLoads ∧ hookName = "jsonext_decode" then some .jsonExt
  else if lib = .msgpackLoads ∧ hookName = "msgpackext_decode" then some .msgpackExt
  else none

/-- **deserialize, from the source**: for every encoding string and blob, the native reader and the object hook it is
given -/
theorem readerSrc_eq (enc : Bytes) (blob : Val) :
    readerSrc enc blob = match encOfName enc with
      | some e =>
        if blobOK e blob then
          (match e with
           | .json | .jsonExt => .ok (.jsonLoads, Gen.Src.jsonext_decode)
           | .msgpack | .msgpackExt => .ok (.msgpackLoads, Gen.Src.msgpackext_decode))
        else .error .assertion
      | none => .error (.raised "KeyError") := by
  unfold readerSrc
  rw [deserialize_dispatch_src]
  cases he : encOfName enc with
  | none => rfl
  | some e =>
    by_cases hb : blobOK e blob = true
    · cases e <;> simp only [hb, if_true, readerFn, fd_json_loads, fd_jsonext_loads, fd_msgpack_loads, fd_msgpackext_loads,
        wr_json_loads, wr_jsonext_loads, wr_msgpack_loads, wr_msgpackext_loads]
    · simp [hb]

/-- **the reader `deserialize(·, e)` runs reads what `serialize(·, e)` wrote**: for each of the four encodings the
(reader, hook) pair of `deserialize`, read from the source, is a family that `reads` encoding `e` (the hand table of
`Model/Serialize.lean`; that `serialize` takes the arm of the same name is `serialize_dispatch_src`) -/
theorem deserialize_reads_serialize_src (e : Enc) (enc : Bytes) (blob : Val) (he : encOfName enc = some e)
    (hb : blobOK e blob = true) :
    ∃ lib d r, readerSrc enc blob = .ok (lib, d) ∧ familyOf lib d.name = some r ∧ reads r e = true := by
  rw [readerSrc_eq, he]
  cases e
  · exact ⟨.jsonLoads, Gen.Src.jsonext_decode, .jsonExt, by simp [hb], by decide, by decide⟩
  · exact ⟨.jsonLoads, Gen.Src.jsonext_decode, .jsonExt, by simp [hb], by decide, by decide⟩
  · exact ⟨.msgpackLoads, Gen.Src.msgpackext_decode, .msgpackExt, by simp [hb], by decide, by decide⟩
  · exact ⟨.msgpackLoads, Gen.Src.msgpackext_decode, .msgpackExt, by simp [hb], by decide, by decide⟩

/-- non-vacuity of `deserialize_reads_serialize_src`: a mixed-case name and a `bytes` blob satisfy its hypotheses -/
example : encOfName (asciiBytes "Msgpack-Ext") = some .msgpackExt ∧ blobOK .msgpackExt (.bin [0xc0]) = true := by decide

/-! ## the round-trip theorems over the source-derived functions -/

mutual
  theorem rk1_of_JWF : ∀ v : Val, JWF v → rk1 v = true
    | .nil, _ | .bool _, _ | .int _, _ | .f64 _, _ | .str _, _ | .bin _, _ => rfl
    | .arr l, h => by
      have hl : ∀ x ∈ l, JWF x := by cases h; assumption
      simp only [rk1]; exact rk1L_of_JWF l hl
    | .map l, h => by
      have hl : ∀ p ∈ l, JWF p.2 := by cases h; assumption
      simp only [rk1]; exact rk1P_of_JWF l hl
    | .nd dt shape data, h => by
      have hwf : ndWF dt shape data := by cases h; assumption
      simp only [rk1]
      cases shape with
      | nil => exact absurd hwf.1 (by simp)
      | cons _ _ => rfl
  theorem rk1L_of_JWF : ∀ l : List Val, (∀ x ∈ l, JWF x) → rk1L l = true
    | [], _ => rfl
    | v :: t, h => by
      simp only [rk1L, Bool.and_eq_true]
      exact ⟨rk1_of_JWF v (h v (List.mem_cons_self ..)), rk1L_of_JWF t (fun x hx => h x (List.mem_cons_of_mem _ hx))⟩
  theorem rk1P_of_JWF : ∀ l : List (Val × Val), (∀ p ∈ l, JWF p.2) → rk1P l = true
    | [], _ => rfl
    | (k, v) :: t, h => by
      simp only [rk1P, Bool.and_eq_true]
      exact ⟨rk1_of_JWF v (h (k, v) (List.mem_cons_self ..)), rk1P_of_JWF t (fun p hp => h p (List.mem_cons_of_mem _ hp))⟩
end

mutual
  theorem rk1_of_wf : ∀ v : Val, wf v = true → rk1 v = true
    | .nil, _ | .bool _, _ | .int _, _ | .f64 _, _ | .str _, _ | .bin _, _ => rfl
    | .arr l, h => by
      simp only [wf, Bool.and_eq_true] at h
      simp only [rk1]; exact rk1L_of_wf l h.2
    | .map l, h => by
      simp only [wf, Bool.and_eq_true] at h
      simp only [rk1]; exact rk1P_of_wf l h.2
    | .nd dt shape data, h => by
      have hwf : ndWF dt shape data := ((wellFormed_nd_iff dt shape data).1 h).1
      simp only [rk1]
      cases shape with
      | nil => exact absurd hwf.1 (by simp)
      | cons _ _ => rfl
  theorem rk1L_of_wf : ∀ l : List Val, wfL l = true → rk1L l = true
    | [], _ => rfl
    | v :: t, h => by
      simp only [wfL, Bool.and_eq_true] at h
      simp only [rk1L, Bool.and_eq_true]
      exact ⟨rk1_of_wf v h.1, rk1L_of_wf t h.2⟩
  theorem rk1P_of_wf : ∀ l : List (Val × Val), wfP l = true → rk1P l = true
    | [], _ => rfl
    | (k, v) :: t, h => by
      simp only [wfP, Bool.and_eq_true] at h
      simp only [rk1P, Bool.and_eq_true]
      exact ⟨rk1_of_wf v h.1.2, rk1P_of_wf t h.2⟩
end

/-- **msgpack-ext envelope round trip, both sides from the source**: `msgpackext_decode(msgpackext_encode(a)) = a`
(dtype, shape, bytes) for every well-formed array of rank ≥ 1, zero extents included -/
theorem ext_envelope_roundtrip_msgpack_src (dt data : Bytes) (shape : List Nat) (h : ndWF dt shape data) :
    ∃ l, mxEncodeSrc (.nd dt shape data) = .ok (.map l) ∧ mpHookSrc l = .ok (.nd dt shape data) := by
  have hne : shape ≠ [] := by intro hs; subst hs; exact absurd h.1 (by simp)
  refine ⟨ndList dt shape data, ?_, ?_⟩
  · rw [msgpackext_encode_src dt data shape hne, ndEnvelope_eq]
  · rw [msgpackext_decode_src, ext_envelope_roundtrip_msgpack dt data shape h _ (ndEnvelope_eq dt shape data)]; rfl

/-- **json-ext envelope round trip, both sides from the source** -/
theorem ext_envelope_roundtrip_json_src (dt data : Bytes) (shape : List Nat) (h : ndWF dt shape data) :
    ∃ l, jxDefaultSrc (.nd dt shape data) = .ok (.map l) ∧ jxHookSrc l = .ok (.nd dt shape data) := by
  have hne : shape ≠ [] := by intro hs; subst hs; exact absurd h.1 (by simp)
  obtain ⟨l, hl⟩ : ∃ l, jxEnvelope dt shape data = .map l := ⟨_, rfl⟩
  refine ⟨l, ?_, ?_⟩
  · rw [jsonext_default_src dt data shape hne, hl]
  · exact jsonext_decode_src_ok l _ (ext_envelope_roundtrip_json dt data shape h l hl)

/-- non-vacuity of the two envelope round trips: an empty (2,0,3) float64 array is well-formed -/
example : ndWF (asciiBytes "<f8") [2, 0, 3] [] := ⟨by decide, 8, by decide, by decide, by decide⟩

/-- **json-ext round trip over whole trees, encoder and decoder from the source** -/
theorem jsonext_roundtrip_src (v : Val) (h : JWF v) :
    ∃ w, walkD jxDefaultSrc v = .ok w ∧ decW jxHookSrc w = .ok v :=
  ⟨jxEnc v, jsonext_tree_src v (rk1_of_JWF v h), decW_jx_ok _ _ (jsonext_roundtrip v h)⟩

/-- **identical re-serialisation (json-ext), from the source**: encoding what was read back gives the same tree for the
native writer (hence the same text) -/
theorem jsonext_reserialise_identical_src (v v' w : Val) (h : JWF v) (hs : walkD jxDefaultSrc v = .ok w)
    (hd : decW jxHookSrc w = .ok v') : walkD jxDefaultSrc v' = .ok w := by
  obtain ⟨w', hw', hd'⟩ := jsonext_roundtrip_src v h
  rw [hs] at hw'; cases hw'
  rw [hd] at hd'; cases hd'
  exact hs

/-- **msgpack-ext byte-stream round trip, encoder, hook and reader from the source**: the bytes of the tree the
source-derived encoder hands to the packer are read back to `v` by the reader running the source-derived hook -/
theorem msgpack_roundtrip_src (v : Val) (h : WellFormed v) :
    ∃ w, walkD mxEncodeSrc v = .ok w ∧ mpEnc w = mpEnc v ∧ mpDecodeSrc (mpEnc w) = .ok v := by
  refine ⟨mxEnc v, msgpackext_tree_src v (rk1_of_wf v h), mpEnc_mxEnc v, ?_⟩
  rw [mpDecodeSrc_eq, mpEnc_mxEnc, msgpack_roundtrip v h]

/-- **identical re-serialisation (msgpack-ext), from the source**: encoding what the source-derived reader read back
packs to the same bytes -/
theorem msgpack_reserialise_identical_src (v v' w : Val) (h : WellFormed v) (hs : walkD mxEncodeSrc v = .ok w)
    (hd : mpDecodeSrc (mpEnc w) = .ok v') : ∃ w', walkD mxEncodeSrc v' = .ok w' ∧ mpEnc w' = mpEnc w := by
  obtain ⟨w0, hw0, _, hd0⟩ := msgpack_roundtrip_src v h
  rw [hs] at hw0; cases hw0
  rw [hd] at hd0; cases hd0
  exact ⟨w, hs, rfl⟩

/-- non-vacuity of `msgpack_roundtrip_src`: a list holding an empty (0,3) array and an int is well-formed -/
example : WellFormed (.arr [.nd (asciiBytes "<f8") [0, 3] [], .int 300]) := by decide

/-! ## text level (json-ext): the character-level round trip with the source-derived pipeline on both sides -/

section text
variable (P : FloatCodec)

/-- **json-ext at TEXT level, from the source**: `serialize(v, "json-ext")` — dispatch, wrapper, encoder class and
`default` body read from the source, printed by the model's `json.dumps` — is read back to `v` by the model's
`json.loads` running the source-derived `jsonext_decode` -/
theorem jsonext_text_roundtrip_src (v : Val) (hv : JWF v) (ht : TextOK P (jxEnc v)) :
    ∃ t, textOfSrc P (asciiBytes "json-ext") v = .ok t ∧ deserializeJsonSrc P t = .ok v := by
  obtain ⟨t, hs, hd⟩ := jsonext_text_roundtrip P v hv ht
  refine ⟨t, ?_, ?_⟩
  · unfold textOfSrc
    rw [encodeSrc_eq _ _ (rk1_of_JWF v hv)]
    have hn : encOfName (asciiBytes "json-ext") = some .jsonExt := by decide
    rw [hn]
    simp only [handEncode]
    unfold serializeJsonExt at hs
    cases hj : toJ (jxEnc v) with
    | none => simp [hj] at hs
    | some j =>
      simp [hj] at hs
      simp [hs]
  · unfold deserializeJsonExt at hd
    unfold deserializeJsonSrc
    cases hp : jsonParse P t with
    | error e => simp [hp] at hd
    | ok j =>
      simp only [hp] at hd ⊢
      cases hx : jxDec (ofJ j) with
      | error e => simp [hx] at hd
      | ok w =>
        simp [hx] at hd
        subst hd
        rw [decW_jx_ok _ _ hx]

/-- **identical re-serialisation at TEXT level, from the source**: serialising what `deserializeJsonSrc` read back
gives the same text -/
theorem json_text_reserialise_identical_src (v v' : Val) (hv : JWF v) (ht : TextOK P (jxEnc v)) (t : List Char)
    (hs : textOfSrc P (asciiBytes "json-ext") v = .ok t) (hd : deserializeJsonSrc P t = .ok v') :
    textOfSrc P (asciiBytes "json-ext") v' = .ok t := by
  obtain ⟨t', hs', hd'⟩ := jsonext_text_roundtrip_src P v hv ht
  rw [hs] at hs'
  cases hs'
  rw [hd'] at hd
  cases hd
  exact hs

end text

end QcelVerif.Ser.Src
