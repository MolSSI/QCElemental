import QcelVerif.Props.C09Typed
import QcelVerif.Props.C20
import QcelVerif.Model.ResultValues
/-!
# C09 — typing and conformance theorems for Provenance, BasisSet, AtomicResultProperties, AtomicInput, AtomicResult

`Props/C09Typed.lean` proves that every validated Molecule inhabits its declared type.  Here the same is proved for
the other five schema-bearing models, about the constructor models of `Model/ResultValues.lean`:

    <model>_hasType  : input.ok  →  hasType Δ _ (<model>Val input) (.model "<Model>")
    <model>_conforms : input.ok  →  validate (defsOf Δ) _ (declSchema <decl>) (emit Δ (<model>Val input)) = true

for EVERY well-formed keyword input (no per-instance `hasType` check), in every declaration environment `Δ` that
carries the hand-copied declarations (`EnvOk Δ`); `decls_tie` shows at every build that the environment regenerated
from the live classes does.  `props_*` and `atomicResult_*`, whose constructor models can refuse, take
`propsVal p = some v` with `p.kindsOk`, resp. `aresVal r = some v` with `r.ok`, and speak of `v`.
Values in `Any` / `Dict[str, Any]` slots and extra attributes are arbitrary `Val`s.

BasisSet (and the two models that embed one): the theorems need `….uniq` on top of `….ok`; `basis_uniq_needed`
exhibits an input with `ok` and without `uniq` whose emitted JSON the schema rejects at every fuel
(known finding C09-basis-uniqueItems is exactly this gap).
-/
set_option linter.unusedSectionVars false
namespace QcelVerif.C09Models
open QcelVerif.Schema QcelVerif.MolSchema QcelVerif.MolDict QcelVerif.ResultValues

/-- the environment carries the hand-copied declarations (`Model/ResultValues.lean`, `C09Typed.molDecl`) under their names -/
structure EnvOk (Δ : Env) : Prop where
  ident : lookupDecl Δ "Identifiers" = some identDecl
  prov : lookupDecl Δ "Provenance" = some provDecl
  mol : lookupDecl Δ "Molecule" = some C09Typed.molDecl
  harm : lookupDecl Δ "HarmonicType" = some harmDecl
  ecpType : lookupDecl Δ "ECPType" = some ecpTypeDecl
  shell : lookupDecl Δ "ElectronShell" = some shellDecl
  ecp : lookupDecl Δ "ECPPotential" = some ecpDecl
  center : lookupDecl Δ "BasisCenter" = some centerDecl
  basis : lookupDecl Δ "BasisSet" = some basisDecl
  driver : lookupDecl Δ "DriverEnum" = some driverDecl
  model : lookupDecl Δ "Model" = some modelDecl
  wfnProto : lookupDecl Δ "WavefunctionProtocolEnum" = some wfnProtoDecl
  native : lookupDecl Δ "NativeFilesProtocolEnum" = some nativeDecl
  ec : lookupDecl Δ "ErrorCorrectionProtocol" = some ecDecl
  proto : lookupDecl Δ "AtomicResultProtocols" = some protoDecl
  ain : lookupDecl Δ "AtomicInput" = some ainDecl
  props : lookupDecl Δ "AtomicResultProperties" = some propsDecl
  wfn : lookupDecl Δ "WavefunctionProperties" = some wfnDecl
  err : lookupDecl Δ "ComputeError" = some errDecl
  ares : lookupDecl Δ "AtomicResult" = some aresDecl

/-- **Tie to the source, re-checked on every build**: every hand-written declaration used below IS the declaration
the translator regenerated from the live class on this run (field names, aliases, types, required flags, `allOf`
wrapping, `extra` policy, enum members).  An edit of a declared field type in /repo breaks this theorem. -/
theorem decls_tie : EnvOk Gen.SchemaC09.env :=
  ⟨rfl, rfl, rfl, rfl, rfl, rfl, rfl, rfl, rfl, rfl, rfl, rfl, rfl, rfl, rfl, rfl, rfl, rfl, rfl, rfl⟩

/-! ### number and index lists -/

section generic
variable {Δ : Env} {n : Nat}

theorem ht_numList (l : List Rat) (h : l.isEmpty = false) :
    hasType Δ (n + 3) (numList l) (.list numOrStr (some 1) false) = true :=
  ht_list l (fun q _ => ht_union (.float none none) (by simp) (ht_num q)) (optMinLen_one h)

theorem ht_natList (l : List Nat) (h : l.isEmpty = false) (hu : uniqueJ (natsJ l) = true) :
    hasType Δ (n + 2) (natList l) (.list (.int (some 0)) (some 1) true) = true :=
  ht_listU l (fun k _ => ht_nat k) (optMinLen_one h) hu

/-- coefficient rows, each as long as a non-empty reference list -/
theorem ht_rows {α : Type} (coefs : List (List Rat)) (ref : List α) (hne : coefs.isEmpty = false)
    (href : ref.isEmpty = false) (hrow : ∀ r ∈ coefs, r.length = ref.length) :
    hasType Δ (n + 4) (.list (coefs.map numList)) (.list (.list numOrStr (some 1) false) (some 1) false) = true := by
  refine ht_list coefs (fun r hr => ht_numList r ?_) (optMinLen_one hne)
  cases r with
  | nil => rw [List.eq_nil_of_length_eq_zero (hrow [] hr).symm] at href; cases href
  | cons a t => rfl

end generic

/-- where every alias is the field's name, an entry is written under its own key -/
theorem aliasIn_of_plain {fields : List Field} (h : fields.map (·.alias) = fields.map (·.name)) (k : String) :
    aliasIn fields k = k := by
  unfold aliasIn
  cases hf : fields.find? (fun f => k = f.name) with
  | none => rfl
  | some f =>
    have hk : k = f.name := by simpa using List.find?_some hf
    rw [hk]
    exact List.map_inj_left.1 h f (List.mem_of_find?_eq_some hf)

theorem aliasOf_of_plain {Δ : Env} {m nm : String} {fields : List Field} {extra : Bool}
    (hΔ : lookupDecl Δ m = some (.model nm fields extra)) (h : fields.map (·.alias) = fields.map (·.name))
    (k : String) : aliasOf Δ m k = k := by
  simp [aliasOf, hΔ, aliasIn_of_plain h]

/-! ### emitted JSON of number / index lists -/

theorem emit_numList (Δ : Env) (l : List Rat) : emit Δ (numList l) = numsJ l := by
  simp [numList, numsJ, emit, emitList_map]

theorem emit_natList (Δ : Env) (l : List Nat) : emit Δ (natList l) = .arr (natsJ l) := by
  simp [natList, natsJ, emit, emitList_map]

theorem dropped_natList (l : List Nat) : dropped (natList l) = false := rfl
theorem dropped_numList (l : List Rat) : dropped (numList l) = false := rfl
theorem dropped_str (x : String) : dropped (.str x) = false := rfl
theorem dropped_list (l : List Val) : dropped (.list l) = false := rfl

/-! ### Provenance -/

/-- **provenance_hasType.**  Every Provenance built from a creator, optional version / routine strings and ANY further
keywords (arbitrary values; they must not shadow the three declared names) inhabits the declared type. -/
theorem provenance_hasType (Δ : Env) (hΔ : lookupDecl Δ "Provenance" = some provDecl) (n : Nat) (p : ProvIn)
    (hp : p.ok = true) : hasType Δ (n + 2) (provVal p) (.model "Provenance") = true := by
  refine obj_hasType hΔ ?_ ?_
  · simp only [List.all_cons, List.all_append, Bool.and_eq_true]
    refine ⟨fieldOk_owner rfl (ht_str _), ?_, ?_, ?_⟩
    · exact optEntryOf_ok rfl ht_str
    · exact optEntryOf_ok rfl ht_str
    · exact all_mono _ (fun _ => fieldOk_extra) hp
  · exact requiredOk_of_subset [("creator", .str p.creator)] (by simp) rfl

theorem provenance_conforms (Δ : Env) (hΔ : lookupDecl Δ "Provenance" = some provDecl) (n : Nat) (p : ProvIn)
    (hp : p.ok = true) :
    validate (defsOf Δ) (3 * (n + 2)) (declSchema provDecl) (emit Δ (provVal p)) = true :=
  root_conforms Δ (n + 2) "Provenance" _ provDecl hΔ (provenance_hasType Δ hΔ n p hp)

/-- test input: a provenance with a nested extra value -/
def exProv : ProvIn :=
  ⟨"psi4", some "1.9", none, [("wall_time", .dict [("a", .list [.num 1, .null]), ("nd", .arr [2] [.num 1, .num 2])])]⟩

/-- test (non-vacuity), in the regenerated environment -/
example : validate (defsOf Gen.SchemaC09.env) (3 * (0 + 2)) (declSchema provDecl)
    (emit Gen.SchemaC09.env (provVal exProv)) = true :=
  provenance_conforms _ decls_tie.prov 0 _ (by decide)

/-! ### BasisSet -/

section basis
variable (Δ : Env) (hΔ : EnvOk Δ) (n : Nat)
include hΔ

theorem emit_shellVal (s : ShellIn) : emit Δ (shellVal s) = shellJson s := by
  simp [shellVal, shellJson, emit, emitFields, dropped_natList, dropped_numList, dropped_str, dropped_list,
    aliasOf_of_plain hΔ.shell rfl, emit_natList, emit_numList, emitList_map]

theorem emit_ecpVal (e : EcpIn) : emit Δ (ecpVal e) = ecpJson e := by
  simp [ecpVal, ecpJson, emit, emitFields, dropped_natList, dropped_numList, dropped_str, dropped_list,
    aliasOf_of_plain hΔ.ecp rfl, emit_natList, emit_numList, emitList_map]

theorem shell_hasType (s : ShellIn) (hok : s.ok = true) (hu : s.uniq = true) :
    hasType Δ (n + 5) (shellVal s) (.model "ElectronShell") = true := by
  simp only [ShellIn.ok, Protocols.Shell.ok, ShellIn.toP, Bool.and_eq_true, Bool.not_eq_true', List.all_eq_true,
    List.mem_map, beq_iff_eq, forall_exists_index, and_imp, forall_apply_eq_imp_iff₂] at hok
  obtain ⟨⟨⟨ham, hex⟩, hco⟩, hrows, _⟩ := hok
  refine obj_hasType hΔ.shell ?_ (requiredOk_of_subset _ (List.Subset.refl _) rfl)
  simp only [List.all_cons, List.all_nil, Bool.and_true, Bool.and_eq_true]
  refine ⟨?_, ?_, ?_, ?_⟩
  · exact fieldOk_owner rfl (ht_natList s.am ham hu)
  · refine fieldOk_owner rfl (ht_enum hΔ.harm ?_)
    cases s.harm <;> decide
  · exact fieldOk_owner rfl (ht_numList s.exps hex)
  · exact fieldOk_owner rfl (ht_rows s.coefs s.exps hco hex hrows)

theorem ecp_hasType (e : EcpIn) (hok : e.ok = true) (hu : e.uniq = true) :
    hasType Δ (n + 5) (ecpVal e) (.model "ECPPotential") = true := by
  simp only [EcpIn.ok, Bool.and_eq_true, Bool.not_eq_true', List.all_eq_true, beq_iff_eq] at hok
  obtain ⟨⟨⟨⟨⟨ham, hre⟩, hge⟩, hco⟩, _⟩, hrows⟩ := hok
  refine obj_hasType hΔ.ecp ?_ (requiredOk_of_subset _ (List.Subset.refl _) rfl)
  simp only [List.all_cons, List.all_nil, Bool.and_true, Bool.and_eq_true]
  refine ⟨?_, ?_, ?_, ?_, ?_⟩
  · refine fieldOk_owner rfl (ht_enum hΔ.ecpType ?_)
    cases e.spinorbit <;> decide
  · exact fieldOk_owner rfl (ht_natList e.am ham hu)
  · exact fieldOk_owner rfl (ht_list e.rexp (fun i _ => ht_int i) (optMinLen_one hre))
  · exact fieldOk_owner rfl (ht_numList e.gexp hge)
  · exact fieldOk_owner rfl (ht_rows e.coefs e.rexp hco hre hrows)

theorem center_hasType (c : CenterIn) (hok : c.ok = true) (hu : c.uniq = true) :
    hasType Δ (n + 7) (centerVal c) (.model "BasisCenter") = true := by
  simp only [CenterIn.ok, Bool.and_eq_true, Bool.not_eq_true', List.all_eq_true] at hok
  obtain ⟨⟨hne, hsh⟩, hecp⟩ := hok
  simp only [CenterIn.uniq, Bool.and_eq_true, List.all_eq_true] at hu
  obtain ⟨⟨hush, hujs⟩, huecp⟩ := hu
  refine obj_hasType hΔ.center ?_
    (requiredOk_of_subset [("electron_shells", .list (c.shells.map shellVal))] (by simp) rfl)
  simp only [List.all_cons, List.all_append, Bool.and_eq_true]
  refine ⟨?_, ?_, ?_⟩
  · refine fieldOk_owner rfl (ht_listU c.shells (fun s hs => shell_hasType Δ hΔ n s (hsh s hs) (hush s hs))
      (optMinLen_one hne) ?_)
    simpa only [emit_shellVal Δ hΔ] using hujs
  · exact optEntryOf_ok rfl ht_int
  · refine all_optEntryOf (fun l hl => ?_)
    rw [hl] at hecp huecp
    simp only [Bool.and_eq_true, Bool.not_eq_true', List.all_eq_true] at hecp huecp
    refine fieldOk_owner rfl (ht_listU l (fun e he => ecp_hasType Δ hΔ n e (hecp.2 e he) (huecp.1 e he))
      (optMinLen_one hecp.1) ?_)
    simpa only [emit_ecpVal Δ hΔ] using huecp.2

/-- **basis_hasType.**  Every BasisSet the constructor accepts (`b.ok`: shell / potential validators, atom_map keys,
nbf checksum, schema_name) whose shells and potentials are ALSO pairwise distinct with no repeated angular momentum
(`b.uniq`, the hypothesis the published schema adds) inhabits the declared type. -/
theorem basis_hasType (b : BasisIn) (hok : b.ok = true) (hu : b.uniq = true) :
    hasType Δ (n + 9) (basisVal b) (.model "BasisSet") = true := by
  simp only [BasisIn.ok, Bool.and_eq_true, List.all_eq_true] at hok
  obtain ⟨⟨⟨hcen, hname⟩, _⟩, _⟩ := hok
  simp only [BasisIn.uniq, List.all_eq_true] at hu
  refine obj_hasType hΔ.basis ?_ (requiredOk_of_subset [("name", .str b.name),
    ("center_data", .dict (b.centers.map (fun kc => (kc.1, centerVal kc.2)))), ("atom_map", strList b.atomMap)]
    (by simp) rfl)
  simp only [List.all_cons, List.all_append, Bool.and_eq_true]
  refine ⟨?_, ?_, ?_, ?_, ?_, ?_, ?_⟩
  · refine all_optEntryOf (fun s hs => ?_)
    rw [hs] at hname
    exact fieldOk_owner rfl (ht_strPat hname)
  · exact optEntryOf_ok rfl ht_int
  · exact fieldOk_owner rfl (ht_str _)
  · exact optEntryOf_ok rfl ht_str
  · exact fieldOk_owner rfl (ht_dict (List.forall_mem_map.2 fun kc hkc =>
      center_hasType Δ hΔ n kc.2 (hcen kc hkc) (hu kc hkc)))
  · exact fieldOk_owner rfl (ht_list b.atomMap (fun s _ => ht_str s) rfl)
  · exact optEntryOf_ok rfl ht_int

theorem basis_conforms (b : BasisIn) (hok : b.ok = true) (hu : b.uniq = true) :
    validate (defsOf Δ) (3 * (n + 9)) (declSchema basisDecl) (emit Δ (basisVal b)) = true :=
  root_conforms Δ (n + 9) "BasisSet" _ basisDecl hΔ.basis (basis_hasType Δ hΔ n b hok hu)

end basis

/-! ### kinds -/

theorem isIntNone_eq (ty : Ty) (h : Ty.isIntNone ty = true) : ty = .int none := by
  cases ty <;> simp [Ty.isIntNone] at h
  rename_i lo; cases lo <;> simp at h; rfl
theorem isFloatNN_eq (ty : Ty) (h : Ty.isFloatNN ty = true) : ty = .float none none := by
  cases ty <;> simp [Ty.isFloatNN] at h
  rename_i lo hi; cases lo <;> cases hi <;> simp at h; rfl
theorem isStr_eq (ty : Ty) (h : Ty.isStr ty = true) : ty = .str := by
  cases ty <;> simp [Ty.isStr] at h; rfl

theorem isFloatArr_eq (ty : Ty) (h : Ty.isFloatArr ty = true) : ty = .array .float := by
  cases ty <;> simp [Ty.isFloatArr] at h
  rename_i dt; cases dt <;> simp at h; rfl

/-- an entry whose key is owned by a field of the kind `P`, where `P` singles out the type `ty` -/
theorem fieldOk_kind {rec : Val → Ty → Bool} {fields : List Field} {extra : Bool} {k : String} {v : Val}
    {P : Ty → Bool} {ty : Ty} (hP : ∀ t, P t = true → t = ty) (h : (ownerTy fields k).any P = true)
    (hv : rec v ty = true) : fieldOk rec fields extra (k, v) = true := by
  cases ho : ownerTy fields k with
  | none => rw [ho] at h; cases h
  | some t =>
    rw [ho] at h
    exact fieldOk_owner (ho.trans (congrArg some (hP t (by simpa using h)))) hv

theorem fieldOk_optStr {Δ : Env} {n : Nat} {fields : List Field} {extra : Bool} {k : String}
    (hf : ownerTy fields k = some .str) (o : Option String) :
    fieldOk (hasType Δ (n + 1)) fields extra (k, optStrVal o) = true := by
  cases o with
  | none => rfl
  | some s => exact fieldOk_owner hf (ht_str s)

/-! ### array entries (AtomicResultProperties, WavefunctionProperties) -/

theorem arrEntries_ok {κ : Type} [DecidableEq κ] (Δ : Env) (n : Nat) (fields : List Field) (extra : Bool)
    (all : List κ) (name : κ → String) (out : κ → Option (List Nat)) (data : List (κ × ArrIn))
    (hname : all.all (fun k => (ownerTy fields (name k)).any Ty.isFloatArr) = true)
    (hshape : ∀ k s, out k = some s → s ≠ []) :
    (arrEntries all name out data).all (fieldOk (hasType Δ (n + 1)) fields extra) = true := by
  rw [List.all_eq_true]
  intro kv hkv
  obtain ⟨k, hmem, hk⟩ := List.mem_filterMap.1 hkv
  cases ho : out k with
  | none => simp [ho] at hk
  | some s =>
    cases hl : lookupArr data k with
    | none => simp [ho, hl] at hk
    | some a =>
      simp only [ho, hl, Option.some.injEq] at hk
      subst hk
      exact fieldOk_kind isFloatArr_eq (List.all_eq_true.1 hname k hmem) (ht_arr a.flat (hshape k s ho) fun _ => rfl)

theorem propArr_owner :
    Protocols.PropArr.all.all (fun k => (ownerTy propsFields k.name).any Ty.isFloatArr) = true := by
  decide +kernel

theorem arrKey_owner : Protocols.ArrKey.all.all (fun k => (ownerTy wfnFields k.name).any Ty.isFloatArr) = true := by
  decide +kernel

theorem ptrKey_owner : Protocols.PtrKey.all.all (fun k => (ownerTy wfnFields k.name).any Ty.isStr) = true := by
  decide +kernel

/-! ### shapes left by C20's validators have rank >= 1 -/

section shapes
open QcelVerif.Protocols

theorem propFits_ne_nil {natom : Option Nat} {k : PropArr} {s s' : Shape} (h : PropFits natom k s s') : s' ≠ [] := by
  unfold PropFits at h
  split at h
  · obtain ⟨n, _, _, rfl⟩ := h; simp
  · obtain ⟨n, _, _, rfl⟩ := h; simp
  · rw [h.2]; simp
  · rw [h.2]; simp

/-- only `localized_fock` has no validator: there the supplied rank is the rank that stays -/
theorem arrFits_ne_nil {nbf : Nat} {b : ArrBase} {s s' : Shape} (h : ArrFits nbf b s s') (hs : s ≠ []) : s' ≠ [] := by
  unfold ArrFits at h
  split at h
  · rw [h.2]; simp
  · rw [h.2.2]; simp
  · rw [h]; simp
  · rw [h]; exact hs

theorem validateProps_shapes (p out : Protocols.PropsIn) (h : Protocols.validateProps p = .ok out)
    (k : Protocols.PropArr) (s : List Nat) (hk : out.arr k = some s) : s ≠ [] := by
  obtain ⟨_, _, hf, _⟩ := (props_shapes p out h).2.2 k s hk
  exact propFits_ne_nil hf

theorem wfnProtocol_arr_sub {β : Type} (p : WfnProto) (w w1 : Wfn β) (h : wfnProtocol p w = .ok (some w1))
    (k : ArrKey) (s : Shape) (hk : w1.arr k = some s) : w.arr k = some s := by
  cases hr : w.restricted with
  | none => rw [wfnProtocol_no_restricted p w hr] at h; cases h
  | some r =>
    cases hl : keepList p with
    | some keep => exact (((wfn_keeps_exactly p keep hl w w1 r hr h).2.2.2 k s).1 hk).2
    | none =>
      cases p <;> simp [keepList] at hl
      · obtain ⟨w', h', _, _, _, ha, _⟩ := wfn_all_keeps w r hr
        rw [h] at h'; cases h'
        exact ((ha k s).1 hk).2
      · rw [wfn_none_drops w r hr] at h; cases h

/-- **wfn_shapes_nonempty.**  Whatever the wavefunction protocol keeps and the validators reshape (C20's `wfnField`),
every array the resulting WavefunctionProperties holds has rank >= 1 if the supplied ones had. -/
theorem wfn_shapes_nonempty (p : WfnProto) (w w2 : Wfn Protocols.BasisIn) (h : wfnField p (some w) = .ok (some w2))
    (hw : ∀ k s, w.arr k = some s → s ≠ []) : ∀ k s, w2.arr k = some s → s ≠ [] := by
  intro k s' hk
  simp only [wfnField] at h
  split at h <;> try cases h
  rename_i w1 hp
  split at h <;> cases h
  rename_i hv
  obtain ⟨_, _, _, _, _, _, _, _, _, _, hfit, _⟩ := wfn_shapes w1 w2 hv
  obtain ⟨s, hs, hf, _⟩ := hfit k s' hk
  exact arrFits_ne_nil hf (hw k s (wfnProtocol_arr_sub p w w1 hp k s hs))

end shapes

/-! ### AtomicResultProperties -/

/-- **props_hasType.**  Whenever the validators accept (`propsVal p = some v`; shapes by C20's `validateProps`) keywords
that are declared int / float / array fields of the right kind, the instance inhabits the declared type. -/
theorem props_hasType (Δ : Env) (hΔ : lookupDecl Δ "AtomicResultProperties" = some propsDecl) (n : Nat) (p : PropsIn)
    (v : Val) (hv : propsVal p = some v) (hok : p.kindsOk = true) :
    hasType Δ (n + 3) v (.model "AtomicResultProperties") = true := by
  unfold propsVal at hv
  cases hvp : Protocols.validateProps p.toP with
  | error l => simp [hvp] at hv
  | ok out =>
    simp only [hvp, Option.some.injEq] at hv
    subst hv
    simp only [PropsIn.kindsOk, Bool.and_eq_true, List.all_eq_true] at hok
    obtain ⟨⟨hi, hf⟩, _⟩ := hok
    refine obj_hasType hΔ ?_ (requiredOk_of_subset [] (List.nil_subset _) rfl)
    simp only [List.all_append, Bool.and_eq_true]
    refine ⟨?_, ?_, arrEntries_ok Δ (n + 1) _ _ _ _ _ _ propArr_owner (validateProps_shapes _ _ hvp)⟩
    · exact all_map_entries fun e he => fieldOk_kind isIntNone_eq (hi e he) (ht_int e.2)
    · exact all_map_entries fun e he => fieldOk_kind isFloatNN_eq (hf e he) (ht_num _)

theorem props_conforms (Δ : Env) (hΔ : lookupDecl Δ "AtomicResultProperties" = some propsDecl) (n : Nat) (p : PropsIn)
    (fs : List (String × Val)) (hv : propsVal p = some (.obj "AtomicResultProperties" fs)) (hok : p.kindsOk = true) :
    validate (defsOf Δ) (3 * (n + 3)) (declSchema propsDecl) (emit Δ (.obj "AtomicResultProperties" fs)) = true :=
  root_conforms Δ (n + 3) "AtomicResultProperties" _ propsDecl hΔ (props_hasType Δ hΔ n p _ hv hok)

/-- test input: int given for a float field, a gradient for two atoms, a dipole -/
def exProps : PropsIn :=
  ⟨[("calcinfo_natom", 2), ("scf_iterations", 12)], [("return_energy", .ofInt (-76)), ("scf_total_energy", .ofRat (-3/2))],
   [(.return_gradient, ⟨[6], [0, 0, 1, 0, 0, -1]⟩), (.scf_dipole_moment, ⟨[3], [0, 0, 1]⟩)]⟩

/-- test (non-vacuity): the validators accept `exProps` and leave a (2, 3) gradient -/
example : ∃ fs, propsVal exProps = some (.obj "AtomicResultProperties" fs) ∧
    validate (defsOf Gen.SchemaC09.env) (3 * (0 + 3)) (declSchema propsDecl)
      (emit Gen.SchemaC09.env (.obj "AtomicResultProperties" fs)) = true :=
  ⟨_, rfl, props_conforms _ decls_tie.props 0 exProps _ rfl (by decide)⟩

/-! ### the models nested in AtomicInput / AtomicResult -/

section nested
variable (Δ : Env) (hΔ : EnvOk Δ) (n : Nat)
include hΔ

theorem ident_hasType (l : List (String × String))
    (hl : l.all (fun kv => (ownerTy identFields kv.1).any Ty.isStr) = true) :
    hasType Δ (n + 2) (identVal l) (.model "Identifiers") = true := by
  refine obj_hasType hΔ.ident ?_ (requiredOk_of_subset [] (List.nil_subset _) rfl)
  exact all_map_entries fun e he => fieldOk_kind isStr_eq (List.all_eq_true.1 hl e he) (ht_str e.2)

/-- the Molecule object: `C09Typed.dict_hasType` with the four further entries typed from their structure -/
theorem molObj_hasType (m : MolObj) (hok : m.ok = true) :
    hasType Δ (n + 4) (molObjVal m) (.model "Molecule") = true := by
  simp only [MolObj.ok, Bool.and_eq_true] at hok
  obtain ⟨⟨⟨⟨⟨hsy, hge⟩, hnm⟩, hcn⟩, hid⟩, hpr⟩ := hok
  refine C09Typed.dict_hasType Δ hΔ.mol n m.nm m.ver m.d m.others ⟨hsy, hge, ?_, ?_⟩ ?_
  · intro s hs
    rw [hs] at hnm
    exact hnm
  · intro bs hbs
    rw [hbs] at hcn
    simp only [Bool.and_eq_true, Bool.not_eq_true', List.all_eq_true, decide_eq_true_eq] at hcn
    refine ⟨?_, fun b hb => hcn.2 b hb⟩
    intro h0
    rw [h0] at hcn
    simp at hcn
  · simp only [MolObj.others, List.all_append, Bool.and_eq_true]
    refine ⟨?_, ?_, ?_, ?_⟩
    · refine all_optEntryOf (fun l hl => ?_)
      rw [hl] at hid
      exact fieldOk_owner rfl (ident_hasType Δ hΔ (n + 1) l hid)
    · refine all_optEntryOf (fun p hp => ?_)
      rw [hp] at hpr
      exact fieldOk_owner rfl (provenance_hasType Δ hΔ.prov (n + 1) p hpr)
    · exact optEntryOf_ok rfl ht_any
    · exact optEntryOf_ok rfl ht_dictAny

theorem model_hasType (m : ModelIn) (hok : m.ok = true) (hu : m.uniq = true) :
    hasType Δ (n + 11) (modelVal m) (.model "Model") = true := by
  simp only [ModelIn.ok, Bool.and_eq_true] at hok
  obtain ⟨hb, hex⟩ := hok
  refine obj_hasType hΔ.model ?_ ?_
  · simp only [List.all_cons, List.all_append, Bool.and_eq_true]
    refine ⟨fieldOk_owner rfl (ht_str _), ?_, ?_⟩
    · refine all_optEntryOf (fun b hbs => ?_)
      rw [hbs] at hb
      simp only [ModelIn.uniq, hbs] at hu
      refine fieldOk_owner rfl ?_
      cases b with
      | name s => exact ht_union .str (by simp) (ht_str s)
      | set b => exact ht_union (.model "BasisSet") (by simp) (basis_hasType Δ hΔ n b hb hu)
    · exact all_mono _ (fun _ => fieldOk_extra) hex
  · exact requiredOk_of_subset [("method", .str m.method)] (by simp) rfl

theorem ec_hasType (e : ECIn) : hasType Δ (n + 3) (ecVal e) (.model "ErrorCorrectionProtocol") = true := by
  refine obj_hasType hΔ.ec ?_
    (requiredOk_of_subset [] (List.nil_subset _) rfl)
  simp only [List.all_append, Bool.and_eq_true]
  refine ⟨?_, ?_⟩
  · exact optEntryOf_ok rfl ht_bool
  · exact optEntryOf_ok rfl fun l => ht_dict (List.forall_mem_map.2 fun e _ => ht_bool e.2)

theorem proto_hasType (p : ProtoIn) : hasType Δ (n + 5) (protoVal p) (.model "AtomicResultProtocols") = true := by
  refine obj_hasType hΔ.proto ?_
    (requiredOk_of_subset [] (List.nil_subset _) rfl)
  simp only [List.all_append, Bool.and_eq_true]
  refine ⟨?_, ?_, ?_, ?_⟩
  · refine optEntryOf_ok rfl fun w => ht_enum hΔ.wfnProto ?_
    cases w <;> decide
  · exact optEntryOf_ok rfl ht_bool
  · exact optEntryOf_ok rfl (ec_hasType Δ hΔ (n + 1))
  · refine optEntryOf_ok rfl fun w => ht_enum hΔ.native ?_
    cases w <;> decide

theorem err_hasType (e : ErrIn) : hasType Δ (n + 3) (errVal e) (.model "ComputeError") = true := by
  refine obj_hasType hΔ.err ?_ ?_
  · simp only [List.all_cons, Bool.and_eq_true]
    refine ⟨fieldOk_owner rfl (ht_str _),
      fieldOk_owner rfl (ht_str _), ?_⟩
    exact optEntryOf_ok rfl ht_dictAny
  · exact requiredOk_of_subset [("error_type", .str e.errorType), ("error_message", .str e.errorMessage)]
      (by simp) rfl

/-- the ten entries AtomicInput and AtomicResult share, typed against either declaration (`fields`); `sn` is what the
model stores for a supplied `schema_name` -/
theorem head_ok (fields : List Field) (i : AInIn) (sn : String → Val) (snTy : Ty)
    (h1 : ownerTy fields "id" = some .str) (h2 : ownerTy fields "schema_name" = some snTy)
    (h3 : ownerTy fields "schema_version" = some (.int none)) (h4 : ownerTy fields "molecule" = some (.model "Molecule"))
    (h5 : ownerTy fields "driver" = some (.enumRef "DriverEnum")) (h6 : ownerTy fields "model" = some (.model "Model"))
    (h7 : ownerTy fields "keywords" = some (.dict .any)) (h8 : ownerTy fields "protocols" = some (.model "AtomicResultProtocols"))
    (h9 : ownerTy fields "extras" = some (.dict .any)) (h10 : ownerTy fields "provenance" = some (.model "Provenance"))
    (hsn : ∀ s, i.schemaName = some s → hasType Δ (n + 11) (sn s) snTy = true)
    (hok : i.okCommon = true) (hu : i.uniq = true) :
    (i.head (i.schemaName.map sn)).all (fieldOk (hasType Δ (n + 11)) fields false) = true := by
  simp only [AInIn.okCommon, Bool.and_eq_true] at hok
  obtain ⟨⟨hmol, hmod⟩, hprov⟩ := hok
  simp only [AInIn.head, List.all_cons, List.all_append, Bool.and_eq_true]
  refine ⟨?_, ?_, ?_, ?_, ?_, ?_, ?_, ?_, ?_, ?_⟩
  · exact optEntryOf_ok h1 ht_str
  · exact all_optEntryOf fun s hs => fieldOk_owner h2 (hsn s hs)
  · exact optEntryOf_ok h3 ht_int
  · exact fieldOk_owner h4 (molObj_hasType Δ hΔ (n + 7) i.molecule hmol)
  · refine fieldOk_owner h5 (ht_enum hΔ.driver ?_)
    cases i.driver <;> decide
  · exact fieldOk_owner h6 (model_hasType Δ hΔ n i.model hmod hu)
  · exact optEntryOf_ok h7 ht_dictAny
  · exact optEntryOf_ok h8 (proto_hasType Δ hΔ (n + 6))
  · exact optEntryOf_ok h9 ht_dictAny
  · refine all_optEntryOf (fun p hp => ?_)
    rw [hp] at hprov
    exact fieldOk_owner h10 (provenance_hasType Δ hΔ.prov (n + 9) p hprov)

theorem dropped_molObj (m : MolObj) : dropped (molObjVal m) = false := rfl
theorem dropped_model (m : ModelIn) : dropped (modelVal m) = false := rfl

/-- **atomicInput_hasType.**  Every AtomicInput built from a well-formed Molecule object, a driver, a model
(method, optional basis name or BasisSet keywords, any further attributes), optional keywords / extras (any values),
protocols and provenance inhabits the declared type — provided an embedded BasisSet also meets the schema's
uniqueness demand (`i.uniq`). -/
theorem atomicInput_hasType (i : AInIn) (hok : i.ok = true) (hu : i.uniq = true) :
    hasType Δ (n + 12) (ainVal i) (.model "AtomicInput") = true := by
  simp only [AInIn.ok, Bool.and_eq_true] at hok
  obtain ⟨hc, hname⟩ := hok
  refine obj_hasType hΔ.ain ?_ ?_
  · refine head_ok Δ hΔ n ainFields i _ _ rfl rfl rfl rfl rfl rfl rfl rfl rfl rfl ?_ hc hu
    intro s hs
    rw [hs] at hname
    exact ht_strPat hname
  · exact requiredOk_of_subset [("molecule", molObjVal i.molecule), ("driver", .str (driverStr i.driver)),
      ("model", modelVal i.model)] (by simp [AInIn.head]) rfl

theorem atomicInput_conforms (i : AInIn) (hok : i.ok = true) (hu : i.uniq = true) :
    validate (defsOf Δ) (3 * (n + 12)) (declSchema ainDecl) (emit Δ (ainVal i)) = true :=
  root_conforms Δ (n + 12) "AtomicInput" _ ainDecl hΔ.ain (atomicInput_hasType Δ hΔ n i hok hu)

end nested

theorem toP_shapes (w : WfnIn) (hok : w.arrs.all (fun e => !e.2.shape.isEmpty) = true) :
    ∀ k s, w.toP.arr k = some s → s ≠ [] := by
  intro k s hk
  simp only [WfnIn.toP, lookupArr, Option.map_map] at hk
  cases hf : w.arrs.find? (fun e => e.1 = k) with
  | none => simp [hf] at hk
  | some e =>
    simp only [hf, Option.map_some, Option.some.injEq, Function.comp] at hk
    have := List.all_eq_true.1 hok e (List.mem_of_find?_eq_some hf)
    intro h0
    rw [hk, h0] at this
    simp at this

/-! ### AtomicResult -/

section result
variable (Δ : Env) (hΔ : EnvOk Δ) (n : Nat)
include hΔ

theorem wfnObj_hasType (p : Protocols.WfnProto) (w : WfnIn) (w2 : Protocols.Wfn Protocols.BasisIn)
    (h : Protocols.wfnField p (some w.toP) = .ok (some w2)) (hok : w.ok = true) (hu : w.basis.uniq = true) :
    hasType Δ (n + 10) (wfnObj w w2) (.model "WavefunctionProperties") = true := by
  simp only [WfnIn.ok, Bool.and_eq_true] at hok
  obtain ⟨hb, harr⟩ := hok
  refine obj_hasType hΔ.wfn ?_ ?_
  · simp only [List.all_cons, List.all_append, Bool.and_eq_true]
    refine ⟨fieldOk_owner rfl (basis_hasType Δ hΔ n w.basis hb hu),
      fieldOk_owner rfl (ht_bool _),
      arrEntries_ok Δ (n + 8) _ _ _ _ _ _ arrKey_owner (wfn_shapes_nonempty p _ _ h (toP_shapes w harr)), ?_⟩
    rw [List.all_eq_true]
    intro kv hkv
    obtain ⟨k, hmem, hk⟩ := List.mem_filterMap.1 hkv
    cases ho : w2.ptr k with
    | none => simp [ho] at hk
    | some t =>
      simp only [ho, Option.map_some, Option.some.injEq] at hk
      subst hk
      exact fieldOk_kind isStr_eq (List.all_eq_true.1 ptrKey_owner k hmem) (ht_str _)
  · exact requiredOk_of_subset [("basis", basisVal w.basis), ("restricted", .bool w.restricted)] (by simp) rfl

theorem rr_hasType (r : RRIn) (rr : Protocols.RR)
    (hshape : (match r with | .arr a => !a.shape.isEmpty | _ => true) = true)
    (hrr : Protocols.validateRR d r.toP = some rr) :
    hasType Δ (n + 11) (rrVal r rr)
      (.union [(.float none none), (.array .float), (.dict .any)]) = true := by
  cases r with
  | scalar x => exact ht_union (.float none none) (by simp) (ht_num _)
  | dict kvs => exact ht_union (.dict .any) (by simp) (ht_dictAny kvs)
  | arr a =>
    have ha : a.shape ≠ [] := by simpa using hshape
    refine ht_union (.array .float) (by simp) ?_
    -- C20 `rr_ok_iff`: the shape is left alone (energy, properties) or becomes `[_, 3]` / `[k, k]`
    have := (Protocols.rr_ok_iff d _ rr).1 hrr
    cases d <;> simp only [RRIn.toP] at this
    · subst this; exact ht_arr a.flat ha fun _ => rfl
    · rw [this.2]; exact ht_arr a.flat (by simp) fun _ => rfl
    · obtain ⟨k, _, rfl⟩ := this; exact ht_arr a.flat (by simp) fun _ => rfl
    · subst this; exact ht_arr a.flat ha fun _ => rfl

/-- **atomicResult_hasType.**  Whenever the validators accept (`aresVal r = some v`: property / wavefunction / return_result
shapes, wavefunction protocol, stdout and native_files protocols by C20's model) a well-formed input (`r.ok`) whose
embedded basis sets meet the schema's uniqueness demand (`r.uniq`), the AtomicResult inhabits the declared type - for all
four drivers, wavefunction / protocols / error blocks present or absent, any values in keywords / extras / native_files /
the dictionary form of return_result. -/
theorem atomicResult_hasType (r : AResIn) (v : Val) (hv : aresVal r = some v) (hok : r.ok = true) (hu : r.uniq = true) :
    hasType Δ (n + 12) v (.model "AtomicResult") = true := by
  simp only [AResIn.ok, Bool.and_eq_true] at hok
  obtain ⟨⟨⟨⟨⟨hc, hprov⟩, hkinds⟩, hname⟩, hwok⟩, hrs⟩ := hok
  simp only [AResIn.uniq, Bool.and_eq_true] at hu
  obtain ⟨hu1, hu2⟩ := hu
  unfold aresVal at hv
  cases hpv : propsVal r.properties with
  | none => simp [hpv] at hv
  | some pv =>
    cases hw : Protocols.wfnField (ProtoIn.wp r.inp.protocols) (r.wavefunction.map WfnIn.toP) with
    | error e => simp [hpv, hw] at hv
    | ok w2 =>
      cases hrr : Protocols.validateRR r.inp.driver r.returnResult.toP with
      | none => simp [hpv, hw, hrr] at hv
      | some rr =>
        simp only [hpv, hw, hrr, Option.some.injEq] at hv
        subst hv
        obtain ⟨prov, hprov'⟩ := Option.isSome_iff_exists.1 hprov
        refine obj_hasType hΔ.ares ?_ ?_
        · simp only [List.all_append, List.all_cons, Bool.and_eq_true]
          refine ⟨?_, ?_, ?_, ?_, ?_, ?_, ?_, ?_, ?_⟩
          · exact head_ok Δ hΔ n aresFields r.inp _ _ rfl rfl rfl rfl rfl rfl rfl rfl rfl rfl
              (fun _ _ => ht_lit (by decide)) hc hu1
          · exact fieldOk_owner rfl (props_hasType Δ hΔ.props (n + 8) _ _ hpv hkinds)
          · cases hwf : r.wavefunction with
            | none => rfl
            | some w =>
              cases w2 with
              | none => rfl
              | some w2 =>
                rw [hwf] at hw hwok hu2
                simp only [Option.map_some] at hw
                simp only [List.all_cons, List.all_nil, Bool.and_true]
                exact fieldOk_owner rfl (wfnObj_hasType Δ hΔ (n + 1) _ w w2 hw hwok hu2)
          · exact fieldOk_owner rfl (rr_hasType Δ hΔ n (d := r.inp.driver) _ _ hrs hrr)
          · exact all_optEntryOf fun _ _ => fieldOk_optStr rfl _
          · exact all_optEntryOf fun _ _ => fieldOk_optStr rfl _
          · exact optEntryOf_ok rfl fun f => ht_dictAny _
          · exact fieldOk_owner rfl (ht_bool _)
          · exact optEntryOf_ok rfl (err_hasType Δ hΔ (n + 8))
        · have hpvd : dropped pv = false := by
            unfold propsVal at hpv
            split at hpv
            · cases hpv
            · cases hpv; rfl
          have hrrd : dropped (rrVal r.returnResult rr) = false := by
            cases r.returnResult <;> cases rr <;> rfl
          refine requiredOk_of_subset [("molecule", molObjVal r.inp.molecule), ("driver", .str (driverStr r.inp.driver)),
            ("model", modelVal r.inp.model), ("provenance", provVal prov), ("properties", pv),
            ("return_result", rrVal r.returnResult rr), ("success", .bool r.success)] ?_ ?_
          · simp [AInIn.head, hprov', optEntryOf, optEntry]
          · have hprd : dropped (provVal prov) = false := rfl
            have hsd : dropped (.bool r.success) = false := rfl
            simp [requiredOk, aresFields, aliasIn, hpvd, hrrd, hprd, hsd, dropped_molObj Δ hΔ, dropped_model Δ hΔ, dropped_str]

theorem atomicResult_conforms (r : AResIn) (fs : List (String × Val)) (hv : aresVal r = some (.obj "AtomicResult" fs))
    (hok : r.ok = true) (hu : r.uniq = true) :
    validate (defsOf Δ) (3 * (n + 12)) (declSchema aresDecl) (emit Δ (.obj "AtomicResult" fs)) = true :=
  root_conforms Δ (n + 12) "AtomicResult" _ aresDecl hΔ.ares (atomicResult_hasType Δ hΔ n r _ hv hok hu)

end result

/-! ### the uniqueness hypothesis is needed (known finding C09-basis-uniqueItems, at BasisSet level) -/

section needed

/-- a fused shell with the angular momentum 0 twice (two coefficient rows): accepted by every validator of basis.py -/
def dupShell : ShellIn := ⟨[0, 0], .spherical, [1], [[1], [1]]⟩
def dupBasis : BasisIn :=
  { name := "dup", centers := [("H", { shells := [dupShell] })], atomMap := ["H"] }

-- the `definitions` table of the regenerated environment (used from here to the end of the file)
abbrev D := defsOf Gen.SchemaC09.env

def centerJson : Json := .obj [("electron_shells", .arr [shellJson dupShell])]

theorem emit_dupBasis : emit Gen.SchemaC09.env (basisVal dupBasis) =
    .obj [("name", .str "dup"), ("center_data", .obj [("H", centerJson)]), ("atom_map", .arr [.str "H"])] := by
  have hs := emit_shellVal Gen.SchemaC09.env decls_tie dupShell
  simp [basisVal, dupBasis, optEntryOf, optEntry, emit, emitFields, emitKvs, emitList, dropped, centerVal, strList,
    aliasOf_of_plain decls_tie.basis rfl, aliasOf_of_plain decls_tie.center rfl, hs, centerJson]

/-- **basis_uniq_needed.**  `uniq` cannot be dropped from `basis_hasType` / `basis_conforms`: `dupBasis` (one centre, one
fused shell listing angular momentum 0 twice) passes every check of the constructor model (`ok`), fails `uniq`, and the JSON
emitted for it is rejected by the generated (= published) BasisSet schema at EVERY fuel.  This is known finding
C09-basis-uniqueItems: exactly the gap between what the constructor demands and what the schema demands. -/
theorem basis_uniq_needed : dupBasis.ok = true ∧ dupBasis.uniq = false ∧
    ∀ k, validate D k (declSchema basisDecl) (emit Gen.SchemaC09.env (basisVal dupBasis)) = false := by
  refine ⟨by decide, by decide, Rejects.sound ?_⟩
  rw [emit_dupBasis]
  -- the path down to the repeated angular momentum
  have shell : Rejects D { ref := some "ElectronShell" } (shellJson dupShell) :=
    .ref (d := declSchema shellDecl) (by rw [assoc_defsOf, decls_tie.shell]; rfl)
      (.prop (k := "angular_momentum") rfl (by simp [dupShell, natsJ]) rfl (rejects_dup_zero D))
  have center : Rejects D { ref := some "BasisCenter" } centerJson :=
    .ref (d := declSchema centerDecl) (by rw [assoc_defsOf, decls_tie.center]; rfl)
      (.prop (k := "electron_shells") rfl (by simp) rfl (.item rfl (List.mem_singleton_self _) rfl shell))
  exact .prop (k := "center_data") rfl (by simp) rfl (.addl (k := "H") rfl (List.mem_singleton_self _) rfl rfl center)

/-- **rank0_array_counterexample.**  The rank >= 1 demand on supplied arrays (`WfnIn.ok`, `AResIn.ok`) is needed where no
validator reshapes: a rank-0 `localized_fock_a` (shape `[]`) passes C20's `validateWfn` untouched, is emitted as a bare
number (JSONArrayEncoder: `tolist()` of a rank-0 array), and the schema's `type: array` rejects it at every fuel. -/
theorem rank0_array_counterexample :
    Protocols.applyArrRule (some 1) (Protocols.arrRule .localized_fock) [] = some [] ∧
    emit Gen.SchemaC09.env (.arr [] [.num 5]) = .num 5 ∧
    ∀ k, validate D k (schemaOf (.array .float)) (.num 5) = false :=
  ⟨rfl, rfl, Rejects.sound (.here fun rec => by simp [validateStep, schemaOf, chkType, typeOk])⟩

end needed

/-! ### non-vacuity (tests) of the BasisSet / AtomicInput / AtomicResult theorems in the regenerated environment -/

def exShell : ShellIn := ⟨[0, 1], .cartesian, [3/2, 1/4], [[1, 2], [0, 1]]⟩
def exBasis : BasisIn :=
  { schemaName := some " qcschema_basis ", name := "sto", atomMap := ["He_0", "He_0"], nbf := some 8,
    centers := [("He_0", { shells := [exShell], ecpElectrons := some 2,
                           ecpPotentials := some [⟨true, [1], [2], [1/2], [[1]]⟩] })] }

/-- test: hypotheses of `basis_conforms` are met by a fused cartesian shell with an ECP and a supplied nbf checksum -/
example : validate D (3 * (0 + 9)) (declSchema basisDecl) (emit Gen.SchemaC09.env (basisVal exBasis)) = true :=
  basis_conforms _ decls_tie 0 exBasis (by decide) (by decide)

def exMol : MolObj :=
  { nm := some "qcschema_molecule", ver := some 2,
    d := { (emptyDict : MolDict Rat) with symbols := some ["He"], geometry := some [0, 0, 0], validated := some true },
    provenance := some ⟨"QCElemental", some "0.28", some "x", []⟩, extras := some [("k", .list [.null, .dict []])] }

def exIn : AInIn :=
  { molecule := exMol, driver := .gradient, model := { method := "hf", basis := some (.set exBasis), extras := [("knob", .dict [("a", .null)])] },
    schemaName := some " qcschema_input", keywords := some [("e_conv", .num (1/1000)), ("nested", .dict [("l", .list [.int 1, .str "x"])])],
    protocols := some { wavefunction := some .all, errorCorrection := some { policies := some [("a", true)] } },
    provenance := some ⟨"me", none, none, [("note", .arr [2] [.num 1, .num 2])]⟩ }

/-- test: hypotheses of `atomicInput_conforms` are met -/
example : validate D (3 * (0 + 12)) (declSchema ainDecl) (emit Gen.SchemaC09.env (ainVal exIn)) = true :=
  atomicInput_conforms _ decls_tie 0 exIn (by decide) (by decide)

def exWfn : WfnIn :=
  ⟨exBasis, true,
   [(⟨.scf_orbitals, .a⟩, ⟨[16], [1, 0, 0, 0, 0, 0, 0, 0, 0, 1, 0, 0, 0, 0, 0, 0]⟩), (⟨.scf_eigenvalues, .b⟩, ⟨[2], [1, 2]⟩)],
   [(⟨.orbitals, .a⟩, ⟨.scf_orbitals, .a⟩)]⟩

def exRes : AResIn :=
  ⟨{ exIn with schemaName := some "QCSchema_Input " }, exProps, some exWfn, .arr ⟨[6], [0, 0, 1, 0, 0, -1]⟩,
   some (some "out"), some none, some [("input", .str "x")], true, some ⟨"e", "m", some [("k", .null)]⟩⟩

/-- test (non-vacuity of `wfn_shapes_nonempty`): the wavefunction protocol `orbitals_and_eigenvalues` and the validators accept `exWfn` -/
example : (match Protocols.wfnField .orbitals_and_eigenvalues (some exWfn.toP) with | .ok (some _) => true | _ => false) = true := by
  decide +kernel

/-- test: the validators accept `exRes` (restricted: beta array dropped; (8, 2) orbitals; (2, 3) gradient) and the
hypotheses of `atomicResult_conforms` are met -/
example : (aresVal exRes).isSome = true ∧ ∀ fs, aresVal exRes = some (.obj "AtomicResult" fs) →
    validate D (3 * (0 + 12)) (declSchema aresDecl) (emit Gen.SchemaC09.env (.obj "AtomicResult" fs)) = true :=
  ⟨by decide +kernel, fun fs h => atomicResult_conforms _ decls_tie 0 exRes fs h (by decide +kernel) (by decide +kernel)⟩

end QcelVerif.C09Models
