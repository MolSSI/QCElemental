import QcelVerif.Props.C16
import QcelVerif.Lemmas.OrientUnique

/-!
# C16 — uniqueness: rigid invariance and idempotence of orientation, without a uniqueness hypothesis

`Props/C16.lean` proves `orient_rigid_invariant_partial` / `orient_idempotent_partial` under the
*assumption* that the eigenvectors found for the second call are the first ones up to a sign per
column.  Here that assumption is **proved** from the per-call certificate (`isEigFrame … 0 0`, i.e.
`Orth V`, `Vᵀ T V = diag l`, `l` ascending) and the property's own qualifier "distinct principal
moments" (`l.x < l.y < l.z`), using `Lemmas/OrientUnique.lean`.

Side conditions that remain in the two FULL statements, and why:
* exact arithmetic (tolerance-0 certificates): the theorems are about the model over an ordered field;
  the floating-point `eigh` is certified per call only to ~1e-15 and the implementation re-orients a
  *rounded* geometry (known findings `C16-flushed-decider-*`);
* distinct principal moments `l.x < l.y < l.z` — with a repeated moment the frame is not unique
  (`eigframe_degenerate_not_unique` is a concrete witness);
* every column has an atom off its coordinate plane (`HasOff`): a column in which all entries are
  within `noise` is never touched by the phase loop, so a sign difference in that column survives
  (it is below `noise` in size and is flushed to zero by `float_prep`, see `floatPrep_small`).
-/

namespace QcelVerif.Orient

/-! ## 1. transformation of the tensor and of an eigen-frame under a rigid motion -/

section Field
variable {K : Type} [Field K]

/-- **Transformation law for the tensor handed to `eigh`.**  `ys = xs·R + t`, `R` orthogonal:
`T(ys) = Rᵀ T(xs) R` (centring removes `t`, `inertia_transforms` does the rest). -/
theorem orientTensor_rigid {ms : List K} {xs : List (V3 K)} (hl : ms.length = xs.length) (hM : massSum ms ≠ 0)
    {R : M3 K} (hR : Orth R) (t : V3 K) :
    orientTensor ms (xs.map (fun p => V3.add (V3.mulMat p R) t))
      = M3.mul (M3.mul (M3.tr R) (orientTensor ms xs)) R := by
  unfold orientTensor
  rw [center_rigid hl hM]
  exact inertia_transforms hR ms (center ms xs)

/-- **Eigen-frames move with the molecule.**  If `V` is orthogonal and diagonalises `T(xs)` to `L`, then
`RᵀV` is orthogonal and diagonalises `T(xs·R + t)` to the same `L` (same principal moments). -/
theorem eigframe_rigid {ms : List K} {xs : List (V3 K)} (hl : ms.length = xs.length) (hM : massSum ms ≠ 0)
    {R V L : M3 K} (hR : Orth R) (t : V3 K) (hV : Orth V)
    (hD : M3.mul (M3.mul (M3.tr V) (orientTensor ms xs)) V = L) :
    Orth (M3.mul (M3.tr R) V) ∧
    M3.mul (M3.mul (M3.tr (M3.mul (M3.tr R) V)) (orientTensor ms (xs.map (fun p => V3.add (V3.mulMat p R) t))))
      (M3.mul (M3.tr R) V) = L := by
  refine ⟨orth_mul (orth_tr hR) hV, ?_⟩
  rw [orientTensor_rigid hl hM hR t, ← sandwich_mul, ← mul_assoc3 R, hR.2, one_mul3, hD]

/-- the frame found for the moved copy, pulled back by `R`, is an exact eigen-frame of the original tensor -/
theorem eigframe_pullback {ms : List K} {xs : List (V3 K)} (hl : ms.length = xs.length) (hM : massSum ms ≠ 0)
    {R V' L : M3 K} (hR : Orth R) (t : V3 K) (hV' : Orth V')
    (hD' : M3.mul (M3.mul (M3.tr V') (orientTensor ms (xs.map (fun p => V3.add (V3.mulMat p R) t)))) V' = L) :
    Orth (M3.mul R V') ∧ M3.mul (M3.mul (M3.tr (M3.mul R V')) (orientTensor ms xs)) (M3.mul R V') = L := by
  refine ⟨orth_mul hR hV', ?_⟩
  rw [sandwich_mul, ← orientTensor_rigid hl hM hR t, hD']

end Field

section Ordered
variable {K : Type} [Field K] [LinearOrder K] [IsStrictOrderedRing K]

omit [IsStrictOrderedRing K] in
theorem colOK_of_pm {noise d : K} {c : List K} (hd : d = 1 ∨ d = -1) (hoff : HasOff noise c) : ColOK noise d c := by
  rcases hd with h | h
  · exact Or.inl h
  · exact Or.inr ⟨h, hoff⟩

/-- converse of `isEigFrame_exact`: the exact relations make the tolerance-0 certificate succeed -/
theorem isEigFrame_of_exact {T V : M3 K} {l : V3 K} (hV : Orth V)
    (hD : M3.mul (M3.mul (M3.tr V) T) V = M3.diag l.x l.y l.z) (h1 : l.x ≤ l.y) (h2 : l.y ≤ l.z) :
    isEigFrame T V l 0 0 = true :=
  isEigFrame_iff.mpr ⟨⟨maxAbs_sub_le_zero.mpr hV.1, maxAbs_sub_le_zero.mpr hV.2, maxAbs_sub_le_zero.mpr hD⟩, h1, h2⟩

/-- **Principal moments are invariants of rigid motion.**  Two certified (exact, ascending) eigen-frames,
one of a molecule with distinct moments and one of a rigidly moved copy, carry the same eigenvalues. -/
theorem rigid_moments_invariant {ms : List K} {xs : List (V3 K)} {R V V' : M3 K} (t : V3 K) {l l' : V3 K}
    (hl : ms.length = xs.length) (hM : massSum ms ≠ 0) (hR : Orth R)
    (hc : isEigFrame (orientTensor ms xs) V l 0 0 = true)
    (hc' : isEigFrame (orientTensor ms (xs.map (fun p => V3.add (V3.mulMat p R) t))) V' l' 0 0 = true)
    (hxy : l.x < l.y) (hyz : l.y < l.z) : l' = l := by
  obtain ⟨hV, hD, -, -⟩ := isEigFrame_exact hc
  obtain ⟨hV', hD', hxy', hyz'⟩ := isEigFrame_exact hc'
  obtain ⟨hW, hDW⟩ := eigframe_pullback hl hM hR t hV' hD'
  exact eigvals_unique hV hW hD hDW hxy hyz hxy' hyz'

/-- the tensor of an exactly oriented geometry is `diag l` (of which the identity is an eigen-frame: `orth_one`, `one_frame`) -/
theorem second_pass_tensor {noise : K} {ms : List K} {xs : List (V3 K)} {V : M3 K} {l : V3 K} {out : List (V3 K)}
    (hc : isEigFrame (orientTensor ms xs) V l 0 0 = true) (h : orientCore noise ms xs V = .ok out) :
    orientTensor ms out = M3.diag l.x l.y l.z := by
  obtain ⟨hV, hD, -, -⟩ := isEigFrame_exact hc
  rw [orientTensor_oriented h]
  exact (orient_inertia_diagonal hV hD h).1

/-- the second pass also reports the same moments -/
theorem idempotent_moments {noise : K} {ms : List K} {xs : List (V3 K)} {V V2 : M3 K}
    {l l2 : V3 K} {out : List (V3 K)}
    (hc : isEigFrame (orientTensor ms xs) V l 0 0 = true) (hxy : l.x < l.y) (hyz : l.y < l.z)
    (h : orientCore noise ms xs V = .ok out)
    (hc2 : isEigFrame (orientTensor ms out) V2 l2 0 0 = true) : l2 = l := by
  obtain ⟨hV2, hD2, hxy2, hyz2⟩ := isEigFrame_exact hc2
  rw [second_pass_tensor hc h] at hD2
  exact eigvals_unique orth_one hV2 (one_frame _) hD2 hxy hyz hxy2 hyz2

/-! ## 2. the FULL statements -/

/-- **Rigid invariance (full).**  `ys = xs·R + t` with `R` orthogonal.  `V, l` is *any* certified
eigen-frame of the tensor of `xs`, `V', l'` *any* certified eigen-frame of the tensor of `ys` (exact
certificates: orthogonal, diagonalising, ascending — what the driver checks per call at tolerance 0).
If the principal moments are pairwise distinct and every column of the rotated geometry has an atom off
its coordinate plane, both copies orient to exactly the same coordinates.  No relation between `V` and
`V'` is assumed: `V' = Rᵀ·V·diag(±1)` is derived (`eigframe_unique`, `eigvals_unique`). -/
theorem orient_rigid_invariant {noise : K} (h0 : 0 < noise) {ms : List K} {xs : List (V3 K)}
    {R V V' : M3 K} (t : V3 K) {l l' : V3 K}
    (hl : ms.length = xs.length) (hM : massSum ms ≠ 0) (hR : Orth R)
    (hc : isEigFrame (orientTensor ms xs) V l 0 0 = true)
    (hc' : isEigFrame (orientTensor ms (xs.map (fun p => V3.add (V3.mulMat p R) t))) V' l' 0 0 = true)
    (hxy : l.x < l.y) (hyz : l.y < l.z)
    (hox : HasOff noise ((rotate (center ms xs) V).map (·.x)))
    (hoy : HasOff noise ((rotate (center ms xs) V).map (·.y)))
    (hoz : HasOff noise ((rotate (center ms xs) V).map (·.z))) :
    orientCore noise ms (xs.map (fun p => V3.add (V3.mulMat p R) t)) V' = orientCore noise ms xs V := by
  obtain ⟨hV, hD, -, -⟩ := isEigFrame_exact hc
  obtain ⟨hV', hD', -, -⟩ := isEigFrame_exact hc'
  obtain ⟨hW, hDW⟩ := eigframe_pullback hl hM hR t hV' hD'
  rw [rigid_moments_invariant t hl hM hR hc hc' hxy hyz] at hDW
  obtain ⟨d0, d1, d2, p0, p1, p2, hE⟩ :=
    eigframe_unique hV hW hD hDW (ne_of_lt hxy) (ne_of_lt (hxy.trans hyz)) (ne_of_lt hyz)
  have hV'eq : V' = M3.mul (M3.mul (M3.tr R) V) (M3.diag d0 d1 d2) := by
    rw [mul_assoc3, ← hE, ← mul_assoc3, hR.1, one_mul3]
  rw [hV'eq]
  exact orient_rigid_invariant_partial h0 t hl hM hR.2 (colOK_of_pm p0 hox) (colOK_of_pm p1 hoy) (colOK_of_pm p2 hoz)

/-- **Idempotence (full, exact arithmetic).**  `out` is the oriented geometry obtained with a certified
eigen-frame `V, l` with pairwise distinct moments; `V2, l2` is *any* certified eigen-frame of the tensor
of `out` (the second `eigh` call).  If every column of `out` has an atom off its coordinate plane,
orienting again returns `out` itself.  `V2 = diag(±1)` and `l2 = l` are derived, not assumed.
(The implementation re-orients the *rounded* geometry; for that the claim fails on the narrow
flushed-decider class — known finding `C16-flushed-decider-idempotence`.) -/
theorem orient_idempotent {noise : K} (h0 : 0 < noise) {ms : List K} {xs : List (V3 K)} {V V2 : M3 K}
    {l l2 : V3 K} {out : List (V3 K)}
    (hc : isEigFrame (orientTensor ms xs) V l 0 0 = true) (hxy : l.x < l.y) (hyz : l.y < l.z)
    (h : orientCore noise ms xs V = .ok out)
    (hc2 : isEigFrame (orientTensor ms out) V2 l2 0 0 = true)
    (hox : HasOff noise (out.map (·.x))) (hoy : HasOff noise (out.map (·.y))) (hoz : HasOff noise (out.map (·.z))) :
    orientCore noise ms out V2 = .ok out := by
  obtain ⟨hV2, hD2, -, -⟩ := isEigFrame_exact hc2
  rw [second_pass_tensor hc h, idempotent_moments hc hxy hyz h hc2] at hD2
  obtain ⟨d0, d1, d2, p0, p1, p2, hE⟩ :=
    eigframe_unique orth_one hV2 (one_frame _) hD2 (ne_of_lt hxy) (ne_of_lt (hxy.trans hyz)) (ne_of_lt hyz)
  rw [one_mul3] at hE
  rw [hE]
  exact orient_idempotent_partial h0 h (colOK_of_pm p0 hox) (colOK_of_pm p1 hoy) (colOK_of_pm p2 hoz)

/-- a certificate for the moved copy always exists when one exists for the original (`RᵀV`, same `l`):
the hypothesis `hc'` of `orient_rigid_invariant` is satisfiable whenever `hc` is -/
theorem isEigFrame_rigid {ms : List K} {xs : List (V3 K)} (hl : ms.length = xs.length) (hM : massSum ms ≠ 0)
    {R V : M3 K} {l : V3 K} (hR : Orth R) (t : V3 K) (hc : isEigFrame (orientTensor ms xs) V l 0 0 = true) :
    isEigFrame (orientTensor ms (xs.map (fun p => V3.add (V3.mulMat p R) t))) (M3.mul (M3.tr R) V) l 0 0 = true := by
  obtain ⟨hV, hD, h1, h2⟩ := isEigFrame_exact hc
  obtain ⟨hW, hDW⟩ := eigframe_rigid hl hM hR t hV hD
  exact isEigFrame_of_exact hW hDW h1 h2

end Ordered

/-! ## non-vacuity and sharpness (tests, `K = ℚ`) -/
section Examples

/-- **Sharpness of "distinct".**  With a repeated eigenvalue the conclusion of `eigframe_unique` fails:
`T = diag(1,1,2)`, `V = 1`, `V'` = quarter turn about z — every other hypothesis holds. -/
theorem eigframe_degenerate_not_unique :
    ∃ (T V V' : M3 ℚ) (l0 l1 l2 : ℚ), Orth V ∧ Orth V' ∧
      M3.mul (M3.mul (M3.tr V) T) V = M3.diag l0 l1 l2 ∧ M3.mul (M3.mul (M3.tr V') T) V' = M3.diag l0 l1 l2 ∧
      l0 ≤ l1 ∧ l1 < l2 ∧ ¬ ∃ d0 d1 d2 : ℚ, V' = M3.mul V (M3.diag d0 d1 d2) := by
  refine ⟨M3.diag 1 1 2, M3.one, ⟨0, 1, 0, -1, 0, 0, 0, 0, 1⟩, 1, 1, 2, ?_, ?_, ?_, ?_, ?_, ?_, ?_⟩
  · constructor <;> decide +kernel
  · constructor <;> decide +kernel
  · decide +kernel
  · decide +kernel
  · decide +kernel
  · decide +kernel
  · rintro ⟨d0, d1, d2, h⟩
    have := congrArg M3.xy h
    simp [M3.mul, M3.one, M3.diag] at this

/-- test data: six unit masses at `(±3,0,0), (0,±2,0), (0,0,±1)` — an asymmetric top whose axes are
already principal (moments 10 < 20 < 26), every column has an off-plane atom and the first such atom is
negative in every column (all three phase flips fire). -/
def uqMs : List ℚ := [1, 1, 1, 1, 1, 1]
def uqXs : List (V3 ℚ) := [⟨-3, 0, 0⟩, ⟨3, 0, 0⟩, ⟨0, -2, 0⟩, ⟨0, 2, 0⟩, ⟨0, 0, -1⟩, ⟨0, 0, 1⟩]
/-- a proper rotation that is not diagonal (cyclic permutation of the axes with a sign) -/
def uqR : M3 ℚ := ⟨0, 1, 0, 0, 0, -1, 1, 0, 0⟩
def uqT : V3 ℚ := ⟨5, -3, 1 / 7⟩
def uqYs : List (V3 ℚ) := uqXs.map (fun p => V3.add (V3.mulMat p uqR) uqT)
/-- an eigen-frame of the moved copy with two columns negated relative to `RᵀV` -/
def uqV' : M3 ℚ := M3.mul (M3.tr uqR) (M3.diag (-1) 1 (-1))
def uqNoise : ℚ := 1 / 100000000

example : Orth uqR := by constructor <;> decide +kernel
/-- test: hypotheses of `eigframe_unique` hold for `T = diag(10,20,26)`, `V = 1`, `V' = diag(-1,1,-1)` (≠ `V`) -/
example : Orth (M3.diag (-1 : ℚ) 1 (-1)) ∧
    M3.mul (M3.mul (M3.tr (M3.diag (-1 : ℚ) 1 (-1))) (M3.diag 10 20 26)) (M3.diag (-1) 1 (-1)) = M3.diag 10 20 26 := by
  refine ⟨by constructor <;> decide +kernel, by decide +kernel⟩
/-- test: the tensor of the moved copy is `Rᵀ T R` (instance of `orientTensor_rigid`), not diagonal-equal to `T` -/
example : orientTensor uqMs uqYs = M3.diag 26 10 20 ∧ orientTensor uqMs uqXs = M3.diag 10 20 26 := by decide +kernel
/-- test: both certificates hold exactly -/
example : isEigFrame (orientTensor uqMs uqXs) M3.one ⟨10, 20, 26⟩ 0 0 = true := by decide +kernel
example : isEigFrame (orientTensor uqMs uqYs) uqV' ⟨10, 20, 26⟩ 0 0 = true := by decide +kernel

/-- **All hypotheses of `orient_rigid_invariant` are jointly satisfiable** by a non-trivial value
(non-diagonal `R`, non-zero `t`, `V' ≠ RᵀV`): the theorem applied to the test data. -/
example : orientCore uqNoise uqMs uqYs uqV' = orientCore uqNoise uqMs uqXs M3.one :=
  orient_rigid_invariant (l := ⟨10, 20, 26⟩) (l' := ⟨10, 20, 26⟩) (by decide +kernel) uqT (by decide +kernel) (by decide +kernel)
    (by constructor <;> decide +kernel) (by decide +kernel) (by decide +kernel) (by decide +kernel) (by decide +kernel)
    ⟨-3, by decide +kernel, by decide +kernel⟩ ⟨-2, by decide +kernel, by decide +kernel⟩ ⟨-1, by decide +kernel, by decide +kernel⟩
/-- test: and the common value is the phased geometry (kernel evaluation, independent of the theorem) -/
example : orientCore uqNoise uqMs uqYs uqV' = .ok [⟨3, 0, 0⟩, ⟨-3, 0, 0⟩, ⟨0, 2, 0⟩, ⟨0, -2, 0⟩, ⟨0, 0, 1⟩, ⟨0, 0, -1⟩] := by
  decide +kernel

def uqOut : List (V3 ℚ) := [⟨3, 0, 0⟩, ⟨-3, 0, 0⟩, ⟨0, 2, 0⟩, ⟨0, -2, 0⟩, ⟨0, 0, 1⟩, ⟨0, 0, -1⟩]

/-- **All hypotheses of `orient_idempotent` are jointly satisfiable**: second-pass frame `diag(-1,1,-1)`. -/
example : orientCore uqNoise uqMs uqOut (M3.diag (-1) 1 (-1)) = .ok uqOut :=
  orient_idempotent (V := M3.one) (xs := uqXs) (l := ⟨10, 20, 26⟩) (l2 := ⟨10, 20, 26⟩) (by decide +kernel)
    (by decide +kernel) (by decide +kernel) (by decide +kernel) (by decide +kernel) (by decide +kernel)
    ⟨3, by decide +kernel, by decide +kernel⟩ ⟨2, by decide +kernel, by decide +kernel⟩ ⟨1, by decide +kernel, by decide +kernel⟩

end Examples

end QcelVerif.Orient
