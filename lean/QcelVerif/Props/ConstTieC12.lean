import QcelVerif.Model.UnoOrderings
import QcelVerif.Gen.SrcConsts
import QcelVerif.Props.ConstTieLib
/-!
# C12 — the constants of `Model/B787.lean` / `Model/UnoOrderings.lean` and of B787's keyword defaults are the source's

Inside the models: `best0` (the initial `best_rmsd = 100.0` Å in the units `np.around(·, decimals=8)` leaves), the
strict tests of the trial loop, the strict edge test `reducedcost < uno_cutoff`, the scale `100.0` and the square of
the per-class cost matrix.  The remaining constants of `align.py` are *arguments* of the models that the harness
supplies (a_convergence for `mols_align=True/False`, the default `uno_cutoff`, the `atol=1.0` of the permutative
filter): they are pinned here to the values harness/c12.py hard-codes (named in each comment), and the
translator compares `c12.aconv_units(True/False)` with the source's literals on every run.  `kabsch_align`'s
short-circuit must be `np.array_equal` (exact equality, no tolerance: a merely close geometry must not be answered with the identity); any other test is
refused by the translator.  `Gen/SrcConsts.lean` is rewritten on every run from `align.py` (by `ast`).
(The last two theorems, on the permutative `atol` and on `kabsch_align`'s short-circuit, sit in namespace
`QcelVerif.Uno` with the uno constants although they are about other parts of `align.py`.)
-/
namespace QcelVerif.B787
open QcelVerif QcelVerif.ConstTie

theorem align_float_literals_ok :
    FloatLit.ok Src.B787.uno_cutoff Src.B787.uno_cutoff_dec Src.B787.uno_cutoff_bits Src.B787.uno_cutoff_f64 = true ∧
    FloatLit.ok Src.plausible.uno_cutoff Src.plausible.uno_cutoff_dec Src.plausible.uno_cutoff_bits Src.plausible.uno_cutoff_f64 = true ∧
    FloatLit.ok Src.B787.a_convergence_true Src.B787.a_convergence_true_dec Src.B787.a_convergence_true_bits Src.B787.a_convergence_true_f64 = true ∧
    FloatLit.ok Src.B787.a_convergence_false Src.B787.a_convergence_false_dec Src.B787.a_convergence_false_bits Src.B787.a_convergence_false_f64 = true ∧
    FloatLit.ok Src.B787.best_rmsd_init Src.B787.best_rmsd_init_dec Src.B787.best_rmsd_init_bits Src.B787.best_rmsd_init_f64 = true ∧
    FloatLit.ok Src.B787.mirror_exact Src.B787.mirror_exact_dec Src.B787.mirror_exact_bits Src.B787.mirror_exact_f64 = true ∧
    FloatLit.ok Src.B787.mirror_uno_cutoff Src.B787.mirror_uno_cutoff_dec Src.B787.mirror_uno_cutoff_bits Src.B787.mirror_uno_cutoff_f64 = true ∧
    FloatLit.ok Src.plausible.permutative_atol Src.plausible.permutative_atol_dec Src.plausible.permutative_atol_bits Src.plausible.permutative_atol_f64 = true ∧
    FloatLit.ok Src.plausible.cost_scale Src.plausible.cost_scale_dec Src.plausible.cost_scale_bits Src.plausible.cost_scale_f64 = true := by
  decide +kernel

/-- `best_rmsd = 100.0` [Å] before the loop, in the model's unit `10^-decimals` Å of `np.around(temp_rmsd, decimals=8)` -/
theorem best0_matches_source :
    ((best0 : Int) : Rat) = Src.B787.best_rmsd_init_f64 * 10 ^ Src.B787.rmsd_decimals.toNat := by
  decide +kernel

/-- one trial: improvement is `temp_rmsd < best_rmsd` (strict) and the early exit `best_rmsd < a_convergence` (strict),
as the source writes both tests -/
theorem trial_update_matches_source (cfg : Cfg) (st : State) (i : Nat) (m : Bool) (v : Int) :
    update cfg st i m v =
      (if v < st.best then
        ({ best := v, sel := some (i, m), ocount := st.ocount + 1 }, !cfg.runToCompletion && decide (v < cfg.aconv))
       else ({ st with ocount := st.ocount + 1 }, false)) ∧
    Src.B787.tests_strict = true := by
  refine ⟨?_, by decide⟩
  unfold update
  by_cases h : v < st.best <;> simp [h]

/-- `a_convergence` for `mols_align=True` / `False`: the doubles `aconv_units` of harness/c12.py turns into the
model's `aconv` (1e-3 Å → 100000 units of 1e-8 Å; 0.0 → 0), and `mols_align`'s default is `False` -/
theorem a_convergence_matches_source :
    Src.B787.a_convergence_true_f64 = (1152921504606847 : Rat) / 1152921504606846976 ∧
    Src.B787.a_convergence_true * 10 ^ Src.B787.rmsd_decimals.toNat = 100000 ∧
    Src.B787.a_convergence_false_f64 = 0 ∧ Src.B787.mols_align = false ∧ Src.B787.run_to_completion = false := by
  decide +kernel

/-- the default `uno_cutoff` of `B787` and of `_plausible_atom_orderings` is the double `1.0e-3` that harness/c12.py
hard-codes (default of its wrapper `plaus_w`, and the literal passed to `capture_uno` / `check_true_map_candidate`);
the default algorithm of both is `hungarian_uno`; the mirror pre-test's hard-coded
cutoff and exactness are `0.1` and `1.0e-6` -/
theorem uno_cutoff_defaults_match_source :
    Src.B787.uno_cutoff_f64 = (1152921504606847 : Rat) / 1152921504606846976 ∧
    Src.plausible.uno_cutoff_f64 = Src.B787.uno_cutoff_f64 ∧
    Src.B787.algorithm = "hungarian_uno" ∧ Src.plausible.algorithm = Src.B787.algorithm ∧
    Src.B787.mirror_uno_cutoff = 1 / 10 ∧ Src.B787.mirror_exact = 1 / 1000000 ∧
    Src.B787.run_mirror = false ∧ Src.B787.atoms_map = false ∧ Src.B787.run_resorting = false := by
  decide +kernel

/-- `Molecule.align` declares the same defaults as `B787` and forwards the six options unchanged (no `algorithm=`) -/
theorem molecule_align_defaults_match_source :
    Src.Molecule_align.uno_cutoff_f64 = Src.B787.uno_cutoff_f64 ∧ Src.Molecule_align.mols_align = Src.B787.mols_align ∧
    Src.Molecule_align.run_to_completion = Src.B787.run_to_completion ∧ Src.Molecule_align.run_mirror = Src.B787.run_mirror ∧
    Src.Molecule_align.atoms_map = Src.B787.atoms_map ∧ Src.Molecule_align.run_resorting = Src.B787.run_resorting ∧
    Src.Molecule_align.generic_ghosts = false ∧ Src.Molecule_align.forwards_options = true ∧
    FloatLit.ok Src.Molecule_align.uno_cutoff Src.Molecule_align.uno_cutoff_dec Src.Molecule_align.uno_cutoff_bits Src.Molecule_align.uno_cutoff_f64 = true := by
  decide +kernel

end QcelVerif.B787

namespace QcelVerif.Uno
open QcelVerif

/-- an entry of the reduced matrix is an edge iff it is strictly below the cutoff (`reducedcost < uno_cutoff`) -/
theorem edge_test_matches_source (red : Mat) (cut : Rat) (i j : Nat) :
    edgeB red cut i j = decide (red i j < cut) ∧ Src.plausible.edges_strict = true := ⟨rfl, by decide⟩

/-- the per-class cost matrix: `(K·ΣC − K·ΣR) ** 2` with the source's scale `K = 100.0` and exponent 2 -/
theorem class_cost_matches_source (nR nC : Mat) (rgp cgp : List Nat) (i j : Nat) :
    classCost nR nC rgp cgp i j =
      (Src.plausible.cost_scale_f64 * ((cgp.map fun x => nC x (cgp.getD i 0)).sum)
        - Src.plausible.cost_scale_f64 * ((rgp.map fun x => nR x (rgp.getD j 0)).sum))
      ^ Src.plausible.cost_power.toNat := by
  have h1 : Src.plausible.cost_scale_f64 = 100 := by decide +kernel
  have h2 : Src.plausible.cost_power.toNat = 2 := by decide
  rw [h1, h2]
  simp only [classCost, classSum]
  rw [Rat.pow_succ, Rat.pow_succ, Rat.pow_zero, Rat.one_mul]

/-- the permutative filter's `np.allclose(bnbn, cncn, atol=1.0)` (no `rtol=`: numpy's default `1e-5`): the `atol` is
the `1.0` harness/c12.py hands to the model's `filterPermutative` (second number of its `P` line, after `rtol = 1e-5`) -/
theorem permutative_atol_matches_source : Src.plausible.permutative_atol_f64 = 1 := by decide +kernel

/-- `kabsch_align` short-circuits only on exactly equal geometries: the translator accepts no test other than
`np.array_equal(R, C)` returning `(0.0, identity, zeros)` -/
theorem kabsch_short_circuit_is_exact : Src.kabsch.short_circuit_exact = true := by decide

end QcelVerif.Uno
