import QcelVerif.Lemmas.Formula
/-!
# C15 (formula part) — property theorems about `Model/Formula.lean`

The theorems of THIS file are about the (element, count) token list `tokens`.  The string
rendering and the regex-based re-parsing in `order_molecular_formula` are proved, on the same
executable model, in `Props/C15FormulaStr.lean` (parse ∘ render, idempotence and conversion at
string level) and `Props/C15Symbols.lean` (every periodic-table symbol is well formed).
`le` is the key order (`strLe` = code-point order in the driver); only the stated order axioms
are used.
-/
namespace QcelVerif.Formula
variable {κ : Type} [DecidableEq κ]

theorem keys_tokens (le : κ → κ → Bool) (C H : κ) (ord : Order) (syms : List κ) :
    (tokens le C H ord syms).map Prod.fst = elementOrder le C H ord syms := by
  simp [tokens, List.map_map, Function.comp_def]

/-- **Counts.** The formula lists every distinct symbol exactly once, nothing else, each with
its number of occurrences (which is positive). -/
theorem formula_counts (le : κ → κ → Bool) (C H : κ) (ord : Order) (syms : List κ) :
    ((tokens le C H ord syms).map Prod.fst).Nodup ∧
    (∀ k, k ∈ (tokens le C H ord syms).map Prod.fst ↔ k ∈ syms) ∧
    (∀ t ∈ tokens le C H ord syms, t.2 = syms.count t.1 ∧ 0 < t.2) := by
  have hp := elementOrder_perm le C H ord syms
  refine ⟨?_, ?_, ?_⟩
  · rw [keys_tokens]; exact hp.nodup_iff.2 (nodup_dedupKeys syms)
  · intro k; rw [keys_tokens, hp.mem_iff, mem_dedupKeys]
  · intro t ht
    simp only [tokens, List.mem_map] at ht
    obtain ⟨k, hk, rfl⟩ := ht
    refine ⟨rfl, ?_⟩
    have : k ∈ syms := (mem_dedupKeys syms k).1 (hp.mem_iff.1 hk)
    exact List.count_pos_iff.2 this

/-- **Alphabetical order.** With `order="alphabetical"` the element keys appear in non-decreasing `le` order. -/
theorem formula_alphabetical_sorted (le : κ → κ → Bool) (C H : κ) (syms : List κ)
    (htrans : ∀ a b c, le a b = true → le b c = true → le a c = true)
    (htotal : ∀ a b, (le a b || le b a) = true) :
    ((tokens le C H .alphabetical syms).map Prod.fst).Pairwise (fun a b => le a b = true) := by
  rw [keys_tokens]
  exact List.pairwise_mergeSort htrans htotal _

/-- **Hill order.** Without carbon: alphabetical.  With carbon: `C`, then `H` if present, then
all other elements in alphabetical order. -/
theorem formula_hill (le : κ → κ → Bool) (C H : κ) (syms : List κ) (hCH : H ≠ C)
    (htrans : ∀ a b c, le a b = true → le b c = true → le a c = true)
    (htotal : ∀ a b, (le a b || le b a) = true) :
    (C ∉ syms → (tokens le C H .hill syms).map Prod.fst = (tokens le C H .alphabetical syms).map Prod.fst) ∧
    (C ∈ syms →
      (tokens le C H .hill syms).map Prod.fst =
        C :: ((if H ∈ syms then [H] else []) ++
          ((tokens le C H .alphabetical syms).map Prod.fst).filter (fun k => k != H && k != C)) ∧
      (((tokens le C H .alphabetical syms).map Prod.fst).filter (fun k => k != H && k != C)).Pairwise
        (fun a b => le a b = true)) := by
  simp only [keys_tokens, elementOrder]
  have hmem : ∀ k, k ∈ sortedKeys le syms ↔ k ∈ syms := fun k => by
    rw [(sortedKeys_perm le syms).mem_iff, mem_dedupKeys]
  have hnd : (sortedKeys le syms).Nodup := (sortedKeys_perm le syms).nodup_iff.2 (nodup_dedupKeys syms)
  constructor
  · intro hC
    have : C ∉ sortedKeys le syms := fun h => hC ((hmem C).1 h)
    simp [hillOrder, this]
  · intro hC
    have hC' : C ∈ sortedKeys le syms := (hmem C).2 hC
    refine ⟨?_, (List.pairwise_mergeSort htrans htotal _).filter _⟩
    by_cases hH : H ∈ syms
    · have hH' : H ∈ sortedKeys le syms := (hmem H).2 hH
      simp only [hillOrder, hC', hH', hH, ↓reduceIte, List.cons_append, List.nil_append]
      rw [List.erase_cons_tail (by simpa using hCH)]
      rw [hnd.erase_eq_filter, (hnd.filter _).erase_eq_filter, List.filter_filter]
      congr 2
      apply List.filter_congr
      intro x _
      exact Bool.and_comm _ _
    · have hH' : H ∉ sortedKeys le syms := fun h => hH ((hmem H).1 h)
      simp only [hillOrder, hC', hH', hH, ↓reduceIte, List.nil_append]
      rw [hnd.erase_eq_filter]
      congr 1
      apply List.filter_congr
      intro x hx
      have : x ≠ H := fun e => hH' (e ▸ hx)
      simp [this]

/-! ### idempotence of re-ordering (token level) -/

omit [DecidableEq κ] in
theorem mem_expand {T : List (κ × Nat)} {k : κ} (h : k ∈ expand T) : k ∈ T.map Prod.fst := by
  simp only [expand, List.mem_flatMap, List.mem_replicate] at h
  obtain ⟨t, ht, _, rfl⟩ := h
  exact List.mem_map.2 ⟨t, ht, rfl⟩

theorem count_expand (k : κ) : ∀ (T : List (κ × Nat)), (T.map Prod.fst).Nodup →
    ∀ n, (k, n) ∈ T → (expand T).count k = n
  | [], _, _, h => by simp at h
  | (k', n') :: T, hnd, n, h => by
      simp only [List.map_cons, List.nodup_cons] at hnd
      have e : expand ((k', n') :: T) = List.replicate n' k' ++ expand T := by simp [expand]
      rw [e, List.count_append]
      rcases List.mem_cons.1 h with h | h
      · cases h
        have : (expand T).count k = 0 := List.count_eq_zero.2 (fun hk => hnd.1 (mem_expand hk))
        simp [this]
      · have hk : k ≠ k' := fun e => hnd.1 (e ▸ List.mem_map.2 ⟨(k, n), h, rfl⟩)
        have ih := count_expand k T hnd.2 n h
        rw [ih, List.count_replicate]
        simp [Ne.symm hk]

theorem tokens_congr (le : κ → κ → Bool) (C H : κ) (ord : Order) {l l' : List κ} (h : ∀ k, l.count k = l'.count k)
    (htrans : ∀ a b c, le a b = true → le b c = true → le a c = true)
    (htotal : ∀ a b, (le a b || le b a) = true)
    (hanti : ∀ a b, le a b = true → le b a = true → a = b) :
    tokens le C H ord l = tokens le C H ord l' := by
  have hmem : ∀ k, k ∈ dedupKeys l ↔ k ∈ dedupKeys l' := fun k => by
    rw [mem_dedupKeys, mem_dedupKeys, ← List.count_pos_iff, ← List.count_pos_iff, h]
  have hs : sortedKeys le l = sortedKeys le l' :=
    List.Perm.eq_of_pairwise (le := fun a b => le a b = true) (fun a b _ _ => hanti a b)
      (List.pairwise_mergeSort htrans htotal _) (List.pairwise_mergeSort htrans htotal _)
      ((sortedKeys_perm le l).trans (((List.perm_ext_iff_of_nodup (nodup_dedupKeys l) (nodup_dedupKeys l')).2 hmem).trans
        (sortedKeys_perm le l').symm))
  simp only [tokens, elementOrder, hs, h]

theorem count_expand_tokens (le : κ → κ → Bool) (C H : κ) (ord : Order) (syms : List κ) (k : κ) :
    (expand (tokens le C H ord syms)).count k = syms.count k := by
  obtain ⟨hnd, hmem, _⟩ := formula_counts le C H ord syms
  by_cases hk : k ∈ syms
  · refine count_expand k _ hnd _ ?_
    have := (hmem k).2 hk
    rw [keys_tokens] at this
    exact List.mem_map.2 ⟨k, this, rfl⟩
  · rw [List.count_eq_zero.2 hk, List.count_eq_zero]
    exact fun h => hk ((hmem k).1 (mem_expand h))

/-- **Re-ordering converts between the conventions** (token level): expanding the tokens of a formula
written in convention `ord` and ordering the symbols in convention `ord'` gives the tokens of
the original symbols in convention `ord'`. -/
theorem order_convert_tokens (le : κ → κ → Bool) (C H : κ) (ord ord' : Order) (syms : List κ)
    (htrans : ∀ a b c, le a b = true → le b c = true → le a c = true)
    (htotal : ∀ a b, (le a b || le b a) = true)
    (hanti : ∀ a b, le a b = true → le b a = true → a = b) :
    tokens le C H ord' (expand (tokens le C H ord syms)) = tokens le C H ord' syms :=
  tokens_congr le C H ord' (count_expand_tokens le C H ord syms) htrans htotal hanti

/-- **Re-ordering is idempotent** (token level): expanding a formula's tokens back into a symbol
list and ordering again (same convention) reproduces the tokens. -/
theorem order_idempotent_tokens (le : κ → κ → Bool) (C H : κ) (ord : Order) (syms : List κ)
    (htrans : ∀ a b c, le a b = true → le b c = true → le a c = true)
    (htotal : ∀ a b, (le a b || le b a) = true)
    (hanti : ∀ a b, le a b = true → le b a = true → a = b) :
    tokens le C H ord (expand (tokens le C H ord syms)) = tokens le C H ord syms :=
  order_convert_tokens le C H ord ord syms htrans htotal hanti

/-! ### non-vacuity / tests -/

-- the order hypotheses are satisfiable (Nat with ≤), and concrete formulas (tests, evaluated)
#guard tokens (fun a b : Nat => decide (a ≤ b)) 6 1 .hill [8, 1, 6, 1, 17, 6, 1] ==
    [(6, 2), (1, 3), (8, 1), (17, 1)]
#guard tokens (fun a b : Nat => decide (a ≤ b)) 6 1 .alphabetical [8, 1, 6, 1, 17, 6, 1] ==
    [(1, 3), (6, 2), (8, 1), (17, 1)]
#guard fromSymbols ["h", "C", "cl", "H", "O", "he"] .hill == "CH2ClHeO"
#guard orderFormula "H4CCl2O" .hill == some "CH4Cl2O"
example : (∀ a b c : Nat, decide (a ≤ b) = true → decide (b ≤ c) = true → decide (a ≤ c) = true) ∧
    (∀ a b : Nat, (decide (a ≤ b) || decide (b ≤ a)) = true) ∧
    (∀ a b : Nat, decide (a ≤ b) = true → decide (b ≤ a) = true → a = b) := by
  refine ⟨?_, ?_, ?_⟩ <;> intros <;> simp at * <;> omega

end QcelVerif.Formula
