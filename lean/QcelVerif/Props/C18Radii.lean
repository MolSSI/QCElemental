import QcelVerif.Lemmas.MeasureRadii
import QcelVerif.Props.C18
/-!
# C18 — guessed connectivity from *symbols*: the radius look-up in front of the bond criterion

Model: `Model/MeasureRadii.lean` (connectivity.py:37-42 on top of C17's model of
`CovalentRadii.get`; radius and periodic tables regenerated from `/repo` by the translators).
-/
namespace QcelVerif.Measure
open QcelVerif QcelVerif.PStr QcelVerif.PT QcelVerif.Radii

/-- what radius the loop connectivity.py:37-42 uses, for ANY tables: nothing identifies the symbol
→ `1.8` (the `except NotAnElementError` branch); identified but no tabulated radius → `1.8`
(`missing=1.8`); tabulated → the stored value converted to bohr (`fl(factor · float(data))`, C17's
`Payload.scale`); a failing unit conversion escapes (`none`). -/
theorem connRadius_spec (T : Tables) (t : Table) (convF : Bytes → Bytes → Option Rat) (s : Bytes) :
    connRadiusWith T t convF s =
      match identify T t (.str s) with
      | none => some missing18
      | some k =>
        match lookupK t k with
        | none => some missing18
        | some d =>
          match convF d.units bBohr with
          | none => none
          | some f =>
            match d.data.scale f with
            | .value x => some x
            | _ => none := by
  unfold connRadiusWith getU Radii.get
  cases identify T t (.str s) with
  | none => rfl
  | some k =>
    simp only [getByKey]
    cases lookupK t k with
    | none => rfl
    | some d =>
      simp only [Bool.false_eq_true, if_false, Datum.toUnits, Option.getD_none]
      cases convF d.units bBohr with
      | none => rfl
      | some f =>
        simp only
        cases d.data.scale f <;> rfl

section ordered
variable {K : Type} [Field K] [LinearOrder K] [IsStrictOrderedRing K]

/-- **exactness from symbols**: with `rad` the radius look-up (any function; the driver uses
`connRadius` = shipped tables), `(i, j)` is listed iff `i < j`, both rows exist and
`d² < ((r(sᵢ) + r(sⱼ))·thr)²` with a positive cutoff. -/
theorem connectivity_sym_exact (rad : Bytes → Option K) (thr : K) (l : List (Bytes × V3 K))
    (atoms : List (Atom K)) (h : atomsOfSymbols rad l = some atoms) (i j : Nat) :
    (i, j) ∈ guessConnectivity thr atoms ↔
      i < j ∧ ∃ si pi sj pj ri rj, l[i]? = some (si, pi) ∧ l[j]? = some (sj, pj) ∧
        rad si = some ri ∧ rad sj = some rj ∧
        0 < (ri + rj) * thr ∧ distSq pi pj < ((ri + rj) * thr) * ((ri + rj) * thr) := by
  rw [connectivity_exact]
  constructor
  · rintro ⟨hij, a, b, ha, hb, hc⟩
    obtain ⟨si, hli, hri⟩ := (atomsOfSymbols_getElem? rad l atoms h i a).mp ha
    obtain ⟨sj, hlj, hrj⟩ := (atomsOfSymbols_getElem? rad l atoms h j b).mp hb
    exact ⟨hij, si, a.p, sj, b.p, a.r, b.r, hli, hlj, hri, hrj, hc⟩
  · rintro ⟨hij, si, pi, sj, pj, ri, rj, hli, hlj, hri, hrj, hc⟩
    refine ⟨hij, ⟨ri, pi⟩, ⟨rj, pj⟩, ?_, ?_, hc⟩
    · exact (atomsOfSymbols_getElem? rad l atoms h i ⟨ri, pi⟩).mpr ⟨si, hli, hri⟩
    · exact (atomsOfSymbols_getElem? rad l atoms h j ⟨rj, pj⟩).mpr ⟨sj, hlj, hrj⟩

/-- the radii do not depend on the geometry, so the whole symbol-level function is unchanged by
every orthogonal motion of the geometry (including whether a look-up raises) -/
theorem connectivity_sym_rigid_invariant (rad : Bytes → Option K) (T : Motion K)
    (hT : T.R.IsOrthogonal) (thr : K) (dc : Option K) (l : List (Bytes × V3 K)) :
    guessConnectivitySym rad thr dc (l.map fun sp => (sp.1, T.apply sp.2))
      = guessConnectivitySym rad thr dc l := by
  unfold guessConnectivitySym
  rw [atomsOfSymbols_move]
  cases atomsOfSymbols rad l with
  | none => rfl
  | some as =>
    simp only [Option.map_some]
    congr 1
    unfold guessConnectivityDC
    rw [connectivity_rigid_invariant T hT]

end ordered

/-! ## non-vacuity (tests) -/
section examples

/-- hypothesis of `connectivity_sym_exact`: a look-up that succeeds on a 3-atom list -/
example : ∃ (rad : Bytes → Option ℚ) (l : List (Bytes × V3 ℚ)) (atoms : List (Atom ℚ)),
    atomsOfSymbols rad l = some atoms ∧ atoms.length = 3 :=
  ⟨fun _ => some (1 / 2), [([72], ⟨0, 0, 0⟩), ([72], ⟨1, 0, 0⟩), ([79], ⟨0, 3, 0⟩)], _, rfl, rfl⟩

/-- TEST: `missing18` is the double nearest to 1.8 (numerator × 2⁻⁵² ; |x − 9/5| < 2⁻⁵³) -/
example : missing18 - 9 / 5 < 1 / 2 ^ 53 ∧ 9 / 5 - missing18 < 1 / 2 ^ 53 := by
  unfold missing18
  constructor <;> decide +kernel

end examples

end QcelVerif.Measure
