import QcelVerif.Props.C04DefaultTabA
import QcelVerif.Props.C04DefaultTabB
import QcelVerif.Props.C04DefaultTabC
import QcelVerif.Props.C04DefaultTabD
import QcelVerif.Props.C04DefaultTabE
import QcelVerif.Props.C04Schema
import QcelVerif.Lemmas.C04Rd64
/-!
# C04 — the fixed point at the DEFAULT settings, with no hypothesis on the atoms

`Props/C04C06.lean` proves `from_arrays (from_arrays x) = from_arrays x` for records whose atoms are
`SelfConsistent` and shows that hypothesis cannot be dropped for wide mass windows (`mtol = 2`).  Here the
hypothesis is DISCHARGED for the C06 model under `rd64` over the generated periodic table whenever

    nonphysical = False   and   0 ≤ mtol ≤ 0.9865 u          (the default is mtol = 1e-3)

whatever `speclabel` is and whatever clues were given:

  * a mass was supplied (argument or `@mass` in the label): the mass pins `A` (`selfConsistent_of_mass_clue`);
    its hypothesis `rd (rd m) = rd m` is a theorem about `rd64` (`rd64_idem`, Lemmas/C04Rd64.lean);
  * a mass number was supplied without a mass (argument `elea` or label `2H`):
    `selfConsistent_of_A_clue` with the table facts (T1) every tabulated mass rounds half-even to its mass
    number, (T2) no element's default mass lies within 0.9865 u of another of its nuclides
    (`shipped_isotopes_rederive`, put together from the kernel evaluations `iso_rows_A` … `iso_rows_E` of
    `C04DefaultTab{A..E}.lean`: every element row and every mass number of its tabulated range);
  * neither: the default isotope (`selfConsistent_of_default`, C04C06).

The characterisation is sharp in `mtol`: at `mtol = 0.9866` the call `A=3, E='He'` is answered with the
mass of He-4 (4.0026 − 3.0160 = 0.98657 ≤ mtol) and that answer fed back is refused
(`window_bound_sharp`, kernel evaluation; replayed on the implementation).  So, for `nonphysical = False`,
the set of successful answers that are not self-consistent is EMPTY for `0 ≤ mtol ≤ 0.9865` and non-empty
at `mtol = 0.9866` (the one point that is proved).
The schema round trip of `Props/C04Schema.lean` is restated for these settings without its `SelfConsistent`
hypothesis (`schema_roundtrip_default` and the two `schema_roundtrip_twice_default…`).
NOT covered: a negative `mtol`; `nonphysical = True` with a mass number and no mass (the range test that
bounds the enumeration is switched off there).
-/
namespace QcelVerif.FromArrays
open QcelVerif.Nucleus

/-- all element rows pass `elementIsoOk`: the five evaluations of `C04DefaultTab{A,B,C,D,E}`, 24 rows each and the rest -/
theorem shipped_isotope_rows : Gen.PT.elements.all elementIsoOk = true := by
  have h := all_drop_of_chunk elementIsoOk Gen.PT.elements 72 24 iso_rows_D iso_rows_E
  have h := all_drop_of_chunk elementIsoOk Gen.PT.elements 48 24 iso_rows_C h
  have h := all_drop_of_chunk elementIsoOk Gen.PT.elements 24 24 iso_rows_B h
  exact all_drop_of_chunk elementIsoOk Gen.PT.elements 0 24 iso_rows_A h

/-- an exact distance of at least `isoC` is more than `isoB` after rounding: `rd64` does not cross the binary64 number
`isoC` (`le_rd64_of_fixed_le`) -/
theorem far_of_isoC (x : Rat) (h : isoC ≤ absR x) : isoB < absR (rd64 x) := by
  have hfix : rd64 isoC = isoC := by decide +kernel
  have hlt : isoB < isoC := by decide +kernel
  have h0 : (0 : Rat) < isoC := by decide +kernel
  unfold absR at h ⊢
  split at h
  · have := le_rd64_of_fixed_le h hfix
    rw [rd64_odd] at this
    split <;> linarith
  · have := le_rd64_of_fixed_le h hfix
    split <;> linarith

/-- **(T1)+(T2) for the shipped table under `rd64`** [`isotopesReDerive_of_rows` applied to the kernel-evaluated
row checks `shipped_isotope_rows`: every element row × every mass number of its tabulated range]: whenever
`E+str(a)` is tabulated (a = −1 or inside the element's range) its binary64 mass rounds half-even to `a`, and the element's default mass is that very mass or more than
0.9865 u away (float-evaluated). -/
theorem shipped_isotopes_rederive : IsotopesReDerive shippedN rd64 (elRange shippedN rd64) isoB :=
  isotopesReDerive_of_rows far_of_isoC shipped_isotope_rows

theorem dfltMtol_le_isoB : dfltMtol ≤ isoB := by decide +kernel

/-- **Every successful answer is `SelfConsistent`** — C06 model, shipped table, `rd64`;
`nonphysical = False`, `0 ≤ mtol ≤ 0.9865`; ANY clues, either `speclabel`.  There is no hypothesis on the
answer, the clues or the rounding function. -/
theorem narrow_window_selfconsistent (st : NucSettings) (c : Clue) (u : Nuc)
    (h : reconOfC06 rd64 st c = .ok u)
    (hnp : st.nonphysical = false) (hm0 : 0 ≤ st.mtol) (hmB : st.mtol ≤ isoB) :
    SelfConsistent shippedN rd64 st.mtol u := by
  by_cases hM : ∃ m, ClaimsMass rd64 (toInput st c) m
  · obtain ⟨m, hM⟩ := hM
    exact selfConsistent_of_mass_clue shippedN rd64 _ shipped_coherent.1 st c u h m hM (hM.rounded rd64_idem)
  · have hM' : ∀ m, ¬ ClaimsMass rd64 (toInput st c) m := fun m hm => hM ⟨m, hm⟩
    by_cases hA : ∃ a, ClaimsA (toInput st c) a
    · obtain ⟨a, hA⟩ := hA
      exact selfConsistent_of_A_clue shippedN rd64 _ isoB shipped_isotopes_rederive rd64_odd rd64_idem
        st c u h hnp hm0 hmB a hA hM'
    · exact selfConsistent_of_default shippedN rd64 _ shipped_coherent.1 shipped_default_rederives rd64_odd
        st c u h (fun a ha => hA ⟨a, ha⟩) hM' hm0

/-- the instance at the default settings
(`mtol = 1.0e-3`, `nonphysical = False`, `speclabel` as the caller passes it) -/
theorem default_settings_selfconsistent (st : NucSettings) (c : Clue) (u : Nuc)
    (h : reconOfC06 rd64 st c = .ok u) (hnp : st.nonphysical = false) (hmt : st.mtol = dfltMtol) :
    SelfConsistent shippedN rd64 dfltMtol u := by
  have := narrow_window_selfconsistent st c u h hnp (by rw [hmt]; exact dfltMtol_nonneg)
    (by rw [hmt]; exact dfltMtol_le_isoB)
  rw [hmt] at this
  exact this

/-- **`NucIdem` restricted to the narrow windows — full**: an answer fed back (`speclabel = False`) is
answered by itself. -/
theorem recon_c06_idem_narrow (st : NucSettings) (c : Clue) (u : Nuc)
    (h : reconOfC06 rd64 st c = .ok u)
    (hnp : st.nonphysical = false) (hm0 : 0 ≤ st.mtol) (hmB : st.mtol ≤ isoB) :
    reconOfC06 rd64 { st with speclabel := false } (clueOf u) = .ok u :=
  recon_c06_idem_partial shippedN rd64 _ shipped_coherent.1 shipped_roundtrips rd64_odd st c u h
    (narrow_window_selfconsistent st c u h hnp hm0 hmB)

/-- … at the default settings -/
theorem recon_c06_idem_default (st : NucSettings) (c : Clue) (u : Nuc)
    (h : reconOfC06 rd64 st c = .ok u) (hnp : st.nonphysical = false) (hmt : st.mtol = dfltMtol) :
    reconOfC06 rd64 { st with speclabel := false } (clueOf u) = .ok u :=
  recon_c06_idem_narrow st c u h hnp (by rw [hmt]; exact dfltMtol_nonneg) (by rw [hmt]; exact dfltMtol_le_isoB)

/-- **Fixed point — full for narrow windows.**  Whatever was supplied (any mix of `elea`, `elez`, `elem`,
`mass`, `real`, `elbl`, either `speclabel`, any geometry / fragments / charges): a record returned by
`from_arrays` with `nonphysical = False` and `0 ≤ mtol ≤ 0.9865`, passed through `from_arrays` again, is
returned unchanged. -/
theorem from_arrays_idempotent_narrow (angToAu : Rat) (i : Inp) (r : Molrec)
    (h : fromArrays (envC06 rd64 angToAu) i = .ok r)
    (hnp : i.nonphysical = false) (hm0 : 0 ≤ i.mtol) (hmB : i.mtol ≤ isoB) :
    fromArrays (envC06 rd64 angToAu) (asInput i r) = .ok r :=
  from_arrays_idempotent_c06_partial rd64 rd64_odd angToAu i r h
    (recNucs_forall h fun c u hc => narrow_window_selfconsistent (nucSettings i) c u hc hnp hm0 hmB)

/-- **The property's fixed-point clause**: passing a validated molecule through validation again returns it
unchanged, for EVERY successful build at the default settings (`mtol = 1.0e-3`, `nonphysical = False`):
no self-consistency hypothesis, no hypothesis on the rounding function. -/
theorem from_arrays_idempotent_default (angToAu : Rat) (i : Inp) (r : Molrec)
    (h : fromArrays (envC06 rd64 angToAu) i = .ok r)
    (hnp : i.nonphysical = false) (hmt : i.mtol = dfltMtol) :
    fromArrays (envC06 rd64 angToAu) (asInput i r) = .ok r :=
  from_arrays_idempotent_narrow angToAu i r h hnp (by rw [hmt]; exact dfltMtol_nonneg)
    (by rw [hmt]; exact dfltMtol_le_isoB)

/-! ### tests: isotopes given by mass number only (no mass), by evaluation and by the theorem -/

/-- HD-like input: deuterium given by `elea` only (no mass), tritium by label `3H` only, a ghost `@2H_x`;
default settings -/
def isoInp : Inp :=
  { geom := some [0, 0, 0, 0, 0, 2, 0, 2, 0, 2, 0, 0], elea := some [some 2, none, none, none],
    elez := some [some 1, none, none, some 8], elem := none, mass := none, real := none,
    elbl := some [none, some "3H", some "@2h_x", none],
    name := none, comment := none, units := "bohr".toList, iutau := none,
    fixCom := .none, fixOrient := .none, fixSymm := none, seps := none, fc := none, fm := none,
    c := none, m := none, conn := none, minimal := false, speclabel := true,
    nonphysical := false, mtol := dfltMtol, tooclose := dfltTooclose, zgf := false }

def isoRec : Molrec :=
  { units := sBohr, iutau := none, name := none, comment := none, conn := none,
    geom := [0, 0, 0, 0, 0, 2, 0, 2, 0, 2, 0, 0], elea := [2, 3, 2, 16], elez := [1, 1, 1, 8],
    elem := ["H", "H", "H", "O"],
    mass := [4535354008713743 / 2251799813685248, 6791539202040747 / 2251799813685248,
             4535354008713743 / 2251799813685248, 4502168220032397 / 281474976710656],
    real := [true, true, false, true], elbl := ["", "", "_x", ""], seps := [], c := 0, fc := [0], m := 1, fm := [1],
    fixCom := false, fixOrient := false, fixSymm := none }

/-- test [decide +kernel]: the whole pipeline accepts it with the tabulated masses of H-2 / H-3 -/
theorem iso_ok : fromArrays (envC06 rd64 1) isoInp = .ok isoRec := by decide +kernel

/-- non-vacuity of `from_arrays_idempotent_default` on isotopes given by mass number only: the fixed point BY THE THEOREM -/
theorem from_arrays_idempotent_default_elea :
    fromArrays (envC06 rd64 1) (asInput isoInp isoRec) = .ok isoRec :=
  from_arrays_idempotent_default 1 isoInp isoRec iso_ok rfl rfl

/-- test [decide +kernel]: … and by evaluation -/
example : fromArrays (envC06 rd64 1) (asInput isoInp isoRec) = .ok isoRec := by decide +kernel

/-- `A=3, E='He'`, `mtol = 0.9866` -/
def sharpSt : NucSettings := { speclabel := true, nonphysical := false, mtol := 9866 / 10000 }
def sharpClue : Clue := { A := some 3, Z := none, E := some "He", mass := none, real := none, label := none }
/-- the answer: helium-3's mass number with the mass of He-4 (`float("4.00260325413")`) -/
def sharpNuc : Nuc :=
  { A := 3, Z := 2, E := "He", mass := 4506530630952951 / 1125899906842624, real := true, label := "" }

/-- **The bound 0.9865 is sharp** [decide +kernel: the whole C06 model under `rd64` on the generated table]:
at `mtol = 0.9866` the call `A=3, E='He'` returns `A = 3` with the mass of He-4; that answer is not
`SelfConsistent` and fed back it is a ValidationError.  (Replayed on the implementation:
`reconcile_nucleus(A=3, E='He', mtol=0.9866)` → `(3, 2, 'He', 4.00260325413, True, '')`, fed back →
ValidationError; at `mtol = 0.9865` the mass of He-3 is returned and the answer is reproduced.) -/
theorem window_bound_sharp :
    reconOfC06 rd64 sharpSt sharpClue = .ok sharpNuc ∧
    ¬ SelfConsistent shippedN rd64 sharpSt.mtol sharpNuc ∧
    reconOfC06 rd64 { sharpSt with speclabel := false } (clueOf sharpNuc) = .error .validation := by
  have h1 : reconOfC06 rd64 sharpSt sharpClue = .ok sharpNuc := by decide +kernel
  have h3 : reconOfC06 rd64 { sharpSt with speclabel := false } (clueOf sharpNuc) = .error .validation := by
    decide +kernel
  refine ⟨h1, fun hsc => ?_, h3⟩
  -- a self-consistent answer would be reproduced (`recon_c06_idem_partial`)
  have h2 := recon_c06_idem_partial shippedN rd64 _ shipped_coherent.1 shipped_roundtrips rd64_odd
    sharpSt sharpClue sharpNuc h1 hsc
  cases h2.symm.trans h3

/-- one helium atom, `elea=[3]`, `elem=['He']`, `mtol = 0.9866` -/
def sharpInp : Inp :=
  { geom := some [0, 0, 0], elea := some [some 3], elez := none, elem := some [some "He"], mass := none,
    real := none, elbl := none, name := none, comment := none, units := "Bohr".toList, iutau := none,
    fixCom := .none, fixOrient := .none, fixSymm := none, seps := none, fc := none, fm := none,
    c := none, m := none, conn := none, minimal := false, speclabel := true,
    nonphysical := false, mtol := 9866 / 10000, tooclose := 1 / 10, zgf := false }

def sharpRec : Molrec :=
  { units := sBohr, iutau := none, name := none, comment := none, conn := none,
    geom := [0, 0, 0], elea := [3], elez := [2], elem := ["He"], mass := [4506530630952951 / 1125899906842624],
    real := [true], elbl := [""], seps := [], c := 0, fc := [0], m := 1, fm := [1],
    fixCom := false, fixOrient := false, fixSymm := none }

/-- **… through the whole pipeline** [decide +kernel]: the hypothesis `mtol ≤ 0.9865` of
`from_arrays_idempotent_narrow` cannot be relaxed to `0.9866`. -/
theorem from_arrays_window_bound_sharp :
    fromArrays (envC06 rd64 1) sharpInp = .ok sharpRec ∧
    fromArrays (envC06 rd64 1) (asInput sharpInp sharpRec) = .error .validation := by
  constructor <;> decide +kernel

/-- **Round trip of a `from_arrays` record at the default settings — full** (C06 model, `rd64`, shipped
table): `schema_roundtrip_c06_partial` without its `SelfConsistent` hypothesis.  The other hypotheses are the two
shown necessary in `Props/C04Schema.lean` (at least one atom; the exported geometry passes the
default overlap screen) and the settings themselves (`mtol` the default — `from_schema` has no `mtol=`
keyword —, `nonphysical = False` on both sides). -/
theorem schema_roundtrip_default (angToAu : Rat) (P : SchemaParams) (i : Inp) (r : Molrec) (v : Int)
    (hv : v = 1 ∨ v = 2) (h : fromArrays (envC06 rd64 angToAu) i = .ok r)
    (hmt : i.mtol = dfltMtol) (hnp : i.nonphysical = false) (hP : P.nonphysical = false)
    (hn : r.elem.length ≠ 0)
    (hgeo : validateGeometry dfltTooclose (exportGeom P r) = .ok (exportGeom P r)) :
    fromSchema (envC06 rd64 angToAu) (toSchemaU P r v) = .ok (schemaImage P r) :=
  schema_roundtrip_c06_partial rd64 rd64_odd angToAu P i r v hv h hmt (hnp.trans hP.symm) hn hgeo
    (recNucs_forall h fun c u hc => default_settings_selfconsistent (nucSettings i) c u hc hnp hmt)

/-- **… and the second trip is the identity.** -/
theorem schema_roundtrip_twice_default (angToAu : Rat) (P : SchemaParams) (i : Inp) (r : Molrec) (v v' : Int)
    (hv : v = 1 ∨ v = 2) (hv' : v' = 1 ∨ v' = 2) (h : fromArrays (envC06 rd64 angToAu) i = .ok r)
    (hmt : i.mtol = dfltMtol) (hnp : i.nonphysical = false) (hP : P.nonphysical = false)
    (hn : r.elem.length ≠ 0)
    (hgeo : validateGeometry dfltTooclose (exportGeom P r) = .ok (exportGeom P r)) :
    fromSchema (envC06 rd64 angToAu) (toSchemaU P r v) = .ok (schemaImage P r) ∧
    fromSchema (envC06 rd64 angToAu) (toSchemaU P (schemaImage P r) v') = .ok (schemaImage P r) := by
  have I := from_arrays_inv_c06 rd64 angToAu i r h
  refine schema_roundtrip_twice (envC06 rd64 angToAu) P r v v' hv hv' I hn hgeo ?_
  rw [schemaSettings_eq hmt (hnp.trans hP.symm)]
  exact recNucs_forall h fun c u hc => recon_c06_idem_default (nucSettings i) c u hc hnp hmt

/-- **Every record that came out of `from_schema` (with `nonphysical = False`) round-trips, and the second
trip is the identity** — `schema_roundtrip_twice_c06` without the hypothesis that the dictionary carried
every mass: ANY dictionary (partial arrays, isotopes by `mass_numbers` only, labels). -/
theorem schema_roundtrip_twice_default_of_schema (angToAu : Rat) (P : SchemaParams) (s : Schema) (r : Molrec)
    (v v' : Int) (hv : v = 1 ∨ v = 2) (hv' : v' = 1 ∨ v' = 2)
    (h : fromSchema (envC06 rd64 angToAu) s = .ok r)
    (hnp : s.body.nonphysical = false) (hP : P.nonphysical = false) :
    fromSchema (envC06 rd64 angToAu) (toSchemaU P r v) = .ok (schemaImage P r) ∧
    fromSchema (envC06 rd64 angToAu) (toSchemaU P (schemaImage P r) v') = .ok (schemaImage P r) := by
  obtain ⟨seps, hfa⟩ := fromSchema_ok h
  refine schema_roundtrip_twice_of_schema _ P s r v v' hv hv' h (recNucs_forall hfa fun c u hc => ?_)
  have := recon_c06_idem_default _ c u hc hnp rfl
  simpa [schemaSettings, nucSettings, hnp, hP, envC06] using this

/-! ### tests: non-vacuity -/

/-- concrete parameters of the schema model -/
def exP : SchemaParams := { formula := fun _ => "H3O", cf := fun _ => 1, fl := rd64, nonphysical := false }

/-- test: every hypothesis of `schema_roundtrip_default` is met by the isotope record above (deuterium by `elea`
only, tritium by label only, a ghost) — the round trip BY THE THEOREM -/
example : fromSchema (envC06 rd64 1) (toSchemaU exP isoRec 2) = .ok (schemaImage exP isoRec) :=
  schema_roundtrip_default 1 exP isoInp isoRec 2 (Or.inr rfl) iso_ok rfl rfl rfl (by decide)
    (geometry_hyp_of_bohr exP isoRec (from_arrays_inv_c06 rd64 1 isoInp isoRec iso_ok) rfl (Rat.le_refl))

/-- test: … and of `schema_roundtrip_twice_default` -/
example : fromSchema (envC06 rd64 1) (toSchemaU exP isoRec 1) = .ok (schemaImage exP isoRec) ∧
    fromSchema (envC06 rd64 1) (toSchemaU exP (schemaImage exP isoRec) 2) = .ok (schemaImage exP isoRec) :=
  schema_roundtrip_twice_default 1 exP isoInp isoRec 1 2 (Or.inl rfl) (Or.inr rfl) iso_ok rfl rfl rfl (by decide)
    (geometry_hyp_of_bohr exP isoRec (from_arrays_inv_c06 rd64 1 isoInp isoRec iso_ok) rfl (Rat.le_refl))

/-- one deuterium by mass number only, default settings -/
def dSt : NucSettings := { speclabel := true, nonphysical := false, mtol := dfltMtol }
def dClue : Clue := { A := some 2, Z := some 1, E := none, mass := none, real := none, label := none }
def dNuc : Nuc := { A := 2, Z := 1, E := "H", mass := 4535354008713743 / 2251799813685248, real := true, label := "" }

/-- test [decide +kernel]: the C06 model answers `A=2, Z=1` with the tabulated mass of H-2 -/
theorem d_ok : reconOfC06 rd64 dSt dClue = .ok dNuc := by decide +kernel

/-- test: the hypotheses of `selfConsistent_of_A_clue` (a mass-number claim, no mass claim, the table facts) are
met by that call -/
example : SelfConsistent shippedN rd64 dSt.mtol dNuc :=
  selfConsistent_of_A_clue shippedN rd64 _ isoB shipped_isotopes_rederive rd64_odd rd64_idem dSt dClue dNuc d_ok rfl
    dfltMtol_nonneg dfltMtol_le_isoB 2 (Or.inl ⟨.int 2, rfl, truncInt_intCast 2⟩)
    (by
      rintro m (⟨p, hp, _⟩ | ⟨L, t, q, ⟨_, l, hl, _⟩, _, _, _⟩)
      · simp [toInput, dClue] at hp
      · simp [toInput, dClue] at hl)

/-- tests: `default_settings_selfconsistent` / `recon_c06_idem_default` on it -/
example : SelfConsistent shippedN rd64 dfltMtol dNuc := default_settings_selfconsistent dSt dClue dNuc d_ok rfl rfl
example : reconOfC06 rd64 { dSt with speclabel := false } (clueOf dNuc) = .ok dNuc :=
  recon_c06_idem_default dSt dClue dNuc d_ok rfl rfl

end QcelVerif.FromArrays
