import QcelVerif.Props.C16
import QcelVerif.Props.C16Unique
import QcelVerif.Lemmas.OrientApprox

/-!
# C16 — what the theorems give for the certificates the driver ACTUALLY has

`Props/C16.lean` / `Props/C16Unique.lean` assume EXACT certificates (`Orth V`, `Vᵀ T V = diag l`).
`numpy.linalg.eigh` output is certified per call only up to residuals of ~1e-15
(`certResiduals` = `(‖VᵀV-1‖, ‖VVᵀ-1‖, ‖VᵀTV-diag l‖)`, max-entry norm, evaluated exactly in ℚ by
the driver).  Here every conclusion that is continuous in the certificate gets an explicit-ε version
over any linearly ordered field, for ANY `V`, any number of atoms, any masses (signs included):

1. centre of mass: needs NO certificate (the model centres in exact arithmetic; the rounding of the weighted
   mean in the implementation is outside the model and is covered by the correspondence tolerance
   `4e-15·(1+max|x|)` only);
2. the inertia tensor of the ORIENTED geometry is within `B_diag = ε₂ + (3εb + εa)·S` (diagonal) /
   `B_off = ε₂ + εa·S` (off-diagonal) of `diag l`, `S = Σ|mᵢ||xᵢ-c|²` (= tr T / 2 for non-negative masses);
3. the moments ascend up to `2·B_diag`, and every eigenvalue of `T` with an eigenvector in the range of `V` is
   within `3(ε₂ + |μ|εa)` of a certified `lᵢ`;
4. two approximate eigen-frames of (nearby) tensors with separated moments agree up to column signs within an
   explicit `O(ε/gap)` bound; hence the second `eigh` call on an oriented geometry returns `diag(±1)`, and the
   frame of a rigid copy pulled back by `R` is the original frame up to signs, within that bound (frame level; the
   geometry-level consequence needs stability of the phase decisions — `-- FULL:` notes).
-/

namespace QcelVerif.Orient

/-! ## the transformation law of the inertia tensor with its defect (used in 2.) -/

/-- **Transformation law with explicit defect, for ANY `V`** (generalises `inertia_transforms`):
`I(xV) = Vᵀ I(x) V + (Σ m p(VVᵀ-1)pᵀ)·1 - (Σ m |p|²)·(VᵀV-1)` — any commutative ring, any atoms. -/
theorem inertia_defect {R : Type} [CommRing R] (V : M3 R) (ms : List R) (g : List (V3 R)) :
    inertia ms (rotate g V) = M3.add (M3.mul (M3.mul (M3.tr V) (inertia ms g)) V)
      (M3.sub (M3.smul (wsumF (fun p => V3.dot (V3.mulMat p (M3.sub (M3.mul V (M3.tr V)) M3.one)) p) ms g) M3.one)
              (M3.smul (wsumF V3.normSq ms g) (M3.sub (M3.mul (M3.tr V) V) M3.one))) :=
  inertia_defect_sandwich V ms g

/-- for orthogonal `V` the defect vanishes: `inertia_transforms` is the special case -/
example {R : Type} [CommRing R] {V : M3 R} (hV : Orth V) (ms : List R) (g : List (V3 R)) :
    inertia ms (rotate g V) = M3.mul (M3.mul (M3.tr V) (inertia ms g)) V := inertia_transforms hV ms g

section Ordered
variable {K : Type} [Field K] [LinearOrder K] [IsStrictOrderedRing K]

/-! ## 1. centre of mass: exact in the model, no certificate needed -/

/-- **Centre of mass, approximate certificate.**  Whatever the residuals of the certificate are (no
hypothesis on `V` at all), the mass-weighted sum of the oriented coordinates is exactly zero in the
model: this clause is not continuous-in-the-certificate, it is independent of it. -/
theorem orient_com_approx {noise : K} {ms : List K} {xs : List (V3 K)} {V : M3 K} {out : List (V3 K)} {l : V3 K} {eo ed : K}
    (_hc : isEigFrame (orientTensor ms xs) V l eo ed = true)
    (h : orientCore noise ms xs V = .ok out) : wsum ms out = V3.zero := orient_com_zero h

/-! ## 2. the inertia tensor of the oriented geometry -/

/-- the entries of the tensor of the ROTATED geometry (before the phase loop) -/
theorem inertia_rotated_approx {ms : List K} {g : List (V3 K)} {V : M3 K} {l : V3 K} {εa εb ε₂ : K}
    (ha : M3.maxAbs (M3.sub (M3.mul (M3.tr V) V) M3.one) ≤ εa)
    (hb : M3.maxAbs (M3.sub (M3.mul V (M3.tr V)) M3.one) ≤ εb)
    (hd : M3.maxAbs (M3.sub (M3.mul (M3.mul (M3.tr V) (inertia ms g)) V) (M3.diag l.x l.y l.z)) ≤ ε₂) :
    (∀ i, |(inertia ms (rotate g V)).get i i - l.get i| ≤ inertiaBoundDiag εa εb ε₂ (absS ms g)) ∧
    ∀ i j, i ≠ j → |(inertia ms (rotate g V)).get i j| ≤ inertiaBoundOff εa ε₂ (absS ms g) := by
  obtain ⟨dd, od⟩ := inertiaDefect_bound (V := V) ha hb ms g
  have hC := maxAbs_le_iff_get.mp hd
  rw [inertia_defect_sandwich]
  refine ⟨fun i => ?_, fun i j hij => ?_⟩
  · have c := hC i i
    rw [sub_get, diag_get_self] at c
    rw [add_get, add_sub_right_comm]
    exact (abs_add_le _ _).trans (add_le_add c (dd i))
  · have c := hC i j
    rw [sub_get, diag_get_ne _ _ _ hij, sub_zero] at c
    rw [add_get]
    exact (abs_add_le _ _).trans (add_le_add c (od i j hij))

/-- the phase loop multiplies entry `(i, j)` of the tensor by `sᵢ sⱼ`, which changes no absolute value off the
diagonal and nothing on it -/
theorem inertia_oriented_approx {noise : K} {ms : List K} {xs : List (V3 K)} {V : M3 K} {out : List (V3 K)} {l : V3 K}
    {εa εb ε₂ : K}
    (ha : M3.maxAbs (M3.sub (M3.mul (M3.tr V) V) M3.one) ≤ εa)
    (hb : M3.maxAbs (M3.sub (M3.mul V (M3.tr V)) M3.one) ≤ εb)
    (hd : M3.maxAbs (M3.sub (M3.mul (M3.mul (M3.tr V) (orientTensor ms xs)) V) (M3.diag l.x l.y l.z)) ≤ ε₂)
    (h : orientCore noise ms xs V = .ok out) :
    (∀ i, |(inertia ms out).get i i - l.get i| ≤ inertiaBoundDiag εa εb ε₂ (absS ms (center ms xs))) ∧
    ∀ i j, i ≠ j → |(inertia ms out).get i j| ≤ inertiaBoundOff εa ε₂ (absS ms (center ms xs)) := by
  obtain ⟨_, _, rfl⟩ := orientCore_ok h
  obtain ⟨rd, ro⟩ := inertia_rotated_approx (g := center ms xs) ha hb hd
  have hs := fun c => colSign_pm noise c
  set g1 := rotate (center ms xs) V
  set s : V3 K := ⟨colSign noise (g1.map (·.x)), colSign noise (g1.map (·.y)), colSign noise (g1.map (·.z))⟩
  have hI : ∀ i j, (inertia ms (phase noise g1)).get i j = s.get i * s.get j * (inertia ms g1).get i j := by
    intro i j
    rw [phaseLoop_eq_colSign, inertia_flip (colSign_sq _ _) (colSign_sq _ _) (colSign_sq _ _)]
    exact sandwich_diag_get s _ i j
  have hpm : ∀ i, s.get i = 1 ∨ s.get i = -1 := by intro i; cases i <;> exact hs _
  refine ⟨fun i => ?_, fun i j hij => ?_⟩
  · rw [hI, mul_self_eq_one_iff.mpr (hpm i), one_mul]; exact rd i
  · rw [hI, mul_assoc, abs_pm_mul (hpm i), abs_pm_mul (hpm j)]; exact ro i j hij

/-- **Diagonal tensor up to an explicit bound, approximate certificate.**
`εa ≥ ‖VᵀV-1‖`, `εb ≥ ‖VVᵀ-1‖`, `ε₂ ≥ ‖VᵀTV-diag l‖` (the three residuals the driver computes, `T` the
tensor handed to `eigh`).  Then the inertia tensor `I` of the oriented geometry `out` — recomputed from
the rotated and phased coordinates — satisfies, with `S = Σ|mᵢ||xᵢ-c|²`:
`|I_aa - l_a| ≤ ε₂ + (3εb + εa)·S` and `|I_ab| ≤ ε₂ + εa·S` (`a ≠ b`); `I` is symmetric by construction. -/
theorem inertia_diagonal_approx {noise : K} {ms : List K} {xs : List (V3 K)} {V : M3 K} {out : List (V3 K)} {l : V3 K}
    {εa εb ε₂ : K}
    (ha : M3.maxAbs (M3.sub (M3.mul (M3.tr V) V) M3.one) ≤ εa)
    (hb : M3.maxAbs (M3.sub (M3.mul V (M3.tr V)) M3.one) ≤ εb)
    (hd : M3.maxAbs (M3.sub (M3.mul (M3.mul (M3.tr V) (orientTensor ms xs)) V) (M3.diag l.x l.y l.z)) ≤ ε₂)
    (h : orientCore noise ms xs V = .ok out) :
    let I := inertia ms out
    let S := absS ms (center ms xs)
    (|I.xx - l.x| ≤ inertiaBoundDiag εa εb ε₂ S ∧ |I.yy - l.y| ≤ inertiaBoundDiag εa εb ε₂ S ∧
      |I.zz - l.z| ≤ inertiaBoundDiag εa εb ε₂ S) ∧
    (|I.xy| ≤ inertiaBoundOff εa ε₂ S ∧ |I.xz| ≤ inertiaBoundOff εa ε₂ S ∧ |I.yz| ≤ inertiaBoundOff εa ε₂ S) ∧
    (I.yx = I.xy ∧ I.zx = I.xz ∧ I.zy = I.yz) := by
  obtain ⟨hdiag, hoff⟩ := inertia_oriented_approx ha hb hd h
  exact ⟨⟨hdiag .x, hdiag .y, hdiag .z⟩, ⟨hoff .x .y nofun, hoff .x .z nofun, hoff .y .z nofun⟩, rfl, rfl, rfl⟩

/-- the same in the max-entry norm: `‖I(out) - diag l‖ ≤ B_diag` when the residuals are non-negative
numbers (they are: they bound absolute values) -/
theorem inertia_diagonal_maxAbs {noise : K} {ms : List K} {xs : List (V3 K)} {V : M3 K} {out : List (V3 K)} {l : V3 K}
    {εa εb ε₂ : K}
    (ha : M3.maxAbs (M3.sub (M3.mul (M3.tr V) V) M3.one) ≤ εa)
    (hb : M3.maxAbs (M3.sub (M3.mul V (M3.tr V)) M3.one) ≤ εb)
    (hd : M3.maxAbs (M3.sub (M3.mul (M3.mul (M3.tr V) (orientTensor ms xs)) V) (M3.diag l.x l.y l.z)) ≤ ε₂)
    (h : orientCore noise ms xs V = .ok out) :
    M3.maxAbs (M3.sub (inertia ms out) (M3.diag l.x l.y l.z)) ≤ inertiaBoundDiag εa εb ε₂ (absS ms (center ms xs)) := by
  obtain ⟨hdiag, hoff⟩ := inertia_oriented_approx ha hb hd h
  have hS := absS_nonneg ms (center ms xs)
  have hb0 : 0 ≤ εb := le_trans (maxAbs_nonneg _) hb
  have mono : inertiaBoundOff εa ε₂ (absS ms (center ms xs)) ≤ inertiaBoundDiag εa εb ε₂ (absS ms (center ms xs)) := by
    simp only [inertiaBoundOff, inertiaBoundDiag]; linarith [mul_nonneg hb0 hS]
  refine maxAbs_le_iff_get.mpr fun i j => ?_
  rw [sub_get]
  by_cases hij : i = j
  · subst hij
    rw [diag_get_self]
    exact hdiag i
  · rw [diag_get_ne _ _ _ hij, sub_zero]
    exact (hoff i j hij).trans mono

/-- **…from the certificate function the driver evaluates.**  `isEigFrame T V l eo ed = true` (any
tolerances `eo`, `ed`, not just 0) gives the bounds with `εa = εb = eo`, `ε₂ = ed`:
diagonal `ed + 4·eo·S`, off-diagonal `ed + eo·S`. -/
theorem inertia_diagonal_of_cert {noise : K} {ms : List K} {xs : List (V3 K)} {V : M3 K} {out : List (V3 K)} {l : V3 K}
    {eo ed : K} (hc : isEigFrame (orientTensor ms xs) V l eo ed = true) (h : orientCore noise ms xs V = .ok out) :
    let I := inertia ms out
    let S := absS ms (center ms xs)
    (|I.xx - l.x| ≤ ed + 4 * eo * S ∧ |I.yy - l.y| ≤ ed + 4 * eo * S ∧ |I.zz - l.z| ≤ ed + 4 * eo * S) ∧
    (|I.xy| ≤ ed + eo * S ∧ |I.xz| ≤ ed + eo * S ∧ |I.yz| ≤ ed + eo * S) ∧
    (l.x ≤ l.y ∧ l.y ≤ l.z) := by
  intro I S
  obtain ⟨⟨h1, h2, h3⟩, h4, h5⟩ := isEigFrame_iff.mp hc
  obtain ⟨⟨a1, a2, a3⟩, ⟨b1, b2, b3⟩, -⟩ := inertia_diagonal_approx h1 h2 h3 h
  simp only [inertiaBoundDiag, inertiaBoundOff] at a1 a2 a3 b1 b2 b3
  have e : ed + (3 * eo + eo) * S = ed + 4 * eo * S := by ring
  rw [e] at a1 a2 a3
  exact ⟨⟨a1, a2, a3⟩, ⟨b1, b2, b3⟩, h4, h5⟩

/-- **…and for exactly the numbers the driver prints** (`inertiaBounds`, output field `B`): with the
call's own residuals as tolerances no hypothesis on `V` or `l` is left at all. -/
theorem inertia_diagonal_driver {noise : K} {ms : List K} {xs : List (V3 K)} {V : M3 K} {out : List (V3 K)} (l : V3 K)
    (h : orientCore noise ms xs V = .ok out) :
    let I := inertia ms out
    let B := inertiaBounds ms xs V l
    (|I.xx - l.x| ≤ B.2.2 ∧ |I.yy - l.y| ≤ B.2.2 ∧ |I.zz - l.z| ≤ B.2.2) ∧
    (|I.xy| ≤ B.2.1 ∧ |I.xz| ≤ B.2.1 ∧ |I.yz| ≤ B.2.1) := by
  intro I B
  obtain ⟨hd, ho, -⟩ := inertia_diagonal_approx (l := l) (le_refl _) (le_refl _) (le_refl _) h
  exact ⟨hd, ho⟩

/-- non-negative masses (every validated molecule): `S` is half the trace of the tensor handed to `eigh`,
so the bounds are `B(ε₁, ε₂, tr T)` -/
theorem absS_half_trace {ms : List K} (hm : ∀ m ∈ ms, 0 ≤ m) (xs : List (V3 K)) :
    2 * absS ms (center ms xs) = (orientTensor ms xs).xx + (orientTensor ms xs).yy + (orientTensor ms xs).zz :=
  absS_eq_half_trace hm _

/-! ## 3. the moments -/

/-- what the third residual says entry by entry (Gershgorin data): the diagonal of `VᵀTV` is within `ε₂`
of `l`, its off-diagonal within `ε₂` of 0 -/
theorem cert_entries {T V : M3 K} {l : V3 K} {ε₂ : K}
    (hd : M3.maxAbs (M3.sub (M3.mul (M3.mul (M3.tr V) T) V) (M3.diag l.x l.y l.z)) ≤ ε₂) :
    let A := M3.mul (M3.mul (M3.tr V) T) V
    (|A.xx - l.x| ≤ ε₂ ∧ |A.yy - l.y| ≤ ε₂ ∧ |A.zz - l.z| ≤ ε₂) ∧
    (|A.xy| ≤ ε₂ ∧ |A.xz| ≤ ε₂ ∧ |A.yx| ≤ ε₂ ∧ |A.yz| ≤ ε₂ ∧ |A.zx| ≤ ε₂ ∧ |A.zy| ≤ ε₂) := by
  intro A
  obtain ⟨c1, c2, c3, c4, c5, c6, c7, c8, c9⟩ := maxAbs_le_iff.mp hd
  simp only [M3.sub, M3.diag, sub_zero] at c1 c2 c3 c4 c5 c6 c7 c8 c9
  exact ⟨⟨c1, c5, c9⟩, c2, c3, c4, c6, c7, c8⟩

/-- **Moments ascending up to `2·B_diag`.**  With certified-ascending `l`, the principal moments of the
oriented geometry (diagonal of its inertia tensor) satisfy `I_xx ≤ I_yy + 2B`, `I_yy ≤ I_zz + 2B`; and
if consecutive certified eigenvalues are more than `2B` apart the moments ascend strictly. -/
theorem moments_ascending_approx {noise : K} {ms : List K} {xs : List (V3 K)} {V : M3 K} {out : List (V3 K)} {l : V3 K}
    {εa εb ε₂ : K}
    (ha : M3.maxAbs (M3.sub (M3.mul (M3.tr V) V) M3.one) ≤ εa)
    (hb : M3.maxAbs (M3.sub (M3.mul V (M3.tr V)) M3.one) ≤ εb)
    (hd : M3.maxAbs (M3.sub (M3.mul (M3.mul (M3.tr V) (orientTensor ms xs)) V) (M3.diag l.x l.y l.z)) ≤ ε₂)
    (h : orientCore noise ms xs V = .ok out) (hxy : l.x ≤ l.y) (hyz : l.y ≤ l.z) :
    let I := inertia ms out
    let B := inertiaBoundDiag εa εb ε₂ (absS ms (center ms xs))
    (I.xx ≤ I.yy + 2 * B ∧ I.yy ≤ I.zz + 2 * B) ∧
    (2 * B < l.y - l.x → I.xx < I.yy) ∧ (2 * B < l.z - l.y → I.yy < I.zz) := by
  intro I B
  obtain ⟨⟨a1, a2, a3⟩, -, -⟩ := inertia_diagonal_approx ha hb hd h
  have p1 := abs_le.mp a1; have p2 := abs_le.mp a2; have p3 := abs_le.mp a3
  refine ⟨⟨?_, ?_⟩, ?_, ?_⟩
  · linarith [p1.2, p2.1]
  · linarith [p2.2, p3.1]
  · intro hg; linarith [p1.2, p2.1]
  · intro hg; linarith [p2.2, p3.1]

/-- **Every eigenvalue reachable through `V` is near a certified one** (Gershgorin / Bauer–Fike in
dimension 3, no exactness assumed).  If `u = V w`, `w ≠ 0`, is an eigenvector of `T` for `μ`, then `μ` is
within `3(ε₂ + |μ|εa)` of one of the certified `l`.  (For exactly orthogonal `V` every vector is `V w`,
`w = Vᵀu`.)
-- FULL: "every eigenvalue of `T`" needs surjectivity of `V` (true when `3εb < 1`, by a determinant
--        argument that is not proved here); existence of eigenvalues is not available over ℚ. -/
theorem eigenvalue_near_certified_partial {T V : M3 K} {l : V3 K} {εa ε₂ μ : K} {w : V3 K}
    (ha : M3.maxAbs (M3.sub (M3.mul (M3.tr V) V) M3.one) ≤ εa)
    (hd : M3.maxAbs (M3.sub (M3.mul (M3.mul (M3.tr V) T) V) (M3.diag l.x l.y l.z)) ≤ ε₂)
    (hw : w ≠ V3.zero)
    (he : M3.mulVec T (M3.mulVec V w) = V3.smul μ (M3.mulVec V w)) :
    |l.x - μ| ≤ 3 * (ε₂ + |μ| * εa) ∨ |l.y - μ| ≤ 3 * (ε₂ + |μ| * εa) ∨ |l.z - μ| ≤ 3 * (ε₂ + |μ| * εa) := by
  have h1 : M3.mulVec (M3.mul (M3.mul (M3.tr V) T) V) w = M3.mulVec (M3.tr V) (M3.mulVec T (M3.mulVec V w)) := by
    rw [← mulVec_mulVec, ← mulVec_mulVec]
  have h2 : M3.mulVec (M3.mul (M3.tr V) V) w = M3.mulVec (M3.tr V) (M3.mulVec V w) := by rw [← mulVec_mulVec]
  have hAG : M3.mulVec (M3.mul (M3.mul (M3.tr V) T) V) w = V3.smul μ (M3.mulVec (M3.mul (M3.tr V) V) w) := by
    rw [h1, he, mulVec_smul, ← h2]
  obtain ⟨i, hmax, hpos⟩ := exists_max_comp hw
  have hE := maxAbs_le_iff_get.mp ha
  have hC := maxAbs_le_iff_get.mp hd
  have key := row_bound (pert_row (l := l) hAG i) (pert_entry_bound (hE i .x) (hC i .x))
    (pert_entry_bound (hE i .y) (hC i .y)) (pert_entry_bound (hE i .z) (hC i .z)) (hmax .x) (hmax .y) (hmax .z) hpos
  cases i
  · exact Or.inl key
  · exact Or.inr (Or.inl key)
  · exact Or.inr (Or.inr key)

/-! ## 4. uniqueness of the eigen-frame, quantitatively -/

/-- `V, l` is an eigen-frame of `T` up to `ε₁` (both orthogonality residuals) and `ε₂` (diagonalisation):
what `isEigFrame T V l ε₁ ε₂` certifies, without the ordering of `l` -/
def ApproxFrame (T V : M3 K) (l : V3 K) (ε₁ ε₂ : K) : Prop :=
  M3.maxAbs (M3.sub (M3.mul (M3.tr V) V) M3.one) ≤ ε₁ ∧ M3.maxAbs (M3.sub (M3.mul V (M3.tr V)) M3.one) ≤ ε₁ ∧
  M3.maxAbs (M3.sub (M3.mul (M3.mul (M3.tr V) T) V) (M3.diag l.x l.y l.z)) ≤ ε₂

omit [IsStrictOrderedRing K] in
theorem approxFrame_of_cert {T V : M3 K} {l : V3 K} {eo ed : K} (hc : isEigFrame T V l eo ed = true) :
    ApproxFrame T V l eo ed :=
  (isEigFrame_iff.mp hc).1

/-- an exact frame is an approximate frame at tolerance 0 -/
theorem approxFrame_of_exact {T V : M3 K} {l : V3 K} (hV : Orth V)
    (hD : M3.mul (M3.mul (M3.tr V) T) V = M3.diag l.x l.y l.z) : ApproxFrame T V l 0 0 :=
  ⟨maxAbs_sub_le_zero.mpr hV.1, maxAbs_sub_le_zero.mpr hV.2, maxAbs_sub_le_zero.mpr hD⟩

/-- numerator of the overlap bound: `(1+ε₁)(6ε₂ + 3θ + 18τε₁)`  (`τ ≥ ‖T‖,‖T'‖`, `θ ≥ ‖T-T'‖`) -/
def overlapDelta (ε₁ ε₂ τ θ : K) : K := (1 + ε₁) * (6 * ε₂ + 3 * θ + 18 * τ * ε₁)

/-- **Off-components of `VᵀV'` are bounded by residual / gap** (step 1: times the gap).
Two approximate eigen-frames `(V,l)` of `T` and `(V',l')` of `T'` (max-entry norms `‖T‖,‖T'‖ ≤ τ`,
`‖T-T'‖ ≤ θ`).  Then every entry of `M = VᵀV'` satisfies `|(lᵢ - l'ⱼ)·Mᵢⱼ| ≤ (1+ε₁)(6ε₂ + 3θ + 18τε₁)`.
For exact frames of the same `T` this is `(lᵢ - l'ⱼ)Mᵢⱼ = 0` (`intertwine_entries`). -/
theorem overlap_offdiag_approx {T T' V V' : M3 K} {l l' : V3 K} {ε₁ ε₂ τ θ : K}
    (hF : ApproxFrame T V l ε₁ ε₂) (hF' : ApproxFrame T' V' l' ε₁ ε₂)
    (hT : M3.maxAbs T ≤ τ) (hT' : M3.maxAbs T' ≤ τ) (hθ : M3.maxAbs (M3.sub T T') ≤ θ) (i j : Ix) :
    |(l.get i - l'.get j) * (M3.mul (M3.tr V) V').get i j| ≤ overlapDelta ε₁ ε₂ τ θ := by
  have hc := col_normSq_le (V := V) hF.1
  have hc' := col_normSq_le (V := V') hF'.1
  have hM : M3.maxAbs (M3.mul (M3.tr V) V') ≤ 1 + ε₁ := overlap_maxAbs hc hc'
  have t1 := maxAbs_mul_le hM (show M3.maxAbs (M3.sub (sandwich V' T') (M3.diag l'.x l'.y l'.z)) ≤ ε₂ from hF'.2.2)
  have t2 := maxAbs_mul_le (show M3.maxAbs (M3.sub (sandwich V T) (M3.diag l.x l.y l.z)) ≤ ε₂ from hF.2.2) hM
  have t3 := sandwich2_bound hθ hc hc'
  have hTF : M3.maxAbs (M3.mul T (E1 V)) ≤ 3 * τ * ε₁ := maxAbs_mul_le hT hF.2.1
  have hFT : M3.maxAbs (M3.mul (E1 V') T') ≤ 3 * ε₁ * τ := maxAbs_mul_le (show M3.maxAbs (E1 V') ≤ ε₁ from hF'.2.1) hT'
  have t4 := sandwich2_bound hTF hc hc'
  have t5 := sandwich2_bound hFT hc hc'
  have total := maxAbs_add_le (maxAbs_sub_le t1 t2) (maxAbs_add_le t3 (maxAbs_sub_le t4 t5))
  rw [← intertwine_defect] at total
  rw [← diag_commutator_get]
  exact (maxAbs_le_iff_get.mp total i j).trans_eq (by simp only [overlapDelta]; ring)

/-- the moments of the two frames are separated: `|lᵢ - l'ⱼ| ≥ γ` for `i ≠ j` (checkable on the numbers
`eigh` returned for the two calls) -/
def Gapped (l l' : V3 K) (γ : K) : Prop :=
  γ ≤ |l.x - l'.y| ∧ γ ≤ |l.x - l'.z| ∧ γ ≤ |l.y - l'.x| ∧ γ ≤ |l.y - l'.z| ∧ γ ≤ |l.z - l'.x| ∧ γ ≤ |l.z - l'.y|

theorem Gapped.get {l l' : V3 K} {γ : K} (h : Gapped l l' γ) {i j : Ix} (hij : i ≠ j) : γ ≤ |l.get i - l'.get j| := by
  obtain ⟨g2, g3, g4, g6, g7, g8⟩ := h
  cases i <;> cases j <;> first | exact absurd rfl hij | assumption

/-- entrywise distance of the two frames as a function of `ε₁` and `η = δ/γ`:
`(1+ε₁)·(κ + 2η + 3ε₁)`, `κ = ε₁ + 3ε₁(1+ε₁) + 2η²` -/
def frameBound (ε₁ η : K) : K := (1 + ε₁) * ((ε₁ + 3 * ε₁ * (1 + ε₁) + 2 * (η * η)) + 2 * η + 3 * ε₁)

/-- **Quantitative eigen-frame uniqueness** (3×3, explicit constants; replaces `eigframe_unique` when the
certificates are only approximate).  Two approximate eigen-frames `(V,l)` of `T`, `(V',l')` of `T'`
(residuals `ε₁`, `ε₂`; `‖T‖,‖T'‖ ≤ τ`; `‖T-T'‖ ≤ θ`) whose moments are separated by `γ > 0` (`Gapped`).
Then there are signs `d₀,d₁,d₂ ∈ {1,-1}` with `‖V' - V·diag(d)‖ ≤ frameBound ε₁ (δ/γ)`, `δ = overlapDelta`:
to first order `7ε₁ + 2δ/γ`, i.e. `O(ε/gap)`.  At `ε₁ = ε₂ = θ = 0` the bound is 0 (`eigframe_unique`). -/
theorem eigframe_unique_approx {T T' V V' : M3 K} {l l' : V3 K} {ε₁ ε₂ τ θ γ : K}
    (hF : ApproxFrame T V l ε₁ ε₂) (hF' : ApproxFrame T' V' l' ε₁ ε₂)
    (hT : M3.maxAbs T ≤ τ) (hT' : M3.maxAbs T' ≤ τ) (hθ : M3.maxAbs (M3.sub T T') ≤ θ)
    (hγ : 0 < γ) (hgap : Gapped l l' γ) :
    ∃ d0 d1 d2 : K, (d0 = 1 ∨ d0 = -1) ∧ (d1 = 1 ∨ d1 = -1) ∧ (d2 = 1 ∨ d2 = -1) ∧
      M3.maxAbs (M3.sub V' (M3.mul V (M3.diag d0 d1 d2))) ≤ frameBound ε₁ (overlapDelta ε₁ ε₂ τ θ / γ) := by
  set M := M3.mul (M3.tr V) V' with hMdef
  set η := overlapDelta ε₁ ε₂ τ θ / γ with hη
  have hoff : ∀ i j, i ≠ j → |M.get i j| ≤ η := fun i j hij =>
    div_bound (overlap_offdiag_approx hF hF' hT hT' hθ i j) (hgap.get hij) hγ
  have hc := col_normSq_le (V := V) hF.1
  have hc' := col_normSq_le (V := V') hF'.1
  have hε : 0 ≤ ε₁ := le_trans (maxAbs_nonneg _) hF.1
  have h1 : (1 : K) ≤ 1 + ε₁ := by linarith
  -- Gram identity for the diagonal of M: column `i` of `M` has squared length `(V'ᵀV')ᵢᵢ + (V'ᵀ(VVᵀ-1)V')ᵢᵢ`
  have hgram := overlap_gram V V'
  rw [← hMdef] at hgram
  have s := maxAbs_le_iff_get.mp (sandwich2_bound (show M3.maxAbs (E1 V) ≤ ε₁ from hF.2.1) hc' hc')
  have q := maxAbs_le_iff_get.mp hF'.1
  generalize M3.mul (M3.mul (M3.tr V') (E1 V)) V' = Sm at hgram s
  generalize M3.mul (M3.tr V') V' = G' at hgram q
  have hdiag : ∀ i, |M.get i i - (if 0 ≤ M.get i i then 1 else -1)| ≤ ε₁ + 3 * ε₁ * (1 + ε₁) + 2 * (η * η) := by
    intro i
    have k := congrArg (fun A => M3.get A i i) hgram
    simp only [mul_get, add_get, tr_get] at k
    have qi := q i i
    rw [sub_one_get_self] at qi
    cases i
    · exact diag_from_gram (by linear_combination k) qi (s _ _) (hoff .y .x nofun) (hoff .z .x nofun)
    · exact diag_from_gram (by linear_combination k) qi (s _ _) (hoff .x .y nofun) (hoff .z .y nofun)
    · exact diag_from_gram (by linear_combination k) qi (s _ _) (hoff .x .z nofun) (hoff .y .z nofun)
  refine ⟨if 0 ≤ M.get .x .x then 1 else -1, if 0 ≤ M.get .y .y then 1 else -1, if 0 ≤ M.get .z .z then 1 else -1,
    ?_, ?_, ?_, ?_⟩
  · split_ifs <;> simp
  · split_ifs <;> simp
  · split_ifs <;> simp
  · rw [frame_diff, ← hMdef]
    have hVmax : M3.maxAbs V ≤ 1 + ε₁ := maxAbs_le_of_cols h1 hc
    have hV'max : M3.maxAbs V' ≤ 1 + ε₁ := maxAbs_le_of_cols h1 hc'
    have p2 : M3.maxAbs (M3.mul (E1 V) V') ≤ 3 * ε₁ * (1 + ε₁) := maxAbs_mul_le (show M3.maxAbs (E1 V) ≤ ε₁ from hF.2.1) hV'max
    refine le_trans (maxAbs_sub_le (mul_near_diag_bound hVmax (κ := ε₁ + 3 * ε₁ * (1 + ε₁) + 2 * (η * η)) (η := η) ?_ ?_) p2)
      (le_of_eq ?_)
    · intro i; cases i
      exacts [hdiag .x, hdiag .y, hdiag .z]
    · intro i j hij; rw [sub_get, diag_get_ne _ _ _ hij, sub_zero]; exact hoff i j hij
    · simp only [frameBound]; ring

/-- tolerances can only be enlarged -/
theorem ApproxFrame.mono {T V : M3 K} {l : V3 K} {ε₁ ε₂ ε₁' ε₂' : K} (h : ApproxFrame T V l ε₁ ε₂)
    (h1 : ε₁ ≤ ε₁') (h2 : ε₂ ≤ ε₂') : ApproxFrame T V l ε₁' ε₂' :=
  ⟨le_trans h.1 h1, le_trans h.2.1 h1, le_trans h.2.2 h2⟩

/-- **Second pass, quantitatively** (theorems 2 and 4 together).  `out` = geometry oriented with a frame
`(V,l)` whose residuals are `εa, εb, ε₂`; `B = B_diag` of `inertia_diagonal_approx`.  Let `(V2,l2)` be ANY
approximate eigen-frame (residuals `ε₁`, `E₂ ≥ B`) of the tensor of `out` — what the second `eigh` call is
certified to return — with moments separated from `l` by `γ`.  Then `V2` is `diag(±1)` up to
`frameBound ε₁ (overlapDelta ε₁ E₂ τ 0 / γ)` entrywise: the second rotation moves no coordinate by more than
that bound times `3·max|coordinate|`  (exact version: `orient_idempotent`, where `V2 = diag(±1)` exactly).
-- FULL: equality of the PHASED second-pass geometry with `out` up to this bound additionally needs every
--        phase decision to be stable under the perturbation (deciding atom further than the bound from the
--        `noise` threshold); that stability statement is not proved here — the harness checks it per case
--        (`decisions_stable`) with a first-order bound of the same shape `2·δT/gap`. -/
theorem second_pass_frame_approx_partial {noise : K} {ms : List K} {xs : List (V3 K)} {V V2 : M3 K} {out : List (V3 K)}
    {l l2 : V3 K} {εa εb ε₂ ε₁ E₂ τ γ : K}
    (ha : M3.maxAbs (M3.sub (M3.mul (M3.tr V) V) M3.one) ≤ εa)
    (hb : M3.maxAbs (M3.sub (M3.mul V (M3.tr V)) M3.one) ≤ εb)
    (hd : M3.maxAbs (M3.sub (M3.mul (M3.mul (M3.tr V) (orientTensor ms xs)) V) (M3.diag l.x l.y l.z)) ≤ ε₂)
    (h : orientCore noise ms xs V = .ok out)
    (hB : inertiaBoundDiag εa εb ε₂ (absS ms (center ms xs)) ≤ E₂) (hε : 0 ≤ ε₁)
    (h2 : ApproxFrame (orientTensor ms out) V2 l2 ε₁ E₂)
    (hτ : M3.maxAbs (orientTensor ms out) ≤ τ) (hγ : 0 < γ) (hgap : Gapped l l2 γ) :
    ∃ d0 d1 d2 : K, (d0 = 1 ∨ d0 = -1) ∧ (d1 = 1 ∨ d1 = -1) ∧ (d2 = 1 ∨ d2 = -1) ∧
      M3.maxAbs (M3.sub V2 (M3.diag d0 d1 d2)) ≤ frameBound ε₁ (overlapDelta ε₁ E₂ τ 0 / γ) := by
  have h1 : ApproxFrame (orientTensor ms out) M3.one l ε₁ E₂ := by
    refine ⟨(maxAbs_sub_le_zero.mpr orth_one.1).trans hε, (maxAbs_sub_le_zero.mpr orth_one.2).trans hε, ?_⟩
    rw [one_frame, orientTensor_oriented h]
    exact le_trans (inertia_diagonal_maxAbs ha hb hd h) hB
  obtain ⟨d0, d1, d2, p0, p1, p2, hb'⟩ := eigframe_unique_approx h1 h2 hτ hτ (maxAbs_sub_le_zero.mpr rfl) hγ hgap
  rw [one_mul3] at hb'
  exact ⟨d0, d1, d2, p0, p1, p2, hb'⟩

/-- **Rigid copies, quantitatively (frames).**  `ys = xs·R + t` with `R` exactly orthogonal.  `(V,l)` an
approximate eigen-frame of the tensor of `xs`, `(V',l')` one of the tensor of `ys` (residuals `ε₁`, `ε₂` each),
moments separated by `γ`.  Then the frame found for the copy, pulled back by `R`, is the original frame up to
column signs: `‖R·V' - V·diag(d)‖ ≤ frameBound (3ε₁) (overlapDelta (3ε₁) ε₂ τ 0 / γ)` (the factor 3: the max-entry
norm of `R(V'V'ᵀ-1)Rᵀ`).  Exact version: `orient_rigid_invariant` (`V' = Rᵀ V diag(±1)`).
-- FULL: equality of the two ORIENTED geometries up to this bound times the molecular extent needs, again,
--        stability of the phase decisions, which is checked per case by the harness and not proved here. -/
theorem eigframe_rigid_approx_partial {ms : List K} {xs : List (V3 K)} (hl : ms.length = xs.length) (hM : massSum ms ≠ 0)
    {R V V' : M3 K} (hR : Orth R) (t : V3 K) {l l' : V3 K} {ε₁ ε₂ τ γ : K}
    (hF : ApproxFrame (orientTensor ms xs) V l ε₁ ε₂)
    (hF' : ApproxFrame (orientTensor ms (xs.map (fun p => V3.add (V3.mulMat p R) t))) V' l' ε₁ ε₂)
    (hτ : M3.maxAbs (orientTensor ms xs) ≤ τ) (hγ : 0 < γ) (hgap : Gapped l l' γ) :
    ∃ d0 d1 d2 : K, (d0 = 1 ∨ d0 = -1) ∧ (d1 = 1 ∨ d1 = -1) ∧ (d2 = 1 ∨ d2 = -1) ∧
      M3.maxAbs (M3.sub (M3.mul R V') (M3.mul V (M3.diag d0 d1 d2)))
        ≤ frameBound (3 * ε₁) (overlapDelta (3 * ε₁) ε₂ τ 0 / γ) := by
  have hε : 0 ≤ ε₁ := le_trans (maxAbs_nonneg _) hF.1
  obtain ⟨f1, f2, f3⟩ := hF'
  rw [orientTensor_rigid hl hM hR t] at f3
  -- the pulled-back frame W = R V'
  have e1 : M3.mul (M3.tr (M3.mul R V')) (M3.mul R V') = M3.mul (M3.tr V') V' := by
    rw [tr_mul, mul_assoc3, ← mul_assoc3 (M3.tr R) R V', hR.1, one_mul3]
  have e2 : M3.sub (M3.mul (M3.mul R V') (M3.tr (M3.mul R V'))) M3.one
      = M3.mul (M3.mul (M3.tr (M3.tr R)) (M3.sub (M3.mul V' (M3.tr V')) M3.one)) (M3.tr R) := by
    simp only [tr_mul, tr_tr, mul_sub3, sub_mul3, mul_one3, mul_assoc3, hR.2]
  have rows : ColsLe (M3.tr R) (1 + 0) := col_normSq_le (maxAbs_sub_le_zero.mpr (orth_tr hR).1)
  have hW2 : M3.maxAbs (M3.sub (M3.mul (M3.mul R V') (M3.tr (M3.mul R V'))) M3.one) ≤ 3 * ε₁ := by
    rw [e2]
    have := sandwich2_bound f2 rows rows
    linarith
  have hW : ApproxFrame (orientTensor ms xs) (M3.mul R V') l' (3 * ε₁) ε₂ := by
    refine ⟨?_, hW2, ?_⟩
    · rw [e1]; exact le_trans f1 (by linarith)
    · rw [sandwich_mul]; exact f3
  exact eigframe_unique_approx (hF.mono (by linarith) (le_refl _)) hW hτ hτ (maxAbs_sub_le_zero.mpr rfl) hγ hgap

end Ordered

/-! ## non-vacuity (tests, `K = ℚ`): a frame that is NOT orthogonal and NOT an exact eigen-frame -/
section Examples

/-- a shear of the identity by 1/1000: `VᵀV ≠ 1`, `VVᵀ ≠ 1`, `VᵀTV` not diagonal -/
def apV : M3 ℚ := ⟨1, 1 / 1000, 0, 0, 1, 0, 0, 0, 1⟩
/-- the model's oriented geometry of the test molecule of `Props/C16.lean` with that frame -/
def apOut : List (V3 ℚ) := [⟨2, 501 / 500, 0⟩, ⟨2, -499 / 500, 0⟩, ⟨-2, -1 / 500, 0⟩]

/-- test: the certificate function accepts `apV` at tolerances (1/1000, 1/500) and not at tolerance 0 -/
example : isEigFrame (orientTensor exMs exXs) apV ⟨2, 16, 18⟩ (1 / 1000) (1 / 500) = true ∧
    isEigFrame (orientTensor exMs exXs) apV ⟨2, 16, 18⟩ 0 0 = false := by decide +kernel
example : orientCore (1 / 100000000) exMs exXs apV = .ok apOut := by decide +kernel
/-- test: the residual triple and the printed bounds for this call: `S = 18`, `B_off = 1/50`, `B_diag = 37/500` -/
example : certResiduals (orientTensor exMs exXs) apV ⟨2, 16, 18⟩ = (1 / 1000, 1 / 1000, 1 / 500) ∧
    inertiaBounds exMs exXs apV ⟨2, 16, 18⟩ = (18, 1 / 50, 37 / 500) := by decide +kernel
/-- test: the oriented tensor is genuinely non-diagonal (`I_xy = -2/125`), inside the proved bound `1/50`, and the
defect term of `inertia_defect` is non-zero — the hypotheses of `inertia_diagonal_approx` are met non-trivially -/
example : (inertia exMs apOut).xy = -2 / 125 ∧ |(inertia exMs apOut).xy| ≤ 1 / 50 ∧
    inertiaDefect exMs (center exMs exXs) apV ≠ M3.zero := by decide +kernel
/-- the theorem applied to the test data -/
example : |(inertia exMs apOut).xy| ≤ (inertiaBounds exMs exXs apV ⟨2, 16, 18⟩).2.1 :=
  (inertia_diagonal_driver (noise := 1 / 100000000) (ms := exMs) (xs := exXs) (V := apV) (out := apOut) ⟨2, 16, 18⟩
    (by decide +kernel)).2.1
example : (inertia exMs apOut).xx ≤ (inertia exMs apOut).yy + 2 * (37 / 500) :=
  (moments_ascending_approx (noise := 1 / 100000000) (ms := exMs) (xs := exXs) (V := apV) (out := apOut) (l := ⟨2, 16, 18⟩)
    (εa := 1 / 1000) (εb := 1 / 1000) (ε₂ := 1 / 500)
    (by decide +kernel) (by decide +kernel) (by decide +kernel) (by decide +kernel) (by decide +kernel) (by decide +kernel)).1.1.trans
    (by decide +kernel)

/-- test for `eigenvalue_near_certified_partial`: `u = apV·w = e_y` is an exact eigenvector of `T = diag(2,16,18)` for `μ = 16`
with `w = (-1/1000, 1, 0)`; the theorem places `μ` within `3(1/500 + 16/1000)` of a certified value -/
example : |(2 : ℚ) - 16| ≤ 3 * (1 / 500 + |16| * (1 / 1000)) ∨ |(16 : ℚ) - 16| ≤ 3 * (1 / 500 + |16| * (1 / 1000)) ∨
    |(18 : ℚ) - 16| ≤ 3 * (1 / 500 + |16| * (1 / 1000)) :=
  eigenvalue_near_certified_partial (T := M3.diag 2 16 18) (V := apV) (l := ⟨2, 16, 18⟩) (w := ⟨-1 / 1000, 1, 0⟩)
    (by decide +kernel) (by decide +kernel) (by decide +kernel) (by decide +kernel)

/-- a second, different approximate frame of `diag(10,20,26)`: signs flipped and sheared -/
def apV' : M3 ℚ := ⟨-1, 0, 0, 1 / 1000, 1, 0, 0, 0, -1⟩

/-- test: all hypotheses of `eigframe_unique_approx` hold for `T = T' = diag(10,20,26)`, `V = apV`, `V' = apV'`
(neither orthogonal, `V' ≠ V·diag(±1)`), gap 6 -/
example : ApproxFrame (M3.diag 10 20 26) apV (⟨10, 20, 26⟩ : V3 ℚ) (1 / 1000) (1 / 50) ∧
    ApproxFrame (M3.diag 10 20 26) apV' (⟨10, 20, 26⟩ : V3 ℚ) (1 / 1000) (1 / 50) ∧
    M3.maxAbs (M3.diag (10 : ℚ) 20 26) ≤ 26 ∧ Gapped (⟨10, 20, 26⟩ : V3 ℚ) ⟨10, 20, 26⟩ 6 ∧
    ¬ ∃ d0 d1 d2 : ℚ, apV' = M3.mul apV (M3.diag d0 d1 d2) := by
  refine ⟨by unfold ApproxFrame; decide +kernel, by unfold ApproxFrame; decide +kernel, by decide +kernel,
    by unfold Gapped; decide +kernel, ?_⟩
  rintro ⟨d0, d1, d2, h⟩
  have h1 := congrArg M3.yx h
  simp [M3.mul, M3.diag, apV, apV'] at h1
/-- the theorem applied to them: signs exist with `‖V' - V diag(d)‖` below the explicit bound
(here the true distance is 1/1000, for `d = (-1, 1, -1)`) -/
example : ∃ d0 d1 d2 : ℚ, (d0 = 1 ∨ d0 = -1) ∧ (d1 = 1 ∨ d1 = -1) ∧ (d2 = 1 ∨ d2 = -1) ∧
    M3.maxAbs (M3.sub apV' (M3.mul apV (M3.diag d0 d1 d2))) ≤ frameBound (1 / 1000) (overlapDelta (1 / 1000) (1 / 50) 26 0 / 6) :=
  eigframe_unique_approx (T := M3.diag 10 20 26) (T' := M3.diag 10 20 26) (l := ⟨10, 20, 26⟩) (l' := ⟨10, 20, 26⟩)
    (by unfold ApproxFrame; decide +kernel) (by unfold ApproxFrame; decide +kernel) (by decide +kernel) (by decide +kernel)
    (by decide +kernel) (by decide +kernel) (by unfold Gapped; decide +kernel)
/-- test: the bound is informative (well below the size 1 of a frame entry) -/
example : frameBound (1 / 1000 : ℚ) (overlapDelta (1 / 1000) (1 / 50) 26 0 / 6) < 1 / 4 := by decide +kernel

end Examples

end QcelVerif.Orient
