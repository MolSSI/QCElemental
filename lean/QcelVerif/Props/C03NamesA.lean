import QcelVerif.Lemmas.UnitNamesChk
/-! C03 text level: every listed spelling of these table units resolves to its unit over the regenerated registry names, or is one of
the eight collisions of `collisionTable` (kernel evaluation, one table unit per lemma).  `spellingsOf_all` in `Props/C03Text.lean`
assembles these per-unit checks. -/
namespace QcelVerif.Units.Text

theorem sp_meter : (spellingsOf .meter).all chk = true := by decide +kernel
theorem sp_angstrom : (spellingsOf .angstrom).all chk = true := by decide +kernel
theorem sp_angstromCap : (spellingsOf .angstromCap).all chk = true := by decide +kernel
theorem sp_bohr : (spellingsOf .bohr).all chk = true := by decide +kernel
theorem sp_inch : (spellingsOf .inch).all chk = true := by decide +kernel
theorem sp_foot : (spellingsOf .foot).all chk = true := by decide +kernel
theorem sp_yard : (spellingsOf .yard).all chk = true := by decide +kernel
theorem sp_mile : (spellingsOf .mile).all chk = true := by decide +kernel
theorem sp_gram : (spellingsOf .gram).all chk = true := by decide +kernel
theorem sp_amu : (spellingsOf .amu).all chk = true := by decide +kernel
theorem sp_emass : (spellingsOf .emass).all chk = true := by decide +kernel
theorem sp_second : (spellingsOf .second).all chk = true := by decide +kernel
theorem sp_minute : (spellingsOf .minute).all chk = true := by decide +kernel
theorem sp_hour : (spellingsOf .hour).all chk = true := by decide +kernel

end QcelVerif.Units.Text
