import QcelVerif.Props.C17Factor
/-!
# C17 — `Datum.to_units` with the derived factor: linear in the payload, and the stored Datum is not modified

`Datum.to_units` (datum.py:96-105): `factor = constants.conversion_factor(self.units, to_unit)`, then
`factor * float(self.data)` for a Decimal payload and `factor * self.data` for a float / ndarray payload.
The general theorems hold for EVERY factor map `convF`; the `Full` versions instantiate it with the factor
derived from the CODATA set (`convModel`).  "Linear" is meant exactly as far as it is true of floats: every
output element is the exact linear map `x ↦ q·x` up to the stated roundings, elementwise, and scaling the
payload by a power of two scales the result exactly.

Value semantics: in the model a reply is a value and `to_units` returns the Datum it was given
(`Datum.callToUnits`), which is what datum.py:96-105 does (no assignment to `self`, `*` allocates a new
float / array).  Whether the ndarray a Python caller receives shares memory with the stored payload is NOT
expressible here: that side is differential (harness/c17.py, stream D: payload compared before / after every
call, repeated calls, after in-place modification of a returned array).
-/
namespace QcelVerif.Radii
open QcelVerif.PStr

/-- **`to_units` is the factor applied to the payload, by payload kind** (any factor map): a Decimal goes
through `float()` first, a float is multiplied once, an array elementwise. -/
theorem to_units_value (convF : Bytes → Bytes → Option Rat) (d : Datum) (u : Option Bytes) (f : Rat)
    (hf : convF d.units (u.getD d.units) = some f) :
    d.toUnitsU convF u = .ok (match d.data with
      | .dec n c e => .value (fmul f (ofDec n c e))
      | .flt x => .value (fmul f x)
      | .arr xs => .values (xs.map (fmul f))) := by
  unfold Datum.toUnitsU Datum.toUnits
  simp only [hf]
  cases d.data <;> rfl

/-- **An array is converted element by element**: element `i` of the result is what the same Datum with the
float payload `xs[i]` converts to, and the length is kept. -/
theorem to_units_array_elementwise (convF : Bytes → Bytes → Option Rat) (d : Datum) (u : Option Bytes) (f : Rat)
    (xs : List Rat) (hd : d.data = .arr xs) (hf : convF d.units (u.getD d.units) = some f) :
    ∃ ys, d.toUnitsU convF u = .ok (.values ys) ∧ ys.length = xs.length ∧
      ∀ i (h : i < xs.length), ∃ h' : i < ys.length,
        ({ d with data := .flt xs[i] } : Datum).toUnitsU convF u = .ok (.value ys[i]) := by
  refine ⟨xs.map (fmul f), ?_, by simp, ?_⟩
  · rw [to_units_value convF d u f hf, hd]
  · intro i h
    refine ⟨by simpa using h, ?_⟩
    rw [to_units_value convF { d with data := .flt xs[i] } u f hf]
    simp

/-- **`to_units()` without argument converts to the Datum's own unit** (datum.py:99) -/
theorem to_units_default_is_own_unit (convF : Bytes → Bytes → Option Rat) (d : Datum) :
    d.toUnitsU convF none = d.toUnitsU convF (some d.units) := rfl

/-- a rational that is a double of the model: a fixed point of the rounding -/
def IsDouble (x : Rat) : Prop := rnd64 x = x

theorem fmul_one_of_isDouble {x : Rat} (h : IsDouble x) : fmul 1 x = x := by
  unfold fmul; rw [one_mul]; exact h

/-- **Converting to the unit the Datum is in returns the payload itself** (derived factor exactly 1): a
float or array of doubles comes back element for element, a Decimal as `float(Decimal)`. -/
theorem to_units_same_unit (cd : Units.Codata) (ha0 : cd.a0 ≠ 0) (d : Datum) (u : LUnit) (hu : d.units = u.name)
    (w : Option Bytes) (hw : w = none ∨ w = some u.name) :
    d.toUnitsFull cd w = .ok (match d.data with
      | .dec n c e => .value (ofDec n c e)
      | .flt x => .value (rnd64 x)
      | .arr xs => .values (xs.map rnd64)) ∧
    (∀ x, d.data = .flt x → IsDouble x → d.toUnitsFull cd w = .ok (.value x)) ∧
    (∀ xs, d.data = .arr xs → (∀ x ∈ xs, IsDouble x) → d.toUnitsFull cd w = .ok (.values xs)) := by
  have hf : convModel cd d.units (w.getD d.units) = some 1 := by
    have : w.getD d.units = u.name := by
      rcases hw with rfl | rfl
      · exact hu
      · rfl
    rw [this, hu]
    exact (native_unit_exact_full cd ha0 u).2
  have hv := to_units_value (convModel cd) d w 1 hf
  have main : d.toUnitsFull cd w = .ok (match d.data with
      | .dec n c e => .value (ofDec n c e)
      | .flt x => .value (rnd64 x)
      | .arr xs => .values (xs.map rnd64)) := by
    unfold Datum.toUnitsFull
    rw [hv]
    cases d.data <;> simp [fmul, ofDec, rnd64_idem]
  refine ⟨main, ?_, ?_⟩
  · intro x hx hdbl
    rw [main, hx]
    simp only [show rnd64 x = x from hdbl]
  · intro xs hx hdbl
    rw [main, hx]
    simp only [map_eq_self hdbl]

/-- **Every converted float / array element is the factor times the element up to one rounding**; with a
factor within `ε` of the exact rational `q` it is within `(1+ε)(1+u) − 1` of the exact linear map `x ↦ q·x`
(`ε = u` for the model's own double, `ε = 2^-50` for an implementation double that passed `withinTol`). -/
theorem to_units_accuracy (q f x ε : Rat) (hf : |f - q| ≤ ε * |q|) :
    |fmul f x - f * x| ≤ (2 : Rat) ^ (-53 : Int) * |f * x| ∧
    |fmul f x - q * x| ≤ ((1 + ε) * (1 + (2 : Rat) ^ (-53 : Int)) - 1) * |q * x| :=
  ⟨fmul_err f x, fmul_factor_tol q f x ε hf⟩

/-- … and a Decimal payload up to the additional rounding of `float(Decimal)` (the statement of
`factor_tolerance_accuracy` in `Props/C17Factor.lean`, under the name the `to_units` clauses use). -/
theorem to_units_decimal_accuracy (q f ε : Rat) (n : Bool) (c : Nat) (e : Int) (hε : 0 ≤ ε)
    (hf : |f - q| ≤ ε * |q|) :
    |fmul f (ofDec n c e) - q * decVal n c e|
      ≤ ((1 + ε) * (1 + (2 : Rat) ^ (-53 : Int)) ^ 2 - 1) * |q * decVal n c e| :=
  factor_tolerance_accuracy q f ε n c e hε hf

/-- **Exact homogeneity for binary scalings of the payload**: `to_units` of `2^k·x` is `2^k` times `to_units`
of `x` — no additional rounding (exponent range not modelled) — for floats and, elementwise, arrays. -/
theorem to_units_homogeneous_pow2 (f x : Rat) (k : Int) (xs : List Rat) :
    fmul f ((2 : Rat) ^ k * x) = (2 : Rat) ^ k * fmul f x ∧
    (xs.map fun y => fmul f ((2 : Rat) ^ k * y)) = (xs.map (fmul f)).map (fun y => (2 : Rat) ^ k * y) := by
  have h : ∀ y : Rat, fmul f ((2 : Rat) ^ k * y) = (2 : Rat) ^ k * fmul f y := by
    intro y
    unfold fmul
    rw [show f * ((2 : Rat) ^ k * y) = (2 : Rat) ^ k * (f * y) by ring, rnd64_pow2_scale]
  refine ⟨h x, ?_⟩
  rw [List.map_map]
  exact List.map_congr_left (fun y _ => h y)

/-! ## the stored Datum is not modified -/

theorem callToUnits_preserves (convF : Bytes → Bytes → Option Rat) (d : Datum) (u : Option Bytes) :
    (d.callToUnits convF u).1 = d := rfl

/-- **No sequence of `to_units` calls changes the Datum**: label, units, payload (every digit of a Decimal,
every element of an array), comment and doi are what they were. -/
theorem to_units_preserves_datum (convF : Bytes → Bytes → Option Rat) (d : Datum) (us : List (Option Bytes)) :
    (Datum.runToUnits convF d us).1 = d := by
  induction us generalizing d with
  | nil => rfl
  | cons u us ih =>
    simp only [Datum.runToUnits]
    rw [callToUnits_preserves, ih]

/-- **Every reply of a sequence of `to_units` calls is the reply of that call alone on the original Datum**
(order, repetition and earlier target units cannot matter). -/
theorem to_units_replies_history_free (convF : Bytes → Bytes → Option Rat) (d : Datum) (us : List (Option Bytes)) :
    (Datum.runToUnits convF d us).2 = us.map (fun u => d.toUnitsU convF u) := by
  induction us generalizing d with
  | nil => rfl
  | cons u us ih =>
    simp only [Datum.runToUnits, List.map_cons]
    rw [callToUnits_preserves, ih]
    rfl

/-- in particular the same call repeated `n` times gives the same answer `n` times -/
theorem to_units_repeatable (convF : Bytes → Bytes → Option Rat) (d : Datum) (u : Option Bytes) (n : Nat) :
    (Datum.runToUnits convF d (List.replicate n u)).2 = List.replicate n (d.toUnitsU convF u) := by
  rw [to_units_replies_history_free, List.map_replicate]

-- tests (concrete Datums, derived factor of the regenerated 2014 set): 0.76 Å in pm is fl(100 · float(0.76)) = 76;
-- an array converts elementwise; the same unit gives the payload back
example : ({ label := [], units := bAngstrom, data := .dec false 76 (-2), comment := none, doi := none } : Datum).toUnitsFull
    Units.Gen.codata2014 (some [112, 109]) = .ok (.value 76) := by decide +kernel
example : ({ label := [], units := [110, 109], data := .arr [1, 3 / 2], comment := none, doi := none } : Datum).toUnitsFull
    Units.Gen.codata2014 (some bAngstrom) = .ok (.values [10, 15]) := by decide +kernel
example : ({ label := [], units := bBohr, data := .flt (5 / 4), comment := none, doi := none } : Datum).toUnitsFull
    Units.Gen.codata2014 none = .ok (.value (5 / 4)) := by decide +kernel
-- non-vacuity of `IsDouble`: 5/4 is a double, 1/10 is not (tests)
example : IsDouble (5 / 4) ∧ ¬ IsDouble (1 / 10) := by
  unfold IsDouble; constructor <;> decide +kernel

end QcelVerif.Radii
