import QcelVerif.Model.PTShipped
/-! C01: evaluated tests on the shipped table (no theorem): names outside the table are refused, and one positive
lookup (`" 1 "` is hydrogen). -/
namespace QcelVerif.PT
open QcelVerif QcelVerif.PStr

example : shipped.resolve (.str (ofString "He100")) false = none := by decide +kernel
example : shipped.resolve (.str (ofString "4He")) false = none := by decide +kernel
example : shipped.resolve (.str (ofString "1.0")) false = none := by decide +kernel
example : shipped.resolve (.int (-1)) false = none := by decide +kernel
example : shipped.resolve (.int 200) false = none := by decide +kernel
example : shipped.resolve (.str (ofString "cat")) false = none := by decide +kernel
example : shipped.resolve (.str (ofString "kr84")) true = none := by decide +kernel
example : shipped.toMass (.str (ofString " 1 ")) = some (pack (ofString "1.00782503223")) := by decide +kernel


end QcelVerif.PT
