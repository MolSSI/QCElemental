import QcelVerif.Props.C06Sound
/-!
# C06 — the result cache: Python-equality respect, LRU transparency, history independence
-/
namespace QcelVerif.Nucleus
open QcelVerif QcelVerif.PStr QcelVerif.PT

namespace Lru
variable {κ ν ε : Type}

/-- every stored value is (equivalent to) what the function returns for the stored key -/
def Inv (f : κ → Except ε ν) (R : Except ε ν → Except ε ν → Prop) (c : Lru κ ν) : Prop :=
  ∀ e ∈ c.entries, R (.ok e.2) (f e.1)

theorem call_spec (keq : κ → κ → Bool) (f : κ → Except ε ν) (R : Except ε ν → Except ε ν → Prop)
    (hrefl : ∀ x, R x x) (htrans : ∀ x y z, R x y → R y z → R x z)
    (hresp : ∀ k k', keq k k' = true → R (f k) (f k'))
    (c : Lru κ ν) (hc : Inv f R c) (k : κ) :
    R (call keq f c k).2 (f k) ∧ Inv f R (call keq f c k).1 := by
  unfold call
  cases hfind : c.entries.find? (fun e => keq e.1 k) with
  | some e =>
    have hmem := List.mem_of_find?_eq_some hfind
    have hk := List.find?_some hfind
    refine ⟨htrans _ _ _ (hc e hmem) (hresp _ _ hk), ?_⟩
    intro e' he'
    simp only [List.mem_cons] at he'
    rcases he' with rfl | he'
    · exact hc _ hmem
    · exact hc _ (List.mem_filter.mp he').1
  | none =>
    cases hf : f k with
    | error x => simp only; exact ⟨hrefl _, hc⟩
    | ok v =>
      simp only
      refine ⟨hrefl _, ?_⟩
      intro e' he'
      have := List.mem_of_mem_take he'
      simp only [List.mem_cons] at this
      rcases this with rfl | h'
      · simp only; rw [hf]; exact hrefl _
      · exact hc _ h'

end Lru

/-- **LRU transparency.**  For any function `f` that respects the key equivalence `keq` up to a
reflexive–transitive relation `R` on results, any capacity, any starting table satisfying the
invariant (in particular the empty one) and ANY history of `call` / `clear` operations — hits,
misses, refreshes, evictions, exceptions — every call returns a result `R`-equivalent to `f k`. -/
theorem lru_transparent {κ ν ε : Type} (keq : κ → κ → Bool) (f : κ → Except ε ν)
    (R : Except ε ν → Except ε ν → Prop)
    (hrefl : ∀ x, R x x) (htrans : ∀ x y z, R x y → R y z → R x z)
    (hresp : ∀ k k', keq k k' = true → R (f k) (f k')) :
    ∀ (hist : List (Op κ)) (c : Lru κ ν), Lru.Inv f R c →
      ∀ p ∈ Lru.run keq f c hist, R p.2 (f p.1) := by
  intro hist
  induction hist with
  | nil => intro c _ p hp; cases hp
  | cons op t ih =>
    intro c hc p hp
    cases op with
    | clear =>
      simp only [Lru.run] at hp
      exact ih _ (by intro e he; cases he) p hp
    | call k =>
      simp only [Lru.run, List.mem_cons] at hp
      obtain ⟨h1, h2⟩ := Lru.call_spec keq f R hrefl htrans hresp c hc k
      rcases hp with rfl | hp
      · exact h1
      · exact ih _ h2 p hp

theorem Lru.inv_empty {κ ν ε : Type} (f : κ → Except ε ν) (R) (cap : Nat) :
    Lru.Inv f R ({ cap := cap, entries := [] } : Lru κ ν) := by
  intro e he; cases he

/-- a table that holds at most `cap` entries still does after any call (hit, miss or exception) -/
theorem Lru.call_size {κ ν ε : Type} (keq : κ → κ → Bool) (f : κ → Except ε ν) (c : Lru κ ν) (k : κ)
    (h : c.entries.length ≤ c.cap) : (Lru.call keq f c k).1.entries.length ≤ (Lru.call keq f c k).1.cap := by
  unfold Lru.call
  cases hfind : c.entries.find? (fun e => keq e.1 k) with
  | some e =>
    simp only [List.length_cons]
    have hmem := List.mem_of_find?_eq_some hfind
    have hk := List.find?_some hfind
    -- the entry that was hit is filtered out
    have : (c.entries.filter (fun e' => !keq e'.1 k)).length < c.entries.length :=
      List.length_filter_lt_length_iff_exists.mpr ⟨e, hmem, by simp [hk]⟩
    omega
  | none =>
    cases hf : f k with
    | error x => simpa using h
    | ok v => simp only [List.length_take]; omega

/-- `==` on what a call produces: same exception, or tuples equal under `==` (`real` by value) -/
def ResEq : Except Err Output → Except Err Output → Prop
  | .ok a, .ok b => Output.pyEq a b = true
  | .error e, .error e' => e = e'
  | _, _ => False

theorem Output.pyEq_iff (a b : Output) :
    Output.pyEq a b = true ↔ a.A = b.A ∧ a.Z = b.Z ∧ a.E = b.E ∧ a.mass = b.mass ∧ a.real.val = b.real.val ∧ a.user = b.user := by
  simp [Output.pyEq, and_assoc]

theorem ResEq.refl (x : Except Err Output) : ResEq x x := by
  cases x with
  | error e => rfl
  | ok a => simp [ResEq, Output.pyEq_iff]

theorem ResEq.trans (x y z : Except Err Output) (h1 : ResEq x y) (h2 : ResEq y z) : ResEq x z := by
  cases x <;> cases y <;> cases z <;> simp only [ResEq] at h1 h2 ⊢
  · exact h1.trans h2
  · rw [Output.pyEq_iff] at h1 h2 ⊢
    obtain ⟨a1, a2, a3, a4, a5, a6⟩ := h1
    obtain ⟨b1, b2, b3, b4, b5, b6⟩ := h2
    exact ⟨a1.trans b1, a2.trans b2, a3.trans b3, a4.trans b4, a5.trans b5, a6.trans b6⟩

theorem optNumEq_iff (a b : Option PyNum) : optNumEq a b = true ↔ a.map PyNum.val = b.map PyNum.val := by
  cases a <;> cases b <;> simp [optNumEq]

theorem Input.pyEq_iff (i j : Input) :
    Input.pyEq i j = true ↔
      i.A.map PyNum.val = j.A.map PyNum.val ∧ i.Z.map PyNum.val = j.Z.map PyNum.val ∧ i.E = j.E ∧
      i.mass.map PyNum.val = j.mass.map PyNum.val ∧ i.real.map PyNum.val = j.real.map PyNum.val ∧
      i.label = j.label ∧ i.speclabel = j.speclabel ∧ i.nonphysical = j.nonphysical ∧ i.mtol.val = j.mtol.val := by
  simp [Input.pyEq, optNumEq_iff, and_assoc]

/-- a list built from an optional number through its value only -/
theorem optList_map_val {β} (a b : Option PyNum) (h : a.map PyNum.val = b.map PyNum.val) (g : Rat → β) :
    (optList a).map (fun p => g p.val) = (optList b).map (fun p => g p.val) := by
  cases a <;> cases b <;> simp [optList] at h ⊢
  rw [h]

theorem optList_mapM_val {β} (a b : Option PyNum) (h : a.map PyNum.val = b.map PyNum.val) (g : Rat → Except Err β) :
    (optList a).mapM (fun p => g p.val) = (optList b).mapM (fun p => g p.val) := by
  cases a <;> cases b <;> simp [optList] at h ⊢
  rw [h]

theorem zStage_congr (N : NTables) (rd rng) (i j : Input) (h : Input.pyEq i j = true) :
    zStage N rd rng i = zStage N rd rng j := by
  obtain ⟨_, hZ, hE, _, _, hl, hs, hn, _⟩ := (Input.pyEq_iff i j).mp h
  have hlab : labelOf i = labelOf j := by unfold labelOf; rw [hl, hs]
  unfold zStage
  rw [hlab, hE, hn, optList_mapM_val i.Z j.Z hZ (fun v => offerZ N rd rng j.nonphysical (truncInt v))]

theorem cluesOf_congr (rd) (i j : Input) (lab) (h : Input.pyEq i j = true) :
    cluesOf rd i lab = cluesOf rd j lab := by
  obtain ⟨hA, _, _, hM, _, _, _, _, _⟩ := (Input.pyEq_iff i j).mp h
  unfold cluesOf
  rw [optList_map_val i.A j.A hA (fun v => Clue.massNumber (truncInt v)),
      optList_map_val i.mass j.mass hM (fun v => Clue.massValue (rd v))]

theorem userClues_congr (i j : Input) (lab) (h : Input.pyEq i j = true) : userClues i lab = userClues j lab := by
  obtain ⟨_, _, _, _, _, hl, hs, _, _⟩ := (Input.pyEq_iff i j).mp h
  unfold userClues; rw [hl, hs]

/-- the search under `==` by value, seen through the value of what it finds, is a search among the values -/
theorem firstPassing_val (cs ps : List PyNum) :
    (firstPassing (fun (p c : PyNum) => c.val == p.val) cs ps).map PyNum.val =
      (cs.map PyNum.val).find? fun x => (ps.map PyNum.val).all (x == ·) := by
  simp [firstPassing, List.find?_map, List.all_map, Function.comp_def]

/-- the real/ghost searches of two `==` inputs return `==` values (or both fail) -/
theorem realFinal_congr (i j : Input) (lab : Option Label) (h : Input.pyEq i j = true) :
    (firstPassing (fun (p c : PyNum) => c.val == p.val) (PyNum.bool true :: realClues i lab) (realClues i lab)).map PyNum.val =
    (firstPassing (fun (p c : PyNum) => c.val == p.val) (PyNum.bool true :: realClues j lab) (realClues j lab)).map PyNum.val := by
  obtain ⟨_, _, _, _, hR, _⟩ := (Input.pyEq_iff i j).mp h
  have hc : (realClues i lab).map PyNum.val = (realClues j lab).map PyNum.val := by
    simpa [realClues] using optList_map_val i.real j.real hR id
  rw [firstPassing_val, firstPassing_val, List.map_cons, List.map_cons, hc]

theorem bind_ResEq {α} (x : Except Err α) (g g' : α → Except Err Output) (h : ∀ a, ResEq (g a) (g' a)) :
    ResEq (x >>= g) (x >>= g') := by
  cases x with
  | error e => simp [bind, Except.bind, ResEq]
  | ok a => simpa [bind, Except.bind] using h a

/-- **The function respects Python equality of its arguments**: inputs that `lru_cache` cannot tell
apart (`1 == 1.0 == True` on A, Z, mass, real, mtol) give `==` results. -/
theorem reconcile_respects_pyEq (N : NTables) (rd : Rat → Rat) (rng : Nat → Option Range) (i j : Input)
    (h : Input.pyEq i j = true) : ResEq (reconcileWith N rd rng i) (reconcileWith N rd rng j) := by
  have hmt : i.mtol.val = j.mtol.val := ((Input.pyEq_iff i j).mp h).2.2.2.2.2.2.2.2
  unfold reconcileWith
  rw [zStage_congr N rd rng i j h]
  apply bind_ResEq; rintro ⟨zo, lab⟩
  simp only
  apply bind_ResEq; intro zf
  apply bind_ResEq; intro sym
  rw [cluesOf_congr rd i j lab h]
  apply bind_ResEq; intro clues
  rw [hmt]
  apply bind_ResEq; intro late
  apply bind_ResEq; intro mf
  apply bind_ResEq; intro af
  rw [userClues_congr i j lab h]
  have hr := realFinal_congr i j lab h
  generalize firstPassing _ (_ :: realClues i lab) _ = a at hr ⊢
  generalize firstPassing _ (_ :: realClues j lab) _ = b at hr ⊢
  cases a <;> cases b <;> simp only [Option.map_some, Option.map_none, Option.some.injEq, reduceCtorEq] at hr
  · exact ResEq.refl _
  · simp only [ofOpt, bind, Except.bind]
    cases firstPassing (fun (p c : Bytes) => c == p) ([] :: userClues j lab) (userClues j lab) with
    | none => simp [ResEq]
    | some u => simp [ResEq, pure, Except.pure, Output.pyEq_iff, hr]

/-- **History independence.**  `reconcile_nucleus` behind its 512-entry memo table: whatever calls
(and `cache_clear()`s) came before, every call returns a result `==` to the direct, uncached call. -/
theorem history_independent (N : NTables) (rd : Rat → Rat) (rng : Nat → Option Range)
    (hist : List (Op Input)) :
    ∀ p ∈ Lru.run Input.pyEq (reconcileWith N rd rng) { cap := 512, entries := [] } hist,
      ResEq p.2 (reconcileWith N rd rng p.1) :=
  lru_transparent Input.pyEq (reconcileWith N rd rng) ResEq ResEq.refl ResEq.trans
    (reconcile_respects_pyEq N rd rng) hist _ (Lru.inv_empty _ _ _)

end QcelVerif.Nucleus
