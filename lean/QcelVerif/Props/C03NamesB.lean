import QcelVerif.Lemmas.UnitNamesChk
/-! C03 text level: every listed spelling of these table units resolves to its unit over the regenerated registry names, or is one of
the eight collisions of `collisionTable` (kernel evaluation, one table unit per lemma).  `spellingsOf_all` in `Props/C03Text.lean`
assembles these per-unit checks. -/
namespace QcelVerif.Units.Text

theorem sp_ampere : (spellingsOf .ampere).all chk = true := by decide +kernel
theorem sp_kelvin : (spellingsOf .kelvin).all chk = true := by decide +kernel
theorem sp_rankine : (spellingsOf .rankine).all chk = true := by decide +kernel
theorem sp_mole : (spellingsOf .mole).all chk = true := by decide +kernel
theorem sp_coulomb : (spellingsOf .coulomb).all chk = true := by decide +kernel
theorem sp_echarge : (spellingsOf .echarge).all chk = true := by decide +kernel
theorem sp_statC : (spellingsOf .statC).all chk = true := by decide +kernel
theorem sp_joule : (spellingsOf .joule).all chk = true := by decide +kernel
theorem sp_calorie : (spellingsOf .calorie).all chk = true := by decide +kernel
theorem sp_eV : (spellingsOf .eV).all chk = true := by decide +kernel
theorem sp_hartree : (spellingsOf .hartree).all chk = true := by decide +kernel
theorem sp_erg : (spellingsOf .erg).all chk = true := by decide +kernel
theorem sp_hertz : (spellingsOf .hertz).all chk = true := by decide +kernel
theorem sp_wavenumber : (spellingsOf .wavenumber).all chk = true := by decide +kernel

end QcelVerif.Units.Text
