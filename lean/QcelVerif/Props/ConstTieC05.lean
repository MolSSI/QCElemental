import QcelVerif.Model.ChgMult
import QcelVerif.Gen.SrcConsts
import QcelVerif.Props.ConstTieLib
/-!
# C05 — the small integers inside `Model/ChgMult.lean` are those of `chgmult.py`

The model of `validate_and_fill_chgmult` carries its constants inline: the default multiplicities 1 and 2 of the
high-spin range (S5, S6), the floor 1 of the missing-multiplicity range (S6), the defaults `1, 2` appended last (S7),
the default fragment charge `0.0` (S4), the `0` / `0` of the "nothing missing" branch, the ghost rewriting `0.0` / `1`
of `zero_ghost_fragments`, rule R9 (`fc == 0 and fm == 1`), rule R3 (`m >= 1`) and the default
`zero_ghost_fragments=False`.  `Gen/SrcConsts.lean` is rewritten on every run from `chgmult.py` (by `ast`).  With
the generated values in place of the literals the theorems restate, for every specification, `candM`, `missingMult`,
`candFm` and `effective` (flag on with a ghost fragment present; flag at its default); for `candFc` the `0` of S4 stays
in the list and is equated with the generated double in a second conjunct; R9 is restated on a one-fragment
`fragRules`, R3 as a consequence of `rulesOk`.
Core Lean only.
-/
namespace QcelVerif.ChgMult
open QcelVerif QcelVerif.ConstTie

theorem chgmult_float_literals_ok :
    FloatLit.ok Src.chgmult.s4_charge Src.chgmult.s4_charge_dec Src.chgmult.s4_charge_bits Src.chgmult.s4_charge_f64 = true ∧
    FloatLit.ok Src.chgmult.ghost_charge Src.chgmult.ghost_charge_dec Src.chgmult.ghost_charge_bits Src.chgmult.ghost_charge_f64 = true := by
  decide +kernel

/-- S5: without a total multiplicity the candidates are `range(lo, hi + 1)` with `lo`/`hi` the high-spin sums under
the source's two defaults for an unspecified fragment multiplicity -/
theorem s5_range_matches_source (e : Inp) (h : e.m = none) :
    candM e = irange (highSpin (applyDefault e.fm Src.chgmult.frag_mult_lo_default))
                     (highSpin (applyDefault e.fm Src.chgmult.frag_mult_hi_default)) := by
  rw [candM, h]
  rfl

/-- test: the hypothesis `e.m = none` of `s5_range_matches_source` is satisfiable -/
example : ({ frags := [[1]], c := none, fc := [none], m := none, fm := [none], zgf := false } : Inp).m = none := rfl

/-- S6: the missing-multiplicity range, with the source's defaults and its `0, 0` when nothing is missing -/
theorem s6_missing_range_matches_source (e : Inp) :
    missingMult e =
      match e.m with
      | some m =>
          if e.fm.any (·.isNone) then
            (m - highSpin (applyDefault (removeFirstNone e.fm) Src.chgmult.frag_mult_hi_default) + 1,
             m - highSpin (applyDefault (removeFirstNone e.fm) Src.chgmult.frag_mult_lo_default) + 1)
          else (Src.chgmult.missing_mult_lo_else, Src.chgmult.missing_mult_hi_else)
      | none => (Src.chgmult.missing_mult_lo_else, Src.chgmult.missing_mult_hi_else) :=
  rfl

/-- S6 + S7: an unspecified fragment multiplicity is tried over `reversed(range(max(lo, k), hi + 1))`, then the
source's two defaults in the source's order -/
theorem s7_s6_candidates_match_source (e : Inp) :
    candFm e = e.fm.map (fun o => match o with
      | some x => [x]
      | none => (irange (max (missingMult e).1 Src.chgmult.s6_floor) (missingMult e).2).reverse
                  ++ [Src.chgmult.s7_first, Src.chgmult.s7_second]) :=
  rfl

/-- S3 + S4: an unspecified fragment charge is tried as the unallocated charge, then the source's default `0.0` -/
theorem s4_candidates_match_source (e : Inp) :
    candFc e = e.fc.map (fun o => match o with
      | some x => [x]
      | none => [(e.c.getD 0) - sumKnown e.fc, 0]) ∧
    ((0 : Int) : Rat) = Src.chgmult.s4_charge_f64 := by
  exact ⟨rfl, by decide +kernel⟩

/-- `zero_ghost_fragments=True` with a ghost fragment present: totals forgotten, ghost fragments pinned to the
source's charge `0.0` and multiplicity `1` -/
theorem ghost_rewriting_matches_source (i : Inp) (g : Int)
    (hg : (g : Rat) = Src.chgmult.ghost_charge_f64)
    (h : (i.zgf && !(i.frags.all (fun f => !isGhost f))) = true) :
    effective i = { i with
      c := none
      fc := List.zipWith (fun f x => if isGhost f then some g else x) i.frags i.fc
      m := none
      fm := List.zipWith (fun f x => if isGhost f then some Src.chgmult.ghost_mult else x) i.frags i.fm } := by
  have h0 : Src.chgmult.ghost_charge_f64 = 0 := by decide +kernel
  have hg0 : g = 0 := by
    rw [h0] at hg
    exact_mod_cast hg
  have h1 : Src.chgmult.ghost_mult = 1 := by decide
  subst hg0
  rw [h1]
  unfold effective
  rw [if_pos h]

/-- test (non-vacuity of `ghost_rewriting_matches_source`): a ghost fragment next to helium, flag on (hypothesis `h`);
the example after it shows hypothesis `hg` at `g = 0`: the integer `0` is the source's `0.0` -/
example : (({ frags := [[0], [2]], c := none, fc := [none, none], m := none, fm := [none, none], zgf := true } : Inp).zgf
    && !(([[0], [2]] : List (List Int)).all (fun f => !isGhost f))) = true := by decide
example : ((0 : Int) : Rat) = Src.chgmult.ghost_charge_f64 := by decide +kernel

/-- the default `zero_ghost_fragments=False` (also `from_arrays`' default, which it forwards): no rewriting -/
theorem zero_ghost_default_matches_source (i : Inp) (h : i.zgf = Src.chgmult.zero_ghost_fragments) :
    effective i = i ∧ Src.from_arrays.zero_ghost_fragments = Src.chgmult.zero_ghost_fragments := by
  have h0 : Src.chgmult.zero_ghost_fragments = false := by decide
  rw [h0] at h
  refine ⟨?_, by decide⟩
  simp [effective, h]

/-- R4-i, R5-i, R9-i for one fragment: a ghost fragment must carry the source's charge and multiplicity -/
theorem r9_matches_source (f : List Int) (c m : Int) :
    fragRules [f] [c] [m] =
      (sufficient (isum f) c m && parityOk (isum f) c m &&
        (!(isGhost f) || (c == Src.chgmult.r9_charge && m == Src.chgmult.r9_mult))) := by
  have h1 : Src.chgmult.r9_charge = 0 := by decide
  have h2 : Src.chgmult.r9_mult = 1 := by decide
  simp [fragRules, h1, h2]

/-- R3: every accepted candidate has all multiplicities at least the source's `_mult_ok` bound -/
theorem r3_matches_source (e : Inp) (o : Out) (h : rulesOk e o = true) :
    Src.chgmult.mult_min ≤ o.m ∧ ∀ x ∈ o.fm, Src.chgmult.mult_min ≤ x := by
  have h1 : Src.chgmult.mult_min = 1 := by decide
  rw [h1]
  simp only [rulesOk, Bool.and_eq_true, decide_eq_true_eq, List.all_eq_true] at h
  exact ⟨h.1.1.1.1.1.1.1.1.2.1, h.1.1.1.1.1.1.1.1.2.2⟩

/-- test (non-vacuity): neutral singlet helium passes the rules -/
example : rulesOk { frags := [[2]], c := none, fc := [none], m := none, fm := [none], zgf := false }
    { c := 0, fc := [0], m := 1, fm := [1] } = true := by decide

end QcelVerif.ChgMult
