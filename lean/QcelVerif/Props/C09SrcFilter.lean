import QcelVerif.Model.MolDictAst
import QcelVerif.Props.C09Src
/-!
# C09 — `_filter_defaults`: the hand model computes what the SOURCE-DERIVED term computes

`Gen.filterFn` (Gen/MolSchemaSrc.lean) is `_filter_defaults` of qcelemental/models/molecule.py as re-read by
`harness/c09_src.py` on every run: `nat`, `default_mass`, every `dicary.pop(k)` and every `if <guard>: pop ...` in order, each
guard with the key it reads.  `Src.evalFilter` (Model/MolDictAst.lean) runs such a term on a `MolDict`, keys addressed by name.
Proved here for ALL dictionaries and every `to_mass`: the evaluator at the generated term IS `MolDict.filterDefaults`
(Model/MolDict.lean) - same result, same KeyError cases.  A change of a popped key, of the order, of a guard or of the key a guard
compares (e.g. masses -> mass_numbers) changes the term and breaks `src_filterDefaults_eq`.
-/
namespace QcelVerif.MolSchema
open Src QcelVerif.MolDict

-- The equation lemmas of these functions are derived here once; without this, every proof that unfolds them derives them again.
section
attribute [local simp] evalFStmts evalFCond popAll
end

variable {K : Type} [DecidableEq K]

/-! ### what the evaluator does at each statement of `_filter_defaults`, for any dictionary `x` and any rest `t` -/

section stmts
variable (nat : Nat) (dm : List K) (t : List FStmt) (x : MolDict K)

theorem evalFStmts_popAtomicNumbers : evalFStmts nat dm (.pop "atomic_numbers" :: t) x =
    match x.atomicNumbers with
    | none => .error (.err .key)
    | some _ =>
      have d1 := { x with atomicNumbers := none }
      evalFStmts nat dm t d1 := by
  cases h : x.atomicNumbers <;> simp [evalFStmts, popField, h]

theorem evalFStmts_masses : evalFStmts nat dm (.ifPops (.massesEqualDefault "masses") ["mass_numbers", "masses"] :: t) x =
    match x.masses with
    | none => .error (.err .key)
    | some ms =>
      if dm = ms then
        match x.massNumbers with
        | none => .error (.err .key)
        | some _ => evalFStmts nat dm t { x with massNumbers := none, masses := none }
      else evalFStmts nat dm t x := by
  cases h : x.masses with
  | none => simp [evalFStmts, evalFCond, encMol, h]
  | some ms =>
    by_cases c : dm = ms <;> cases hn : x.massNumbers <;> simp [evalFStmts, evalFCond, encMol, popAll, popField, h, hn, c]

theorem evalFStmts_real : evalFStmts nat dm (.ifPops (.allTrue "real") ["real"] :: t) x =
    match x.real with
    | none => .error (.err .key)
    | some re =>
      have d3 := if re.all id then { x with real := none } else x
      evalFStmts nat dm t d3 := by
  cases h : x.real with
  | none => simp [evalFStmts, evalFCond, encMol, h]
  | some re => cases c : re.all id <;> simp [evalFStmts, evalFCond, encMol, popAll, popField, h, c]

theorem evalFStmts_atomLabels : evalFStmts nat dm (.ifPops (.allEmptyLabels "atom_labels") ["atom_labels"] :: t) x =
    match x.atomLabels with
    | none => .error (.err .key)
    | some lb =>
      have d4 := if lb = List.replicate nat "" then { x with atomLabels := none } else x
      evalFStmts nat dm t d4 := by
  cases h : x.atomLabels with
  | none => simp [evalFStmts, evalFCond, encMol, h]
  | some lb => by_cases c : lb = List.replicate nat "" <;> simp [evalFStmts, evalFCond, encMol, popAll, popField, h, c]

/-- `dicary.get("connectivity", "N/A") is None` never holds: the entry is absent or a list of bonds -/
theorem evalFStmts_connectivity (ks : List String) :
    evalFStmts nat dm (.ifPops (.getIsNone "connectivity") ks :: t) x = evalFStmts nat dm t x := by
  cases h : x.connectivity <;> simp [evalFStmts, evalFCond, encMol, h]

theorem evalFStmts_fragments : evalFStmts nat dm
      [.ifPops (.isSingleFragment "fragments") ["fragments", "fragment_charges", "fragment_multiplicities"]] x =
    match x.fragments with
    | none => .error (.err .key)
    | some fr =>
      if fr = [arangeI nat] then
        match x.fragCharges, x.fragMults with
        | some _, some _ => .ok { x with fragments := none, fragCharges := none, fragMults := none }
        | _, _ => .error (.err .key)
      else .ok x := by
  cases h : x.fragments with
  | none => simp [evalFStmts, evalFCond, encMol, h]
  | some fr =>
    have ha : arange nat = arangeI nat := rfl
    by_cases c : fr = [arangeI nat] <;> cases hc : x.fragCharges <;> cases hm : x.fragMults <;>
      simp [evalFStmts, evalFCond, encMol, popAll, popField, h, hc, hm, c, ha]

end stmts

/-- the source-derived `_filter_defaults` is the hand model's `filterDefaults`, for every dictionary and every default-mass table -/
theorem src_filterDefaults_eq (massOf : String → K) (d : MolDict K) :
    evalFilter Gen.filterFn massOf d = liftE (filterDefaults massOf d) := by
  -- One statement at a time.  After each, the dictionary both sides continue from is generalised to a variable: the
  -- hand model unfolded as a whole repeats every intermediate dictionary in each of the 19 fields of the next one.
  have hs : encMol d "symbols" = d.symbols.map .strs := by simp [encMol]
  unfold evalFilter filterDefaults
  rw [show Gen.filterFn.natKey = "symbols" from rfl, show Gen.filterFn.massSymKey = "symbols" from rfl, hs]
  rcases hsy : d.symbols with _ | syms
  · rfl
  dsimp -zeta only [Option.map_some]
  show evalFStmts _ _ (.pop "atomic_numbers" :: _) _ = _
  rw [evalFStmts_popAtomicNumbers, hsy]
  extract_lets v1 nat
  unfold nat
  generalize v1 = d1
  rcases d.atomicNumbers with _ | an
  · rfl
  dsimp -zeta -proj only
  rw [evalFStmts_masses]
  rcases d1.masses with _ | ms
  · rfl
  dsimp -zeta -proj only
  extract_lets step2
  unfold step2
  -- whether or not the masses were the defaults, the remaining statements run on some dictionary `d2`
  by_cases c : syms.map massOf = ms
  case' pos =>
    rw [if_pos c, if_pos c]
    rcases d1.massNumbers with _ | mn
    · rfl
    dsimp -zeta -proj only
    generalize ({ d1 with massNumbers := none, masses := none } : MolDict K) = d2
  case' neg =>
    rw [if_neg c, if_neg c]
    dsimp -zeta -proj only
    generalize d1 = d2
  all_goals
    rw [evalFStmts_real]
    rcases d2.real with _ | re
    · rfl
    dsimp -zeta -proj only
    extract_lets v3
    generalize v3 = d3
    rw [evalFStmts_atomLabels]
    rcases d3.atomLabels with _ | lb
    · rfl
    dsimp -zeta -proj only
    extract_lets v4
    generalize v4 = d4
    rw [evalFStmts_connectivity, evalFStmts_fragments]
    rcases d4.fragments with _ | fr
    · rfl
    dsimp -proj only
    by_cases cf : fr = [arangeI syms.length]
    · rw [if_pos cf, if_pos cf]
      cases d4.fragCharges <;> cases d4.fragMults <;> rfl
    · rw [if_neg cf, if_neg cf]
      rfl

/-- test: default masses, all real, no labels, one all-atom fragment -> the seven defaulted keys are popped, the rest stays -/
example :
    (match evalFilter Gen.filterFn (fun _ => (1 : Int))
        { symbols := some ["H", "H"], geometry := some [0, 0, 0, 0, 0, 1], masses := some [1, 1], atomicNumbers := some [1, 1],
          massNumbers := some [1, 1], atomLabels := some ["", ""], real := some [true, true], name := none, comment := none,
          charge := some 0, mult := some 1, fragments := some [[0, 1]], fragCharges := some [0], fragMults := some [1],
          fixCom := none, fixOri := none, fixSym := none, connectivity := none, validated := some true } with
      | .ok d => d.masses.isNone && d.massNumbers.isNone && d.atomicNumbers.isNone && d.real.isNone && d.atomLabels.isNone &&
          d.fragments.isNone && d.fragCharges.isNone && d.fragMults.isNone && d.symbols.isSome && d.geometry.isSome
      | .error _ => false) = true := by
  rw [src_filterDefaults_eq]
  decide

end QcelVerif.MolSchema
