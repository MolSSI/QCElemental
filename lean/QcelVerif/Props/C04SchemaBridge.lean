import QcelVerif.Lemmas.C04SchemaBridge
import QcelVerif.Props.C04Schema
import QcelVerif.Props.C09
/-!
# C04 ↔ C09: the two record-level schema models agree on the round trip

`Props/C09.lean` proves `MolSchema.schema_roundtrip` for the C09 model with `from_arrays` as a PARAMETER `fa`
and the hypothesis `hfa : fa (argsOf r) = ok (inBohr r)` ("C04's idempotence, a parameter here").
`Props/C04Schema.lean` proves `schema_roundtrip` for the C04 model, where `from_arrays` is modelled.
Here the two are tied together (`Lemmas/C04SchemaBridge.lean`: `toMS`, `inpOfArgs`, `faOfC04`): the argument
record the C09 model hands to `fa` is the C04 model's `schemaInp` (from_schema.py:60-90), C09's expected record
`inBohr` is C04's `schemaImage`, and so C09's `hfa` holds for `fa := faOfC04` under C04's hypotheses.

Scope of the bridge: exact products (`P.fl = id`; C09's model multiplies in the scalar field), the same default
factor, non-negative separators (C09's `seps : List Nat`).
-/
namespace QcelVerif.FromArrays
open QcelVerif

/-- the `from_arrays` arguments of the two models coincide -/
theorem bridge_args (P : SchemaParams) (dflt : Rat) (r : Molrec) (hfl : ∀ x, P.fl x = x) (hcf : P.cf sAngstrom = dflt)
    {valid a st tc} (I : Inv valid a st tc r) (hn : r.elem.length ≠ 0) (hpos : ∀ s ∈ r.seps, 0 ≤ s) :
    inpOfArgs P.nonphysical (MolSchema.argsOf dflt P.formula (toMS r)) = schemaInp P r := by
  have hg := exportGeom_toMS P dflt r hfl hcf I.units
  have hnm := nameOf_toMS P.formula r
  have hnat : (exportGeom P r).length / 3 = r.elem.length := by have := I.exportGeom_length P; omega
  have hs := canonSeps_of_nonneg r.elem.length r.seps hpos (I.frag_nonempty hn)
  have hb := seps_toNat_back r.seps hpos
  unfold inpOfArgs MolSchema.argsOf schemaInp
  rw [hg, hnm, hnat, hs]
  have hfs : (toMS r).fixSym.map String.toList = r.fixSymm := by
    cases h : r.fixSymm <;> simp [toMS, h, String.toList_ofList]
  have hfc : (toMS r).fragCharges.map (fun q => some q.num) = r.fc.map some := by
    simp [toMS, List.map_map, Function.comp_def]
  simp only [Option.map_some, hfs, hfc, triOfOpt]
  simp only [toMS, hb, Rat.num_intCast]

/-- the expected records of the two models coincide -/
theorem bridge_image (P : SchemaParams) (dflt : Rat) (r : Molrec) (hfl : ∀ x, P.fl x = x) (hcf : P.cf sAngstrom = dflt)
    {valid a st tc} (I : Inv valid a st tc r) (hn : r.elem.length ≠ 0) (hpos : ∀ s ∈ r.seps, 0 ≤ s) :
    toMS (schemaImage P r) = MolSchema.inBohr dflt P.formula (toMS r) := by
  have hg := exportGeom_toMS P dflt r hfl hcf I.units
  have hnm := nameOf_toMS P.formula r
  have hs := canonSeps_of_nonneg r.elem.length r.seps hpos (I.frag_nonempty hn)
  unfold MolSchema.inBohr
  rw [hg, hnm]
  simp [toMS, schemaImage, hs]

/-- **The C09 model's round trip with the C04 model of `from_arrays` plugged in** — hypothesis `hfa` of
`MolSchema.schema_roundtrip` discharged: for a C04-valid record (at least one atom, non-negative separators,
exported geometry passing the default screen, atoms re-validating under `from_schema`'s settings) the C09
model's `from_schema (to_schema r v)`, dtype 1 (nested) and 2, returns `toMS (schemaImage P r)` — the record
`Props/C04Schema.lean: schema_roundtrip` proves the C04 model returns. -/
theorem c09_roundtrip_discharged (env : Env) (P : SchemaParams) (dflt : Rat) (r : Molrec) (ver : MolSchema.Version)
    (hfl : ∀ x, P.fl x = x) (hcf : P.cf sAngstrom = dflt)
    {valid : NucSettings → Nuc → Prop} {st : NucSettings} {tc : Rat} (I : Inv valid env.angToAu st tc r)
    (hn : r.elem.length ≠ 0) (hpos : ∀ s ∈ r.seps, 0 ≤ s)
    (hgeo : validateGeometry dfltTooclose (exportGeom P r) = .ok (exportGeom P r))
    (hre : ∀ u ∈ recNucs r, env.recon (schemaSettings P) (clueOf u) = .ok u) :
    MolSchema.fromSchema (faOfC04 env P.nonphysical) (MolSchema.toSchema dflt P.formula (toMS r) ver)
      = .ok (toMS (schemaImage P r)) := by
  have h1 := schema_roundtrip env P r 1 (Or.inl rfl) I hn hgeo hre
  rw [fromSchema_toSchemaU env P r 1 (Or.inl rfl) I hn] at h1
  rw [bridge_image P dflt r hfl hcf I hn hpos]
  apply MolSchema.schema_roundtrip dflt P.formula _ (toMS r) (inv_toMS I hn hpos) ver
  unfold faOfC04
  rw [bridge_args P dflt r hfl hcf I hn hpos, h1]
  show Except.ok (toMS (schemaImage P r)) = _
  rw [bridge_image P dflt r hfl hcf I hn hpos]

def toyInpB : Inp := { toyInpA with seps := some [1] }
def toyRecB : Molrec := { toyRecA with seps := [1] }

/-- test [decide +kernel]: `from_arrays` (toy reconciler) returns `toyRecB` for `toyInpB` -/
theorem toyB_ok : fromArrays toyEnv toyInpB = .ok toyRecB := by decide +kernel

/-- test: the hypotheses are met by the toy record of `Props/C04Schema.lean` (Angstrom, pinned factor) with its
separator written non-negatively; both dtypes -/
example (ver : MolSchema.Version) :
    MolSchema.fromSchema (faOfC04 toyEnv false) (MolSchema.toSchema (189 / 100) toyP.formula (toMS toyRecB) ver)
      = .ok (toMS (schemaImage toyP toyRecB)) := by
  have I := from_arrays_inv_plain toyB_ok
  refine c09_roundtrip_discharged toyEnv toyP (189 / 100) toyRecB ver (fun _ => rfl) rfl I (by decide) (by decide)
    (by decide +kernel) ?_
  intro u hu
  obtain ⟨c, _, hc⟩ := recNucs_answers toyB_ok u hu
  exact toyRec_idem (nucSettings toyInpB) c u hc

end QcelVerif.FromArrays
