import QcelVerif.Props.C17Factor
import QcelVerif.Props.C02Pc2014
import QcelVerif.Props.C02Pc2018
import QcelVerif.Props.C02Dec
/-!
# C17 — the ångström→bohr factor is the reciprocal of the context's `bohr2angstroms` (link to C02)

WHICH constant: the convenience alias **`bohr2angstroms`** of `PhysicalConstantsContext` (context.py:158:
`self.pc['bohr radius'].data * Decimal('1.E10')`, units "AA"), as C02's model of the context construction
(`Model/Constants.lean`, `Constants.pc2014` / `pc2018`) builds it from the table `Gen/Codata201x.lean` that
C02's translator (`tools/gen_codata.py`) regenerates from `qcelemental/data/nist_201x_codata.py` on every run.
C03's unit model reads the SAME data file through ITS translator (`harness/c03.py:gen_units_codata` →
`Gen/UnitsCodata.lean`, field `a0` = the "bohr radius" row).  The theorems below are kernel evaluations over both
regenerated tables: the Decimal stored under `bohr2angstroms` is exactly `a0·10^10` (no decimal rounding
happened) and positive, so `conversion_factor("angstrom", "bohr") = 1 / bohr2angstroms` exactly.

`qcelemental.constants` — the context `covalentradii`, `vdwradii` and `Datum.to_units` use — is
`PhysicalConstantsContext("CODATA2014")` (context.py, last line); the harness reads `constants.name` and
selects the set accordingly, so the 2018 statements are there for a re-pointed default.
-/
namespace QcelVerif.Radii
open QcelVerif QcelVerif.PStr

/-- exact value of the Decimal the context stores under the key `bohr2angstroms` -/
def b2aOf (o : Option Constants.PC) : Option Rat :=
  match o with
  | some pc => (Constants.pcFind pc (pack b!"bohr2angstroms")).map (·.data.val)
  | none => none

/-- exact value of the Decimal the context stores under the key `bohr radius` -/
def bohrRadiusOf (o : Option Constants.PC) : Option Rat :=
  match o with
  | some pc => (Constants.pcFind pc (pack b!"bohr radius")).map (·.data.val)
  | none => none

/-- the context's `bohr2angstroms` is `a0·10^10` of the unit model's CODATA set, its `bohr radius` is `a0`, both positive -/
def b2aChk (o : Option Constants.PC) (cd : Units.Codata) : Bool :=
  match b2aOf o, bohrRadiusOf o with
  | some b, some r => (b == cd.a0 * 10000000000) && (r == cd.a0) && decide (0 < b)
  | _, _ => false

/-- the data file has a row named "Bohr radius" whose Decimal is the unit model's `a0`, and that is positive -/
def a0RowChk (rows : List Codata.ShippedRow) (cd : Units.Codata) : Bool :=
  decide (0 < cd.a0) && rows.any fun r =>
    pack (lower (unpack r.2.1)) == pack (lower b!"Bohr radius") && ((Dec.parse (unpack r.2.2.2.1)).map Dec.val == some cd.a0)

/-- **`bohr2angstroms` is `a0·10^10` on every context that passes C02's table checks**: the "Bohr radius" row is stored digit for
digit (`rowEntryOk`), the alias is stored as the exact value of `'Bohr radius' * 1.E10` (`aliasExact`); what is left to evaluate
is that the row's Decimal is C03's `a0`. -/
theorem b2aChk_of_checks {o : Option Constants.PC} {doi : Nat} {rows : List Codata.ShippedRow} {cd : Units.Codata}
    (hrows : Constants.withPC o (fun pc => Constants.allRows (Constants.rowEntryOk pc doi) rows) = true)
    (hal : Constants.withPC o Constants.aliasChecks = true) (h0 : a0RowChk rows cd = true) : b2aChk o cd = true := by
  obtain _ | pc := o
  · cases hal
  simp only [Constants.withPC] at hrows hal
  simp only [a0RowChk, Bool.and_eq_true, decide_eq_true_eq, List.any_eq_true, beq_iff_eq] at h0
  obtain ⟨hpos, ⟨id, quantity, unit, value, unc⟩, hr, hq, hv⟩ := h0
  have h1 := (Constants.allRows_iff _ _).1 hrows _ hr
  simp only [Constants.rowEntryOk] at h1
  simp only at hq hv
  simp only [Constants.aliasChecks, Bool.and_eq_true] at hal
  -- `bohr2angstroms` is the sixth of the aliases whose formula has no division
  have h2 := (Constants.allAliases_iff _ _).mp hal.1.2 _ (List.getElem_mem (by decide : 5 < Constants.exactAliases.length))
  have ha : Constants.exactAliases[5]'(by decide) = ⟨b!"bohr2angstroms", b!"AA", .mul (.pc b!"Bohr radius") (.lit b!"1.E10"),
      b!"Bohr to Angstroms conversion factor"⟩ := rfl
  rw [ha] at h2
  simp only [Constants.aliasExact, Constants.Expr.evalQ, Constants.evalFuel] at h2
  have hL : Option.map Dec.val (Dec.parse b!"1.E10") = some 10000000000 := by decide +kernel
  have k1 : pack (lower b!"bohr2angstroms") = pack b!"bohr2angstroms" := by decide +kernel
  have k2 : pack (lower b!"Bohr radius") = pack b!"bohr radius" := by decide +kernel
  rw [hL, k1, k2] at h2
  rw [hq, k2] at h1
  unfold b2aChk b2aOf bohrRadiusOf
  cases hd : Dec.parse (unpack value) with
  | none => rw [hd] at hv; cases hv
  | some d =>
    cases he : Constants.pcFind pc (pack b!"bohr radius") with
    | none => rw [hd, he] at h1; cases h1
    | some e =>
      cases hb : Constants.pcFind pc (pack b!"bohr2angstroms") with
      | none => rw [he, hb] at h2; cases h2
      | some e' =>
        rw [hd, he] at h1
        rw [he, hb] at h2
        simp only [Bool.and_eq_true, Option.map_some, beq_iff_eq] at h1 h2
        have hed : e.data.val = cd.a0 := by
          rw [Constants.decBeq_eq h1.1.1.2, ← Option.some_inj, ← hv, hd]; rfl
        simp only [hb, he, Option.map_some, h2, hed, beq_self_eq_true, Bool.true_and, decide_eq_true_eq]
        exact mul_pos hpos (by norm_num : (0 : Rat) < 10000000000)

/-- **CODATA2014: the alias `bohr2angstroms` of C02's context model is exactly C03's `a0·10^10`** (the two
translators read the same "bohr radius" row; the alias multiplication by `Decimal('1.E10')` is exact). -/
theorem bohr2angstroms_is_a0_2014 : b2aChk Constants.pc2014 Units.Gen.codata2014 = true :=
  b2aChk_of_checks Constants.constants_retrievable_2014 Constants.aliases_follow_spec_2014 (by decide +kernel)

/-- **CODATA2018**, likewise. -/
theorem bohr2angstroms_is_a0_2018 : b2aChk Constants.pc2018 Units.Gen.codata2018 = true :=
  b2aChk_of_checks Constants.constants_retrievable_2018 Constants.aliases_follow_spec_2018 (by decide +kernel)

theorem b2a_of_chk {o : Option Constants.PC} {cd : Units.Codata} (h : b2aChk o cd = true) :
    ∃ b, b2aOf o = some b ∧ b = cd.a0 * 10000000000 ∧ 0 < b := by
  unfold b2aChk at h
  cases hb : b2aOf o with
  | none => rw [hb] at h; simp at h
  | some b =>
    cases hr : bohrRadiusOf o with
    | none => rw [hb, hr] at h; simp at h
    | some r =>
      rw [hb, hr] at h
      simp only [Bool.and_eq_true, beq_iff_eq, decide_eq_true_eq] at h
      exact ⟨b, rfl, h.1.1, h.2⟩

theorem inverse_b2a_of_chk (o : Option Constants.PC) (cd : Units.Codata) (h : b2aChk o cd = true) :
    ∃ b, b2aOf o = some b ∧ 0 < b ∧
      Units.conv cd (LUnit.expr .angstrom) (LUnit.expr .bohr) = .ok (1 / b) ∧
      factorQ cd .angstrom .bohr = .ok (1 / b) ∧ factorQ cd .bohr .angstrom = .ok b ∧
      convModel cd bAngstrom bBohr = some (rnd64 (1 / b)) := by
  obtain ⟨b, hb, rfl, h3⟩ := b2a_of_chk h
  have hl := units_linear_full cd
  refine ⟨_, hb, h3, hl.2.2.2.2.1, hl.2.2.2.2.1, hl.2.2.2.2.2, ?_⟩
  rw [← angstrom_bohr_ratio]
  exact convModel_eq cd .angstrom .bohr

/-- **The default factor, CODATA2014 (the context the radii use)**: `conversion_factor("angstrom", "bohr")` of
the SI model over the regenerated table is exactly `1 / bohr2angstroms`, `bohr2angstroms` the Decimal of the
context's alias of that name; bohr→ångström is `bohr2angstroms` itself; the model's double is `rnd64` of it. -/
theorem default_factor_is_inverse_bohr2angstroms_2014 :
    ∃ b, b2aOf Constants.pc2014 = some b ∧ 0 < b ∧
      Units.conv Units.Gen.codata2014 (LUnit.expr .angstrom) (LUnit.expr .bohr) = .ok (1 / b) ∧
      factorQ Units.Gen.codata2014 .angstrom .bohr = .ok (1 / b) ∧ factorQ Units.Gen.codata2014 .bohr .angstrom = .ok b ∧
      convModel Units.Gen.codata2014 bAngstrom bBohr = some (rnd64 (1 / b)) :=
  inverse_b2a_of_chk _ _ bohr2angstroms_is_a0_2014

theorem default_factor_is_inverse_bohr2angstroms_2018 :
    ∃ b, b2aOf Constants.pc2018 = some b ∧ 0 < b ∧
      Units.conv Units.Gen.codata2018 (LUnit.expr .angstrom) (LUnit.expr .bohr) = .ok (1 / b) ∧
      factorQ Units.Gen.codata2018 .angstrom .bohr = .ok (1 / b) ∧ factorQ Units.Gen.codata2018 .bohr .angstrom = .ok b ∧
      convModel Units.Gen.codata2018 bAngstrom bBohr = some (rnd64 (1 / b)) :=
  inverse_b2a_of_chk _ _ bohr2angstroms_is_a0_2018

theorem shipped_default_of_chk (o : Option Constants.PC) (cd : Units.Codata) (h : b2aChk o cd = true) :
    ∃ b, b2aOf o = some b ∧ 0 < b ∧
      ∀ (t : Table), (t = cov ∨ t = vdw) → ∀ (a : PT.PyVal) (k : Nat) (m : Option Rat) (d : Datum),
        identify PT.shipped t a = some k → lookupK t k = some d →
        ∃ n c e, d.data = .dec n c e ∧
          getFull cd PT.shipped t a false none m = .ok (.value (fmul (rnd64 (1 / b)) (ofDec n c e))) := by
  obtain ⟨b, hb, rfl, h3⟩ := b2a_of_chk h
  exact ⟨_, hb, h3, fun t ht a k m d hid hd => shipped_default_is_bohr_full cd t ht a k m d hid hd⟩

/-- **The default clause end to end, shipped tables, the context the radii use (CODATA2014)**: there is a
positive rational `b` — the Decimal under the context's alias `bohr2angstroms` — such that for BOTH radius sets
and EVERY argument that identifies a tabulated entry (any alias form, any case, special labels) the default
result is `fl(rnd(1/b) · float(tabulated ångström decimal))`; nothing is taken from the implementation. -/
theorem shipped_default_over_bohr2angstroms_2014 :
    ∃ b, b2aOf Constants.pc2014 = some b ∧ 0 < b ∧
      ∀ (t : Table), (t = cov ∨ t = vdw) → ∀ (a : PT.PyVal) (k : Nat) (m : Option Rat) (d : Datum),
        identify PT.shipped t a = some k → lookupK t k = some d →
        ∃ n c e, d.data = .dec n c e ∧
          getFull Units.Gen.codata2014 PT.shipped t a false none m = .ok (.value (fmul (rnd64 (1 / b)) (ofDec n c e))) :=
  shipped_default_of_chk _ _ bohr2angstroms_is_a0_2014

theorem shipped_default_over_bohr2angstroms_2018 :
    ∃ b, b2aOf Constants.pc2018 = some b ∧ 0 < b ∧
      ∀ (t : Table), (t = cov ∨ t = vdw) → ∀ (a : PT.PyVal) (k : Nat) (m : Option Rat) (d : Datum),
        identify PT.shipped t a = some k → lookupK t k = some d →
        ∃ n c e, d.data = .dec n c e ∧
          getFull Units.Gen.codata2018 PT.shipped t a false none m = .ok (.value (fmul (rnd64 (1 / b)) (ofDec n c e))) :=
  shipped_default_of_chk _ _ bohr2angstroms_is_a0_2018

end QcelVerif.Radii
