import QcelVerif.Props.C14Inv
import QcelVerif.Lemmas.MunkresTerm
/-!
# C14 — the Munkres model terminates: total correctness of the solver model

`Props/C14Inv.lean` proves that every answer of `solve` is a certified optimum and leaves
termination within the model's fuel as the hypothesis `solve inp = .ok o`.  This file removes it.
Why the loops end: the `while` of step 4 covers one more row at every pass (`n + 1` fuel); the
alternating path of step 5 visits every row at most once (at most `2n − 1 ≤ n + m − 1` path entries,
`n + m + 1` fuel); and every step decreases the lexicographic measure (`n −` starred rows; position in
the cycle 3 → 4 → (6 → 4)* → 5; `n −` covered rows) — step 5 stars one more row, step 4 after a
step 6 covers at least one more row, step 6 always creates an uncovered zero.
-/
namespace QcelVerif.Munkres
open QcelVerif.Assign

/-- **Every step terminates** under its invariant (in the wide orientation, `path` of size `n + m`). -/
theorem step_terminates {n m : Nat} {cost : Nat → Nat → Rat} {st : Step} {s : State}
    (h : TInv n m cost st s) : ∃ r, doStep st s = .ok r :=
  doStep_total h

/-- **Every step makes progress**: it re-establishes the (termination) invariant for its successor
and strictly decreases the measure `mu`. -/
theorem step_decreases {n m : Nat} {cost : Nat → Nat → Rat} {st st' : Step} {s s' : State}
    (hrun : doStep st s = .ok (s', some st')) (h : TInv n m cost st s) :
    TInv n m cost st' s' ∧ mu n st' s' < mu n st s :=
  doStep_decreases hrun h

/-- **Totality.**  Every valid input — 2-d, numeric dtype, all entries finite, well shaped; any
shape, empty axes included — is answered: the Munkres model never runs out of fuel and never
overruns `path`. -/
theorem solve_total (inp : Input) (hw : inp.WellShaped) (h2 : inp.ndim = 2) (hdt : inp.dt ≠ .other)
    (hfin : inp.allFinite = true) : ∃ o, solve inp = .ok o := by
  obtain ⟨r, hr⟩ := solveWide_total (inp.wide_stores hw) inp.wide_le
  rw [solve_eq_via, solveVia_eq, if_neg (by simp [h2]), if_neg hdt, if_neg (by simp [hfin]), hr]
  exact ⟨_, rfl⟩

/-- **Total correctness of the solver model.**  For every valid, well-shaped cost matrix (any
shape) the model of `linear_sum_assignment(cost, return_cost=True)` returns an answer, and that
answer is a complete assignment with strictly increasing rows whose total cost is the minimum over
ALL complete assignments; every optimal complete assignment lies on the zeros of the returned
reduced matrix, which is non-negative, zero on the returned pairs, and equal to the cost minus a
constant per row and a constant per column. -/
theorem solve_correct (inp : Input) (hw : inp.WellShaped) (h2 : inp.ndim = 2) (hdt : inp.dt ≠ .other)
    (hfin : inp.allFinite = true) :
    ∃ o, solve inp = .ok o
    ∧ IsAssign inp.n inp.m o.pairs
    ∧ (o.pairs.map Prod.fst).Pairwise (· < ·)
    ∧ (∀ τ, IsAssign inp.n inp.m τ → total inp.costFn o.pairs ≤ total inp.costFn τ)
    ∧ (∀ τ, IsAssign inp.n inp.m τ → total inp.costFn τ ≤ total inp.costFn o.pairs →
        ∀ p ∈ τ, matFn o.red p.1 p.2 = 0)
    ∧ (∀ i < inp.n, ∀ j < inp.m, 0 ≤ matFn o.red i j)
    ∧ (∀ p ∈ o.pairs, matFn o.red p.1 p.2 = 0)
    ∧ ∃ u v : Nat → Rat, ∀ i < inp.n, ∀ j < inp.m, matFn o.red i j = inp.costFn i j - u i - v j := by
  obtain ⟨o, ho⟩ := solve_total inp hw h2 hdt hfin
  exact ⟨o, ho, solve_optimal inp o hw ho⟩

/-- TEST (non-vacuity): the docstring example and the tall example satisfy the hypotheses -/
example : exInput.WellShaped ∧ exInput.ndim = 2 ∧ exInput.dt ≠ .other ∧ exInput.allFinite = true := by
  refine ⟨by unfold Input.WellShaped; decide, by decide, by decide, by decide +kernel⟩
example : exTall.WellShaped ∧ exTall.ndim = 2 ∧ exTall.dt ≠ .other ∧ exTall.allFinite = true := by
  refine ⟨by unfold Input.WellShaped; decide, by decide, by decide, by decide +kernel⟩

end QcelVerif.Munkres
