import QcelVerif.Lemmas.HashRender
/-!
# C11 — the json preimage of the hash determines the canonical data (the "only if" direction)

`get_hash` concatenates ten `json.dumps` strings without separators.  Eight of them are JSON arrays
(or `null`), which are self-delimiting; the two adjacent scalars `molecular_charge`,
`molecular_multiplicity` are not: `"0.0" ++ "11" = "0.01" ++ "1"`.  For a validated molecule the
charge is tied to the fragment charges (which ARE delimited), and that is what the proof uses.

Float printing is a parameter: `Params.Ok` states what is assumed of CPython's `repr` (injective,
non-empty, never emits `,` `[` `]`); `Params.OkOn SB` assumes it of the bond-order printer on a domain `SB` only
(the concrete printer of `Props/C11Concrete.lean` needs that), and the theorem is proved in that form.
SHA-1 does not occur here (see `hash_eq_iff_fields_agree` in `Props/C11.lean`).
-/
namespace QcelVerif.Hash

/-- What is assumed of `repr(float)` as used by `json.dumps`. -/
structure Params.Ok {D} (P : Params D) : Prop where
  reprF : ∀ k, Atomic (fun _ : Rd => True) (P.reprF k)
  reprB : Atomic (fun _ : Rat => True) P.reprB

/-- the scaled integer `(-1)^neg · mag` of a rounded double (`-0.0` and `0.0` both give 0) -/
def Rd.toInt (r : Rd) : Int := if r.neg then -(r.mag : Int) else (r.mag : Int)
/-- the rounded double with scaled integer `n`, sign bit set exactly when `n < 0` (so 0 is `+0.0`): what `float_prep`
returns for an entry that rounds to `n` outside the zero band (`prepArr_eq`, `prepScalar_eq` in `Props/C11.lean`) -/
def Rd.ofInt (n : Int) : Rd := ⟨decide (n < 0), n.natAbs⟩

/-- sum of a list of integers (the fragment charges, in units of 1e-4) -/
def isum : List Int → Int
  | [] => 0
  | x :: t => x + isum t

/-- The invariants of a validated molecule that decoding needs: element symbols are letters, and the
molecular charge is the sum of the fragment charges (`validate_and_fill_chgmult`; exact for the
integer charges the property is stated for, where rounding to 4 decimals is the identity). -/
structure Canon.Valid (c : Canon) : Prop where
  letters : ∀ s ∈ c.symbols, Letters s
  chargeTied : c.charge = Rd.ofInt (isum (c.fragCharges.map Rd.toInt))

/-- `Params.Ok` with the bond-order printer assumed only on a domain `SB` -/
structure Params.OkOn {D} (P : Params D) (SB : Rat → Prop) : Prop where
  reprF : ∀ k, Atomic (fun _ : Rd => True) (P.reprF k)
  reprB : Atomic SB P.reprB

theorem Params.Ok.okOn {D} {P : Params D} (h : P.Ok) : P.OkOn (fun _ => True) := ⟨h.reprF, h.reprB⟩

def Canon.BondsIn (SB : Rat → Prop) (c : Canon) : Prop := ∀ l, c.connectivity = some l → ∀ b ∈ l, SB b.order

theorem renderBond_sd {SB : Rat → Prop} {reprB : Rat → List Char} (hB : Atomic SB reprB) :
    SD (fun b : Bond => SB b.order) (renderBond reprB) where
  head a _ := ⟨'[', _, rfl, by decide⟩
  split x y s t hx hy h _ _ := by
    simp only [renderBond, List.cons_append, List.append_assoc, List.cons.injEq, true_and, List.nil_append] at h
    -- three atomic tokens, each up to its `,` or `]`
    obtain ⟨h1, e1⟩ := showNat_atomic.sd.split x.a y.a _ _ trivial trivial h ⟨_, .inl rfl⟩ ⟨_, .inl rfl⟩
    simp only [List.cons.injEq, true_and] at e1
    obtain ⟨h2, e2⟩ := showNat_atomic.sd.split x.b y.b _ _ trivial trivial e1 ⟨_, .inl rfl⟩ ⟨_, .inl rfl⟩
    simp only [List.cons.injEq, true_and] at e2
    obtain ⟨h3, e3⟩ := hB.sd.split x.order y.order _ _ hx hy e2 ⟨_, .inr rfl⟩ ⟨_, .inr rfl⟩
    simp only [List.cons.injEq, true_and] at e3
    cases x; cases y
    simp only [Bond.mk.injEq]
    exact ⟨⟨h1, h2, h3⟩, e3⟩

theorem renderConn_inj {SB : Rat → Prop} {reprB : Rat → List Char} (hB : Atomic SB reprB) :
    ∀ a b : Option (List Bond), (∀ l, a = some l → ∀ x ∈ l, SB x.order) → (∀ l, b = some l → ∀ x ∈ l, SB x.order) →
      renderConn reprB a = renderConn reprB b → a = b
  | none, none, _, _, _ => rfl
  | none, some l, _, _, h => by
      have := congrArg List.head? h
      simp [renderConn, renderList] at this
  | some l, none, _, _, h => by
      have := congrArg List.head? h
      simp [renderConn, renderList] at this
  | some l, some l', ha, hb, h => by
      simp only [renderConn] at h
      have := renderList_inj (renderBond_sd hB) l l' [] [] (ha l rfl) (hb l' rfl) (by simpa using h)
      rw [this.1]

/-- **The preimage is injective on validated canonical data whose bond orders lie in the printer's domain.** -/
theorem preimage_injective_on {D} (P : Params D) (SB : Rat → Prop) (hP : P.OkOn SB) (c c' : Canon)
    (hc : c.Valid) (hc' : c'.Valid) (hb : c.BondsIn SB) (hb' : c'.BondsIn SB)
    (h : preimage P c = preimage P c') : c = c' := by
  unfold preimage at h
  have T : ∀ {α} (l : List α), ∀ x ∈ l, (fun _ : α => True) x := fun _ _ _ => trivial
  -- symbols, masses: self-delimiting arrays at the front
  obtain ⟨e1, h⟩ := renderList_inj showStr_atomic.sd _ _ _ _ hc.letters hc'.letters h
  obtain ⟨e2, h⟩ := renderList_inj (hP.reprF MASS_NOISE).sd _ _ _ _ (T _) (T _) h
  -- the two adjacent scalars, up to the `[` of the next array
  rw [← List.append_assoc, ← List.append_assoc (P.reprF CHARGE_NOISE c'.charge)] at h
  have tokU : ∀ (x : Rd) (m : Int), ∀ ch ∈ P.reprF CHARGE_NOISE x ++ showInt m, tokCh ch = true := by
    intro x m ch hch
    rcases List.mem_append.mp hch with h1 | h1
    · exact (hP.reprF CHARGE_NOISE).tok x trivial ch h1
    · exact showInt_tok m ch h1
  obtain ⟨eU, h⟩ := tok_split (tokU c.charge c.mult) (tokU c'.charge c'.mult) (stop_cons (by decide) _) (stop_cons (by decide) _) h
  -- the remaining self-delimiting arrays
  obtain ⟨e5, h⟩ := renderList_inj showBool_atomic.sd _ _ _ _ (T _) (T _) h
  obtain ⟨e6, h⟩ := renderList_inj (hP.reprF GEOMETRY_NOISE).sd _ _ _ _ (T _) (T _) h
  obtain ⟨e7, h⟩ := renderList_inj (renderList_sd showInt_atomic.sd) _ _ _ _ (fun _ _ => T _) (fun _ _ => T _) h
  obtain ⟨e8, h⟩ := renderList_inj (hP.reprF CHARGE_NOISE).sd _ _ _ _ (T _) (T _) h
  have h' : renderList showInt c.fragMults ++ (renderConn P.reprB c.connectivity ++ [])
      = renderList showInt c'.fragMults ++ (renderConn P.reprB c'.connectivity ++ []) := by simpa using h
  obtain ⟨e9, h'⟩ := renderList_inj showInt_atomic.sd _ _ _ _ (T _) (T _) h'
  have e10 := renderConn_inj hP.reprB _ _ hb hb' (by simpa using h')
  -- the scalars: the charge is determined by the fragment charges
  have e3 : c.charge = c'.charge := by rw [hc.chargeTied, hc'.chargeTied, e8]
  have e4 : c.mult = c'.mult := by
    rw [e3] at eU
    exact showInt_inj _ _ (List.append_cancel_left eU)
  cases c; cases c'
  simp only [Canon.mk.injEq]
  simp_all

/-- **The preimage is injective on validated canonical data.** -/
theorem preimage_injective {D} (P : Params D) (hP : P.Ok) (c c' : Canon) (hc : c.Valid) (hc' : c'.Valid)
    (h : preimage P c = preimage P c') : c = c' :=
  preimage_injective_on P (fun _ => True) hP.okOn c c' hc hc' (fun _ _ _ _ => trivial) (fun _ _ _ _ => trivial) h

/-- non-vacuity: a validated water-like canonical record -/
example : Canon.Valid
    { symbols := ["O".toList, "H".toList, "H".toList], masses := [⟨false, 15994915⟩, ⟨false, 1007825⟩, ⟨false, 1007825⟩],
      charge := ⟨true, 10000⟩, mult := 1, real := [true, true, true], geometry := List.replicate 9 ⟨false, 0⟩,
      fragments := [[0, 1, 2]], fragCharges := [⟨true, 10000⟩], fragMults := [1], connectivity := none } :=
  ⟨by decide, by decide⟩

/-! ### without the charge tie the adjacent scalars collide -/

/-- canonical data for one helium atom with charge `q` (scaled by 1e4) and multiplicity `m`, NOT charge-tied -/
def heCanon (q : Nat) (m : Int) : Canon :=
  { symbols := ["He".toList], masses := [⟨false, 4002603⟩], charge := ⟨false, q⟩, mult := m, real := [true],
    geometry := [⟨false, 0⟩, ⟨false, 0⟩, ⟨false, 0⟩], fragments := [[0]], fragCharges := [⟨false, 0⟩], fragMults := [1],
    connectivity := none }

/-- `"0.0" ++ "11" = "0.01" ++ "1"`: with any printer that writes 0 as `0.0` and 0.01 as `0.01` (CPython does),
charge 0 / multiplicity 11 and charge 0.01 / multiplicity 1 have the same preimage, hence the same hash. -/
theorem preimage_collision_unvalidated {D} (P : Params D)
    (h0 : P.reprF CHARGE_NOISE ⟨false, 0⟩ = "0.0".toList) (h1 : P.reprF CHARGE_NOISE ⟨false, 100⟩ = "0.01".toList) :
    heCanon 0 11 ≠ heCanon 100 1 ∧ preimage P (heCanon 0 11) = preimage P (heCanon 100 1) := by
  constructor
  · intro h
    have := congrArg Canon.mult h
    simp [heCanon] at this
  · have s11 : showInt 11 = ['1', '1'] := (showNat_eq 11).trans (by decide)
    have s1 : showInt 1 = ['1'] := (showNat_eq 1).trans (by decide)
    simp only [preimage, heCanon, h0, h1, s11, s1]
    simp

end QcelVerif.Hash
