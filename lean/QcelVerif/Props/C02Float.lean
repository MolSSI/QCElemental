import QcelVerif.Props.C02Pred
import QcelVerif.Lemmas.F64Near
/-! C02: `floatOk` as it is evaluated (the nearest-double test over ℕ, `F64Check.nearestOk_eq`). -/
namespace QcelVerif.Constants
open QcelVerif

def floatOkN (e : Nat × Datum) : Bool := F64Check.nearestOkN e.2.data e.2.data.toF64

theorem floatOk_eq : floatOk = floatOkN := by
  funext e
  exact (show nearestOk _ _ = F64Check.nearestOk _ _ from rfl).trans (F64Check.nearestOk_eq _ _)

end QcelVerif.Constants
