import QcelVerif.Props.C06ElemPred
import QcelVerif.Props.C06Shipped
import QcelVerif.Lemmas.C04Rd64
import QcelVerif.Props.C06Bare
import QcelVerif.Props.C01General
/-!
# C06 — every element reconciles to its default isotope from `Z`, from its symbol and from its symbol as a label

By argument, for any table: the default isotope of an element is one of the element's own nuclides, so its mass number and mass lie
in the element's range (`elRange_contains`, Lemmas/Nucleus.lean) and, for a rounding that does not cross its own values
(`rd64_le_of_le_fixed`, Lemmas/C04Rd64.lean), inside the half-unit window around it (`default_offer`); a call with one element clue
and no isotope clue then returns the offer's own candidates (`reconcileWith_single`, Props/C06Bare.lean).  What is evaluated per element row of the
shipped table is look-ups and the label parse only (`elementListedOk`): no range, no rounding.
-/
namespace QcelVerif.Nucleus
open QcelVerif.PStr QcelVerif.PT

/-- **the default isotope passes its own element's tests**: on any table in which the default isotope of `z` is listed among the
nuclides of its element, for any rounding that fixes its values and does not cross them, `offer_atomic_number(z)` succeeds and
its candidates `(to_A(z), float(to_mass(z)))` pass the physical-range tests it appends -/
theorem default_offer (N : NTables) (rd : Rat → Rat) (hidem : ∀ x, rd (rd x) = rd x)
    (hlo : ∀ x y, x ≤ y → rd y = y → rd x ≤ y) (hhi : ∀ x y, y ≤ x → rd y = y → y ≤ rd x)
    {z : Int} {sym a s k : Nat} {q : Rat}
    (hE : N.pt.toE (.int z) false = some sym) (hA : N.pt.toA (.int z) = some a) (hS : N.pt.toMass (.int z) = some s)
    (hq : decVal (unpack s) = some q)
    (hparse : ∀ r ∈ N.nuclides, r.2.1 = sym → (decVal (unpack r.2.2.2)).isSome = true)
    (hmem : (k, sym, a, s) ∈ N.nuclides) (huniq : ∀ r ∈ N.nuclides, r.2.1 = sym → r.2.2.1 = a → r.2.2.2 = s) :
    ∃ x, offerZ N rd (elRange N rd) false z = .ok x ∧ x.sym = sym ∧ x.zA = a ∧ x.zMass = rd q ∧
      APred.holds x.aPred x.zA = true ∧ MPred.holds rd x.mPred x.zMass = true := by
  obtain ⟨r, hr, h1, h2, h3, h4⟩ := elRange_contains N rd sym hparse hmem hq huniq
  refine ⟨⟨z, sym, a, rd q, .range false r.amin r.amax, .range false (rd (r.mmin - 1/2)) (rd (r.mmax + 1/2))⟩, ?_, rfl, rfl, rfl, ?_, ?_⟩
  · simp [offerZ, hE, tableMass_ok.mpr ⟨s, q, hS, hq, rfl⟩, hA, hr, ofOpt, bind, Except.bind, pure, Except.pure]
  · simp [APred.holds, h1, h2]
  · simp only [MPred.holds, Bool.and_eq_true, decide_eq_true_eq]
    exact ⟨hlo _ _ (by grind) (hidem q), hhi _ _ (by grind) (hidem q)⟩

/-- what `default_offer` needs of an element row of the shipped table: look-ups, the label parse, and that the default isotope is listed
in the element's run with one mass string -/
def elementListedOk (r : Nat × Nat × Nat) : Bool :=
  match shippedN.pt.toA (.int r.1), shippedN.pt.toMass (.int r.1) with
  | some a, some s =>
    (decVal (unpack s)).isSome &&
    shippedN.pt.toE (.int r.1) false == some r.2.1 &&
    parseLabel (lower (unpack r.2.1)) == some (symLabel (lower (unpack r.2.1)) true none) &&
    ((shippedRuns.filter (·.1 == r.2.1)).flatMap (·.2)).any (fun x => x.2.2.1 == a && x.2.2.2 == s) &&
    ((shippedRuns.filter (·.1 == r.2.1)).flatMap (·.2)).all (fun x => x.2.2.1 != a || x.2.2.2 == s)
  | _, _ => false

theorem shipped_elements_listed : Gen.PT.elements.all elementListedOk = true := by decide +kernel

theorem elementDefaultOk_of_listed (r : Nat × Nat × Nat) (h : elementListedOk r = true) : elementDefaultOk r = true := by
  unfold elementListedOk at h
  split at h
  · rename_i a s hA hS
    simp only [Bool.and_eq_true, beq_iff_eq, Option.isSome_iff_exists] at h
    obtain ⟨⟨⟨⟨⟨q, hq⟩, hE⟩, hlab⟩, hany⟩, hall⟩ := h
    have hZ : shippedN.pt.toZ (.str (unpack r.2.1)) true = some r.1 := by simpa using (shipped_coherent.2.1 _ _ hE).1
    have hZl : shippedN.pt.toZ (.str (lower (unpack r.2.1))) true = some r.1 :=
      (accessors_case_insensitive shippedN.pt _ _ (lower_lower (unpack r.2.1)) true).2.1.trans hZ
    have hrows : shippedN.nuclides.filter (fun x => x.2.1 == r.2.1) = (shippedRuns.filter (·.1 == r.2.1)).flatMap (·.2) := by
      have hg := shipped_runs
      simp only [groupsOf, Bool.and_eq_true, decide_eq_true_eq, List.all_eq_true, beq_iff_eq] at hg
      rw [← filter_flatMap_groups (·.2.1) shippedRuns hg.2 r.2.1, hg.1]
    obtain ⟨x, hx, hxa⟩ := List.any_eq_true.mp hany
    rw [← hrows] at hx hall
    simp only [Bool.and_eq_true, beq_iff_eq] at hxa
    obtain ⟨hxn, hxs⟩ := List.mem_filter.mp hx
    simp only [beq_iff_eq] at hxs
    obtain ⟨xo, hoff, e1, e2, e3, pA, pM⟩ := default_offer shippedN rd64 rd64_idem
      (fun _ _ => rd64_le_of_le_fixed) (fun _ _ => le_rd64_of_fixed_le) hE hA hS hq
      (fun y hy hys => by
        have := List.all_eq_true.mp shipped_coherent.2.2 y hy
        unfold nuclideMassOk at this
        cases hd : decVal (unpack y.2.2.2) with
        | none => simp [hd] at this
        | some _ => rfl)
      (k := x.1) (by rw [← hxs, ← hxa.1, ← hxa.2]; exact hxn)
      (fun y hy hys hya => by
        have := List.all_eq_true.mp hall y (List.mem_filter.mpr ⟨hy, by simpa using hys⟩)
        simpa [hya] using this)
    have hz : xo.z = r.1 := (offerZ_ok hoff).1
    have htm : tableMass shippedN rd64 (.int r.1) = .ok (rd64 q) := tableMass_ok.mpr ⟨s, q, hS, hq, rfl⟩
    have hoE : ∀ e, shippedN.pt.toZ (.str e) true = some r.1 → offerE shippedN rd64 (elRange shippedN rd64) false e = .ok xo :=
      fun e he => offerE_ok.mpr ⟨_, he, hoff⟩
    have hE1 := reconcile_bareE shippedN rd64 (elRange shippedN rd64) false (.float (1/1000)) _ xo (hoE _ hZ) pA pM
    have hE2 := reconcile_bareE shippedN rd64 (elRange shippedN rd64) false (.float (1/1000)) _ xo (hoE _ hZl) pA pM
    have hL := label_only_of_symbol_only shippedN rd64 (elRange shippedN rd64) _ _ true none false (.float (1/1000)) (.float (1/1000)) _ hlab hE2
    have hZ1 := reconcile_bareZ shippedN rd64 (elRange shippedN rd64) false (.float (1/1000)) r.1 xo hoff pA pM
    unfold elementDefaultOk
    simp only [hA, htm, reconcile]
    simp only [symbolOnly, labelOnly] at hE1 hL
    rw [hZ1, hE1, hL]
    simp [e1, e2, e3, hz, lower]
  · cases h

/-- **Every element of the shipped table reconciles to its default isotope** from its atomic number alone,
from its symbol alone and from its lower-cased symbol as a label (`elementDefaultOk`, under `rd64`). -/
theorem shipped_elements_default : Gen.PT.elements.all elementDefaultOk = true :=
  List.all_eq_true.mpr fun r hr => elementDefaultOk_of_listed r (List.all_eq_true.mp shipped_elements_listed r hr)

end QcelVerif.Nucleus
