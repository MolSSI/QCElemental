import QcelVerif.Lemmas.C07Label
import QcelVerif.Props.C07E2E
import QcelVerif.Props.C06Elements
/-!
# C07 — the written nucleus token ALONE re-derives the atom (the hypothesis `hlab` of `Props/C07E2E.lean`)

`read_write_validated_*_partial` (Props/C07E2E.lean) prove `Molecule → text → Molecule` up to the hypothesis `hlab`: "each
written atom token, handed to `reconcile_nucleus` as a label-only clue with `speclabel=True`, is answered with the record's
atom".  This file proves it, for every shipped element and every conforming user label:

 (i)  C06's BACKTRACKING matcher `Nucleus.matchNucleus` (the model of the compiled NUCLEUS regex, greedy first, alternatives in
      source order) decodes the three token shapes the writers print — `{elem}{elbl}`, `@{elem}{elbl}`, `Gh({elem}{elbl})` — into
      exactly (ghost marker, no `A`, `E = elem`, `user = elbl`, no `Z`, no mass), for ALL 1-3 letter symbols (`SymOk`) and ALL
      grammar-conformant labels (`LblOk`: the predicate inside `AtomOk` / `RecOk` / `XyzOk`) — by structural reasoning on the
      alternatives, no size bound; M1's hand-written recogniser and C06's matcher decode the token alike.
 (ii) The label-only clue is answered like the symbol clue `E=elem`, with the token's ghost flag and the lower-cased tag; for an
      atom that IS the default isotope of a shipped element (`DefaultIso`), with a conforming lower-case label, the answer is the
      atom itself.  Conversely whatever is answered to a written token is a default isotope (any table) — no text format carries a
      mass or a mass number, so an isotope-substituted atom is NOT carried and `Carried` is the right hypothesis.
-/
namespace QcelVerif.Nucleus
open QcelVerif.PStr

theorem parseLabel_written (s : Bytes) (gh1 gh2 : Bool) (sym l : Bytes)
    (h : matchNucleus s = some (writtenGroups gh1 gh2 sym l)) :
    parseLabel s = some (symLabel sym (!(gh1 || gh2)) (userOf l)) := by
  unfold parseLabel
  rw [h]
  simp only [Option.map_some, writtenGroups, symLabel]
  cases userOf l <;> rfl

end QcelVerif.Nucleus

namespace QcelVerif.TextToMol
open QcelVerif.MolText QcelVerif.FromArrays QcelVerif.PStr
open QcelVerif.Nucleus (SymOkB LblOkB userOf writtenGroups symLabel labelOnly symbolOnly shippedN rd64)

/-! ## characters ↔ bytes -/

/-- a text token as the byte list `reconcile_nucleus`'s model sees (`toInput`: `ofString`); the same function as
`MolText.toBytes` of Model/MolTextRe.lean -/
def bytesOf (s : Str) : Bytes := s.map Char.toNat

theorem ofString_ofList (s : Str) : ofString (String.ofList s) = bytesOf s := by
  simp [ofString, bytesOf, String.toList_ofList]

theorem bytesOf_toList (s : String) : bytesOf s.toList = ofString s := rfl

theorem isAlpha_toNat (c : Char) : PStr.isAlpha c.toNat = c.isAlpha := by
  simp only [PStr.isAlpha, PStr.isUpper, PStr.isLower, Char.isAlpha, Char.isUpper, Char.isLower, Char.toNat,
    UInt32.le_iff_toNat_le, ge_iff_le, Bool.decide_and]
  rfl

theorem isDigit_toNat (c : Char) : PStr.isDigit c.toNat = c.isDigit := by
  simp only [PStr.isDigit, Char.isDigit, Char.toNat, UInt32.le_iff_toNat_le, ge_iff_le]
  rfl

theorem isWord_toNat (c : Char) : Nucleus.isWord c.toNat = MolText.isWord c := by
  have h95 : (c.toNat == 95) = (c == '_') := by
    rw [Bool.eq_iff_iff, beq_iff_eq, beq_iff_eq]; exact Char.toNat_inj (d := '_')
  simp only [Nucleus.isWord, MolText.isWord, Char.isAlphanum, isAlpha_toNat, isDigit_toNat, h95]

theorem bytesOf_ne_nil {s : Str} (h : s ≠ []) : bytesOf s ≠ [] := fun h0 => h (List.map_eq_nil_iff.mp h0)

/-- a character class that agrees with a byte class carries over from a text to its bytes -/
theorem forall_bytesOf {p : Nat → Bool} {q : Char → Bool} (hpq : ∀ c : Char, p c.toNat = q c) {s : Str}
    (h : ∀ c ∈ s, q c = true) : ∀ b ∈ bytesOf s, p b = true := by
  intro b hb
  obtain ⟨x, hx, rfl⟩ := List.mem_map.mp hb
  rw [hpq]
  exact h x hx

theorem symOkB_bytesOf (s : Str) : SymOkB (bytesOf s) ↔ SymOk s := by
  simp only [SymOkB, SymOk, bytesOf, ne_eq, List.map_eq_nil_iff, List.length_map, List.forall_mem_map, isAlpha_toNat]

theorem lblOkB_of (l : Str) (h : LblOk l) : LblOkB (bytesOf l) := by
  rcases h with rfl | ⟨w, rfl, hne, hw⟩ | ⟨hne, hd⟩
  · exact Or.inl rfl
  · exact Or.inr (Or.inl ⟨bytesOf w, rfl, bytesOf_ne_nil hne, forall_bytesOf isWord_toNat hw⟩)
  · exact Or.inr (Or.inr ⟨bytesOf_ne_nil hne, forall_bytesOf isDigit_toNat hd⟩)

theorem bytesOf_append (a b : Str) : bytesOf (a ++ b) = bytesOf a ++ bytesOf b := by simp [bytesOf]

/-! ## (i) C06's matcher on the written tokens -/

/-- **(i) The backtracking NUCLEUS matcher decodes what the writers print.**  For every 1-3 letter symbol and every
grammar-conformant user label (`SymOk`, `LblOk`: the conformance predicates of `AtomOk`/`RecOk`/`XyzOk`), the FIRST complete
match of C06's model of the compiled regex on `{elem}{elbl}`, `@{elem}{elbl}` and `Gh({elem}{elbl})` has the capture groups
(gh1, gh2 as written; `A` absent; `E = elem`; `user1 = elbl`, absent when empty; `Z`, `user2`, `mass` absent). -/
theorem matchNucleus_written (sym lbl : Str) (hs : SymOk sym) (hl : LblOk lbl) :
    Nucleus.matchNucleus (bytesOf (sym ++ lbl)) = some (writtenGroups false false (bytesOf sym) (bytesOf lbl)) ∧
    Nucleus.matchNucleus (bytesOf ('@' :: (sym ++ lbl))) = some (writtenGroups true false (bytesOf sym) (bytesOf lbl)) ∧
    Nucleus.matchNucleus (bytesOf ("Gh(".toList ++ sym ++ lbl ++ [')'])) =
      some (writtenGroups false true (bytesOf sym) (bytesOf lbl)) := by
  have hsB := (symOkB_bytesOf sym).mpr hs
  have hlB := lblOkB_of lbl hl
  refine ⟨?_, ?_, ?_⟩
  · rw [bytesOf_append]; exact Nucleus.matchNucleus_real _ _ hsB hlB
  · have : bytesOf ('@' :: (sym ++ lbl)) = 64 :: (bytesOf sym ++ bytesOf lbl) := by
      simp [bytesOf]
    rw [this]; exact Nucleus.matchNucleus_at _ _ hsB hlB
  · have : bytesOf ("Gh(".toList ++ sym ++ lbl ++ [')']) = 71 :: 104 :: 40 :: (bytesOf sym ++ (bytesOf lbl ++ [41])) := by
      simp [bytesOf]
    rw [this]; exact Nucleus.matchNucleus_gh _ _ hsB hlB

theorem getD_userOf (l : Bytes) : (userOf l).getD [] = l := by
  unfold userOf; split <;> simp_all

/-- the psi4 token of an atom parses (C06 `parse_nucleus_label`) to its symbol, real/ghost flag and user label -/
theorem parseLabel_nucPsi4 (a : Atom) (hs : SymOk a.sym) (hl : LblOk a.lbl) :
    Nucleus.parseLabel (bytesOf (nucPsi4 a)) = some (symLabel (bytesOf a.sym) a.real (userOf (bytesOf a.lbl))) := by
  obtain ⟨h1, _, h3⟩ := matchNucleus_written a.sym a.lbl hs hl
  cases hr : a.real with
  | true => simp only [nucPsi4, hr, if_true]; exact Nucleus.parseLabel_written _ _ _ _ _ h1
  | false =>
    simp only [nucPsi4, hr, Bool.false_eq_true, if_false]
    exact Nucleus.parseLabel_written _ _ _ _ _ h3

/-- the xyz token (`{elem}` / `@{elem}`): symbol and real/ghost flag, no user label -/
theorem parseLabel_nucXyz (a : Atom) (hs : SymOk a.sym) :
    Nucleus.parseLabel (bytesOf (nucXyz a)) = some (symLabel (bytesOf a.sym) a.real none) := by
  obtain ⟨h1, h2, _⟩ := matchNucleus_written a.sym [] hs (Or.inl rfl)
  simp only [List.append_nil] at h1 h2
  cases hr : a.real with
  | true => simp only [nucXyz, hr, if_true]; exact Nucleus.parseLabel_written _ _ _ _ _ h1
  | false =>
    simp only [nucXyz, hr, Bool.false_eq_true, if_false]
    exact Nucleus.parseLabel_written _ _ _ _ _ h2

/-- **The two decoders agree on written tokens.**  M1's hand-written recogniser (`MolText.parseNucleus`, what the text layer
uses to CLASSIFY a line) and C06's backtracking matcher (`Nucleus.parseLabel`, what `reconcile_nucleus` uses to READ the
token) decode the psi4 token to the same ghost flag, symbol and user label. -/
theorem written_token_decoders_agree (a : Atom) (hs : SymOk a.sym) (hl : LblOk a.lbl) :
    (parseNucleus (nucPsi4 a)).map decoded = some (!a.real, a.sym, a.lbl) ∧
    (Nucleus.parseLabel (bytesOf (nucPsi4 a))).map (fun L => (!L.real, L.E, L.user.getD [])) =
      some (!a.real, some (bytesOf a.sym), bytesOf a.lbl) := by
  refine ⟨parseNucleus_nucPsi4 a hs hl, ?_⟩
  rw [parseLabel_nucPsi4 a hs hl]
  simp only [Option.map_some, symLabel, getD_userOf]

/-- non-vacuity (tests): a labelled ghost atom, digits label, three-letter symbol -/
example : Nucleus.matchNucleus (bytesOf "Gh(He_a1)".toList) =
    some (writtenGroups false true (bytesOf "He".toList) (bytesOf "_a1".toList)) :=
  (matchNucleus_written "He".toList "_a1".toList (by decide) (by decide)).2.2
example : Nucleus.matchNucleus (bytesOf "Uue12".toList) =
    some (writtenGroups false false (bytesOf "Uue".toList) (bytesOf "12".toList)) :=
  (matchNucleus_written "Uue".toList "12".toList (by decide) (by decide)).1
/-- test [decide]: evaluation of the matcher itself agrees -/
example : Nucleus.matchNucleus (bytesOf "Gh(He_a1)".toList) =
    some (writtenGroups false true (bytesOf "He".toList) (bytesOf "_a1".toList)) := by decide

/-! ## (ii) the label-only clue is answered like the symbol clue -/

/-- the clue `from_arrays` builds for a text atom, through the C04→C06 adapter -/
theorem toInput_labelClue (st : NucSettings) (hst : st.speclabel = true) (tok : Str) :
    toInput st (labelClue tok) = labelOnly (bytesOf tok) st.nonphysical (.float st.mtol) := by
  simp [toInput, labelClue, labelOnly, hst, ofString_ofList]

/-- **(ii), any table.**  If `reconcile_nucleus(E=elem)` — under ANY tolerance — answers `o`, the psi4 token of an atom with
that symbol, alone, as a label consulted as nucleus specification, is answered with `o`'s `(A, Z, E, mass)`, the atom's
real/ghost flag and the lower-cased label. -/
theorem label_only_eq_symbol_clue (N : Nucleus.NTables) (rd : Rat → Rat) (rng : Nat → Option Nucleus.Range)
    (st : NucSettings) (hst : st.speclabel = true) (a : Atom) (hs : SymOk a.sym) (hl : LblOk a.lbl)
    (mtol' : Nucleus.PyNum) (o : Nucleus.Output)
    (h : Nucleus.reconcileWith N rd rng (symbolOnly (bytesOf a.sym) st.nonphysical mtol') = .ok o) :
    reconOfC06With N rd rng st (labelClue (nucPsi4 a)) =
      .ok (toNuc { o with real := .bool a.real, user := PStr.lower (bytesOf a.lbl) }) := by
  have hp := parseLabel_nucPsi4 a hs hl
  have := Nucleus.label_only_of_symbol_only N rd rng _ _ _ _ st.nonphysical (.float st.mtol) mtol' o hp h
  unfold reconOfC06With
  rw [toInput_labelClue st hst, this]
  rw [getD_userOf]

/-! ### the shipped table -/

def symOkBool (s : Bytes) : Bool := !s.isEmpty && decide (s.length ≤ 3) && s.all PStr.isAlpha

theorem symOkB_of_symOkBool (s : Bytes) : symOkBool s = true → SymOkB s := by
  intro h
  simp only [symOkBool, Bool.and_eq_true, Bool.not_eq_true', decide_eq_true_eq, List.all_eq_true] at h
  refine ⟨?_, h.1.2, h.2⟩
  intro h0; rw [h0] at h; simp at h

/-- **Every shipped element symbol is 1-3 ASCII letters** [decide +kernel over the generated table] — so the symbol part of
(i) covers the whole periodic table as shipped. -/
theorem shipped_symbols_ok : Gen.PT.elements.all (fun r => symOkBool (unpack r.2.1)) = true := by decide +kernel

/-- `u` is the default isotope of a shipped element: `(to_A(Z), Z, symbol, float(to_mass(Z)))` of an element row, the mass
under `rd64` (what every atom of a molecule built without isotope information is: `reconcile_default`) -/
def DefaultIso (u : FromArrays.Nuc) : Prop :=
  ∃ row ∈ Gen.PT.elements, ∃ A : Nat, u.Z = (row.1 : Int) ∧ u.E = toStr (unpack row.2.1) ∧
    shippedN.pt.toA (.int row.1) = some A ∧ u.A = (A : Int) ∧
    Nucleus.tableMass shippedN rd64 (.int row.1) = .ok u.mass

/-- the user label is grammar-conformant (the `LblOk` of `AtomOk`) and lower-case (as every validated record's is:
`validated_labels_lower` below) -/
def LabelCarried (l : String) : Prop := LblOk l.toList ∧ PStr.lower (ofString l) = ofString l

/-- **Format-carriability of one atom**: the text-level atom `a` the writers print for the record atom `u` — symbol, real
flag and label as stored — where `u` is a default isotope with a conforming label.  Nothing else about `u` reaches the text. -/
def Carried (a : Atom) (u : FromArrays.Nuc) : Prop :=
  a.sym = u.E.toList ∧ a.real = u.real ∧ a.lbl = u.label.toList ∧ DefaultIso u ∧ LabelCarried u.label

theorem toStr_ofString (s : String) : toStr (ofString s) = s := by
  unfold toStr ofString
  rw [List.map_map]
  have : (Char.ofNat ∘ Char.toNat) = id := by
    funext c; simp
  rw [this, List.map_id, String.ofList_toList]

theorem elementDefault_symbol {row : Nat × Nat × Nat} (hrow : row ∈ Gen.PT.elements) {A : Nat} {m : Rat}
    (hA : shippedN.pt.toA (.int row.1) = some A) (hm : Nucleus.tableMass shippedN rd64 (.int row.1) = .ok m) :
    Nucleus.reconcileWith shippedN rd64 (Nucleus.elRange shippedN rd64)
      (symbolOnly (unpack row.2.1) false (.float (1/1000))) =
      .ok { A := A, Z := row.1, E := row.2.1, mass := m, real := .bool true, user := [] } := by
  have hok := (List.all_eq_true.mp Nucleus.shipped_elements_default) row hrow
  unfold Nucleus.elementDefaultOk at hok
  simp only [hA, hm, Bool.and_eq_true] at hok
  obtain ⟨⟨_, h2⟩, _⟩ := hok
  have e : Nucleus.reconcile shippedN rd64
      { A := none, Z := none, E := some (unpack row.2.1), mass := none, real := none, label := none, speclabel := true,
        nonphysical := false, mtol := .float (1/1000) } =
      Nucleus.reconcileWith shippedN rd64 (Nucleus.elRange shippedN rd64) (symbolOnly (unpack row.2.1) false (.float (1/1000))) := rfl
  rw [e] at h2
  split at h2
  · rename_i o ho
    rw [ho, beq_iff_eq.mp h2]
  · cases h2

/-- a token that `parse_nucleus_label` reads as a carried atom's symbol, real flag and label is answered with the atom -/
theorem token_reconciles (tok : Str) (a : Atom) (u : FromArrays.Nuc) (h : Carried a u)
    (hp : SymOk a.sym →
      Nucleus.parseLabel (bytesOf tok) = some (symLabel (bytesOf a.sym) a.real (userOf (bytesOf a.lbl)))) :
    reconOfC06 rd64 textSettings (labelClue tok) = .ok u := by
  obtain ⟨hsym, hreal, hlbl, ⟨row, hrow, A, hZ, hE, hA, huA, hm⟩, hlo, hlow⟩ := h
  have hsB : SymOkB (unpack row.2.1) := symOkB_of_symOkBool _ ((List.all_eq_true.mp shipped_symbols_ok) row hrow)
  have hbs : bytesOf a.sym = unpack row.2.1 := by
    rw [hsym, bytesOf_toList, hE]; exact ofString_toStr _ (unpack_valid _)
  have hs : SymOk a.sym := (symOkB_bytesOf _).mp (hbs ▸ hsB)
  have hdef := elementDefault_symbol hrow hA hm
  rw [← hbs] at hdef
  have := Nucleus.label_only_of_symbol_only shippedN rd64 (Nucleus.elRange shippedN rd64) _ _ _ _
    textSettings.nonphysical (.float textSettings.mtol) _ _ (hp hs) hdef
  unfold reconOfC06 reconOfC06With
  rw [toInput_labelClue textSettings rfl, this, getD_userOf]
  obtain ⟨uA, uZ, uE, um, ur, ul⟩ := u
  simp only at hsym hreal hlbl hZ hE huA hlow
  simp only [toNuc, realOf_bool, hlbl, bytesOf_toList, hlow, toStr_ofString, Except.ok.injEq, FromArrays.Nuc.mk.injEq]
  exact ⟨huA.symm, hZ.symm, hE.symm, trivial, hreal, trivial⟩

/-- **(ii), shipped table, `rd64`: the written token alone re-derives a carried atom.**  For every atom that is the default
isotope of a shipped element with a conforming lower-case label — real or ghost — `reconcile_nucleus(label=token,
speclabel=True)` under `from_string`'s settings returns exactly the record's `(A, Z, E, mass, real, label)`. -/
theorem written_token_reconciles (a : Atom) (u : FromArrays.Nuc) (h : Carried a u) :
    reconOfC06 rd64 textSettings (labelClue (nucPsi4 a)) = .ok u :=
  token_reconciles _ a u h fun hs => parseLabel_nucPsi4 a hs (h.2.2.1 ▸ h.2.2.2.2.1)

/-- the same for the xyz token (`{elem}` / `@{elem}`; the xyz writers print no user label): an atom WITHOUT user label -/
theorem written_xyz_token_reconciles (a : Atom) (u : FromArrays.Nuc) (h : Carried a u) (hnl : u.label = "") :
    reconOfC06 rd64 textSettings (labelClue (nucXyz a)) = .ok u :=
  token_reconciles _ a u h fun hs => by
    rw [parseLabel_nucXyz a hs, h.2.2.1, hnl]; rfl

/-! ### conversely: only default isotopes are carried -/

/-- **What a written token can be answered with is a default isotope** (ANY table, rounding function, settings with
`speclabel=True`): the token names an element symbol only (i), so the call makes one offer and has no isotope clue, and the
answer's `A` and mass are that offer's own: the table's defaults for its element (`labelOnly_default`, Props/C06Bare.lean). -/
theorem written_token_answer_is_default (N : Nucleus.NTables) (rd : Rat → Rat) (rng : Nat → Option Nucleus.Range)
    (st : NucSettings) (hst : st.speclabel = true) (a : Atom) (hs : SymOk a.sym) (hl : LblOk a.lbl) (u : FromArrays.Nuc)
    (h : reconOfC06With N rd rng st (labelClue (nucPsi4 a)) = .ok u) :
    (∃ A : Nat, N.pt.toA (.int u.Z) = some A ∧ u.A = (A : Int)) ∧ Nucleus.tableMass N rd (.int u.Z) = .ok u.mass := by
  obtain ⟨o, ho, rfl⟩ := reconOfC06With_ok h
  rw [toInput_labelClue st hst] at ho
  exact Nucleus.labelOnly_default (parseLabel_nucPsi4 a hs hl) ho

/-- **An isotope-substituted atom is not carried by the text.**  If `u'` has a mass other than the default mass of its
element, the answer to its written token is never `u'`: `hlab` fails for it — by design of the formats. -/
theorem isotope_not_carried (N : Nucleus.NTables) (rd : Rat → Rat) (rng : Nat → Option Nucleus.Range)
    (st : NucSettings) (hst : st.speclabel = true) (a : Atom) (hs : SymOk a.sym) (hl : LblOk a.lbl) (u' : FromArrays.Nuc)
    (hiso : Nucleus.tableMass N rd (.int u'.Z) ≠ .ok u'.mass) :
    reconOfC06With N rd rng st (labelClue (nucPsi4 a)) ≠ .ok u' := by
  intro h
  exact hiso (written_token_answer_is_default N rd rng st hst a hs hl u' h).2

/-- **The writers print neither mass numbers nor masses (nor atomic numbers)**: records that differ only there have the
same text, in every format, unit and precision. -/
theorem writeMol_ignores_isotopes (fmt : Fmt) (r : Molrec) (A Z : List Int) (ms : List Rat) (bohrOut : Bool)
    (coords : List Coord) (title : Str) :
    writeMol fmt { r with elea := A, elez := Z, mass := ms } bohrOut coords title = writeMol fmt r bohrOut coords title := rfl

/-! ### the lower-case clause of `LabelCarried` is free for validated records -/

/-- **Every label of a validated record is lower-case** (any rounding function, shipped table): what `from_arrays` stores as
`elbl` is the lower-cased user tag (C06 `reconcile_sound`, clause 8), so the second half of `LabelCarried` holds for every
atom of every record `from_arrays` returns — in particular for a fixed point (`hfix` of the round-trip theorems). -/
theorem validated_labels_lower (rd : Rat → Rat) (angToAu : Rat) (i : Inp) (r : Molrec)
    (h : fromArrays (envC06 rd angToAu) i = .ok r) :
    ∀ u ∈ recNucs r, PStr.lower (ofString u.label) = ofString u.label := by
  intro u hu
  obtain ⟨c, _, hc⟩ := recNucs_answers h u hu
  obtain ⟨o, ho, rfl⟩ := reconOfC06With_ok hc
  show PStr.lower (ofString (toStr o.user)) = ofString (toStr o.user)
  rw [ofString_toStr_user ho, (Nucleus.reconcileWith_spec ho).user]
  exact Nucleus.lower_expectedUser _

/-! ## `hlab` -/

/-- two lists related element by element (same length): `List.Forall₂` as a structural recursion, so that an instance for
concrete lists is a tuple of proofs ending in `trivial` -/
def ForallPairs {α β} (R : α → β → Prop) : List α → List β → Prop
  | [], [] => True
  | a :: as, b :: bs => R a b ∧ ForallPairs R as bs
  | _, _ => False

/-- answers given pair by pair are the answer to the whole list -/
theorem mapE_of_forallPairs {α β γ ε} (f : γ → Except ε β) (g : α → γ) (R : α → β → Prop)
    (h : ∀ a b, R a b → f (g a) = .ok b) :
    ∀ (as : List α) (bs : List β), ForallPairs R as bs → mapE f (as.map g) = .ok bs
  | [], [], _ => rfl
  | a :: as, b :: bs, hp => by
      simp only [List.map_cons, mapE, h a b hp.1, mapE_of_forallPairs f g R h as bs hp.2]
  | [], _ :: _, hp => hp.elim
  | _ :: _, [], hp => hp.elim

/-- **`hlab` for psi4 text**: for carried atoms — any number — the tokens of the text, each alone, are answered with the
record's atoms, in order. -/
theorem hlab_of_carried (angToAu : Rat) :
    ∀ (atoms : List Atom) (nucs : List FromArrays.Nuc), ForallPairs Carried atoms nucs →
      mapE ((envC06 rd64 angToAu).recon textSettings) ((atoms.map nucPsi4).map labelClue) = .ok nucs := by
  intro atoms nucs h
  rw [List.map_map]
  exact mapE_of_forallPairs (reconOfC06 rd64 textSettings) (labelClue ∘ nucPsi4) Carried written_token_reconciles atoms nucs h

/-- **`hlab` for xyz / xyz+ text** (atoms without user labels) -/
theorem hlab_xyz_of_carried (angToAu : Rat) :
    ∀ (atoms : List Atom) (nucs : List FromArrays.Nuc), ForallPairs (fun a u => Carried a u ∧ u.label = "") atoms nucs →
      mapE ((envC06 rd64 angToAu).recon textSettings) ((atoms.map nucXyz).map labelClue) = .ok nucs := by
  intro atoms nucs h
  rw [List.map_map]
  exact mapE_of_forallPairs (reconOfC06 rd64 textSettings) (labelClue ∘ nucXyz) _
    (fun a u hau => written_xyz_token_reconciles a u hau.1 hau.2) atoms nucs h

/-! ## non-vacuity (tests) -/

section NonVacuity
open QcelVerif.Nucleus


/-- test [decide +kernel]: helium's row of the generated table, its default mass number and mass -/
theorem heRow : ((2, 84069, 361075424458093) : Nat × Nat × Nat) ∈ Gen.PT.elements := by decide +kernel
theorem heSym : "He" = PStr.toStr (PStr.unpack 84069) := by decide +kernel
theorem heA : shippedN.pt.toA (.int ((2 : Nat) : Int)) = some 4 := by decide +kernel
theorem heM : tableMass shippedN rd64 (.int ((2 : Nat) : Int)) = .ok heMass := by decide +kernel

/-- test: helium-4 with the table's mass is a default isotope, whatever its real flag and label -/
theorem heDefault (real : Bool) (lbl : String) :
    DefaultIso { A := 4, Z := 2, E := "He", mass := heMass, real := real, label := lbl } :=
  ⟨_, heRow, 4, rfl, heSym, heA, rfl, heM⟩

/-- test: the two atoms of `exM` / `exR` (Props/C07E2E.lean: `He`, `Gh(He_a)`) are carried -/
theorem exCarried : ForallPairs Carried (allAtoms exM) (recNucs exR) :=
  ⟨⟨rfl, rfl, rfl, heDefault _ _, Or.inl rfl, rfl⟩,
   ⟨rfl, rfl, rfl, heDefault _ _, by decide, by decide⟩, trivial⟩

theorem exCarried1 : ForallPairs Carried (allAtoms exM1) (recNucs exR1) := exCarried

/-- test: `label_only_eq_symbol_clue` — its hypothesis is met by helium's row (`shipped_elements_default`) -/
example : reconOfC06With shippedN rd64 (elRange shippedN rd64) textSettings (labelClue (nucPsi4 exGh)) =
    .ok (toNuc { A := 4, Z := 2, E := 84069, mass := heMass, real := .bool false, user := PStr.lower (bytesOf "_a".toList) }) :=
  label_only_eq_symbol_clue shippedN rd64 _ textSettings rfl exGh (by decide) (by decide) _ _
    (elementDefault_symbol heRow heA heM)

/-- test: `written_token_reconciles` on the labelled ghost atom — by the theorem, not by evaluation -/
example : reconOfC06 rd64 textSettings (labelClue "Gh(He_a)".toList) =
    .ok { A := 4, Z := 2, E := "He", mass := heMass, real := false, label := "_a" } :=
  written_token_reconciles exGh _ exCarried.2.1

/-- test: … and the converse direction on the same token: what it is answered with is helium's default isotope -/
example : (∃ A : Nat, shippedN.pt.toA (.int (2 : Int)) = some A ∧ (4 : Int) = (A : Int)) ∧
    tableMass shippedN rd64 (.int (2 : Int)) = .ok heMass :=
  written_token_answer_is_default shippedN rd64 _ textSettings rfl exGh (by decide) (by decide)
    { A := 4, Z := 2, E := "He", mass := heMass, real := false, label := "_a" } (written_token_reconciles exGh _ exCarried.2.1)

/-- test [decide +kernel]: the hypothesis of `isotope_not_carried` is satisfiable — deuterium's mass is not hydrogen's
default mass — so the token `H` is never answered with a deuterium atom -/
example : reconOfC06With shippedN rd64 (elRange shippedN rd64) textSettings
      (labelClue (nucPsi4 { sym := "H".toList, real := true, lbl := [], x := z8, y := z8, z := z8 })) ≠
    .ok { A := 2, Z := 1, E := "H", mass := 4535354008443527 / 2251799813685248, real := true, label := "" } :=
  isotope_not_carried shippedN rd64 _ textSettings rfl _ (by decide) (by decide) _ (by decide +kernel)

/-- test: `validated_labels_lower` on the fixed point `exR` -/
example : ∀ u ∈ recNucs exR, PStr.lower (ofString u.label) = ofString u.label :=
  validated_labels_lower rd64 1 _ exR exR_fix

/-- test: `hlab` of the partial theorems for `exM` / `exR`, by the theorems of this file (Props/C07E2E.lean has it by
`decide +kernel`: `exR_lab`) -/
example : mapE ((envC06 rd64 1).recon textSettings) (((allAtoms exM).map nucPsi4).map labelClue) = .ok (recNucs exR) :=
  hlab_of_carried 1 _ _ exCarried

end NonVacuity

end QcelVerif.TextToMol
