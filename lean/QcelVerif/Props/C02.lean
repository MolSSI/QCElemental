import QcelVerif.Lemmas.Dec
import QcelVerif.Props.C02Nist2014
import QcelVerif.Props.C02Srd2014
import QcelVerif.Props.C02Nist2018
import QcelVerif.Props.C02Pc2014
import QcelVerif.Props.C02Pc2018
import QcelVerif.Props.C02Ctx2014
import QcelVerif.Props.C02Ctx2018
import QcelVerif.Props.C02Dec
/-!
# C02 — CODATA constants are exact; derived QC aliases follow their definitions

The table theorems (`C02Nist*`, `C02Srd2014`: the shipped tables are NIST's; `C02Pc*`, `C02Ctx*`: what the model's
`__init__` puts into a context) are kernel evaluations over the *generated* tables, re-checked whenever a data file
changes.  `C02Pred` has the general statements about `get`.  `C02Dec` has the error bounds of the decimal model for all
operands and no table (`|val (op a b) − exact| ≤ 5·10⁻²⁸·|exact|`; only a zero divisor is excluded and it is refused),
their composition along an alias formula over ARBITRARY constant values (`Constants.evalDec_approx`, stated as a plain
relative bound in `Constants.evalDec_rel_err`), and `aliasClose_of_aliasOk`: the `2·10⁻²⁷` of `aliasClose` follows from
`evalDec_approx` and `Dec.approx3_close` for every definition with at most three rounded operations; that bound is
also kernel-checked per table row (`aliasChecks`).
`C02Src` (not imported here: it imports the generated `Gen/ContextSrc.lean`, translator `harness/c02_src.py`)
proves the alias tuples of `context.py`, the rename dict, the derived constants, the calorie insertion and the
translate table equal to this model's.

Not proved in general (partial): `float(Decimal)` is the nearest double
-- FULL: ∀ d, ∀ double y, |val d − f64Val (toF64 d)| ≤ |val d − y|
it is kernel-checked (`nearestOk`: neither neighbouring double is closer, ties to even) for every
entry of both shipped contexts (`attrs_and_floats_2014/2018`) and compared bit for bit with CPython
on a random stream.  The exponent limits Emin/Emax of the decimal context are not modelled.
-/
