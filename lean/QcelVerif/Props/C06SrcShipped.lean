import QcelVerif.Props.C06Shipped
import QcelVerif.Props.C01Nuclides
import QcelVerif.Props.C01SrcKeys
/-!
# C06 — every mass string of the shipped table parses (`shipped_tableMass_ok`)

This is the hypothesis `hTM` of `reconcileSrc_eq_model` (Props/C06Src.lean) for the table the driver runs.  The other two
hypotheses, `hidem` and `hG`, are proved by `rd64_idem` (Lemmas/C04Rd64.lean) and `matchNucleus_groupsOk`
(Props/C06SrcGroups.lean); Props/C06SrcHead.lean puts the three together.

Nothing is evaluated here: the tree has no value of its own (`tree_vals_are_rows`), and every nuclide row's mass string
parses (`shipped_coherent`).
-/
namespace QcelVerif.Nucleus.Ast
open QcelVerif.PStr QcelVerif.PT

def bstAllVals {β : Type} (p : β → Bool) : Bst β → Bool
  | .leaf => true
  | .node l _ v r => bstAllVals p l && p v && bstAllVals p r

theorem bstAllVals_iff {β : Type} (p : β → Bool) : ∀ t : Bst β, bstAllVals p t = true ↔ ∀ kv ∈ t.toList, p kv.2 = true
  | .leaf => by simp [bstAllVals, Bst.toList]
  | .node l k v r => by
      simp only [bstAllVals, Bst.toList, Bool.and_eq_true, bstAllVals_iff p l, bstAllVals_iff p r, List.mem_append, List.mem_cons,
        or_imp, forall_and, forall_eq, and_assoc]

theorem bstAllVals_lookup {β : Type} (p : β → Bool) (t : Bst β) (x : Nat) (v : β)
    (ha : bstAllVals p t = true) (h : t.lookup x = some v) : p v = true :=
  (bstAllVals_iff p t).mp ha _ (PT.Src.lookup_some_mem_toList t x v h)

/-- a table all of whose mass strings parse: `periodictable.to_mass` fails with NotAnElementError or not at all -/
theorem tableMass_ok_of_allVals (N : NTables)
    (hN : bstAllVals (fun (r : Nat × Nat × Nat) => (decVal (unpack r.2.2)).isSome) N.pt.eliso = true)
    (rd : Rat → Rat) (k : PyVal) : tableMass N rd k ≠ .error .other := by
  intro h
  obtain h | ⟨_, s, hs, hd⟩ := tableMass_error h
  · cases h
  simp only [Tables.toMass, Option.bind_eq_some_iff, Option.map_eq_some_iff] at hs
  obtain ⟨key, _, row, hl, rfl⟩ := hs
  have := bstAllVals_lookup _ _ key row hN hl
  simp [hd] at this

theorem _root_.QcelVerif.Bst.lookup_of_mem_toList {β : Type} : ∀ (t : Bst β) (lo hi : Option Nat), t.isBSTIn lo hi = true → ∀ kv ∈ t.toList,
    (∀ a, lo = some a → a < kv.1) ∧ (∀ b, hi = some b → kv.1 < b) ∧ t.lookup kv.1 = some kv.2
  | .leaf, _, _, _, _, h => by cases h
  | .node l k v r, lo, hi, hb, kv, h => by
      simp only [Bst.isBSTIn, Bool.and_eq_true] at hb
      obtain ⟨⟨⟨hlo, hhi⟩, hl⟩, hr⟩ := hb
      have hlo' : ∀ a, lo = some a → a < k := fun a e => by subst e; simpa using hlo
      have hhi' : ∀ b, hi = some b → k < b := fun b e => by subst e; simpa using hhi
      simp only [Bst.toList, List.mem_append, List.mem_cons] at h
      unfold Bst.lookup
      rcases h with h | rfl | h
      · obtain ⟨h1, h2, h3⟩ := Bst.lookup_of_mem_toList l lo (some k) hl kv h
        have := h2 k rfl
        exact ⟨h1, fun b e => Nat.lt_trans this (hhi' b e), by rw [if_pos this]; exact h3⟩
      · exact ⟨hlo', hhi', by simp⟩
      · obtain ⟨h1, h2, h3⟩ := Bst.lookup_of_mem_toList r (some k) hi hr kv h
        have := h1 k rfl
        exact ⟨fun a e => Nat.lt_trans (hlo' a e) this, h2, by rw [if_neg (by omega), if_pos this]; exact h3⟩

theorem tree_vals_are_rows : ∀ kv ∈ Gen.PT.tree.toList, ∃ r ∈ Gen.PT.nuclides, r.2 = kv.2 := by
  intro kv hkv
  have hk : kv.1 ∈ Gen.PT.nuclides.map (·.1) :=
    PT.Src.mem_msort _ _ (PT.Src.tree_keys_are_row_keys ▸ List.mem_map_of_mem (f := (·.1)) hkv)
  obtain ⟨r, hr, hrk⟩ := List.mem_map.mp hk
  have h1 := List.all_eq_true.mp tree_is_dict.1 r hr
  have h2 := (Bst.lookup_of_mem_toList _ none none tree_isBST kv hkv).2.2
  simp only [treeRowOk, beq_iff_eq] at h1
  exact ⟨r, hr, Option.some.inj (h1.symm.trans (hrk ▸ h2))⟩

/-- every mass string of the shipped nuclide tree parses -/
theorem shipped_mass_strings_parse :
    bstAllVals (fun (r : Nat × Nat × Nat) => (decVal (unpack r.2.2)).isSome) Gen.PT.tree = true := by
  refine (bstAllVals_iff _ _).mpr fun kv hkv => ?_
  obtain ⟨r, hr, e⟩ := tree_vals_are_rows kv hkv
  have := List.all_eq_true.mp shipped_coherent.2.2 r hr
  unfold nuclideMassOk at this
  rw [← e]
  show (decVal (unpack r.2.2.2)).isSome = true
  cases h : decVal (unpack r.2.2.2) with
  | none => simp [h] at this
  | some q => rfl

theorem shipped_tableMass_ok (rd : Rat → Rat) (k : PyVal) : tableMass shippedN rd k ≠ .error .other :=
  tableMass_ok_of_allVals shippedN shipped_mass_strings_parse rd k

end QcelVerif.Nucleus.Ast
