import QcelVerif.Model.PTShipped
import QcelVerif.Gen.PTAnchor
import QcelVerif.Gen.Srd144Saw
import QcelVerif.Gen.Srd144
/-!
C01 table-wide theorems against an anchor that is **not** read from the repository's build script.

`shipped_faithful` proves `rebuild(raw JSON, side tables of build_periodic_table.py) = shipped`; the side
tables (element names, longest-lived isotopes, renames, aliases) live in the repository next to the data
file, so a regeneration that alters one of them *and* the data file keeps that theorem true.  Here the
same facts come from `Gen/PTAnchor.lean` — generated from the literal textbook table embedded in
`harness/c01_anchor.py` (NIST SP 966 / IUPAC), not from `/repo` — and from the raw
"Standard Atomic Weight" strings of the SRD-144 JSON (`Gen/Srd144Saw.lean`), where NIST prints the mass
number of the longest-lived isotope in brackets for elements without stable isotopes.
Kernel evaluation (`decide +kernel`) over the whole tables.
-/
namespace QcelVerif.PT
open QcelVerif QcelVerif.PStr

/-- (Z, symbol, name, default mass number, no-stable-isotope?) -/
abbrev AnchorRow := Nat × Nat × Nat × Nat × Bool

/-- the anchor rows the shipped table has element rows for (SRD-144 stops at Z = 117) -/
def anchorPrefix : List AnchorRow := Gen.PTAnchor.rows.take (shipped.elements.length - 1)

/-- the explicit nuclide label `symbol ++ str(A)` of the anchor's default isotope exists, belongs to this
element and carries this mass number; and int Z, str Z, symbol and name all return that mass number and
**that label's mass** (the bare element *is* that isotope). -/
def anchorRowOk (r : AnchorRow) : Bool :=
  let sym := unpack r.2.1
  let lbl : PyVal := .str (sym ++ natDigits r.2.2.2.1)
  shipped.toE lbl false == some r.2.1 && shipped.toZ lbl false == some r.1 &&
  shipped.toA lbl == some r.2.2.2.1 && (shipped.toMass lbl).isSome &&
  [PyVal.int r.1, .str (natDigits r.1), .str sym, .str (unpack r.2.2.1)].all (fun a =>
    shipped.toA a == some r.2.2.2.1 && shipped.toMass a == shipped.toMass lbl)

/-- **Element rows and default isotopes are the textbook ones**: the shipped element rows after the
dummy are exactly (Z, symbol, name) of the embedded table for Z = 1, 2, …; all naturally occurring
elements are there; and a bare element — by atomic number, digit string, symbol or name — means the
embedded table's isotope (most abundant, or longest-lived if there is no stable one), with the mass of
that isotope's own row. -/
theorem bare_default_textbook :
    shipped.elements.drop 1 = anchorPrefix.map (fun r => (r.1, r.2.1, r.2.2.1)) ∧
    92 ≤ anchorPrefix.length ∧
    anchorPrefix.all anchorRowOk = true := by
  refine ⟨by decide +kernel, by decide +kernel, by decide +kernel⟩

/-- TEST (concrete instance, technetium): `Tc`, `43`, `'43'`, `Technetium` mean Tc98. -/
example : anchorRowOk (43, pack [84, 99], pack [84, 101, 99, 104, 110, 101, 116, 105, 117, 109], 98, true) = true := by
  decide +kernel

/-- NIST's bracket notation `[A]` in "Standard Atomic Weight" -/
def bracketA (s : Bytes) : Option Nat :=
  match s with
  | 91 :: t =>
      let d := t.takeWhile isDigit
      if !d.isEmpty && t.dropWhile isDigit == [93] then some (digitsVal d) else none
  | _ => none

def sawBracket (e : Nat × Nat × Option Nat) : Option Nat := e.2.2.bind (fun w => bracketA (unpack w))

/-- an SRD-144 element whose standard atomic weight is a bracketed mass number is, in the anchor,
an element without stable isotope whose longest-lived isotope has that mass number -/
def sawRowOk (e : Nat × Nat × Option Nat) : Bool :=
  match sawBracket e with
  | none => true
  | some a =>
      Gen.PTAnchor.rows.any (fun r =>
        r.2.1 == e.1 && natDigits r.1 == unpack e.2.1 && r.2.2.2.1 == a && r.2.2.2.2)

def assocNat (l : List (Nat × Nat)) (k : Nat) : Option Nat :=
  match l with
  | [] => none
  | (a, b) :: t => if a == k then some b else assocNat t k

/-- an SRD-144 element record (symbol, Z, isotopes) against the anchor row of the same Z: same symbol
(after the 2016 renames), and "no stable isotope" in the anchor iff NIST lists no isotopic composition -/
def dataRowOk (e : Nat × Nat × List (Nat × Nat × Nat × Option Nat)) : Bool :=
  Gen.PTAnchor.rows.any (fun r =>
    natDigits r.1 == unpack e.2.1 &&
    r.2.1 == (assocNat Gen.PTAnchor.renamed e.1).getD e.1 &&
    r.2.2.2.2 == e.2.2.all (fun iso => iso.2.2.2.isNone))

/-- **The embedded anchor agrees with what the raw NIST file itself says**: every bracketed standard
atomic weight `[A]` of SRD-144 (there are some) is the anchor's longest-lived isotope of that element, and
every SRD-144 element has the anchor's symbol at its atomic number and is flagged "no stable isotope"
exactly when NIST gives it no isotopic composition. -/
theorem anchor_agrees_with_srd144 :
    Gen.Srd144Saw.saw.all sawRowOk = true ∧
    Gen.Srd144Saw.saw.any (fun e => (sawBracket e).isSome) = true ∧
    Gen.Srd144.data.all dataRowOk = true := by
  refine ⟨by decide +kernel, by decide +kernel, by decide +kernel⟩

/-- TEST: `[98]` is a bracket, an interval or a plain value is not. -/
example : bracketA [91, 57, 56, 93] = some 98 ∧ bracketA [91, 49, 46, 48, 44, 49, 46, 49, 93] = none ∧
    bracketA [52, 46, 48, 40, 50, 41] = none := by decide

end QcelVerif.PT
