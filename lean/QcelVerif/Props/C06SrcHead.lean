import QcelVerif.Props.C06SrcShipped
import QcelVerif.Props.C06SrcGroups
import QcelVerif.Props.C06Idem
import QcelVerif.Lemmas.C04Rd64
/-!
# C06 — the property theorems restated over the SOURCE-DERIVED procedure

`reconcileSrc program` is the evaluator of `Model/NucleusAst.lean` run on the statements that `harness/c06_src.py` regenerates from
`qcelemental/molparse/nucleus.py` on every run (`Gen/NucleusSrc.lean`).  `Props/C06Src.lean` proves it equal to the hand model
`reconcileWith` for ALL clue tuples under three hypotheses.  Here they are put together from the files that prove them (every match
has well-formed captures: `matchNucleus_groupsOk`, Props/C06SrcGroups.lean; the shipped table's mass strings parse:
`shipped_tableMass_ok`, Props/C06SrcShipped.lean; `rd64` is idempotent: `rd64_idem`, Lemmas/C04Rd64.lean) and the headline theorems
of `Props/C06Sound.lean` are restated over `reconcileSrc program`.
-/
namespace QcelVerif.Nucleus.Ast
open QcelVerif QcelVerif.PStr QcelVerif.PT QcelVerif.Nucleus QcelVerif.Gen.NucleusSrc

/-- what the equality needs of the table and of the rounding function -/
structure SrcOk (N : NTables) (rd : Rat → Rat) : Prop where
  /-- `float(x)` of a float is that float -/
  idem : ∀ q, rd (rd q) = rd q
  /-- `periodictable.to_mass` fails with NotAnElementError or not at all (every tabulated mass string parses) -/
  massParse : ∀ k, tableMass N rd k ≠ .error .other

/-- **source-derived reconcile_nucleus = the model**, all inputs, any per-element range table -/
theorem reconcileSrc_eq {N : NTables} {rd : Rat → Rat} (hok : SrcOk N rd) (rng : Nat → Option Range) (i : Input) :
    reconcileSrc program N rd rng i = reconcileWith N rd rng i :=
  reconcileSrc_eq_model N rd rng hok.idem hok.massParse i (fun l g _ hm => matchNucleus_groupsOk l g hm)

/-- the hypotheses hold for what the driver runs (non-vacuity of `SrcOk`) -/
theorem srcOk_shipped : SrcOk shippedN rd64 := ⟨rd64_idem, shipped_tableMass_ok rd64⟩

/-- shipped table, binary64 rounding: the equality holds without hypotheses, for every range table `rng` -/
theorem reconcileSrc_shipped_eq (rng : Nat → Option Range) (i : Input) :
    reconcileSrc program shippedN rd64 rng i = reconcileWith shippedN rd64 rng i :=
  reconcileSrc_eq srcOk_shipped rng i

/-- what `Driver/C06.lean` prints after the `#` on an R line (memoised range table) is the model `reconcile` -/
theorem driver_src_eq (syms : List Nat) (i : Input) :
    reconcileSrc program shippedN rd64 (lookupRange shippedN rd64 (memoRange shippedN rd64 syms)) i = reconcile shippedN rd64 i := by
  have h : lookupRange shippedN rd64 (memoRange shippedN rd64 syms) = elRange shippedN rd64 := funext (lookupRange_memo shippedN rd64 syms)
  rw [h, reconcileSrc_shipped_eq]; rfl

/-- **source-derived field extraction of `parse_nucleus_label` = the model's `parseLabel`** for EVERY byte string: refusal exactly when
the pattern does not match, else the six fields (A, Z as ints, E, mass through `float`, real, user) -/
theorem parseSrc_eq_model (N : NTables) (rd : Rat → Rat) (rng : Nat → Option Range) (l : Bytes) :
    parseSrc program (W0 N rd rng) (.str l) =
      match parseLabel l with
      | none => .error .unparseable
      | some L => .ok (labelVals rd L) := by
  rw [parseSrc_eq N rd rng l (matchNucleus_groupsOk l)]
  cases parseLabel l <;> rfl

section headline
variable {N : NTables} {rd : Rat → Rat} (hok : SrcOk N rd) (rng : Nat → Option Range)
include hok

/-- soundness over the source-derived procedure (statement of `reconcile_sound`) -/
theorem reconcileSrc_sound (hcoh : DefaultCoherent N) (i : Input) (o : Output) (h : reconcileSrc program N rd rng i = .ok o) :
    N.pt.toE (.int o.Z) false = some o.E ∧
    (∀ z, NamesZ N i z → z = o.Z) ∧
    (∀ a, ClaimsA i a → a = o.A) ∧
    (∀ m, ClaimsMass rd i m → m = o.mass) ∧
    (o.A = -1 ∨ ∃ tm, tableMass N rd (.str (unpack o.E ++ intStr o.A)) = .ok tm ∧
        (tm = o.mass ∨ absR (rd (tm - o.mass)) ≤ i.mtol.val ∨ absR (rd (o.mass - tm)) ≤ i.mtol.val)) ∧
    (∃ r, rng o.E = some r ∧
        (if i.nonphysical then (o.A = -1 ∨ 1 ≤ o.A) ∧ 1/2 < o.mass
         else (o.A = -1 ∨ (r.amin ≤ o.A ∧ o.A ≤ r.amax)) ∧
              rd (r.mmin - 1/2) ≤ o.mass ∧ o.mass ≤ rd (r.mmax + 1/2))) ∧
    (∀ v, ClaimsReal i v → o.real.val = v) ∧
    ((∀ v, ¬ ClaimsReal i v) → o.real = .bool true) ∧
    o.user = expectedUser i :=
  reconcile_sound N rd rng hcoh i o (by rwa [reconcileSrc_eq hok] at h)

/-- no isotope information: the most abundant isotope -/
theorem reconcileSrc_default (i : Input) (o : Output) (h : reconcileSrc program N rd rng i = .ok o)
    (hA : ∀ a, ¬ ClaimsA i a) (hM : ∀ m, ¬ ClaimsMass rd i m) :
    (∃ a : Nat, N.pt.toA (.int o.Z) = some a ∧ o.A = (a : Int)) ∧ tableMass N rd (.int o.Z) = .ok o.mass :=
  reconcile_default N rd rng i o (by rwa [reconcileSrc_eq hok] at h) hA hM

/-- a supplied mass number is returned and the mass is inside its `mtol` window (closed: `<=`) -/
theorem reconcileSrc_supplied_A_window (i : Input) (o : Output) (h : reconcileSrc program N rd rng i = .ok o) (a : Int) (hA : ClaimsA i a) :
    o.A = a ∧ ∃ tm, tableMass N rd (.str (unpack o.E ++ intStr a)) = .ok tm ∧ absR (rd (o.mass - tm)) ≤ i.mtol.val :=
  supplied_A_window N rd rng i o (by rwa [reconcileSrc_eq hok] at h) a hA

theorem reconcileSrc_conflict_element (hcoh : DefaultCoherent N) (i : Input) (z₁ z₂ : Int) (h₁ : NamesZ N i z₁) (h₂ : NamesZ N i z₂)
    (hne : z₁ ≠ z₂) : ∃ e, reconcileSrc program N rd rng i = .error e := by
  rw [reconcileSrc_eq hok]; exact conflict_element N rd rng hcoh i z₁ z₂ h₁ h₂ hne

/-- element clues that each name an element but disagree: exactly ValidationError('atomic number') -/
theorem reconcileSrc_conflict_element_validation (i : Input) (zo : List ZOffer) (lab : Option Label)
    (hz : zStage N rd rng i = .ok (zo, lab)) (x y : ZOffer) (hx : x ∈ zo) (hy : y ∈ zo) (hne : x.z ≠ y.z) :
    reconcileSrc program N rd rng i = .error (.validation .atomicNumber) := by
  rw [reconcileSrc_eq hok]; exact conflict_element_validation N rd rng i zo lab hz x y hx hy hne

theorem reconcileSrc_conflict_mass_number (hcoh : DefaultCoherent N) (i : Input) (a₁ a₂ : Int) (h₁ : ClaimsA i a₁) (h₂ : ClaimsA i a₂)
    (hne : a₁ ≠ a₂) : ∃ e, reconcileSrc program N rd rng i = .error e := by
  rw [reconcileSrc_eq hok]; exact conflict_mass_number N rd rng hcoh i a₁ a₂ h₁ h₂ hne

theorem reconcileSrc_conflict_mass (hcoh : DefaultCoherent N) (i : Input) (m₁ m₂ : Rat) (h₁ : ClaimsMass rd i m₁) (h₂ : ClaimsMass rd i m₂)
    (hne : m₁ ≠ m₂) : ∃ e, reconcileSrc program N rd rng i = .error e := by
  rw [reconcileSrc_eq hok]; exact conflict_mass N rd rng hcoh i m₁ m₂ h₁ h₂ hne

theorem reconcileSrc_conflict_mass_number_vs_mass (hcoh : DefaultCoherent N) (i : Input) (z a : Int) (m : Rat) (sym : Nat)
    (hz : NamesZ N i z) (hsym : N.pt.toE (.int z) false = some sym) (hA : ClaimsA i a) (hM : ClaimsMass rd i m)
    (hout : ∀ tm, tableMass N rd (.str (unpack sym ++ intStr a)) = .ok tm → ¬ absR (rd (m - tm)) ≤ i.mtol.val) :
    ∃ e, reconcileSrc program N rd rng i = .error e := by
  rw [reconcileSrc_eq hok]; exact conflict_mass_number_vs_mass N rd rng hcoh i z a m sym hz hsym hA hM hout

theorem reconcileSrc_conflict_real (hcoh : DefaultCoherent N) (i : Input) (v₁ v₂ : Rat) (h₁ : ClaimsReal i v₁) (h₂ : ClaimsReal i v₂)
    (hne : v₁ ≠ v₂) : ∃ e, reconcileSrc program N rd rng i = .error e := by
  rw [reconcileSrc_eq hok]; exact conflict_real N rd rng hcoh i v₁ v₂ h₁ h₂ hne

theorem reconcileSrc_unparseable_label (i : Input) (l : Bytes) (hl : i.label = some l) (hs : i.speclabel = true) (hp : parseLabel l = none) :
    ∃ e, reconcileSrc program N rd rng i = .error e := by
  rw [reconcileSrc_eq hok]; exact unparseable_label N rd rng i l hl hs hp

end headline

/-! ## tests / non-vacuity (toy table of `Props/C06Idem.lean`, exact arithmetic) -/

theorem srcOk_toy : SrcOk toyN id := ⟨fun _ => rfl, tableMass_ok_of_allVals toyN (by decide) id⟩

-- test: the source-derived procedure run by the kernel on the full clue set `@2h_Tag@2.0` + A=2.0, Z=True, E="h", mass=2, real=0
example : reconcileSrc program toyN id (elRange toyN id) inFull =
    .ok { A := 2, Z := 1, E := pack [72], mass := 2, real := .int 0, user := [95, 116, 97, 103] } := by
  decide +kernel
-- test (hypotheses of the conflict theorems are satisfiable and the refusal is the source's own): A=1 against the label's 2h
example : reconcileSrc program toyN id (elRange toyN id) { inFull with A := some (.int 1) } = .error (.validation .mass) := by decide +kernel
example : reconcileSrc program toyN id (elRange toyN id) { inFull with real := some (.bool true) } = .error (.validation .realGhost) := by
  decide +kernel
example : reconcileSrc program toyN id (elRange toyN id) { inFull with A := some (.int 3) } = .error .notAnElement := by decide +kernel
example : reconcileSrc program toyN id (elRange toyN id) { inFull with label := some [64, 50, 104, 41] } = .error .unparseable := by
  decide +kernel
-- test: no isotope clue -> default isotope
example : reconcileSrc program toyN id (elRange toyN id) { inFull with A := none, mass := none, label := none } =
    .ok { A := 1, Z := 1, E := pack [72], mass := 1, real := .int 0, user := [] } := by decide +kernel
-- test: the source-derived field extraction on `@2h_Tag@2.0`
example : parseSrc program (W0 toyN id (elRange toyN id)) (.str [64, 50, 104, 95, 84, 97, 103, 64, 50, 46, 48]) =
    .ok [.num (.int 2), .none, .str [104], .num (.float 2), .num (.bool false), .str [95, 84, 97, 103]] := by decide +kernel

end QcelVerif.Nucleus.Ast
