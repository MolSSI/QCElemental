import QcelVerif.Lemmas.Protocols
import QcelVerif.Gen.ResultSpec
/-!
# C20 — the hand model against the generated description of the source

`Gen/ResultSpec.lean` is rewritten on every run from the text of qcelemental/models/results.py, procedures.py and
common_models.py (harness/c20_spec.py, by `ast`).  The theorems below are about those finite generated tables (the
quantifier is the shipped table, so they are closed by `decide`) and about their *interpretation* against the hand
model `Model/Protocols.lean` (those hold for every shape / payload / trajectory — no size bound).

Completeness (`props_shape_complete`, `wfn_shape_complete`) is the statement a field missing from a decorator list
violates (e.g. a dipole missing from `_validate_poles`, an AO matrix from `_assert2d`, an orbital array from
`_assert2d_nao_x`).  One explicit exception is spelled out in the statement of `wfn_shape_complete`:
  * `localized_fock_a/b` — declared `["nmo","nmo"]`: nothing in `values` determines nmo and numpy cannot infer two
    dimensions, so no reshape rule exists (ASSUMPTIONS of harness/c20.py: no demand).
-/
namespace QcelVerif.ResultSpec
open QcelVerif.Protocols

/-! ## reading the declarations -/

/-- An `Array` field without `shape=` is classified by its `units=` (gradient, Hessian, dipole, quadrupole). -/
def unitsShape (u : String) : Option (List DeclDim) :=
  if u = "E_h/a0" then some [.sym "nat", .lit 3]
  else if u = "E_h/a0^2" then some [.sym "3nat", .sym "3nat"]
  else if u = "e a0" then some [.lit 3]
  else if u = "e a0^2" then some [.lit 3, .lit 3]
  else none

/-- the declared shape of a field: `shape=[...]` if given, else what its units say -/
def declShape (f : FieldDecl) : Option (List DeclDim) :=
  match f.shape with
  | some s => some s
  | none => f.units.bind unitsShape

/-- the reshape dimension a declared dimension demands: nmo is unknown to the validators, so it can only be `-1` -/
def demandDim : DeclDim → Option Dim
  | .lit n => some (.lit n)
  | .sym s =>
    if s = "nat" then some .natom else if s = "3nat" then some .natom3
    else if s = "nao" then some .nbf else if s = "nmo" then some .any else none

/-- derivatives cannot be shaped without `calcinfo_natom` (rejected); AO matrices are passed through when the basis
itself already failed ("do not raise multiple errors") -/
def guardOf (d : List Dim) : Guard :=
  if d.contains .natom || d.contains .natom3 then .needs else if d.contains .nbf then .skips else .free

/-- the rule a declared shape demands -/
def demand (sh : List DeclDim) : Option Rule := (sh.mapM demandDim).map (fun d => .reshape d (guardOf d))

/-- what a field demands of its validators: an array its declared shape, a string (return pointer) that its target exists -/
def fieldDemand (fs : List FieldDecl) (n : String) : Option Rule :=
  (findField fs n).bind (fun f =>
    if isStr f then some .targetExists else if isArray f then (declShape f).bind demand else none)

abbrev shGrad : List DeclDim := [.sym "nat", .lit 3]
abbrev shHess : List DeclDim := [.sym "3nat", .sym "3nat"]
abbrev shDip : List DeclDim := [.lit 3]
abbrev shQuad : List DeclDim := [.lit 3, .lit 3]
abbrev shAO : List DeclDim := [.sym "nao", .sym "nao"]
abbrev shOrb : List DeclDim := [.sym "nao", .sym "nmo"]
abbrev shVec : List DeclDim := [.sym "nmo"]
abbrev shMO : List DeclDim := [.sym "nmo", .sym "nmo"]

/-! ## the generated tables on their own -/

/-- field names are unique in both classes (lookups by name are unambiguous) -/
theorem field_names_unique :
    (Gen.propsFields.map (·.name)).Nodup ∧ (Gen.wfnFields.map (·.name)).Nodup := by
  constructor <;> decide

/-- where a field carries both `shape=` and `units=`, the two classifications agree -/
theorem declared_shape_units_agree :
    ∀ f ∈ Gen.propsFields ++ Gen.wfnFields, ∀ s u, f.shape = some s → f.units = some u →
      isArray f = true → unitsShape u = some s := by
  have h : ∀ f ∈ Gen.propsFields ++ Gen.wfnFields,
      (match f.shape, f.units with
       | some s, some u => !isArray f || unitsShape u == some s
       | _, _ => true) = true := by decide
  intro f hf s u hs hu ha
  have := h f hf
  simp only [hs, hu, ha, Bool.not_true, Bool.false_or, beq_iff_eq] at this
  exact this

/-- COMPLETENESS, AtomicResultProperties: every `Array` field declares one of the four shapes (nat,3) / (3nat,3nat) /
(3,) / (3,3), and exactly one validator is attached to it, applying exactly that reshape. No exceptions. -/
theorem props_shape_complete :
    ∀ f ∈ Gen.propsFields, isArray f = true →
      declShape f ∈ [some shGrad, some shHess, some shDip, some shQuad] ∧
      (rulesOn Gen.propsValidators f.name).map some = [(declShape f).bind demand] := by
  decide

/-- COMPLETENESS, WavefunctionProperties: every `Array` field declares (nao,nao) / (nao,nmo) / (nmo,) / (nmo,nmo);
every one is covered by exactly one validator applying exactly the demanded reshape — except the two fields listed
here (declared (nmo,nmo): no rule can exist), which have NO validator at all. -/
theorem wfn_shape_complete :
    ∀ f ∈ Gen.wfnFields, isArray f = true →
      declShape f ∈ [some shAO, some shOrb, some shVec, some shMO] ∧
      (if f.name ∈ ["localized_fock_a", "localized_fock_b"]
       then rulesOn Gen.wfnValidators f.name = []
       else (rulesOn Gen.wfnValidators f.name).map some = [(declShape f).bind demand]) := by
  decide

/-- the exception by class: (nmo,nmo) is declared by exactly localized_fock_a/b, and they are the only array fields
without a validator (in particular every (nao,nmo) field — scf_orbitals, localized_orbitals — has one) -/
theorem wfn_unvalidated_classes :
    (Gen.wfnFields.filter (fun f => declShape f == some shMO)).map (·.name) = ["localized_fock_a", "localized_fock_b"] ∧
    (Gen.wfnFields.filter (fun f => isArray f && (rulesOn Gen.wfnValidators f.name).isEmpty)).map (·.name)
      = ["localized_fock_a", "localized_fock_b"] := by
  constructor <;> decide

/-- SOUNDNESS, AtomicResultProperties: every name in a decorator list is an `Array` field whose declared shape demands
exactly the rule the body applies for that name; all are plain (post, not always) validators -/
theorem props_validators_sound :
    ∀ v ∈ Gen.propsValidators, v.pre = false ∧ v.always = false ∧
      ∀ e ∈ v.rules, fieldDemand Gen.propsFields e.1 = some e.2 := by
  decide

/-- SOUNDNESS, WavefunctionProperties: likewise; a validator on a string field is the target-exists check -/
theorem wfn_validators_sound :
    ∀ v ∈ Gen.wfnValidators, v.pre = false ∧ v.always = false ∧
      ∀ e ∈ v.rules, fieldDemand Gen.wfnFields e.1 = some e.2 := by
  decide

/-! ## the hand model's tables equal the generated ones -/

def specOfPropRule : PropRule → Rule
  | .gradient => .reshape [.natom, .lit 3] .needs
  | .hessian => .reshape [.natom3, .natom3] .needs
  | .dipole => .reshape [.lit 3] .free
  | .quadrupole => .reshape [.lit 3, .lit 3] .free

def specOfArrRule : ArrRule → List Rule
  | .square => [.reshape [.nbf, .nbf] .skips]
  | .rows => [.reshape [.nbf, .any] .skips]
  | .flat => [.reshape [.any] .free]
  | .unvalidated => []

/-- the generated field → rules table of a class (array fields in declaration order) -/
def genTable (fs : List FieldDecl) (vs : List ValidatorDecl) : List (String × List Rule) :=
  (fs.filter isArray).map (fun f => (f.name, rulesOn vs f.name))

/-- `PropArr.all` / `propRule` of the model = the array fields of AtomicResultProperties with their validators' rules -/
theorem model_prop_table_eq :
    PropArr.all.map (fun k => (k.name, [specOfPropRule (propRule k)])) = genTable Gen.propsFields Gen.propsValidators := by
  decide

/-- `ArrKey.all` / `arrRule` of the model = the array fields of WavefunctionProperties with their validators' rules -/
theorem model_wfn_table_eq :
    ArrKey.all.map (fun k => (k.name, specOfArrRule (arrRule k.base))) = genTable Gen.wfnFields Gen.wfnValidators := by
  decide

/-! ### … and mean the same: numpy `reshape` on generated rules vs. the model's `applyPropRule` / `applyArrRule` -/

/-- a dimension in context: outer `none` = the `values` entry is missing; inner `none` = `-1` -/
def evalDim (natom nbf : Option Nat) (size : Nat) : Dim → Option (Option Nat)
  | .lit n => some (some n)
  | .natom => natom.map some
  | .natom3 => natom.map (fun n => some (3 * n))
  | .nbf => nbf.map some
  | .any => some none
  | .isqrt => some (some (isqrt size))
  | .other _ => none

/-- `numpy.reshape` on shapes: all dimensions given → sizes must agree; one `-1` → the known part must be non-zero and
divide the size; more than one `-1` is an error -/
def npReshape (dims : List (Option Nat)) (s : Shape) : Option Shape :=
  let known := dims.filterMap id
  let p := prod known
  match dims.length - known.length with
  | 0 => if p = prod s then some known else none
  | 1 => if p = 0 then none else if prod s % p = 0 then some (dims.map (fun d => d.getD (prod s / p))) else none
  | _ => none

/-- what a generated rule does to a shape (`none` = ValueError) -/
def Rule.apply (natom nbf : Option Nat) : Rule → Shape → Option Shape
  | .reshape dims g, s =>
    match dims.mapM (evalDim natom nbf (prod s)) with
    | some ds => npReshape ds s
    | none => match g with
      | .skips => some s
      | _ => none
  | .identity, s => some s
  | .targetExists, s => some s
  | .other _, _ => none

theorem specOfPropRule_apply (r : PropRule) (natom nbf : Option Nat) (s : Shape) :
    (specOfPropRule r).apply natom nbf s = applyPropRule natom r s := by
  cases r <;> cases natom <;>
    simp [specOfPropRule, Rule.apply, evalDim, applyPropRule, npReshape, reshapeExact, List.mapM_cons, List.mapM_nil]

theorem specOfArrRule_apply (r : ArrRule) (natom nbf : Option Nat) (s : Shape) :
    (match specOfArrRule r with
     | [] => some s
     | q :: _ => q.apply natom nbf s) = applyArrRule nbf r s := by
  cases r <;> cases nbf <;>
    simp [specOfArrRule, Rule.apply, evalDim, applyArrRule, npReshape, reshapeExact, reshapeRows, reshapeFlat,
      List.mapM_cons, List.mapM_nil, Nat.mod_one, Nat.div_one]

/-- a row of a generated table, read off the equality of the whole table with the model's -/
theorem rulesOn_of_table {κ : Type} {all : List κ} {name : κ → String} {spec : κ → List Rule}
    {fs : List FieldDecl} {vs : List ValidatorDecl}
    (h : all.map (fun k => (name k, spec k)) = genTable fs vs) {k : κ} (hk : k ∈ all) :
    rulesOn vs (name k) = spec k := by
  have hm : (name k, spec k) ∈ genTable fs vs := h ▸ List.mem_map.mpr ⟨k, hk, rfl⟩
  obtain ⟨f, _, hf⟩ := List.mem_map.mp hm
  obtain ⟨h1, h2⟩ := Prod.mk.inj hf
  rw [← h1]; exact h2

theorem rulesOn_prop (k : PropArr) : rulesOn Gen.propsValidators k.name = [specOfPropRule (propRule k)] :=
  rulesOn_of_table model_prop_table_eq (PropArr.mem_all k)

theorem rulesOn_arr (k : ArrKey) : rulesOn Gen.wfnValidators k.name = specOfArrRule (arrRule k.base) :=
  rulesOn_of_table model_wfn_table_eq (ArrKey.mem_all k)

/-- For every properties array field, every `calcinfo_natom` and every supplied shape: interpreting the rule READ FROM
THE SOURCE with numpy's reshape semantics gives exactly what the hand model's validator gives. -/
theorem gen_prop_rule_agrees (k : PropArr) (natom nbf : Option Nat) (s : Shape) :
    (rulesOn Gen.propsValidators k.name).map (fun r => r.apply natom nbf s) = [applyPropRule natom (propRule k) s] := by
  rw [rulesOn_prop]; simp [specOfPropRule_apply]

/-- Likewise for every wavefunction array field, every basis size (or failed basis) and every supplied shape; a field
without a validator is left as supplied. -/
theorem gen_wfn_rule_agrees (k : ArrKey) (natom nbf : Option Nat) (s : Shape) :
    (match rulesOn Gen.wfnValidators k.name with
     | [] => some s
     | q :: _ => q.apply natom nbf s) = applyArrRule nbf (arrRule k.base) s := by
  rw [rulesOn_arr]; exact specOfArrRule_apply _ _ _ _

example : (Rule.reshape [.nbf, .any] .skips).apply none (some 7) [21] = some [7, 3] := by decide   -- test
example : (Rule.reshape [.nbf, .any] .skips).apply none (some 0) [0] = none := by decide          -- test: (0,-1)
example : (Rule.reshape [.natom, .lit 3] .needs).apply none none [6] = none := by decide           -- test: needs natom
example : (Rule.reshape [.isqrt, .isqrt] .free).apply none none [3, 12] = some [6, 6] := by decide -- test

/-! ## field universes, order, return pointers -/

/-- The declaration order of WavefunctionProperties is: basis, restricted, the model's 22 array keys, the model's 10
pointer keys — so every validator finds in `values` what it reads (basis before the AO matrices, every array before
every pointer: "Return results, must be defined last"). -/
theorem wfn_field_order :
    Gen.wfnFields.map (·.name) = ["basis", "restricted"] ++ ArrKey.all.map ArrKey.name ++ PtrKey.all.map PtrKey.name ∧
    (Gen.wfnFields.filter isStr).map (·.name) = PtrKey.all.map PtrKey.name ∧
    (findField Gen.wfnFields "basis").map (fun f => (f.kind, f.optional)) = some (.model "BasisSet", false) ∧
    (findField Gen.wfnFields "restricted").map (fun f => (f.kind, f.optional)) = some (.bool, false) := by
  refine ⟨?_, ?_, ?_, ?_⟩ <;> decide

/-- the natural target of a return pointer and the shape class it must have -/
def ptrTargetShape : PtrBase → List DeclDim
  | .orbitals => shOrb
  | .density | .fock => shAO
  | .eigenvalues | .occupations => shVec

/-- Every return-pointer field `x_s` has its natural target `scf_x_s` among the array fields, with the matching declared
shape; and the model's target universe (`ArrKey`) is exactly the set of array field names. -/
theorem pointer_targets_exist :
    (∀ p ∈ PtrKey.all, (findField Gen.wfnFields ("scf_" ++ p.name)).bind declShape = some (ptrTargetShape p.base)) ∧
    (Gen.wfnFields.filter isArray).map (·.name) = ArrKey.all.map ArrKey.name := by
  constructor <;> decide

/-- `calcinfo_natom` is declared (as an optional int) before every array field, so `_validate_derivs` can read it -/
theorem natom_before_derivatives :
    ((Gen.propsFields.takeWhile (fun f => !isArray f)).filter (fun f => f.name == "calcinfo_natom")).map
      (fun f => (f.kind, f.optional)) = [(.int, true)] := by
  decide

/-! ## protocol branches -/

def protoName : WfnProto → String
  | .all => "all" | .orbitals_and_eigenvalues => "orbitals_and_eigenvalues"
  | .occupations_and_eigenvalues => "occupations_and_eigenvalues" | .return_results => "return_results" | .none => "none"

def driverName : Driver → String
  | .energy => "energy" | .gradient => "gradient" | .hessian => "hessian" | .properties => "properties"

def nativeName : NativePolicy → String
  | .all => "all" | .input => "input" | .none => "none"

def trajName : TrajPolicy → String
  | .all => "all" | .initial_and_final => "initial_and_final" | .final => "final" | .none => "none"

/-- the enum classes of the source have exactly the members the model's inductive types have (declaration order) -/
theorem enums_eq_generated :
    Gen.wfnProtoEnum = [WfnProto.all, .orbitals_and_eigenvalues, .occupations_and_eigenvalues, .return_results, .none].map protoName ∧
    Gen.driverEnum = [Driver.energy, .gradient, .hessian, .properties].map driverName ∧
    Gen.nativeEnum = [NativePolicy.all, .input, .none].map nativeName ∧
    Gen.trajEnum = [TrajPolicy.all, .initial_and_final, .final, .none].map trajName := by
  refine ⟨?_, ?_, ?_, ?_⟩ <;> decide

/-- the branch of `wfnProtocol` a protocol takes, in the vocabulary of the generated table -/
def modelKeepSpec (p : WfnProto) : KeepSpec :=
  match p with
  | .none => .dropAll
  | p => match keepList p with
    | none => .keepAll
    | some l => .keep (l.map PtrKey.name)

/-- the per-protocol keep lists of the model are those of `_wavefunction_protocol`; the suffix dropped for restricted
wavefunctions and the keys always copied are the model's -/
theorem keep_lists_eq_generated :
    Gen.wfnKeep = [WfnProto.all, .orbitals_and_eigenvalues, .occupations_and_eigenvalues, .return_results, .none].map
      (fun p => (protoName p, modelKeepSpec p)) ∧
    Gen.restrictedDropSuffix = Spin.suffix .b ∧
    Gen.keepAlways = ["restricted", "basis"] := by
  refine ⟨?_, ?_, ?_⟩ <;> decide

/-- `modelKeepSpec` really is the branch structure of the model's `wfnProtocol` (every wavefunction with `restricted` set) -/
theorem wfnProtocol_follows_spec {β : Type} (p : WfnProto) (w : Wfn β) (r : Bool) (hr : w.restricted = some r) :
    match modelKeepSpec p with
    | .dropAll => wfnProtocol p w = .ok none
    | .keepAll => wfnProtocol p w = .ok (some (if r then dropBeta w else w))
    | .keep names => ∃ l, keepList p = some l ∧ names = l.map PtrKey.name ∧
        wfnProtocol p w =
          (match keepLoop (if r then dropBeta w else w) l
              { restricted := some r, basis := (if r then dropBeta w else w).basis, arr := fun _ => none, ptr := fun _ => none } with
           | .ok ret => .ok (some ret)
           | .error e => .error e)
    | .raises => False := by
  cases p <;> simp [modelKeepSpec, keepList, wfnProtocol, hr] <;> rfl

example : modelKeepSpec .orbitals_and_eigenvalues = .keep ["orbitals_a", "orbitals_b", "eigenvalues_a", "eigenvalues_b"] := by
  decide   -- test

/-- `_return_results_names`, the decorator list of `_assert_exists` and the model's pointer keys are the same set -/
theorem return_results_names_eq :
    (∀ n ∈ Gen.returnResultsNames, n ∈ PtrKey.all.map PtrKey.name) ∧
    (∀ n ∈ PtrKey.all.map PtrKey.name, n ∈ Gen.returnResultsNames) ∧
    Gen.returnResultsNames.length = PtrKey.all.length ∧
    (Gen.wfnValidators.filter (fun v => v.name == "_assert_exists")).map (fun v => v.rules.map (·.1))
      = [PtrKey.all.map PtrKey.name] := by
  refine ⟨?_, ?_, ?_, ?_⟩ <;> decide

/-- a generated return_result rule applied to a return value -/
def applyRR (r : Rule) (v : RR) : Option RR :=
  match r with
  | .identity => some v
  | r => (r.apply none none v.asShape).map .arr

theorem lookup_rr (d : Driver) :
    lookup Gen.rrRules (driverName d) = some (match d with
      | .gradient => .reshape [.any, .lit 3] .free
      | .hessian => .reshape [.isqrt, .isqrt] .free
      | _ => .identity) := by
  cases d <;> decide

/-- For every driver and every return value: the rule read from `_validate_return_result` for that DriverEnum member,
interpreted with numpy's reshape semantics, is the model's `validateRR`. -/
theorem rr_rules_agree (d : Driver) (v : RR) :
    (lookup Gen.rrRules (driverName d)).bind (fun r => applyRR r v) = validateRR d v := by
  rw [lookup_rr]
  cases d <;>
    simp [applyRR, validateRR, Rule.apply, evalDim, npReshape, reshapeCols3, reshapeSquare, List.mapM_cons, List.mapM_nil]

/-- Python indexing `v[i]` (negative from the end) -/
def pyIndex {α : Type} (v : List α) (i : Int) : Option α :=
  if 0 ≤ i then v[i.toNat]? else if i.natAbs ≤ v.length then v[v.length - i.natAbs]? else none

def TrajSpec.apply {α : Type} : TrajSpec → List α → Option (List α)
  | .keepAll, v => some v
  | .dropAll, _ => some []
  | .ifLonger n idx, v => if v.length > n then idx.mapM (pyIndex v) else some v
  | .raises, _ => none

theorem lookup_traj (p : TrajPolicy) :
    lookup Gen.trajKeep (trajName p) = some (match p with
      | .all => .keepAll
      | .initial_and_final => .ifLonger 2 [0, -1]
      | .final => .ifLonger 1 [-1]
      | .none => .dropAll) := by
  cases p <;> decide

theorem pyIndex_zero {α : Type} (x : α) (l : List α) : pyIndex (x :: l) 0 = some x := by
  simp [pyIndex]

theorem pyIndex_neg_one {α : Type} (x : α) (l : List α) : pyIndex (x :: l) (-1) = some (lastOf x l) := by
  simpa [pyIndex] using getElem?_lastOf x l

/-- For every policy and every trajectory (any length, any step type): the branch read from `_trajectory_protocol`
for that TrajectoryProtocolEnum member, with Python's indexing, is the model's `trajectoryProtocol`. -/
theorem trajectory_generated_agrees {α : Type} (p : TrajPolicy) (v : List α) :
    (lookup Gen.trajKeep (trajName p)).bind (fun t => t.apply v) = some (trajectoryProtocol p v) := by
  rw [lookup_traj]
  cases p with
  | all => simp [TrajSpec.apply, trajectoryProtocol]
  | none => simp [TrajSpec.apply, trajectoryProtocol]
  | initial_and_final =>
    cases v with
    | nil => simp [TrajSpec.apply, trajectoryProtocol]
    | cons x xs =>
      simp [TrajSpec.apply, trajectoryProtocol, pyIndex_zero, pyIndex_neg_one]
      split <;> rfl
  | final =>
    cases v with
    | nil => simp [TrajSpec.apply, trajectoryProtocol]
    | cons x xs =>
      simp [TrajSpec.apply, trajectoryProtocol, pyIndex_neg_one]
      split <;> rfl

example : (TrajSpec.ifLonger 2 [0, -1]).apply [10, 11, 12, 13] = some [10, 13] := by decide   -- test
example : (TrajSpec.ifLonger 2 [0, -1]).apply [10] = some [10] := by decide                   -- test

/-- the branch of `nativeProtocol` a policy takes (file name 0 of the model is "input") -/
def modelNativeSpec : NativePolicy → KeepSpec
  | .all => .keepAll
  | .none => .dropAll
  | .input => .keep ["input"]

def lookupB (l : List (Bool × KeepSpec)) (k : Bool) : Option KeepSpec :=
  match l.find? (fun e => e.1 == k) with
  | some e => some e.2
  | none => none

/-- native_files and stdout branches of the source are the model's -/
theorem native_stdout_eq_generated :
    Gen.nativeKeep = [NativePolicy.all, .input, .none].map (fun p => (nativeName p, modelNativeSpec p)) ∧
    Gen.stdoutKeep = [(true, .keepAll), (false, .dropAll)] ∧
    (∀ (γ : Type) (p : NativePolicy) (f : Files γ),
      nativeProtocol p f = (match modelNativeSpec p with
        | .keepAll => f
        | .keep _ => [(0, filesGet f 0)]
        | _ => [])) ∧
    (∀ (σ : Type) (keep : Bool) (v : Option σ),
      stdoutProtocol keep v = (match lookupB Gen.stdoutKeep keep with
        | some .keepAll => v
        | _ => none)) := by
  refine ⟨by decide, by decide, ?_, ?_⟩
  · intro γ p f; cases p <;> rfl
  · intro σ keep v; cases keep <;> rfl

end QcelVerif.ResultSpec
