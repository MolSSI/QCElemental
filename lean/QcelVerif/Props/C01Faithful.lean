import QcelVerif.Model.PeriodicTableBuild
import QcelVerif.Gen.PT
import QcelVerif.Gen.Srd144
/-! C01: the shipped table against the raw NIST file, by kernel evaluation over the generated tables. -/
namespace QcelVerif.PT
open QcelVerif QcelVerif.PStr

/-- **The shipped table is exactly NIST SRD-144 under the documented build rule**: element rows,
nuclide rows in order, D/T under both spellings, masses digit for digit, and each bare element row
equal to its most abundant — or, if unstable, longest-lived — isotope. -/
theorem shipped_faithful :
    PTBuild.rebuild Gen.Srd144.data Gen.Srd144.elementNames Gen.Srd144.longestLived
        Gen.Srd144.aliases Gen.Srd144.newnames
      = some (Gen.PT.elements, Gen.PT.nuclides) := by decide +kernel


end QcelVerif.PT
