import QcelVerif.Props.C17
import QcelVerif.Model.RadiiSrc
import QcelVerif.Lib.Monadic
/-!
# C17 — the lookup logic regenerated from the source equals the hand model

`Gen/RadiiSrc.lean` is printed on every run by `harness/c17_src.py` from the text of
`covalent_radii.py`, `vanderwaals_radii.py` and `datum.py` (statement by statement, as terms of
`Model/RadiiAst.lean`).  Here the interpreter's reading of those terms is proved EQUAL to the hand
model of `Model/Radii.lean` / `Model/RadiiFactor.lean`:

  * `src_to_units_eq`      — `Datum.to_units`  = `Datum.toUnitsU`            for ALL Datums / units / factor maps
  * `src_cov_get_eq`, `src_vdw_get_eq` — `get` = `getU`                      for ALL periodic tables, radius tables, arguments
  * `src_init_shipped_eq`  — `__init__` (row loop, `aliases`, alias loop) = `loadCov` / `loadVdw` on the shipped data files
  * `src_cov_init_eq`, `src_vdw_init_eq` — the same for ALL data rows of the files' row shape

and the headline clauses of `Props/C17.lean` are stated over the source-derived functions `srcCovGet`, `srcVdwGet`,
`srcToUnits`, `srcCov`, `srcVdw`.  The periodic-table accessor `to_E`, the dictionary primitives and
`conversion_factor` are named primitives, exactly the hand model's parameters.
-/
namespace QcelVerif.Radii.Src
open QcelVerif.PStr QcelVerif.PT QcelVerif.Radii QcelVerif.Gen.RadiiSrc

-- The equation lemmas of these functions are derived here once; without this, every proof that unfolds them derives them again.
section
attribute [local simp] exec eval
end

/-! ## `Datum.to_units` -/

theorem runToUnitsV_eq (convF : Bytes → Bytes → Option Rat) (d : Datum) (units : Option Bytes) :
    outOf (runToUnitsV toUnitsBody convF d (optBytesV units)) = liftErr (d.toUnitsU convF units) := by
  obtain ⟨l, u, data, cm, di⟩ := d
  -- the target unit is `units`, or the Datum's own; the factor exists or `conversion_factor` raised
  cases hf : convF u (units.getD u) <;> cases units <;> cases data <;>
    simp_all [outOf, runToUnitsV, toUnitsBody, call, exec, eval, Env.set, optBytesV, V.truthy, Datum.toUnitsU,
      Datum.toUnits, liftErr, payloadV, toOut, Payload.scale]

/-- **`Datum.to_units` regenerated from datum.py is the hand model** (all Datums, all payload kinds,
target given or `None`, any factor map): the choice `to_unit = self.units if units is None else units`,
the call `conversion_factor(self.units, to_unit)`, the Decimal / non-Decimal dispatch. -/
theorem src_to_units_eq (convF : Bytes → Bytes → Option Rat) (d : Datum) (units : Option Bytes) :
    srcToUnits convF d units = liftErr (d.toUnitsU convF units) := by
  unfold srcToUnits runToUnits
  exact runToUnitsV_eq convF d units

/-- `to_units` as `get` calls it (the target is always a `str` there): what it returns is always something `get` can
hand back -/
theorem toUnits_cases (convF : Bytes → Bytes → Option Rat) (d : Datum) (u : Bytes) :
    (∃ x, runToUnitsV toUnitsBody convF d (.str u) = .error x ∧ liftErr (d.toUnits (fun src => convF src u)) = .error x) ∨
    (∃ v o, runToUnitsV toUnitsBody convF d (.str u) = .ok v ∧ toOut v = .ok o ∧ d.toUnits (fun src => convF src u) = .ok o) := by
  have h : outOf (runToUnitsV toUnitsBody convF d (.str u)) = liftErr (d.toUnits (fun src => convF src u)) := by
    simpa [optBytesV, Datum.toUnitsU] using runToUnitsV_eq convF d (some u)
  cases hr : runToUnitsV toUnitsBody convF d (.str u) with
  | error x => left; rw [hr] at h; exact ⟨x, rfl, h.symm⟩
  | ok v =>
    right
    rw [hr] at h
    simp only [outOf] at h
    cases hm : d.toUnits (fun src => convF src u) with
    | error e => rw [hm] at h; cases e <;> cases v <;> simp [toOut, liftErr] at h
    | ok o => rw [hm] at h; exact ⟨v, o, rfl, h, rfl⟩

/-! ## `get` -/

/-- the body shared by both classes (the translator prints each from its own file; they are compared here) -/
def getBodyRef : Stmt := covGetBody

/-- the two `get` bodies are the same statement list (same logic in both classes) -/
theorem vdw_get_body_eq_cov : vdwGetBody = covGetBody := by rfl

theorem call_seq_none {P : Prims} {a b : Stmt} {env : Env} (env' : Env) (h : exec P a env = .ok (env', none)) :
    call P (.seq a b) env = call P b env' := by
  simp [call, exec, h]

theorem call_seq_err {x : Exn} {P : Prims} {a b : Stmt} {env : Env} (h : exec P a env = .error x) :
    call P (.seq a b) env = .error x := by
  simp [call, exec, h]

/-- the environment `get` starts in: variables 1 = atom, 2 = return_tuple, 3 = units, 4 = missing -/
def getEnv (a : PyVal) (rt : Bool) (u : Bytes) (missing : Option Rat) : Env :=
  (((emptyEnv.set 1 (atomV a)).set 2 (.bool rt)).set 3 (.str u)).set 4 (optRatV missing)

attribute [local simp] call exec eval Env.set V.truthy getPrims getEnv

/-- `get` after the identifier (variable 5) has been assigned: the dictionary access with its KeyError handler, then the
`return_tuple` branch -/
def getTail : Stmt :=
  .seq (.tryKeyError (.seq (.assert (.isStr (.var 5))) (.assign 7 (.tableGet (.var 5))))
      (.ite (.and (.isNotNone (.var 4)) (.isFalse (.var 2))) (.ret (.var 4)) (.raise .dataUnavailable)))
    (.ite (.var 2) (.ret (.var 7)) (.ret (.toUnits (.var 7) (.var 3))))

/-- with the identifier known — a symbol from `to_E`, or the `str` label itself — the rest of `get` is `getByKey` -/
theorem getTail_eq {T : Tables} {t : Table} {convF : Bytes → Bytes → Option Rat} {a : PyVal} {rt : Bool}
    {u : Bytes} {missing : Option Rat} {k : Nat} {v5 : V} (hv : v5 = .sym k ∨ ∃ s, v5 = .str s ∧ pack s = k) :
    outOf (call (getPrims toUnitsBody T t convF) getTail ((getEnv a rt u missing).set 5 v5)) =
      liftErr (getByKey t (fun src => convF src u) k rt missing) := by
  -- in either form the identifier passes `isinstance(·, str)` and indexes the dictionary at `k`
  cases hd : lookupK t k with
  | none =>
    cases missing <;> cases rt <;> rcases hv with rfl | ⟨s, rfl, rfl⟩ <;>
      simp [getTail, outOf, optRatV, getByKey, hd, liftErr, toOut]
  | some d =>
    cases rt with
    | true =>
      rcases hv with rfl | ⟨s, rfl, rfl⟩ <;>
        simp [getTail, outOf, getByKey, hd, liftErr, toOut]
    | false =>
      rcases toUnits_cases convF d u with ⟨x, hx, hm⟩ | ⟨v, o, hv', ho, hm⟩
      · rcases hv with rfl | ⟨s, rfl, rfl⟩ <;>
          simp [getTail, outOf, getByKey, hd, hx, hm]
      · rcases hv with rfl | ⟨s, rfl, rfl⟩ <;>
          simp [getTail, outOf, getByKey, hd, hv', ho, hm, liftErr]

theorem runGet_eq (T : Tables) (t : Table) (convF : Bytes → Bytes → Option Rat) (a : PyVal) (rt : Bool)
    (u : Bytes) (missing : Option Rat) :
    runGet covGetBody toUnitsBody T t convF a rt u missing = liftErr (get T t (fun src => convF src u) a rt missing) := by
  have hbody : covGetBody =
      .seq (.ite (.inKeys (.var 1)) (.assign 5 (.var 1)) (.assign 5 (.toE (.var 1)))) getTail := rfl
  have hrun : runGet covGetBody toUnitsBody T t convF a rt u missing =
      outOf (call (getPrims toUnitsBody T t convF) covGetBody (getEnv a rt u missing)) := rfl
  rw [hrun, hbody]
  -- the first statement: an exact label is its own identifier, anything else goes through `to_E`
  cases a with
  | int z =>
    cases hE : T.toE (.int z) false with
    | none =>
      rw [call_seq_err (x := .notAnElement) (by simp [atomV, hE])]
      simp [get, identify, hE, liftErr, outOf]
    | some k =>
      rw [call_seq_none ((getEnv (.int z) rt u missing).set 5 (.sym k))
        (by simp [atomV, hE]), getTail_eq (Or.inl rfl)]
      simp [get, identify, hE]
  | str s =>
    cases hl : hasLabel t s with
    | true =>
      rw [call_seq_none ((getEnv (.str s) rt u missing).set 5 (.str s))
        (by simp [atomV, hl]),
        getTail_eq (Or.inr ⟨s, rfl, rfl⟩)]
      simp [get, identify, hl]
    | false =>
      cases hE : T.toE (.str s) false with
      | none =>
        rw [call_seq_err (x := .notAnElement) (by simp [atomV, hE, hl])]
        simp [get, identify, hE, hl, liftErr, outOf]
      | some k =>
        rw [call_seq_none ((getEnv (.str s) rt u missing).set 5 (.sym k))
          (by simp [atomV, hE, hl]), getTail_eq (Or.inl rfl)]
        simp [get, identify, hE, hl]

/-- **`CovalentRadii.get` regenerated from covalent_radii.py is the hand model** — ANY periodic table,
ANY radius table, ANY factor map, every argument / return_tuple / units (given or omitted) / missing:
the label shortcut before `to_E`, the KeyError handler with `missing is not None and return_tuple is False`,
the DataUnavailableError, the `return_tuple` branch and the call of `to_units(units)` (itself the
regenerated body of datum.py), and the signature default of `units`. -/
theorem src_cov_get_eq (T : Tables) (t : Table) (convF : Bytes → Bytes → Option Rat) (a : PyVal) (rt : Bool)
    (units : Option Bytes) (missing : Option Rat) :
    srcCovGet T t convF a rt units missing = liftErr (getU T t convF a rt units missing) := by
  unfold srcCovGet getU
  rw [runGet_eq]
  rfl

/-- **`VanderWaalsRadii.get` regenerated from vanderwaals_radii.py is the hand model** (same quantifier) -/
theorem src_vdw_get_eq (T : Tables) (t : Table) (convF : Bytes → Bytes → Option Rat) (a : PyVal) (rt : Bool)
    (units : Option Bytes) (missing : Option Rat) :
    srcVdwGet T t convF a rt units missing = liftErr (getU T t convF a rt units missing) := by
  unfold srcVdwGet getU
  rw [vdw_get_body_eq_cov, runGet_eq]
  rfl

/-- the signature defaults printed from the source are the ones the hand model assumes -/
theorem src_get_defaults :
    covDefaultUnits = bBohr ∧ vdwDefaultUnits = bBohr ∧ covDefaultReturnTuple = false ∧ vdwDefaultReturnTuple = false ∧
    covDefaultMissingIsNone = true ∧ vdwDefaultMissingIsNone = true := by decide

/-! ## `__init__` -/

/-- the `aliases` list of the source, as the hand model's `covAliasSpec` (ident, source label, comment) with the
unit literal — the hand-written list IS the source's -/
theorem src_aliases_eq_spec :
    covInit.aliases = covAliasSpec.map (fun a => [.str a.1, .str bAngstrom, .tableData a.2.1, .str a.2.2]) ∧
    covInit.rowLoop = { key := .item 0, ctor := { label := .item 0, units := .nativeUnits, data := .decimal (.item 1),
                                                   comment := some (.item 2), doi := some .doi } } ∧
    covInit.aliasLoop = some { key := .capitalize (.item 0), ctor := { label := .item 0, units := .item 1, data := .item 2,
                                                                         comment := some (.item 3), doi := none } } ∧
    vdwInit = { rowLoop := { key := .item 0, ctor := { label := .item 0, units := .nativeUnits, data := .decimal (.item 1),
                                                        comment := none, doi := some .doi } },
                aliases := [], aliasLoop := none } := by
  decide

/-- the row loop of the source on ONE row is the hand model's row, for every row text (comment present: covalent
shape; comment absent: van der Waals shape) -/
theorem src_rowloop_eq (units doi : Bytes) (l v : Bytes) (c : Option Bytes) :
    (match c with
      | some cm => evalLoop units doi covInit.rowLoop (rowFV (l, v, some cm))
      | none => evalLoop units doi vdwInit.rowLoop (rowFV (l, v, none))) =
    (parseDec v).map fun cs =>
      (l, ({ label := l, units := units, data := .dec false cs.1 (-(cs.2 : Int)), comment := c, doi := some doi } : Datum)) := by
  cases c with
  | some cm =>
    cases hp : parseDec v <;>
      simp [covInit, evalLoop, evalStr, evalF, evalDatum, evalOptStr, rowFV, hp]
  | none =>
    cases hp : parseDec v <;>
      simp [vdwInit, evalLoop, evalStr, evalF, evalDatum, evalOptStr, rowFV, hp]

/-- the alias loop on ANY list of (ident, source label, comment): evaluating the tuples on the rows and storing each
under the capitalised ident is the hand model's alias step (a missing source label fails both) -/
theorem alias_loop_eq (units doi : Bytes) (base : Table) (sp : List (Bytes × Bytes × Bytes)) :
    (((sp.map fun a => [AliasE.str a.1, .str bAngstrom, .tableData a.2.1, .str a.2.2]).mapM
        fun (tp : List AliasE) => tp.mapM (evalAliasE base)).bind fun tuples =>
      (tuples.mapM fun tp => evalLoop units doi
        { key := .capitalize (.item 0), ctor := { label := .item 0, units := .item 1, data := .item 2, comment := some (.item 3), doi := none } } tp)) =
    sp.mapM fun a =>
      (lookupB base a.2.1).map fun src =>
        (capitalize a.1, ({ label := a.1, units := bAngstrom, data := src.data, comment := some a.2.2, doi := none } : Datum)) := by
  induction sp with
  | nil => rfl
  | cons a sp ih =>
    simp only [List.map_cons, List.mapM_cons]
    rw [← ih]
    cases h : lookupB base a.2.1 with
    | none => simp [evalAliasE, h]
    | some src =>
      cases (sp.map fun a => [AliasE.str a.1, .str bAngstrom, .tableData a.2.1, .str a.2.2]).mapM
          fun (tp : List AliasE) => tp.mapM (evalAliasE base) <;>
        simp [evalAliasE, h, evalLoop, evalStr, evalF, evalDatum, evalOptStr]

/-- **`CovalentRadii.__init__` regenerated from the source is the hand model's `loadCov` for ALL data rows** that carry a
comment (the source indexes `cr[2]`): row loop, `aliases` evaluated on the rows (a missing source label fails the load in
both), alias loop under the capitalised symbol. -/
theorem src_cov_init_eq (units doi : Bytes) (rows : List (Bytes × Bytes × Option Bytes))
    (h : ∀ r ∈ rows, r.2.2.isSome = true) : runInit covInit units doi rows = loadCov units doi rows := by
  have hr : (rows.mapM fun r => evalLoop units doi covInit.rowLoop (rowFV r)) = loadRows units doi rows :=
    mapM_opt_congr _ _ rows fun ⟨l, v, c⟩ hr => by
      obtain ⟨cm, rfl⟩ := Option.isSome_iff_exists.mp (h _ hr)
      exact src_rowloop_eq units doi l v (some cm)
  unfold runInit loadCov
  rw [hr]
  cases hb : loadRows units doi rows with
  | none => rfl
  | some base =>
    have ha := alias_loop_eq units doi base covAliasSpec
    rw [← src_aliases_eq_spec.1] at ha
    simp only [src_aliases_eq_spec.2.2.1, Option.bind_eq_bind, Option.bind_some, Option.pure_def] at ha ⊢
    rw [← ha]
    cases (covInit.aliases.mapM fun (tp : List AliasE) => tp.mapM (evalAliasE base)) <;> rfl

/-- **`VanderWaalsRadii.__init__` regenerated from the source is the hand model's `loadVdw` for ALL two-column data rows.** -/
theorem src_vdw_init_eq (units doi : Bytes) (rows : List (Bytes × Bytes × Option Bytes))
    (h : ∀ r ∈ rows, r.2.2 = none) : runInit vdwInit units doi rows = loadVdw units doi rows := by
  have hr : (rows.mapM fun r => evalLoop units doi vdwInit.rowLoop (rowFV r)) = loadRows units doi rows :=
    mapM_opt_congr _ _ rows fun ⟨l, v, c⟩ hr => by
      obtain rfl : c = none := h _ hr
      exact src_rowloop_eq units doi l v none
  unfold runInit loadVdw
  rw [hr]
  cases hb : loadRows units doi rows <;> rfl

theorem shipped_row_shapes :
    Gen.Radii.covRows.all (fun r => r.2.2.isSome) = true ∧ Gen.Radii.vdwRows.all (fun r => r.2.2 == none) = true := by
  constructor <;> decide +kernel

-- non-vacuous (tests): the shipped files have exactly these row shapes
example : Gen.Radii.covRows.all (fun r => r.2.2.isSome) = true ∧ Gen.Radii.vdwRows.all (fun r => r.2.2 == none) = true :=
  shipped_row_shapes

/-- **`__init__` of both classes regenerated from the source builds the hand model's dictionaries** on the
shipped data files: same keys in the same assignment order, same Datum fields (label, native units, the
Decimal digits, comment, doi), the four generic-element entries taken from C_sp3 / Mn_highspin / Fe_highspin /
Co_highspin under the capitalised symbol. -/
-- the shipped rows have the row shapes of `src_cov_init_eq` / `src_vdw_init_eq`; only the shapes and "the load succeeds" are evaluated
theorem src_init_shipped_eq : srcCovLoaded = covLoaded ∧ srcVdwLoaded = vdwLoaded ∧ covLoaded.isSome = true ∧ vdwLoaded.isSome = true :=
  ⟨src_cov_init_eq _ _ _ (List.all_eq_true.mp shipped_row_shapes.1),
   src_vdw_init_eq _ _ _ fun r hr => by simpa using List.all_eq_true.mp shipped_row_shapes.2 r hr,
   by decide +kernel, by decide +kernel⟩

theorem srcCov_eq : srcCov = cov := by unfold srcCov cov; rw [src_init_shipped_eq.1]
theorem srcVdw_eq : srcVdw = vdw := by unfold srcVdw vdw; rw [src_init_shipped_eq.2.1]

/-! ## the headline clauses over the source-derived functions -/

/-- **Tabulated value returned** (source-derived `get`, any tables, both classes): if the argument identifies
key `k` (exact label, or through `to_E`), the dictionary holds the Decimal `±c·10^e` under `k` and the factor
towards the requested unit is `f`, the result is `fl(f · float(Decimal))` whatever `missing` is; with
`return_tuple=True` it is the stored Datum itself. -/
theorem src_tabulated_value (T : Tables) (t : Table) (convF : Bytes → Bytes → Option Rat) (a : PyVal) (k : Nat)
    (units : Option Bytes) (m : Option Rat) (d : Datum) (f : Rat) (n : Bool) (c : Nat) (e : Int)
    (hid : identify T t a = some k) (hd : lookupK t k = some d) (hdec : d.data = .dec n c e)
    (hf : convF d.units (units.getD bBohr) = some f) :
    srcCovGet T t convF a false units m = .ok (.value (fmul f (ofDec n c e))) ∧
    srcVdwGet T t convF a false units m = .ok (.value (fmul f (ofDec n c e))) ∧
    srcCovGet T t convF a true units m = .ok (.datum d) ∧
    srcVdwGet T t convF a true units m = .ok (.datum d) := by
  rw [src_cov_get_eq, src_vdw_get_eq, src_cov_get_eq, src_vdw_get_eq]
  have h1 : getU T t convF a false units m = .ok (.value (fmul f (ofDec n c e))) := by
    unfold getU
    rw [get_of_identify hid]
    exact value_is_factor_times_native t _ k m d f n c e hd hdec hf
  have h2 : getU T t convF a true units m = .ok (.datum d) := by
    unfold getU
    rw [get_of_identify hid]
    exact datum_native t _ k m d hd
  rw [h1, h2]
  exact ⟨rfl, rfl, rfl, rfl⟩

-- non-vacuous (test): "c_sp3" is no label, "C_sp3" is; carbon by name resolves to C, which is tabulated
example : identify shipped cov (.str [67, 95, 115, 112, 51]) = some (pack [67, 95, 115, 112, 51]) ∧
    (lookupK cov (pack [67, 95, 115, 112, 51])).isSome = true ∧
    identify shipped cov (.str [99, 97, 114, 98, 111, 110]) = some (pack [67]) := by decide +kernel

/-- **The bare element is the largest variant** over the dictionary the SOURCE's `__init__` builds: the elements
with `E_<variant>` rows are exactly C, Mn, Fe, Co and the entry the alias loop stores under the bare symbol carries
the maximum of the variants' values, in angstrom; none in the van der Waals set. -/
theorem src_generic_is_largest :
    symbolsWithVariants srcCov = [[67], [77, 110], [70, 101], [67, 111]] ∧
    (symbolsWithVariants srcCov).all (genericOk srcCov) = true ∧
    symbolsWithVariants srcVdw = [] := by
  rw [srcCov_eq, srcVdw_eq]
  exact generic_is_largest

/-- **Native unit exact** (source-derived `get` on the source-built dictionaries): with factor 1 towards the
requested unit, every tabulated entry comes back as `float(Decimal)` itself, and that float is the nearest
double (ties to even) of the tabulated decimal. -/
theorem src_native_unit_exact (T : Tables) (convF : Bytes → Bytes → Option Rat) (a : PyVal) (k : Nat)
    (units : Option Bytes) (m : Option Rat) (d : Datum) :
    (identify T srcCov a = some k → lookupK srcCov k = some d → convF d.units (units.getD bBohr) = some 1 →
      ∃ n c e, d.data = .dec n c e ∧ srcCovGet T srcCov convF a false units m = .ok (.value (ofDec n c e)) ∧
        isNearestEven (decVal n c e) (ofDec n c e) = true) ∧
    (identify T srcVdw a = some k → lookupK srcVdw k = some d → convF d.units (units.getD bBohr) = some 1 →
      ∃ n c e, d.data = .dec n c e ∧ srcVdwGet T srcVdw convF a false units m = .ok (.value (ofDec n c e)) ∧
        isNearestEven (decVal n c e) (ofDec n c e) = true) := by
  rw [srcCov_eq, srcVdw_eq]
  constructor
  · intro hid hd hf
    obtain ⟨n, c, e, hdat, hg, hn⟩ := native_unit_exact cov (Or.inl rfl) (fun src => convF src (units.getD bBohr)) k m d hd hf
    refine ⟨n, c, e, hdat, ?_, hn⟩
    rw [src_cov_get_eq]
    unfold getU
    rw [get_of_identify hid, hg]
    rfl
  · intro hid hd hf
    obtain ⟨n, c, e, hdat, hg, hn⟩ := native_unit_exact vdw (Or.inr rfl) (fun src => convF src (units.getD bBohr)) k m d hd hf
    refine ⟨n, c, e, hdat, ?_, hn⟩
    rw [src_vdw_get_eq]
    unfold getU
    rw [get_of_identify hid, hg]
    rfl

-- non-vacuous (test): hydrogen is tabulated in both source-built sets
example : (lookupK srcCov (pack [72])).isSome = true ∧ (lookupK srcVdw (pack [72])).isSome = true := by decide +kernel

/-- **Missing-data contract** (source-derived `get`, any tables, both classes): a valid element without entry
raises DataUnavailableError when `missing` is None or `return_tuple` is on, and otherwise returns exactly the
caller's fallback — whatever its value (0.0 included). -/
theorem src_missing_contract (T : Tables) (t : Table) (convF : Bytes → Bytes → Option Rat) (a : PyVal) (e : Nat)
    (units : Option Bytes)
    (hE : T.toE a false = some e) (hlab : ∀ s, a = .str s → hasLabel t s = true → pack s = e)
    (hno : lookupK t e = none) (x : Rat) (rt : Bool) :
    srcCovGet T t convF a rt units none = .error .dataUnavailable ∧
    srcCovGet T t convF a false units (some x) = .ok (.value x) ∧
    srcCovGet T t convF a true units (some x) = .error .dataUnavailable ∧
    srcVdwGet T t convF a rt units none = .error .dataUnavailable ∧
    srcVdwGet T t convF a false units (some x) = .ok (.value x) ∧
    srcVdwGet T t convF a true units (some x) = .error .dataUnavailable := by
  have h := missing_contract T t (fun src => convF src (units.getD bBohr)) a e hE hlab hno x rt
  simp only [src_cov_get_eq, src_vdw_get_eq, getU, h.1, h.2.1, h.2.2, liftErr, and_self]

-- non-vacuous (test): lawrencium by number, fallback 0
example : shipped.toE (.int 103) false = some (pack [76, 114]) ∧ lookupK cov (pack [76, 114]) = none ∧
    (match srcCovGet shipped cov (fun _ _ => some 1) (.int 103) false none (some 0) with
      | .ok (.value x) => x == 0 | _ => false) = true := by decide +kernel

/-- **Non-elements are refused** (source-derived `get`, any tables, both classes): not an exact label and not
resolvable by the periodic table → NotAnElementError, never the fallback. -/
theorem src_not_element (T : Tables) (t : Table) (convF : Bytes → Bytes → Option Rat) (a : PyVal) (rt : Bool)
    (units : Option Bytes) (m : Option Rat)
    (hlab : ∀ s, a = .str s → hasLabel t s = false) (hE : T.toE a false = none) :
    srcCovGet T t convF a rt units m = .error .notAnElement ∧ srcVdwGet T t convF a rt units m = .error .notAnElement := by
  have h := not_element T t (fun src => convF src (units.getD bBohr)) a rt m hlab hE
  simp only [src_cov_get_eq, src_vdw_get_eq, getU, h, liftErr, and_self]

-- non-vacuous (test): "c_SP3" is neither a label nor an element
example : hasLabel cov [99, 95, 83, 80, 51] = false ∧ shipped.toE (.str [99, 95, 83, 80, 51]) false = none := by decide +kernel

/-- **An exact label returns its own entry without consulting the periodic table** (source-derived `get`): the
shortcut `if atom in self.cr.keys()` comes first, so the answer does not depend on `to_E` at all. -/
theorem src_label_first (T T' : Tables) (t : Table) (convF : Bytes → Bytes → Option Rat) (s : Bytes) (rt : Bool)
    (units : Option Bytes) (m : Option Rat) (h : hasLabel t s = true) :
    srcCovGet T t convF (.str s) rt units m = srcCovGet T' t convF (.str s) rt units m ∧
    srcVdwGet T t convF (.str s) rt units m = srcVdwGet T' t convF (.str s) rt units m := by
  simp only [src_cov_get_eq, src_vdw_get_eq, getU, get_of_identify (identify_label h), and_self]

/-- **`to_units()` without a target is `to_units(self.units)`** (source-derived `to_units`). -/
theorem src_to_units_default (convF : Bytes → Bytes → Option Rat) (d : Datum) :
    srcToUnits convF d none = srcToUnits convF d (some d.units) := by
  rw [src_to_units_eq, src_to_units_eq]
  rfl

end QcelVerif.Radii.Src
