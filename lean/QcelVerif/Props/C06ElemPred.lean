import QcelVerif.Lemmas.NuclideRuns
/-! C06 row predicate for the table-wide instances (`shipped_elements_default`, Props/C06Elements.lean). -/
namespace QcelVerif.Nucleus
open QcelVerif QcelVerif.PStr QcelVerif.PT

/-- element row: `Z` alone, the symbol alone, and the lower-cased symbol as a label each reconcile (under
`rd64`; `speclabel = True`, `nonphysical = False`, `mtol` = the exact decimal 1/1000 of the documented default `1.0e-3`, not
its double) to the row's default isotope `(to_A(Z), Z, E, float(to_mass(Z)), True, '')` -/
def elementDefaultOk (r : Nat × Nat × Nat) : Bool :=
  let base : Input := { A := none, Z := none, E := none, mass := none, real := none, label := none,
                        speclabel := true, nonphysical := false, mtol := .float (1/1000) }
  match shippedN.pt.toA (.int r.1), tableMass shippedN rd64 (.int r.1) with
  | some a, .ok m =>
    let want : Output := { A := a, Z := r.1, E := r.2.1, mass := m, real := .bool true, user := [] }
    (match reconcile shippedN rd64 { base with Z := some (.int r.1) } with | .ok o => o == want | _ => false) &&
    (match reconcile shippedN rd64 { base with E := some (unpack r.2.1) } with | .ok o => o == want | _ => false) &&
    (match reconcile shippedN rd64 { base with label := some (lower (unpack r.2.1)) } with | .ok o => o == want | _ => false)
  | _, _ => false

end QcelVerif.Nucleus
