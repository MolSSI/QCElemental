import QcelVerif.Lemmas.AssignCert
import QcelVerif.Lemmas.MunkresInv2
/-!
# C14 — the assignment solver returns a minimum-cost matching and a valid reduced matrix

Models: `Model/AssignCert.lean` (`certOK`, `certGap`: the optimality certificate that
`linear_sum_assignment(cost, return_cost=True)`'s answer `(pairs, reduced)` constitutes) and
`Model/Munkres.lean` (`solve`: the solver itself, steps 1-6).

All theorems hold for every shape `n × m` (square, wide, tall, empty) and every rational cost
matrix — no size bound.  Sums are `List` sums over the returned pairs; "every complete
assignment" is every list of `min n m` in-range pairs without a repeated row or column
(`IsAssign`, `Lemmas/AssignCert.lean`).
-/
namespace QcelVerif.Assign

/-! ### wide orientation -/

theorem wideOK_unpack {n m : Nat} {c red : Nat → Nat → Rat} {σ : Pairs} (h : wideOK n m c red σ = true) :
    IsAssign n m σ
    ∧ (∀ i < n, ∀ j < m, resid c red i j = red i j)
    ∧ (∀ i < n, ∀ j < m, 0 ≤ red i j)
    ∧ (∀ p ∈ σ, red p.1 p.2 = 0)
    ∧ (∀ p ∈ σ, ∀ k < m, k ∉ σ.map Prod.snd → vPot c red p.2 ≤ vPot c red k) := by
  simp only [wideOK, Bool.and_eq_true] at h
  obtain ⟨⟨⟨⟨h1, h2⟩, h3⟩, h4⟩, h5⟩ := h
  refine ⟨isAssign_iff.1 h1, ?_, ?_, ?_, ?_⟩
  · intro i hi j hj
    simpa using allIdx_iff.1 h2 i hi j hj
  · intro i hi j hj
    simpa using allIdx_iff.1 h3 i hi j hj
  · intro p hp
    simpa using (List.all_eq_true.1 h4) p hp
  · intro p hp k hk hkn
    have := (List.all_eq_true.1 h5) k (List.mem_range.2 hk)
    rw [Bool.or_eq_true] at this
    rcases this with hc | ha
    · exact absurd (by simpa using hc) hkn
    · simpa using (List.all_eq_true.1 ha) p hp

theorem wide_resid_zero {n m : Nat} {c red : Nat → Nat → Rat} {σ : Pairs} (h : wideOK n m c red σ = true) :
    total (resid c red) σ = 0 := by
  obtain ⟨hσ, hres, _, hz, _⟩ := wideOK_unpack h
  have : total (resid c red) σ = total (fun _ _ => 0) σ :=
    total_congr (fun p hp => (hσ.forall_mem hres p hp).trans (hz p hp))
  rw [this]
  simp [total]

/-- **The wide certificate as one inequality**: a certified `σ` undercuts every complete assignment `τ` by at
least the reduced cost of `τ`.  Weak duality with the potentials read off `red`: the residual is `red`, which
vanishes on `σ`. -/
theorem wideOK_gap {n m : Nat} (hnm : n ≤ m) {c red : Nat → Nat → Rat} {σ τ : Pairs}
    (h : wideOK n m c red σ = true) (hτ : IsAssign n m τ) : total c σ + total red τ ≤ total c τ := by
  obtain ⟨hσ, hres, _, _, hv⟩ := wideOK_unpack h
  have hd := duality_wide hnm c (uPot c red) (vPot c red) 0 (le_refl 0) hσ hτ
    (fun p hp k hk hkn => by have := hv p hp k hk hkn; linarith)
  have hz : total (fun i j => c i j - uPot c red i - vPot c red j) σ = 0 := wide_resid_zero h
  have hτred : total (fun i j => c i j - uPot c red i - vPot c red j) τ = total red τ :=
    total_congr (hτ.forall_mem hres)
  rw [hz, hτred] at hd
  linarith

theorem wideGap_sound {n m : Nat} (hnm : n ≤ m) (c red : Nat → Nat → Rat) {σ τ : Pairs}
    (hσ : IsAssign n m σ) (hτ : IsAssign n m τ) : total c σ ≤ total c τ + wideGap n m c red σ := by
  have := weak_duality_wide hnm c (uPot c red) (vPot c red) (epsOf n m c red) (deltaOf m c red σ)
    (maxL_nonneg _) hσ hτ (epsOf_spec n m c red) (deltaOf_spec m c red σ)
  unfold wideGap
  have e : total (fun i j => c i j - uPot c red i - vPot c red j) σ = total (resid c red) σ := rfl
  rw [e] at this
  linarith

/-! ### the property theorems about the certificate (any shape) -/

/-- **What a passed certificate says about the answer's shape**: `min n m` in-range pairs, no
row or column repeated, rows strictly increasing, reduced matrix non-negative, zero on the chosen
pairs, and equal to the cost minus a constant per row and a constant per column. -/
theorem certOK_shape {n m : Nat} {c red : Nat → Nat → Rat} {σ : Pairs}
    (h : certOK n m c red σ = true) :
    IsAssign n m σ
    ∧ (σ.map Prod.fst).Pairwise (· < ·)
    ∧ (∀ i < n, ∀ j < m, 0 ≤ red i j)
    ∧ (∀ p ∈ σ, red p.1 p.2 = 0)
    ∧ ∃ u v : Nat → Rat, ∀ i < n, ∀ j < m, red i j = c i j - u i - v j := by
  simp only [certOK, Bool.and_eq_true] at h
  obtain ⟨hinc, h⟩ := h
  by_cases hnm : n ≤ m
  · rw [if_pos hnm] at h
    obtain ⟨hσ, hres, hnn, hz, _⟩ := wideOK_unpack h
    exact ⟨hσ, (incB_iff _).1 hinc, hnn, hz, uPot c red, vPot c red,
      fun i hi j hj => (hres i hi j hj).symm⟩
  · rw [if_neg hnm] at h
    obtain ⟨hσ, hres, hnn, hz, _⟩ := wideOK_unpack h
    have hσ' : IsAssign n m σ := by
      have := hσ.swap
      simpa [List.map_map, Function.comp_def, swap] using this
    refine ⟨hσ', (incB_iff _).1 hinc, fun i hi j hj => hnn j hj i hi, ?_, ?_⟩
    · intro p hp
      have := hz (swap p) (List.mem_map_of_mem hp)
      simpa [swap, tr] using this
    · refine ⟨vPot (tr c) (tr red), uPot (tr c) (tr red), fun i hi j hj => ?_⟩
      have := hres j hj i hi
      unfold resid at this
      simp only [tr] at this ⊢
      linarith

/-- **The certificate as one inequality**, any shape: a certified `σ` undercuts every complete assignment `τ`
by at least the reduced cost of `τ`, which is non-negative.  Optimality of `σ` and the position of the other
optima are both read off it. -/
theorem cert_gap {n m : Nat} {c red : Nat → Nat → Rat} {σ τ : Pairs}
    (h : certOK n m c red σ = true) (hτ : IsAssign n m τ) :
    (∀ p ∈ τ, 0 ≤ red p.1 p.2) ∧ total c σ + total red τ ≤ total c τ := by
  refine ⟨hτ.forall_mem (certOK_shape h).2.2.1, ?_⟩
  simp only [certOK, Bool.and_eq_true] at h
  by_cases hnm : n ≤ m
  · rw [if_pos hnm] at h
    exact wideOK_gap hnm h.2 hτ
  · rw [if_neg hnm] at h
    have := wideOK_gap (Nat.le_of_lt (Nat.lt_of_not_le hnm)) h.2 hτ.swap
    rwa [total_tr_swap, total_tr_swap, total_tr_swap] at this

/-- **Optimality.**  If `(σ, red)` passes the certificate check for the `n × m` cost matrix `c`,
then `σ` costs no more than ANY complete assignment `τ` — the minimum over all of them. -/
theorem cert_optimal {n m : Nat} {c red : Nat → Nat → Rat} {σ τ : Pairs}
    (h : certOK n m c red σ = true) (hτ : IsAssign n m τ) : total c σ ≤ total c τ := by
  obtain ⟨h0, hg⟩ := cert_gap h hτ
  have := total_nonneg red τ h0
  linarith

/-- **Every optimal assignment lies on the zeros of the reduced matrix** (what
`align.py:386-387` relies on when it seeds the enumeration of atom mappings from the zero
edges): a complete assignment that costs no more than the certified one has `red = 0` on
every one of its pairs. -/
theorem optimal_on_zeros {n m : Nat} {c red : Nat → Nat → Rat} {σ τ : Pairs}
    (h : certOK n m c red σ = true) (hτ : IsAssign n m τ) (hopt : total c τ ≤ total c σ) :
    ∀ p ∈ τ, red p.1 p.2 = 0 := by
  obtain ⟨h0, hg⟩ := cert_gap h hτ
  exact total_zero_of_nonneg red τ h0 (by linarith)

/-- **Measured-slack version** (used on float answers, where `reduced = cost − u − v` holds
only up to rounding): whatever `(σ, red)` is, if `certGap` returns `g` then `σ` is a complete
assignment within `g` of every complete assignment.  `g` is computed in exact arithmetic. -/
theorem certGap_sound {n m : Nat} {c red : Nat → Nat → Rat} {σ τ : Pairs} {g : Rat}
    (h : certGap n m c red σ = some g) (hτ : IsAssign n m τ) :
    IsAssign n m σ ∧ total c σ ≤ total c τ + g := by
  unfold certGap at h
  split at h
  · rename_i ha
    have hσ := isAssign_iff.1 ha
    refine ⟨hσ, ?_⟩
    simp only [Option.some.injEq] at h
    subst h
    by_cases hnm : n ≤ m
    · rw [if_pos hnm]
      exact wideGap_sound hnm c red hσ hτ
    · rw [if_neg hnm]
      have := wideGap_sound (Nat.le_of_lt (Nat.lt_of_not_le hnm)) (tr c) (tr red) hσ.swap hτ.swap
      rwa [total_tr_swap, total_tr_swap] at this
  · simp at h

/-! #### non-vacuity (tests, by kernel evaluation)

The rectangular case of `tests/test_scipy_hungarian.py`: cost `[[10,10,8,11],[9,8,1,1],[9,7,4,10]]`,
answer rows `[0,1,2]`, columns `[0,3,2]`, reduced `[[0,0,0,3],[6,5,0,0],[3,1,0,6]]`. -/

def exCost : Nat → Nat → Rat := fun i j =>
  (([[10, 10, 8, 11], [9, 8, 1, 1], [9, 7, 4, 10]] : List (List Rat)).getD i []).getD j 0
def exRed : Nat → Nat → Rat := fun i j =>
  (([[0, 0, 0, 3], [6, 5, 0, 0], [3, 1, 0, 6]] : List (List Rat)).getD i []).getD j 0

/-- TEST: the hypotheses of `cert_optimal` / `optimal_on_zeros` / `certOK_shape` are satisfiable
(wide case, with an unmatched column) -/
example : certOK 3 4 exCost exRed [(0, 0), (1, 3), (2, 2)] = true := by decide +kernel
/-- TEST: … and in the tall orientation (the transposed problem) -/
example : certOK 4 3 (tr exCost) (tr exRed) [(0, 0), (2, 2), (3, 1)] = true := by decide +kernel
/-- TEST: a second optimal assignment exists, so `optimal_on_zeros` is not vacuous:
rows→columns (1,3,2) also costs 15 and is a complete assignment -/
example : isAssign 3 4 [(0, 1), (1, 3), (2, 2)] = true
    ∧ total exCost [(0, 1), (1, 3), (2, 2)] = total exCost [(0, 0), (1, 3), (2, 2)] := by decide +kernel
/-- TEST: the checker rejects a non-optimal answer with an otherwise plausible reduced matrix -/
example : certOK 3 4 exCost exRed [(0, 3), (1, 2), (2, 1)] = false := by decide +kernel
/-- TEST: the checker rejects the right pairs with a reduced matrix that is not `cost − u − v` -/
example : certOK 3 4 exCost (fun i j => if i = 0 ∧ j = 1 then 1 else exRed i j) [(0, 0), (1, 3), (2, 2)] = false := by
  decide +kernel
/-- TEST: `certGap` of an exact certificate is 0 -/
example : certGap 3 4 exCost exRed [(0, 0), (1, 3), (2, 2)] = some 0 := by decide +kernel

end QcelVerif.Assign

namespace QcelVerif.Munkres
open QcelVerif.Assign

/-- an `inf`/`nan` entry makes the finiteness test (scipy_hungarian.py:100) fail -/
theorem allFinite_false {inp : Input} (h : ∃ r ∈ inp.ent.toList, ∃ e ∈ r.toList, e.isFinite = false) :
    inp.allFinite = false := by
  obtain ⟨r, hr, e, he, hf⟩ := h
  unfold Input.allFinite
  rw [Bool.eq_false_iff]
  intro hall
  have := List.all_eq_true.1 (List.all_eq_true.1 hall r hr) e he
  rw [hf] at this
  exact Bool.false_ne_true this

/-- the validation (scipy_hungarian.py:93-101) refuses a bad matrix, whatever comes after it -/
theorem refuses_bad {α : Type} (inp : Input) (body : Except Err α)
    (h : inp.ndim ≠ 2 ∨ inp.dt = .other ∨ ∃ r ∈ inp.ent.toList, ∃ e ∈ r.toList, e.isFinite = false) :
    ∃ e, (if inp.ndim != 2 then .error .ndim else if inp.dt = .other then .error .dtype
          else if !inp.allFinite then .error .nonfinite else body) = .error e
      ∧ (e = .ndim ∨ e = .dtype ∨ e = .nonfinite) := by
  by_cases h1 : inp.ndim = 2
  · by_cases h2 : inp.dt = .other
    · exact ⟨.dtype, by simp [h1, h2], by simp⟩
    · have h3 := allFinite_false ((h.resolve_left (not_not.2 h1)).resolve_left h2)
      exact ⟨.nonfinite, by simp [h1, h2, h3], by simp⟩
  · exact ⟨.ndim, by simp [h1], by simp⟩

/-- **Refusal.**  A matrix that is not 2-d, has a non-numeric dtype, or contains an `inf`/`nan`
entry is never answered: `solve` returns the corresponding `ValueError` class. -/
theorem solve_refuses_bad (inp : Input)
    (h : inp.ndim ≠ 2 ∨ inp.dt = .other ∨ ∃ r ∈ inp.ent.toList, ∃ e ∈ r.toList, e.isFinite = false) :
    ∃ e, solve inp = .error e ∧ (e = .ndim ∨ e = .dtype ∨ e = .nonfinite) :=
  refuses_bad inp _ h

def errOf (r : Except Err Output) : Option Err := match r with | .error e => some e | .ok _ => none
-- TEST (non-vacuity of the three refusal branches)
example : errOf (solve { ndim := 2, n := 1, m := 2, dt := .float, ent := #[#[.fin 1, .posInf]] }) = some .nonfinite := by
  decide +kernel
example : errOf (solve { ndim := 1, n := 0, m := 0, dt := .float, ent := #[] }) = some .ndim := by decide +kernel
example : errOf (solve { ndim := 2, n := 1, m := 1, dt := .other, ent := #[] }) = some .dtype := by decide +kernel

/-- `solveChecked` answers exactly the answers of `solve` that pass the certificate check -/
theorem solveChecked_ok_iff {inp : Input} {o : Output} : solveChecked inp = .ok o ↔
    solve inp = .ok o ∧ certOK inp.n inp.m inp.costFn (matFn o.red) o.pairs = true := by
  unfold solveChecked
  cases solve inp with
  | error e => simp
  | ok o' =>
    by_cases hc : certOK inp.n inp.m inp.costFn (matFn o'.red) o'.pairs = true
    · simp only [hc, if_true, Except.ok.injEq]
      exact ⟨fun e => e ▸ ⟨rfl, hc⟩, And.left⟩
    · simp only [hc, Bool.false_eq_true, if_false, Except.ok.injEq, reduceCtorEq, false_iff]
      rintro ⟨rfl, h⟩
      exact hc h

/-- **The certifying solver is correct.**  Whenever the Munkres model's answer passes the
certificate check, the answer is a complete assignment with rows increasing whose total cost is the
minimum over all complete assignments, and every optimal complete assignment lies on the zeros of
the returned reduced matrix.

This statement alone leaves open whether `solveChecked` ever answers `notCertified` or `fuel`.  It does
not, on well-shaped valid inputs: every answer of `solve` passes the check (`solve_certified`,
`solveChecked_eq_solve` in `Props/C14Inv.lean`) and `solve` always answers (`solve_total`,
`solve_correct` in `Props/C14Term.lean`).  The driver also evaluates `certOK` on every model answer; the
harness counts failures (`model_answers_not_certified`, expected 0) over the exhaustive small scopes and
the sampled stream. -/
theorem solveChecked_optimal_partial (inp : Input) (o : Output) (h : solveChecked inp = .ok o) :
    IsAssign inp.n inp.m o.pairs
    ∧ (o.pairs.map Prod.fst).Pairwise (· < ·)
    ∧ (∀ τ, IsAssign inp.n inp.m τ → total inp.costFn o.pairs ≤ total inp.costFn τ)
    ∧ (∀ τ, IsAssign inp.n inp.m τ → total inp.costFn τ ≤ total inp.costFn o.pairs →
        ∀ p ∈ τ, matFn o.red p.1 p.2 = 0) := by
  obtain ⟨_, hc⟩ := solveChecked_ok_iff.1 h
  have hs := certOK_shape hc
  exact ⟨hs.1, hs.2.1, fun τ hτ => cert_optimal hc hτ, fun τ hτ hopt => optimal_on_zeros hc hτ hopt⟩

/-- the 3×3 example of the docstring (scipy_hungarian.py:70-76), as model input -/
def exInput : Input :=
  { ndim := 2, n := 3, m := 3, dt := .int
    ent := #[#[.fin 4, .fin 1, .fin 3], #[.fin 2, .fin 0, .fin 5], #[.fin 3, .fin 2, .fin 2]] }

/-- TEST (non-vacuity of `solveChecked_optimal_partial`): on the docstring example the model runs
steps 1,3,4,6,4,6,4,5,3 and its answer `col_ind = [1,0,2]` is certified. -/
example : (match solveChecked exInput with
    | .ok o => o.pairs == [(0, 1), (1, 0), (2, 2)] && o.trace.size == 9
    | .error _ => false) = true := by decide +kernel

/-- TEST (non-vacuity of `solve_reduced_rowcol`, C14Inv): the example is well shaped -/
example : exInput.WellShaped := by unfold Input.WellShaped; decide
/-- a tall (4 × 3) input: the transpose of the rectangular case of tests/test_scipy_hungarian.py -/
def exTall : Input :=
  { ndim := 2, n := 4, m := 3, dt := .int
    ent := #[#[.fin 10, .fin 9, .fin 9], #[.fin 10, .fin 8, .fin 7], #[.fin 8, .fin 1, .fin 4], #[.fin 11, .fin 1, .fin 10]] }
example : exTall.WellShaped := by unfold Input.WellShaped; decide
/-- TEST: the tall input is answered through the transposed run, rows increasing, and certified -/
example : (match solveChecked exTall with
    | .ok o => o.pairs == [(0, 0), (2, 2), (3, 1)]
    | .error _ => false) = true := by decide +kernel

end QcelVerif.Munkres
