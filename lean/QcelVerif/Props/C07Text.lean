import QcelVerif.Lemmas.MolTextJoin
import QcelVerif.Props.C07
/-!
C07 — the read/write theorems of Props/C07.lean lifted from the written LINES to the written TEXT.

`parseText d (render (write r))` runs the whole M1 reader of Model/MolText.lean: outer `strip`, `filterComments`,
`split("\n")`, per-line `strip`, then the line filters.  Props/C07.lean proves `read_write_*` on the lines; here
(a) every written line is shown to be free of `#` and newline and to begin and (but for the xyz title) end non-blank
    (from the record invariants `RecOk` / `XyzOk` alone — symbols are letters, labels are word characters, numbers are
    digits, sign, dot; the keywords are constants); the one free text printed is the xyz title (`name`),
    for which `Clean r.name` (no `#`, no newline) is a hypothesis,
(b) `textLines (render ls) = ls.map strip` for such lines (Lemmas/MolTextJoin.lean),
(c) the line-level theorems apply.
The result is `parseText d (render (write r)) = ok (project r)` for each dialect.  Outside: printed numbers are
parameters; tie to the code: C07Regex, C07Flow (M1), differential run (M1, M2).
-/
namespace QcelVerif.MolText

/-! ## (a) written lines are clean and tight: they are plain tokens (Props/C07.lean) joined by blanks -/

theorem plain_clean {c : Char} (h : plain c = true) : (c == '#') = false ∧ (c == '\n') = false :=
  ⟨beq_false_of_class h _ (by decide), beq_false_of_class h _ (by decide)⟩

theorem plain_not_wsbs {c : Char} (h : plain c = true) : isWsBs c = false := by
  simp only [plain, Bool.not_eq_true', Bool.or_eq_false_iff] at h
  simp [isWsBs, h.1.1]

theorem Tok.clean {t : Str} (h : Tok t) : Clean t := fun c hc => plain_clean (h.2 c hc)
theorem Tok.tight {t : Str} (h : Tok t) : Tight t := tight_of_all h.1 fun c hc => plain_not_wsbs (h.2 c hc)
theorem Blanks.clean {s : Str} (h : Blanks s) : Clean s := fun c hc => by rw [h.2 c hc]; decide

theorem joinToks_lineOk : ∀ (ps : List (Str × Str)) (t : Str), Tok t → (∀ p ∈ ps, Blanks p.1 ∧ Tok p.2) →
    Clean (joinToks t ps) ∧ Tight (joinToks t ps)
  | [], _, ht, _ => ⟨ht.clean, ht.tight⟩
  | (s, u) :: r, t, ht, h => by
    obtain ⟨hc, _, hl⟩ := joinToks_lineOk r u (h (s, u) (by simp)).2 fun p hp => h p (by simp [hp])
    exact ⟨clean_append (clean_append ht.clean (h (s, u) (by simp)).1.clean) hc,
      headOk_append_left _ (headOk_append_left _ ht.tight.1), lastOk_append_right _ hl⟩

theorem atomLine_lineOk (nuc : Str) (a : Atom) (hn : Tok nuc) (hx : CoordOk a.x) (hy : CoordOk a.y) (hz : CoordOk a.z) :
    Clean (atomLine nuc a) ∧ Tight (atomLine nuc a) := by
  rw [atomLine_eq_join]; exact joinToks_lineOk _ _ hn (atomFields_ok nuc a hx hy hz)

theorem cgmpLine_lineOk (c : IntS) (m : Str) (hc : IntOk c) (hm : DigitsOk m) :
    Clean (cgmpLine c m) ∧ Tight (cgmpLine c m) := by
  rw [cgmpLine_eq_join]; exact joinToks_lineOk _ _ (int_tok c hc) (cgmpFields_ok m hm)

/-! ### psi4 -/

theorem forall_mem_ite_nil {α} {p : α → Prop} {c : Prop} [Decidable c] {xs : List α} :
    (∀ l ∈ (if c then xs else []), p l) ↔ (c → ∀ l ∈ xs, p l) := by
  split <;> simp [*]

/-- for a record meeting `RecOk`, every line `writePsi4` prints is free of `#` and newline
and begins and ends with a non-blank character (the writer's tokens stay inside the reader's comment-free alphabet). -/
theorem written_psi4_clean (r : MolRec) (h : RecOk r) : ∀ l ∈ writePsi4 r, Clean l ∧ Tight l := by
  obtain ⟨hc, hm, _, hfr⟩ := h
  -- the writer's own structure: totals line, per fragment (marker, CHGMULT line) and atom lines, keyword lines
  simp only [writePsi4, fragLinesPsi4, List.forall_mem_cons, List.forall_mem_append, List.forall_mem_flatMap,
    forall_mem_ite_nil, List.forall_mem_map, List.not_mem_nil, false_imp_iff, implies_true, and_true]
  refine ⟨⟨⟨⟨cgmpLine_lineOk _ _ hc hm, fun f hf => ⟨fun _ => ⟨by decide, cgmpLine_lineOk _ _ (hfr f hf).1 (hfr f hf).2.1⟩,
    fun a ha => ?_⟩⟩, by cases r.bohr <;> decide⟩, fun _ => by decide⟩, fun _ => by decide⟩
  obtain ⟨hs, hlb, hx, hy, hz⟩ := (hfr f hf).2.2.2 a ha
  exact atomLine_lineOk _ a (nucPsi4_tok a hs hlb) hx hy hz

/-- lines that are all clean and non-blank come back from their rendered text, each stripped -/
theorem textLines_render_all (ls : List Str) (hc : ∀ l ∈ ls, Clean l) (hnb : ∀ l ∈ ls, NonBlank l) (hne : ls ≠ []) :
    textLines (render ls) = ls.map strip :=
  textLines_render ls hc (fun l hl => hnb l (List.mem_of_head? hl)) (fun l hl => hnb l (List.mem_of_getLast? hl)) hne

/-- lines that are clean and tight come back from their rendered text unchanged -/
theorem textLines_render_tight (ls : List Str) (h : ∀ l ∈ ls, Clean l ∧ Tight l) (hne : ls ≠ []) :
    textLines (render ls) = ls := by
  rw [textLines_render_all ls (fun l hl => (h l hl).1) (fun l hl => nonblank_of_tight (h l hl).2) hne]
  exact map_strip_tight fun l hl => (h l hl).2

theorem writePsi4_ne_nil (r : MolRec) : writePsi4 r ≠ [] := by
  intro h0; simp only [writePsi4, List.cons_append] at h0; cases h0

/-- the whole M1 reader (outer strip, filter_comments, line split, per-line strip, line
filters) on the TEXT `writePsi4` prints (`"\n".join(lines) + "\n"`) gives exactly `projectPsi4 r`. -/
theorem read_write_psi4_text (r : MolRec) (h : RecOk r) :
    parseText .psi4 (render (writePsi4 r)) = .ok (projectPsi4 r) := by
  rw [parseText_psi4, textLines_render_tight _ (written_psi4_clean r h) (writePsi4_ne_nil r)]
  exact read_write_psi4 r h

/-! ### xyz / xyz+ -/

def titleLine (r : MolRec) : Str := r.chg.str ++ ' ' :: r.mult ++ ' ' :: r.name
def line0 (natS : Str) (r : MolRec) : Str := natS ++ (if r.bohr then " au".toList else [])

theorem writeXyz_eq (natS : Str) (r : MolRec) :
    writeXyz natS r = line0 natS r :: titleLine r :: (allAtoms r).map fun a => atomLine (nucXyz a) a := rfl

theorem line0_lineOk (natS : Str) (r : MolRec) (hn : DigitsOk natS) : Clean (line0 natS r) ∧ Tight (line0 natS r) := by
  unfold line0
  cases r.bohr with
  | false => simpa using ⟨(digits_tok hn).clean, (digits_tok hn).tight⟩
  | true =>
    exact ⟨clean_append (digits_tok hn).clean (by decide), headOk_append_left _ (digits_tok hn).tight.1,
      lastOk_append_right _ (by decide)⟩

/-- the title line `int(chg) mult name` begins with the charge … -/
theorem titleLine_headOk (r : MolRec) (hc : IntOk r.chg) : (titleLine r).head?.map isWs = some false := by
  unfold titleLine
  rw [List.append_assoc]
  exact headOk_append_left _ (int_tok _ hc).tight.1

/-- … and is clean when the free-text `name` is -/
theorem titleLine_clean (r : MolRec) (hc : IntOk r.chg) (hm : DigitsOk r.mult) (hname : Clean r.name) :
    Clean (titleLine r) :=
  clean_append (clean_append (int_tok _ hc).clean (clean_cons (by decide) (digits_tok hm).clean)) (clean_cons (by decide) hname)

/-- for a record meeting `XyzOk` whose title text holds no `#` / newline, every line `writeXyz`
prints is free of `#` and newline and is not blank; all but the title line begin and end with a non-blank character. -/
theorem written_xyz_clean (natS : Str) (r : MolRec) (h : XyzOk natS r) (hname : Clean r.name) :
    (∀ l ∈ writeXyz natS r, Clean l ∧ NonBlank l) ∧
    (∀ a ∈ allAtoms r, Tight (atomLine (nucXyz a) a)) ∧ Tight (line0 natS r) := by
  obtain ⟨hn, hc, hm, ha⟩ := h
  have hat : ∀ a ∈ allAtoms r, Clean (atomLine (nucXyz a) a) ∧ Tight (atomLine (nucXyz a) a) := by
    intro a haa
    obtain ⟨hs, _, hx, hy, hz⟩ := ha a haa
    exact atomLine_lineOk _ a (nucXyz_tok a hs) hx hy hz
  refine ⟨?_, fun a haa => (hat a haa).2, (line0_lineOk natS r hn).2⟩
  intro l hl
  rw [writeXyz_eq, List.mem_cons, List.mem_cons, List.mem_map] at hl
  rcases hl with rfl | rfl | ⟨a, haa, rfl⟩
  · exact ⟨(line0_lineOk natS r hn).1, nonblank_of_tight (line0_lineOk natS r hn).2⟩
  · exact ⟨titleLine_clean r hc hm hname, nonblank_of_headOk (titleLine_headOk r hc)⟩
  · exact ⟨(hat a haa).1, nonblank_of_tight (hat a haa).2⟩

/-- the lines read back from the written xyz text: only the title line may lose trailing blanks -/
theorem textLines_writeXyz (natS : Str) (r : MolRec) (h : XyzOk natS r) (hname : Clean r.name) :
    textLines (render (writeXyz natS r))
      = line0 natS r :: strip (titleLine r) :: (allAtoms r).map fun a => atomLine (nucXyz a) a := by
  obtain ⟨hall, hat, h0⟩ := written_xyz_clean natS r h hname
  rw [textLines_render_all _ (fun l hl => (hall l hl).1) (fun l hl => (hall l hl).2) (List.cons_ne_nil _ _)]
  rw [writeXyz_eq, List.map_cons, List.map_cons, strip_tight h0, map_strip_tight (List.forall_mem_map.mpr hat)]

/-- `rstrip` of the title line keeps `chg mult` and leaves nothing or something starting with a blank -/
theorem strip_titleLine (r : MolRec) (hc : IntOk r.chg) (hm : DigitsOk r.mult) :
    ∃ x, strip (titleLine r) = r.chg.str ++ ' ' :: r.mult ++ x ∧ ∀ d ∈ x.head?, d.isDigit = false := by
  have hlast : (r.chg.str ++ ' ' :: r.mult).getLast?.map isWsBs = some false :=
    lastOk_append_right _ (lastOk_cons ' ' (digits_tok hm).tight.2)
  unfold strip
  rw [stripL_headOk (titleLine_headOk r hc)]
  unfold titleLine
  rcases blank_or_nonblank r.name with hb | hb
  · refine ⟨[], ?_, by simp⟩
    rw [stripR_ws_suffix _ (' ' :: r.name) (by
      intro c hc; rw [List.mem_cons] at hc; rcases hc with rfl | hc; decide; exact hb c hc)]
    simpa using stripR_lastOk hlast
  · refine ⟨' ' :: stripR r.name, ?_, stop_cons (by decide) _⟩
    have : r.chg.str ++ ' ' :: r.mult ++ ' ' :: r.name = (r.chg.str ++ ' ' :: r.mult ++ [' ']) ++ r.name := by simp
    rw [this, stripR_append_nonblank _ r.name hb]
    simp

/-- the xyz+ line reader on the written lines with the title line stripped -/
theorem read_lines_xyzplus_stripped (natS : Str) (r : MolRec) (h : XyzOk natS r) :
    parseXyzLines false (line0 natS r :: strip (titleLine r) :: (allAtoms r).map fun a => atomLine (nucXyz a) a)
      = .ok (projectXyzPlus r) := by
  obtain ⟨x, hx, hx'⟩ := strip_titleLine r h.2.1 h.2.2.1
  rw [hx]
  exact read_lines_xyzplus natS r h x hx'

/-- the whole M1 reader on the TEXT `writeXyz` prints, read as xyz+, gives
`projectXyzPlus r` (whatever the title text `name` is, as long as it holds no `#` and no newline). -/
theorem read_write_xyzplus_text (natS : Str) (r : MolRec) (h : XyzOk natS r) (hname : Clean r.name) :
    parseText .xyzPlus (render (writeXyz natS r)) = .ok (projectXyzPlus r) := by
  rw [parseText_xyzPlus, textLines_writeXyz natS r h hname]
  exact read_lines_xyzplus_stripped natS r h

/-- the whole M1 reader on the TEXT written for a ghost-free record in Angstrom, read under
the strict xyz dialect, gives `projectXyz r`. -/
theorem read_write_xyz_text (natS : Str) (r : MolRec) (h : XyzOk natS r) (hname : Clean r.name) (hb : r.bohr = false)
    (hreal : ∀ a ∈ allAtoms r, a.real = true) :
    parseText .xyz (render (writeXyz natS r)) = .ok (projectXyz r) := by
  rw [parseText_xyz, textLines_writeXyz natS r h hname]
  exact read_lines_xyz natS r h hb hreal _

/-! ## layout insensitivity at text level

A laid-out text is `p ++ "\n".join(line_i ++ optional "#comment_i") ++ q` with whitespace `p`, `q`.  Blank lines are
lines whose line part is blank (a comment-only line is one of them); blanks around a line are part of the line part. -/

/-- whitespace (blanks, tabs, empty lines, …) before and after ANY text changes nothing. -/
theorem parseText_frame (d : Dtype) (p s q : Str) (hp : ∀ c ∈ p, isWs c = true) (hq : ∀ c ∈ q, isWs c = true) :
    parseText d (p ++ s ++ q) = parseText d s := by
  unfold parseText; rw [textLines_frame p s q hp hq]

/-- side conditions on the lines of a laid-out text: line parts hold no `#` / newline, a commented line part does not
end in a backslash, comments hold no newline, the first and the last line part are not blank -/
def LayoutOk (ps : List (Str × Option Str)) : Prop :=
  ps ≠ [] ∧ (∀ p ∈ ps, ComOk p) ∧ (∀ p, ps.head? = some p → NonBlank p.1) ∧ (∀ p, ps.getLast? = some p → NonBlank p.1)

/-- the lines the reader sees in a laid-out text: the stripped line parts -/
theorem textLines_layout (ps : List (Str × Option Str)) (h : LayoutOk ps) (p q : Str)
    (hp : ∀ c ∈ p, isWs c = true) (hq : ∀ c ∈ q, isWs c = true) :
    textLines (p ++ joinLines (ps.map withCom) ++ q) = ps.map fun x => strip x.1 := by
  obtain ⟨hne, hc, hf, hl⟩ := h
  rw [textLines_frame p _ q hp hq, textLines_comments ps hc hf hl hne, List.map_map]
  rfl

theorem filter_blank_classify (xs : List Str) :
    (xs.map classify).filter (· != .blank)
      = ((xs.filter fun s => !s.isEmpty).map classify).filter (· != .blank) := by
  induction xs with
  | nil => rfl
  | cons x xs ih =>
    cases x with
    | nil => simpa [classify] using ih
    | cons c t => simp only [List.map_cons, List.filter_cons, List.isEmpty_cons, Bool.not_false, if_true, ih]

/-- the psi4 reader on a laid-out text sees the non-empty stripped line parts -/
theorem psi4_layout_lines (ps : List (Str × Option Str)) (h : LayoutOk ps) (p q : Str)
    (hp : ∀ c ∈ p, isWs c = true) (hq : ∀ c ∈ q, isWs c = true) :
    parseText .psi4 (p ++ joinLines (ps.map withCom) ++ q)
      = parsePsi4Lines (((ps.map fun x => strip x.1).filter fun s => !s.isEmpty).map classify) := by
  rw [parseText_psi4, textLines_layout ps h p q hp hq]
  exact blank_lines_insensitive_psi4 _ _ (filter_blank_classify _)

/-- the xyz readers on a laid-out text see the two stripped header line parts and, after them, the non-empty stripped
line parts -/
theorem xyz_layout_lines (strict : Bool) (p0 p1 : Str × Option Str) (body : List (Str × Option Str))
    (hl : LayoutOk (p0 :: p1 :: body)) (p q : Str) (hp : ∀ c ∈ p, isWs c = true) (hq : ∀ c ∈ q, isWs c = true) :
    parseXyzLines strict (textLines (p ++ joinLines ((p0 :: p1 :: body).map withCom) ++ q))
      = parseXyzLines strict
          (strip p0.1 :: strip p1.1 :: (body.map fun x => strip x.1).filter fun s => !s.isEmpty) := by
  rw [textLines_layout _ hl p q hp hq]
  exact blank_lines_insensitive_xyz strict _ _ _ _ (filter_blank_classify _)

/-- two laid-out psi4 texts with the same non-blank stripped line parts read alike —
comments after any line, comment-only and blank lines anywhere, blanks around lines and around the text do not matter. -/
theorem psi4_layout_insensitive (ps1 ps2 : List (Str × Option Str)) (h1 : LayoutOk ps1) (h2 : LayoutOk ps2)
    (h : (ps1.map fun x => strip x.1).filter (fun s => !s.isEmpty) = (ps2.map fun x => strip x.1).filter (fun s => !s.isEmpty))
    (p1 q1 p2 q2 : Str) (hp1 : ∀ c ∈ p1, isWs c = true) (hq1 : ∀ c ∈ q1, isWs c = true)
    (hp2 : ∀ c ∈ p2, isWs c = true) (hq2 : ∀ c ∈ q2, isWs c = true) :
    parseText .psi4 (p1 ++ joinLines (ps1.map withCom) ++ q1) = parseText .psi4 (p2 ++ joinLines (ps2.map withCom) ++ q2) := by
  rw [psi4_layout_lines ps1 h1 p1 q1 hp1 hq1, psi4_layout_lines ps2 h2 p2 q2 hp2 hq2, h]

/-- the same for xyz / xyz+ (`strict` = xyz): the two header lines keep their places
(their comments and surrounding blanks do not matter); after them only the non-blank stripped line parts matter. -/
theorem xyz_layout_insensitive (strict : Bool) (a0 a1 b0 b1 : Str × Option Str) (as bs : List (Str × Option Str))
    (h1 : LayoutOk (a0 :: a1 :: as)) (h2 : LayoutOk (b0 :: b1 :: bs))
    (e0 : strip a0.1 = strip b0.1) (e1 : strip a1.1 = strip b1.1)
    (h : (as.map fun x => strip x.1).filter (fun s => !s.isEmpty) = (bs.map fun x => strip x.1).filter (fun s => !s.isEmpty))
    (p1 q1 p2 q2 : Str) (hp1 : ∀ c ∈ p1, isWs c = true) (hq1 : ∀ c ∈ q1, isWs c = true)
    (hp2 : ∀ c ∈ p2, isWs c = true) (hq2 : ∀ c ∈ q2, isWs c = true) :
    parseXyzLines strict (textLines (p1 ++ joinLines ((a0 :: a1 :: as).map withCom) ++ q1))
      = parseXyzLines strict (textLines (p2 ++ joinLines ((b0 :: b1 :: bs).map withCom) ++ q2)) := by
  rw [xyz_layout_lines strict a0 a1 as h1 p1 q1 hp1 hq1, xyz_layout_lines strict b0 b1 bs h2 p2 q2 hp2 hq2, e0, e1, h]

/-- ANY laid-out text whose non-blank stripped line parts are the lines `writePsi4 r` prints
reads back as `projectPsi4 r`. -/
theorem psi4_text_layout (r : MolRec) (h : RecOk r) (ps : List (Str × Option Str)) (hl : LayoutOk ps)
    (hlines : (ps.map fun x => strip x.1).filter (fun s => !s.isEmpty) = writePsi4 r)
    (p q : Str) (hp : ∀ c ∈ p, isWs c = true) (hq : ∀ c ∈ q, isWs c = true) :
    parseText .psi4 (p ++ joinLines (ps.map withCom) ++ q) = .ok (projectPsi4 r) := by
  rw [psi4_layout_lines ps hl p q hp hq, hlines]
  exact read_write_psi4 r h

/-- (with `xyz_text_layout` below) ANY laid-out text whose two header line parts strip to the
written header lines and whose non-blank stripped body line parts are the written atom lines reads back as
`projectXyzPlus r` (xyz+) resp. `projectXyz r` (strict xyz, ghost-free Angstrom record). -/
theorem xyzplus_text_layout (natS : Str) (r : MolRec) (h : XyzOk natS r) (p0 p1 : Str × Option Str)
    (body : List (Str × Option Str)) (hl : LayoutOk (p0 :: p1 :: body))
    (e0 : strip p0.1 = line0 natS r) (e1 : strip p1.1 = strip (titleLine r))
    (hbody : (body.map fun x => strip x.1).filter (fun s => !s.isEmpty) = (allAtoms r).map fun a => atomLine (nucXyz a) a)
    (p q : Str) (hp : ∀ c ∈ p, isWs c = true) (hq : ∀ c ∈ q, isWs c = true) :
    parseText .xyzPlus (p ++ joinLines ((p0 :: p1 :: body).map withCom) ++ q) = .ok (projectXyzPlus r) := by
  rw [parseText_xyzPlus, xyz_layout_lines false p0 p1 body hl p q hp hq, e0, e1, hbody]
  exact read_lines_xyzplus_stripped natS r h

theorem xyz_text_layout (natS : Str) (r : MolRec) (h : XyzOk natS r) (hb : r.bohr = false)
    (hreal : ∀ a ∈ allAtoms r, a.real = true) (p0 p1 : Str × Option Str)
    (body : List (Str × Option Str)) (hl : LayoutOk (p0 :: p1 :: body))
    (e0 : strip p0.1 = line0 natS r) (e1 : strip p1.1 = strip (titleLine r))
    (hbody : (body.map fun x => strip x.1).filter (fun s => !s.isEmpty) = (allAtoms r).map fun a => atomLine (nucXyz a) a)
    (p q : Str) (hp : ∀ c ∈ p, isWs c = true) (hq : ∀ c ∈ q, isWs c = true) :
    parseText .xyz (p ++ joinLines ((p0 :: p1 :: body).map withCom) ++ q) = .ok (projectXyz r) := by
  rw [parseText_xyz, xyz_layout_lines true p0 p1 body hl p q hp hq, e0, e1, hbody]
  exact read_lines_xyz natS r h hb hreal _

/-! ### the layout hypotheses are met by the writers' own lines with arbitrary comments attached -/

/-- lines that are clean and tight (what the writers print), each with an arbitrary optional newline-free comment,
form a laid-out text whose non-blank stripped line parts are the lines themselves -/
theorem layout_of_written (ls : List Str) (hls : ∀ l ∈ ls, Clean l ∧ Tight l) (hne : ls ≠ [])
    (coms : List (Option Str)) (hlen : coms.length = ls.length)
    (hc : ∀ c, some c ∈ coms → ∀ x ∈ c, (x == '\n') = false) :
    LayoutOk (ls.zip coms) ∧ ((ls.zip coms).map fun x => strip x.1).filter (fun s => !s.isEmpty) = ls := by
  have hmem : ∀ p ∈ ls.zip coms, p.1 ∈ ls ∧ p.2 ∈ coms := fun p hp => List.of_mem_zip (a := p.1) (b := p.2) hp
  have hnb : ∀ p ∈ ls.zip coms, NonBlank p.1 := fun p hp => nonblank_of_tight (hls p.1 (hmem p hp).1).2
  refine ⟨⟨?_, ?_, fun p hp => hnb p (List.mem_of_head? hp), fun p hp => hnb p (List.mem_of_getLast? hp)⟩, ?_⟩
  · cases ls with
    | nil => exact absurd rfl hne
    | cons l ls =>
      cases coms with
      | nil => simp at hlen
      | cons c cs => simp
  · intro p hp
    obtain ⟨h1, h2⟩ := hmem p hp
    refine ⟨(hls p.1 h1).1, ?_⟩
    intro c hcc
    exact ⟨lastOr_of_lastOk (hls p.1 h1).2.2, hc c (hcc ▸ h2)⟩
  · have e1 : ((ls.zip coms).map fun x => strip x.1) = ls := by
      calc ((ls.zip coms).map fun x => strip x.1) = (ls.zip coms).map (fun x => x.1) :=
            List.map_congr_left (fun p hp => strip_tight (hls p.1 (hmem p hp).1).2)
        _ = ls := List.map_fst_zip (by omega)
    rw [e1, List.filter_eq_self]
    intro l hl
    obtain ⟨c, hcm, _⟩ := nonblank_of_tight (hls l hl).2
    cases l with
    | nil => cases hcm
    | cons _ _ => rfl

/-- the written psi4 text with an arbitrary `#comment` after any of its lines and
arbitrary whitespace (incl. empty lines) before and after still reads back as `projectPsi4 r`. -/
theorem read_write_psi4_text_comments (r : MolRec) (h : RecOk r) (coms : List (Option Str))
    (hlen : coms.length = (writePsi4 r).length) (hc : ∀ c, some c ∈ coms → ∀ x ∈ c, (x == '\n') = false)
    (p q : Str) (hp : ∀ c ∈ p, isWs c = true) (hq : ∀ c ∈ q, isWs c = true) :
    parseText .psi4 (p ++ joinLines (((writePsi4 r).zip coms).map withCom) ++ q) = .ok (projectPsi4 r) := by
  obtain ⟨h1, h2⟩ := layout_of_written (writePsi4 r) (written_psi4_clean r h) (writePsi4_ne_nil r) coms hlen hc
  exact psi4_text_layout r h _ h1 h2 p q hp hq

theorem head?_append_ne {α} (a b : List α) (ha : a ≠ []) : (a ++ b).head? = a.head? := by
  cases a with
  | nil => exact absurd rfl ha
  | cons x t => rfl

theorem getLast?_append_ne {α} (a b : List α) (hb : b ≠ []) : (a ++ b).getLast? = b.getLast? := by
  rcases List.eq_nil_or_concat b with rfl | ⟨ys, x, rfl⟩
  · exact absurd rfl hb
  · rw [List.concat_eq_append, ← List.append_assoc, List.getLast?_concat, List.getLast?_concat]

/-- a blank or comment-only line may be inserted between any two lines of a laid-out text -/
theorem layout_insert (pre post : List (Str × Option Str)) (b : Str × Option Str) (hb : ComOk b)
    (hbl : ∀ c ∈ b.1, isWs c = true) (hpre : pre ≠ []) (hpost : post ≠ []) (h : LayoutOk (pre ++ post)) :
    LayoutOk (pre ++ b :: post) ∧
    ((pre ++ b :: post).map fun x => strip x.1).filter (fun s => !s.isEmpty)
      = ((pre ++ post).map fun x => strip x.1).filter (fun s => !s.isEmpty) := by
  obtain ⟨_, hc, hf, hl⟩ := h
  refine ⟨⟨by simp, ?_, ?_, ?_⟩, ?_⟩
  · intro p hp
    simp only [List.mem_append, List.mem_cons] at hp
    rcases hp with hp | rfl | hp
    · exact hc p (by simp [hp])
    · exact hb
    · exact hc p (by simp [hp])
  · intro p hp
    rw [head?_append_ne _ _ hpre] at hp
    exact hf p (by rw [head?_append_ne _ _ hpre]; exact hp)
  · intro p hp
    have e1 : (pre ++ b :: post).getLast? = post.getLast? := by
      have : pre ++ b :: post = (pre ++ [b]) ++ post := by simp
      rw [this, getLast?_append_ne _ _ hpost]
    have e2 : (pre ++ post).getLast? = post.getLast? := getLast?_append_ne _ _ hpost
    exact hl p (by rw [e2, ← e1]; exact hp)
  · simp [List.filter_append, strip_of_ws b.1 hbl]

/-- inserting a blank or comment-only line between two lines of a laid-out psi4 text
does not change what is read -/
theorem psi4_insert_blank_line (pre post : List (Str × Option Str)) (b : Str × Option Str) (hb : ComOk b)
    (hbl : ∀ c ∈ b.1, isWs c = true) (hpre : pre ≠ []) (hpost : post ≠ []) (h : LayoutOk (pre ++ post)) :
    parseText .psi4 (joinLines ((pre ++ b :: post).map withCom)) = parseText .psi4 (joinLines ((pre ++ post).map withCom)) := by
  obtain ⟨h1, h2⟩ := layout_insert pre post b hb hbl hpre hpost h
  have := psi4_layout_insensitive _ _ h1 h h2 [] [] [] [] (by simp) (by simp) (by simp) (by simp)
  simpa using this

/-! ## non-vacuity (the record of Props/C07.lean: two fragments, a labelled ghost atom, title "x y") and tests -/

example : Clean exRec.name := by decide

/-- a ghost-free Angstrom record for the strict dialect -/
def exRecStrict : MolRec :=
  { exRec with frags := [⟨⟨false, "0".toList⟩, "1".toList, [exAtom2, exAtom2]⟩], bohr := false, name := [] }

example : XyzOk "2".toList exRecStrict ∧ Clean exRecStrict.name ∧ exRecStrict.bohr = false ∧
    ∀ a ∈ allAtoms exRecStrict, a.real = true := by decide

-- a comment list for the ten written psi4 lines of `exRec` (hypotheses of `read_write_psi4_text_comments`)
example : ([some " total".toList, none, none, none, none, some "#\\".toList, none, none, some [], none] :
    List (Option Str)).length = (writePsi4 exRec).length := by decide

-- tests (concrete texts): the pieces used above, evaluated
example : textLines "\n  0 1 # c\n\nHe 0 0 0 # x\n \n".toList = ["0 1".toList, [], "He 0 0 0".toList] := by decide
example : joinLines ["a".toList, [], "b".toList] = "a\n\nb".toList := by decide
example : withCom ("He 0 0 0 ".toList, some " c".toList) = "He 0 0 0 # c".toList := by decide

end QcelVerif.MolText
