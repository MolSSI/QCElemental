import QcelVerif.Model.MillSrc
import QcelVerif.Props.C13
import QcelVerif.Props.C13Calculus
/-!
# C13 — the source-derived `AlignmentMill` functions ARE the hand model

`Gen/MillSrc.lean` is regenerated from `qcelemental/models/align.py` on every run (one AST per
method, `harness/c13_src.py`); `Model/MillAst.lean` evaluates it.  This file proves, for ALL sizes
`n`, `m`, ALL recipes, ALL inputs and every scalar type with `+ - * neg 0 1`:

    evalMill genAST_<method> env = Mill.<method> (the hand model of Model/Mill.lean)

so every theorem of `Props/C13.lean` and `Props/C13Calculus.lean` transfers verbatim to the functions
read from the source; the headline ones are restated below over `Src.*`.

An edit of align.py that changes what a method computes changes its AST and breaks the
corresponding `src_*` proof below (the run reports the broken obligation and searches a failing
input); an edit the translator cannot read fails the translator loudly.
-/
namespace QcelVerif.Mill
open Src

section tie
variable {K : Type} [Add K] [Sub K] [Mul K] [Neg K] [OfNat K 0] [OfNat K 1]

/-- `align_coordinates`: forward transform for `reverse=False`, reverse transform for `reverse=True` -/
theorem src_align_coordinates {α : Type} {n m : Nat} (env : Env K α n m) :
    evalMill (genAST_align_coordinates n m) env =
      if env.reverse then Mill.alignCoordsRev env.r env.rows else Mill.alignCoords env.r env.rows := by
  obtain ⟨⟨sh, rot, map, mir⟩, rev, x, v, h, mu, ats⟩ := env
  cases mir <;> cases rev <;> rfl

/-- `align_atoms(ats)` = `ats[atommap]` -/
theorem src_align_atoms {α : Type} {n m : Nat} (env : Env K α n m) :
    evalMill (genAST_align_atoms n m) env = Mill.alignAtoms env.r.map env.atoms := rfl

/-- `align_vector(vec)` = `vec.dot(rotation)`, mirror flag not read -/
theorem src_align_vector {α : Type} {n m : Nat} (env : Env K α n m) :
    evalMill (genAST_align_vector n m) env = Mill.alignVector env.r env.vec := rfl

/-- `align_gradient(grad)`: mirror, rotate, permute (no shift) -/
theorem src_align_gradient {α : Type} {n m : Nat} (env : Env K α n m) :
    evalMill (genAST_align_gradient n m) env = Mill.alignGradient env.r env.rows := by
  obtain ⟨⟨sh, rot, map, mir⟩, rev, x, v, h, mu, ats⟩ := env
  cases mir <;> rfl

omit [Add K] [Sub K] [Mul K] in
/-- `np.diag([1.0, -1.0, 1.0])` of the source is the model's `diagMirror` -/
theorem diag3_mirror : (fun i j : Fin 3 =>
    if i = j then pick3 i (Lit.one.val : K) Lit.negOne.val Lit.one.val else 0) = diagMirror := by
  funext i j
  match i, j with
  | 0, 0 => rfl
  | 0, 1 => rfl
  | 0, 2 => rfl
  | 1, 0 => rfl
  | 1, 1 => rfl
  | 1, 2 => rfl
  | 2, 0 => rfl
  | 2, 1 => rfl
  | 2, 2 => rfl

/-- `align_hessian` (mirror on and off) -/
theorem src_align_hessian {α : Type} {n m : Nat} (env : Env K α n m) :
    evalMill (genAST_align_hessian n m) env = Mill.alignHessian env.r env.hess := by
  obtain ⟨⟨sh, rot, map, mir⟩, rev, x, v, h, mu, ats⟩ := env
  cases mir
  · rfl
  · simp only [evalMill, genAST_align_hessian, Expr.eval, Cond.val, Mill.alignHessian, hessFrame,
      diag3_mirror]
    rfl

/-- `align_vector_gradient(mu_derivatives)`: per atom `Rᵀ · ∂μ · R`, atoms read through the atom map -/
theorem src_align_vector_gradient {α : Type} {n : Nat} (env : Env K α n n) :
    evalMill (genAST_align_vector_gradient n) env = Mill.alignVectorGradient env.r env.mu := by
  funext a c
  match a with
  | 0 => rfl
  | 1 => rfl
  | 2 => rfl

/-- `align_system(geom, mass, elem, elez, uniq, reverse=rev)` returns
`(align_coordinates(geom, reverse=rev), align_atoms(mass), …, align_atoms(uniq))` of the hand model -/
theorem src_align_system {α : Type} {n m : Nat} (r : Recipe K n m) (rev : Bool) (geom : Geom K n)
    (mass elem elez uniq : Fin n → α) :
    genArity_align_system = 5 ∧
    genSys_align_system.map (evalSysComp r rev (fun k => match k with
        | 0 => .inl geom | 1 => .inr mass | 2 => .inr elem | 3 => .inr elez | _ => .inr uniq))
      = [some (.inl (if rev then Mill.alignCoordsRev r geom else Mill.alignCoords r geom)),
         some (.inr (Mill.alignAtoms r.map mass)), some (.inr (Mill.alignAtoms r.map elem)),
         some (.inr (Mill.alignAtoms r.map elez)), some (.inr (Mill.alignAtoms r.map uniq))] := by
  refine ⟨rfl, ?_⟩
  simp only [genSys_align_system, List.map, evalSysComp, alignCoordsKw, src_align_coordinates,
    Bool.true_and]
  rfl

/-- `align_mini_system(geom, uniq, reverse=rev)` returns
`(align_coordinates(geom, reverse=rev), align_atoms(uniq))` of the hand model -/
theorem src_align_mini_system {α : Type} {n m : Nat} (r : Recipe K n m) (rev : Bool) (geom : Geom K n)
    (uniq : Fin n → α) :
    genArity_align_mini_system = 2 ∧
    genSys_align_mini_system.map (evalSysComp r rev (fun k => match k with
        | 0 => .inl geom | _ => .inr uniq))
      = [some (.inl (if rev then Mill.alignCoordsRev r geom else Mill.alignCoords r geom)),
         some (.inr (Mill.alignAtoms r.map uniq))] := by
  refine ⟨rfl, ?_⟩
  simp only [genSys_align_mini_system, List.map, evalSysComp, alignCoordsKw, src_align_coordinates,
    Bool.true_and]
  rfl

/-- the eight methods the translator reads, in source order -/
theorem src_method_names : methodNames =
    ["align_coordinates", "align_atoms", "align_vector", "align_gradient", "align_hessian",
     "align_vector_gradient", "align_system", "align_mini_system"] := by decide

/-! ### the `Src.*` functions (each method's AST evaluated on its own argument) -/

theorem src_alignCoords_eq {n m : Nat} (r : Recipe K n m) : Src.alignCoords r = Mill.alignCoords r := by
  funext x
  unfold Src.alignCoords Src.alignCoordsKw; rw [src_align_coordinates]; rfl

theorem src_alignCoordsRev_eq {n m : Nat} (r : Recipe K n m) (x : Geom K n) :
    Src.alignCoordsRev r x = Mill.alignCoordsRev r x := by
  unfold Src.alignCoordsRev Src.alignCoordsKw; rw [src_align_coordinates]; rfl

theorem src_alignGradient_eq {n m : Nat} (r : Recipe K n m) (g : Geom K n) :
    Src.alignGradient r g = Mill.alignGradient r g := by
  unfold Src.alignGradient; rw [src_align_gradient]; rfl

theorem src_alignVector_eq {n m : Nat} (r : Recipe K n m) (v : Vec3 K) :
    Src.alignVector r v = Mill.alignVector r v := rfl

theorem src_alignHessian_eq {n m : Nat} (r : Recipe K n m) (h : Hess K n) :
    Src.alignHessian r h = Mill.alignHessian r h := by
  unfold Src.alignHessian; rw [src_align_hessian]; rfl

theorem src_alignVectorGradient_eq {n : Nat} (r : Recipe K n n) (mu : Fin 3 → Fin (n * 3) → K) :
    Src.alignVectorGradient r mu = Mill.alignVectorGradient r mu := by
  unfold Src.alignVectorGradient; rw [src_align_vector_gradient]; rfl

theorem src_alignAtoms_eq {α : Type} {n m : Nat} (map : Fin m → Fin n) (ats : Fin n → α) :
    Src.alignAtoms map ats = Mill.alignAtoms map ats := rfl

end tie

/-! ## Headline theorems over the source-derived functions -/

section headline
open Finset
variable {K : Type} [CommRing K]

/-- first-order energy changes are preserved by the source-derived gradient transform -/
theorem src_pairing_preserved {n m : Nat} (r : Recipe K n m) (hR : IsOrtho r.rot)
    (hmap : Function.Bijective r.map) (d g : Geom K n) :
    ∑ i, sum3 (fun a => J r d i a * Src.alignGradient r g i a) = ∑ i, sum3 (fun a => d i a * g i a) := by
  rw [src_alignGradient_eq]; exact pairing_preserved r hR hmap d g

/-- the Hessian bilinear form is preserved by the source-derived Hessian transform, mirror on and off -/
theorem src_hessian_form_preserved {n m : Nat} (r : Recipe K n m) (hR : IsOrtho r.rot)
    (hmap : Function.Bijective r.map) (H : Hess K n) (d e : Geom K n) :
    bilin (Src.alignHessian r H) (flat (J r d)) (flat (J r e)) = bilin H (flat d) (flat e) := by
  rw [src_alignHessian_eq]; exact hessian_form_preserved r hR hmap H d e

/-- polynomial pair energies: gradient and Hessian at the source-derived aligned geometry are the
source-derived aligned gradient and Hessian (all recipes, mirror included) -/
theorem src_energy_covariance {n m : Nat} (r : Recipe K n m) (hR : IsOrtho r.rot)
    (hmap : Function.Bijective r.map) (k c : Fin n → Fin n → K) (x : Geom K n) :
    gradE (permute r.map k) (permute r.map c) (Src.alignCoords r x) = Src.alignGradient r (gradE k c x) ∧
    hessE (permute r.map k) (permute r.map c) (Src.alignCoords r x) = Src.alignHessian r (hessE k c x) := by
  rw [src_alignCoords_eq, src_alignGradient_eq, src_alignHessian_eq]
  exact ⟨energy_gradient_covariance r hR hmap k c x, energy_hessian_covariance r hR hmap k c x⟩

omit [CommRing K] in
/-- per-atom arrays and coordinates use the same atom map in the source-derived functions -/
theorem src_atoms_same_map {α : Type} {n m : Nat} (r : Recipe K n m) (ats : Fin n → α) (i : Fin m) :
    Src.alignAtoms r.map ats i = ats (r.map i) := rfl

end headline

section calculus
open Filter Topology
variable {n m : Nat}

/-- over ℝ, for EVERY energy pair with `E'(align y) = E(y)` near `x` (source-derived `align`),
`E'` twice differentiable at the aligned geometry: gradient and Hessian arrays there are the
source-derived `align_gradient` / `align_hessian` of those at `x` (mirror on and off) -/
theorem src_gradient_hessian_covariance (r : Recipe ℝ n m) (hR : IsOrtho r.rot)
    (hinj : Function.Injective r.map) (E : Geom ℝ n → ℝ) (E' : Geom ℝ m → ℝ) (x : Geom ℝ n)
    (hinv : ∀ᶠ y in 𝓝 x, E' (Src.alignCoords r y) = E y)
    (hd1 : ∀ᶠ z in 𝓝 (Src.alignCoords r x), DifferentiableAt ℝ E' z)
    (hd2 : DifferentiableAt ℝ (fderiv ℝ E') (Src.alignCoords r x)) :
    grad E' (Src.alignCoords r x) = Src.alignGradient r (grad E x) ∧
    hess E' (Src.alignCoords r x) = Src.alignHessian r (hess E x) := by
  rw [src_alignGradient_eq, src_alignHessian_eq]
  rw [src_alignCoords_eq] at hinv hd1 hd2 ⊢
  exact ⟨gradient_covariance r hR hinj E E' x hinv hd1.self_of_nhds,
    hessian_covariance r hR hinj E E' x hinv hd1 hd2⟩

/-- over ℝ, mirror off: nuclear derivatives of every equivariant vector field transform by the
source-derived `align_vector_gradient` -/
theorem src_vector_gradient_covariance (r : Recipe ℝ n n) (hm : r.mirror = false) (hR : IsOrtho r.rot)
    (hinj : Function.Injective r.map) (μ μ' : Geom ℝ n → Vec3 ℝ) (x : Geom ℝ n)
    (hequi : ∀ᶠ y in 𝓝 x, μ' (Src.alignCoords r y) = Src.alignVector r (μ y))
    (hμ' : DifferentiableAt ℝ μ' (Src.alignCoords r x)) :
    vecGrad μ' (Src.alignCoords r x) = Src.alignVectorGradient r (vecGrad μ x) := by
  rw [src_alignVectorGradient_eq]
  rw [src_alignCoords_eq] at hequi hμ' ⊢
  exact vector_gradient_covariance r hm hR hinj μ μ' x hequi hμ'

/-- (non-vacuity of `src_gradient_hessian_covariance`) the polynomial pair energies with symmetric
couplings meet every hypothesis, on every recipe (mirror included) -/
example (r : Recipe ℝ n m) (hR : IsOrtho r.rot) (hmap : Function.Bijective r.map)
    (k c : Fin n → Fin n → ℝ) (hk : ∀ i j, k i j = k j i) (hc : ∀ i j, c i j = c j i) (x : Geom ℝ n) :
    grad (energy (permute r.map k) (permute r.map c)) (Src.alignCoords r x)
        = Src.alignGradient r (grad (energy k c) x)
    ∧ hess (energy (permute r.map k) (permute r.map c)) (Src.alignCoords r x)
        = Src.alignHessian r (hess (energy k c) x) :=
  src_gradient_hessian_covariance r hR hmap.1 (energy k c) (energy (permute r.map k) (permute r.map c)) x
    (Filter.Eventually.of_forall fun y => by
      rw [src_alignCoords_eq]; exact energy_invariant r hR hmap k c hk hc y)
    (twice_differentiable_of_contDiffAt (energy_contDiff _ _ 2).contDiffAt).1
    (twice_differentiable_of_contDiffAt (energy_contDiff _ _ 2).contDiffAt).2

/-- (non-vacuity of `src_vector_gradient_covariance`) the polynomial pair vector field meets every
hypothesis on every mirror-free recipe -/
example (r : Recipe ℝ n n) (hm : r.mirror = false) (hR : IsOrtho r.rot)
    (hmap : Function.Bijective r.map) (w : Fin n → Fin n → ℝ) (x : Geom ℝ n) :
    vecGrad (fieldMu (permute r.map w)) (Src.alignCoords r x)
      = Src.alignVectorGradient r (vecGrad (fieldMu w) x) :=
  src_vector_gradient_covariance r hm hR hmap.1 (fieldMu w) (fieldMu (permute r.map w)) x
    (Filter.Eventually.of_forall fun y => by
      rw [src_alignCoords_eq]; exact (field_covariance r hm hR hmap w y).1)
    ((fieldMu_contDiff (permute r.map w) 1).differentiable (by simp)).differentiableAt

end calculus

/-! ## `np_blockwise.py`: the source-derived view / reshape chains ARE the model's index maps -/

section blockwise

theorem memRC_eq {α : Type} {R C : Nat} (a : Fin R → Fin C → α) (k : Nat) (r : Fin R) (c : Fin C)
    (h : k = r.val * C + c.val) : memRC a k = some (a r c) := by
  obtain ⟨hdiv, hmod⟩ := divmod_of_eq h c.isLt
  unfold memRC
  rw [dif_pos ⟨c.pos, by rw [hdiv]; exact r.isLt⟩]
  congr 2
  · exact Fin.ext hdiv
  · exact Fin.ext hmod

/-- `blockwise_expand(a, (lr, lc), False)` as read from the source (asserts, `as_strided` shape and
strides evaluated on the memory of a C-contiguous `(gr*lr, gc*lc)` array): entry `[i,j,p,q]` of the
view exists and is the model's `blockwiseExpand a i j p q`, for every block shape and block count -/
theorem src_blockwise_expand {α : Type} {gr gc lr lc : Nat} (a : Fin (gr * lr) → Fin (gc * lc) → α)
    (i : Fin gr) (j : Fin gc) (p : Fin lr) (q : Fin lc) :
    evalExpand genAST_blockwise_expand a [lr, lc] [i.val, j.val, p.val, q.val]
      = some (blockwiseExpand a i j p q) := by
  have hm : memRC a (i.val * (gc * lc * lr) + (j.val * (1 * lc) + (p.val * (gc * lc) + (q.val * 1 + 0))))
      = some (a (idx i p) (idx j q)) := by
    apply memRC_eq
    simp only [idx]
    ring
  simp only [evalExpand, genAST_blockwise_expand, IVec.eval, List.zipWith, List.length, List.all,
    Nat.mul_mod_left, List.cons_append, List.nil_append, allLt, dotNat,
    Nat.mul_div_cancel _ p.pos, Nat.mul_div_cancel _ q.pos, hm]
  simp [i.isLt, j.isLt, p.isLt, q.isLt, blockwiseExpand]

/-- both asserts of `blockwise_expand` are still in the source -/
theorem src_blockwise_expand_asserts :
    genAST_blockwise_expand.assertContiguous = true ∧ genAST_blockwise_expand.assertAligned = true := by
  decide

theorem flat4_eq {α : Type} {gr gc lr lc : Nat} (b : Fin gr → Fin gc → Fin lr → Fin lc → α) (k : Nat)
    (i : Fin gr) (j : Fin gc) (p : Fin lr) (q : Fin lc)
    (h : k = ((i.val * gc + j.val) * lr + p.val) * lc + q.val) : flat4 b k = some (b i j p q) := by
  obtain ⟨h1, h2⟩ := divmod_of_eq h q.isLt
  obtain ⟨h3, h4⟩ := divmod_of_eq h1 p.isLt
  obtain ⟨h5, h6⟩ := divmod_of_eq h3 j.isLt
  unfold flat4
  rw [dif_pos ⟨q.pos, p.pos, j.pos, by rw [h5]; exact i.isLt⟩]
  congr 2
  · exact Fin.ext h5
  · exact Fin.ext h6
  · exact Fin.ext h4
  · exact Fin.ext h2

/-- `blockwise_contract(b)` as read from the source (reshape, reshape with an inferred `-1`,
`swapaxes(1,2)`, reshape - evaluated on the C-ordered memory of a `(gr,gc,lr,lc)` array): the result
has shape `(gr*lr, gc*lc)` and entry `[r,c]` is the model's `blockwiseContract b r c`.  Sizes
`gr, lr, lc > 0`: on an empty array numpy cannot infer the `-1` and raises, the evaluator likewise
(`none`), while the hand model returns the empty array - outside the property's quantifier. -/
-- FULL: the same for gr = 0, lr = 0 or lc = 0.  That statement is FALSE of the code: numpy raises
-- "cannot reshape array of size 0 into shape (0,newaxis,3,3)" (so does the evaluator) whereas the hand
-- model's `blockwiseContract` is the empty array; the tie holds for every non-empty array.
theorem src_blockwise_contract_partial {α : Type} {gr gc lr lc : Nat} (b : Fin gr → Fin gc → Fin lr → Fin lc → α)
    (hgr : 0 < gr) (hlr : 0 < lr) (hlc : 0 < lc) :
    ∃ f, evalContract genAST_blockwise_contract b = some ([gr * lr, gc * lc], f) ∧
      ∀ (r : Fin (gr * lr)) (c : Fin (gc * lc)),
        f (r.val * (gc * lc) + c.val) = some (blockwiseContract b r c) := by
  have hp1 : gr * gc * (lr * (lc * 1)) = gr * (gc * (lr * (lc * 1))) := by ring
  have hk : gr * (1 * (lr * (lc * 1))) ≠ 0 := by
    have := Nat.mul_pos hgr (Nat.mul_pos hlr hlc); simpa using Nat.pos_iff_ne_zero.mp this
  have hq : gr * gc * (lr * (lc * 1)) / (gr * (1 * (lr * (lc * 1)))) = gc := by
    have : gr * gc * (lr * (lc * 1)) = gc * (gr * (1 * (lr * (lc * 1)))) := by ring
    rw [this, Nat.mul_div_cancel _ (Nat.pos_of_ne_zero hk)]
  have hp3 : gr * lr * (gc * lc * 1) = gr * (lr * (gc * (lc * 1))) := by ring
  refine ⟨fun k => flat4 b (((k / lc / gc / lr * gc + k / lc % gc) * lr + k / lc / gc % lr) * lc + k % lc), ?_, ?_⟩
  · have s1 : applyOps (α := α) [gr, gc, lr, lc] [] genAST_blockwise_contract.outer ([gr, gc, lr, lc], flat4 b)
        = some ([gr * gc, lr, lc], flat4 b) := by
      simp only [genAST_blockwise_contract, applyOps, ViewOp.apply, reshapeArr, DimE.eval, List.getD,
        List.getElem?_cons_zero, List.getElem?_cons_succ, Option.getD_some, knownProd, countNeg1, prodNat,
        List.map, reduceCtorEq, ↓reduceIte]
      rw [if_neg (by decide), if_neg (fun h => absurd h.1 (by decide)), if_pos hp1]
      rfl
    have s2 : applyOps (α := α) [gr, gc, lr, lc] [gr * gc, lr, lc] genAST_blockwise_contract.inner
        ([gr * gc, lr, lc], flat4 b) = some ([gr * lr, gc * lc],
          fun k => flat4 b (((k / lc / gc / lr * gc + k / lc % gc) * lr + k / lc / gc % lr) * lc + k % lc)) := by
      simp only [genAST_blockwise_contract, applyOps, ViewOp.apply, reshapeArr, DimE.eval, List.getD,
        List.getElem?_cons_zero, List.getElem?_cons_succ, Option.getD_some, knownProd, countNeg1, prodNat,
        List.map, Nat.mul_div_cancel _ hlr, reduceCtorEq, ↓reduceIte]
      rw [if_neg (by decide), if_neg (by intro h; exact hk h.2), hq, if_pos (by ring)]
      simp only [Option.bind, swapArr, prodNat]
      rw [if_neg (by decide), if_neg (fun h => absurd h.1 (by decide))]
      simp only [hp3, ↓reduceIte]
    have hin : genAST_blockwise_contract.inRank = 4 := rfl
    have harg : genAST_blockwise_contract.argRank = 3 := rfl
    simp only [evalContract]
    rw [s1]
    simp only [hin, harg, Option.bind, List.length, s2, ne_eq, not_true_eq_false, if_false]
  · intro r c
    have hk0 : r.val * (gc * lc) + c.val = (r.val * gc + c.val / lc) * lc + c.val % lc := by
      have := Nat.div_add_mod c.val lc
      calc r.val * (gc * lc) + c.val = r.val * (gc * lc) + (lc * (c.val / lc) + c.val % lc) := by rw [this]
        _ = _ := by ring
    obtain ⟨h1, h2⟩ := divmod_of_eq hk0 (Nat.mod_lt _ hlc)
    obtain ⟨h3, h4⟩ := divmod_of_eq (k := r.val * gc + c.val / lc) rfl (blk_lt c)
    simp only [h1, h2, h3, h4]
    exact flat4_eq b _ (blk r) (blk c) (off r) (off c) rfl

/-- reordering into blocks and back is lossless for the SOURCE-derived functions: whatever array `b`
is read out of the source-derived `blockwise_expand` view of `a`, the source-derived
`blockwise_contract(b)` has the shape of `a` and the entries of `a` -/
-- FULL: without `0 < gr`, `0 < lr`, `0 < lc` (empty arrays: numpy's reshape(-1) raises, see above)
theorem src_blockwise_roundtrip_partial {α : Type} {gr gc lr lc : Nat} (a : Fin (gr * lr) → Fin (gc * lc) → α)
    (b : Fin gr → Fin gc → Fin lr → Fin lc → α) (hgr : 0 < gr) (hlr : 0 < lr) (hlc : 0 < lc)
    (hb : ∀ i j p q, evalExpand genAST_blockwise_expand a [lr, lc] [i.val, j.val, p.val, q.val]
      = some (b i j p q)) :
    ∃ f, evalContract genAST_blockwise_contract b = some ([gr * lr, gc * lc], f) ∧
      ∀ (r : Fin (gr * lr)) (c : Fin (gc * lc)), f (r.val * (gc * lc) + c.val) = some (a r c) := by
  have hbe : b = blockwiseExpand a := by
    funext i j p q
    have := hb i j p q
    rw [src_blockwise_expand] at this
    exact (Option.some.inj this).symm
  obtain ⟨f, hf, hrc⟩ := src_blockwise_contract_partial b hgr hlr hlc
  refine ⟨f, hf, fun r c => ?_⟩
  rw [hrc, hbe, blockwise_roundtrip]

/-- (non-vacuity of `src_blockwise_roundtrip_partial`) the hypothesis is satisfied by `b = blockwiseExpand a` -/
example {α : Type} {gr gc lr lc : Nat} (a : Fin (gr * lr) → Fin (gc * lc) → α) :
    ∀ i j p q, evalExpand genAST_blockwise_expand a [lr, lc] [i.val, j.val, p.val, q.val]
      = some (blockwiseExpand a i j p q) := fun i j p q => src_blockwise_expand a i j p q

/-- (non-vacuity of the size hypotheses, and a test) a (2,2,1,2) array is contracted to shape (2,4) -/
example : (evalContract genAST_blockwise_contract
    (fun (i : Fin 2) (j : Fin 2) (_ : Fin 1) (q : Fin 2) => i.val * 10 + j.val * 2 + q.val)).map (·.1)
    = some [2, 4] := by decide

/-- (test) a 2x2 grid of 1x2 blocks -/
example : evalExpand genAST_blockwise_expand (fun (r : Fin (2 * 1)) (c : Fin (2 * 2)) => r.val * 10 + c.val)
    [1, 2] [1, 1, 0, 1] = some 13 := by decide

end blockwise

/-! ## Non-vacuity and tests -/

/-- (non-vacuity) the hypotheses of the headline theorems hold for the mirrored, rotating,
permuting recipe `exRecipe` of Props/C13.lean -/
example : IsOrtho exRecipe.rot ∧ Function.Bijective exRecipe.map := ⟨exRecipe_ortho, exRecipe_bij⟩

/-- (test) the source-derived forward transform on `exRecipe`: atom 2 of the result is the image of
atom 0 = (5,5,5): reflect (5,-5,5), shift (4,-3,2), rotate (-3,-4,2) -/
example : Src.alignCoords exRecipe (fun i c => if i.val = 1 then ((c.val : ℤ) + 1) else 5) 2 1 = -4 := by
  decide

/-- (test) the source-derived `align_hessian` consults the mirror flag: on the one-atom recipe
`exRecipe1` (mirror on) it differs from `alignHessianOld`, which ignores it -/
example : Src.alignHessian exRecipe1 (fun s t => if s.val = 0 ∧ t.val = 1 then 1 else 0)
    ≠ alignHessianOld exRecipe1 (fun s t => if s.val = 0 ∧ t.val = 1 then 1 else 0) := by
  intro h
  have := congrFun (congrFun h ⟨1, by decide⟩) ⟨0, by decide⟩
  revert this; decide

end QcelVerif.Mill
