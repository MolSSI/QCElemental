import QcelVerif.Props.C07E2E
import QcelVerif.Props.C11
/-!
# C07 (b) — the record read back has the same canonical fields (C11), hence the same hash

`Props/C07E2E.lean` shows that a validated record `r` written as text and read back is `r` with the text's unit and the
printed coordinates (and without name / comment / connectivity / `input_units_to_au` / `fix_symmetry`).  Here the record is
looked at the way `Molecule.get_hash` looks at a molecule (`Model/Hash.lean`, C11): symbols, masses, charge, multiplicity,
real flags, geometry IN BOHR, fragments, fragment charges and multiplicities, connectivity — each through `float_prep`.

The geometry in bohr is a separate argument (`gB`): for a Bohr text it is the record's own `geom`, for an Angstrom text
`to_schema` multiplies by the Å→a₀ factor first (one more float operation, a parameter like `float()`).
-/
namespace QcelVerif.TextToMol
open QcelVerif QcelVerif.FromArrays QcelVerif.Hash

/-- the molecule `get_hash` sees for a validated record whose coordinates in bohr are `gB` -/
def molOfRec (r : Molrec) (gB : List Rat) : Hash.Mol :=
  { symbols := r.elem.map String.toList
    masses := some (r.mass.map Dbl.val)
    charge := .val (r.c : Rat)
    mult := r.m
    real := some r.real
    geometry := gB.map Dbl.val
    fragments := some (npSplit ((List.range r.elem.length).map fun (k : Nat) => (k : Int)) r.seps)
    fragCharges := some (r.fc.map fun (c : Int) => Dbl.val (c : Rat))
    fragMults := some r.fm
    connectivity := r.conn.map (·.map fun b => (⟨b.1, b.2.1, b.2.2⟩ : Hash.Bond)) }

/-- what a text round trip returns for `r` (`Props/C07E2E.lean`, conclusion of `read_write_validated_*`) -/
def readBack (r : Molrec) (units : List Char) (g : List Rat) (com orient : Bool) (symm : Option (List Char)) : Molrec :=
  { r with units := units, iutau := none, name := none, comment := none, conn := none, geom := g,
           fixCom := com, fixOrient := orient, fixSymm := symm }

/-- every printed coordinate has the same `float_prep` image (8 decimals, zero band) as the stored one -/
def SamePrep (fl : Rat → Rat) (gB gB' : List Rat) : Prop :=
  gB'.map (fun x => prepArr fl GEOMETRY_NOISE (.val x)) = gB.map (fun x => prepArr fl GEOMETRY_NOISE (.val x))

/-- **(b) same canonical fields.**  For a record without connectivity (no text format carries bonds): if every coordinate
read back has the same 8-decimal `float_prep` image as the stored one (`SamePrep`, in bohr), the molecule read back has the
same canonical hash fields as the original - whatever the text's unit, name, comment, frame flags were. -/
theorem roundtrip_same_canon {D} (P : Params D) (r : Molrec) (hconn : r.conn = none)
    (units : List Char) (g : List Rat) (com orient : Bool) (symm : Option (List Char))
    (gB gB' : List Rat) (h : SamePrep P.fl gB gB') :
    canon P (molOfRec (readBack r units g com orient symm) gB') = canon P (molOfRec r gB) := by
  apply canon_congr <;> try rfl
  · simpa [molOfRec, readBack, SamePrep, List.map_map, Function.comp_def] using h
  · simp [molOfRec, readBack, hconn]

/-- **(b) same hash** (C11 `hash_of_canon`). -/
theorem roundtrip_same_hash {D} (P : Params D) (r : Molrec) (hconn : r.conn = none)
    (units : List Char) (g : List Rat) (com orient : Bool) (symm : Option (List Char))
    (gB gB' : List Rat) (h : SamePrep P.fl gB gB') :
    hash P (molOfRec (readBack r units g com orient symm) gB') = hash P (molOfRec r gB) :=
  hash_of_canon P _ _ (roundtrip_same_canon P r hconn units g com orient symm gB gB' h)

/-- **When the printed precision is enough.**  If each coordinate read back differs from the stored one by at most
`10⁻¹⁰` bohr (a print with ≥ 10 decimals in bohr: `½·10⁻¹⁰ + ½ulp`), and the stored coordinate is not within `0.02·10⁻⁸` of
an 8-decimal rounding boundary (and below 2⁴⁵·10⁻⁸ in size), the two have the same `float_prep` image (C11 `round_stable`). -/
theorem printed_same_prep {fl : Rat → Rat} (hfl : FlOk fl) :
    ∀ (gB gB' : List Rat), List.Forall₂ (fun x x' => ∃ n : Int, |x * (10 : Rat) ^ 8| ≤ 2 ^ 45 - 1 ∧
        |x * (10 : Rat) ^ 8 - n| ≤ 48 / 100 ∧ |x' - x| * (10 : Rat) ^ 8 ≤ 1 / 100) gB gB' → SamePrep fl gB gB'
  | _, _, .nil => rfl
  | _, _, .cons (a := x) (b := x') ⟨n, hb, hn, hd⟩ t => by
      have ih := printed_same_prep hfl _ _ t
      unfold SamePrep at ih ⊢
      have h := (round_stable hfl 8 x (x' - x) n hb hn hd).2.2
      have hx : x + (x' - x) = x' := by ring
      rw [hx] at h
      simp only [List.map_cons, GEOMETRY_NOISE] at ih ⊢
      rw [ih, h]
-- FULL: the same for 8 and 9 printed decimals needs the margin `½·10⁻ᵖ` instead of `0.02·10⁻⁸`; `round_stable` is stated for
-- the 0.48 / 0.01 split only.  The harness oracle (`hash_stable`) demands hash equality under the exact margin for 8..14.

/-- non-vacuity (test): a coordinate 1.23456789012 printed with 10 decimals -/
example : List.Forall₂ (fun x x' => ∃ n : Int, |x * (10 : Rat) ^ 8| ≤ 2 ^ 45 - 1 ∧
    |x * (10 : Rat) ^ 8 - n| ≤ 48 / 100 ∧ |x' - x| * (10 : Rat) ^ 8 ≤ 1 / 100)
    [(123456789012 : Rat) / 10 ^ 11] [(12345678901 : Rat) / 10 ^ 10] := by
  refine .cons ⟨123456789, ?_, ?_, ?_⟩ .nil <;> norm_num [abs_le]

end QcelVerif.TextToMol
