import QcelVerif.Props.C17Factor
import QcelVerif.Lemmas.UnitLex
/-!
# C17 — the five unit TEXTS read as the unit expressions the factor model uses (link to C03's string front end)

`Model/RadiiFactor.lean` writes down by hand which unit expression each text of the quantifier denotes
(`LUnit.expr`: "pm" = pico·meter, …).  C03 has a model of the path a `str` argument takes through
`conversion_factor` (`Model/UnitText.lean`: pint's preprocessor, tokenizer, tree builder, `_eval_token`, and the
name resolution `get_name` over the NAME SET OF THE LIVE REGISTRY, regenerated on every run into
`Gen/UnitNames.lean` by `harness/c03.py:gen_unit_names`, which C17's TRANSLATORS call).  Here that model is
evaluated by the kernel on the five texts: each reads — both as pint evaluates it (`parseImpl`) and as it is
meant (`parseText`) — as exactly `LUnit.expr`, so `conversion_factor(<text>, <text>)` of C03's code model on
STRINGS (`convArgs (parseImpl reg) (convImpl cd)`, the definiens of `Units.Text.convImplText`) is the exact
ratio of `factor_is_si_ratio`.  (C03's 8869-spelling theorems are not imported: the five texts are
evaluated directly.)
-/
namespace QcelVerif.Radii
open QcelVerif.Units.Text

/-- (power of ten, table unit) of each text -/
def LUnit.pb : LUnit → Int × Units.Base
  | .bohr => (0, .bohr)
  | .angstrom => (0, .angstrom)
  | .pm => (-12, .meter)
  | .nm => (-9, .meter)
  | .m => (0, .meter)

theorem expr_eq_pb (u : LUnit) : u.expr = .unit u.pb.1 u.pb.2 := by cases u <;> rfl

/-- the front end's answer is exactly the prefixed table unit `(p, b)` -/
def isUnitExpr (p : Int) (b : Units.Base) : Except TErr Units.Expr → Bool
  | .ok (.unit p' b') => decide (p' = p) && decide (b' = b)
  | _ => false

theorem eq_of_isUnitExpr {p : Int} {b : Units.Base} {r : Except TErr Units.Expr} (h : isUnitExpr p b r = true) :
    r = .ok (.unit p b) := by
  unfold isUnitExpr at h
  split at h
  · next p' b' =>
    simp only [Bool.and_eq_true, decide_eq_true_eq] at h
    rw [h.1, h.2]
  · cases h

theorem unit_texts_chk :
    LUnit.all.all (fun u =>
      isUnitExpr u.pb.1 u.pb.2 (parseImpl Units.Gen.nameReg u.name) &&
      isUnitExpr u.pb.1 u.pb.2 (parseText Units.Gen.nameReg u.name)) = true := by decide +kernel

/-- **Each of the five unit texts is read as the unit expression the factor model assigns to it** — by pint's
own evaluation order and by the intended reading — over the regenerated registry name set ("pm" resolves to
pico + meter and to no other registry key, "m" to meter, "bohr" and "angstrom" to the units `ureg.py` /
`default_en.txt` define). -/
theorem unit_texts_parse (u : LUnit) :
    parseImpl Units.Gen.nameReg u.name = .ok u.expr ∧ parseText Units.Gen.nameReg u.name = .ok u.expr := by
  have h := unit_texts_chk
  rw [List.all_eq_true] at h
  have hu := h u (by cases u <;> simp [LUnit.all])
  simp only [Bool.and_eq_true] at hu
  rw [expr_eq_pb]
  exact ⟨eq_of_isUnitExpr hu.1, eq_of_isUnitExpr hu.2⟩

/-- **`conversion_factor(src_text, dst_text)` of C03's code model on strings is the exact SI ratio** for every
ordered pair of the five texts and every positive CODATA set: parse both strings (`parseImpl`), then the code
model `convImpl` (pint's container arithmetic and context graph) — equal to the SI model `conv` read on the
intended meaning of the texts. -/
theorem factor_of_texts {cd : Units.Codata} (hp : cd.Pos) (s d : LUnit) :
    convArgs (parseImpl Units.Gen.nameReg) (Units.convImpl cd) (.str s.name) (.str d.name) = .ok (lmag cd s / lmag cd d) ∧
    convArgs (parseText Units.Gen.nameReg) (Units.conv cd) (.str s.name) (.str d.name) = .ok (lmag cd s / lmag cd d) := by
  have hs := unit_texts_parse s
  have hd := unit_texts_parse d
  have hI : Units.convImpl cd s.expr d.expr = .ok (lmag cd s / lmag cd d) := by
    rw [convModel_is_convImpl hp, factor_is_si_ratio]
  have hC : Units.conv cd s.expr d.expr = .ok (lmag cd s / lmag cd d) := factor_is_si_ratio cd s d
  exact ⟨by rw [convArgs_str hs.1 hd.1, hI], by rw [convArgs_str hs.2 hd.2, hC]⟩

example : Units.Gen.codata2014.Pos ∧ Units.Gen.codata2018.Pos := ⟨Units.codata2014_pos, Units.codata2018_pos⟩

end QcelVerif.Radii
