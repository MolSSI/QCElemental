import QcelVerif.Model.Formula
import QcelVerif.Gen.SrcConsts
/-!
# C15 — the literals of `Model/Formula.lean` are those of `molecular_formula.py`

Inline in the model: the two supported orders and their spellings (`parseOrder`), the default order, the Hill rule's
`"C"` then `"H"` (`fromSymbols`), "a count is printed only above 1" (`render`).  `Gen/SrcConsts.lean` is rewritten on
every run from `qcelemental/molutil/molecular_formula.py` (by `ast`).  Core Lean only.
-/
namespace QcelVerif.Formula
open QcelVerif

/-- the model reads exactly the source's `supported_orders` (in its order), and the default of both functions -/
theorem orders_match_source :
    Src.molecular_formula_from_symbols.supported_orders.map parseOrder = [some .alphabetical, some .hill] ∧
    parseOrder Src.molecular_formula_from_symbols.order = some .alphabetical ∧
    Src.order_molecular_formula.order = Src.molecular_formula_from_symbols.order ∧
    (∀ s : String, (String.ofList (s.toList.map lowerC)) ∉ Src.molecular_formula_from_symbols.supported_orders →
      parseOrder s = none) := by
  refine ⟨by decide, by decide, by decide, ?_⟩
  intro s hs
  have hl : Src.molecular_formula_from_symbols.supported_orders = ["alphabetical", "hill"] := by decide
  rw [hl] at hs
  simp only [List.mem_cons, List.not_mem_nil, or_false, not_or] at hs
  simp [parseOrder, hs.1, hs.2]

/-- test (non-vacuity): "Hill " (trailing blank) is not a supported order -/
example : (String.ofList ("Hill ".toList.map lowerC)) ∉ Src.molecular_formula_from_symbols.supported_orders := by decide

/-- `if c > k: ret.append(str(c))` and the implicit count of a symbol without digits, with the source's `k = 1` -/
theorem count_rule_matches_source (k : String) (n : Nat) :
    render [(k, n)] = (if n > Src.molecular_formula_from_symbols.count_shown_above.toNat then k ++ toString n else k) ∧
    Src.order_molecular_formula.implicit_count = 1 := by
  have h : Src.molecular_formula_from_symbols.count_shown_above.toNat = 1 := by decide
  rw [h]
  refine ⟨?_, by decide⟩
  simp [render, String.join]

/-- Hill order puts the source's two symbols first, in the source's order -/
theorem hill_symbols_match_source (syms : List String) :
    fromSymbols syms .hill =
      render (tokens strLe (Src.molecular_formula_from_symbols.hill_first.getD 0 "") (Src.molecular_formula_from_symbols.hill_first.getD 1 "")
        .hill (syms.map title)) := by
  have h0 : Src.molecular_formula_from_symbols.hill_first.getD 0 "" = "C" := by decide
  have h1 : Src.molecular_formula_from_symbols.hill_first.getD 1 "" = "H" := by decide
  rw [h0, h1]
  rfl

end QcelVerif.Formula
