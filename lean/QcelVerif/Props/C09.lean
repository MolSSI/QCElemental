import QcelVerif.Lemmas.MolSchema
import QcelVerif.Lemmas.Schema
/-!
C09 — property theorems.

(a) `emit_conforms` (`Model/Schema.lean`): whatever in-memory value inhabits a declared type, the JSON emitted for it
    (unset / None fields dropped, keys by alias, arrays flattened) validates against the schema
    generated for that type — for every environment of declarations, every type, every value.  With it: the root
    form `root_conforms`, what acceptance by a closed model schema implies (`validate_closed_object_sound`),
    `owner_is_named_field`, and the model-level form of known finding C09-basis-uniqueItems.
(b) further down (namespace `QcelVerif.MolSchema`, `Model/MolSchema.lean`): the record-level theorems about
    `to_schema` / `from_schema` — `roundtrip_args`, `schema_roundtrip`, the exported geometry and fragments, the
    refusal of non-contiguous patterns.
(c), `Molecule.__init__` / `dict()` around the schema functions, is in `Props/C09Dict.lean`.
-/
namespace QcelVerif.Schema

section conform
variable (Δ : Env)

theorem zipAll_conforms {rec : Val → Ty → Bool} {R : Schema → Json → Bool}
    (hR : ∀ v t, rec v t = true → R (schemaOf t) (emit Δ v) = true) :
    ∀ (xs : List Val) (ts : List Ty), zipAll rec xs ts = true →
      xs.length = ts.length ∧ allZip R (schemaOfList ts) (emitList Δ xs) = true
  | [], [] => by intro _; simp [allZip, schemaOfList, emitList]
  | [], _ :: _ => by intro h; simp [zipAll] at h
  | _ :: _, [] => by intro h; simp [zipAll] at h
  | x :: xs, t :: ts => by
    intro h
    simp only [zipAll, Bool.and_eq_true] at h
    obtain ⟨ih1, ih2⟩ := zipAll_conforms hR xs ts h.2
    simp [allZip, schemaOfList, emitList, ih1, ih2, hR x t h.1]

theorem emitFields_all (m : String) (P : String × Json → Bool) (fs : List (String × Val))
    (h : ∀ kv ∈ fs, dropped kv.2 = false → P (aliasOf Δ m kv.1, emit Δ kv.2) = true) :
    (emitFields Δ m fs).all P = true := by
  rw [emitFields_eq, List.all_map, List.all_eq_true]
  intro kv hkv
  rw [List.mem_filter] at hkv
  exact h kv hkv.1 (by simpa using hkv.2)

theorem hasKey_emitFields (m a : String) (fs : List (String × Val)) :
    hasKey a (emitFields Δ m fs) = fs.any fun kv => !dropped kv.2 && aliasOf Δ m kv.1 == a := by
  simp [hasKey, emitFields_eq, List.any_filter]

/- one validation step with its keyword checks spelt out: what the cases below evaluate on the schema of a type -/
attribute [local simp] validateStep chkType typeOk chkEnum chkPattern chkNum chkArr chkRequired chkItems chkProps

/-- **C09 (a), all declarations, all types, all values.**  If the in-memory value `v` inhabits the
declared type `ty` (witnessed with any amount of fuel `n`), then the JSON emitted for `v`
validates against the schema generated for `ty`, relative to the `definitions` generated for the
same declarations. -/
theorem emit_conforms : ∀ (n : Nat) (v : Val) (ty : Ty), hasType Δ n v ty = true →
    validate (defsOf Δ) (3 * n) (schemaOf ty) (emit Δ v) = true
  | 0, _, _ => by intro h; simp [hasType] at h
  | n + 1, v, ty => by
    intro h0
    have ih := emit_conforms n
    have h : hasTypeStep Δ (hasType Δ n) v ty = true := h0
    clear h0
    show validateStep (defsOf Δ) (validate (defsOf Δ) (3 * n + 2)) (schemaOf ty) (emit Δ v) = true
    -- the recursive calls, at the three fuel levels that occur below
    have hR0 : ∀ v t, hasType Δ n v t = true → validate (defsOf Δ) (3 * n) (schemaOf t) (emit Δ v) = true := ih
    have hR1 : ∀ v t, hasType Δ n v t = true → validate (defsOf Δ) (3 * n + 1) (schemaOf t) (emit Δ v) = true :=
      fun v t hv => validate_mono _ (by omega) _ _ (ih v t hv)
    have hR2 : ∀ v t, hasType Δ n v t = true → validate (defsOf Δ) (3 * n + 2) (schemaOf t) (emit Δ v) = true :=
      fun v t hv => validate_mono _ (by omega) _ _ (ih v t hv)
    cases ty with
    | any => simp only [schemaOf]; exact validateStep_empty _ _ _
    | bool =>
      cases v <;> simp [hasTypeStep] at h
      simp [schemaOf, emit]
    | int lo =>
      cases v <;> simp [hasTypeStep] at h
      simp [schemaOf, emit, h, optGe]
    | float lo hi =>
      cases v <;> simp [hasTypeStep] at h
      · simp [schemaOf, emit, h]
      · simp [schemaOf, emit, h]
    | str =>
      cases v <;> simp [hasTypeStep] at h
      simp [schemaOf, emit]
    | strPat p =>
      cases v <;> simp [hasTypeStep] at h
      simp [schemaOf, emit, h]
    | lit vals =>
      cases v <;> simp only [hasTypeStep, Bool.false_eq_true] at h
      simp only [schemaOf, emit]
      exact validateStep_strEnum _ _ vals _ h
    | enumRef e =>
      cases v <;> simp only [hasTypeStep, Bool.false_eq_true] at h
      rename_i s
      cases hd : lookupDecl Δ e with
      | none => simp [hd] at h
      | some d =>
        cases d with
        | model _ _ _ => simp [hd] at h
        | enum nm vals =>
          simp only [hd] at h
          simp only [schemaOf, emit]
          refine validateStep_ref _ _ e (declSchema (.enum nm vals)) _ (by simp [assoc_defsOf, hd]) ?_
          show validateStep _ _ (declSchema (.enum nm vals)) _ = true
          simp only [declSchema]
          exact validateStep_strEnum _ _ vals s h
    | list t mn uq =>
      cases v <;> simp only [hasTypeStep, Bool.false_eq_true] at h
      rename_i xs
      simp only [Bool.and_eq_true, List.all_eq_true] at h
      obtain ⟨⟨h1, h2⟩, h3⟩ := h
      have hitems : (emitList Δ xs).all (validate (defsOf Δ) (3 * n + 2) (schemaOf t)) = true := by
        rw [emitList_eq_map, List.all_map, List.all_eq_true]
        exact fun x hx => hR2 x t (h1 x hx)
      have hlen : (emitList Δ xs).length = xs.length := by simp [emitList_eq_map]
      simp [schemaOf, emit, hitems, hlen, h2, optMaxLen]
      simpa using h3
    | tuple ts =>
      cases v <;> simp only [hasTypeStep, Bool.false_eq_true] at h
      rename_i xs
      obtain ⟨hl, hz⟩ := zipAll_conforms Δ (R := validate (defsOf Δ) (3 * n + 2)) hR2 xs ts h
      have hlen : (emitList Δ xs).length = ts.length := by simp [emitList_eq_map, hl]
      simp [schemaOf, emit, hz, hlen, optMinLen, optMaxLen]
    | dict t =>
      cases v <;> simp only [hasTypeStep, Bool.false_eq_true] at h
      rename_i kvs
      rw [List.all_eq_true] at h
      have hprops : (emitKvs Δ kvs).all (chkProp (validate (defsOf Δ) (3 * n + 2))
          { type := some .object, addlSchema := if t.isAny then none else some (schemaOf t) }) = true := by
        rw [emitKvs_eq_map, List.all_map, List.all_eq_true]
        intro kv hkv
        by_cases ha : t.isAny = true
        · simp [chkProp, assoc, ha]
        · simp [chkProp, assoc, ha, hR2 kv.2 t (h kv hkv)]
      simp [schemaOf, emit, hprops]
    | array dt =>
      cases v <;> simp only [hasTypeStep, Bool.false_eq_true] at h
      rename_i shape flat
      simp only [Bool.and_eq_true, List.all_eq_true, Bool.not_eq_true'] at h
      obtain ⟨hs, hf⟩ := h
      have hitems : (emitList Δ flat).all (validate (defsOf Δ) (3 * n + 2) (dtSchema dt)) = true := by
        rw [emitList_eq_map, List.all_map, List.all_eq_true]
        intro x hx
        exact validateStep_dt _ _ Δ dt x (hf x hx)
      simp [schemaOf, emit, hs, hitems, optMinLen, optMaxLen]
    | model m =>
      cases v <;> simp only [hasTypeStep, Bool.false_eq_true] at h
      rename_i m' fs
      simp only [Bool.and_eq_true, beq_iff_eq] at h
      obtain ⟨hm, h⟩ := h
      subst hm
      cases hd : lookupDecl Δ m with
      | none => simp [hd] at h
      | some d =>
        cases d with
        | enum _ _ => simp [hd] at h
        | model nm fields extra =>
          simp only [hd, Bool.and_eq_true] at h
          obtain ⟨hfs, hreq⟩ := h
          have halias : ∀ k, aliasOf Δ m k = aliasIn fields k := by intro k; simp [aliasOf, hd]
          simp only [schemaOf, emit]
          refine validateStep_ref _ _ m (declSchema (.model nm fields extra)) _ (by simp [assoc_defsOf, hd]) ?_
          show validateStep (defsOf Δ) (validate (defsOf Δ) (3 * n + 1)) (declSchema (.model nm fields extra)) _ = true
          -- required keys are present
          have hrequired : ((fields.filter (fun f => f.required)).map (fun f => f.alias)).all
              (fun r => hasKey r (emitFields Δ m fs)) = true := by
            rw [List.all_map, List.all_eq_true]
            intro f hf
            simp only [requiredOk, List.all_eq_true] at hreq
            have := hreq f hf
            show hasKey f.alias (emitFields Δ m fs) = true
            rw [hasKey_emitFields]
            simpa [halias] using this
          -- every emitted entry validates against its property schema (or is an allowed extra)
          have hprops : (emitFields Δ m fs).all (chkProp (validate (defsOf Δ) (3 * n + 1))
              (declSchema (.model nm fields extra))) = true := by
            apply emitFields_all
            intro kv hkv hnd
            rw [List.all_eq_true] at hfs
            have hf := hfs kv hkv
            simp only [fieldOk, hnd, Bool.false_or] at hf
            simp only [chkProp, declSchema, halias, assoc_map]
            cases hfind : fields.find? (fun f => aliasIn fields kv.1 = f.alias) with
            | none =>
              simp only [hfind] at hf
              simp [hf]
            | some f =>
              simp only [hfind] at hf
              simp only [Option.map_some]
              by_cases hw : f.wrap = true
              · simp only [fieldSchema, hw, if_true]
                exact validateStep_allOf1 _ _ _ _ (hR0 kv.2 f.ty hf)
              · simp only [fieldSchema, hw]
                exact hR1 kv.2 f.ty hf
          simp only [validateStep, declSchema, chkType, typeOk, chkEnum, chkPattern_absent, chkNum_absent,
            chkArr_absent, chkItems_absent, chkRequired, hrequired, chkProps, List.all_nil, List.isEmpty_nil,
            Bool.and_self, Bool.true_or, Bool.true_and]
          exact hprops
    | union ts =>
      simp only [hasTypeStep] at h
      have h : ts.any (fun t => hasType Δ n v t) = true := by
        cases v <;> simpa [hasTypeStep] using h
      simp only [schemaOf]
      apply validateStep_anyOf
      rw [schemaOfList_eq_map, List.any_map]
      exact any_mono ts (fun t ht => hR2 v t ht) h

end conform

/-- the root form: the exported root schema of model `m` is `declSchema` of its declaration (not a `$ref`) -/
theorem root_conforms (Δ : Env) (n : Nat) (m : String) (fs : List (String × Val)) (d : Decl)
    (hd : lookupDecl Δ m = some d) (h : hasType Δ n (.obj m fs) (.model m) = true) :
    validate (defsOf Δ) (3 * n) (declSchema d) (emit Δ (.obj m fs)) = true := by
  cases n with
  | zero => simp [hasType] at h
  | succ k =>
    have hc := emit_conforms Δ (k + 1) _ _ h
    have hc : validateStep (defsOf Δ) (validate (defsOf Δ) (3 * k + 2)) (schemaOf (.model m)) (emit Δ (.obj m fs)) = true := hc
    simp only [schemaOf, validateStep, assoc_defsOf, hd, Option.map_some] at hc
    exact validate_mono _ (by omega) _ _ hc

/-- the validator is not vacuous: an object accepted against a closed (`extra = "forbid"`) model schema has
only keys that are aliases of declared fields, and has every required alias -/
theorem validate_closed_object_sound (defs : List (String × Schema)) (n : Nat) (nm : String)
    (fields : List Field) (kvs : List (String × Json))
    (h : validate defs (n + 1) (declSchema (.model nm fields false)) (.obj kvs) = true) :
    (∀ kv ∈ kvs, ∃ f ∈ fields, f.alias = kv.1) ∧
    (∀ f ∈ fields, f.required = true → hasKey f.alias kvs = true) := by
  have h : validateStep defs (validate defs n) (declSchema (.model nm fields false)) (.obj kvs) = true := h
  simp only [validateStep, declSchema, Bool.and_eq_true] at h
  obtain ⟨⟨⟨⟨⟨_, hreq⟩, _⟩, _⟩, _⟩, hprops⟩ := h
  constructor
  · intro kv hkv
    simp only [chkProps, List.all_eq_true] at hprops
    have := hprops kv hkv
    simp only [chkProp, assoc_map] at this
    cases hf : fields.find? (fun f => kv.1 = f.alias) with
    | none => simp [hf] at this
    | some f =>
      refine ⟨f, List.mem_of_find?_eq_some hf, ?_⟩
      have := List.find?_some hf
      exact (by simpa using this : kv.1 = f.alias).symm
  · intro f hf hr
    simp only [chkRequired, List.all_eq_true, List.mem_map, List.mem_filter] at hreq
    exact hreq f.alias ⟨f, ⟨hf, hr⟩, rfl⟩

theorem find_alias_unique : ∀ (fields : List Field) (f : Field),
    nodupS (fields.map (·.alias)) = true → f ∈ fields →
    fields.find? (fun g => f.alias = g.alias) = some f
  | [], _, _, hf => by simp at hf
  | g :: t, f, hnd, hf => by
    simp only [List.map_cons, nodupS, Bool.and_eq_true, Bool.not_eq_true'] at hnd
    rcases List.mem_cons.mp hf with rfl | hft
    · simp
    · have hne : f.alias ≠ g.alias := by
        intro heq
        have hmem : g.alias ∈ t.map (·.alias) := heq ▸ List.mem_map_of_mem hft
        have := hnd.1
        simp only [List.contains_eq_mem, decide_eq_false_iff_not] at this
        exact this hmem
      rw [List.find?_cons]
      simp only [hne, decide_false]
      exact find_alias_unique t f hnd.2 hft

/-- for a well-formed declaration (distinct aliases) the field that owns the key an entry is written
under is the field the entry is named after: `fieldOk` types `(k, v)` by the field named `k` -/
theorem owner_is_named_field (fields : List Field) (k : String) (f : Field)
    (hwf : nodupS (fields.map (·.alias)) = true)
    (hf : fields.find? (fun g => k = g.name) = some f) :
    fields.find? (fun g => aliasIn fields k = g.alias) = some f := by
  have ha : aliasIn fields k = f.alias := by simp [aliasIn, hf]
  rw [ha]
  exact find_alias_unique fields f hwf (List.mem_of_find?_eq_some hf)

theorem rejects_dup_zero (defs : List (String × Schema)) :
    Rejects defs (schemaOf (.list (.int (some 0)) (some 1) true)) (.arr [.int 0, .int 0]) := .here fun rec => by
  simp [validateStep, schemaOf, chkArr, uniqueJ, Json.beq, chkType, typeOk, chkEnum, chkPattern, chkNum, optMinLen, optMaxLen]

/-- KNOWN FINDING `C09-basis-uniqueItems`, proved on the model: `[0, 0]` inhabits the declared type of
`ElectronShell.angular_momentum` (`List[NonnegativeInt]`, `min_items=1`: basis.py:27-29), but the schema
published for that field carries `uniqueItems: true` (schema_extra, basis.py:43) and rejects the emitted
JSON at every fuel. -/
theorem uniqueItems_counterexample :
    hasType [] 2 (.list [.int 0, .int 0]) (.list (.int (some 0)) (some 1) false) = true ∧
    ∀ n, validate [] n (schemaOf (.list (.int (some 0)) (some 1) true)) (emit [] (.list [.int 0, .int 0])) = false := by
  exact ⟨by decide, Rejects.sound (rejects_dup_zero [])⟩

/-! non-vacuity (tests): a model with an aliased optional array field, an unset field, an extra-free object -/
def exEnv : Env :=
  [.model "M" [⟨"a_", "a", .array .float, false, false⟩, ⟨"n", "n", .int (some 0), true, false⟩,
               ⟨"p", "p", .model "P", false, true⟩] false,
   .model "P" [⟨"c", "c", .str, true, false⟩] true]
def exVal : Val :=
  .obj "M" [("a_", .arr [2] [.num 1, .num 2]), ("n", .int 3), ("p", .unset .null)]

example : hasType exEnv 2 exVal (.model "M") = true := by decide

end QcelVerif.Schema

/-!
(b) translation stability, record level (`Model/MolSchema.lean`).
-/
namespace QcelVerif.MolSchema

section
variable {K : Type}

/-- the part of `fromSchemaArgs` after the version sniffing -/
def bodyOf (ms : MolDict K) : Except Err (FAArgs K) :=
  match ms.symbols, ms.geometry with
  | some symbols, some geometry =>
    let pat := match ms.fragments with
      | some p => p
      | none => [arange symbols.length]
    contiguize pat geometry ms.massNumbers ms.atomicNumbers (some symbols) ms.masses ms.real ms.atomLabels >>= fun dc =>
    match dc.elem with
    | some elem =>
      pure { geom := dc.geom, elea := dc.elea, elez := dc.elez, elem := elem, mass := dc.mass,
             real := dc.real, elbl := dc.elbl, name := ms.name, fixCom := ms.fixCom, fixOri := ms.fixOri,
             fixSym := ms.fixSym, seps := dc.seps, fragCharges := ms.fragCharges, fragMults := ms.fragMults,
             charge := ms.charge, mult := ms.mult, comment := ms.comment, connectivity := ms.connectivity }
    | none => .error .key
  | _, _ => .error .key

theorem fromSchemaArgs_eq (d : SchemaDict K) : fromSchemaArgs d = sniff d >>= bodyOf := rfl

end

section roundtrip
variable {K : Type} [Mul K] (dflt : K) (fg : List String → String)

theorem sniff_toSchema (r : Molrec K) (v : Version) : sniff (toSchema dflt fg r v) = .ok (molDict dflt fg r) := by
  cases v <;> simp [toSchema, sniff] <;> decide

theorem exportGeom_length (r : Molrec K) : (exportGeom dflt r).length = r.geom.length := by
  unfold exportGeom
  cases r.units <;> cases r.iutau <;> simp

theorem molDict_inBohr (r : Molrec K) : molDict dflt fg (inBohr dflt fg r) = molDict dflt fg r := by
  have hl : (inBohr dflt fg r).geom.length = r.geom.length := exportGeom_length dflt r
  unfold molDict
  rw [hl]
  rfl

/-- what `from_schema` hands to `from_arrays` for a dictionary written by `to_schema` (version 1 or 2)
is exactly the record's own data: every array unchanged and in order, the separators recovered from the
fragment pattern, the geometry as exported. -/
theorem roundtrip_args (r : Molrec K) (hinv : Inv r) (v : Version) :
    fromSchemaArgs (toSchema dflt fg r v) = .ok (argsOf dflt fg r) := by
  have hn : r.geom.length / 3 = r.elem.length := by have := hinv.geom3; omega
  have hc := contiguize_patternOf (K := K) r.elem.length r.seps hinv.sepsSorted hinv.sepsLe
    (exportGeom dflt r) (by rw [exportGeom_length]; exact hinv.geom3)
    (some r.elea) (some r.elez) (some r.elem) (some r.mass) (some r.real) (some r.elbl)
    (by simp [lenOk, hinv.elea]) (by simp [lenOk, hinv.elez]) (by simp [lenOk]) (by simp [lenOk, hinv.mass])
    (by simp [lenOk, hinv.real]) (by simp [lenOk, hinv.elbl])
  rw [fromSchemaArgs_eq, sniff_toSchema]
  show bodyOf (molDict dflt fg r) = _
  simp only [bodyOf, molDict, hn]
  rw [show (npSplit (List.range r.elem.length) r.seps).map (fun x => x.map Int.ofNat) = patternOf r.elem.length r.seps from rfl, hc]
  rfl

/-- **schema_roundtrip** (versions 1 and 2): if `from_arrays` returns an invariant-satisfying record
unchanged when asked to rebuild it from its own data (C04's idempotence, a parameter here: hypothesis `hfa`), then
`from_schema (to_schema r v)` is the record itself, stored in Bohr.  `hfa` is discharged for the C04 model of
`from_arrays` by `c09_roundtrip_discharged` (`Props/C04SchemaBridge.lean`). -/
theorem schema_roundtrip (fa : FAArgs K → Except Err (Molrec K)) (r : Molrec K) (hinv : Inv r) (v : Version)
    (hfa : fa (argsOf dflt fg r) = .ok (inBohr dflt fg r)) :
    fromSchema fa (toSchema dflt fg r v) = .ok (inBohr dflt fg r) := by
  simp [fromSchema, roundtrip_args dflt fg r hinv v, bind, Except.bind, hfa]

/-- a record already stored in Bohr (and named) comes back identical -/
theorem schema_roundtrip_bohr (fa : FAArgs K → Except Err (Molrec K)) (r : Molrec K) (hinv : Inv r) (v : Version)
    (hu : r.units = .bohr) (hi : r.iutau = none) (nm : String) (hnm : r.name = some nm)
    (hfa : fa (argsOf dflt fg r) = .ok r) :
    fromSchema fa (toSchema dflt fg r v) = .ok r := by
  have : inBohr dflt fg r = r := by
    cases r
    simp_all [inBohr, exportGeom, nameOf]
  exact this ▸ schema_roundtrip dflt fg fa r hinv v (this ▸ hfa)

/-- **exported_geometry_bohr**: the exported geometry is the stored geometry times the Bohr factor:
1 (untouched) if stored in Bohr, the record's own `input_units_to_au` if present, else the default. -/
theorem exported_geometry_bohr (r : Molrec K) (v : Version) :
    let md := match v with | .v1 => (toSchema dflt fg r v).molecule.getD emptyDict | .v2 => (toSchema dflt fg r v).top
    md.geometry = some (match r.units with
      | .bohr => r.geom
      | .angstrom => r.geom.map (· * r.iutau.getD dflt)) := by
  cases v <;> cases hu : r.units <;> cases hi : r.iutau <;>
    simp [toSchema, molDict, exportGeom, hu, hi]

/-- fragments are written from the separators: consecutive blocks that list every atom exactly once,
in order, and whose block ends are the separators -/
theorem exported_fragments (r : Molrec K) (hinv : Inv r) :
    (molDict dflt fg r).fragments = some (patternOf r.elem.length r.seps) ∧
    (patternOf r.elem.length r.seps).flatten = arange r.elem.length ∧
    cumsumFrom 0 ((patternOf r.elem.length r.seps).map List.length) = r.seps ++ [r.elem.length] := by
  have hn : r.geom.length / 3 = r.elem.length := by have := hinv.geom3; omega
  exact ⟨by simp [molDict, hn, patternOf], patternOf_flatten _ _ hinv.sepsSorted hinv.sepsLe,
    patternOf_cumsum _ _ hinv.sepsSorted hinv.sepsLe⟩

end roundtrip

/-- refusal instead of repair: a pattern of two or more fragments whose concatenation is not
`0, 1, …, nat-1` (atoms skipped, repeated, or fragments interleaved) is a ValidationError -/
theorem contiguize_refuses_noncontiguous {K : Type} (p1 p2 : List Int) (ptl : List (List Int)) (geom : List K)
    (elea elez : Option (List Int)) (elem : Option (List String)) (mass : Option (List K))
    (real : Option (List Bool)) (elbl : Option (List String))
    (h : (p1 :: p2 :: ptl).flatten ≠ arange (p1 :: p2 :: ptl).flatten.length) :
    contiguize (p1 :: p2 :: ptl) geom elea elez elem mass real elbl = .error .validation := by
  have hnat : (cumsumFrom 0 ((p1 :: p2 :: ptl).map List.length)).getLast? = some (p1 :: p2 :: ptl).flatten.length := by
    rw [List.map_cons, cumsumFrom_getLast, List.length_flatten]
    simp
  unfold contiguize
  simp only [hnat]
  generalize (p1 :: p2 :: ptl).flatten = cat at h ⊢
  by_cases h1 : (sortInts cat != arange cat.length) = true
  · rw [if_pos h1]
  · rw [if_neg h1, if_pos (by simpa using h)]

/-! non-vacuity (tests): a two-fragment Angstrom record satisfies `Inv`; its version-2 dictionary -/
def exRec : Molrec Int :=
  { units := .angstrom, iutau := some 2, geom := [0, 0, 0, 0, 0, 1, 5, 0, 0], elea := [16, 1, 4], elez := [8, 1, 2],
    elem := ["O", "H", "He"], mass := [16, 1, 4], real := [true, false, true], elbl := ["a", "", "x"], seps := [2],
    fragCharges := [0, 0], fragMults := [1, 1], charge := 0, mult := 1, fixCom := true, fixOri := false,
    fixSym := none, name := none, comment := none, connectivity := some [(0, 1, 1)] }

example : Inv exRec :=
  { geom3 := by decide, nonempty := by decide, elea := by decide, elez := by decide, mass := by decide,
    real := by decide, elbl := by decide, sepsSorted := by decide, sepsLe := by decide }

example : (toSchema 7 (fun _ => "f") exRec .v2).top.geometry = some [0, 0, 0, 0, 0, 2, 10, 0, 0] := by decide
example : (toSchema 7 (fun _ => "f") exRec .v2).top.fragments = some [[0, 1], [2]] := by decide
example : (match fromSchemaArgs (toSchema 7 (fun _ => "f") exRec .v1) with
    | .ok a => decide (a = argsOf 7 (fun _ => "f") exRec)
    | .error _ => false) = true := by decide
/-- interleaved fragments are refused -/
example : (match contiguize (K := Int) [[0, 2], [1]] [0,0,0, 0,0,1, 5,0,0] none none none none none none with
    | .error .validation => true
    | _ => false) = true := by decide
end QcelVerif.MolSchema
