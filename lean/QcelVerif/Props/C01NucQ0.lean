import QcelVerif.Props.C01NucRow
/-! C01: quarter 0 of the nuclide table (`C01Nuclides` assembles the four quarters). -/
namespace QcelVerif.PT
open QcelVerif
theorem tree_rows_q0 : Gen.PT.nuclidesQ0.all treeRowOk = true := by decide +kernel
theorem nuclides_resolve_q0 : Gen.PT.nuclidesQ0.all nuclideRowOk = true :=
  all_of_all₂ (p₁ := spelledOk) (by decide +kernel) tree_rows_q0 fun _ => nuclideRowOk_of
theorem nuclides_anycase_q0 : Gen.PT.nuclidesQ0.all nuclideRowAnycaseOk = true :=
  all_mono _ (fun _ => nuclideRowAnycaseOk_of) nuclides_resolve_q0
theorem masses_float_q0 : Gen.PT.nuclidesQ0.all massFloatOk = true := by rw [massFloatOk_eq]; decide +kernel
end QcelVerif.PT
