import QcelVerif.Props.C02Pred
import QcelVerif.Props.C02Nist2018
/-! C02: table-wide theorems about `PhysicalConstantsContext("CODATA2018").pc`. -/
namespace QcelVerif.Constants
open QcelVerif

def renamesOk (pc : PC) : Bool :=
  allPairs (renameOk pc Gen.Codata2014.shipped Gen.Codata2018.shipped) renameMap

def pcChecks2018 (pc : PC) : Bool :=
  (allRows (rowEntryOk pc Gen.Codata2018.doi) Gen.Codata2018.shipped && aliasChecks pc) &&
  (renamesOk pc && derivedChecks pc)

/-- the rows follow from `shipped_eq_nist_2018` by `rows_retrievable`; what is evaluated for them is that no published key is
one of `lateKeys` -/
theorem pcChecks2018_holds : withPC pc2018 pcChecks2018 = true := by
  have rest : withPC pc2018 (fun pc => aliasChecks pc && (renamesOk pc && derivedChecks pc)) = true := by
    unfold pc2018 buildPC; rw [loadRows_2018]; decide +kernel
  refine withPC_of_some rest fun pc hpc h => ?_
  simp only [pcChecks2018, Bool.and_eq_true] at h ⊢
  exact ⟨⟨rows_retrievable Codata.shipped_eq_nist_2018 keys_ascending_2018 (by decide +kernel) hpc, h.1⟩, h.2⟩

/-- **Every published 2018 constant is retrievable** under its lower-cased NIST name (hence under any
casing) with label = NIST name, the shipped unit, `Decimal(value)` digit for digit, comment
`uncertainty=<u>` and the set's doi — and by `shipped_eq_nist_2018` these are NIST's.  In
particular none of the 26 legacy names or 30 aliases added later overwrites a published row. -/
theorem constants_retrievable_2018 :
    withPC pc2018 (fun pc => allRows (rowEntryOk pc Gen.Codata2018.doi) Gen.Codata2018.shipped) = true :=
  withPC_and_left (withPC_and_left pcChecks2018_holds)

/-- **The 27 convenience aliases follow the documented definitions (2018)** — same statement as
`aliases_follow_spec_2014`, where the documentation's 2014 names (`Planck constant over 2 pi`,
`electric constant`, `molar Planck constant times c`) denote the legacy entries of the 2018 context. -/
theorem aliases_follow_spec_2018 : withPC pc2018 aliasChecks = true :=
  withPC_and_right (withPC_and_left pcChecks2018_holds)

/-- **The 26 renamed constants stay retrievable under their 2014 names with the 2018 values**: for
every pair of the rename map the old name (a published 2014 name, absent from the 2018 table)
retrieves a Datum labelled with the old name whose Decimal, units, comment and doi are those of the
2018 entry of the new name (a published 2018 name). -/
theorem renames_2018 : withPC pc2018 renamesOk = true :=
  withPC_and_left (withPC_and_right pcChecks2018_holds)

/-- **The three constants NIST dropped after 2014 follow their definitions on 2018 values**:
`molar Planck constant times c` = N_A h · c exactly; `Faraday constant for conventional electric
current` = F / C_90 and `elementary charge over h` = (e/ħ)/(2·π₃₆) in decimal arithmetic digit for
digit and within 2·10⁻²⁷ (relative) of the exact quotient. -/
theorem legacy_derived_2018 : withPC pc2018 derivedChecks = true :=
  withPC_and_right (withPC_and_right pcChecks2018_holds)

/-- test (not a property): the rename map has 26 entries, the alias table 27, the derived table 3 -/
example : renameMap.length = 26 ∧ aliasSpec.length = 27 ∧ derived2018.length = 3 ∧ exactAliases.length = 24 := by decide

end QcelVerif.Constants
