import QcelVerif.Props.C12Unique
/-!
# C12 — quantitative recovery of the SHIFT (the exact statement is `motion_unique` of `Props/C12Unique.lean`)

Setting (the code's conventions, as in `Props/C12Unique.lean`): the second geometry is `c = r·A + t` atom by atom
(`A` proper), the recipe is applied as `aligned = (c − T)·U` (`alignCoords`, models/align.py:82-83; `U` proper) and
`kabsch_align` returns `T = c̄ − U r̄` (align.py:497).  Write `dev r = aligned r − r` for the residual of atom `r`,
`r̄` for the centroid of the reference and `d̄ = dev r̄` for the residual of the centroid, which is the mean of the
residuals because the composite map is affine (`mean_residual_eq`).  Then

`T − t = r̄·(A − Uᵀ) − d̄·Uᵀ` (`shift_error_eq`, an identity): the shift error is the rotation error applied to the
reference centroid plus the (rotated back) centroid residual.  The centred residual `|dev r − d̄|²` equals
`|ρ·A − ρ·Uᵀ|²` with `ρ = r − r̄` (`centred_residual_nrm2`), the quantity `recovery_rotation_close` of
`Props/C12Unique.lean` bounds the rotation error with (`R₁ = A`, `R₂ = Uᵀ`).  Hence, with centred residual² ≤ e2 on every
atom, `|ρ|² ≤ L2` and margin `m > 0`:  `|T − t| ≤ 4·L·ε·|r̄|/√m + |d̄|` (`recovery_shift_close`, stated without square
roots as `|T − t|² ≤ (X + Y)²` for all `X, Y ≥ 0` with `16·L2·e2·|r̄|² ≤ m·X²`, `|d̄|² ≤ Y²`), and from the single
number `|dev r|² ≤ e2` on every atom (uncentred):  `|T − t| ≤ 8·L·ε·|r̄|/√m + ε` (`recovery_shift_close_uniform`).
`recovery_rotation_close` speaks of `|v|² ≤ 1`; over ℚ a vector cannot be normalised, so the form used here is
`rotation_error_on_vector` (beside it in `Props/C12Unique.lean`), which carries the factor `|w|²` along.

Everything holds over every linearly ordered field (ℚ, where the driver runs, and ℝ); no square roots.

What this means for the property: the bounds hold for ANY recipe `(U, T)` with `U` proper — a small residual (RMSD ≈ 0)
on a non-collinear molecule FORCES rotation and shift to be close to the applied ones.  On molecules with a positive
margin the clause "rotation/shift are those applied" is therefore a consequence of the clause "RMSD is zero to numerical
precision", with the tolerance scaled by `4L|r̄|/√m`.
-/
namespace QcelVerif.Kabsch
variable {K : Type}

section Ring
variable [CommRing K]

/-- the recipe applied to the moved copy of `r`: `((r·A + t) − T)·U` (models/align.py:82-83 on `c = r·A + t`) -/
def alignedOf (A U : M3 K) (t T r : V3 K) : V3 K := rowMul (((rowMul r A).add t).sub T) U

/-- residual of one atom: `aligned − reference` -/
def devOf (A U : M3 K) (t T r : V3 K) : V3 K := (alignedOf A U t T r).sub r

/-- the composite of motion and recipe is the affine map `r ↦ r·(A U) + (t − T)·U` -/
theorem alignedOf_affine (A U : M3 K) (t T r : V3 K) :
    alignedOf A U t T r = (rowMul r (A.mul U)).add (rowMul (t.sub T) U) :=
  rowMul_moved_sub A U t T r

/-- **the shift error** (identity, any point `p` in place of the centroid): with `d = dev p`,
    `T − t = p·A − p·Uᵀ − d·Uᵀ`.  Only `U Uᵀ = I` is used. -/
theorem shift_error_eq (A U : M3 K) (hoU : U.mul U.transpose = M3.one) (t T p : V3 K) :
    T.sub t = ((rowMul p A).sub (rowMul p U.transpose)).sub (rowMul (devOf A U t T p) U.transpose) := by
  rw [devOf, alignedOf, rowMul_sub, rowMul_rowMul_transpose hoU]
  ext <;> simp only [V3.sub, V3.add] <;> ring

/-- the centred residual is the rotation error on the centred position vector, rotated by `U`:
    `dev r − dev p = ((r − p)·A − (r − p)·Uᵀ)·U` -/
theorem centred_residual_eq (A U : M3 K) (hU : IsRot U) (t T r p : V3 K) :
    (devOf A U t T r).sub (devOf A U t T p)
      = rowMul ((rowMul (r.sub p) A).sub (rowMul (r.sub p) U.transpose)) U := by
  rw [rowMul_sub, rowMul_transpose_rowMul hU, ← rowMul_mul, ← rowMul_add_sub _ (rowMul (t.sub T) U),
    ← alignedOf_affine, ← alignedOf_affine]
  ext <;> simp only [devOf, V3.sub] <;> ring

/-- … and therefore has the same length: `|dev r − dev p|² = |(r − p)·A − (r − p)·Uᵀ|²` -/
theorem centred_residual_nrm2 (A U : M3 K) (hU : IsRot U) (t T r p : V3 K) :
    ((devOf A U t T r).sub (devOf A U t T p)).nrm2
      = ((rowMul (r.sub p) A).sub (rowMul (r.sub p) U.transpose)).nrm2 := by
  rw [centred_residual_eq A U hU, nrm2_rowMul hU]

end Ring

section Ordered
variable [Field K] [LinearOrder K] [IsStrictOrderedRing K]

/-- the mean of the residuals is the residual of the centroid (the composite map is affine):
    `centroid (aligned atoms) − centroid (reference) = dev r̄` -/
theorem mean_residual_eq (A U : M3 K) (t T : V3 K) (Rg : List (V3 K)) (hne : Rg ≠ []) :
    (centroid (Rg.map (alignedOf A U t T))).sub (centroid Rg) = devOf A U t T (centroid Rg) := by
  have hfun : Rg.map (alignedOf A U t T)
      = Rg.map (fun r => (rowMul r (A.mul U)).add (rowMul (t.sub T) U)) :=
    List.map_congr_left (fun r _ => alignedOf_affine A U t T r)
  rw [hfun, centroid_moved (A.mul U) (rowMul (t.sub T) U) Rg hne, devOf, alignedOf_affine]

/-- triangle inequality without square roots: `|x|² ≤ P`, `|y|² ≤ Q`, `P·Q ≤ W²`, `W ≥ 0`  ⇒  `|x + y|² ≤ P + 2W + Q`
    (Cauchy–Schwarz bounds the cross term `x·y` by `W`) -/
theorem nrm2_add_le (x y : V3 K) (P Q W : K) (hW : 0 ≤ W) (hx : x.nrm2 ≤ P) (hy : y.nrm2 ≤ Q) (hPQ : P * Q ≤ W ^ 2) :
    (x.add y).nrm2 ≤ P + 2 * W + Q := by
  have hd : x.dot y ^ 2 ≤ W ^ 2 :=
    (dot_sq_le x y).trans ((mul_le_mul hx hy (V3.nrm2_nonneg _) ((V3.nrm2_nonneg _).trans hx)).trans hPQ)
  have hxy := (abs_le_of_sq_le_sq' hd hW).2
  have e : (x.add y).nrm2 = x.nrm2 + 2 * x.dot y + y.nrm2 := by
    simp only [V3.nrm2, V3.add, V3.dot]; ring
  linarith

/-- `|x|² ≤ X²`, `|y|² ≤ Y²`, `X, Y ≥ 0`  ⇒  `|x + y|² ≤ (X + Y)²` -/
theorem nrm2_add_le_sq (x y : V3 K) (X Y : K) (hX : 0 ≤ X) (hY : 0 ≤ Y) (hx : x.nrm2 ≤ X ^ 2) (hy : y.nrm2 ≤ Y ^ 2) :
    (x.add y).nrm2 ≤ (X + Y) ^ 2 :=
  (nrm2_add_le x y _ _ (X * Y) (mul_nonneg hX hY) hx hy (mul_pow X Y 2).ge).trans_eq (by ring)

theorem nrm2_sub_le_sq (x y : V3 K) (X Y : K) (hX : 0 ≤ X) (hY : 0 ≤ Y) (hx : x.nrm2 ≤ X ^ 2) (hy : y.nrm2 ≤ Y ^ 2) :
    (x.sub y).nrm2 ≤ (X + Y) ^ 2 := by
  rw [sub_eq_add_smul_neg]
  apply nrm2_add_le_sq x _ X Y hX hY hx
  rw [nrm2_smul]
  linarith

/-! ## the shift -/

/-- the two-atom core (meant for the two atoms attaining the exact margin `g = maxCross2`: `L2` the larger of their
    square norms, `e2` a bound of their centred residuals): for any two centred position vectors `a`, `b`
    with `|a|², |b|² ≤ L2`, `|a·A − a·Uᵀ|², |b·A − b·Uᵀ|² ≤ e2`, `g = |a × b|² > 0`, and ANY point `p` (the reference
    centroid) with residual `d = dev p`:  `|T − t|² ≤ (X + Y)²` whenever `16·L2·e2·|p|² ≤ g·X²`, `|d|² ≤ Y²`. -/
theorem recovery_shift_close_on_two (A U : M3 K) (hoA : A.mul A.transpose = M3.one) (hdA : A.det = 1)
    (hoU : U.mul U.transpose = M3.one) (hdU : U.det = 1) (t T p a b : V3 K) (L2 e2 : K)
    (haL : a.nrm2 ≤ L2) (hbL : b.nrm2 ≤ L2)
    (hae : ((rowMul a A).sub (rowMul a U.transpose)).nrm2 ≤ e2)
    (hbe : ((rowMul b A).sub (rowMul b U.transpose)).nrm2 ≤ e2)
    (hg : 0 < cross2 a b) (X Y : K) (hX : 0 ≤ X) (hY : 0 ≤ Y)
    (hXb : 16 * L2 * e2 * p.nrm2 ≤ cross2 a b * X ^ 2) (hYb : (devOf A U t T p).nrm2 ≤ Y ^ 2) :
    (T.sub t).nrm2 ≤ (X + Y) ^ 2 := by
  have hU : IsRot U := ⟨hoU, hdU⟩
  have hUT : IsRot U.transpose := hU.transpose
  have hrot := rotation_close_of_close_on_two_any A U.transpose hoA hdA hUT.orth hUT.det a b L2 e2 haL hbL hae hbe hg p
  rw [shift_error_eq A U hoU t T p]
  apply nrm2_sub_le_sq _ _ X Y hX hY
  · exact le_of_mul_le_mul_left (le_trans hrot hXb) hg
  · rw [nrm2_rowMul hUT]; exact hYb

/-- **quantitative shift recovery.**  Reference `Rg` (non-empty), second geometry `c = r·A + t`, recipe
    `aligned = (c − T)·U`, `A`, `U` proper.  Hypotheses of `recovery_rotation_close` on the centred reference
    (`R₁ = A`, `R₂ = Uᵀ`): `|ρ|² ≤ L2` and `|ρ·A − ρ·Uᵀ|² ≤ e2` for every centred position vector `ρ` (the latter is
    the centred residual of that atom, `centred_residual_nrm2`), two atoms with `|ρ_a × ρ_b|² ≥ m > 0`.  With
    `r̄` the reference centroid and `d̄ = dev r̄` the mean residual:

    * `T − t = r̄·(A − Uᵀ) − d̄·Uᵀ`,
    * `m·|r̄·(A − Uᵀ)|² ≤ 16·L2·e2·|r̄|²`,
    * for all `X, Y ≥ 0` with `16·L2·e2·|r̄|² ≤ m·X²` and `|d̄|² ≤ Y²`:  `|T − t|² ≤ (X + Y)²`

    — i.e. `|T − t| ≤ (4·L·ε/√m)·|r̄| + |d̄|` with `ε² = e2`, `L² = L2`, stated without square roots. -/
theorem recovery_shift_close (A U : M3 K) (hoA : A.mul A.transpose = M3.one) (hdA : A.det = 1)
    (hoU : U.mul U.transpose = M3.one) (hdU : U.det = 1) (t T : V3 K) (Rg : List (V3 K)) (L2 e2 m : K)
    (hL : ∀ ρ ∈ centre Rg, ρ.nrm2 ≤ L2)
    (he : ∀ ρ ∈ centre Rg, ((rowMul ρ A).sub (rowMul ρ U.transpose)).nrm2 ≤ e2)
    (hm : 0 < m) (hnc : NonCollinearBy m (centre Rg)) :
    T.sub t = ((rowMul (centroid Rg) A).sub (rowMul (centroid Rg) U.transpose)).sub
        (rowMul (devOf A U t T (centroid Rg)) U.transpose)
    ∧ m * ((rowMul (centroid Rg) A).sub (rowMul (centroid Rg) U.transpose)).nrm2
        ≤ 16 * L2 * e2 * (centroid Rg).nrm2
    ∧ ∀ X Y : K, 0 ≤ X → 0 ≤ Y → 16 * L2 * e2 * (centroid Rg).nrm2 ≤ m * X ^ 2 →
        (devOf A U t T (centroid Rg)).nrm2 ≤ Y ^ 2 → (T.sub t).nrm2 ≤ (X + Y) ^ 2 := by
  have hUT : IsRot U.transpose := (IsRot.mk hoU hdU).transpose
  refine ⟨shift_error_eq A U hoU t T (centroid Rg),
    rotation_error_on_vector A U.transpose hoA hdA hUT.orth hUT.det (centre Rg) L2 e2 m hL he hnc hm (centroid Rg), ?_⟩
  intro X Y hX hY hXb hYb
  obtain ⟨a, ha, b, hb, hab⟩ := hnc
  exact recovery_shift_close_on_two A U hoA hdA hoU hdU t T (centroid Rg) a b L2 e2 (hL a ha) (hL b hb) (he a ha)
    (he b hb) (lt_of_lt_of_le hm hab) X Y hX hY (hXb.trans (mul_le_mul_of_nonneg_right hab (sq_nonneg X))) hYb

/-- the same with the hypotheses on measurable quantities: the per-atom residuals `dev r = aligned r − r` of
    the recipe, centred by their mean `d̄ = centroid(aligned) − centroid(reference)`:
    `|dev r − d̄|² ≤ e2` for every atom, `|d̄|² ≤ Y²`. -/
theorem recovery_shift_close_residuals (A U : M3 K) (hoA : A.mul A.transpose = M3.one) (hdA : A.det = 1)
    (hoU : U.mul U.transpose = M3.one) (hdU : U.det = 1) (t T : V3 K) (Rg : List (V3 K)) (hne : Rg ≠ [])
    (L2 e2 m : K)
    (hL : ∀ r ∈ Rg, (r.sub (centroid Rg)).nrm2 ≤ L2)
    (he : ∀ r ∈ Rg, ((devOf A U t T r).sub
        ((centroid (Rg.map (alignedOf A U t T))).sub (centroid Rg))).nrm2 ≤ e2)
    (hm : 0 < m) (hnc : NonCollinearBy m (centre Rg))
    (X Y : K) (hX : 0 ≤ X) (hY : 0 ≤ Y) (hXb : 16 * L2 * e2 * (centroid Rg).nrm2 ≤ m * X ^ 2)
    (hYb : ((centroid (Rg.map (alignedOf A U t T))).sub (centroid Rg)).nrm2 ≤ Y ^ 2) :
    (T.sub t).nrm2 ≤ (X + Y) ^ 2 := by
  rw [mean_residual_eq A U t T Rg hne] at he hYb
  have h := recovery_shift_close A U hoA hdA hoU hdU t T Rg L2 e2 m (List.forall_mem_map.mpr hL)
    (List.forall_mem_map.mpr fun r hr => by
      rw [← centred_residual_nrm2 A U ⟨hoU, hdU⟩ t T r (centroid Rg)]
      exact he r hr)
    hm hnc
  exact h.2.2 X Y hX hY hXb hYb

/-- exact case: centred residuals all zero and mean residual zero ⇒ `T = t` (agrees with `motion_unique`) -/
theorem recovery_shift_exact (A U : M3 K) (hoA : A.mul A.transpose = M3.one) (hdA : A.det = 1)
    (hoU : U.mul U.transpose = M3.one) (hdU : U.det = 1) (t T : V3 K) (Rg : List (V3 K)) (L2 m : K)
    (hL : ∀ ρ ∈ centre Rg, ρ.nrm2 ≤ L2)
    (he : ∀ ρ ∈ centre Rg, ((rowMul ρ A).sub (rowMul ρ U.transpose)).nrm2 ≤ 0)
    (hm : 0 < m) (hnc : NonCollinearBy m (centre Rg))
    (hd : (devOf A U t T (centroid Rg)).nrm2 ≤ 0) : T = t := by
  have h := (recovery_shift_close A U hoA hdA hoU hdU t T Rg L2 0 m hL he hm hnc).2.2 0 0 le_rfl le_rfl
    (by simp) (by simpa using hd)
  have h0 : (T.sub t).nrm2 = 0 := le_antisymm (by simpa using h) (V3.nrm2_nonneg _)
  exact V3.sub_eq_zero.mp ((nrm2_eq_zero_iff _).mp h0)

/-! ## fully explicit from one number: `|dev r|² ≤ e2` on every atom -/

/-- `|Σ v|² ≤ n²·e2` when every `|v|² ≤ e2` (induction: `|a + S|² ≤ e2 + 2·k·e2 + k²·e2` by `nrm2_add_le`) -/
theorem vsum_nrm2_le (l : List (V3 K)) (e2 : K) (h : ∀ v ∈ l, v.nrm2 ≤ e2) (he0 : 0 ≤ e2) :
    (vsum l).nrm2 ≤ (l.length : K) ^ 2 * e2 := by
  induction l with
  | nil => simp [vsum, V3.zero, V3.nrm2]
  | cons a s ih =>
    have hs := ih (fun v hv => h v (List.mem_cons_of_mem _ hv))
    simp only [vsum, List.length_cons, Nat.cast_succ]
    exact (nrm2_add_le a (vsum s) e2 _ (s.length * e2) (mul_nonneg (Nat.cast_nonneg _) he0)
      (h a List.mem_cons_self) hs (le_of_eq (by ring))).trans_eq (by ring)

/-- the centroid of vectors of square length `≤ e2` has square length `≤ e2` -/
theorem centroid_nrm2_le (l : List (V3 K)) (hne : l ≠ []) (e2 : K) (h : ∀ v ∈ l, v.nrm2 ≤ e2) :
    (centroid l).nrm2 ≤ e2 := by
  obtain ⟨v0, hv0⟩ := List.exists_mem_of_ne_nil l hne
  have he0 : 0 ≤ e2 := le_trans (V3.nrm2_nonneg _) (h v0 hv0)
  have hn : (0 : K) < (l.length : K) := by
    have : 0 < l.length := List.length_pos_of_ne_nil hne
    exact_mod_cast this
  have hs := vsum_nrm2_le l e2 h he0
  rw [← smul_centroid l hne, nrm2_smul] at hs
  have hn2 : (0 : K) < (l.length : K) ^ 2 := by positivity
  exact le_of_mul_le_mul_left hs hn2

/-- **explicit bound from the worst per-atom residual**: if `|aligned r − r|² ≤ e2` for EVERY atom (uncentred),
    `|r − r̄|² ≤ L2`, margin `m > 0`, then for all `X, Y ≥ 0` with
    `64·L2·e2·|r̄|² ≤ m·X²` and `e2 ≤ Y²`:  `|T − t|² ≤ (X + Y)²`,  i.e.  `|T − t| ≤ (8·L·|r̄|/√m + 1)·ε`. -/
theorem recovery_shift_close_uniform (A U : M3 K) (hoA : A.mul A.transpose = M3.one) (hdA : A.det = 1)
    (hoU : U.mul U.transpose = M3.one) (hdU : U.det = 1) (t T : V3 K) (Rg : List (V3 K)) (hne : Rg ≠ [])
    (L2 e2 m : K)
    (hL : ∀ r ∈ Rg, (r.sub (centroid Rg)).nrm2 ≤ L2)
    (he : ∀ r ∈ Rg, (devOf A U t T r).nrm2 ≤ e2)
    (hm : 0 < m) (hnc : NonCollinearBy m (centre Rg))
    (X Y : K) (hX : 0 ≤ X) (hY : 0 ≤ Y) (hXb : 64 * L2 * e2 * (centroid Rg).nrm2 ≤ m * X ^ 2)
    (hYb : e2 ≤ Y ^ 2) :
    (T.sub t).nrm2 ≤ (X + Y) ^ 2 := by
  -- the mean residual `d̄` is the centroid of the residuals, so it is as small as they are
  have hmean : (centroid (Rg.map (alignedOf A U t T))).sub (centroid Rg) = centroid (Rg.map (devOf A U t T)) := by
    have hv : vsum (Rg.map (devOf A U t T)) = (vsum (Rg.map (alignedOf A U t T))).sub (vsum Rg) := by
      have h := vsum_map_sub (alignedOf A U t T) id Rg
      rwa [List.map_id] at h
    ext <;> simp only [centroid, hv, List.length_map, V3.sub, sub_div]
  have hdbar := centroid_nrm2_le _ (by simpa using hne) e2 (List.forall_mem_map.mpr he)
  rw [← hmean] at hdbar
  -- `|dev r − d̄|² ≤ 2|dev r|² + 2|d̄|²`
  refine recovery_shift_close_residuals A U hoA hdA hoU hdU t T Rg hne L2 (4 * e2) m hL (fun r hr => ?_) hm hnc
    X Y hX hY (by linarith) (hdbar.trans hYb)
  rw [sub_eq_add_smul_neg]
  have h2 := nrm2_add_le_two (devOf A U t T r)
    (V3.smul (-1) ((centroid (Rg.map (alignedOf A U t T))).sub (centroid Rg)))
  rw [nrm2_smul] at h2
  have := he r hr
  linarith

-- non-vacuity (test) of `recovery_shift_close`: the right triangle (0,0,0), (3,0,0), (0,3,0) (centroid (1,1,0)),
-- A = quarter-turn about z, U = Aᵀ turned further by the rational angle 2·atan(1/100) about z, t = (1,2,3),
-- T = c̄ − U r̄ (what kabsch_align returns): the hypotheses hold with L2 = 5, e2 = 20/10001, m = 9, and the recipe
-- does NOT recover t exactly (T ≠ t), so the theorem is used outside the exact case
example :
    let A : M3 ℚ := ⟨0, 1, 0, -1, 0, 0, 0, 0, 1⟩
    let W : M3 ℚ := ⟨9999 / 10001, -200 / 10001, 0, 200 / 10001, 9999 / 10001, 0, 0, 0, 1⟩
    let U : M3 ℚ := A.transpose.mul W
    let Rg : List (V3 ℚ) := [⟨0, 0, 0⟩, ⟨3, 0, 0⟩, ⟨0, 3, 0⟩]
    let t : V3 ℚ := ⟨1, 2, 3⟩
    let T : V3 ℚ := ((rowMul (centroid Rg) A).add t).sub (matVec U (centroid Rg))
    A.mul A.transpose = M3.one ∧ A.det = 1 ∧ U.mul U.transpose = M3.one ∧ U.det = 1
      ∧ (∀ ρ ∈ centre Rg, ρ.nrm2 ≤ 5)
      ∧ (∀ ρ ∈ centre Rg, ((rowMul ρ A).sub (rowMul ρ U.transpose)).nrm2 ≤ 20 / 10001)
      ∧ NonCollinearBy 9 (centre Rg) ∧ T ≠ t := by
  unfold NonCollinearBy; decide +kernel

end Ordered

end QcelVerif.Kabsch
