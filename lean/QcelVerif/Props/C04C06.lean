import QcelVerif.Lemmas.ReconC06
import QcelVerif.Props.C06Shipped
/-!
# C04 ∘ C06 — `from_arrays` with the C06 model of `reconcile_nucleus` as its per-atom reconciler

`Props/C04.lean` proves `from_arrays_inv`, `from_arrays_idempotent`, `from_schema_inv` for ANY
reconciler under the hypotheses `NucSound env.recon valid` / `NucIdem env.recon`.  Here the
reconciler is the C06 model (`Model/ReconC06.lean`: `reconOfC06 rd` = `reconcile shippedN rd` behind
the adapter `toInput` / `toNuc` / `errOf`):

  * `NucSound` holds, for any rounding function (`recon_c06_sound_shipped`; the only fact about the table is
    `shipped_coherent`, a kernel evaluation over the generated table), so the invariant theorems need no hypothesis.
  * `NucIdem` is FALSE for the C06 model over the shipped table (`recon_c06_not_idem`: `A=2, Z=1`, `mtol = 2` is
    answered `(2, 1, 'H', mass(H1))`, which fed back is a ValidationError; the code does the same).  Idempotence is
    proved for atoms that are `SelfConsistent` (the mass is a rounded number and re-derives the atom's own mass
    number); an atom is self-consistent when a mass clue was supplied, and when there was no isotope information
    at all.  The third case, a mass number supplied without a mass, is in `Props/C04Default.lean`
    (`narrow_window_selfconsistent`: `nonphysical = False`, `0 ≤ mtol ≤ 0.9865`, `rd64`).

Hypotheses on the rounding function, stated on each theorem: `hodd : ∀ x, rd (-x) = -(rd x)` (`rd64_odd` below)
and, where a mass clue is used, `hidem : ∀ x, rd (rd x) = rd x` (for `rd64`: `rd64_idem`, `Lemmas/C04Rd64.lean`).
-/
namespace QcelVerif.FromArrays
open QcelVerif QcelVerif.PStr QcelVerif.Nucleus

/-- C06's validity of one atom of a record validated with settings `st`: it is the image of a C06
output `(A, Z, E, mass, real, tag)` such that
 1. `(Z, E)` is a row of the periodic table,
 2. `A = −1`, or `E + str(A)` is a tabulated nuclide whose mass is the atom's mass or is
    (float-evaluated) within `mtol` of it,
 3. unless `nonphysical`: `A = −1` or inside the element's tabulated mass-number range and
    `fl(mmin − 0.5) ≤ mass ≤ fl(mmax + 0.5)`; with `nonphysical`: `A = −1 ∨ A ≥ 1`, `mass > 0.5`,
 4. `real` is a `bool` and the tag is lower-case. -/
def ValidC06 (N : NTables) (rd : Rat → Rat) (rng : Nat → Option Range) (st : NucSettings) (u : Nuc) : Prop :=
  ∃ o : Output, u = toNuc o ∧
    N.pt.toE (.int o.Z) false = some o.E ∧
    (o.A = -1 ∨ ∃ tm, tableMass N rd (.str (unpack o.E ++ intStr o.A)) = .ok tm ∧
        (tm = o.mass ∨ absR (rd (tm - o.mass)) ≤ st.mtol ∨ absR (rd (o.mass - tm)) ≤ st.mtol)) ∧
    (∃ r, rng o.E = some r ∧
        (if st.nonphysical then (o.A = -1 ∨ 1 ≤ o.A) ∧ 1/2 < o.mass
         else (o.A = -1 ∨ (r.amin ≤ o.A ∧ o.A ≤ r.amax)) ∧
              rd (r.mmin - 1/2) ≤ o.mass ∧ o.mass ≤ rd (r.mmax + 1/2))) ∧
    (∃ b, o.real = .bool b) ∧ PStr.lower o.user = o.user

/-- what a successful call of the adapted reconciler is -/
theorem reconOfC06With_ok {N : NTables} {rd rng} {st : NucSettings} {c : Clue} {u : Nuc}
    (h : reconOfC06With N rd rng st c = .ok u) :
    ∃ o, reconcileWith N rd rng (toInput st c) = .ok o ∧ u = toNuc o := by
  unfold reconOfC06With at h
  split at h
  · rename_i o ho
    cases h
    exact ⟨o, ho, rfl⟩
  · cases h

/-- **`NucSound` for the C06 model** — any table coherent at its default isotopes, any rounding
function, any range table. -/
theorem recon_c06_sound (N : NTables) (rd : Rat → Rat) (rng : Nat → Option Range) (hcoh : DefaultCoherent N) :
    NucSound (reconOfC06With N rd rng) (ValidC06 N rd rng) := by
  intro st c u h
  obtain ⟨o, ho, rfl⟩ := reconOfC06With_ok h
  obtain ⟨h1, _, _, _, h5, h6, _, _, h9⟩ := reconcile_sound N rd rng hcoh _ o ho
  refine ⟨o, rfl, h1, h5, h6, real_is_bool ho, ?_⟩
  rw [h9]; exact lower_expectedUser _

/-- **`NucSound` for the C06 model over the shipped table**, without hypothesis. -/
theorem recon_c06_sound_shipped (rd : Rat → Rat) :
    NucSound (reconOfC06 rd) (ValidC06 shippedN rd (elRange shippedN rd)) :=
  recon_c06_sound shippedN rd _ shipped_coherent.1

/-- a label that is absent, or not consulted as a nucleus specification, says nothing -/
theorem not_labelIs {st : NucSettings} {c : Clue} (hl : st.speclabel = false ∨ c.label = none) (L : Label) :
    ¬ LabelIs (toInput st c) L := by
  rintro ⟨hs, l, hl', _⟩
  rcases hl with hl | hl
  · simp [toInput, hl] at hs
  · simp [toInput, hl] at hl'

/-- **Every supplied clue is kept** (the clue-dependent clauses of `reconcile_sound`, which
`NucSound`'s clue-free `valid` cannot express): a supplied `Z`, `A`, `mass` (as `float(mass)`), `real`
is the answer's; without a real clue and without a label consulted as nucleus specification the atom
is real. -/
theorem recon_c06_respects_clues (N : NTables) (rd : Rat → Rat) (rng : Nat → Option Range) (hcoh : DefaultCoherent N)
    (st : NucSettings) (c : Clue) (u : Nuc) (h : reconOfC06With N rd rng st c = .ok u) :
    (∀ z, c.Z = some z → u.Z = z) ∧ (∀ a, c.A = some a → u.A = a) ∧ (∀ m, c.mass = some m → u.mass = rd m) ∧
    (∀ b, c.real = some b → u.real = b) ∧
    (c.real = none → (st.speclabel = false ∨ c.label = none) → u.real = true) := by
  obtain ⟨o, ho, rfl⟩ := reconOfC06With_ok h
  obtain ⟨_, h2, h3, h4, _, _, h7, h8, _⟩ := reconcile_sound N rd rng hcoh _ o ho
  refine ⟨?_, ?_, ?_, ?_, ?_⟩
  · intro z hz
    exact (h2 z (Or.inl ⟨.int z, by simp [toInput, hz], truncInt_intCast z⟩)).symm
  · intro a ha
    exact (h3 a (Or.inl ⟨.int a, by simp [toInput, ha], truncInt_intCast a⟩)).symm
  · intro m hm
    exact (h4 (rd m) (Or.inl ⟨.float m, by simp [toInput, hm], rfl⟩)).symm
  · intro b hb
    have := h7 (PyNum.bool b).val (Or.inl ⟨.bool b, by simp [toInput, hb], rfl⟩)
    obtain ⟨b', hb'⟩ := real_is_bool ho
    show realOf o.real = b
    rw [hb'] at this ⊢
    rw [realOf_bool]
    cases b <;> cases b' <;> simp [PyNum.val] at this ⊢
  · intro hr hl
    have : o.real = .bool true := by
      apply h8
      rintro v (⟨p, hp, _⟩ | ⟨L, hL, _⟩)
      · simp [toInput, hr] at hp
      · exact not_labelIs hl L hL
    show realOf o.real = true
    rw [this]; rfl

/-- every atomic number that resolves has a symbol that resolves back to it (strict mode) -/
def ElementRoundTrips (N : NTables) : Prop :=
  ∀ (z : Int) (sym : Nat), N.pt.toE (.int z) false = some sym →
    N.pt.toZ (.str (unpack sym)) true = some z.toNat ∧ 0 ≤ z

theorem shipped_roundtrips : ElementRoundTrips shippedN := shipped_coherent.2.1

/-- an atom of a record whose mass is a rounded number and re-derives the atom's own mass number:
`round(mass)` names the nuclide `E + str(round(mass))` whose mass is (float-evaluated) within `mtol`,
and `A` is that number — or there is no such nuclide and `A = −1`.  (Decidable, per atom.) -/
def SelfConsistent (N : NTables) (rd : Rat → Rat) (mtol : Rat) (u : Nuc) : Prop :=
  rd u.mass = u.mass ∧ massToAStr N rd u.E mtol u.mass = u.A

/-- the driver's test (`Driver/C04b.lean`, ops `FAq` / `FSq`) decides `SelfConsistent` -/
theorem selfConsistentB_iff (N : NTables) (rd : Rat → Rat) (mtol : Rat) (u : Nuc) :
    selfConsistentB N rd mtol u = true ↔ SelfConsistent N rd mtol u := by
  simp [selfConsistentB, SelfConsistent]

/-- **`NucIdem` for self-consistent answers.**  An answer of the C06 model that is
`SelfConsistent`, fed back as clues with `speclabel = False` (same `nonphysical`, `mtol`), is answered
by itself.  Any coherent table whose elements round-trip, any odd rounding function.
Without the `SelfConsistent` hypothesis the statement is false in general (`recon_c06_not_idem`: shipped
table, A=2, Z=1, mtol=2); for `nonphysical = False`, `0 ≤ mtol ≤ 0.9865` under `rd64` the hypothesis always
holds (`narrow_window_selfconsistent`, `recon_c06_idem_narrow` in `Props/C04Default.lean`). -/
theorem recon_c06_idem_partial (N : NTables) (rd : Rat → Rat) (rng : Nat → Option Range)
    (hcoh : DefaultCoherent N) (hrt : ElementRoundTrips N) (hodd : ∀ x, rd (-x) = -(rd x))
    (st : NucSettings) (c : Clue) (u : Nuc) (h : reconOfC06With N rd rng st c = .ok u)
    (hsc : SelfConsistent N rd st.mtol u) :
    reconOfC06With N rd rng { st with speclabel := false } (clueOf u) = .ok u := by
  obtain ⟨o, ho, rfl⟩ := reconOfC06With_ok h
  obtain ⟨hrd, hre⟩ := hsc
  rw [massToAStr_toNuc] at hre
  obtain ⟨o', ho', heq⟩ := reconcile_idem_partial N rd rng hcoh hodd (toInput st c) o ho
    (hrt o.Z o.E (reconcileWith_spec ho).E) hrd hre
  unfold reconOfC06With
  rw [toInput_clueOf ho, ho']
  exact congrArg Except.ok (toNuc_congr heq)

/-- a supplied mass (argument or label) whose float value `m` is a fixed point of `rd` makes the answer
self-consistent -/
theorem selfConsistent_of_mass_clue (N : NTables) (rd : Rat → Rat) (rng : Nat → Option Range)
    (hcoh : DefaultCoherent N)
    (st : NucSettings) (c : Clue) (u : Nuc) (h : reconOfC06With N rd rng st c = .ok u)
    (m : Rat) (hM : ClaimsMass rd (toInput st c) m) (hfix : rd m = m) : SelfConsistent N rd st.mtol u := by
  obtain ⟨o, ho, rfl⟩ := reconOfC06With_ok h
  have hmass : m = o.mass := (reconcile_sound N rd rng hcoh _ o ho).2.2.2.1 m hM
  refine ⟨by show rd o.mass = o.mass; rw [← hmass]; exact hfix, ?_⟩
  rw [massToAStr_toNuc, ← hmass]
  exact ((reconcileWith_spec ho).claimM m hM).2.symm

/-- **`NucIdem` when a mass was supplied** whose float value rounds to itself (`rd (rd m) = rd m`; true of
every `m` when `rd` is idempotent, and of every `m` that is already a double): the answer fed back is
answered by itself; no hypothesis on the answer. -/
theorem recon_c06_idem_mass_clue_fix (N : NTables) (rd : Rat → Rat) (rng : Nat → Option Range)
    (hcoh : DefaultCoherent N) (hrt : ElementRoundTrips N) (hodd : ∀ x, rd (-x) = -(rd x))
    (st : NucSettings) (c : Clue) (u : Nuc) (h : reconOfC06With N rd rng st c = .ok u)
    (m : Rat) (hcm : c.mass = some m) (hfix : rd (rd m) = rd m) :
    reconOfC06With N rd rng { st with speclabel := false } (clueOf u) = .ok u :=
  recon_c06_idem_partial N rd rng hcoh hrt hodd st c u h
    (selfConsistent_of_mass_clue N rd rng hcoh st c u h (rd m)
      (Or.inl ⟨.float m, by simp [toInput, hcm], rfl⟩) hfix)

/-- **`NucIdem` when a mass was supplied**, for an idempotent rounding function. -/
theorem recon_c06_idem_mass_clue (N : NTables) (rd : Rat → Rat) (rng : Nat → Option Range)
    (hcoh : DefaultCoherent N) (hrt : ElementRoundTrips N)
    (hodd : ∀ x, rd (-x) = -(rd x)) (hidem : ∀ x, rd (rd x) = rd x)
    (st : NucSettings) (c : Clue) (u : Nuc) (h : reconOfC06With N rd rng st c = .ok u)
    (hm : c.mass ≠ none) :
    reconOfC06With N rd rng { st with speclabel := false } (clueOf u) = .ok u := by
  cases hcm : c.mass with
  | none => exact absurd hcm hm
  | some m => exact recon_c06_idem_mass_clue_fix N rd rng hcoh hrt hodd st c u h m hcm (hidem m)

/-- **`NucIdem` on everything that is itself a fed-back answer.**  `clueOf v` always carries
a mass, so whatever is answered to the clues of a record atom is reproduced from then on. -/
theorem recon_c06_idem_on_feedback (N : NTables) (rd : Rat → Rat) (rng : Nat → Option Range)
    (hcoh : DefaultCoherent N) (hrt : ElementRoundTrips N)
    (hodd : ∀ x, rd (-x) = -(rd x)) (hidem : ∀ x, rd (rd x) = rd x)
    (st : NucSettings) (v u : Nuc) (h : reconOfC06With N rd rng st (clueOf v) = .ok u) :
    reconOfC06With N rd rng { st with speclabel := false } (clueOf u) = .ok u :=
  recon_c06_idem_mass_clue N rd rng hcoh hrt hodd hidem st (clueOf v) u h (by simp [clueOf])

/-! ### no isotope information at all: the default isotope is self-consistent -/

/-- the table's default isotopes re-derive themselves: for every element, the (rounded) default mass
rounds half-even to the default mass number and is a fixed point of `rd` -/
def DefaultReDerives (N : NTables) (rd : Rat → Rat) : Prop :=
  ∀ (z : Int) (sym a : Nat) (m : Rat), N.pt.toE (.int z) false = some sym → N.pt.toA (.int z) = some a →
    tableMass N rd (.int z) = .ok m → roundHalfEven m = (a : Int) ∧ rd m = m

/-- a mass that is the tabulated mass of the nuclide its rounded value names re-derives that mass number, for
every window `mtol ≥ 0` -/
theorem _root_.QcelVerif.Nucleus.massToA_of_table (N : NTables) (rd : Rat → Rat) (hodd : ∀ x, rd (-x) = -(rd x))
    (sym : Nat) {mtol m : Rat} (hmtol : 0 ≤ mtol)
    (hkey : tableMass N rd (.str (unpack sym ++ intStr (roundHalfEven m))) = .ok m) :
    massToA N rd sym mtol m = roundHalfEven m := by
  have hz : rd (m - m) = 0 := by
    have h0 : m - m = 0 := by grind
    have := hodd 0
    rw [h0]; grind
  have : ¬ mtol < absR 0 := by unfold absR; grind
  simp only [massToA, hkey, hz, if_neg this]

/-- without any mass-number or mass clue (argument or label) the answer — the default isotope,
`reconcile_default` — is self-consistent for every `mtol ≥ 0` -/
theorem selfConsistent_of_default (N : NTables) (rd : Rat → Rat) (rng : Nat → Option Range)
    (hcoh : DefaultCoherent N) (hdef : DefaultReDerives N rd) (hodd : ∀ x, rd (-x) = -(rd x))
    (st : NucSettings) (c : Clue) (u : Nuc) (h : reconOfC06With N rd rng st c = .ok u)
    (hA : ∀ a, ¬ ClaimsA (toInput st c) a) (hM : ∀ m, ¬ ClaimsMass rd (toInput st c) m) (hmtol : 0 ≤ st.mtol) :
    SelfConsistent N rd st.mtol u := by
  obtain ⟨o, ho, rfl⟩ := reconOfC06With_ok h
  obtain ⟨⟨a, ha, hoA⟩, hm⟩ := reconcile_default N rd rng _ o ho hA hM
  have hE := (reconcileWith_spec ho).E
  obtain ⟨hround, hfix⟩ := hdef o.Z o.E a o.mass hE ha hm
  refine ⟨hfix, ?_⟩
  rw [massToAStr_toNuc]
  have hkey : tableMass N rd (.str (unpack o.E ++ intStr (roundHalfEven o.mass))) = .ok o.mass := by
    rw [hround]
    rw [tableMass_ok] at hm ⊢
    rwa [hcoh o.Z o.E a hE ha]
  rw [massToA_of_table N rd hodd o.E hmtol hkey, hround]
  exact hoA.symm

/-- no `A`, no `mass`, and the label (if any) not consulted as a nucleus specification: no isotope clue -/
theorem no_isotope_clue {st : NucSettings} {c : Clue} {rd : Rat → Rat} (hA : c.A = none) (hM : c.mass = none)
    (hl : st.speclabel = false ∨ c.label = none) :
    (∀ a, ¬ ClaimsA (toInput st c) a) ∧ (∀ m, ¬ ClaimsMass rd (toInput st c) m) := by
  constructor
  · rintro a (⟨p, hp, _⟩ | ⟨L, _, hL, _⟩)
    · simp [toInput, hA] at hp
    · exact not_labelIs hl L hL
  · rintro m (⟨p, hp, _⟩ | ⟨L, _, _, hL, _⟩)
    · simp [toInput, hM] at hp
    · exact not_labelIs hl L hL

/-- the driver's rounding function is odd (`hodd` discharged for `rd64`) -/
theorem rd64_odd (x : Rat) : rd64 (-x) = -(rd64 x) := rd64_neg x

/-- the reconciler that `Driver/C04b.lean` runs (memoised range table) is `reconOfC06 rd64` -/
theorem driver_recon_eq (syms : List Nat) :
    reconOfC06With shippedN rd64 (lookupRange shippedN rd64 (memoRange shippedN rd64 syms)) = reconOfC06 rd64 := by
  unfold reconOfC06
  congr 1
  funext s
  exact lookupRange_memo shippedN rd64 syms s

/-- **Invariant, unconditional.**  Whenever `from_arrays` with the C06 model of `reconcile_nucleus`
over the shipped periodic table succeeds, the record satisfies C04's invariant with every atom valid
in C06's sense (`ValidC06`) — any rounding function, any Å→a₀ factor, any number of atoms. -/
theorem from_arrays_inv_c06 (rd : Rat → Rat) (angToAu : Rat) (i : Inp) (r : Molrec)
    (h : fromArrays (envC06 rd angToAu) i = .ok r) :
    Inv (ValidC06 shippedN rd (elRange shippedN rd)) angToAu (nucSettings i) i.tooclose r :=
  from_arrays_inv (envC06 rd angToAu) _ (recon_c06_sound_shipped rd) i r h

/-- **Invariant through `from_schema`, unconditional.** -/
theorem from_schema_inv_c06 (rd : Rat → Rat) (angToAu : Rat) (s : Schema) (r : Molrec)
    (h : fromSchema (envC06 rd angToAu) s = .ok r) :
    Inv (ValidC06 shippedN rd (elRange shippedN rd)) angToAu
      { speclabel := false, nonphysical := s.body.nonphysical, mtol := dfltMtol } dfltTooclose r ∧
    r.units = sBohr :=
  from_schema_inv (envC06 rd angToAu) _ (recon_c06_sound_shipped rd) s r h

/-- every atom of a returned record is an answer of the reconciler to some clue, under the call's settings -/
theorem recNucs_answers {env : Env} {i : Inp} {r : Molrec} (h : fromArrays env i = .ok r) :
    ∀ u ∈ recNucs r, ∃ c, c ∈ clues (nucArrays (r.geom.length / 3) i).elea (nucArrays (r.geom.length / 3) i).elez
        (nucArrays (r.geom.length / 3) i).elem (nucArrays (r.geom.length / 3) i).mass
        (nucArrays (r.geom.length / 3) i).real (nucArrays (r.geom.length / 3) i).elbl ∧
      env.recon (nucSettings i) c = .ok u := by
  intro u hu
  obtain ⟨_, hm⟩ := validateNuclei_ok (recNucs_of_ok h)
  exact mapE_ok_mem hm u hu

/-- … so what holds of every answer under the call's settings holds of every atom of the record -/
theorem recNucs_forall {env : Env} {i : Inp} {r : Molrec} (h : fromArrays env i = .ok r) {p : Nuc → Prop}
    (hp : ∀ c u, env.recon (nucSettings i) c = .ok u → p u) : ∀ u ∈ recNucs r, p u := by
  intro u hu
  obtain ⟨c, _, hc⟩ := recNucs_answers h u hu
  exact hp c u hc

/-- **Fixed point for self-consistent atoms.**  A record returned by `from_arrays` (C06 model over the shipped table)
all of whose atoms are `SelfConsistent` for the call's `mtol`, passed through `from_arrays` again
(`speclabel=False`), is returned unchanged.
Without `hself` the statement is false in general (`from_arrays_not_idempotent_c06`); it holds without `hself` for
`nonphysical = False`, `0 ≤ mtol ≤ 0.9865` under `rd64` (`from_arrays_idempotent_narrow`, `Props/C04Default.lean`). -/
theorem from_arrays_idempotent_c06_partial (rd : Rat → Rat) (hodd : ∀ x, rd (-x) = -(rd x)) (angToAu : Rat)
    (i : Inp) (r : Molrec) (h : fromArrays (envC06 rd angToAu) i = .ok r)
    (hself : ∀ u ∈ recNucs r, SelfConsistent shippedN rd i.mtol u) :
    fromArrays (envC06 rd angToAu) (asInput i r) = .ok r := by
  apply from_arrays_idempotent_of _ i r h
  intro u hu
  obtain ⟨c, _, hc⟩ := recNucs_answers h u hu
  exact recon_c06_idem_partial shippedN rd _ shipped_coherent.1 shipped_roundtrips hodd (nucSettings i) c u hc
    (hself u hu)

theorem clues_fields_mem (a z : List (Option Int)) (e : List (Option String)) (m : List (Option Rat))
    (r : List (Option Bool)) (l : List (Option String)) :
    ∀ c ∈ clues a z e m r l, c.A ∈ a ∧ c.mass ∈ m ∧ c.label ∈ l := by
  induction a, z, e, m, r, l using clues.induct with
  | case1 a as z zs e es m ms r rs l ls ih =>
    intro c hc
    simp only [clues, List.mem_cons] at hc ⊢
    rcases hc with rfl | hc
    · exact ⟨Or.inl rfl, Or.inl rfl, Or.inl rfl⟩
    · exact ⟨Or.inr (ih c hc).1, Or.inr (ih c hc).2.1, Or.inr (ih c hc).2.2⟩
  | case2 a z e m r l h =>
    intro c hc
    rw [clues] at hc
    · cases hc
    · exact h

/-- when every mass was supplied and each supplied mass rounds to itself, the reconciler reproduces every atom
of the record -/
theorem recNucs_reproduced_of_masses (rd : Rat → Rat) (hodd : ∀ x, rd (-x) = -(rd x)) (angToAu : Rat)
    (i : Inp) (r : Molrec) (h : fromArrays (envC06 rd angToAu) i = .ok r)
    (l : List (Option Rat)) (hl : i.mass = some l) (hall : ∀ x ∈ l, ∃ m, x = some m ∧ rd (rd m) = rd m) :
    ∀ u ∈ recNucs r, reconOfC06 rd { nucSettings i with speclabel := false } (clueOf u) = .ok u := by
  intro u hu
  obtain ⟨c, hc, hcu⟩ := recNucs_answers h u hu
  have hm := (clues_fields_mem _ _ _ _ _ _ c hc).2.1
  simp only [nucArrays, hl, fillNone] at hm
  obtain ⟨m, hcm, hfix⟩ := hall _ hm
  exact recon_c06_idem_mass_clue_fix shippedN rd _ shipped_coherent.1 shipped_roundtrips hodd
    (nucSettings i) c u hcu m hcm hfix

/-- **Fixed point when every mass was supplied** and each supplied mass rounds to itself
(`rd (rd m) = rd m`, e.g. because it is already a double). -/
theorem from_arrays_idempotent_c06_masses_fix (rd : Rat → Rat) (hodd : ∀ x, rd (-x) = -(rd x)) (angToAu : Rat)
    (i : Inp) (r : Molrec) (h : fromArrays (envC06 rd angToAu) i = .ok r)
    (l : List (Option Rat)) (hl : i.mass = some l) (hall : ∀ x ∈ l, ∃ m, x = some m ∧ rd (rd m) = rd m) :
    fromArrays (envC06 rd angToAu) (asInput i r) = .ok r :=
  from_arrays_idempotent_of _ i r h (recNucs_reproduced_of_masses rd hodd angToAu i r h l hl hall)

/-- **Fixed point when every mass was supplied** (for an odd, idempotent rounding function). -/
theorem from_arrays_idempotent_c06_masses (rd : Rat → Rat) (hodd : ∀ x, rd (-x) = -(rd x))
    (hidem : ∀ x, rd (rd x) = rd x) (angToAu : Rat)
    (i : Inp) (r : Molrec) (h : fromArrays (envC06 rd angToAu) i = .ok r)
    (l : List (Option Rat)) (hl : i.mass = some l) (hall : ∀ x ∈ l, x ≠ none) :
    fromArrays (envC06 rd angToAu) (asInput i r) = .ok r := by
  apply from_arrays_idempotent_c06_masses_fix rd hodd angToAu i r h l hl
  intro x hx
  cases x with
  | none => exact absurd rfl (hall _ hx)
  | some m => exact ⟨m, rfl, hidem m⟩

/-- **From the second pass on `from_arrays` is a projection.**  Whatever the first input was:
if a record `r` fed back (`speclabel=False`) is accepted as `r'`, then `r'` fed back is returned
unchanged (`r` need not come from `from_arrays`, and `r'` may differ from `r`). -/
theorem from_arrays_second_pass_c06 (rd : Rat → Rat) (hodd : ∀ x, rd (-x) = -(rd x))
    (hidem : ∀ x, rd (rd x) = rd x) (angToAu : Rat)
    (i : Inp) (r r' : Molrec) (h : fromArrays (envC06 rd angToAu) (asInput i r) = .ok r') :
    fromArrays (envC06 rd angToAu) (asInput i r') = .ok r' :=
  from_arrays_idempotent_c06_masses rd hodd hidem angToAu (asInput i r) r' h
    (r.mass.map some) rfl (by intro x hx; obtain ⟨m, _, rfl⟩ := List.mem_map.mp hx; simp)

/-- **The same for `rd64`** under the hypothesis `hd` that the masses of the record that is fed back are binary64
numbers (`rd64 m = m`; decidable on the record, and what a record holds in the implementation). -/
theorem from_arrays_second_pass_c06_rd64 (angToAu : Rat)
    (i : Inp) (r r' : Molrec) (h : fromArrays (envC06 rd64 angToAu) (asInput i r) = .ok r')
    (hd : ∀ m ∈ r.mass, rd64 m = m) :
    fromArrays (envC06 rd64 angToAu) (asInput i r') = .ok r' :=
  from_arrays_idempotent_c06_masses_fix rd64 rd64_odd angToAu (asInput i r) r' h
    (r.mass.map some) rfl (by
      intro x hx
      obtain ⟨m, hm, rfl⟩ := List.mem_map.mp hx
      exact ⟨m, rfl, by rw [hd m hm, hd m hm]⟩)

/-! ### plain molecules (no isotope information): unconditional for `rd64` on the shipped table -/

/-- element row check: the default mass under `rd64` rounds half-even to the default mass number and is a double -/
def defaultRowOk (r : Nat × Nat × Nat) : Bool :=
  match shippedN.pt.toA (.int (r.1 : Int)), tableMass shippedN rd64 (.int (r.1 : Int)) with
  | some a, .ok m => roundHalfEven m == (a : Int) && rd64 m == m
  | _, _ => false

theorem shipped_default_rows : Gen.PT.elements.all defaultRowOk = true := by decide +kernel

/-- **The shipped default isotopes re-derive themselves under `rd64`** [decide +kernel over the element rows] -/
theorem shipped_default_rederives : DefaultReDerives shippedN rd64 := by
  intro z sym a m hE hA hm
  obtain ⟨r, hr, hz⟩ := row_of_toE hE
  have hok := (List.all_eq_true.mp shipped_default_rows) r hr
  unfold defaultRowOk at hok
  simp only [hz, hA, hm, Bool.and_eq_true, beq_iff_eq] at hok
  exact hok

/-- without isotope information (no `elea`, no `mass`, labels not consulted as nucleus specifications) every atom
of the record is its element's default isotope, hence self-consistent for `mtol ≥ 0` -/
theorem recNucs_selfConsistent_of_plain (angToAu : Rat) (i : Inp) (r : Molrec)
    (h : fromArrays (envC06 rd64 angToAu) i = .ok r)
    (hA : i.elea = none) (hM : i.mass = none) (hl : i.speclabel = false ∨ i.elbl = none) (hmtol : 0 ≤ i.mtol) :
    ∀ u ∈ recNucs r, SelfConsistent shippedN rd64 i.mtol u := by
  intro u hu
  obtain ⟨c, hc, hcu⟩ := recNucs_answers h u hu
  obtain ⟨h1, h2, h3⟩ := clues_fields_mem _ _ _ _ _ _ c hc
  simp only [nucArrays, hA, hM, fillNone, eleaNorm, List.map_replicate, List.mem_replicate] at h1 h2
  have hcA : c.A = none := by
    have := h1.2; simpa using this
  have hlab : (nucSettings i).speclabel = false ∨ c.label = none := by
    rcases hl with hl | hl
    · exact Or.inl hl
    · right
      simp only [nucArrays, hl, fillNone, List.mem_replicate] at h3
      exact h3.2
  obtain ⟨nA, nM⟩ := no_isotope_clue (rd := rd64) hcA h2.2 hlab
  exact selfConsistent_of_default shippedN rd64 _ shipped_coherent.1 shipped_default_rederives rd64_odd
    (nucSettings i) c u hcu nA nM hmtol

/-- **Fixed point for inputs without isotope information** (`rd64`, shipped
table): no `elea`, no `mass`, labels (if any) not consulted as nucleus specifications, `mtol ≥ 0`.  Every
atom is then its element's default isotope, which re-derives itself (`shipped_default_rederives`). -/
theorem from_arrays_idempotent_c06_plain (angToAu : Rat) (i : Inp) (r : Molrec)
    (h : fromArrays (envC06 rd64 angToAu) i = .ok r)
    (hA : i.elea = none) (hM : i.mass = none) (hl : i.speclabel = false ∨ i.elbl = none) (hmtol : 0 ≤ i.mtol) :
    fromArrays (envC06 rd64 angToAu) (asInput i r) = .ok r :=
  from_arrays_idempotent_c06_partial rd64 rd64_odd angToAu i r h
    (recNucs_selfConsistent_of_plain angToAu i r h hA hM hl hmtol)

/-! ## why `NucIdem` / the unconditional fixed point cannot be had: a kernel-checked counter-example
on the shipped table (the implementation: `from_arrays(geom=[0,0,0], elea=[2], elez=[1],
mtol=2, units='Bohr')` returns `A=2, mass=1.00782503223` and feeding that record back raises
`ValidationError: Inconsistent or unspecified mass number`).  Such windows (`mtol > 0.25 u`) are outside
the quantifier of C06's feedback clause. -/

/-- one hydrogen atom at the origin, `elea=[2]`, `elez=[1]`, `mtol=2` -/
def wideInp : Inp :=
  { geom := some [0, 0, 0], elea := some [some 2], elez := some [some 1], elem := none, mass := none,
    real := none, elbl := none, name := none, comment := none, units := "Bohr".toList, iutau := none,
    fixCom := .none, fixOrient := .none, fixSymm := none, seps := none, fc := none, fm := none,
    c := none, m := none, conn := none, minimal := false, speclabel := true,
    nonphysical := false, mtol := 2, tooclose := 1 / 10, zgf := false }

def wideRec : Molrec :=
  { units := sBohr, iutau := none, name := none, comment := none, conn := none,
    geom := [0, 0, 0], elea := [2], elez := [1], elem := ["H"], mass := [2269420219802843 / 2251799813685248],
    real := [true], elbl := [""], seps := [], c := 0, fc := [0], m := 2, fm := [2],
    fixCom := false, fixOrient := false, fixSymm := none }

/-- **`from_arrays` is not a fixed point for wide windows** [decide +kernel: the whole pipeline —
`from_arrays` model with the C06 model under `rd64` on the generated table]: the record is returned,
and fed back it is refused. -/
theorem from_arrays_not_idempotent_c06 :
    fromArrays (envC06 rd64 1) wideInp = .ok wideRec ∧
    fromArrays (envC06 rd64 1) (asInput wideInp wideRec) = .error .validation := by
  constructor <;> decide +kernel

/-- **`NucIdem (reconOfC06 rd64)` is false**: an idempotent reconciler would make `from_arrays` a fixed point
(`from_arrays_idempotent`), which it is not on `wideInp` (`A=2, Z=1`, `mtol = 2`). -/
theorem recon_c06_not_idem : ¬ NucIdem (reconOfC06 rd64) := by
  intro h
  have := from_arrays_idempotent (envC06 rd64 1) h wideInp wideRec from_arrays_not_idempotent_c06.1
  rw [from_arrays_not_idempotent_c06.2] at this
  cases this

/-- settings `mtol = 2`, `speclabel=True` and (next) the clue `A=2, Z=1`: the base values of the adapter tests at the
end of the file -/
def wideSt : NucSettings := { speclabel := true, nonphysical := false, mtol := 2 }
def wideClue : Clue := { A := some 2, Z := some 1, E := none, mass := none, real := none, label := none }

/-! ## non-vacuity tests: the hypotheses are met by non-trivial values -/

/-- water-like input: `O`, `H`, and a deuterium given by label with its mass (`speclabel=True`), default `mtol` -/
def hdoInp : Inp :=
  { geom := some [0, 0, 0, 0, 0, 2, 0, 2, 0], elea := none, elez := some [some 8, none, none],
    elem := some [none, some "h", none], mass := none, real := none,
    elbl := some [none, none, some "@2H_x@2.014101778"],
    name := none, comment := none, units := "bohr".toList, iutau := none,
    fixCom := .none, fixOrient := .none, fixSymm := none, seps := some [2], fc := none, fm := none,
    c := none, m := none, conn := none, minimal := false, speclabel := true,
    nonphysical := false, mtol := dfltMtol, tooclose := dfltTooclose, zgf := false }

def hdoRec : Molrec :=
  { units := sBohr, iutau := none, name := none, comment := none, conn := none,
    geom := [0, 0, 0, 0, 0, 2, 0, 2, 0], elea := [16, 1, 2], elez := [8, 1, 1], elem := ["O", "H", "H"],
    mass := [4502168220032397 / 281474976710656, 2269420219802843 / 2251799813685248, 4535354008443527 / 2251799813685248],
    real := [true, true, false], elbl := ["", "", "_x"], seps := [2], c := 0, fc := [0, 0], m := 2, fm := [2, 1],
    fixCom := false, fixOrient := false, fixSymm := none }

/-- test [decide +kernel]: the whole pipeline accepts it … -/
theorem hdo_ok : fromArrays (envC06 rd64 1) hdoInp = .ok hdoRec := by decide +kernel

/-- test [decide +kernel]: … every atom of the record is `SelfConsistent` (the hypothesis of
`from_arrays_idempotent_c06_partial` is satisfiable by a 3-atom, 2-fragment record with an isotope and a ghost) … -/
theorem hdo_selfConsistent : ∀ u ∈ recNucs hdoRec, SelfConsistent shippedN rd64 hdoInp.mtol u := by
  have h : (recNucs hdoRec).all (selfConsistentB shippedN rd64 hdoInp.mtol) = true := by decide +kernel
  intro u hu
  exact (selfConsistentB_iff _ _ _ u).mp ((List.all_eq_true.mp h) u hu)

/-- … so the record fed back is returned unchanged — by the theorem, not by evaluation -/
example : fromArrays (envC06 rd64 1) (asInput hdoInp hdoRec) = .ok hdoRec :=
  from_arrays_idempotent_c06_partial rd64 rd64_odd 1 hdoInp hdoRec hdo_ok hdo_selfConsistent

/-- test: the invariant for that record, by the theorem -/
example : Inv (ValidC06 shippedN rd64 (elRange shippedN rd64)) 1 (nucSettings hdoInp) hdoInp.tooclose hdoRec :=
  from_arrays_inv_c06 rd64 1 hdoInp hdoRec hdo_ok

/-- tests: refusals propagate through the adapter with their classes -/
example : reconOfC06 rd64 wideSt { wideClue with Z := some 7 } = .error (.other "NotAnElement") := by decide +kernel
example : reconOfC06 rd64 wideSt { wideClue with E := some "He" } = .error .validation := by decide +kernel
example : reconOfC06 rd64 wideSt { wideClue with label := some "2h)" } = .error .validation := by decide +kernel

end QcelVerif.FromArrays
