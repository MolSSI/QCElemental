import QcelVerif.Props.C01NucPred
import QcelVerif.Lib.ListLemmas
import QcelVerif.Props.C01General
import QcelVerif.Lemmas.F64Near
/-!
C01: why a nuclide row resolves to itself.  The accessors are all read off `resolve`, and `resolve` finds the capitalised
text in the tree first; so a row whose key is spelt the way `capitalize` spells it, which the tree maps to the row, and whose
element symbol is listed, passes `nuclideRowOk` — only these three facts are evaluated per row.
-/
namespace QcelVerif.PT
open QcelVerif QcelVerif.PStr

/-- the key is its own capitalisation, and the row's element symbol is an element of the table.  The symbol is matched out of the
row, not projected: `el2z` walks the element list, and the kernel reduces `shipped.el2z e` once for all rows that carry the same
numeral `e`, which it cannot do for the terms `r.2.1` of different rows. -/
def spelledOk (r : Nat × Nat × Nat × Nat) : Bool :=
  Nat.beq (pack (capitalize (unpack r.1))) r.1 && match r with | (_, e, _) => (shipped.el2z e).isSome

theorem nuclideRowOk_of {r : Nat × Nat × Nat × Nat} (hs : spelledOk r = true) (ht : treeRowOk r = true) :
    nuclideRowOk r = true := by
  simp only [spelledOk, Bool.and_eq_true] at hs
  have he2 : (shipped.el2z r.2.1).isSome = true := by obtain ⟨_, _, _⟩ := r; exact hs.2
  have hc : pack (capitalize (unpack r.1)) = r.1 := Nat.eq_of_beq_eq_true hs.1
  have hl : shipped.eliso.lookup r.1 = some r.2 := by simpa [treeRowOk, shipped] using ht
  have hr : shipped.resolveEliso (.str (unpack r.1)) = some r.1 := by
    simp [Tables.resolveEliso, hc, Bst.contains, hl]
  cases he : shipped.isElementSymbol r.1 <;>
    simp [nuclideRowOk, Tables.resolve, Tables.toE, Tables.toZ, Tables.toA, Tables.toMass, hr, hl, he2, he]

/-- `massFloatOk` as it is evaluated: the nearest-double test over ℕ (`F64Check.nearestOk_eq`) -/
def massFloatOkN (r : Nat × Nat × Nat × Nat) : Bool :=
  match Dec.parse (unpack r.2.2.2) with
  | some d => if d.coeff == 0 then Nat.beq d.toF64 0 else F64Check.nearestOkN d d.toF64
  | none => false

theorem massFloatOk_eq : massFloatOk = massFloatOkN := by
  funext r; unfold massFloatOk massFloatOkN
  cases Dec.parse (unpack r.2.2.2) <;> simp only [F64Check.nearestOk_eq]

/-- the lower- and upper-case spellings resolve like the label itself (`resolve_case_insensitive`) -/
theorem nuclideRowAnycaseOk_of {r : Nat × Nat × Nat × Nat} (h : nuclideRowOk r = true) :
    nuclideRowAnycaseOk r = true := by
  have h1 : shipped.resolve (.str (unpack r.1)) false = some r.1 := by
    simp only [nuclideRowOk, Bool.and_eq_true, beq_iff_eq] at h; exact h.1.1.1.1.1.1
  simp [nuclideRowAnycaseOk, resolve_case_insensitive shipped _ (unpack r.1) (lower_lower _),
    resolve_case_insensitive shipped _ (unpack r.1) (lower_upper _), h1]

end QcelVerif.PT
