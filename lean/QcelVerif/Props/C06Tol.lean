import QcelVerif.Props.C06Sound
/-!
# C06 — the tolerance is honoured *as given*, down to zero

Corollaries of `reconcile_sound` / `conflict_mass_number_vs_mass` at the falsy end of the `mtol`
setting (`mtol = 0`, `0.0`, `False`; stated for every `mtol ≤ 0`): the tolerance is never replaced by
a default.  For ANY table, ANY range table, ALL inputs, and ANY rounding function `rd` with
`hrd0 : ∀ q, rd q = 0 → q = 0` (no non-zero rational is rounded to zero).  `hrd0` is a hypothesis on `rd` over all
rationals; it is not instantiated at `rd64` here.  IEEE subtraction meets it on the values that occur: the
difference of two doubles is exact whenever it would be subnormal, so it is zero only for equal doubles.
-/
namespace QcelVerif.Nucleus
open QcelVerif.PStr

/-- within a tolerance `t ≤ 0`, under a rounding that sends only zero to zero, is equal -/
theorem eq_of_absR_rd_sub_le {rd : Rat → Rat} (hrd0 : ∀ q, rd q = 0 → q = 0) {x y t : Rat}
    (h : absR (rd (x - y)) ≤ t) (ht : t ≤ 0) : x = y := by
  have h0 : rd (x - y) = 0 := by
    have := Rat.le_trans h ht
    unfold absR at this
    split at this <;> grind
  have := hrd0 _ h0
  grind

/-- **Zero tolerance means exact.**  With `mtol ≤ 0` a successful reconciliation returns `A = −1` or a
tabulated nuclide whose (float) tabulated mass *equals* the returned mass. -/
theorem zero_tolerance_exact (N : NTables) (rd : Rat → Rat) (rng : Nat → Option Range) (hcoh : DefaultCoherent N)
    (hrd0 : ∀ q, rd q = 0 → q = 0)
    (i : Input) (o : Output) (h : reconcileWith N rd rng i = .ok o) (hz : i.mtol.val ≤ 0) :
    o.A = -1 ∨ tableMass N rd (.str (unpack o.E ++ intStr o.A)) = .ok o.mass := by
  obtain ⟨_, _, _, _, hnuc, _⟩ := reconcile_sound N rd rng hcoh i o h
  rcases hnuc with hneg | ⟨tm, htm, heq | hle | hle⟩
  · exact Or.inl hneg
  · exact Or.inr (heq ▸ htm)
  · exact Or.inr (eq_of_absR_rd_sub_le hrd0 hle hz ▸ htm)
  · exact Or.inr ((eq_of_absR_rd_sub_le hrd0 hle hz).symm ▸ htm)

/-- the hypotheses are satisfiable by a non-trivial value: the identity rounding never maps a non-zero
number to zero, and `0`, `0.0`, `False` all have value `0` -/
example : (∀ q : Rat, id q = 0 → q = 0) ∧ (PyNum.int 0).val ≤ 0 ∧ (PyNum.float 0).val ≤ 0 ∧ (PyNum.bool false).val ≤ 0 := by
  refine ⟨fun q h => h, ?_, ?_, ?_⟩ <;> decide

/-- **Zero tolerance is not widened.**  With `mtol ≤ 0`, a mass-number clue `a` and a mass clue `m` for
the element named `z`: unless `E + str(a)` is tabulated with exactly the float `m`, error. -/
theorem zero_tolerance_conflict (N : NTables) (rd : Rat → Rat) (rng : Nat → Option Range) (hcoh : DefaultCoherent N)
    (hrd0 : ∀ q, rd q = 0 → q = 0)
    (i : Input) (z a : Int) (m : Rat) (sym : Nat) (hz : NamesZ N i z) (hsym : N.pt.toE (.int z) false = some sym)
    (hA : ClaimsA i a) (hM : ClaimsMass rd i m) (hzero : i.mtol.val ≤ 0)
    (hne : ∀ tm, tableMass N rd (.str (unpack sym ++ intStr a)) = .ok tm → tm ≠ m) :
    ∃ e, reconcileWith N rd rng i = .error e := by
  apply conflict_mass_number_vs_mass N rd rng hcoh i z a m sym hz hsym hA hM
  intro tm htm hle
  exact hne tm htm (eq_of_absR_rd_sub_le hrd0 hle hzero).symm

end QcelVerif.Nucleus
