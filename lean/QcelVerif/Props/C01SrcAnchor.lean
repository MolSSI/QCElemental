import QcelVerif.Props.C01SrcShipped
import QcelVerif.Props.C01Anchor
/-! C01 — `bare_default_textbook` (anchored in the table embedded in harness/c01_anchor.py, not in /repo) restated for the
source-derived lookups. -/
namespace QcelVerif.PT.Src
open QcelVerif QcelVerif.PStr

/-- **`bare_default_textbook` for the source-derived lookups**: for every row of the embedded textbook table the
shipped table has an element for, the label `symbol ++ str(A)` of the textbook default isotope makes the translated
bodies return that element's symbol, Z and that mass number, and int Z / str Z / symbol / name make the translated
to_A return that mass number and the translated to_mass the very mass of that label (no exception). -/
theorem bare_default_textbook_src :
    ∀ r ∈ anchorPrefix,
      let lbl : PyVal := .str (unpack r.2.1 ++ natDigits r.2.2.2.1)
      accessorRun Env.ofSource .to_E lbl false = .ok (.pstr r.2.1) ∧
      accessorRun Env.ofSource .to_Z lbl false = .ok (.int r.1) ∧
      accessorRun Env.ofSource .to_A lbl false = .ok (.int r.2.2.2.1) ∧
      ∀ a ∈ [PyVal.int r.1, .str (natDigits r.1), .str (unpack r.2.1), .str (unpack r.2.2.1)],
        accessorRun Env.ofSource .to_A a false = .ok (.int r.2.2.2.1) ∧
        (accessorRun Env.ofSource .to_mass a false).toOption = (accessorRun Env.ofSource .to_mass lbl false).toOption ∧
        (accessorRun Env.ofSource .to_mass lbl false).toOption.isSome = true := by
  intro r hr
  have h := List.all_eq_true.mp bare_default_textbook.2.2 r hr
  simp only [anchorRowOk, Bool.and_eq_true, beq_iff_eq, List.all_eq_true] at h
  obtain ⟨⟨⟨⟨h1, h2⟩, h3⟩, h4⟩, h5⟩ := h
  obtain ⟨a1, a2, _, a4, a5⟩ := accessors_src_shipped (.str (unpack r.2.1 ++ natDigits r.2.2.2.1)) false
  refine ⟨?_, ?_, ?_, ?_⟩
  · rw [← toOption_some, a2, h1]; rfl
  · rw [← toOption_some, a1, h2]; rfl
  · rw [← toOption_some, a4, h3]; rfl
  · intro a ha
    obtain ⟨_, _, _, b4, b5⟩ := accessors_src_shipped a false
    have := h5 a ha
    refine ⟨?_, ?_, ?_⟩
    · rw [← toOption_some, b4, this.1]; rfl
    · rw [b5, a5, this.2]
    · rw [a5]; cases hm : shipped.toMass (.str (unpack r.2.1 ++ natDigits r.2.2.2.1)) <;> simp [hm] at h4 ⊢

end QcelVerif.PT.Src
