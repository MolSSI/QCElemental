import QcelVerif.Lemmas.Nucleus
import QcelVerif.Gen.SrcConsts
import QcelVerif.Props.ConstTieLib
/-!
# C06 — the literals inside `Model/Nucleus.lean` are those of `nucleus.py`

The model of `reconcile_nucleus` carries four literals inline: the ±`mmtol` widening of an element's physical mass
window (`offerZ`), the nonphysical mass floor `x > 0.5` (`MPred.holds`), the nonphysical mass-number floor `x >= 1`
and the unknown-A sentinel `-1` (`APred.holds`, `massToA`).  `Gen/SrcConsts.lean` is rewritten on every run from
`qcelemental/molparse/nucleus.py` (by `ast`).  Each theorem states the behaviour of the model function that
identifies the literal, for all arguments, with the generated value in its place.  (`mtol` is an argument of the
model; its default `1.0e-3` is tied as a literal and compared with the harness's `DOC_DEFAULTS` by the translator.)
Core Lean only.

-/
namespace QcelVerif.Nucleus
open QcelVerif QcelVerif.ConstTie

theorem nucleus_float_literals_ok :
    FloatLit.ok Src.reconcile_nucleus.mtol Src.reconcile_nucleus.mtol_dec Src.reconcile_nucleus.mtol_bits Src.reconcile_nucleus.mtol_f64 = true ∧
    FloatLit.ok Src.reconcile_nucleus.mmtol Src.reconcile_nucleus.mmtol_dec Src.reconcile_nucleus.mmtol_bits Src.reconcile_nucleus.mmtol_f64 = true ∧
    FloatLit.ok Src.reconcile_nucleus.nonphysical_mass_above Src.reconcile_nucleus.nonphysical_mass_above_dec
      Src.reconcile_nucleus.nonphysical_mass_above_bits Src.reconcile_nucleus.nonphysical_mass_above_f64 = true := by
  decide +kernel

/-- `nonphysical=True`: the only demand on a mass is `x > 0.5` (strict), with the source's literal as a double -/
theorem nonphysical_mass_floor_matches_source (rd : Rat → Rat) (lo hi x : Rat) :
    MPred.holds rd (.range true lo hi) x = decide (Src.reconcile_nucleus.nonphysical_mass_above_f64 < x) := by
  have h : Src.reconcile_nucleus.nonphysical_mass_above_f64 = 1 / 2 := by decide +kernel
  simp [MPred.holds, h]

/-- the physical mass window an element offers is `[fl(mmin − mmtol), fl(mmax + mmtol)]`, both ends closed, with
the source's `mmtol` as a double: whatever `offerZ` answers, its mass test is that window over the element's range -/
theorem physical_mass_window_matches_source (N : NTables) (rd : Rat → Rat) (rng : Nat → Option Range) (np : Bool)
    (z : Int) (o : ZOffer) (h : offerZ N rd rng np z = .ok o) :
    ∃ r, rng o.sym = some r ∧
      o.mPred = .range np (rd (r.mmin - Src.reconcile_nucleus.mmtol_f64)) (rd (r.mmax + Src.reconcile_nucleus.mmtol_f64)) ∧
      (∀ x, MPred.holds rd (.range false (rd (r.mmin - Src.reconcile_nucleus.mmtol_f64)) (rd (r.mmax + Src.reconcile_nucleus.mmtol_f64))) x
            = (decide (rd (r.mmin - Src.reconcile_nucleus.mmtol_f64) ≤ x) && decide (x ≤ rd (r.mmax + Src.reconcile_nucleus.mmtol_f64)))) ∧
      Src.reconcile_nucleus.mass_window_closed = true := by
  have hm : Src.reconcile_nucleus.mmtol_f64 = 1 / 2 := by decide +kernel
  rw [hm]
  obtain ⟨_, _, _, _, r, hr, _, hmP⟩ := offerZ_ok h
  exact ⟨r, hr, hmP, fun x => rfl, by decide⟩

/-- test (non-vacuity): with the shipped table and the double rounding, hydrogen gets an offer -/
example : (offerZ shippedN rd64 (elRange shippedN rd64) false 1).toOption.isSome = true := by decide +kernel

/-- the mass-number tests: the sentinel `S = -1` always passes; otherwise `x >= 1` (nonphysical) or the element's
closed range `[amin, amax]` -/
theorem mass_number_ranges_match_source (lo hi x : Int) :
    APred.holds (.range true lo hi) x
      = (x == Src.reconcile_nucleus.unknown_A || decide (Src.reconcile_nucleus.nonphysical_A_min ≤ x)) ∧
    APred.holds (.range false lo hi) x
      = (x == Src.reconcile_nucleus.unknown_A || (decide (lo ≤ x) && decide (x ≤ hi))) := by
  have h1 : Src.reconcile_nucleus.unknown_A = -1 := by decide
  have h2 : Src.reconcile_nucleus.nonphysical_A_min = 1 := by decide
  simp [APred.holds, h1, h2]

/-- the `A` a mass value suggests is the rounded mass, or the source's sentinel: the sentinel exactly when the
nuclide `E + str(round(mass))` is not tabulated or its mass is further than `mtol` away (`> mtol`, strict) -/
theorem unknown_A_sentinel_matches_source (N : NTables) (rd : Rat → Rat) (sym : Nat) (mtol m : Rat) :
    massToA N rd sym mtol m =
      match tableMass N rd (.str (PStr.unpack sym ++ intStr (roundHalfEven m))) with
      | .ok tm => if mtol < absR (rd (tm - m)) then Src.reconcile_nucleus.unknown_A else roundHalfEven m
      | .error _ => Src.reconcile_nucleus.unknown_A := by
  have h1 : Src.reconcile_nucleus.unknown_A = -1 := by decide
  rw [h1]; rfl

/-- at the tolerance edge (`|x − a_mass| = mtol`) the mass-number clue's mass test passes (`<= mtol`), and the source
says the same (`abs(x - a_mass) <= mtol` accepts, `abs(to_mass - m) > mtol` drops) -/
theorem mtol_edge_inside (rd : Rat → Rat) (am mtol x : Rat) (h : absR (rd (x - am)) = mtol) :
    MPred.holds rd (.near am mtol) x = true ∧ Src.reconcile_nucleus.mtol_closed = true := by
  refine ⟨?_, by decide⟩
  simp [MPred.holds, h]

/-- test (non-vacuity of `mtol_edge_inside`): identity rounding, a_mass = 12, x = 12 + 1/1000 -/
example : absR ((fun q => q) ((12 + 1 / 1000 : Rat) - 12)) = 1 / 1000 := by decide +kernel

end QcelVerif.Nucleus
