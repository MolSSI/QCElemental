import QcelVerif.Props.C08
/-!
# C08 — the clauses of the property, stated about the OUTPUT of `render`

The theorems of `Props/C08.lean` about the stages of `render` (`atomsFormatter`, `header`, `footer`, `keywordsOf`, the
decision table `outcome`), composed into statements about the value `render o m = .ok r`: its list of text elements
`r.lines` and its dictionary `r.keywords`.  One exception: `rendered_unit_is_used` concludes about the coordinate
records handed to `checkParams`, not about `r` (see there).
-/
namespace QcelVerif.ToString
open QcelVerif.FixedFmt

theorem getElem?_hdr {α} {H B F : List α} {i : Nat} (hi : i < H.length) : (H ++ B ++ F)[i]? = H[i]? := by
  rw [List.append_assoc, List.getElem?_append_left hi]

theorem getElem?_rev_ftr {α} {H B F : List α} {i : Nat} (hi : i < F.length) : (H ++ B ++ F).reverse[i]? = F.reverse[i]? := by
  rw [List.reverse_append, List.getElem?_append_left (by simpa using hi)]

theorem getElem?_ftr {α} {H B F : List α} (i : Nat) : (H ++ B ++ F)[(H ++ B).length + i]? = F[i]? := by
  rw [List.getElem?_append_right (by omega)]
  congr 1
  omega

/-! ## atoms, once and in order -/

/-- **atoms once, in order, on the rendered text** (every program that formats through `_atoms_formatter`; any
molecule): skipping the format's header elements, ignoring its footer elements and dropping the fragment headers leaves
exactly one line per shown atom (real, or ghost under a non-empty ghost format), in the molecule's order, each made of
the label the branch's formats give that atom and that atom's own three coordinate texts (lower-cased by turbomole). -/
theorem rendered_atoms {o : Opts} {m : Mol} {r : Out} (h : render o m = .ok r) (hd : o.dtype ≠ .sdf)
    (h3 : ∀ a ∈ m.atoms, a.xyz.length = 3) (hasc : Ascending 0 m.seps) :
    unfrag o.dtype (readBlock (hdrLen o.dtype m) (ftrLen o.dtype m) r.lines) =
      blockOf o.dtype ((m.atoms.filter (shown (formats o).2.1)).map
        (fun a => atomLine o.width (formats o).2.2 (labelOf (formats o).1 (formats o).2.1 a) a.xyz)) := by
  obtain ⟨atoms, body, uw, ha, _, _, _⟩ := render_ok h
  have hf := ha
  rw [atomBlock_of_ne_sdf hd] at hf
  rw [extract_atomLines h ha (formatter_ne_dashes hf h3) hasc, (formatter_lists_shown_atoms _ _ _ _ _ _ hf).1]

/-- … and for nglview-sdf, which formats its own lines: one line per atom (ghosts included, under the ghost word) -/
theorem rendered_atoms_sdf {o : Opts} {m : Mol} {r : Out} (h : render o m = .ok r) (hd : o.dtype = .sdf) :
    readBlock 3 m.bonds.length r.lines = m.atoms.map (sdfAtomLine (formats o).2.1) := by
  obtain ⟨atoms, body, uw, ha, hb, _, hr⟩ := render_ok h
  subst hr
  simp only [hd, atomBlock, bodyOf, Except.ok.injEq] at ha hb ⊢
  subst hb
  have := readBlock_append (header .sdf m uw atoms.length) atoms (footer .sdf m uw)
  simp only [header_length, footer_length, hdrLen, ftrLen] at this
  rw [this, ← ha]

/-- non-vacuity (test): the hypotheses of `rendered_atoms` hold of the two-fragment psi4 example -/
example : ∃ r, render exOpts exMol = .ok r ∧ exOpts.dtype ≠ .sdf ∧ (∀ a ∈ exMol.atoms, a.xyz.length = 3) ∧ Ascending 0 exMol.seps := by
  refine ⟨_, rfl, by decide, by decide, by simp [Ascending, exMol]⟩

/-! ## charge and multiplicity, on the rendered output -/

/-- **the total charge and multiplicity in `r`** (every program with a slot, every molecule): text slots are lines of
`r.lines` at fixed positions from the top (xyz, xyz+, orca, psi4, qchem, mrchem) or from the bottom (molpro), keyword
slots are entries of `r.keywords` (cfour, gamess, nwchem, madness, mrchem) — each with the molecule's value. -/
theorem rendered_chgmult {o : Opts} {m : Mol} {r : Out} (h : render o m = .ok r) :
    ((o.dtype = .xyz ∨ o.dtype = .xyzp) → r.lines[1]?.map readTwo = some (m.charge, m.mult)) ∧
    (o.dtype = .orca → r.lines[2]? = some (lit "*xyz " ++ chgMultLine m.charge m.mult)) ∧
    (o.dtype = .psi4 → r.lines[0]?.map readTwo = some (m.charge, m.mult)) ∧
    (o.dtype = .qchem → r.lines[1]?.map readTwo = some (m.charge, m.mult)) ∧
    (o.dtype = .mrchem →
      r.lines[1]? = some (lit "charge = " ++ intStr m.charge) ∧ r.lines[2]? = some (lit "multiplicity = " ++ intStr m.mult) ∧
      kwGet (lit "charge") r.keywords = some (.int m.charge) ∧ kwGet (lit "multiplicity") r.keywords = some (.int m.mult)) ∧
    (o.dtype = .molpro →
      r.lines.reverse[1]? = some (lit "set,charge=" ++ intStr m.charge ++ lit ".0") ∧
      r.lines.reverse[0]? = some (lit "set,spin=" ++ intStr (m.mult - 1))) ∧
    (o.dtype = .cfour →
      kwGet (lit "charge") r.keywords = some (.int m.charge) ∧ kwGet (lit "multiplicity") r.keywords = some (.int m.mult)) ∧
    (o.dtype = .gamess →
      kwGet (lit "contrl__icharg") r.keywords = some (.int m.charge) ∧ kwGet (lit "contrl__mult") r.keywords = some (.int m.mult)) ∧
    (o.dtype = .nwchem →
      kwGet (lit "charge") r.keywords = some (.int m.charge) ∧
      (m.mult ≠ 1 → kwGet (lit "scf__nopen") r.keywords = some (.int (m.mult - 1)) ∧
                    kwGet (lit "dft__mult") r.keywords = some (.int m.mult) ∧
                    kwGet (lit "mcscf__multiplicity") r.keywords = some (.int m.mult)) ∧
      (m.mult = 1 → r.keywords = [(lit "charge", .int m.charge)])) ∧
    (o.dtype = .madness →
      kwGet (lit "charge") r.keywords = some (.int m.charge) ∧
      (kwGet (lit "spin_restricted") r.keywords = some (.str (lit "false")) ↔ m.mult ≠ 1)) := by
  obtain ⟨atoms, body, uw, _, _, _, hr⟩ := render_ok h
  subst hr
  obtain ⟨⟨x1, x2⟩, x3, ⟨x4, x5⟩, ⟨x6, x7, x8, x9⟩, ⟨x10, x11⟩, ⟨x12, x13, x14, x15⟩, ⟨x16, x17, x18⟩, ⟨x19, x20⟩, _⟩ :=
    chgmult_stated m uw atoms.length atoms
  refine ⟨?_, ?_, ?_, ?_, ?_, ?_, ?_, ?_, ?_, ?_⟩
  · rintro (hd | hd) <;> simp only [hd] <;> rw [getElem?_hdr (by simp [header])] <;> assumption
  · intro hd; simp only [hd]; rw [getElem?_hdr (by simp [header])]; exact x3
  · intro hd; simp only [hd]; rw [getElem?_hdr (by simp [header])]; exact x4
  · intro hd; simp only [hd]; rw [getElem?_hdr (by simp [header])]; exact x5
  · intro hd; simp only [hd]
    rw [getElem?_hdr (by simp [header]), getElem?_hdr (by simp [header])]
    exact ⟨x6, x7, x8, x9⟩
  · intro hd; simp only [hd]
    have hl : 2 ≤ (footer .molpro m uw).length := by rw [footer_length]; simp only [ftrLen]; omega
    rw [getElem?_rev_ftr (by omega), getElem?_rev_ftr (by omega)]
    exact ⟨x10, x11⟩
  · intro hd; simp only [hd]; exact ⟨x12, x13⟩
  · intro hd; simp only [hd]; exact ⟨x14, x15⟩
  · intro hd; simp only [hd]; exact ⟨x16, x17, x18⟩
  · intro hd; simp only [hd]; exact ⟨x19, x20⟩

/-- non-vacuity (test): the psi4 example states charge 1, multiplicity 2 on its first line -/
example : (render exOpts exMol).map (fun r => r.lines[0]?.map readTwo) = .ok (some (1, 2)) := by decide

/-! ## the unit word, on the rendered output -/

/-- where program `d` finds the unit word `uw` in the output `r` of a molecule `m` -/
def ShowsUnit (d : Dtype) (m : Mol) (r : Out) (uw : UnitWord) : Prop :=
  match d with
  | .xyz | .xyzp | .terachem => ∃ n : Nat, r.lines[0]? = some (rstrip (natStr n ++ ' ' :: uw.text))   -- after the count
  | .orca => r.lines[0]? = some uw.text
  | .nwchem => r.lines[0]? = some (lit "geometry units " ++ uw.text)
  | .madness => r.lines[1]? = some (lit "units " ++ uw.text)
  | .molpro => r.lines[hdrLen .molpro m - 2]? = some ('{' :: uw.text ++ ['}'])                          -- the line before `geometry={`
  | .psi4 => r.lines[r.lines.length - ftrLen .psi4 m]? = some (lit "units " ++ uw.text)                 -- first line after the atoms
  | .cfour => kwGet (lit "units") r.keywords = some (uwKw uw)
  | .gamess => kwGet (lit "contrl__units") r.keywords = some (uwKw uw)
  | .qchem => kwGet (lit "input_bohr") r.keywords = some (.str uw.text)
  | .turbomole | .sdf | .mrchem => uw = .silent      -- fixed-unit formats / no unit slot: nothing is written

/-- **the unit word `render` obtained is the one its output shows**, at the program's own place (text or keyword) -/
theorem render_shows_unit {o : Opts} {m : Mol} {r : Out} (h : render o m = .ok r) :
    ∃ uw, unitWord o.dtype (resolve o.dtype o.req) = .ok uw ∧ ShowsUnit o.dtype m r uw := by
  obtain ⟨atoms, body, uw, _, hb, hu, hr⟩ := render_ok h
  refine ⟨uw, hu, ?_⟩
  subst hr
  cases hd : o.dtype <;> simp only [hd, ShowsUnit] at hu ⊢
  case xyz | xyzp | terachem => exact ⟨atoms.length, by rw [getElem?_hdr (by simp [header])]; simp [header]⟩
  case orca | nwchem | madness => rw [getElem?_hdr (by simp [header])]; simp [header]
  case cfour | gamess | qchem => simp [kwGet, keywordsOf, lit]
  case turbomole | sdf | mrchem =>
    -- whichever of the four units is asked for, these formats obtain no word or refuse
    generalize resolve _ o.req = t at hu
    cases t <;> cases hu <;> rfl
  case molpro =>
    have hl : (header .molpro m uw atoms.length).length = hdrLen .molpro m := header_length _ _ _ _
    have h2 : 3 ≤ hdrLen .molpro m := by simp [hdrLen]
    rw [getElem?_hdr (by omega)]
    have : ∀ (P : List Str), (P ++ [[], '{' :: uw.text ++ ['}'], lit "geometry={"])[(P ++ [[], '{' :: uw.text ++ ['}'], lit "geometry={"]).length - 2]?
        = some ('{' :: uw.text ++ ['}']) := by
      intro P
      rw [List.getElem?_append_right (by simp)]
      simp
    rw [← hl]
    simp only [header]
    exact this _
  case psi4 =>
    have hf : (footer .psi4 m uw).length = ftrLen .psi4 m := footer_length _ _ _
    have hpos : 1 ≤ ftrLen .psi4 m := by simp [ftrLen]; omega
    have e : (header .psi4 m uw atoms.length ++ body ++ footer .psi4 m uw).length - ftrLen .psi4 m =
        (header .psi4 m uw atoms.length ++ body).length + 0 := by
      simp only [List.length_append, hf]; omega
    rw [e, getElem?_ftr]
    simp [footer]

/-- **announced unit = unit used, for the checked coordinates**: the driver's parameter check passed on the records
`coords`, and the unit word of this call (by `render_shows_unit` the one the output shows) is one the target program
reads as the length unit `u`.  Then the factor converting stored → `u` has a value `f` among the checked constants and
the text of every record in `coords` is the unique correctly rounded decimal (`prec` places; 4 for SDF) of a double
within relative 2⁻⁵³ of `x · f`, `x` the stored coordinate.  The hypothesis `_h` is not used and the statement does not
mention `r`: that the texts of `coords` are the coordinate texts of `m` (hence of `r`, by `rendered_atoms`) holds by
construction in the driver, whose `parseAtom?` fills `Atom.xyz` from these same records; it is not proved. -/
theorem rendered_unit_is_used {o : Opts} {m : Mol} {r : Out} {prec : Nat} {c : Consts} {coords : List (List Coord)}
    {uw : UnitWord} {u : TUnit}
    (_h : render o m = .ok r) (hc : checkParams o prec c coords = .ok)
    (huw : unitWord o.dtype (resolve o.dtype o.req) = .ok uw) (hu : readWord o.dtype uw = .unit u) :
    ∃ f, factorValue c (idealFactor o.stored u o.pinned) = some f ∧
      ∀ cs ∈ coords, ∀ cd ∈ cs, isRoundedTo (cd.x * f) cd.p = true ∧
        isFixedRounding cd.neg cd.p (branchPrec o.dtype prec) cd.text = true := by
  obtain ⟨f, hf, hall⟩ := checked_coordinates hc
  rw [selectFactor_eq_ideal, ← readWord_unitWord huw hu] at hf
  exact ⟨f, hf, hall⟩

/-- non-vacuity (test): psi4 with the default request obtains the unit word `bohr`, which psi4 reads as Bohr -/
example : unitWord .psi4 (resolve .psi4 .dflt) = .ok (.word (lit "bohr")) ∧ readWord .psi4 (.word (lit "bohr")) = .unit .bohr := by
  decide

end QcelVerif.ToString
