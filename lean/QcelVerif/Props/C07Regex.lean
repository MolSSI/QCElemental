import QcelVerif.Lemmas.C07ReNumber
import QcelVerif.Lemmas.C07ReSep
import QcelVerif.Lemmas.C07ReXyz1
import QcelVerif.Lemmas.C07ReXyz1strict
import QcelVerif.Lemmas.C07ReComment
import QcelVerif.Lemmas.C07ReChgmult
import QcelVerif.Lemmas.C07ReAtomLine
import QcelVerif.Lemmas.C07ReSimpleNuc
import QcelVerif.Lemmas.C07ReNucleus
import QcelVerif.Lemmas.C07ReUnits
import QcelVerif.Lemmas.C07ReKeywords
import QcelVerif.Lemmas.C07ReEfp
import QcelVerif.Lemmas.C07ReFrags
/-!
# C07 — the text grammar of M1 is the one in the source

`Gen/FromStringRegex.lean` is regenerated on every run from `qcelemental/molparse/regex.py`, from the compiled patterns of
`qcelemental/molparse/from_string.py` (pattern and flags of every compile site) and from `util/misc.py:filter_comments`
(CPython's own parse tree, re-encoded constructor by constructor: `harness/c07_regex.py` + `harness/regex_gen.py`).

For every pattern of regex.py / from_string.py that M1 uses (NUMBER, SEP, the comment pattern, xyz1strict, xyz1, xyz2, cgmp,
atom_cartesian, atom_cartesian_strict, com, orient, symmetry, bohrang, efpxyzabc, fragment_marker) the hand-written recogniser of
M1 (`Model/MolText.lean`: what every other C07 theorem reasons about) is proved EQUAL to the generic backtracking regex engine
(`Model/RegexEngine.lean`, proved equal to its list-of-successes semantics in `Lemmas/RegexEngine.lean`) run on the generated AST
through the entry point the code uses — for EVERY string (`List Char`; no length bound, no ASCII restriction on the Lean side), same
acceptance and same captured texts.  bohrang is for lines without a newline only (`units_newline_counterexample`).

Each equality rests on a `…_shape` theorem proved by `rfl` (generated AST = the stage decomposition the proof walks through): an edit
of the pattern in the source that changes CPython's parse tree breaks it.  `generated_cannot_match_empty` is why the scan of
`re.sub` / `re.split` (`Model/RegexOps.lean`) never meets the empty-match rules of CPython that it does not model.

NOT proved here: efppoints (the three-point EFP form: M1 declares such texts out of scope; engine vs CPython three-way only).  How the
line filters compose these recognisers (which recogniser is tried on which line, first-occurrence rules, remnants) is proved for
`_filter_universals` / `_filter_mints` in Props/C07Flow.lean (`universals_flow_eq`) and Props/C07FlowMints.lean (`mints_flow_eq`,
`psi4_flow_eq`); for `_filter_xyz` / `_filter_libefp` it stays a differential tie.
What stays differential for the proved ones: that engine + translator reproduce CPython's `re` (the `"X"` requests of
`Driver/C07c.lean`), ASCII only.
-/
namespace QcelVerif.C07Regex
open QcelVerif.MolText QcelVerif.Regex QcelVerif.Gen

/-- NUMBER, the extent: from any cursor, the ways NUMBER's body matches are exactly the splits of the remaining text into a token
accepted by M1's `isNumber` and a rest; nothing but the cursor moves -/
theorem number_extent : NumExt := numberBody_lang

/-- `re.compile(NUMBER, re.VERBOSE).fullmatch(t)` succeeds exactly when M1's `isNumber t` -/
theorem number_eq_regex (t : Str) : isNumberRe t = isNumberHand t := MolText.number_eq_regex t

/-- and then group 1 is the whole token (what `_float` is given) -/
theorem number_group_whole (t : Str) (st : St) (h : FromStringRegex.number.fullMatch (toBytes t) = some st) :
    st.group 1 = some (toBytes t) := number_group t st h

/-- `re.split(SEP, s)` = M1's `splitSep` -/
theorem sep_eq_regex (s : Str) : splitSepRe s = splitSepHand s := MolText.sep_eq_regex s

/-- `filter_comments`: `re.sub(<comment pattern>, r"\1", s)` = M1's `filterComments` -/
theorem comment_eq_regex (s : Str) : filterCommentsRe s = filterCommentsHand s := MolText.comment_eq_regex s

/-- strict xyz count line `\A(?P<nat>\d+)\Z` = M1's `isNatLine` (group `nat` = the line) -/
theorem xyz1strict_eq_regex (s : Str) : xyz1strictRe s = xyz1strictHand s := MolText.xyz1strict_eq_regex s

/-- xyz+ count line: acceptance and the unit read by `process_bohrang` = M1's `matchXyz1` -/
theorem xyz1_eq_regex (s : Str) : xyz1Re s = xyz1Hand s := MolText.xyz1_eq_regex s

/-- xyz+ title line, `\A` CHGMULT as a prefix match: acceptance and the texts of `chg` / `mult` = M1's `matchXyz2` -/
theorem xyz2_eq_regex (s : Str) : xyz2Re s = xyz2Hand s := MolText.xyz2_eq_regex s

/-- psi4 CHGMULT line `\A CHGMULT \Z`: acceptance and the texts of `chg` / `mult` = M1's `classify … = .cgmp` -/
theorem cgmp_eq_regex (s : Str) : cgmpRe s = cgmpHand s := MolText.cgmp_eq_regex s

/-- strict xyz atom line `\A(?P<nucleus>SIMPLENUCLEUS) SEP CARTXYZ \Z` (IGNORECASE): acceptance and the texts of nucleus / x / y / z =
M1's view (four separator fields: a NUCLEUS that is 1-3 letters or 1-3 digits, then three NUMBERs) -/
theorem atomStrict_eq_regex (s : Str) : atomStrictRe s = atomStrictHand s := MolText.atomStrict_eq_regex s

/-- NUCLEUS inside a line: from the start of a line the nucleus group of atom_cartesian takes exactly the prefixes M1's `isNucleus`
accepts (backtracking included: every accepted prefix, not only the longest) and captures the prefix -/
theorem nucleus_extent : NucExtFor nucLine (fun t => isNucleus t) := nucLine_ext

/-- atom line `\A(?P<nucleus>NUCLEUS) SEP CARTXYZ \Z` (IGNORECASE): acceptance and the texts of nucleus / x / y / z = M1's line
classifier answering `.atom` with the four separator fields -/
theorem atom_eq_regex (s : Str) : atomRe s = atomHand s := MolText.atom_eq_regex s

/-- what M1 stores for an atom line: the label is the text of group `nucleus`, the coordinates are `parseNumber` of the texts of
groups x / y / z -/
theorem atom_parts (s n : Str) (px py pz : NumParts) (h : classify s = .atom n px py pz) :
    ∃ x y z, atomRe s = some (n, x, y, z) ∧ parseNumber x = some px ∧ parseNumber y = some py ∧ parseNumber z = some pz := by
  obtain ⟨_, x, y, z, hs, _, hx, hy, hz⟩ := (classify_atom_iff s n px py pz).mp h
  refine ⟨x, y, z, ?_, hx, hy, hz⟩
  rw [atom_eq_regex]
  simp [atomHand, h, hs]

/-- `no_com` / `nocom` line (com, IGNORECASE) = M1's classifier answering `.com`, every string -/
theorem com_eq_regex (s : Str) : comRe s = comHand s := MolText.com_eq_regex s

/-- `no_reorient` / `noreorient` line (orient, IGNORECASE) = M1's classifier answering `.orient`, every string -/
theorem orient_eq_regex (s : Str) : orientRe s = orientHand s := MolText.orient_eq_regex s

/-- `symmetry` line: acceptance and the lower-cased text of group `pg` = M1's classifier answering `.sym pg`, every string -/
theorem sym_eq_regex (s : Str) : symRe s = symHand s := MolText.sym_eq_regex s

/-- one-line EFP fragment `\A efp SEP (\w+) (SEP NUMBER){6} ENDL \Z` (IGNORECASE): acceptance and the texts of efpfile, x, y, z, a, b, c =
M1's classifier answering `.efp` (eight separator fields, an optional trailing separator run), every string -/
theorem efp_eq_regex (s : Str) : efpRe s = efpHand s := MolText.efp_eq_regex s

/-- fragment markers: `re.split(r'^\s*--\s*$' [MULTILINE], text)`, each piece then cut into its non-empty stripped lines (what the
callers do next) = M1's line view: the non-empty stripped lines of the text split at the lines that are exactly `--`; every text -/
theorem frags_eq_regex (s : Str) : fragsRe s = fragsHand s := MolText.frags_eq_regex s

/-- `units` line (bohrang, IGNORECASE) as `process_bohrang` reads it = M1's classifier answering `.units`, for every line without a
newline (M1 lets the two dots of `a.u.` be ANY character, the regex excludes a newline there).  Every line of a text meets the
hypothesis: lines come from `str.split("\n")`, and lines are what `_filter_universals` applies the pattern to. -/
theorem units_eq_regex_partial (s : Str) (hnl : ∀ c ∈ s, c ≠ '\n') : unitsRe s = unitsHand s := units_eq_regex s hnl

/-- the hypothesis of `units_eq_regex_partial` cannot be dropped -/
theorem units_newline_counterexample : unitsRe "units a\nu\n".toList ≠ unitsHand "units a\nu\n".toList := by decide +kernel

-- non-vacuity of `units_eq_regex_partial` and `atom_parts`
example : (∀ c ∈ "units a.u.".toList, c ≠ '\n') ∧ unitsHand "units a.u.".toList = some (some true) := by decide +kernel
example : atomHand "Gh(He_a) 0 0 1.5".toList = some ("Gh(He_a)".toList, "0".toList, "0".toList, "1.5".toList) := by decide +kernel

/-- the line structure of every atom line, generic in the nucleus pattern: if the nucleus group takes exactly the prefixes a hand
predicate `P` accepts (`NucExtFor`), the whole line pattern = "four separator fields, `P`, NUMBER, NUMBER, NUMBER" -/
theorem atom_line_structure (N : Re) (P : Str → Bool) (gx gy gz : Nat) (hN : NucExtFor N P)
    (hPsep : ∀ t, P t = true → ∀ c ∈ t, isSep c = false) (hPne : ∀ t, P t = true → t ≠ []) (hg : GroupsApart gx gy gz) (s : Str) :
    ((atomLineRe N gx gy gz).matchPrefix (toBytes s)).bind (fun st => atomGroups st 1 gx gy gz) = lineHand P s :=
  atomLine_eq N P gx gy gz hN hPsep hPne hg s

-- non-vacuity of `atom_line_structure`: its hypotheses hold for SIMPLENUCLEUS (used in `atomStrict_eq_regex`)
example : NucExtFor simpleNuc isSimpleNucleus ∧ GroupsApart 5 7 9 := ⟨simpleNuc_ext, groupsApart_strict⟩

/-- what M1 stores for a CHGMULT line is `parseNumber` of the very text of group `chg` -/
theorem cgmp_parts (s : Str) (cn : NumParts) (m : Str) (h : classify s = .cgmp cn m) :
    ∃ c, cgmpRe s = some (c, m) ∧ parseNumber c = some cn := by
  obtain ⟨_, c, h1, h2, _, _⟩ := (classify_cgmp_iff s cn m).mp h
  refine ⟨c, ?_, h2⟩
  rw [cgmp_eq_regex]
  simp [cgmpHand, h, h1]

/-- `re.sub` / `re.subn` / `re.search` with a pattern that starts with `\A` (every line pattern of from_string.py) can only match at
the start of the line: the substitution is decided by `re.match` -/
theorem anchored_sub_is_match (r : Re) (s : List Nat) :
    (Re.seq .bos r).search s = ((Re.seq .bos r).matchPrefix s).map fun st => (0, st) := search_bos r s

/-- the line patterns the theorems above treat through `matchPrefix` do start with `\A` -/
theorem anchored_patterns :
    (∃ r, FromStringRegex.xyz1strict = .seq .bos r) ∧ (∃ r, FromStringRegex.xyz1 = .seq .bos r) ∧
    (∃ r, FromStringRegex.xyz2 = .seq .bos r) ∧ (∃ r, FromStringRegex.cgmp = .seq .bos r) ∧
    (∃ r, FromStringRegex.atomCartesian = .seq .bos r) ∧ (∃ r, FromStringRegex.atomCartesianStrict = .seq .bos r) ∧
    (∃ r, FromStringRegex.com = .seq .bos r) ∧ (∃ r, FromStringRegex.orient = .seq .bos r) ∧
    (∃ r, FromStringRegex.bohrang = .seq .bos r) ∧ (∃ r, FromStringRegex.symmetry = .seq .bos r) ∧
    (∃ r, FromStringRegex.efpxyzabc = .seq .bos r) :=
  ⟨⟨_, rfl⟩, ⟨_, rfl⟩, ⟨_, rfl⟩, ⟨_, rfl⟩, ⟨_, rfl⟩, ⟨_, rfl⟩, ⟨_, rfl⟩, ⟨_, rfl⟩, ⟨_, rfl⟩, ⟨_, rfl⟩, ⟨_, rfl⟩⟩

/-- none of the patterns that are scanned (`re.sub`, `re.split`) can match the empty string, and no generated AST repeats a nullable
body (the engine's fuel never truncates: `Regex.rep_fuel_irrelevant`) -/
theorem generated_cannot_match_empty :
    FromStringRegex.comment.nullable = false ∧ FromStringRegex.sep.nullable = false ∧ FromStringRegex.fragmentMarker.nullable = false ∧
    (FromStringRegex.byName.all fun x => x.2.1.wf) = true := by
  decide +kernel

/-- the shape obligations (each `rfl`, in `Lemmas/C07ReShapes.lean` and `Lemmas/C07ReAtomShapes.lean`): generated AST = stage decomposition -/
theorem shapes :
    FromStringRegex.number = .group 1 numberBody ∧ FromStringRegex.sep = sepPlus ∧
    FromStringRegex.comment = .seq commentHead commentTail ∧
    FromStringRegex.xyz1strict = .seq .bos (.seq (.group 1 digits1) .eos) ∧
    FromStringRegex.xyz1 = .seq .bos (.seq (.group 1 digits1) (.seq wsComma0 (.seq xyz1Unit .eos))) ∧
    FromStringRegex.xyz2 = .seq .bos chgmultRe ∧ FromStringRegex.chgmult = chgmultRe ∧
    FromStringRegex.cgmp = .seq .bos (.seq (.group 1 (.group 2 numberBody)) (.seq sepPlus (.seq (.group 3 digits1) .eos))) ∧
    FromStringRegex.atomCartesian = atomLineRe nucLine 16 18 20 ∧ FromStringRegex.atomCartesianStrict = atomLineRe simpleNuc 5 7 9 :=
  ⟨number_shape, sep_shape, comment_shape, xyz1strict_shape, xyz1_shape, xyz2_shape, chgmult_shape, cgmp_shape,
    atomCartesian_shape, atomCartesianStrict_shape⟩

/-- more shape obligations [rfl]: the NUCLEUS group of atom_cartesian cut into ghost / label / mass / close stages, bohrang -/
theorem shapes_nucleus_units :
    nucLine = .seq nucGhost (.seq nucLabel (.seq nucMass nucClose)) ∧
    FromStringRegex.bohrang =
      .seq .bos (.seq (ciL 117) (.seq (ciL 110) (.seq (ciL 105) (.seq (ciL 116) (.seq optS (.seq wsEq1 (.seq unitsG .eos))))))) :=
  ⟨nucLine_cut, bohrang_shape⟩

/-- shape obligations [rfl] of the keyword, efp and marker patterns -/
theorem shapes_keywords_efp_marker :
    FromStringRegex.fragmentMarker = FragMarker.fmRe ∧
    FromStringRegex.efpxyzabc =
      .seq .bos (Kw.litK [101, 102, 112] (.seq sepPlus (.seq (.group 1 (.group 2 Kw.word1)) (Efp.sepNums Efp.numGroups Efp.endlEos)))) :=
  ⟨fragmentMarker_shape, efpxyzabc_shape⟩

/-! tests (concrete evaluations of the engine on the generated ASTs, `decide +kernel`) and non-vacuity -/

-- test: '-1.5D+02 , 12abc' as xyz+ title line: chg = '-1.5D+02', mult = '12' (the rest is free text)
example : xyz2Re "-1.5D+02 , 12abc".toList = some ("-1.5D+02".toList, "12".toList) := by decide +kernel
-- test: the same line is not a whole-line CHGMULT line
example : cgmpRe "-1.5D+02 , 12abc".toList = none := by decide +kernel
example : cgmpRe "0 1".toList = some ("0".toList, "1".toList) := by decide +kernel
-- test: atom lines
example : atomRe "gH(he_x@4.0026) 1 2 3".toList = some ("gH(he_x@4.0026)".toList, "1".toList, "2".toList, "3".toList) := by decide +kernel
example : atomRe "Gh(He 0 0 0".toList = none := by decide +kernel
example : atomStrictRe "he 0. .5e1,1D0".toList = some ("he".toList, "0.".toList, ".5e1".toList, "1D0".toList) := by decide +kernel
example : atomStrictRe "He_a 0 0 0".toList = none := by decide +kernel
-- test: efp line with a trailing separator run; marker split over blank lines
example : efpRe "EFP c6h6 0.0,0.0,0.0 1.0,2.0,3.0 ,".toList
    = some ("c6h6".toList, ["0.0".toList, "0.0".toList, "0.0".toList, "1.0".toList, "2.0".toList, "3.0".toList]) := by decide +kernel
example : fragsRe "a\n --\t\n\n--\nb".toList = some [["a".toList], [], ["b".toList]] := by decide +kernel
-- test: count lines
example : xyz1strictRe "12".toList = some "12".toList := by decide +kernel
example : xyz1strictRe "12 x".toList = none := by decide +kernel
example : xyz1Re "3 ,\tAU".toList = some (some true) := by decide +kernel
example : xyz1Re "3 ang".toList = some (some false) := by decide +kernel
example : xyz1Re "3 angstrom".toList = none := by decide +kernel
-- non-vacuity of `cgmp_parts`
example : cgmpHand "0 1".toList = some ("0".toList, "1".toList) := by decide +kernel
-- non-vacuity of `number_group_whole`
example : (FromStringRegex.number.fullMatch (toBytes "1.5e3".toList)).isSome = true := by decide +kernel

end QcelVerif.C07Regex
