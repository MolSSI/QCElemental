import QcelVerif.Props.C07Flow
/-!
# C07 — the regenerated `_filter_mints` / `filter_fragment` and the chain of `parse_as_psi4_ish` against M1
-/
namespace QcelVerif.C07Flow
open QcelVerif.MolText QcelVerif.Gen

/-- the loop state of `filter_fragment`: only the `fcgmp` flag can be set, nothing uninterpretable met -/
def mkL (fc : Bool) (q : Processed) (rc : List Line) : LState :=
  { fl := { fcgmp := fc }, p := some q, recon := rc, bad := false }

/-- one line of `filter_fragment`'s loop, at M1 level, left to right -/
def lineL (a : Bool × Processed × List Line) (l : Line) : Bool × Processed × List Line :=
  match l with
  | .cgmp c m =>
    if a.1 then (a.1, a.2.1, a.2.2 ++ [l])
    else (true, { a.2.1 with fragChg := a.2.1.fragChg ++ [some c], fragMult := a.2.1.fragMult ++ [some m] }, a.2.2)
  | .atom n x y z => (a.1, { a.2.1 with elbl := a.2.1.elbl ++ [n], geom := a.2.1.geom ++ [x, y, z] }, a.2.2)
  | .blank => a
  | _ => (a.1, a.2.1, a.2.2 ++ [l])

theorem frag_line_step (fc : Bool) (q : Processed) (rc : List Line) (l : Line) :
    lstmts false fragmentLoop (mkL fc q rc) (some l)
      = mkL (lineL (fc, q, rc) l).1 (lineL (fc, q, rc) l).2.1 (lineL (fc, q, rc) l).2.2 := by
  -- only a CHGMULT line consults the flag
  cases l with
  | cgmp c m =>
    cases fc <;>
      simp [fragmentLoop, lstmts, lstmt, mkL, lineL, Flags.get, Flags.set, patHits, stores, store1, grpStr, grpNum, guardOn]
  | _ => simp [fragmentLoop, lstmts, lstmt, mkL, lineL, Flags.get, patHits, stores, store1, grpStr, grpNum, guardOn]

/-- lines `filter_fragment` leaves, left to right (`fc` = a CHGMULT line was already taken) -/
def remL : Bool → List Line → List Line
  | _, [] => []
  | fc, l :: ls =>
    match l with
    | .cgmp _ _ => if fc then l :: remL fc ls else remL true ls
    | .atom _ _ _ _ => remL fc ls
    | .blank => remL fc ls
    | _ => l :: remL fc ls

/-- what `filter_fragment`'s loop has appended for a fragment's CHGMULT line: nothing if there was none -/
def optL {α} : Option α → List (Option α)
  | none => []
  | some a => [some a]

/-- the record after the lines of one fragment, in terms of M1's `fragSum` -/
def afterFrag (fc : Bool) (q : Processed) (s : FragSum) : Processed :=
  { q with elbl := q.elbl ++ s.labels, geom := q.geom ++ s.coords,
           fragChg := q.fragChg ++ (if fc then [] else optL (s.cgmp.map (·.1))),
           fragMult := q.fragMult ++ (if fc then [] else optL (s.cgmp.map (·.2))) }

theorem frag_forLines (ls : List Line) : ∀ (fc : Bool) (q : Processed) (rc : List Line),
    forLines false fragmentLoop (mkL fc q rc) ls
      = mkL (fc || (fragSum ls).cgmp.isSome) (afterFrag fc q (fragSum ls)) (rc ++ remL fc ls) := by
  induction ls with
  | nil => intro fc q rc; cases fc <;> simp [forLines, fragSum, afterFrag, remL, optL]
  | cons l ls ih =>
    intro fc q rc
    rw [forLines, frag_line_step, ih]
    cases l with
    | cgmp c m =>
      cases fc
      · simp only [lineL, Bool.false_eq_true, if_false, fragSum, remL]
        cases h : (fragSum ls).cgmp <;> simp [afterFrag, optL]
      · simp only [lineL, if_true, fragSum, remL]
        cases h : (fragSum ls).cgmp <;> simp [afterFrag]
    | _ =>
      simp only [lineL, fragSum, remL]
      cases fc <;> simp [afterFrag]

/-- what is left of a fragment is empty exactly when M1 sees no remnant (no blank lines: M1 drops them before) -/
theorem remL_nil (ls : List Line) (hb : ∀ l ∈ ls, l ≠ Line.blank) :
    ((remL true ls = []) ↔ ((fragSum ls).remnant = false ∧ (fragSum ls).cgmp = none)) ∧
    ((remL false ls = []) ↔ (fragSum ls).remnant = false) := by
  induction ls with
  | nil => simp [remL, fragSum]
  | cons l ls ih =>
    have ih' := ih (fun x hx => hb x (List.mem_cons_of_mem _ hx))
    have hl := hb l (List.mem_cons_self)
    cases l with
    | blank => exact absurd rfl hl
    | cgmp c m =>
      simp only [remL, fragSum, if_true, Bool.false_eq_true, if_false]
      cases h : (fragSum ls).cgmp <;> simp [h, ih'.1]
    | atom n x y z => simpa [remL, fragSum] using ih'
    | _ => simp [remL, fragSum]

/-- the record after one fragment went through `filter_fragment` -/
def fragRec (q : Processed) (s : FragSum) : Processed :=
  { q with seps := q.seps ++ (if q.elbl.length > 0 then [q.elbl.length] else []),
           elbl := q.elbl ++ s.labels, geom := q.geom ++ s.coords,
           fragChg := q.fragChg ++ [s.cgmp.map (·.1)], fragMult := q.fragMult ++ [s.cgmp.map (·.2)] }

/-- the regenerated `filter_fragment` on ANY fragment lines from ANY record: separator from the atoms read so
far, labels / coordinates / the first CHGMULT line (or None, None) appended exactly as M1's `fragSum` summarises them, the remnant is `remL` -/
theorem filterFragment_flow_eq (q : Processed) (f : List Line) :
    runFilter false FromStringFlow.filterFragment (some q) f = (some (fragRec q (fragSum f)), remL false f, true) := by
  have hl := frag_forLines f false
  simp only [mkL] at hl
  by_cases h0 : q.elbl.length > 0
  · simp only [runFilter, shape_mints.2, stmts, stmt, Flags.set, Option.map_some, Option.getD_some, h0, if_true]
    rw [hl]
    cases h : (fragSum f).cgmp <;> simp [h, afterFrag, fragRec, optL, stores, store1, h0, Flags.get]
  · simp only [runFilter, shape_mints.2, stmts, stmt, Flags.set, Option.map_some, Option.getD_some, h0, if_false]
    rw [hl]
    cases h : (fragSum f).cgmp <;> simp [h, afterFrag, fragRec, optL, stores, store1, h0, Flags.get]

/-- the loop body of `_filter_mints` as regenerated -/
def mintsBody : List FStmt :=
  [.stripFrag, .sysOrFragment .cgmp [.set .molecularCharge (.floatGroup .chg), .set .molecularMultiplicity (.intGroup .mult)], .keepFrag]

/-- a fragment that is not the system header: through `filter_fragment`, a non-empty remnant is kept -/
theorem frag_step (ifr0 : Bool) (q : Processed) (left : Bool) (f : List Line)
    (hsys : ifr0 = true → ∀ c m, f ≠ [.cgmp c m]) :
    fstmts false FromStringFlow.filterFragment ifr0 f mintsBody ⟨some q, left, true⟩ (some f)
      = ⟨some (fragRec q (fragSum f)), left || !(remL false f).isEmpty, true⟩ := by
  have hff := filterFragment_flow_eq q
  cases f with
  | nil => simp [mintsBody, fstmts, hff, remL]
  | cons l t =>
    cases t with
    | nil =>
      cases ifr0
      · simp only [mintsBody, fstmts, hff, Bool.false_and, Bool.false_eq_true, if_false]
        cases hr : remL false [l] <;> simp
      · have hp : patHits .cgmp l = false := by
          cases l <;> simp [patHits]
          exact absurd rfl (hsys rfl _ _)
        simp only [mintsBody, fstmts, hff, hp, Bool.and_false, Bool.false_eq_true, if_false]
        cases hr : remL false [l] <;> simp
    | cons l2 t2 =>
      simp only [mintsBody, fstmts, hff]
      cases hr : remL false (l :: l2 :: t2) <;> simp

/-- the fragment loop from any iteration: on the first one the fragment must not be the system header -/
theorem forFrags_any (fs : List (List Line)) : ∀ (ifr0 : Bool) (q : Processed) (left : Bool),
    (ifr0 = true → ∀ f0 rest, fs = f0 :: rest → ∀ c m, f0 ≠ [.cgmp c m]) →
    forFrags false FromStringFlow.filterFragment mintsBody ifr0 ⟨some q, left, true⟩ fs
      = ⟨some ((fs.map fragSum).foldl fragRec q), left || fs.any (fun f => !(remL false f).isEmpty), true⟩ := by
  induction fs with
  | nil => intro ifr0 q left _; simp [forFrags]
  | cons f fs ih =>
    intro ifr0 q left hsys
    rw [forFrags, frag_step ifr0 q left f (fun h => hsys h f fs rfl), ih false _ _ (fun h => by cases h)]
    simp [Bool.or_assoc]

/-- the fragments appended one after the other = M1's `assemble` lists -/
theorem foldl_fragRec (ss : List FragSum) : ∀ q : Processed,
    ss.foldl fragRec q = { q with elbl := q.elbl ++ ss.flatMap (·.labels), geom := q.geom ++ ss.flatMap (·.coords),
                                  seps := q.seps ++ sepsGo q.elbl.length (ss.map (·.labels.length)),
                                  fragChg := q.fragChg ++ ss.map (fun f => f.cgmp.map (·.1)),
                                  fragMult := q.fragMult ++ ss.map (fun f => f.cgmp.map (·.2)) } := by
  induction ss with
  | nil => intro q; simp [sepsGo]
  | cons s ss ih =>
    intro q
    rw [List.foldl_cons, ih]
    simp [fragRec, sepsGo, List.append_assoc]

/-- the record `_filter_universals` and `_filter_libefp` hand to `_filter_mints` -/
def baseRec (u : UState) (efp : List (Str × List NumParts)) : Processed :=
  { units := u.units, fixCom := u.com, fixOrient := u.ori, fixSym := u.sym, efp := efp }

/-- `_filter_mints` followed by `if molstr: raise MoleculeFormatError` and `return molstr, molinit` -/
def mintsOutcome (m : MState) : Outcome :=
  if !m.ok then .outOfScope else if m.left then .formatError else
  match m.p with
  | some q => .ok { q with isPsi4 := true }
  | none => .outOfScope

/-- no fragment holds a blank line -/
def NoBlank (fs : List (List Line)) : Prop := ∀ f ∈ fs, ∀ l ∈ f, l ≠ Line.blank

theorem rem_flag (f : List Line) (hb : ∀ l ∈ f, l ≠ Line.blank) : (!(remL false f).isEmpty) = (fragSum f).remnant := by
  have h := (remL_nil f hb).2
  cases hr : (fragSum f).remnant <;> cases hl : remL false f <;> simp_all

theorem any_rem (fs : List (List Line)) (hb : NoBlank fs) :
    fs.any (fun f => !(remL false f).isEmpty) = (fs.map fragSum).any (·.remnant) := by
  induction fs with
  | nil => rfl
  | cons f fs ih =>
    have h1 := rem_flag f (hb f List.mem_cons_self)
    have h2 := ih (fun g hg => hb g (List.mem_cons_of_mem _ hg))
    simp only [List.any_cons, List.map_cons, h1, h2]

/-- the regenerated `_filter_mints` (fragment loop, system CHGMULT header in the FIRST fragment only, `filter_fragment` on
every other fragment) followed by the leftover-text error and the return, from the record the earlier filters hand over, equals M1's
`mints` on EVERY list of fragments free of blank lines (M1 drops blank lines before; the source drops them in `_filter_universals`). -/
theorem mints_flow_eq (u : UState) (efp : List (Str × List NumParts)) (frags : List (List Line)) (hb : NoBlank frags) :
    mintsOutcome (mintsEval false FromStringFlow.mints FromStringFlow.filterFragment (some (baseRec u efp))
      (if frags.isEmpty then [[]] else frags)) = MolText.mints u efp frags := by
  have hF : NoBlank (if frags.isEmpty then [[]] else frags) := by
    cases frags with
    | nil => intro f hf l hl; simp at hf; subst hf; cases hl
    | cons a b => simpa using hb
  unfold MolText.mints
  generalize (if frags.isEmpty then [[]] else frags) = F at hF
  have hev : mintsEval false FromStringFlow.mints FromStringFlow.filterFragment (some (baseRec u efp)) F
      = forFrags false FromStringFlow.filterFragment mintsBody true ⟨some (baseRec u efp), false, true⟩ F := by
    simp [mintsEval, shape_mints.1, mintsBody]
  rw [hev]
  -- the fragments after the (possible) system header, from the record that holds the header's values
  have fin : ∀ (ifr0 : Bool) (sys : Option (NumParts × Str)) (fs : List (List Line)), NoBlank fs →
      (ifr0 = true → ∀ f0 rest, fs = f0 :: rest → ∀ c m, f0 ≠ [.cgmp c m]) →
      mintsOutcome (forFrags false FromStringFlow.filterFragment mintsBody ifr0
        ⟨some { baseRec u efp with molChg := sys.map (·.1), molMult := sys.map (·.2) }, false, true⟩ fs)
        = assemble u efp sys (fs.map fragSum) := by
    intro ifr0 sys fs hfs hsys
    rw [forFrags_any fs ifr0 _ false hsys, any_rem fs hfs, foldl_fragRec]
    simp only [mintsOutcome, assemble, Bool.false_or, Bool.not_true, Bool.false_eq_true, if_false]
    cases (fs.map fragSum).any (·.remnant) <;> simp [baseRec]
  simp only []
  split
  · rename_i c m rest
    rw [forFrags]
    simp only [mintsBody, fstmts, patHits, Bool.and_self, if_true, stores, store1, grpNum, grpStr, Option.bind_some, Option.map_some]
    exact fin false (some (c, m)) rest (fun g hg => hF g (List.mem_cons_of_mem _ hg)) (fun h => by cases h)
  · rename_i hne
    exact fin true none F hF (fun _ f0 rest hfs c m h => hne c m rest (by rw [hfs, h]))

/-! ## no blank line reaches `_filter_mints` -/

theorem univGo_subset (ls : List Line) : ∀ (u : UState), ∀ l ∈ (univGo u ls).2, l ∈ ls := by
  induction ls with
  | nil => intro u l hl; simp [univGo] at hl
  | cons a ls ih =>
    intro u l hl
    rw [univGo_cons] at hl
    simp only [List.mem_append] at hl
    rcases hl with h | h
    · split at h
      · simp at h; subst h; exact List.mem_cons_self
      · cases h
    · exact List.mem_cons_of_mem _ (ih _ l h)

theorem efpGo_frags_sub (fs : List (List Line)) : ∀ f ∈ (efpGo fs).frags, f ∈ fs := by
  induction fs with
  | nil => intro f hf; simp [efpGo] at hf
  | cons a fs ih =>
    intro f hf
    -- a fragment is dropped, consumed, or kept in front of the rest
    have h : f = a ∨ f ∈ (efpGo fs).frags := by
      simp only [efpGo] at hf
      split at hf
      · exact Or.inr hf
      · exact Or.inr hf
      · exact List.mem_cons.mp hf
      · exact List.mem_cons.mp hf
    rcases h with rfl | h
    · exact List.mem_cons_self
    · exact List.mem_cons_of_mem _ (ih f h)
theorem noBlank_reaches (lines : List Line) :
    NoBlank (efpGo (splitMarkers (univGo {} (lines.filter (· != Line.blank))).2)).frags := by
  intro f hf l hl hb
  have h1 := efpGo_frags_sub _ f hf
  have h2 := splitMarkers_mem _ f h1 l hl
  have h3 := univGo_subset _ _ l h2
  subst hb
  simp at h3

/-! ## `parse_as_psi4_ish`: the chain of filters, the leftover-text error, the return -/

theorem psi4_chain (lines : List Line) :
    srcPsi4Lines FromStringFlow.prog lines =
      if lines.any (· == Line.pubchem) || !(efpGo (splitMarkers (univGo {} (lines.filter (· != Line.blank))).2)).scope then .outOfScope
      else mintsOutcome (mintsEval false FromStringFlow.mints FromStringFlow.filterFragment
        (some (baseRec (univGo {} (lines.filter (· != Line.blank))).1
          (efpGo (splitMarkers (univGo {} (lines.filter (· != Line.blank))).2)).efp))
        (if (efpGo (splitMarkers (univGo {} (lines.filter (· != Line.blank))).2)).frags.isEmpty then [[]]
         else (efpGo (splitMarkers (univGo {} (lines.filter (· != Line.blank))).2)).frags)) := by
  have hu := universals_flow_eq lines
  generalize univGo {} (lines.filter (· != Line.blank)) = ur at hu ⊢
  obtain ⟨u, rest⟩ := ur
  simp only [] at hu ⊢
  rcases hme : mintsEval false FromStringFlow.mints FromStringFlow.filterFragment
      (some (baseRec u (efpGo (splitMarkers rest)).efp))
      (if (efpGo (splitMarkers rest)).frags.isEmpty then [[]] else (efpGo (splitMarkers rest)).frags) with ⟨mp, ml, mok⟩
  have hme' := hme
  simp only [baseRec, List.isEmpty_iff] at hme'
  cases hp : lines.any (· == Line.pubchem) <;> cases hs : (efpGo (splitMarkers rest)).scope <;> cases ml <;> cases mok <;> cases mp <;>
    simp [srcPsi4Lines, FromStringFlow.prog, shape_dispatch.2.1, pstmts, pstmt, hp, hu, hs, hme', mintsOutcome]

theorem any_pubchem_filter (lines : List Line) :
    ((lines.filter (· != Line.blank)).any (· == Line.pubchem)) = lines.any (· == Line.pubchem) := by
  rw [List.any_filter]
  congr 1
  funext l
  cases l <;> rfl

/-- the psi4 reader regenerated from the source - `parse_as_psi4_ish`'s chain pubchem, universals, libefp, mints in the
source's order, `_filter_universals`' and `_filter_mints` / `filter_fragment`'s statements, the leftover-text `raise MoleculeFormatError`,
the return - equals M1's `parsePsi4Lines` on EVERY list of classified lines (`_filter_pubchem` / `_filter_libefp` run as M1 models them). -/
theorem psi4_flow_eq (lines : List Line) : srcPsi4Lines FromStringFlow.prog lines = parsePsi4Lines lines := by
  rw [psi4_chain, mints_flow_eq _ _ _ (noBlank_reaches lines)]
  unfold parsePsi4Lines
  simp only [any_pubchem_filter]
  cases lines.any (· == Line.pubchem) <;>
    cases (efpGo (splitMarkers (univGo {} (lines.filter (· != Line.blank))).2)).scope <;> simp

/-- the reader regenerated from `from_string.py` (head `filter_comments(molstr.strip())`, the line split and per-line strip, and
for psi4 the regenerated chain) equals M1's `parseText` for EVERY text and each of the three dtypes.  `_partial`: the xyz / xyz+
routes of `srcRead` are M1's own `parseXyzLines`, so for these two dtypes only the head and the line split are the source's. -/
theorem srcRead_eq_parseText_partial (d : Dtype) (s : Str) : srcRead FromStringFlow.prog d s = parseText d s := by
  have hpre : preOps FromStringFlow.prog.pre s = some (filterComments (MolText.strip s)) := by
    show preOps FromStringFlow.pre s = _
    rw [shape_dispatch.1]; rfl
  cases d
  · simp [srcRead, hpre, parseText, textLines]
  · simp [srcRead, hpre, parseText, textLines]
  · simp only [srcRead, hpre, parseText, textLines]
    exact psi4_flow_eq _
-- FULL: with `_filter_xyz` (the xyz / xyz+ routes of `srcRead` are M1's `parseXyzLines`, NOT regenerated), `_filter_libefp` and
-- `_filter_pubchem` (run as M1's `efpGo` / out-of-scope declaration) translated as well, and with the text plumbing between the filters
-- ("\n".join / split, re.split(fragment_marker) of the re-joined text) evaluated on strings instead of being read at line level.

/-- `read_write_psi4_text` over the regenerated reader - the psi4 TEXT `writePsi4` prints, read by the statements of
from_string.py, gives exactly `projectPsi4 r` -/
theorem read_write_psi4_src (r : MolRec) (h : RecOk r) :
    srcRead FromStringFlow.prog .psi4 (render (writePsi4 r)) = .ok (projectPsi4 r) := by
  rw [srcRead_eq_parseText_partial]; exact read_write_psi4_text r h

/-- `read_write_xyzplus_text` over `srcRead` (whose xyz+ route is M1's: `_filter_xyz` is not regenerated;
only the head of `from_string` and the line split are the source's here) -/
theorem read_write_xyzplus_src_partial (natS : Str) (r : MolRec) (h : XyzOk natS r) (hname : Clean r.name) :
    srcRead FromStringFlow.prog .xyzPlus (render (writeXyz natS r)) = .ok (projectXyzPlus r) := by
  rw [srcRead_eq_parseText_partial]; exact read_write_xyzplus_text natS r h hname
-- FULL: `_filter_xyz` regenerated and proved equal to `parseXyzLines`.

/-- on ANY text the regenerated reader returns a processed record, MoleculeFormatError, or the declared out-of-scope answer
(pubchem line, three-point efp form) - in particular no `.unknown` statement and no uninterpretable store is ever met (that would be
`outOfScope` where M1 answers otherwise) -/
theorem srcRead_total (d : Dtype) (s : Str) :
    (∃ p, srcRead FromStringFlow.prog d s = .ok p) ∨ srcRead FromStringFlow.prog d s = .formatError ∨
      (srcRead FromStringFlow.prog d s = .outOfScope ∧ parseText d s = .outOfScope) := by
  rw [srcRead_eq_parseText_partial]
  rcases parse_total d s with h | h | h
  · exact Or.inl h
  · exact Or.inr (Or.inl h)
  · exact Or.inr (Or.inr ⟨h, h⟩)

/-- non-vacuity / test [decide]: a two-fragment text with keywords, a comment and blank lines through the regenerated reader -/
example : (srcRead FromStringFlow.prog .psi4 "0 1\n--\n-1 2\nHe 0 0 0 # c\n\nunits au\n--\n@He 0 0 3\nno_com\n".toList)
    = parseText .psi4 "0 1\n--\n-1 2\nHe 0 0 0 # c\n\nunits au\n--\n@He 0 0 3\nno_com\n".toList := by decide

end QcelVerif.C07Flow
