import QcelVerif.Driver.C08
import QcelVerif.Gen.SrcConsts
/-!
# C08 — the per-dtype tables of `Model/ToString.lean` are those of `to_string.py`

`to_string` holds two small tables the model transcribes by hand: `default_units` (dtype → unit written when `units`
is not given; the model's `defaultUnit`) and, branch by branch, the atom / ghost format strings, whether the caller's
`atom_format=` / `ghost_format=` is honoured, and the `xyze` column order (the model's `formats`).  The group
`to_string` of `Gen/SrcConsts.lean` is generated from `qcelemental/molparse/to_string.py` (read by `ast`): the dict
literal in source order, and one row per `if dtype in […] / elif dtype == …` branch (kind `fixed` = literal assigned,
`dflt` = literal unless the caller gave one, `or` = caller's if truthy else literal, `none` = the branch has no atom
format).  Dtype names are read with the driver's own `parseDtype?`.
-/
namespace QcelVerif.ToString
open QcelVerif
open QcelVerif.FixedFmt (Str)

/-- the keys of `default_units`, in source order, are exactly the model's fourteen dtypes (none missing, none twice),
and the branches of the format chain cover the same fourteen -/
theorem dtypes_match_source :
    Src.to_string.default_units.map (fun p => parseDtype? p.1) =
      [some .xyz, some .xyzp, some .sdf, some .cfour, some .gamess, some .molpro, some .nwchem, some .orca, some .psi4,
       some .qchem, some .terachem, some .turbomole, some .madness, some .mrchem] ∧
    (∀ d : Dtype, (Src.to_string.default_units.map (fun p => parseDtype? p.1)).contains (some d) = true) ∧
    (∀ d : Dtype, (Src.to_string.formats.map (fun r => parseDtype? r.1)).contains (some d) = true) ∧
    Src.to_string.formats.length = 14 := by
  refine ⟨by decide, ?_, ?_, by decide⟩ <;> intro d <;> cases d <;> decide

/-- is the row `(dtype name, unit word)` what the model's `defaultUnit` says? -/
def defaultUnitRowOk (p : String × String) : Bool :=
  match parseDtype? p.1 with
  | some d => unitLower (defaultUnit d) == lower p.2.toList
  | none => false

/-- every entry of the source's `default_units` is the model's `defaultUnit` (with `dtypes_match_source`: the two
tables are equal) -/
theorem default_units_match_source : Src.to_string.default_units.all defaultUnitRowOk = true := by decide

/-- options that probe `formats`: dtype `d` with the overrides `a`, `g`.  `formats` reads neither the width (17 is
arbitrary) nor `stored` / `pinned` (left at the structure's defaults) -/
private def oOf (d : Dtype) (a g : Option Str) : Opts := { dtype := d, req := .dflt, afmt := a, gfmt := g, width := 17 }

/-- is one branch row of the source what the model's `formats` does — the literals, the override policy of each of
the two formats (probed with the overrides `"A"`, `"G"` and the empty ghost format), `xyze`, and which branches go
through `_atoms_formatter`? -/
def formatRowOk (r : String × String × String × String × String × Bool × Bool) : Bool :=
  match parseDtype? r.1 with
  | none => false
  | some d =>
    let (afk, af, gfk, gf, xyze, uses) := r.2
    let f0 := formats (oOf d none none)
    let f1 := formats (oOf d (some (lit "A")) (some (lit "G")))
    let f2 := formats (oOf d none (some []))
    -- atom format (the sdf branch does not use one: kind "none")
    (afk == "none" || (f0.1 == lit af && f1.1 == (if afk == "dflt" then lit "A" else lit af))) &&
    (afk == "none" || afk == "dflt" || afk == "fixed") &&
    -- ghost format
    f0.2.1 == lit gf &&
    f1.2.1 == (if gfk == "dflt" || gfk == "or" then lit "G" else lit gf) &&
    f2.2.1 == (if gfk == "dflt" then [] else lit gf) &&
    (gfk == "dflt" || gfk == "fixed" || gfk == "or") &&
    -- column order, and who formats the atom lines
    f0.2.2 == xyze && f1.2.2 == xyze && uses == (d != .sdf) && (afk == "none") == (d == .sdf)

/-- every branch of the source's dtype chain is the model's `formats` row -/
theorem formats_match_source : Src.to_string.formats.all formatRowOk = true := by decide

/-- the keyword defaults of `to_string`: `width=17`, `prec=12`; `units`, `atom_format`,
`ghost_format` default to `None`; `_atoms_formatter`'s `xyze` defaults to `False` and an empty ghost format drops ghosts -/
theorem to_string_defaults_match_source :
    Src.to_string.width = 17 ∧ Src.to_string.prec = 12 ∧ Src.to_string.units = none ∧
    Src.to_string.atom_format = none ∧ Src.to_string.ghost_format = none ∧
    Src.atoms_formatter.xyze = false ∧ Src.atoms_formatter.ghost_suppressed_by_empty = true := by
  decide

end QcelVerif.ToString
