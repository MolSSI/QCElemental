import QcelVerif.Props.C15FormulaStr
import QcelVerif.Gen.PT
import QcelVerif.Lib.PStr
/-!
# C15 (formula part) — every symbol of the shipped periodic table is a well-formed key

`Gen/PT.lean` is regenerated from `qcelemental/data/nist_2011_atomic_weights.py` on every run by
C01's translator `tools/gen_periodic.py` (imported read-only; `elements` rows are
`(Z, symbol, name)` with strings packed as length-tagged base-256 naturals).  The symbols of a
validated molecule are symbols of this table, so the hypothesis `WFSym` of the string-level
theorems of `Props/C15FormulaStr.lean` is discharged for them here, by kernel evaluation of the
whole table (finite shipped table).
-/
namespace QcelVerif.Formula

/-- the characters of a packed table string -/
def packedChars (p : Nat) : List Char := (PStr.unpack p).map Char.ofNat

/-- **Every periodic-table symbol is well formed** (one `[A-Z]` then `[a-z]*`; in fact at most two
lower-case letters), and packing loses nothing (`pack (unpack p) = p`), for the table as shipped. -/
theorem periodic_symbols_wf :
    ∀ row ∈ Gen.PT.elements, wfSym (packedChars row.2.1) = true ∧ (packedChars row.2.1).length ≤ 3 ∧
      PStr.pack (PStr.unpack row.2.1) = row.2.1 := by
  decide +kernel

/-- the table is not empty (non-vacuity of the statement above): at least 118 rows -/
theorem periodic_symbols_count : 118 ≤ Gen.PT.elements.length := by decide +kernel

theorem toStr_toList (p : Nat) : (PStr.toStr (PStr.unpack p)).toList = packedChars p := by
  simp [PStr.toStr, packedChars, String.toList_ofList]

/-- as `String`s: a periodic-table symbol is `WFSym` and is its own `str.title()` -/
theorem periodic_symbol_title {s : String}
    (h : ∃ row ∈ Gen.PT.elements, s = PStr.toStr (PStr.unpack row.2.1)) :
    WFSym s ∧ title s = s := by
  obtain ⟨row, hr, rfl⟩ := h
  have hw : WFSym (PStr.toStr (PStr.unpack row.2.1)) := by
    unfold WFSym
    rw [toStr_toList]
    exact (periodic_symbols_wf row hr).1
  exact ⟨hw, title_wfSym hw⟩

/-- **Formulas of periodic-table symbols.**  For every list of symbols taken from the shipped
periodic table (any length, any multiplicities): re-ordering the library-written formula string
into either convention gives exactly the library-written formula string of that convention. -/
theorem order_formula_periodic (syms : List String) (ord ord' : Order)
    (h : ∀ s ∈ syms, ∃ row ∈ Gen.PT.elements, s = PStr.toStr (PStr.unpack row.2.1)) :
    orderFormula (fromSymbols syms ord) ord' = some (fromSymbols syms ord') := by
  apply order_formula_of_formula
  intro s hs
  have := periodic_symbol_title (h s hs)
  rw [this.2]; exact this.1

/-- non-vacuity: the hypothesis is met by e.g. row 17 of the table (Cl) -/
example : ∃ row ∈ Gen.PT.elements, PStr.unpack row.2.1 = [67, 108] :=
  ⟨Gen.PT.elements[17], List.getElem_mem _, by decide⟩

-- non-vacuity (test, evaluated): the table starts X, H, He and holds Cl
#guard (Gen.PT.elements.map (fun r => PStr.toStr (PStr.unpack r.2.1))).take 3 == ["X", "H", "He"]
#guard Gen.PT.elements.any (fun r => PStr.toStr (PStr.unpack r.2.1) == "Cl")

end QcelVerif.Formula
