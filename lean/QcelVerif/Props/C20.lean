import QcelVerif.Lemmas.Protocols
/-!
# C20 — result models: array shapes, basis function count, retention protocols, re-validation

Model: `Model/Protocols.lean`.  All theorems hold for every payload (no size bound): any shapes,
any subset of the 22 wavefunction arrays and 10 return pointers with any targets, any basis set,
any number of native files or trajectory steps.

The model follows the code in which a dangling return pointer is a validation error, the trajectory protocols accept
empty and one-step trajectories, `native_files` gets its `input` placeholder at first construction, and all six
dipoles and the coulomb / exchange matrices have a shape validator; the theorems about these are unconditional.
-/
namespace QcelVerif.Protocols

/-! ## reshape accepts iff the size fits -/

/-- a fully specified target (gradient `[nat,3]`, Hessian `[3nat,3nat]`, dipole `[3]`, quadrupole `[3,3]`,
AO matrix `[nbf,nbf]`): accepted iff the element counts agree; the result is exactly the target. -/
theorem reshapeExact_ok_iff (t s r : Shape) :
    reshapeExact t s = some r ↔ (prod s = prod t ∧ r = t) :=
  reshapeExact_eq_some

/-- `(nbf, -1)`: accepted iff `nbf > 0` and `nbf ∣ size`; the result has `nbf` rows and the same size. -/
theorem reshapeRows_ok_iff (n : Nat) (s r : Shape) :
    reshapeRows n s = some r ↔ (0 < n ∧ n ∣ prod s ∧ r = [n, prod s / n] ∧ prod r = prod s) := by
  rw [(bySize_rows n).and_size reshapeRows_eq_some, and_assoc, and_assoc]

/-- `(-1, 3)` (gradient return): accepted iff `3 ∣ size`. -/
theorem reshapeCols3_ok_iff (s r : Shape) :
    reshapeCols3 s = some r ↔ (3 ∣ prod s ∧ r = [prod s / 3, 3] ∧ prod r = prod s) := by
  rw [bySize_cols3.and_size reshapeCols3_eq_some, and_assoc]

/-- Hessian return: accepted iff the size is a perfect square `k*k`; the result is `[k,k]`. -/
theorem reshapeSquare_ok_iff (s r : Shape) :
    reshapeSquare s = some r ↔ ∃ k, k * k = prod s ∧ r = [k, k] ∧ prod r = prod s := by
  simp only [bySize_square.and_size reshapeSquare_eq_some, ← exists_and_right, and_assoc]

example : reshapeExact [2, 3] [6] = some [2, 3] := by decide          -- test: flat → shaped
example : reshapeExact [2, 3] [7] = none := by decide                 -- test: wrong size rejected
example : reshapeRows 7 [21] = some [7, 3] := by decide               -- test
example : reshapeRows 0 [0] = none := by decide                       -- test: numpy's ambiguous (0,-1)
example : reshapeSquare [3, 12] = some [6, 6] := by decide            -- test
example : reshapeSquare [8] = none := by decide                       -- test

/-! ## AtomicResultProperties -/

/-- what the registered validator makes of a supplied shape `s` -/
def PropFits (natom : Option Nat) (k : PropArr) (s s' : Shape) : Prop :=
  match propRule k with
  | .gradient => ∃ n, natom = some n ∧ prod s = n * 3 ∧ s' = [n, 3]
  | .hessian => ∃ n, natom = some n ∧ prod s = (3 * n) * (3 * n) ∧ s' = [3 * n, 3 * n]
  | .dipole => prod s = 3 ∧ s' = [3]
  | .quadrupole => prod s = 9 ∧ s' = [3, 3]

theorem applyPropRule_iff (natom : Option Nat) (k : PropArr) (s s' : Shape) :
    applyPropRule natom (propRule k) s = some s' ↔ PropFits natom k s s' := by
  unfold PropFits
  cases hk : propRule k with
  | dipole => simp [applyPropRule, reshapeExact_ok_iff]
  | quadrupole => simp [applyPropRule, reshapeExact_ok_iff]
  | gradient =>
    cases natom with
    | none => simp [applyPropRule]
    | some n => simp [applyPropRule, reshapeExact_ok_iff]
  | hessian =>
    cases natom with
    | none => simp [applyPropRule]
    | some n => simp [applyPropRule, reshapeExact_ok_iff]

/-- An accepted properties object: `calcinfo_natom` unchanged; a field is present iff it was supplied; every
gradient is `[nat,3]`, every Hessian `[3nat,3nat]`, every dipole (all six dipole fields) `[3]`, the quadrupole
`[3,3]`, and every array keeps its element count. -/
theorem props_shapes (p o : PropsIn) (h : validateProps p = .ok o) :
    o.natom = p.natom ∧
    (∀ k, o.arr k = none ↔ p.arr k = none) ∧
    (∀ k s', o.arr k = some s' → ∃ s, p.arr k = some s ∧ PropFits p.natom k s s' ∧ prod s' = prod s) := by
  obtain ⟨hf, rfl⟩ := (validateProps_ok_iff p o).mp h
  refine ⟨rfl, fun k => map_join_eq_none ((propFails_nil_iff p).mp hf k), fun k s' hs => ?_⟩
  obtain ⟨s, hk, ha⟩ := map_join_eq_some.mp hs
  exact ⟨s, hk, (applyPropRule_iff _ _ _ _).mp ha, (bySize_prop _ _).size ha⟩

/-- Properties are accepted iff every supplied array fits its validator. -/
theorem props_accept_iff (p : PropsIn) :
    (∃ o, validateProps p = .ok o) ↔ ∀ k s, p.arr k = some s → ∃ s', PropFits p.natom k s s' := by
  constructor
  · rintro ⟨o, h⟩ k s hk
    obtain ⟨s', hs'⟩ := map_ne_some_none.mp ((propFails_nil_iff p).mp ((validateProps_ok_iff p o).mp h).1 k) s hk
    exact ⟨s', (applyPropRule_iff _ _ _ _).mp hs'⟩
  · intro h
    refine ⟨_, (validateProps_ok_iff p _).mpr ⟨(propFails_nil_iff p).mpr fun k => map_ne_some_none.mpr fun s hk => ?_, rfl⟩⟩
    obtain ⟨s', hs'⟩ := h k s hk
    exact ⟨s', (applyPropRule_iff _ _ _ _).mpr hs'⟩

-- non-vacuity / tests
example : ∃ o, validateProps { natom := some 2, arr := fun k => if k = .return_gradient then some [6] else none } = .ok o
    ∧ o.arr .return_gradient = some [2, 3] := ⟨_, rfl, by decide⟩
example : validateProps { natom := none, arr := fun k => if k = .return_gradient then some [6] else none }
    = .error [.return_gradient] := by rfl   -- test: derivative without calcinfo_natom

/-! ## return_result by driver -/

theorem rr_ok_iff (d : Driver) (v v' : RR) :
    validateRR d v = some v' ↔
      match d with
      | .gradient => 3 ∣ prod v.asShape ∧ v' = .arr [prod v.asShape / 3, 3]
      | .hessian => ∃ k, k * k = prod v.asShape ∧ v' = .arr [k, k]
      | .energy => v' = v
      | .properties => v' = v := by
  cases d with
  | energy => simp [validateRR, eq_comm]
  | properties => simp [validateRR, eq_comm]
  | gradient =>
    simp only [validateRR, Option.map_eq_some_iff, reshapeCols3_eq_some]
    constructor
    · rintro ⟨r, ⟨h1, rfl⟩, rfl⟩; exact ⟨h1, rfl⟩
    · rintro ⟨h1, rfl⟩; exact ⟨_, ⟨h1, rfl⟩, rfl⟩
  | hessian =>
    simp only [validateRR, Option.map_eq_some_iff, reshapeSquare_eq_some]
    constructor
    · rintro ⟨r, ⟨k, h1, rfl⟩, rfl⟩; exact ⟨k, h1, rfl⟩
    · rintro ⟨k, h1, rfl⟩; exact ⟨_, ⟨k, h1, rfl⟩, rfl⟩

example : validateRR .gradient (.arr [9]) = some (.arr [3, 3]) := by decide      -- test
example : validateRR .hessian (.arr [4]) = some (.arr [2, 2]) := by decide       -- test
example : validateRR .gradient (.arr [4]) = none := by decide                    -- test

/-! ## basis sets -/

/-- a fused shell counts as its parts together -/
theorem nfunctions_append (h : Harm) (l₁ l₂ : List Nat) :
    nfunctions h (l₁ ++ l₂) = nfunctions h l₁ + nfunctions h l₂ := by
  induction l₁ with
  | nil => simp [nfunctions]
  | cons a t ih => simp only [List.cons_append, nfunctions, ih]; omega

theorem nfunctions_single (h : Harm) (l : Nat) :
    nfunctions h [l] = match h with | .spherical => 2 * l + 1 | .cartesian => (l + 1) * (l + 2) / 2 := by
  cases h <;> simp [nfunctions]

/-- all exponent triples `(i, j, k)` with `i + j + k = L` -/
def cartTriples (L : Nat) : List (Nat × Nat × Nat) :=
  flatten ((List.range (L + 1)).map (fun i => (List.range (L + 1 - i)).map (fun j => (i, j, L - i - j))))

theorem sum_range_desc (L : Nat) : ∀ n, n ≤ L + 1 →
    2 * ((List.range n).map (fun i => L + 1 - i)).sum = n * (2 * L + 3 - n)
  | 0, _ => by simp
  | n + 1, h => by
    have ih := sum_range_desc L n (by omega)
    rw [List.range_succ, List.map_append, List.sum_append_nat, Nat.mul_add, ih]
    simp only [List.map, List.sum_cons, List.sum_nil]
    obtain ⟨d, rfl⟩ : ∃ d, L = n + d := ⟨L - n, by omega⟩
    have e1 : 2 * (n + d) + 3 - n = n + (2 * d + 3) := by omega
    have e2 : 2 * (n + d) + 3 - (n + 1) = n + (2 * d + 2) := by omega
    have e3 : n + d + 1 - n + 0 = d + 1 := by omega
    rw [e1, e2, e3]
    simp only [Nat.mul_add, Nat.add_mul, Nat.mul_one, Nat.one_mul]
    omega

/-- `(L+1)(L+2)/2` — the cartesian count used by `nfunctions` — is the number of exponent triples with
`i+j+k = L`, and those are exactly the members of the enumeration. -/
theorem cartesian_count (L : Nat) :
    (cartTriples L).length = (L + 1) * (L + 2) / 2 ∧
    (∀ i j k, (i, j, k) ∈ cartTriples L ↔ i + j + k = L) := by
  constructor
  · unfold cartTriples
    have hl : ((List.range (L + 1)).map fun i => (List.range (L + 1 - i)).map fun j => (i, j, L - i - j)).map List.length
        = (List.range (L + 1)).map fun i => L + 1 - i := by simp
    rw [flatten_eq_flatten, List.length_flatten, hl]
    have h := sum_range_desc L (L + 1) (Nat.le_refl _)
    have e : 2 * L + 3 - (L + 1) = L + 2 := by omega
    rw [e] at h
    omega
  · intro i j k
    unfold cartTriples
    rw [flatten_eq_flatten, List.mem_flatten]
    constructor
    · rintro ⟨l, hl, hx⟩
      simp only [List.mem_map, List.mem_range] at hl
      obtain ⟨i', hi', rfl⟩ := hl
      simp only [List.mem_map, List.mem_range, Prod.mk.injEq] at hx
      obtain ⟨j', hj', rfl, rfl, rfl⟩ := hx
      omega
    · intro h
      refine ⟨_, List.mem_map.mpr ⟨i, List.mem_range.mpr (by omega), rfl⟩, ?_⟩
      refine List.mem_map.mpr ⟨j, List.mem_range.mpr (by omega), ?_⟩
      have : L - i - j = k := by omega
      rw [this]

/-- An accepted basis set carries `nbf` equal to the count implied by its shells and is otherwise
unchanged; the supplied value was absent or already equal.  A well-formed basis with a different supplied
`nbf` is rejected (`nbfMismatch`), with an absent one it is accepted. -/
theorem nbf_consistent (b : BasisIn) :
    (∀ b', validateBasis b = .ok b' →
        b'.nbf = some (calcNbf b.centers b.atomMap) ∧ b'.centers = b.centers ∧ b'.atomMap = b.atomMap ∧
        (b.nbf = none ∨ b.nbf = some (calcNbf b.centers b.atomMap))) ∧
    (b.wellFormed → ∀ v, b.nbf = some v → v ≠ calcNbf b.centers b.atomMap → validateBasis b = .error .nbfMismatch) ∧
    (b.wellFormed → b.nbf = none → ∃ b', validateBasis b = .ok b') := by
  refine ⟨?_, ?_, ?_⟩
  · intro b' h
    obtain ⟨_, h2, rfl⟩ := (validateBasis_ok_iff b b').mp h
    exact ⟨rfl, rfl, rfl, h2⟩
  · intro hw v hn hv; exact validateBasis_mismatch b v hw hn hv
  · intro hw hn; exact ⟨_, (validateBasis_ok_iff b _).mpr ⟨hw, Or.inl hn, rfl⟩⟩

theorem validateBasis_idem (b b' : BasisIn) (h : validateBasis b = .ok b') : validateBasis b' = .ok b' := by
  obtain ⟨hw, _, rfl⟩ := (validateBasis_ok_iff b b').mp h
  exact (validateBasis_ok_iff _ _).mpr ⟨hw, Or.inr rfl, rfl⟩

/-- `calcNbf` adds up over the atoms -/
theorem calcNbf_append (cs : List Center) (a₁ a₂ : List Nat) :
    calcNbf cs (a₁ ++ a₂) = calcNbf cs a₁ + calcNbf cs a₂ := by
  induction a₁ with
  | nil => simp [calcNbf]
  | cons a t ih => simp only [List.cons_append, calcNbf, ih]; omega

-- test: the water/STO-3G-like basis of the test-suite: O = s + fused sp (cartesian) + s, H = s  →  8
example : validateBasis { centers := [⟨0, [⟨.spherical, [0], 3, [3]⟩, ⟨.cartesian, [0, 1], 3, [3, 3]⟩, ⟨.cartesian, [0], 3, [3, 3]⟩]⟩,
                                      ⟨1, [⟨.spherical, [0], 3, [3]⟩]⟩],
                          atomMap := [0, 1, 1], nbf := some 8 } = .ok
                        { centers := [⟨0, [⟨.spherical, [0], 3, [3]⟩, ⟨.cartesian, [0, 1], 3, [3, 3]⟩, ⟨.cartesian, [0], 3, [3, 3]⟩]⟩,
                                      ⟨1, [⟨.spherical, [0], 3, [3]⟩]⟩],
                          atomMap := [0, 1, 1], nbf := some 8 } := by rfl

/-! ## the wavefunction protocol -/

/-- the pointer keys a protocol may retain, given `restricted` -/
def Selected (keep : List PtrKey) (r : Bool) (pk : PtrKey) : Prop :=
  pk ∈ keep ∧ ¬ (r = true ∧ pk.spin = .b)

theorem afterRestricted_ptr {β : Type} (r : Bool) (w : Wfn β) (pk : PtrKey) (ak : ArrKey) :
    (afterRestricted r w).ptr pk = some ak ↔ (¬ (r = true ∧ pk.spin = .b) ∧ w.ptr pk = some ak) := by
  cases r with
  | false => simp [afterRestricted]
  | true =>
    simp only [afterRestricted, if_true, dropBeta, true_and]
    by_cases hs : pk.spin = .b <;> simp [hs]

theorem afterRestricted_arr {β : Type} (r : Bool) (w : Wfn β) (ak : ArrKey) (v : Shape) :
    (afterRestricted r w).arr ak = some v ↔ (¬ (r = true ∧ ak.spin = .b) ∧ w.arr ak = some v) := by
  cases r with
  | false => simp [afterRestricted]
  | true =>
    simp only [afterRestricted, if_true, dropBeta, true_and]
    by_cases hs : ak.spin = .b <;> simp [hs]

/-- Protocol `all`: for a restricted wavefunction exactly the non-beta entries survive, unchanged; for an
unrestricted one everything is returned unchanged. -/
theorem wfn_all_keeps {β : Type} (w : Wfn β) (r : Bool) (hr : w.restricted = some r) :
    ∃ w', wfnProtocol .all w = .ok (some w') ∧ w'.restricted = some r ∧ w'.basis = w.basis ∧
      (∀ pk ak, w'.ptr pk = some ak ↔ (¬ (r = true ∧ pk.spin = .b) ∧ w.ptr pk = some ak)) ∧
      (∀ ak v, w'.arr ak = some v ↔ (¬ (r = true ∧ ak.spin = .b) ∧ w.arr ak = some v)) ∧
      (r = false → w' = w) := by
  refine ⟨_, wfnProtocol_all w r hr, ?_, (afterRestricted_restricted r w).2, afterRestricted_ptr r w,
    afterRestricted_arr r w, ?_⟩
  · rw [(afterRestricted_restricted r w).1, hr]
  · intro h; subst h; rfl

/-- Subset protocols (`return_results`, `orbitals_and_eigenvalues`, `occupations_and_eigenvalues`):
exactly what is kept.  The retained pointers are the selected, supplied, non-beta-if-restricted ones with
their values; the retained arrays are exactly the arrays those pointers name, unchanged; `basis` and
`restricted` are kept; nothing else survives. -/
theorem wfn_keeps_exactly {β : Type} (p : WfnProto) (keep : List PtrKey) (hk : keepList p = some keep)
    (w w' : Wfn β) (r : Bool) (hr : w.restricted = some r) (h : wfnProtocol p w = .ok (some w')) :
    w'.restricted = some r ∧ w'.basis = w.basis ∧
    (∀ pk ak, w'.ptr pk = some ak ↔ (Selected keep r pk ∧ w.ptr pk = some ak)) ∧
    (∀ ak v, w'.arr ak = some v ↔ ((∃ pk, Selected keep r pk ∧ w.ptr pk = some ak) ∧ w.arr ak = some v)) := by
  obtain ⟨hd, rfl⟩ := wfnProtocol_subset_ok hk hr h
  refine ⟨rfl, (afterRestricted_restricted r w).2, fun pk ak => ?_, fun ak v => ?_⟩
  · rw [restrict_ptr, afterRestricted_ptr, Selected, and_assoc]
  · rw [restrict_arr]
    constructor
    · rintro ⟨⟨pk, h1, h2⟩, h3⟩
      obtain ⟨h2a, h2b⟩ := (afterRestricted_ptr r w pk ak).mp h2
      exact ⟨⟨pk, ⟨h1, h2a⟩, h2b⟩, ((afterRestricted_arr r w ak v).mp h3).2⟩
    · rintro ⟨⟨pk, ⟨h1, h2⟩, h3⟩, h4⟩
      have hp := (afterRestricted_ptr r w pk ak).mpr ⟨h2, h3⟩
      -- the selected pointer resolved, otherwise the loop would have failed
      obtain ⟨v', hv'⟩ := not_dangling hd h1 hp
      have := ((afterRestricted_arr r w ak v').mp hv').2
      rw [h4] at this; cases this
      exact ⟨⟨pk, h1, hp⟩, hv'⟩

/-- Protocol `none` keeps no wavefunction. -/
theorem wfn_none_drops {β : Type} (w : Wfn β) (r : Bool) (hr : w.restricted = some r) :
    wfnProtocol .none w = .ok none := by
  simp [wfnProtocol, hr]

/-- The filter rejects — as a validation error at `wavefunction`, never as another exception — exactly when
some selected pointer names an array that is not supplied (or was removed as a beta quantity).  With
`restricted` supplied there is no other failure, and under `all` / `none` none at all. -/
theorem wfn_rejects_iff_dangling {β : Type} (p : WfnProto) (w : Wfn β) (r : Bool) (hr : w.restricted = some r) :
    (∀ e, wfnProtocol p w = .error e → e = .validation ["wavefunction"]) ∧
    ((∃ e, wfnProtocol p w = .error e) ↔
      ∃ keep, keepList p = some keep ∧ ∃ pk ak, Selected keep r pk ∧ w.ptr pk = some ak ∧
        ¬ (∃ v, ¬ (r = true ∧ ak.spin = .b) ∧ w.arr ak = some v)) := by
  cases hk : keepList p with
  | none =>
    obtain ⟨o, ho⟩ : ∃ o, wfnProtocol p w = .ok o := by
      rcases keepList_eq_none hk with rfl | rfl
      · exact ⟨_, wfnProtocol_all w r hr⟩
      · exact ⟨_, wfn_none_drops w r hr⟩
    rw [ho]
    constructor
    · intro e h; cases h
    · constructor
      · rintro ⟨e, h⟩; cases h
      · rintro ⟨keep, h, _⟩; cases h
  | some keep =>
    have key : dangling (afterRestricted r w) keep = true ↔ ∃ pk ak, Selected keep r pk ∧ w.ptr pk = some ak ∧
        ¬ (∃ v, ¬ (r = true ∧ ak.spin = .b) ∧ w.arr ak = some v) := by
      rw [dangling_iff]
      constructor
      · rintro ⟨pk, h1, t, h2, h3⟩
        obtain ⟨h2a, h2b⟩ := (afterRestricted_ptr r w pk t).mp h2
        exact ⟨pk, t, ⟨h1, h2a⟩, h2b, fun ⟨v, hv⟩ => by rw [(afterRestricted_arr r w t v).mpr hv] at h3; cases h3⟩
      · rintro ⟨pk, ak, ⟨h1, h2⟩, h3, h4⟩
        refine ⟨pk, h1, ak, (afterRestricted_ptr r w pk ak).mpr ⟨h2, h3⟩, ?_⟩
        cases hv : (afterRestricted r w).arr ak with
        | none => rfl
        | some v => exact absurd ⟨v, (afterRestricted_arr r w ak v).mp hv⟩ h4
    rw [wfnProtocol_subset p keep hk w r hr]
    cases hd : dangling (afterRestricted r w) keep with
    | false =>
      refine ⟨fun e h => (by cases h), ⟨?_, ?_⟩⟩
      · rintro ⟨e, h⟩; cases h
      · rintro ⟨keep', hk', h⟩
        cases hk'; rw [key.mpr h] at hd; cases hd
    | true =>
      exact ⟨fun e h => (by cases h; rfl), ⟨fun _ => ⟨keep, rfl, key.mp hd⟩, fun _ => ⟨_, rfl⟩⟩⟩

/-- Every wavefunction protocol is idempotent: applied to its own output it returns that output. -/
theorem wfn_idempotent {β : Type} (p : WfnProto) (w : Wfn β) :
    (∀ w', wfnProtocol p w = .ok (some w') → wfnProtocol p w' = .ok (some w')) ∧
    (wfnProtocol p w = .ok none → p = .none) := by
  constructor
  · intro w' h
    have hp : p ≠ .none := fun hp => wfnProtocol_none_ne_some w w' (hp ▸ h)
    exact protocol_of_closed p hp w' (closed_of_protocol p w w' h)
  · intro h
    cases hr : w.restricted with
    | none => rw [wfnProtocol_no_restricted _ w hr] at h; cases h
    | some r =>
      cases hk : keepList p with
      | none =>
        rcases keepList_eq_none hk with rfl | rfl
        · rw [wfnProtocol_all w r hr] at h; cases h
        · rfl
      | some keep =>
        rw [wfnProtocol_subset p keep hk w r hr] at h
        split at h <;> cases h

-- tests / non-vacuity: a restricted wavefunction with alpha and beta orbitals and pointers
def exWfn : Wfn Unit :=
  { restricted := some true, basis := some (),
    arr := fun k => if k = ⟨.scf_orbitals, .a⟩ ∨ k = ⟨.scf_orbitals, .b⟩ ∨ k = ⟨.scf_fock, .a⟩ then some [4] else none,
    ptr := fun k => if k = ⟨.orbitals, .a⟩ then some ⟨.scf_orbitals, .a⟩
                    else if k = ⟨.orbitals, .b⟩ then some ⟨.scf_orbitals, .b⟩
                    else if k = ⟨.fock, .a⟩ then some ⟨.scf_fock, .a⟩ else none }

example : ∃ w', wfnProtocol .orbitals_and_eigenvalues exWfn = .ok (some w') ∧
    w'.arr ⟨.scf_orbitals, .a⟩ = some [4] ∧ w'.arr ⟨.scf_orbitals, .b⟩ = none ∧ w'.arr ⟨.scf_fock, .a⟩ = none ∧
    w'.ptr ⟨.orbitals, .a⟩ = some ⟨.scf_orbitals, .a⟩ ∧ w'.ptr ⟨.fock, .a⟩ = none := ⟨_, rfl, by decide⟩

/-- test: a restricted wavefunction whose alpha pointer names a beta array is rejected -/
example : wfnProtocol .return_results
    ({ exWfn with ptr := fun k => if k = ⟨.orbitals, .a⟩ then some ⟨.scf_orbitals, .b⟩ else none } : Wfn Unit)
    = .error (.validation ["wavefunction"]) := by rfl

/-! ## WavefunctionProperties: shapes, and re-validation -/

/-- what the registered validator makes of a supplied shape `s`, given the basis size -/
def ArrFits (nbf : Nat) (b : ArrBase) (s s' : Shape) : Prop :=
  match arrRule b with
  | .square => prod s = nbf * nbf ∧ s' = [nbf, nbf]
  | .rows => 0 < nbf ∧ nbf ∣ prod s ∧ s' = [nbf, prod s / nbf]
  | .flat => s' = [prod s]
  | .unvalidated => s' = s

/-- Accepted `WavefunctionProperties`: the basis carries `nbf` = the count implied by its shells; every AO
matrix (`h_core`, `h_effective`, `scf_density`, `scf_fock`, `scf_coulomb`, `scf_exchange`, both spins) is
`[nbf, nbf]`, `scf_orbitals` and `localized_orbitals` are `[nbf, size/nbf]`, eigenvalues and occupations are flat,
`localized_fock` is left as supplied; every array keeps its element count; a field is present iff it was supplied; pointers and
`restricted` are unchanged and every pointer names a present array. -/
theorem wfn_shapes (x y : Wfn BasisIn) (h : validateWfn x = .ok y) :
    ∃ b b' nbf, x.basis = some b ∧ y.basis = some b' ∧ b'.nbf = some nbf ∧ nbf = calcNbf b.centers b.atomMap ∧
      y.restricted = x.restricted ∧ y.ptr = x.ptr ∧
      (∀ k, y.arr k = none ↔ x.arr k = none) ∧
      (∀ k s', y.arr k = some s' → ∃ s, x.arr k = some s ∧ ArrFits nbf k.base s s' ∧ prod s' = prod s) ∧
      (∀ pk ak, y.ptr pk = some ak → ∃ v, y.arr ak = some v) := by
  obtain ⟨b, b', hb, hv, _, hfa, hfp, rfl⟩ := (validateWfn_ok_iff x y).mp h
  obtain ⟨_, _, rfl⟩ := (validateBasis_ok_iff b b').mp hv
  refine ⟨b, _, _, hb, rfl, rfl, rfl, rfl, rfl, validated_arr_presence hfa, ?_, (ptrFails_nil_iff _ _).mp hfp⟩
  intro k s' hs'
  obtain ⟨s, hx, hr⟩ := arrOut_join_some.mp hs'
  refine ⟨s, hx, ?_, applyArrRule_size hr⟩
  unfold ArrFits
  cases hrule : arrRule k.base <;> simp only [hrule, applyArrRule] at hr ⊢
  · obtain ⟨h1, h2⟩ := (reshapeExact_ok_iff _ _ _).mp hr
    exact ⟨by simpa using h1, h2⟩
  · exact reshapeRows_eq_some.mp hr
  · simp only [reshapeFlat, Option.some.injEq] at hr; exact hr.symm
  · simp only [Option.some.injEq] at hr; exact hr.symm

theorem validateWfn_idem (x y : Wfn BasisIn) (h : validateWfn x = .ok y) : validateWfn y = .ok y := by
  obtain ⟨b, b', hb, hv, hr, hfa, hfp, rfl⟩ := (validateWfn_ok_iff x y).mp h
  -- arrays: the output of each validator is a fixed point of that validator
  have harr := fun k => map_join_idem (applyArrRule_idem (nbf := b'.nbf) (r := arrRule k.base)) (x.arr k)
  refine (validateWfn_ok_iff _ _).mpr ⟨b', b', rfl, validateBasis_idem b b' hv, hr,
    (arrFails_nil_iff _ _).mpr fun k => (harr k).1, (ptrFails_nil_iff _ _).mpr fun pk ak hp => ?_,
    Wfn.ext' rfl rfl (fun k => (harr k).2.symm) (fun _ => rfl)⟩
  -- pointers: the target is validated to what it was validated to before
  obtain ⟨v, hv⟩ := (ptrFails_nil_iff _ _).mp hfp pk ak hp
  exact ⟨v, (harr ak).2.trans hv⟩

/-! ## stdout, native files, trajectory -/

theorem stdout_keeps {α : Type} (keep : Bool) (v : Option α) :
    (keep = true → stdoutProtocol keep v = v) ∧ (keep = false → stdoutProtocol keep v = none) ∧
    stdoutProtocol keep (stdoutProtocol keep v) = stdoutProtocol keep v := by
  cases keep <;> simp [stdoutProtocol]

/-- native files: `all` returns the dict unchanged, `none` the empty dict, `input` exactly the entry
"input" (id 0) with its supplied content (`None` if there was none); each policy is idempotent. -/
theorem native_keeps {γ : Type} (f : Files γ) :
    nativeProtocol .all f = f ∧ nativeProtocol .none f = [] ∧
    nativeProtocol .input f = [(0, filesGet f 0)] ∧
    (∀ p, nativeProtocol p (nativeProtocol p f) = nativeProtocol p f) := by
  refine ⟨rfl, rfl, rfl, ?_⟩
  intro p
  cases p <;> simp [nativeProtocol, filesGet]

theorem nativeField_idem {γ : Type} (p : NativePolicy) (f : Option (Files γ)) :
    nativeField p (some (nativeField p f)) = nativeField p f := by
  simp only [nativeField, Option.getD_some]
  exact (native_keeps (f.getD [])).2.2.2 p

/-- what each trajectory policy selects -/
theorem trajectory_selects {α : Type} (x : α) (l : List α) :
    (∀ v : List α, trajectoryProtocol .all v = v ∧ trajectoryProtocol .none v = []) ∧
    trajectoryProtocol .final ([] : List α) = [] ∧
    trajectoryProtocol .initial_and_final ([] : List α) = [] ∧
    trajectoryProtocol .final (x :: l) = [(x :: l).getLast (by simp)] ∧
    trajectoryProtocol .initial_and_final [x] = [x] ∧
    (l ≠ [] → trajectoryProtocol .initial_and_final (x :: l) = [x, (x :: l).getLast (by simp)]) := by
  refine ⟨fun v => ⟨rfl, rfl⟩, rfl, rfl, ?_, rfl, fun hl => ?_⟩
  · rw [trajectoryProtocol_final_cons, lastOf_eq_getLast]
  · cases l with
    | nil => exact absurd rfl hl
    | cons y ys => rw [trajectoryProtocol_initial_and_final_cons, lastOf_eq_getLast y ys]; rfl

/-- Whatever a trajectory policy returns is a sub-list of the trajectory: the function is total (no
exception on the empty trajectory) and never repeats a step. -/
theorem trajectory_sublist {α : Type} (p : TrajPolicy) (v : List α) : (trajectoryProtocol p v).Sublist v := by
  cases p with
  | all => exact List.Sublist.refl _
  | none => exact List.nil_sublist _
  | initial_and_final =>
    match v with
    | [] => exact List.Sublist.refl _
    | [x] => exact List.Sublist.refl _
    | x :: y :: l => rw [trajectoryProtocol_initial_and_final_cons]; exact (lastOf_sublist y l).cons_cons x
  | final =>
    cases v with
    | nil => exact List.Sublist.refl _
    | cons x l => rw [trajectoryProtocol_final_cons]; exact lastOf_sublist x l

/-- every trajectory policy is idempotent (on any list, including the empty one) -/
theorem trajectory_idempotent {α : Type} (p : TrajPolicy) (v : List α) :
    trajectoryProtocol p (trajectoryProtocol p v) = trajectoryProtocol p v := by
  cases p with
  | all => rfl
  | none => rfl
  | initial_and_final =>
    match v with
    | [] => rfl
    | [x] => rfl
    | x :: y :: l => rw [trajectoryProtocol_initial_and_final_cons]; rfl
  | final =>
    cases v with
    | nil => rfl
    | cons x l => rw [trajectoryProtocol_final_cons]; rfl

-- tests
example : trajectoryProtocol .initial_and_final [0, 1, 2, 3, 4] = [0, 4] := by decide
example : trajectoryProtocol .initial_and_final [7] = [7] := by decide
example : trajectoryProtocol .final ([] : List Nat) = [] := by decide

/-! ## the whole AtomicResult: validating the dumped object again changes nothing -/

theorem validateProps_idem (p o : PropsIn) (h : validateProps p = .ok o) : validateProps o = .ok o := by
  obtain ⟨_, rfl⟩ := (validateProps_ok_iff p o).mp h
  have hout := fun k => map_join_idem (bySize_prop p.natom (propRule k)).idem (p.arr k)
  exact (validateProps_ok_iff _ _).mpr ⟨(propFails_nil_iff _).mpr fun k => (hout k).1,
    PropsIn.ext' rfl fun k => (hout k).2.symm⟩

/-- validation keeps a fixed point of the protocol a fixed point (it only changes shapes and fills `nbf`) -/
theorem closed_validate (p : WfnProto) (x y : Wfn BasisIn) (h : validateWfn x = .ok y) (hc : Closed p x) :
    Closed p y := by
  obtain ⟨b, b', _, _, _, hfa, _, rfl⟩ := (validateWfn_ok_iff x y).mp h
  have hpres := validated_arr_presence hfa
  obtain ⟨r, hr, hnb⟩ := hc.restricted
  refine ⟨⟨r, hr, ?_⟩, ?_⟩
  · intro hrt
    obtain ⟨h1, h2⟩ := hnb hrt
    exact ⟨fun k hk => (hpres k).mpr (h1 k hk), h2⟩
  · intro keep hk
    obtain ⟨hc1, hc2⟩ := hc.keep keep hk
    constructor
    · intro pk ak hpa
      obtain ⟨h1, v, hv⟩ := hc1 pk ak hpa
      exact ⟨h1, Option.ne_none_iff_exists'.mp fun hn => by rw [(hpres ak).mp hn] at hv; cases hv⟩
    · intro ak v hv
      obtain ⟨v0, hv0, _⟩ := arrOut_join_some.mp hv
      exact hc2 ak v0 hv0

/-- the `wavefunction` field as a whole is idempotent -/
theorem wfnField_idem (p : WfnProto) (w w' : Option (Wfn BasisIn)) (h : wfnField p w = .ok w') :
    wfnField p w' = .ok w' := by
  cases w with
  | none => simp only [wfnField, Except.ok.injEq] at h; subst h; rfl
  | some x =>
    simp only [wfnField] at h
    cases hp : wfnProtocol p x with
    | error e => rw [hp] at h; cases h
    | ok o =>
      rw [hp] at h
      cases o with
      | none => simp only [Except.ok.injEq] at h; subst h; rfl
      | some x1 =>
        simp only at h
        cases hv : validateWfn x1 with
        | error e => rw [hv] at h; cases e <;> cases h
        | ok x2 =>
          rw [hv] at h
          simp only [Except.ok.injEq] at h; subst h
          have hpn : p ≠ .none := fun hpn => wfnProtocol_none_ne_some x x1 (hpn ▸ hp)
          have hc := closed_validate p x1 x2 hv (closed_of_protocol p x x1 hp)
          simp only [wfnField, protocol_of_closed p hpn x2 hc, validateWfn_idem x1 x2 hv]

theorem atomicResult_ok_iff {γ σ : Type} (i : ARIn γ σ) (o : AROut γ σ) :
    atomicResult i = .ok o ↔
      ∃ p w r, validateProps i.props = .ok p ∧ wfnField i.wp i.wfn = .ok w ∧ validateRR i.driver i.rr = some r ∧
        o = { props := p, wfn := w, rr := r, stdout := stdoutProtocol i.so i.stdout,
              native := nativeField i.nf i.native } := by
  unfold atomicResult
  cases hw : wfnField i.wp i.wfn with
  | error e =>
    cases e <;> simp
  | ok w =>
    cases hp : validateProps i.props with
    | error l => simp
    | ok p =>
      cases hr : validateRR i.driver i.rr with
      | none => simp
      | some r => simp [eq_comm]

/-- the dumped object, fed back with the same protocols and driver (`.dict()` always contains
`native_files`, so the field is supplied the second time) -/
def AROut.toInput {γ σ : Type} (o : AROut γ σ) (i : ARIn γ σ) : ARIn γ σ :=
  { i with props := o.props, wfn := o.wfn, rr := o.rr, stdout := o.stdout, native := some o.native }

/-- **Re-validation is the identity**: an accepted `AtomicResult`, dumped and validated again under the same
protocols and driver, is accepted and is the same object — shapes, retained wavefunction keys, pointers,
`nbf`, stdout, native files.  No side condition. -/
theorem atomicResult_revalidate {γ σ : Type} (i : ARIn γ σ) (o : AROut γ σ) (h : atomicResult i = .ok o) :
    atomicResult (o.toInput i) = .ok o := by
  obtain ⟨p, w, r, hp, hw, hr, rfl⟩ := (atomicResult_ok_iff i o).mp h
  refine (atomicResult_ok_iff _ _).mpr ⟨p, w, r, validateProps_idem _ _ hp, wfnField_idem _ _ _ hw,
    validateRR_idem hr, ?_⟩
  simp only [AROut.toInput, (stdout_keeps i.so i.stdout).2.2, nativeField_idem]

/-- the policy `input` on an unsupplied `native_files` yields the placeholder already at first construction
(the validator is `always=True`), which is why re-validation is the identity without a side condition -/
example : nativeField (γ := Unit) .input none = [(0, none)] := rfl

-- non-vacuity of `atomicResult_revalidate`: a gradient job with a flat gradient, a flat dipole, a restricted
-- wavefunction filtered by `orbitals_and_eigenvalues`, stdout dropped, native files reduced to the input
def exBasis : BasisIn := { centers := [⟨0, [⟨.spherical, [0], 1, [1]⟩, ⟨.cartesian, [1], 1, [1]⟩]⟩], atomMap := [0], nbf := none }
def exAR : ARIn Unit Unit :=
  { wp := .orbitals_and_eigenvalues, so := false, nf := .input, driver := .gradient,
    props := { natom := some 2, arr := fun k => if k = .return_gradient then some [6] else if k = .scf_dipole_moment then some [3, 1] else none },
    wfn := some { restricted := some true, basis := some exBasis,
                  arr := fun k => if k = ⟨.scf_orbitals, .a⟩ then some [16] else if k = ⟨.scf_fock, .b⟩ then some [5] else none,
                  ptr := fun k => if k = ⟨.orbitals, .a⟩ then some ⟨.scf_orbitals, .a⟩ else none },
    rr := .arr [6], stdout := some (), native := some [(1, some ()), (0, some ())] }

example : ∃ o, atomicResult exAR = .ok o ∧ o.rr = .arr [2, 3] ∧ o.stdout = none ∧ o.native = [(0, some ())] ∧
    o.props.arr .return_gradient = some [2, 3] ∧ o.props.arr .scf_dipole_moment = some [3] ∧
    (∃ w, o.wfn = some w ∧ w.arr ⟨.scf_orbitals, .a⟩ = some [4, 4] ∧ w.arr ⟨.scf_fock, .b⟩ = none ∧
      w.basis.bind (·.nbf) = some 4) :=
  ⟨_, rfl, by decide, rfl, rfl, by decide, by decide, _, rfl, by decide, by decide, by decide⟩

end QcelVerif.Protocols
