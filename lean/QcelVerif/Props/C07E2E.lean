import QcelVerif.Model.TextToMol
import QcelVerif.Props.C07Text
import QcelVerif.Props.C04C06
/-!
# C07 end to end — `Molecule → text → Molecule` through validation

`Model/TextToMol.lean` composes the text layer (M1, C07) with `from_input_arrays`' field mapping and the `from_arrays` model
(C04) whose per-atom reconciler is the C06 model and whose charge/multiplicity stage is the C05 model.  For ALL records (no size
bound): reading the written TEXT equals validating what the format carries; (a) a validated record (a fixed point of `from_arrays`,
which is what `from_arrays_idempotent*` / `from_arrays_second_pass_c06*` conclude) written as psi4 / xyz+ and read back is returned
with the printed coordinates, every other carried field unchanged — here with the per-atom step "the written token alone re-derives
the atom" as the hypothesis `hlab` (the `_partial` theorems), which Props/C07Label.lean proves and Props/C07Full.lean removes;
(c) what the outcome type says about error classes.  (b), same canonical fields hence same hash, is `Props/C07Hash.lean`.
-/
namespace QcelVerif.TextToMol
open QcelVerif QcelVerif.MolText QcelVerif.FromArrays

/-! ## the text layer under `readMol` -/

/-- **psi4**: reading the text `writePsi4` prints is validating exactly what the format carries. -/
theorem read_text_psi4 (env : Env) (rd : Rat → Rat) (m : MolRec) (h : RecOk m) :
    readMol env rd .psi4 (render (writePsi4 m)) = validate env rd (projectPsi4 m) := by
  unfold readMol
  rw [read_write_psi4_text m h]

/-- **xyz+** -/
theorem read_text_xyzplus (env : Env) (rd : Rat → Rat) (natS : Str) (m : MolRec) (h : XyzOk natS m) (hname : Clean m.name) :
    readMol env rd .xyzPlus (render (writeXyz natS m)) = validate env rd (projectXyzPlus m) := by
  unfold readMol
  rw [read_write_xyzplus_text natS m h hname]

/-- **strict xyz** (Angstrom, ghost-free) -/
theorem read_text_xyz (env : Env) (rd : Rat → Rat) (natS : Str) (m : MolRec) (h : XyzOk natS m) (hname : Clean m.name)
    (hb : m.bohr = false) (hreal : ∀ a ∈ allAtoms m, a.real = true) :
    readMol env rd .xyz (render (writeXyz natS m)) = validate env rd (projectXyz m) := by
  unfold readMol
  rw [read_write_xyz_text natS m h hname hb hreal]

/-! ## (c) outcome classes -/

/-- **Documented errors only — by type, and what that means.**  Every outcome of the composed reader is a validated record,
the empty record (no atom line), one of the THREE documented error classes, or one of two explicit declarations of the model
(`outOfScope`: the text uses something the model does not cover; `modelGap`: a "cannot happen" class of the C06 model was hit,
see `readMol_gap_only_c06_other`).  This is a statement about the MODEL; that `from_string` behaves like it — in particular never raises a fourth class — is
the correspondence run (`R` lines of `Driver/C07b.lean`) and the totality oracle, on generated texts only. -/
theorem readMol_documented (env : Env) (rd : Rat → Rat) (d : Dtype) (s : Str) :
    (∃ r, readMol env rd d s = .mol r) ∨ readMol env rd d s = .noAtoms ∨
    readMol env rd d s = .error .moleculeFormat ∨ readMol env rd d s = .error .validation ∨
    readMol env rd d s = .error .notAnElement ∨ readMol env rd d s = .outOfScope ∨ readMol env rd d s = .modelGap := by
  cases h : readMol env rd d s with
  | mol r => exact Or.inl ⟨r, rfl⟩
  | noAtoms => simp
  | error e => cases e <;> simp
  | outOfScope => simp
  | modelGap => simp

/-- a MoleculeFormatError comes from the text layer and from nowhere else -/
theorem readMol_formatError_iff (env : Env) (rd : Rat → Rat) (d : Dtype) (s : Str) :
    readMol env rd d s = .error .moleculeFormat ↔ parseText d s = .formatError := by
  unfold readMol
  cases hp : parseText d s with
  | formatError => simp
  | outOfScope => simp
  | ok p =>
    simp only [reduceCtorEq, iff_false]
    unfold validate
    split
    · simp
    · split
      · simp
      · split
        · simp
        · rename_i e _
          cases e with
          | validation => simp [outcomeOfErr]
          | other cls => simp only [outcomeOfErr]; split <;> simp

/-- an error of the adapted C06 reconciler is a ValidationError, a NotAnElementError, or C06's own `other` -/
theorem reconOfC06With_error {N : Nucleus.NTables} {rd : Rat → Rat} {rng} {st : NucSettings} {c : Clue} {e : FromArrays.Err}
    (h : reconOfC06With N rd rng st c = .error e) :
    e = .validation ∨ e = .other "NotAnElement" ∨
    (e = .other "other" ∧ Nucleus.reconcileWith N rd rng (toInput st c) = .error .other) := by
  unfold reconOfC06With at h
  split at h
  · cases h
  · rename_i e' he'
    cases h
    cases e' with
    | notAnElement => exact Or.inr (Or.inl rfl)
    | validation f => exact Or.inl rfl
    | unparseable => exact Or.inl rfl
    | other => exact Or.inr (Or.inr ⟨rfl, he'⟩)

/-- **`modelGap` can only come from C06's `other` class** (a tabulated mass that is not a decimal, an element without a
nuclide range — `Nucleus.Err.other`, "cannot happen with the shipped table"): with the C06 model as reconciler over ANY table,
a `modelGap` outcome exhibits a clue on which `reconcile_nucleus`' model answers `other`.  (The C05 model's `malformed` class
is excluded by the proof: `from_arrays` checks the list lengths first.) -/
theorem readMol_gap_only_c06_other (N : Nucleus.NTables) (rd : Rat → Rat) (rng) (a : Rat) (d : Dtype) (s : Str)
    (h : readMol { recon := reconOfC06With N rd rng, angToAu := a } rd d s = .modelGap) :
    ∃ st c, Nucleus.reconcileWith N rd rng (toInput st c) = .error .other := by
  unfold readMol at h
  split at h
  · cases h
  · cases h
  rename_i p _
  unfold validate at h
  split at h
  · cases h
  split at h
  · cases h
  rename_i i _
  split at h
  · cases h
  rename_i e he
  rcases fromArrays_error he with hv | ⟨_, _, _, _, _, _, c, hc⟩
  · subst hv; simp [outcomeOfErr] at h
  · rcases reconOfC06With_error hc with hv | hv | ⟨_, hv⟩
    · subst hv; simp [outcomeOfErr] at h
    · subst hv; simp [outcomeOfErr] at h
    · exact ⟨_, c, hv⟩

/-! ## (a) the written text of a validated record, through validation -/

theorem clues_label_only : ∀ (ls : List String),
    clues (eleaNorm (List.replicate ls.length none)) (List.replicate ls.length none) (List.replicate ls.length none)
      (List.replicate ls.length none) (List.replicate ls.length none) (ls.map some)
    = ls.map fun l => ({ A := none, Z := none, E := none, mass := none, real := none, label := some l } : Clue)
  | [] => rfl
  | l :: t => by
      have ih := clues_label_only t
      simp only [eleaNorm, List.length_cons, List.replicate_succ, List.map_cons, clues] at ih ⊢
      rw [ih]; simp

/-- the nuclei stage on a text input: the tokens, each alone, as nucleus specifications -/
theorem validateNuclei_text (rc : Reconciler) (p : Processed) (g : List Rat) (c m : Option Int) (fc fm : List (Option Int))
    (nucs : List FromArrays.Nuc) (hl : p.elbl.length = g.length / 3)
    (hlab : mapE (rc textSettings) (p.elbl.map labelClue) = .ok nucs) :
    validateNuclei rc (g.length / 3) (textInp p g c m fc fm) = .ok nucs := by
  have hcl := clues_label_only (p.elbl.map String.ofList)
  simp only [List.length_map, List.map_map, eleaNorm, Function.comp_def] at hcl
  unfold validateNuclei
  simp only [nucArrays, textInp, fillNone, eleaNorm, List.length_map, List.length_replicate, hl, and_self, if_true]
  rw [← hl, hcl]
  exact hlab

theorem frameFlag_text (b : Bool) : frameFlag (if (false || b) = true then Tri.tt else Tri.none) = .ok b := by
  cases b <;> rfl

theorem unitsOf_valid (u : Option Bool) : unitsOf u = sAngstrom ∨ unitsOf u = sBohr := by
  cases u with
  | none => exact Or.inl rfl
  | some b => cases b; exact Or.inl rfl; exact Or.inr rfl

/-- the columns of a record returned by `from_arrays` are the columns of `recNucs` -/
theorem cols_of_ok {env : Env} {i : Inp} {r : Molrec} (h : fromArrays env i = .ok r) :
    r.elea = (recNucs r).map (·.A) ∧ r.elez = (recNucs r).map (·.Z) ∧ r.elem = (recNucs r).map (·.E) ∧
    r.mass = (recNucs r).map (·.mass) ∧ r.real = (recNucs r).map (·.real) ∧ r.elbl = (recNucs r).map (·.label) := by
  obtain ⟨g, u, nucs, fr, cm, com, orient, _, _, _, _, _, _, _, _, rfl⟩ := fromArrays_ok h
  simp only [recNucs, nucsOf_maps, and_self]

/-- **Assembly.**  A validated record `r` (a fixed point of `from_arrays`), and a text input — processed fields `p` with
converted numbers `g c m fc fm` — such that: the new coordinates pass the closeness screen; each nucleus token alone is
answered by the reconciler with the record's atom; the fragment stage accepts the text's fragment arguments with the record's
separators; the charge/multiplicity stage on the text's (possibly partial) specification returns the record's values.  Then
`from_arrays` on the text input returns `r` with the text's unit and coordinates (name, comment, connectivity and
`input_units_to_au` are not carried by any text format). -/
theorem fromArrays_textInp (env : Env) (i₀ : Inp) (r : Molrec) (hfix : fromArrays env (asInput i₀ r) = .ok r)
    (p : Processed) (g : List Rat) (c m : Option Int) (fc fm : List (Option Int))
    (hefp : p.efp = []) (hgne : g ≠ [])
    (hscreen : validateGeometry dfltTooclose g = .ok g)
    (hl : p.elbl.length = g.length / 3)
    (hlab : mapE (env.recon textSettings) (p.elbl.map labelClue) = .ok (recNucs r))
    (fr : FragOut)
    (hfr : validateFragments (g.length / 3) (textInp p g c m fc fm).seps (textInp p g c m fc fm).fc
      (textInp p g c m fc fm).fm = .ok fr)
    (hseps : fr.seps = r.seps)
    (hcm : chgmultStage r.elez r.real fr c m false = .ok ⟨r.c, r.fc, r.m, r.fm⟩) :
    fromArrays env (textInp p g c m fc fm) =
      .ok { r with units := unitsOf p.units, iutau := none, name := none, comment := none, conn := none, geom := g,
                   fixCom := p.fixCom, fixOrient := p.fixOrient, fixSymm := frameSymm p.fixSym } := by
  obtain ⟨h1, h2, h3, h4, h5, h6⟩ := cols_of_ok hfix
  have s1 : missingGeom (textInp p g c m fc fm) = .ok g := by
    cases g with
    | nil => exact absurd rfl hgne
    | cons x t => rfl
  have s2 := validateUnits_back env.angToAu (textInp p g c m fc fm) (unitsOf p.units) none none (unitsOf_valid _)
    rfl rfl (by intro x hx; cases hx) (by simp [textInp, validateConn])
  have s3 : validateGeometry (textInp p g c m fc fm).tooclose g = .ok g := hscreen
  have s4 := validateNuclei_text env.recon p g c m fc fm (recNucs r) hl hlab
  have s6 : chgmultStage ((recNucs r).map (·.Z)) ((recNucs r).map (·.real)) fr
      (textInp p g c m fc fm).c (textInp p g c m fc fm).m (textInp p g c m fc fm).zgf = .ok ⟨r.c, r.fc, r.m, r.fm⟩ := by
    rw [← h2, ← h5]; exact hcm
  have s7 : frameFlag (textInp p g c m fc fm).fixCom = .ok p.fixCom := by
    simp only [textInp, hefp, List.isEmpty_nil, Bool.not_true]; exact frameFlag_text _
  have s8 : frameFlag (textInp p g c m fc fm).fixOrient = .ok p.fixOrient := by
    simp only [textInp, hefp, List.isEmpty_nil, Bool.not_true]; exact frameFlag_text _
  have s9 : (textInp p g c m fc fm).fixSymm = p.fixSym := by
    simp [textInp, hefp]
  unfold fromArrays
  simp only [s1, s2, s3, s4, hfr, s6, s7, s8, s9]
  congr 1
  rw [← h1, ← h2, ← h3, ← h4, ← h5, ← h6, hseps]
  rfl

/-- what a fixed point of `from_arrays` says about its own fragment and charge stages -/
theorem stages_of_fix {env : Env} {i₀ : Inp} {r : Molrec} (hfix : fromArrays env (asInput i₀ r) = .ok r) :
    validateFragments (r.geom.length / 3) (some r.seps) (some (r.fc.map some)) (some (r.fm.map some))
      = .ok ⟨r.seps, r.fc.map some, r.fm.map some⟩ ∧
    chgmultStage r.elez r.real ⟨r.seps, r.fc.map some, r.fm.map some⟩ (some r.c) (some r.m) false
      = .ok ⟨r.c, r.fc, r.m, r.fm⟩ ∧
    (recNucs r).length = r.geom.length / 3 := by
  have hn := recNucs_of_ok hfix
  obtain ⟨hl, hm⟩ := validateNuclei_ok hn
  have hlen : (recNucs r).length = r.geom.length / 3 := by
    rw [mapE_ok_length hm]
    exact length_clues _ _ _ _ _ _ _ hl.1 hl.2.1 hl.2.2.1 hl.2.2.2.1 hl.2.2.2.2.1 hl.2.2.2.2.2
  obtain ⟨g, u, nucs, fr, cm, com, orient, _, _, _, _, hfr, hcm, _, _, hr⟩ := fromArrays_ok hfix
  -- the stages ran on the record's own fields (`asInput`), and the record holds their results
  simp only [asInput] at hfr hcm
  obtain ⟨_, _, _, hcase⟩ := validateFragments_ok hfr
  have hfr' : fr = ⟨r.seps, r.fc.map some, r.fm.map some⟩ := by
    rcases hcase with ⟨h0, _⟩ | ⟨s, hs, h1, h2, h3⟩
    · cases h0
    · cases hs
      simp only [Option.getD_some] at h2 h3
      cases fr
      simp only at h1 h2 h3
      rw [h1, h2, h3]
  subst hfr'
  refine ⟨?_, ?_, hlen⟩
  · rw [hr] at hfr ⊢; exact hfr
  · rw [hr] at hcm ⊢; exact hcm

theorem optMapM_length {α β} {f : α → Option β} : ∀ {l : List α} {bs : List β}, optMapM f l = some bs → bs.length = l.length
  | [], bs, h => by simp [optMapM] at h; subst h; rfl
  | a :: t, bs, h => by
      unfold optMapM at h
      split at h
      · rename_i b bs' _ ht
        cases h
        simp [optMapM_length ht]
      · cases h

/-- three coordinates per label and at least one label: the sizes `from_arrays` looks at -/
theorem text_counts {rd : Rat → Rat} {p : Processed} {g : List Rat} (hg : optMapM (floatOf rd) p.geom = some g)
    (hcount : p.geom.length = 3 * p.elbl.length) (hne : p.elbl ≠ []) :
    p.elbl.length = g.length / 3 ∧ g ≠ [] ∧ p.geom ≠ [] := by
  have hgl : g.length = 3 * p.elbl.length := by rw [optMapM_length hg, hcount]
  have hpos : 0 < p.elbl.length := List.length_pos_iff.mpr hne
  refine ⟨by omega, ?_, ?_⟩
  · intro h0; rw [h0] at hgl; simp at hgl; omega
  · intro h0; rw [h0] at hcount; simp at hcount; omega

/-- a processed text with an atom whose numbers convert to an input that `from_arrays` accepts is validated to that record -/
theorem validate_of_fromArrays (env : Env) (rd : Rat → Rat) (p : Processed) (i : Inp) (r : Molrec) (hg : p.geom ≠ [])
    (hti : toInp rd p = some i) (hfa : fromArrays env i = .ok r) : validate env rd p = .mol r := by
  unfold validate
  rw [List.isEmpty_eq_false_iff.mpr hg, hti]
  simp only [Bool.false_eq_true, if_false, hfa]

theorem coords3_length (as : List Atom) : (as.flatMap coords3).length = 3 * as.length := by
  induction as with
  | nil => rfl
  | cons a as ih => simp only [List.flatMap_cons, List.length_append, ih, coords3, List.length_cons, List.length_nil]; omega

theorem psi4_counts (frags : List Frag) :
    (frags.flatMap fun f => f.atoms.flatMap coords3).length = 3 * (frags.flatMap fun f => f.atoms.map nucPsi4).length := by
  induction frags with
  | nil => rfl
  | cons f fs ih =>
    simp only [List.flatMap_cons, List.length_append, ih, coords3_length, List.length_map]
    omega

theorem psi4_has_atoms (m : MolRec) (h : RecOk m) : (projectPsi4 m).elbl ≠ [] := by
  obtain ⟨_, _, hne, hfr⟩ := h
  cases hf : m.frags with
  | nil => exact absurd hf hne
  | cons f fs =>
    have hfa := (hfr f (by simp [hf])).2.2.1
    cases ha : f.atoms with
    | nil => exact absurd ha hfa
    | cons a as => simp [projectPsi4, hf, ha]

/-- **(a) psi4, through validation, with `hlab` and `hcm` as hypotheses.**  Let `r` be a validated record (`hfix`: a fixed point of `from_arrays`,
the conclusion of `from_arrays_idempotent` / `…_c06_plain` / `…_second_pass_c06`), `m` the text-level record the psi4 writer
prints for it (`RecOk`: grammar-conformant symbols and labels, printed numbers), such that the TEXT CARRIES `r`: the printed
integers convert to the record's charges / multiplicities (`hfc hfm hc hmu`), the fragment boundaries are the record's
separators (`hseps`), the printed coordinates convert to `g` (`hg`, the `float()` parameter) which passes the 0.1 closeness
screen IN THE TEXT'S UNIT (`hscreen` — not implied: known finding C07-tooclose-in-text-units).  Then reading the written text
returns `r` with the text's unit and the printed coordinates; name, comment, connectivity, `input_units_to_au` and
`fix_symmetry` are not carried by the psi4 writer.
`hlab`: each written token `E+label` / `Gh(E+label)` ALONE is answered by `reconcile_nucleus` with the record's atom; it holds for
default-isotope atoms with conforming labels (Props/C07Label.lean: `hlab_of_carried`) and fails for an isotope-labelled atom (mass ≠
default), which the writers do not carry at all (to_string prints no mass) - by design of the format.  `hcm` is proved for the two
shapes the psi4 writer prints in `read_write_validated_psi4_multi_partial` / `_single_partial`; the theorems without `hlab` and
`hcm` are `read_write_validated_psi4_multi` / `_single` in Props/C07Full.lean. -/
theorem read_write_validated_psi4_partial (env : Env) (rd : Rat → Rat) (i₀ : Inp) (r : Molrec)
    (hfix : fromArrays env (asInput i₀ r) = .ok r)
    (m : MolRec) (hok : RecOk m)
    (g : List Rat) (hg : optMapM (floatOf rd) (projectPsi4 m).geom = some g)
    (hscreen : validateGeometry dfltTooclose g = .ok g)
    (hlab : mapE (env.recon textSettings) ((projectPsi4 m).elbl.map labelClue) = .ok (recNucs r))
    (hseps : (projectPsi4 m).seps.map (fun (k : Nat) => (k : Int)) = r.seps)
    (hfc : optMapM (optOpt (chargeOf rd)) (projectPsi4 m).fragChg = some (r.fc.map some))
    (hfm : optMapM (optOpt multOf) (projectPsi4 m).fragMult = some (r.fm.map some))
    (c mu : Option Int) (hc : optOpt (chargeOf rd) (projectPsi4 m).molChg = some c)
    (hmu : optOpt multOf (projectPsi4 m).molMult = some mu)
    (hcm : chgmultStage r.elez r.real ⟨r.seps, r.fc.map some, r.fm.map some⟩ c mu false = .ok ⟨r.c, r.fc, r.m, r.fm⟩) :
    readMol env rd .psi4 (render (writePsi4 m)) =
      .mol { r with units := unitsOf (some m.bohr), iutau := none, name := none, comment := none, conn := none, geom := g,
                    fixCom := m.fixCom, fixOrient := m.fixOrient, fixSymm := none } := by
  rw [read_text_psi4 env rd m hok]
  obtain ⟨hfr0, _, hlen0⟩ := stages_of_fix hfix
  obtain ⟨hl, hgne, hpg⟩ := text_counts hg (psi4_counts m.frags) (psi4_has_atoms m hok)
  have hnl : (recNucs r).length = (projectPsi4 m).elbl.length := by
    rw [mapE_ok_length hlab, List.length_map]
  have hdiv : g.length / 3 = r.geom.length / 3 := by omega
  have hti : toInp rd (projectPsi4 m) = some (textInp (projectPsi4 m) g c mu (r.fc.map some) (r.fm.map some)) := by
    unfold toInp; rw [hg, hc, hmu, hfc, hfm]
  have hpsi : (projectPsi4 m).isPsi4 = true := rfl
  exact validate_of_fromArrays env rd _ _ _ hpg hti
    (fromArrays_textInp env i₀ r hfix (projectPsi4 m) g c mu (r.fc.map some) (r.fm.map some) rfl hgne hscreen hl hlab
      ⟨r.seps, r.fc.map some, r.fm.map some⟩ (by simp only [textInp, hpsi, if_true, hseps, hdiv]; exact hfr0) rfl hcm)

/-! ### the charge/multiplicity stage on what the psi4 writer prints -/

theorem highSpin_single (mu : Int) : ChgMult.highSpin [mu] = mu := by
  simp [ChgMult.highSpin, ChgMult.isum]; omega

open ChgMult in
/-- **C05 on a single-fragment psi4 text.**  The psi4 writer prints ONE `charge multiplicity` line for a single-fragment
molecule; the reader takes it as the fragment's, leaving the totals unspecified.  `validate_and_fill_chgmult` then returns
what it returns when the totals are given as well (`vfc_full_totals_absent`, Props/C05.lean: `c` is re-derived as the sum of `[c]`,
and `m` is the high-spin value of `[m]`, so rule R8 is `m = m`). -/
theorem vfc_single_totals_absent (f : List Int) (c mu : Int) (o : Out)
    (h : vfc { frags := [f], c := some c, fc := [some c], m := some mu, fm := [some mu], zgf := false } = .ok o) :
    vfc { frags := [f], c := none, fc := [some c], m := none, fm := [some mu], zgf := false } = .ok o :=
  vfc_full_totals_absent [f] ⟨c, [c], mu, [mu]⟩ o (highSpin_single mu).symm h

/-- a validated single-fragment record whose fragment holds the molecular values: any specification that
`validate_and_fill_chgmult` completes like the full one passes the charge/multiplicity stage with the record's values -/
theorem chgmultStage_single {env : Env} {i₀ : Inp} {r : Molrec} (hfix : fromArrays env (asInput i₀ r) = .ok r)
    (hone : r.seps = []) (hfc1 : r.fc = [r.c]) (hfm1 : r.fm = [r.m]) (c mu : Option Int) (fc fm : List (Option Int))
    (hv : ∀ f o, ChgMult.vfc { frags := [f], c := some r.c, fc := [some r.c], m := some r.m, fm := [some r.m], zgf := false } = .ok o →
      ChgMult.vfc { frags := [f], c := c, fc := fc, m := mu, fm := fm, zgf := false } = .ok o) :
    chgmultStage r.elez r.real ⟨[], fc, fm⟩ c mu false = .ok ⟨r.c, r.fc, r.m, r.fm⟩ := by
  have hfull := chgmultStage_ok (stages_of_fix hfix).2.1
  rw [hone, hfc1, hfm1] at hfull
  simp only [List.map_cons, List.map_nil] at hfull
  obtain ⟨f, hf⟩ : ∃ f, npSplit (zeff r.elez r.real) [] = [f] :=
    ⟨pySlice (zeff r.elez r.real) 0 ((zeff r.elez r.real).length : Int), by simp [npSplit, splitAux]⟩
  rw [hf] at hfull
  unfold chgmultStage
  simp only [hf, hv f _ hfull, hfc1, hfm1]

/-- **(a) psi4, several fragments**: no `hcm` (the text states totals and every fragment's values, exactly the specification the
fixed point was validated with); `hlab` stays a hypothesis (see `read_write_validated_psi4_partial`). -/
theorem read_write_validated_psi4_multi_partial (env : Env) (rd : Rat → Rat) (i₀ : Inp) (r : Molrec)
    (hfix : fromArrays env (asInput i₀ r) = .ok r)
    (m : MolRec) (hok : RecOk m)
    (g : List Rat) (hg : optMapM (floatOf rd) (projectPsi4 m).geom = some g)
    (hscreen : validateGeometry dfltTooclose g = .ok g)
    (hlab : mapE (env.recon textSettings) ((projectPsi4 m).elbl.map labelClue) = .ok (recNucs r))
    (hseps : (projectPsi4 m).seps.map (fun (k : Nat) => (k : Int)) = r.seps)
    (hfc : optMapM (optOpt (chargeOf rd)) (projectPsi4 m).fragChg = some (r.fc.map some))
    (hfm : optMapM (optOpt multOf) (projectPsi4 m).fragMult = some (r.fm.map some))
    (hc : optOpt (chargeOf rd) (projectPsi4 m).molChg = some (some r.c))
    (hmu : optOpt multOf (projectPsi4 m).molMult = some (some r.m)) :
    readMol env rd .psi4 (render (writePsi4 m)) =
      .mol { r with units := unitsOf (some m.bohr), iutau := none, name := none, comment := none, conn := none, geom := g,
                    fixCom := m.fixCom, fixOrient := m.fixOrient, fixSymm := none } :=
  read_write_validated_psi4_partial env rd i₀ r hfix m hok g hg hscreen hlab hseps hfc hfm (some r.c) (some r.m) hc hmu
    (stages_of_fix hfix).2.1

/-- **(a) psi4, one fragment**: no `hcm` (by `vfc_single_totals_absent`); the record's single fragment carries the
molecule's charge and multiplicity (`hfc1 hfm1`: true of every single-fragment record the writers are given, since
`to_string` prints the molecular values).  `hlab` stays a hypothesis. -/
theorem read_write_validated_psi4_single_partial (env : Env) (rd : Rat → Rat) (i₀ : Inp) (r : Molrec)
    (hfix : fromArrays env (asInput i₀ r) = .ok r)
    (hone : r.seps = []) (hfc1 : r.fc = [r.c]) (hfm1 : r.fm = [r.m])
    (m : MolRec) (hok : RecOk m)
    (g : List Rat) (hg : optMapM (floatOf rd) (projectPsi4 m).geom = some g)
    (hscreen : validateGeometry dfltTooclose g = .ok g)
    (hlab : mapE (env.recon textSettings) ((projectPsi4 m).elbl.map labelClue) = .ok (recNucs r))
    (hseps : (projectPsi4 m).seps.map (fun (k : Nat) => (k : Int)) = r.seps)
    (hfc : optMapM (optOpt (chargeOf rd)) (projectPsi4 m).fragChg = some (r.fc.map some))
    (hfm : optMapM (optOpt multOf) (projectPsi4 m).fragMult = some (r.fm.map some))
    (hc : optOpt (chargeOf rd) (projectPsi4 m).molChg = some none)
    (hmu : optOpt multOf (projectPsi4 m).molMult = some none) :
    readMol env rd .psi4 (render (writePsi4 m)) =
      .mol { r with units := unitsOf (some m.bohr), iutau := none, name := none, comment := none, conn := none, geom := g,
                    fixCom := m.fixCom, fixOrient := m.fixOrient, fixSymm := none } := by
  apply read_write_validated_psi4_partial env rd i₀ r hfix m hok g hg hscreen hlab hseps hfc hfm none none hc hmu
  have := chgmultStage_single hfix hone hfc1 hfm1 none none [some r.c] [some r.m]
    (fun f o => vfc_single_totals_absent f r.c r.m o)
  rw [hone]
  simpa [hfc1, hfm1] using this

/-! ### xyz+ -/

theorem xyz_counts (as : List Atom) : (as.flatMap coords3).length = 3 * (as.map nucXyz).length := by
  rw [coords3_length, List.length_map]

/-- **(a) xyz+, through validation, with `hlab` and `hcm` as hypotheses.**  The xyz+ text carries symbols, ghost markers, unit, coordinates and the
TOTAL charge and multiplicity only: no user labels, no fragments, no frame flags.  For a validated single-fragment record `r`
without user labels (`hlab` then speaks about `E` / `@E` tokens) whose text carries it (`hc hmu hg`), with the printed
coordinates passing the closeness screen in the text's unit, reading the written text returns `r` with the text's unit and
the printed coordinates and both frame flags off.
`hcm` says that `validate_and_fill_chgmult` with the totals given and the single fragment's values absent returns `fc = [c]`,
`fm = [m]` (C05, one fragment: candidates S3/S6; `vfc_single_fragment_absent` in Props/C07Full.lean); the theorem without `hlab` and
`hcm` is `read_write_validated_xyzplus` (Props/C07Full.lean). -/
theorem read_write_validated_xyzplus_partial (env : Env) (rd : Rat → Rat) (i₀ : Inp) (r : Molrec)
    (hfix : fromArrays env (asInput i₀ r) = .ok r)
    (natS : Str) (m : MolRec) (hok : XyzOk natS m) (hname : Clean m.name) (hne : allAtoms m ≠ [])
    (g : List Rat) (hg : optMapM (floatOf rd) (projectXyzPlus m).geom = some g)
    (hscreen : validateGeometry dfltTooclose g = .ok g)
    (hlab : mapE (env.recon textSettings) ((projectXyzPlus m).elbl.map labelClue) = .ok (recNucs r))
    (hseps : r.seps = [])
    (hc : chargeOf rd m.chg.parts = some r.c) (hmu : multOf m.mult = some r.m)
    (hcm : chgmultStage r.elez r.real ⟨[], [none], [none]⟩ (some r.c) (some r.m) false = .ok ⟨r.c, r.fc, r.m, r.fm⟩) :
    readMol env rd .xyzPlus (render (writeXyz natS m)) =
      .mol { r with units := unitsOf (some m.bohr), iutau := none, name := none, comment := none, conn := none, geom := g,
                    fixCom := false, fixOrient := false, fixSymm := none } := by
  rw [read_text_xyzplus env rd natS m hok hname]
  obtain ⟨hl, hgne, hpg⟩ := text_counts hg (xyz_counts (allAtoms m)) (fun h0 => hne (List.map_eq_nil_iff.1 h0))
  have hti : toInp rd (projectXyzPlus m) = some (textInp (projectXyzPlus m) g (some r.c) (some r.m) [] []) := by
    have e1 : optOpt (chargeOf rd) (projectXyzPlus m).molChg = some (some r.c) := by simp [projectXyzPlus, optOpt, hc]
    have e2 : optOpt multOf (projectXyzPlus m).molMult = some (some r.m) := by simp [projectXyzPlus, optOpt, hmu]
    unfold toInp
    rw [hg, e1, e2]
    rfl
  exact validate_of_fromArrays env rd _ _ _ hpg hti
    (fromArrays_textInp env i₀ r hfix (projectXyzPlus m) g (some r.c) (some r.m) [] [] rfl hgne hscreen hl hlab
      ⟨[], [none], [none]⟩ rfl hseps.symm hcm)

/-! ## non-vacuity (tests): a two-fragment molecule with a labelled ghost atom, in bohr, `no_com` -/

section NonVacuity
open QcelVerif.Nucleus

def z8 : Coord := ⟨false, "0".toList, "00000000".toList⟩
def exHe : Atom := { sym := "He".toList, real := true, lbl := [], x := z8, y := z8, z := z8 }
def exGh : Atom :=
  { sym := "He".toList, real := false, lbl := "_a".toList, x := z8, y := z8, z := ⟨false, "2".toList, "50000000".toList⟩ }
def exM : MolRec :=
  { chg := ⟨false, "0".toList⟩, mult := "1".toList,
    frags := [⟨⟨false, "0".toList⟩, "1".toList, [exHe]⟩, ⟨⟨false, "0".toList⟩, "1".toList, [exGh]⟩],
    bohr := true, fixCom := true, fixOrient := false, name := [] }
/-- the same two atoms as ONE fragment -/
def exM1 : MolRec := { exM with frags := [⟨⟨false, "0".toList⟩, "1".toList, [exHe, exGh]⟩] }

def heMass : Rat := 4506530630952951 / 1125899906842624
def exR : Molrec :=
  { units := sBohr, iutau := none, name := none, comment := none, conn := none, geom := [0, 0, 0, 0, 0, 5 / 2],
    elea := [4, 4], elez := [2, 2], elem := ["He", "He"], mass := [heMass, heMass], real := [true, false], elbl := ["", "_a"],
    seps := [1], c := 0, fc := [0, 0], m := 1, fm := [1, 1], fixCom := true, fixOrient := false, fixSymm := none }
def exR1 : Molrec := { exR with seps := [], fc := [0], fm := [1] }

theorem exM_ok : RecOk exM := by decide

theorem exM1_ok : RecOk exM1 := by decide


/-- test [decide +kernel]: `exR` / `exR1` are fixed points of the whole `from_arrays` pipeline (C06 model, shipped table, `rd64`) -/
theorem exR_fix : fromArrays (envC06 rd64 1) (asInput hdoInp exR) = .ok exR := by decide +kernel
theorem exR1_fix : fromArrays (envC06 rd64 1) (asInput hdoInp exR1) = .ok exR1 := by decide +kernel

/-- test [decide +kernel]: each written token ALONE (`He`, `Gh(He_a)`) is answered with the record's atom (`hlab`) -/
theorem exR_lab : mapE ((envC06 rd64 1).recon textSettings) ((projectPsi4 exM).elbl.map labelClue) = .ok (recNucs exR) := by
  decide +kernel

/-- test: every hypothesis of `read_write_validated_psi4_multi_partial` is met by a two-fragment molecule with a labelled
ghost atom; its conclusion by the theorem, not by evaluation -/
example : readMol (envC06 rd64 1) rd64 .psi4 (render (writePsi4 exM)) =
    .mol { exR with units := unitsOf (some true), iutau := none, name := none, comment := none, conn := none,
                    geom := [0, 0, 0, 0, 0, 5 / 2], fixCom := true, fixOrient := false, fixSymm := none } :=
  read_write_validated_psi4_multi_partial (envC06 rd64 1) rd64 hdoInp exR exR_fix exM exM_ok [0, 0, 0, 0, 0, 5 / 2]
    (by decide +kernel) (by decide +kernel) exR_lab (by decide +kernel) (by decide +kernel) (by decide +kernel)
    (by decide +kernel) (by decide +kernel)

/-- test: … and of `read_write_validated_psi4_single_partial` by the same atoms as one fragment -/
example : readMol (envC06 rd64 1) rd64 .psi4 (render (writePsi4 exM1)) =
    .mol { exR1 with units := unitsOf (some true), iutau := none, name := none, comment := none, conn := none,
                     geom := [0, 0, 0, 0, 0, 5 / 2], fixCom := true, fixOrient := false, fixSymm := none } :=
  read_write_validated_psi4_single_partial (envC06 rd64 1) rd64 hdoInp exR1 exR1_fix rfl rfl rfl exM1 exM1_ok
    [0, 0, 0, 0, 0, 5 / 2] (by decide +kernel) (by decide +kernel) exR_lab (by decide +kernel) (by decide +kernel)
    (by decide +kernel) (by decide +kernel) (by decide +kernel)

/-- test [decide +kernel]: the composed reader on concrete texts - a refusal of each documented class and the empty record -/
example : readMol (envC06 rd64 1) rd64 .psi4 "He 0 0 0\nHe 0 0 0.05".toList = .error .validation := by decide +kernel
example : readMol (envC06 rd64 1) rd64 .psi4 "Xx 0 0 0".toList = .error .notAnElement := by decide +kernel
example : readMol (envC06 rd64 1) rd64 .psi4 "He 0 0".toList = .error .moleculeFormat := by decide +kernel
example : readMol (envC06 rd64 1) rd64 .psi4 "units bohr".toList = .noAtoms := by decide +kernel
example : readMol (envC06 rd64 1) rd64 .psi4 "0.5 2\nHe 0 0 0".toList = .outOfScope := by decide +kernel

end NonVacuity

end QcelVerif.TextToMol
