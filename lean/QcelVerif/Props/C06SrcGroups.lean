import QcelVerif.Props.C06Src
import QcelVerif.Lemmas.NucleusMatch
/-!
# C06 — every match of the NUCLEUS recogniser has well-formed captures (`GroupsOk`)

A participating group is non-empty (so Python's truthiness test `if matchobj.group("A"):` is the participation test) and the
mass group is `digits.digits` (so `float(matchobj.group("mass"))` never raises).  Structural, for EVERY byte string.
-/
namespace QcelVerif.Nucleus.Ast
open QcelVerif QcelVerif.PStr QcelVerif.PT QcelVerif.Nucleus

theorem mem_allMatches_groupsOk {s : Bytes} {g : Groups} (h : g ∈ allMatches s) : GroupsOk g :=
  have H := mem_allMatches_classes h
  ⟨fun t ht => (H.1 t ht).1, fun t ht => (H.2.1 t ht).1, fun t ht => (H.2.2.1 t ht).1,
   fun t ht => (H.2.2.2.1 t ht).1, H.2.2.2.2⟩

/-- **every match has well-formed captures** -/
theorem matchNucleus_groupsOk (s : Bytes) (g : Groups) (h : matchNucleus s = some g) : GroupsOk g := by
  unfold matchNucleus at h
  exact mem_allMatches_groupsOk (List.mem_of_head? h)

end QcelVerif.Nucleus.Ast
