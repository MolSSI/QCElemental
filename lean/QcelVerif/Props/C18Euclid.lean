import QcelVerif.Props.C18Real
import Mathlib.Analysis.InnerProductSpace.PiL2
import Mathlib.Geometry.Euclidean.Angle.Unoriented.Affine
/-!
# C18 — the measured distance and angle are Mathlib's Euclidean distance and angle

"Agree with their textbook definitions", taken literally: the model's points are embedded in
Mathlib's `EuclideanSpace ℝ (Fin 3)` and the real-valued measurements of `Props/C18Real.lean`
(defined as the code computes them) are shown to equal `dist` and `EuclideanGeometry.angle` (`∠`).
Mathlib has no three-dimensional dihedral angle; for the dihedral the textbook statement is
`dihedralR_textbook` / `dihedralR_cos_sin` / `dihedralR_unique` in `Props/C18Real.lean`.
-/
namespace QcelVerif.Measure
open V3

/-- the point of `EuclideanSpace ℝ (Fin 3)` with the same coordinates -/
noncomputable def toE (v : V3 ℝ) : EuclideanSpace ℝ (Fin 3) := !₂[v.x, v.y, v.z]

theorem toE_sub (a b : V3 ℝ) : toE (a - b) = toE a - toE b := by
  ext i
  fin_cases i <;> simp [toE]

theorem inner_toE (a b : V3 ℝ) : inner ℝ (toE a) (toE b) = dot a b := by
  simp only [toE, PiLp.inner_apply, Fin.sum_univ_three]
  simp [V3.dot]
  ring

theorem norm_toE (a : V3 ℝ) : ‖toE a‖ = normR a := by
  rw [norm_eq_sqrt_real_inner, inner_toE]
  rfl

/-- the embedding is injective: distinct model points are distinct Euclidean points -/
theorem toE_injective : Function.Injective toE := by
  intro a b h
  have h0 := congrFun (congrArg WithLp.ofLp h) 0
  have h1 := congrFun (congrArg WithLp.ofLp h) 1
  have h2 := congrFun (congrArg WithLp.ofLp h) 2
  simp [toE] at h0 h1 h2
  exact V3.ext h0 h1 h2

/-- the measured distance is the Euclidean distance of the two points -/
theorem distR_eq_euclidean_dist (p q : V3 ℝ) : distR p q = dist (toE p) (toE q) := by
  rw [dist_eq_norm, ← toE_sub, norm_toE]
  rfl

/-- for distinct points the measured angle is Mathlib's unoriented angle `∠ p1 p2 p3` at the
vertex `p2` -/
theorem angleR_eq_euclidean_angle (p1 p2 p3 : V3 ℝ) (h12 : p1 ≠ p2) (h32 : p3 ≠ p2) :
    angleR p1 p2 p3 = EuclideanGeometry.angle (toE p1) (toE p2) (toE p3) := by
  rw [(angleR_textbook p1 p2 p3 h12 h32).1]
  unfold EuclideanGeometry.angle InnerProductGeometry.angle
  rw [vsub_eq_sub, vsub_eq_sub, ← toE_sub, ← toE_sub, inner_toE, norm_toE, norm_toE]

/-- TEST (non-vacuity of the hypotheses is shown in `Props/C18Real.lean`): the right angle -/
example : EuclideanGeometry.angle (toE ⟨1, 0, 0⟩) (toE ⟨0, 0, 0⟩) (toE ⟨0, 1, 0⟩) = Real.pi / 2 := by
  rw [← angleR_eq_euclidean_angle _ _ _ (fun e => by simpa using congrArg V3.x e)
    (fun e => by simpa using congrArg V3.y e)]
  rw [(angleR_textbook _ _ _ (fun e => by simpa using congrArg V3.x e)
    (fun e => by simpa using congrArg V3.y e)).1]
  have : dot ((⟨1, 0, 0⟩ : V3 ℝ) - ⟨0, 0, 0⟩) (⟨0, 1, 0⟩ - ⟨0, 0, 0⟩) = 0 := by
    v3_unfold; norm_num
  rw [this, zero_div, Real.arccos_zero]

end QcelVerif.Measure
