import QcelVerif.Model.Compare
/-!
# C19 — property theorems about the comparison-helper model (`Model/Compare.lean`)

Scope hypothesis of the recursion theorems: the recursion meets no pair that `Model/Compare.lean` answers with
`unmodelled` (list vs str/dict/ndarray, exact scalar vs ndarray, numpy scalar vs list, ragged/mixed array data).
Those pairs are modelled by `Model/CompareWide.lean`, with their theorems in `Props/C19Wide.lean`.
-/
namespace QcelVerif.Compare

/-! ## element rule -/

/-- Finite real data: the model of `np.isclose` is the documented inequality (or plain equality). -/
theorem closeR_fin_iff (atol rtol : Rat) (en : Bool) (c e : Rat) :
    closeR atol rtol en (.fin c) (.fin e) = true ↔ (absQ (c - e) ≤ atol + rtol * absQ e ∨ c = e) := by
  simp [closeR]

/-- NaNs are equal only on request (real data): without `equal_nan` a NaN on either side fails. -/
theorem nan_only_on_request (atol rtol : Rat) (x : XR) :
    closeR atol rtol false .nan x = false ∧ closeR atol rtol false x .nan = false ∧
    (closeR atol rtol true .nan .nan = true) := by
  refine ⟨?_, ?_, ?_⟩ <;> cases x <;> simp [closeR]

/-- An overall sign flip is a *retry*: it can only turn a failure into a pass, and only when requested. -/
theorem phase_only_on_request {α : Type} (close : α → α → Bool) (neg : α → α) (cs es : List α) :
    allClosePhase close neg false cs es = all2 close cs es := by
  simp [allClosePhase]

/-! ## `all2` is "same length and the rule holds at every index" -/

theorem all2_iff {α : Type} (f : α → α → Bool) (cs es : List α) :
    all2 f cs es = true ↔
      cs.length = es.length ∧ ∀ i (h₁ : i < cs.length) (h₂ : i < es.length), f cs[i] es[i] = true := by
  induction cs generalizing es with
  | nil => cases es <;> simp [all2]
  | cons c cs ih =>
    cases es with
    | nil => simp [all2]
    | cons e es =>
      simp only [all2, Bool.and_eq_true, ih, List.length_cons, Nat.add_right_cancel_iff]
      constructor
      · rintro ⟨h0, hl, hi⟩
        refine ⟨hl, fun i h₁ h₂ => ?_⟩
        cases i with
        | zero => exact h0
        | succ j => exact hi j (Nat.lt_of_succ_lt_succ h₁) (Nat.lt_of_succ_lt_succ h₂)
      · rintro ⟨hl, hi⟩
        exact ⟨hi 0 (Nat.zero_lt_succ _) (Nat.zero_lt_succ _), hl,
          fun i h₁ h₂ => hi (i + 1) (Nat.succ_lt_succ h₁) (Nat.succ_lt_succ h₂)⟩

/-- non-vacuity of `all2_iff`: a two-element pass and a one-element failure (tests) -/
example : all2 (closeR (1/1000) 0 false) [.fin 1, .fin 2] [.fin 1, .fin (2001/1000)] = true := by decide +kernel
example : all2 (closeR (1/1000) 0 false) [.fin 1, .fin 2] [.fin 1, .fin (2002/1000)] = false := by decide +kernel

/-! ## `compare_values` -/

/-- what "the inputs cast to arrays of one dtype" means in the model -/
def CastsTo {α : Type} (cast : Sc → Option α) (t : Tree) (shape : List Nat) (xs : List α) : Prop :=
  ∃ f, flatten t = .ok f ∧ f.kind.isSome ∧ f.shape = shape ∧ f.data.mapM cast = some xs

/-- is the input complex data (`np.iscomplexobj`) -/
def IsCx (t : Tree) : Prop := ∃ f, flatten t = .ok f ∧ f.kind = some .cpx

/-- both inputs are array-likes of one dtype each: the only pairs the two helpers compare element by element -/
def BothFlat (e c : Tree) : Prop :=
  ∃ fe fc ke kc, flatten e = .ok fe ∧ flatten c = .ok fc ∧ fe.kind = some ke ∧ fc.kind = some kc

/-- what `compare_values` does once both inputs are array-likes of known dtype and `cast` is chosen: cast both,
compare the shapes, then all-close with the sign retry -/
def castCompare {α : Type} (cast : Sc → Option α) (close : α → α → Bool) (neg : α → α) (phase : Bool) (fe fc : Flat) : Res :=
  match fe.data.mapM cast, fc.data.mapM cast with
  | some es, some cs =>
    if fe.shape ≠ fc.shape then .verdict false else .verdict (allClosePhase close neg phase cs es)
  | _, _ => .verdict false

theorem compareValues_flat {o : VOpts} {e c : Tree} {fe fc : Flat} {ke kc : Kind}
    (hp : (o.passnone && isNone e && isNone c) = false)
    (he : flatten e = .ok fe) (hc : flatten c = .ok fc) (hke : fe.kind = some ke) (hkc : fc.kind = some kc) :
    compareValues o e c =
      if ke = .cpx ∨ kc = .cpx then castCompare castC (closeC o.atol o.rtol o.equalNan) Cx.neg o.equalPhase fe fc
      else castCompare castF (closeR o.atol o.rtol o.equalNan) XR.neg o.equalPhase fe fc := by
  simp only [compareValues, hp, he, hc, hke, hkc, Bool.false_eq_true, if_false, castCompare]
  split
  · cases fe.data.mapM castC <;> cases fc.data.mapM castC <;> rfl
  · cases fe.data.mapM castF <;> cases fc.data.mapM castF <;> rfl

theorem isCx_iff {t : Tree} {f : Flat} {k : Kind} (ht : flatten t = .ok f) (hk : f.kind = some k) : IsCx t ↔ k = .cpx := by
  simp [IsCx, ht, hk]

theorem castsTo_iff {α : Type} (cast : Sc → Option α) {t : Tree} {f : Flat} {k : Kind} (ht : flatten t = .ok f)
    (hk : f.kind = some k) (sh : List Nat) (xs : List α) :
    CastsTo cast t sh xs ↔ f.shape = sh ∧ f.data.mapM cast = some xs := by
  simp [CastsTo, ht, hk]

theorem castCompare_true_iff {α : Type} (cast : Sc → Option α) {close : α → α → Bool} {neg : α → α} {phase : Bool}
    {e c : Tree} {fe fc : Flat} {ke kc : Kind}
    (he : flatten e = .ok fe) (hc : flatten c = .ok fc) (hke : fe.kind = some ke) (hkc : fc.kind = some kc) :
    castCompare cast close neg phase fe fc = .verdict true ↔
      ∃ sh es cs, CastsTo cast e sh es ∧ CastsTo cast c sh cs ∧
        (all2 close cs es = true ∨ (phase = true ∧ all2 close (cs.map neg) es = true)) := by
  simp only [castsTo_iff cast he hke, castsTo_iff cast hc hkc, castCompare]
  cases fe.data.mapM cast with
  | none => simp
  | some es =>
    cases fc.data.mapM cast with
    | none => simp
    | some cs =>
      by_cases hsh : fe.shape = fc.shape
      · simp [hsh, allClosePhase, and_assoc]
      · simp [hsh, and_assoc]
        exact fun h => absurd h.symm hsh

/-- only array-likes of one dtype get a `True` past the `passnone` test -/
theorem flat_of_compareValues_true {o : VOpts} {e c : Tree} (hp : (o.passnone && isNone e && isNone c) = false)
    (h : compareValues o e c = .verdict true) :
    BothFlat e c := by
  simp only [compareValues, hp, Bool.false_eq_true, if_false] at h
  -- the branches before the last answer `.unmodelled` or `False`, at both matches
  split at h
  iterate 4 cases h
  rename_i fe fc he hc
  split at h
  iterate 2 cases h
  rename_i ke kc hke hkc
  exact ⟨fe, fc, ke, kc, he, hc, hke, hkc⟩

theorem bothFlat_of_castsTo {α : Type} {cast : Sc → Option α} {e c : Tree} {sh sh' : List Nat} {es cs : List α}
    (h1 : CastsTo cast e sh es) (h2 : CastsTo cast c sh' cs) : BothFlat e c := by
  obtain ⟨fe, he, hke, _⟩ := h1
  obtain ⟨fc, hc, hkc, _⟩ := h2
  exact ⟨fe, fc, _, _, he, hc, Option.eq_some_of_isSome hke, Option.eq_some_of_isSome hkc⟩

/-- **The numeric comparison returns True exactly when** `passnone` applies, or both inputs cast to the
dtype chosen from the pair (complex as soon as one of them is complex), have the same shape, and every element is close — or, on request only,
every element of `-computed` is close.  All shapes, all sizes, real and complex. -/
theorem compareValues_true_iff (o : VOpts) (e c : Tree) :
    compareValues o e c = .verdict true ↔
      (o.passnone = true ∧ isNone e = true ∧ isNone c = true) ∨
      ((IsCx e ∨ IsCx c) ∧ ∃ sh es cs, CastsTo castC e sh es ∧ CastsTo castC c sh cs ∧
          (all2 (closeC o.atol o.rtol o.equalNan) cs es = true ∨
           (o.equalPhase = true ∧ all2 (closeC o.atol o.rtol o.equalNan) (cs.map Cx.neg) es = true))) ∨
      (¬ (IsCx e ∨ IsCx c) ∧ ∃ sh es cs, CastsTo castF e sh es ∧ CastsTo castF c sh cs ∧
          (all2 (closeR o.atol o.rtol o.equalNan) cs es = true ∨
           (o.equalPhase = true ∧ all2 (closeR o.atol o.rtol o.equalNan) (cs.map XR.neg) es = true))) := by
  cases hp : (o.passnone && isNone e && isNone c)
  · have hp' : ¬ (o.passnone = true ∧ isNone e = true ∧ isNone c = true) := by
      simpa [Bool.and_eq_true, and_assoc] using hp
    rw [or_iff_right hp']
    -- either side forces array-likes of one dtype; on those, both sides are the cast comparison
    by_cases hflat : BothFlat e c
    · obtain ⟨fe, fc, ke, kc, he, hc, hke, hkc⟩ := hflat
      rw [compareValues_flat hp he hc hke hkc, isCx_iff he hke, isCx_iff hc hkc,
        ← castCompare_true_iff castC he hc hke hkc, ← castCompare_true_iff castF he hc hke hkc]
      by_cases hcx : ke = .cpx ∨ kc = .cpx <;> simp [hcx]
    · refine iff_of_false (fun h => hflat (flat_of_compareValues_true hp h)) ?_
      rintro (⟨_, _, _, _, h1, h2, _⟩ | ⟨_, _, _, _, h1, h2, _⟩) <;> exact hflat (bothFlat_of_castsTo h1 h2)
  · have : compareValues o e c = .verdict true := by simp [compareValues, hp]
    simp only [this, true_iff]
    left
    simpa [Bool.and_eq_true, and_assoc] using hp

/-- `compare_values` returns a verdict on every modelled input: it never raises. -/
theorem compareValues_never_raises (o : VOpts) (e c : Tree) (x : Exc) :
    compareValues o e c ≠ .raised x := by
  unfold compareValues
  repeat' split
  all_goals nofun

/-! ## `compare` (exact) -/

/-- `compare` answers only on array-likes of one dtype each -/
theorem flat_of_compareExact {phase : Bool} {e c : Tree} (h : compareExact phase e c ≠ .unmodelled) :
    BothFlat e c := by
  -- every branch but one answers `.unmodelled`
  unfold compareExact at h
  split at h
  next fe fc he hc =>
    split at h
    next ke kc hke hkc => exact ⟨fe, fc, ke, kc, he, hc, hke, hkc⟩
    all_goals exact absurd rfl h
  all_goals exact absurd rfl h

/-- **The exact comparison returns True exactly when** both inputs are array-like of one dtype, have
the same shape, and every element is equal — or, on request only and only for a dtype that has a
unary minus, every element equals the negated computed element. -/
theorem compareExact_true_iff (phase : Bool) (e c : Tree) :
    compareExact phase e c = .verdict true ↔
      ∃ fe fc kc, flatten e = .ok fe ∧ flatten c = .ok fc ∧ fe.kind.isSome ∧ fc.kind = some kc ∧
        fe.shape = fc.shape ∧
        (all2 scEq fe.data fc.data = true ∨
          (phase = true ∧ kc.negatable = true ∧ all2 scEq fe.data (fc.data.map Sc.negate) = true)) := by
  by_cases hflat : BothFlat e c
  · obtain ⟨fe, fc, ke, kc, he, hc, hke, hkc⟩ := hflat
    by_cases hsh : fe.shape = fc.shape <;> simp [compareExact, he, hc, hke, hkc, hsh, and_assoc]
  · refine iff_of_false (fun h => hflat (flat_of_compareExact (by rw [h]; nofun))) ?_
    rintro ⟨fe, fc, kc, he, hc, hke, hkc, _⟩
    exact hflat ⟨fe, fc, _, kc, he, hc, Option.eq_some_of_isSome hke, hkc⟩

theorem compareExact_never_raises (phase : Bool) (e c : Tree) (x : Exc) :
    compareExact phase e c ≠ .raised x := by
  unfold compareExact
  repeat' split
  all_goals nofun

/-! ## reporting -/

theorem report_passfail (r : Reporting) (b : Bool) : (report r b).passfail = b := by
  unfold report
  split
  · rfl
  · split <;> rfl

/-- **The message / return-handler options do not change the verdict**: whatever `quiet`,
`return_message` and `return_handler` are, the pass/fail value handed back is the verdict computed by
the comparison (which has no access to those options). -/
theorem verdict_independent_of_reporting (r₁ r₂ : Reporting) (b : Bool) :
    (report r₁ b).passfail = b ∧ (report r₁ b).passfail = (report r₂ b).passfail :=
  ⟨report_passfail r₁ b, by rw [report_passfail, report_passfail]⟩

/-! ## the recursion: empty error list ↔ declarative agreement -/

/-- a Python scalar compared with `!=` -/
def ExactOk (s : Sc) (c : Tree) : Prop := ∃ t, c = .sc t ∧ scEq s t = true

/-- a leaf compared by `compare_values` with the recursion's tolerances -/
def NumOk (o : ROpts) (e c : Tree) : Prop :=
  compareValues ⟨o.atol, o.rtol, false, o.phase, false⟩ e c = .verdict true

mutual
/-- **Declarative agreement of two trees** (no names, no error lists): dictionaries have the same key
set and agree at every key, lists have the same length and agree position-wise, every leaf passes
the rule its *expected* type selects. -/
def Agree (o : ROpts) : Tree → Tree → Prop
  | .sc (.str s), c => ExactOk (.str s) c
  | .sc (.int n), c => ExactOk (.int n) c
  | .sc (.bool b), c => ExactOk (.bool b) c
  | .sc (.cpx z), c => ExactOk (.cpx z) c
  | .sc (.npcpx z), c => ExactOk (.npcpx z) c
  | .sc (.flt x), c => NumOk o (.sc (.flt x)) c
  | .sc (.npflt x), c => NumOk o (.sc (.npflt x)) c
  | .sc (.npint n), c => NumOk o (.sc (.npint n)) c
  | .sc .none, c => c = .sc .none
  | .sc (.npbool b), c => ExactOk (.npbool b) c
  | .arr k sh fl, c =>
      if k = .flt then NumOk o (.arr k sh fl) c else compareExact o.phase (.arr k sh fl) c = .verdict true
  | .list es, c => ∃ cs, c = .list cs ∧ AgreeList o es cs
  | .dict ekv, c => ∃ ckv, c = .dict ckv ∧
      (∀ p ∈ ckv, hasKey p.1 ekv = true) ∧ (∀ p ∈ ekv, hasKey p.1 ckv = true) ∧ AgreeDict o ekv ckv
def AgreeList (o : ROpts) : List Tree → List Tree → Prop
  | [], [] => True
  | e :: es, c :: cs => Agree o e c ∧ AgreeList o es cs
  | _, _ => False
def AgreeDict (o : ROpts) : List (String × Tree) → List (String × Tree) → Prop
  | [], _ => True
  | (k, e) :: rest, ckv => (∀ c, lookup k ckv = some c → Agree o e c) ∧ AgreeDict o rest ckv
end

/-! ### which dotted paths mismatch: a declarative description -/

mutual
/-- `ErrAt o name e c p`: comparing `e` (expected) with `c` under the name `name`, the node with dotted
path `p` mismatches — its key set / length differs, or its leaf fails the rule of its expected type. -/
def ErrAt (o : ROpts) (name : String) : Tree → Tree → String → Prop
  | .sc (.str s), c, p => p = name ∧ ¬ ExactOk (.str s) c
  | .sc (.int n), c, p => p = name ∧ ¬ ExactOk (.int n) c
  | .sc (.bool b), c, p => p = name ∧ ¬ ExactOk (.bool b) c
  | .sc (.cpx z), c, p => p = name ∧ ¬ ExactOk (.cpx z) c
  | .sc (.npcpx z), c, p => p = name ∧ ¬ ExactOk (.npcpx z) c
  | .sc (.npbool b), c, p => p = name ∧ ¬ ExactOk (.npbool b) c
  | .sc (.flt x), c, p => p = name ∧ ¬ NumOk o (.sc (.flt x)) c
  | .sc (.npflt x), c, p => p = name ∧ ¬ NumOk o (.sc (.npflt x)) c
  | .sc (.npint n), c, p => p = name ∧ ¬ NumOk o (.sc (.npint n)) c
  | .sc .none, c, p => p = name ∧ c ≠ .sc .none
  | .arr k sh fl, c, p => p = name ∧
      ¬ (if k = .flt then NumOk o (.arr k sh fl) c else compareExact o.phase (.arr k sh fl) c = .verdict true)
  | .list es, c, p =>
      (p = name ∧ ∀ cs, c = .list cs → es.length ≠ cs.length) ∨
      (∃ cs, c = .list cs ∧ es.length = cs.length ∧ ErrAtList o name 0 es cs p)
  | .dict ekv, c, p =>
      (p = name ∧ ∀ ckv, c = .dict ckv →
          ((∃ q ∈ ckv, hasKey q.1 ekv = false) ∨ (∃ q ∈ ekv, hasKey q.1 ckv = false))) ∨
      (∃ ckv, c = .dict ckv ∧ ErrAtDict o name ekv ckv p)
def ErrAtList (o : ROpts) (name : String) : Nat → List Tree → List Tree → String → Prop
  | i, e :: es, c :: cs, p => ErrAt o (name ++ "." ++ toString i) e c p ∨ ErrAtList o name (i + 1) es cs p
  | _, _, _, _ => False
def ErrAtDict (o : ROpts) (name : String) : List (String × Tree) → List (String × Tree) → String → Prop
  | [], _, _ => False
  | (k, e) :: rest, ckv, p =>
      (∃ c, lookup k ckv = some c ∧ ErrAt o (name ++ "." ++ k) e c p) ∨ ErrAtDict o name rest ckv p
end

/-- names of the error entries -/
def errNames (items : List Item) : List String := (errsOf items).map Err.name

theorem errsOf_append : ∀ a b : List Item, errsOf (a ++ b) = errsOf a ++ errsOf b
  | [], _ => rfl
  | .err e :: t, b => by simp [errsOf, errsOf_append t b]
  | .unmodelled :: t, b => by simp [errsOf, errsOf_append t b]

theorem errNames_append (a b : List Item) : errNames (a ++ b) = errNames a ++ errNames b := by
  simp [errNames, errsOf_append]

/-! ### nodes that do not recurse -/

/-- the entries of a node that does not recurse: none when `ok` holds, else one entry under the node's own name
(or the `unmodelled` mark) -/
inductive LeafItems (name : String) (ok : Prop) : List Item → Prop
  | pass : ok → LeafItems name ok []
  | fail (tag : Nat) : ¬ ok → LeafItems name ok [.err ⟨name, tag⟩]
  | unmodelled : ¬ ok → LeafItems name ok [.unmodelled]

theorem LeafItems.nil_iff {name : String} {ok : Prop} {items : List Item} (h : LeafItems name ok items) :
    items = [] ↔ ok := by
  cases h <;> simp [*]

theorem LeafItems.mem_names {name : String} {ok : Prop} {items : List Item} (h : LeafItems name ok items)
    (hu : Item.unmodelled ∉ items) (p : String) : p ∈ errNames items ↔ (p = name ∧ ¬ ok) := by
  cases h <;> simp_all [errNames, errsOf]

theorem verdictOf_leaf (name : String) (tag : Nat) : ∀ r, LeafItems name (r = .verdict true) (verdictOf name tag r)
  | .verdict true => .pass rfl
  | .verdict false => .fail tag nofun
  | .raised _ => .unmodelled nofun
  | .unmodelled => .unmodelled nofun

theorem exactLeaf_leaf (name : String) (s : Sc) : ∀ c, LeafItems name (ExactOk s c) (exactLeaf name s c)
  | .sc t => by
    simp only [exactLeaf, ExactOk, Tree.sc.injEq, exists_eq_left']
    split
    · exact .pass ‹_›
    · exact .fail 2 ‹_›
  | .list l => by
    simp only [exactLeaf]
    split
    · exact .unmodelled (by simp [ExactOk])
    · exact .fail 2 (by simp [ExactOk])
  | .dict _ => .fail 2 (by simp [ExactOk])
  | .arr _ _ _ => .unmodelled (by simp [ExactOk])

theorem isNone_iff (c : Tree) : isNone c = true ↔ c = .sc .none := by
  cases c with
  | sc t => cases t <;> simp [isNone]
  | _ => simp [isNone]

theorem recErrs_sc (o : ROpts) (name : String) :
    ∀ s c, LeafItems name (Agree o (.sc s) c) (recErrs o name (.sc s) c)
  | .str _, c | .int _, c | .bool _, c | .cpx _, c | .npcpx _, c | .npbool _, c => by
    simp only [recErrs, Agree]; exact exactLeaf_leaf ..
  | .flt _, c | .npflt _, c | .npint _, c => by
    simp only [recErrs, Agree, NumOk]; exact verdictOf_leaf ..
  | .none, c => by
    simp only [recErrs, Agree, ← isNone_iff]
    split
    · exact .pass ‹_›
    · exact .fail 5 ‹_›

theorem recErrs_arr (o : ROpts) (name : String) (k : Kind) (sh : List Nat) (fl : List Sc) (c : Tree) :
    LeafItems name (Agree o (.arr k sh fl) c) (recErrs o name (.arr k sh fl) c) := by
  simp only [recErrs, Agree, NumOk]
  split <;> exact verdictOf_leaf ..

/-- a non-list where a list is expected never agrees: one entry (no `len()`), or outside the model -/
theorem recErrs_list_other (o : ROpts) (name : String) (es : List Tree) :
    ∀ c, (∀ cs, c ≠ .list cs) → LeafItems name False (recErrs o name (.list es) c)
  | .list cs, h => absurd rfl (h cs)
  | .sc (.str _), _ | .dict _, _ | .arr _ _ _, _ => by simp only [recErrs]; exact .unmodelled not_false
  | .sc .none, _ | .sc (.bool _), _ | .sc (.int _), _ | .sc (.flt _), _ | .sc (.cpx _), _ | .sc (.npflt _), _
  | .sc (.npint _), _ | .sc (.npbool _), _ | .sc (.npcpx _), _ => by simp only [recErrs]; exact .fail 3 not_false

theorem errAt_sc (o : ROpts) (name : String) (s : Sc) (c : Tree) (p : String) :
    ErrAt o name (.sc s) c p ↔ (p = name ∧ ¬ Agree o (.sc s) c) := by
  cases s <;> simp only [ErrAt, Agree, ne_eq]

theorem errAt_arr (o : ROpts) (name : String) (k : Kind) (sh : List Nat) (fl : List Sc) (c : Tree) (p : String) :
    ErrAt o name (.arr k sh fl) c p ↔ (p = name ∧ ¬ Agree o (.arr k sh fl) c) := by
  simp only [ErrAt, Agree]

theorem agreeList_length (o : ROpts) : ∀ es cs, AgreeList o es cs → es.length = cs.length
  | [], [], _ => rfl
  | [], _ :: _, h => by simp [AgreeList] at h
  | _ :: _, [], h => by simp [AgreeList] at h
  | _ :: es, _ :: cs, h => by
    simp only [AgreeList] at h
    simp [agreeList_length o es cs h.2]

theorem no_key_missing (a b : List (String × Tree)) :
    a.any (fun p => !hasKey p.1 b) = false ↔ ∀ p ∈ a, hasKey p.1 b = true := by
  simp [List.any_eq_false]

mutual
/-- **No forgive, no phase filtering: the recursion reports no error exactly when the trees agree.**
Both directions, for every pair of trees (any depth, any width) and every name prefix. -/
theorem recErrs_agree (o : ROpts) (name : String) : ∀ e c, recErrs o name e c = [] ↔ Agree o e c
  | .sc s, c => (recErrs_sc o name s c).nil_iff
  | .arr k sh fl, c => (recErrs_arr o name k sh fl c).nil_iff
  | .list es, c => by
    cases c with
    | list cs =>
      simp only [recErrs, Agree, Tree.list.injEq, exists_eq_left']
      by_cases hl : es.length = cs.length
      · simpa [hl] using recList_agree o name 0 es cs hl
      · simpa [hl] using fun h => hl (agreeList_length o es cs h)
    | _ => simpa [Agree] using (recErrs_list_other o name es _ (by simp)).nil_iff
  | .dict ekv, c => by
    cases c with
    | dict ckv =>
      simp only [recErrs, Agree, List.append_eq_nil_iff, ite_eq_right_iff, reduceCtorEq, imp_false, Bool.not_eq_true,
        no_key_missing, recDict_agree o name ekv ckv, Tree.dict.injEq, exists_eq_left', and_assoc]
    | _ => simp [recErrs, Agree]
theorem recList_agree (o : ROpts) (name : String) : ∀ (i : Nat) es cs,
    es.length = cs.length → (recList o name i es cs = [] ↔ AgreeList o es cs)
  | _, [], [], _ => by simp [recList, AgreeList]
  | _, [], _ :: _, h => by simp at h
  | _, _ :: _, [], h => by simp at h
  | i, e :: es, c :: cs, h => by
    simp only [recList, AgreeList, List.append_eq_nil_iff]
    rw [recErrs_agree o _ e c, recList_agree o name (i + 1) es cs (by simpa using h)]
theorem recDict_agree (o : ROpts) (name : String) : ∀ ekv ckv,
    recDict o name ekv ckv = [] ↔ AgreeDict o ekv ckv
  | [], _ => by simp [recDict, AgreeDict]
  | (k, e) :: rest, ckv => by
    simp only [recDict, AgreeDict, List.append_eq_nil_iff]
    rw [recDict_agree o name rest ckv]
    cases hl : lookup k ckv with
    | none => simp
    | some c => simp [recErrs_agree o _ e c]
end

/-- the dictionary clause in membership form: every key of `expected` that `computed` also has agrees -/
theorem agreeDict_iff (o : ROpts) (ckv : List (String × Tree)) : ∀ ekv,
    AgreeDict o ekv ckv ↔ ∀ k e c, (k, e) ∈ ekv → lookup k ckv = some c → Agree o e c
  | [] => by simp [AgreeDict]
  | (k, e) :: rest => by
    simp only [AgreeDict, agreeDict_iff o ckv rest, List.mem_cons]
    constructor
    · rintro ⟨h1, h2⟩ k' e' c' (h | h) hl
      · cases h; exact h1 c' hl
      · exact h2 k' e' c' h hl
    · intro h
      exact ⟨fun c hl => h k e c (Or.inl rfl) hl, fun k' e' c' hm hl => h k' e' c' (Or.inr hm) hl⟩

/-- non-vacuity (tests): a nested structure that agrees, and one whose leaf is just outside the tolerance -/
example : recErrs ⟨1/1000, 0, false⟩ "root"
    (.dict [("a", .list [.sc (.flt (.fin 1)), .sc (.int 2)]), ("b", .sc (.str "x"))])
    (.dict [("b", .sc (.str "x")), ("a", .list [.sc (.flt (.fin (1001/1000))), .sc (.int 2)])]) = [] := by
  decide +kernel
example : recErrs ⟨1/1000, 0, false⟩ "root"
    (.dict [("a", .list [.sc (.flt (.fin 1))])]) (.dict [("a", .list [.sc (.flt (.fin (1002/1000)))])])
    = [.err ⟨"root.a.0", 4⟩] := by
  decide +kernel

theorem anyNames (name : String) (tag : Nat) (b : Bool) (p : String) :
    p ∈ errNames (if b = true then [Item.err ⟨name, tag⟩] else []) ↔ (p = name ∧ b = true) := by
  cases b <;> simp [errNames, errsOf]

mutual
/-- **The error names of the recursion are exactly the mismatching paths** (modelled inputs; mutual induction). -/
theorem errAt_iff (o : ROpts) (name : String) : ∀ e c p, Item.unmodelled ∉ recErrs o name e c →
    (p ∈ errNames (recErrs o name e c) ↔ ErrAt o name e c p)
  | .sc s, c, p, h => by rw [errAt_sc]; exact (recErrs_sc o name s c).mem_names h p
  | .arr k sh fl, c, p, h => by rw [errAt_arr]; exact (recErrs_arr o name k sh fl c).mem_names h p
  | .list es, c, p, h => by
    cases c with
    | list cs =>
      simp only [recErrs] at h ⊢
      by_cases hl : es.length = cs.length
      · simp only [hl, ne_eq, not_true_eq_false, if_false] at h ⊢
        rw [errAtList_iff o name 0 es cs p h]
        simp [ErrAt, hl]
      · simp [ErrAt, hl, errNames, errsOf]
    | _ => simpa [ErrAt] using (recErrs_list_other o name es _ (by simp)).mem_names h p
  | .dict ekv, c, p, h => by
    cases c with
    | dict ckv =>
      simp only [recErrs, List.mem_append, not_or] at h ⊢
      rw [errNames_append, errNames_append, List.mem_append, List.mem_append, errAtDict_iff o name ekv ckv p h.2,
        anyNames, anyNames, ← and_or_left]
      simp only [ErrAt, List.any_eq_true, Bool.not_eq_true', Tree.dict.injEq, forall_eq', exists_eq_left']
    | _ => simp [recErrs, ErrAt, errNames, errsOf]
theorem errAtList_iff (o : ROpts) (name : String) : ∀ i es cs p, Item.unmodelled ∉ recList o name i es cs →
    (p ∈ errNames (recList o name i es cs) ↔ ErrAtList o name i es cs p)
  | _, [], [], _, _ => by simp [recList, ErrAtList, errNames, errsOf]
  | _, [], _ :: _, _, _ => by simp [recList, ErrAtList, errNames, errsOf]
  | _, _ :: _, [], _, _ => by simp [recList, ErrAtList, errNames, errsOf]
  | i, e :: es, c :: cs, p, h => by
    simp only [recList, List.mem_append, not_or] at h ⊢
    rw [errNames_append, List.mem_append, errAt_iff o _ e c p h.1, errAtList_iff o name (i + 1) es cs p h.2]
    simp [ErrAtList]
theorem errAtDict_iff (o : ROpts) (name : String) : ∀ ekv ckv p, Item.unmodelled ∉ recDict o name ekv ckv →
    (p ∈ errNames (recDict o name ekv ckv) ↔ ErrAtDict o name ekv ckv p)
  | [], _, _, _ => by simp [recDict, ErrAtDict, errNames, errsOf]
  | (k, e) :: rest, ckv, p, h => by
    simp only [recDict, List.mem_append, not_or] at h ⊢
    rw [errNames_append, List.mem_append, errAtDict_iff o name rest ckv p h.2]
    simp only [ErrAtDict]
    cases hl : lookup k ckv with
    | none => simp [errNames, errsOf]
    | some c =>
      rw [hl] at h
      simp [errAt_iff o _ e c p h.1]
end

theorem items_nil_of_names (items : List Item) (h : Item.unmodelled ∉ items) (hn : errNames items = []) :
    items = [] := by
  cases items with
  | nil => rfl
  | cons i t =>
    cases i with
    | err e => simp [errNames, errsOf] at hn
    | unmodelled => simp at h

/-- coherence of the two declarative descriptions: no path mismatches exactly when the trees agree -/
theorem agree_iff_no_errAt (o : ROpts) (name : String) (e c : Tree) (hm : Item.unmodelled ∉ recErrs o name e c) :
    Agree o e c ↔ ∀ p, ¬ ErrAt o name e c p := by
  simp only [← recErrs_agree o name e c, ← errAt_iff o name e c _ hm, ← List.eq_nil_iff_forall_not_mem]
  exact ⟨fun h => by rw [h]; rfl, items_nil_of_names _ hm⟩

/-! ## the filtering loops (`forgive`, `equal_phase`) -/

/-- inner loop: at the first matching prefix the entry is removed once (`break`) -/
theorem removeFor_eq (hit : String → Bool) (nm : Err) : ∀ ps errs,
    removeFor hit nm ps errs =
      if ps.any hit = true then (if errs.contains nm = true then some (errs.erase nm) else none) else some errs
  | [], _ => by simp [removeFor]
  | p :: ps, errs => by
    by_cases hp : hit p = true
    · simp [removeFor, hp]
    · have hp' : hit p = false := by simpa using hp
      simp [removeFor, hp', removeFor_eq hit nm ps errs]

def hitE (cond : Err → String → Bool) (ps : List String) (x : Err) : Bool := ps.any (cond x)

/-- The loop with the entries already passed (`acc`, those no prefix matches) made explicit: the current list is
always a permutation of `acc` and the entries still to come, so `errors.remove` finds its argument. -/
theorem removeLoop_filter (cond : Err → String → Bool) (ps : List String) : ∀ (iter acc cur : List Err),
    cur.Perm (acc ++ iter) →
    ∃ out, removeLoop cond ps iter cur = some out ∧ out.Perm (acc ++ iter.filter (fun x => !hitE cond ps x))
  | [], acc, cur, h => ⟨cur, rfl, by simpa using h⟩
  | nm :: rest, acc, cur, h => by
    simp only [removeLoop, removeFor_eq, List.filter_cons, hitE]
    cases hh : ps.any (cond nm)
    · obtain ⟨out, ho, hp⟩ := removeLoop_filter cond ps rest (acc ++ [nm]) cur (by simpa using h)
      exact ⟨out, by simpa using ho, by simpa [hitE] using hp⟩
    · have h' : cur.Perm (nm :: (acc ++ rest)) := h.trans List.perm_middle
      have hc : nm ∈ cur := h'.mem_iff.mpr List.mem_cons_self
      obtain ⟨out, ho, hp⟩ := removeLoop_filter cond ps rest acc (cur.erase nm) (by simpa using h'.erase nm)
      exact ⟨out, by simpa [hc] using ho, by simpa [hitE] using hp⟩

/-- **The filtering loop never raises and keeps exactly the entries no prefix matches**, whatever the
iteration order (`sorted(errors)` is a permutation of `errors`) and even with repeated entries. -/
theorem removeLoop_perm (cond : Err → String → Bool) (ps : List String) (iter errs : List Err)
    (hp : iter.Perm errs) :
    ∃ out, removeLoop cond ps iter errs = some out ∧
      ∀ x, x ∈ out ↔ (x ∈ errs ∧ hitE cond ps x = false) := by
  obtain ⟨out, ho, hf⟩ := removeLoop_filter cond ps iter [] errs (by simpa using hp.symm)
  refine ⟨out, ho, fun x => ?_⟩
  rw [hf.mem_iff]
  simp [hp.mem_iff]

/-! ## `compare_recursive`: the full characterisation -/

/-- a path is forgiven when it is one of the `forgive` paths or lies below one (whole dotted segments) -/
def Forgiven (forgive : Option (List String)) (p : String) : Prop :=
  ∃ fg ∈ forgive.getD [], pathUnder p (rootify fg) = true

/-- a path is open to the sign-flip retry: everywhere for `equal_phase=True`, under the listed paths for a list -/
def PhaseListed : PhaseOpt → String → Prop
  | .off, _ => False
  | .all, _ => True
  | .paths l, p => ∃ ep ∈ l, pathUnder p (rootify ep) = true

theorem pathUnder_self (p : String) : pathUnder p p = true := by simp [pathUnder]

theorem mem_dedupNames : ∀ (errs : List Err) (seen : List String) (e : Err), e ∈ errs →
    e.name ∈ seen ∨ e.name ∈ dedupNames errs seen
  | x :: t, seen, e, h => by
    simp only [dedupNames]
    split
    · rcases List.mem_cons.mp h with rfl | h
      · exact Or.inl (by simpa using ‹seen.contains e.name = true›)
      · exact mem_dedupNames t seen e h
    · rcases List.mem_cons.mp h with rfl | h
      · exact Or.inr List.mem_cons_self
      · exact (mem_dedupNames t (x.name :: seen) e h).elim
          (fun h' => (List.mem_cons.mp h').elim (fun h'' => Or.inr (h'' ▸ List.mem_cons_self)) Or.inl)
          (fun h' => Or.inr (List.mem_cons_of_mem _ h'))

theorem forgiveStage_spec (forgive : Option (List String)) (errors : List Err) :
    ∃ out, forgiveStage forgive errors = some out ∧
      ∀ x, x ∈ out ↔ (x ∈ errors ∧ ¬ Forgiven forgive x.name) := by
  have hfg : forgiveStage forgive errors = removeLoop (fun nm fg => pathUnder nm.name fg)
      ((forgive.getD []).map rootify) (errors.mergeSort Err.le) errors := by cases forgive <;> rfl
  obtain ⟨out, ho, hm⟩ := removeLoop_perm (fun nm fg => pathUnder nm.name fg) ((forgive.getD []).map rootify)
    (errors.mergeSort Err.le) errors (List.mergeSort_perm errors Err.le)
  refine ⟨out, hfg.trans ho, fun x => ?_⟩
  rw [hm x]
  simp [hitE, Forgiven, List.any_map]

/-- for an entry of `errors`, the prefixes of the phase filter match its name exactly when the path is listed -/
theorem phaseEps_any (phase : PhaseOpt) {errors : List Err} {x : Err} (hx : x ∈ errors) :
    (∃ ep ∈ phaseEps phase errors, pathUnder x.name ep = true) ↔ PhaseListed phase x.name := by
  cases phase with
  | off => simp [phaseEps, PhaseListed]
  | all =>
    simp only [phaseEps, PhaseListed, iff_true]
    exact ⟨x.name, by simpa using mem_dedupNames errors [] x hx, pathUnder_self _⟩
  | paths l =>
    simp only [phaseEps, PhaseListed, List.mem_map]
    exact ⟨fun ⟨_, ⟨ep, hep, he⟩, hu⟩ => ⟨ep, hep, he ▸ hu⟩, fun ⟨ep, hep, hu⟩ => ⟨_, ⟨ep, hep, rfl⟩, hu⟩⟩

theorem phaseStage_spec (phase : PhaseOpt) (nn : List String) (errors : List Err) :
    ∃ out, phaseStage phase nn errors = some out ∧
      ∀ x, x ∈ out ↔ (x ∈ errors ∧ ¬ (PhaseListed phase x.name ∧ x.name ∉ nn)) := by
  unfold phaseStage
  split
  · obtain ⟨out, ho, hm⟩ := removeLoop_perm (fun nm ep => pathUnder nm.name ep && !nn.contains nm.name)
      (phaseEps phase errors) (errors.mergeSort Err.le) errors (List.mergeSort_perm errors Err.le)
    refine ⟨out, ho, fun x => ?_⟩
    rw [hm x]
    refine and_congr_right fun hx => ?_
    rw [← phaseEps_any phase hx]
    simp [hitE]
  · -- the stage is skipped: no entry, or no listed path
    rename_i hb
    refine ⟨errors, rfl, fun x => ⟨fun hx => ⟨hx, fun ⟨hl, _⟩ => hb ?_⟩, fun h => h.1⟩⟩
    cases phase with
    | off => exact hl.elim
    | all => simpa [PhaseOpt.truthy] using List.ne_nil_of_mem hx
    | paths l =>
      obtain ⟨ep, hep, _⟩ := hl
      simpa [PhaseOpt.truthy] using ⟨List.ne_nil_of_mem hx, List.ne_nil_of_mem hep⟩

/-- what `compare_recursive` does with the error entries once the recursions have run (468-515): the phase filter,
the forgive filter, then "no entry left" -/
def stagesVerdict (forgive : Option (List String)) (phase : PhaseOpt) (nnames : List String) (errors : List Err) : Res :=
  match phaseStage phase nnames errors with
  | none => .raised .valueError
  | some errors =>
    match forgiveStage forgive errors with
    | none => .raised .valueError
    | some errors => .verdict errors.isEmpty

/-- the stages never raise, and pass exactly when every entry is excused by one of them -/
theorem stagesVerdict_spec (forgive : Option (List String)) (phase : PhaseOpt) (nn : List String) (errors : List Err) :
    (∃ b, stagesVerdict forgive phase nn errors = .verdict b) ∧
    (stagesVerdict forgive phase nn errors = .verdict true ↔
      ∀ p ∈ errors.map Err.name, (PhaseListed phase p ∧ p ∉ nn) ∨ Forgiven forgive p) := by
  obtain ⟨o1, h1, m1⟩ := phaseStage_spec phase nn errors
  obtain ⟨o2, h2, m2⟩ := forgiveStage_spec forgive o1
  have hv : stagesVerdict forgive phase nn errors = .verdict o2.isEmpty := by simp only [stagesVerdict, h1, h2]
  refine ⟨⟨_, hv⟩, ?_⟩
  rw [hv, Res.verdict.injEq, List.isEmpty_iff, List.eq_nil_iff_forall_not_mem, List.forall_mem_map]
  refine forall_congr' fun x => ?_
  rw [m2, m1]
  by_cases hf : Forgiven forgive x.name <;> by_cases hp : PhaseListed phase x.name ∧ x.name ∉ nn <;> simp [hf, hp]

/-- below the refusal bound and on modelled inputs, `compare_recursive` is the two filter stages over the entries of
the two recursions -/
theorem compareRecursive_eq_stages {atol : Rat} (ha : ¬ 1 ≤ atol) (rtol : Rat) (forgive : Option (List String))
    (phase : PhaseOpt) {e c : Tree}
    (hm : Item.unmodelled ∉ recErrs ⟨atol, rtol, false⟩ "root" e c)
    (hm' : Item.unmodelled ∉ recErrs ⟨atol, rtol, true⟩ "root" e c) :
    compareRecursive atol rtol forgive phase e c =
      stagesVerdict forgive phase (errNames (recErrs ⟨atol, rtol, true⟩ "root" e c))
        (errsOf (recErrs ⟨atol, rtol, false⟩ "root" e c)) := by
  have hc1 : (recErrs ⟨atol, rtol, false⟩ "root" e c).contains .unmodelled = false := by simpa using hm
  have hc2 : (recErrs ⟨atol, rtol, true⟩ "root" e c).contains .unmodelled = false := by simpa using hm'
  simp only [compareRecursive, ha, hc1, hc2, if_false, Bool.and_false, Bool.false_eq_true]
  rfl

/-- the documented refusal: `atol >= 1` raises ValueError whatever the inputs -/
theorem compareRecursive_atol_ge_one (atol rtol : Rat) (forgive : Option (List String)) (phase : PhaseOpt)
    (e c : Tree) (h : 1 ≤ atol) : compareRecursive atol rtol forgive phase e c = .raised .valueError := by
  simp [compareRecursive, h]

/-- **compare_recursive returns True exactly when every mismatching path is excused**: it is forgiven
(equal to or below a `forgive` path, whole dotted segments), or it is open to the sign-flip retry
(`equal_phase=True`, or at/below a listed path) and no longer mismatches when leaves may be compared
up to an overall sign.  In particular: never a pass when a non-forgiven key set, length or leaf is
off, never a failure when all non-forgiven paths agree.  All trees, all option values. -/
theorem compare_recursive_iff (atol rtol : Rat) (forgive : Option (List String)) (phase : PhaseOpt) (e c : Tree)
    (hm : Item.unmodelled ∉ recErrs ⟨atol, rtol, false⟩ "root" e c)
    (hm' : Item.unmodelled ∉ recErrs ⟨atol, rtol, true⟩ "root" e c) :
    compareRecursive atol rtol forgive phase e c = .verdict true ↔
      (atol < 1 ∧ ∀ p, ErrAt ⟨atol, rtol, false⟩ "root" e c p →
          (PhaseListed phase p ∧ ¬ ErrAt ⟨atol, rtol, true⟩ "root" e c p) ∨ Forgiven forgive p) := by
  by_cases ha : 1 ≤ atol
  · simp [compareRecursive_atol_ge_one, ha, Rat.not_lt.mpr ha]
  · rw [compareRecursive_eq_stages ha rtol forgive phase hm hm', (stagesVerdict_spec ..).2,
      and_iff_right (Rat.not_le.mp ha), ← errNames]
    simp only [errAt_iff _ _ e c _ hm, errAt_iff _ _ e c _ hm']

/-- with `atol < 1`, `compare_recursive` always returns a verdict (no exception) on modelled inputs -/
theorem compare_recursive_total (atol rtol : Rat) (forgive : Option (List String)) (phase : PhaseOpt) (e c : Tree)
    (ha : atol < 1)
    (hm : Item.unmodelled ∉ recErrs ⟨atol, rtol, false⟩ "root" e c)
    (hm' : Item.unmodelled ∉ recErrs ⟨atol, rtol, true⟩ "root" e c) :
    ∃ b, compareRecursive atol rtol forgive phase e c = .verdict b := by
  rw [compareRecursive_eq_stages (Rat.not_le.mpr ha) rtol forgive phase hm hm']
  exact (stagesVerdict_spec ..).1

/-- default options: `compare_recursive` returns True exactly when the structures agree -/
theorem compareRecursive_default_iff (atol rtol : Rat) (e c : Tree)
    (hm : Item.unmodelled ∉ recErrs ⟨atol, rtol, false⟩ "root" e c)
    (hm' : Item.unmodelled ∉ recErrs ⟨atol, rtol, true⟩ "root" e c) :
    compareRecursive atol rtol none .off e c = .verdict true ↔ (atol < 1 ∧ Agree ⟨atol, rtol, false⟩ e c) := by
  rw [compare_recursive_iff atol rtol none .off e c hm hm', agree_iff_no_errAt _ "root" e c hm]
  simp [PhaseListed, Forgiven]

/-! ## tests of the model on five input classes (kernel-evaluated) -/

/-- test: a path matched by two forgive entries (or two phase paths) is simply excused — the entry is removed once -/
example : compareRecursive (1/1000000) 0 (some ["a", "a.b"]) .off
    (.dict [("a", .dict [("b", .sc (.flt (.fin 1)))])])
    (.dict [("a", .dict [("b", .sc (.flt (.fin 2)))])]) = .verdict true := by decide +kernel
example : compareRecursive (1/1000000) 0 none (.paths ["a", "root.a"])
    (.dict [("a", .sc (.flt (.fin 1)))]) (.dict [("a", .sc (.flt (.fin (-1))))]) = .verdict true := by
  decide +kernel
/-- test: forgiving `a` does not forgive the sibling key `ab` (prefixes match whole dotted segments) -/
example : compareRecursive (1/1000000) 0 (some ["a"]) .off
    (.dict [("a", .sc (.flt (.fin 1))), ("ab", .sc (.flt (.fin 2)))])
    (.dict [("a", .sc (.flt (.fin 1))), ("ab", .sc (.flt (.fin 3)))]) = .verdict false := by decide +kernel
/-- test: equal `np.bool_` leaves agree -/
example : compareRecursive (1/1000000) 0 none .off
    (.dict [("a", .sc (.npbool true))]) (.dict [("a", .sc (.npbool true))]) = .verdict true := by decide +kernel
/-- test: dict vs non-dict is a reported mismatch, not an exception -/
example : compareRecursive (1/1000000) 0 none .off
    (.dict [("a", .dict [("b", .sc (.int 1))])]) (.dict [("a", .sc .none)]) = .verdict false := by decide +kernel
/-- test: a complex `computed` is compared as complex data -/
example : compareValues ⟨1/1000000, 0, false, false, false⟩
    (.sc (.flt (.fin 1))) (.arr .cpx [] [.npcpx ⟨.fin 1, .fin 2⟩]) = .verdict false := by decide +kernel
example : compareValues ⟨1/1000000, 0, false, false, false⟩
    (.list [.sc (.flt (.fin 1))]) (.list [.sc (.cpx ⟨.fin 1, .fin 0⟩)]) = .verdict true := by decide +kernel

end QcelVerif.Compare
