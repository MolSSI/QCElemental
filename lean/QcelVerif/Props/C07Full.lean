import QcelVerif.Props.C07Label
import QcelVerif.Props.C07Hash
import QcelVerif.Props.C11Concrete
/-!
# C07 — `Molecule → text → Molecule`, end to end, without the label hypothesis; the hash survives the round trip

`Props/C07E2E.lean` proves the text round trip through the whole composed reader (`readMol`: text layer, `from_input_arrays`,
`from_arrays` with the C06 reconciler and the C05 stage) up to `hlab`.  `Props/C07Label.lean` proves `hlab` for carried atoms
(`Carried`: default isotope of a shipped element, conforming lower-case label).  Here the two are put together for psi4 and xyz+
text (no `hlab`, no `hcm`), and `text_roundtrip_same_hash` states the property's sentence "a Molecule survives Molecule → string →
Molecule with an unchanged hash" for psi4 text in Bohr at ≥ 10 printed decimals, every hypothesis spelled out.

What stays a hypothesis, and why: the TEXT CARRIES the record's integers (`hseps hfc hfm hc hmu`: `float()`/`int()` of the
printed charges and multiplicities are the record's — CPython number parsing is `floatOf` at `rd64`), the printed coordinates
convert to `g` (`hg`, same function) and pass the 0.1 closeness screen in the text's unit (`hscreen`; false in the known
finding class C07-tooclose-in-text-units), and — for the hash — `g` is within 1e-10 bohr of the stored coordinates, which are
not within 0.02e-8 of an 8-decimal rounding boundary (`printed_same_prep`).
-/
namespace QcelVerif.TextToMol
open QcelVerif.MolText QcelVerif.FromArrays QcelVerif.Hash
open QcelVerif.Nucleus (rd64)

/-! ## `hlab` for the two writers -/

theorem projectPsi4_elbl (m : MolRec) : (projectPsi4 m).elbl = (allAtoms m).map nucPsi4 := by
  simp only [projectPsi4, allAtoms, List.map_flatMap]

/-- `hlab` of `read_write_validated_psi4_*_partial` -/
theorem hlab_psi4 (angToAu : Rat) (m : MolRec) (r : Molrec) (h : ForallPairs Carried (allAtoms m) (recNucs r)) :
    mapE ((envC06 rd64 angToAu).recon textSettings) ((projectPsi4 m).elbl.map labelClue) = .ok (recNucs r) := by
  rw [projectPsi4_elbl]; exact hlab_of_carried angToAu _ _ h

/-- `hlab` of `read_write_validated_xyzplus_partial` -/
theorem hlab_xyzplus (angToAu : Rat) (m : MolRec) (r : Molrec)
    (h : ForallPairs (fun a u => Carried a u ∧ u.label = "") (allAtoms m) (recNucs r)) :
    mapE ((envC06 rd64 angToAu).recon textSettings) ((projectXyzPlus m).elbl.map labelClue) = .ok (recNucs r) :=
  hlab_xyz_of_carried angToAu _ _ h

/-! ## (a) psi4 -/

/-- **(a) psi4, several fragments, no `hlab` / `hcm`** (C06 model over the shipped table under `rd64`).  `r`: a validated record (fixed
point of `from_arrays`); `m`: the text-level record the psi4 writer prints (`RecOk`: printed numbers well-formed) whose atoms
are `r`'s, each CARRIED by the format (`hatoms`: symbol / real flag / label as stored, default isotope, conforming lower-case
label — `Props/C07Label.lean` shows nothing weaker can hold: the writers print no isotope information); the text carries
`r`'s integers and separators; the printed coordinates convert to `g`, which passes the closeness screen in the text's unit.
Then reading the written TEXT through the whole composed reader returns `r` with the text's unit and the printed coordinates
(name, comment, connectivity, `input_units_to_au`, `fix_symmetry` are not carried by the psi4 writer). -/
theorem read_write_validated_psi4_multi (angToAu : Rat) (i₀ : Inp) (r : Molrec)
    (hfix : fromArrays (envC06 rd64 angToAu) (asInput i₀ r) = .ok r)
    (m : MolRec) (hok : RecOk m) (hatoms : ForallPairs Carried (allAtoms m) (recNucs r))
    (g : List Rat) (hg : optMapM (floatOf rd64) (projectPsi4 m).geom = some g)
    (hscreen : validateGeometry dfltTooclose g = .ok g)
    (hseps : (projectPsi4 m).seps.map (fun (k : Nat) => (k : Int)) = r.seps)
    (hfc : optMapM (optOpt (chargeOf rd64)) (projectPsi4 m).fragChg = some (r.fc.map some))
    (hfm : optMapM (optOpt multOf) (projectPsi4 m).fragMult = some (r.fm.map some))
    (hc : optOpt (chargeOf rd64) (projectPsi4 m).molChg = some (some r.c))
    (hmu : optOpt multOf (projectPsi4 m).molMult = some (some r.m)) :
    readMol (envC06 rd64 angToAu) rd64 .psi4 (render (writePsi4 m)) =
      .mol { r with units := unitsOf (some m.bohr), iutau := none, name := none, comment := none, conn := none, geom := g,
                    fixCom := m.fixCom, fixOrient := m.fixOrient, fixSymm := none } :=
  read_write_validated_psi4_multi_partial (envC06 rd64 angToAu) rd64 i₀ r hfix m hok g hg hscreen
    (hlab_psi4 angToAu m r hatoms) hseps hfc hfm hc hmu

/-- **(a) psi4, one fragment, no `hlab` / `hcm`**: the single `charge multiplicity` line is the fragment's, the totals are completed by
C05 (`vfc_single_totals_absent`). -/
theorem read_write_validated_psi4_single (angToAu : Rat) (i₀ : Inp) (r : Molrec)
    (hfix : fromArrays (envC06 rd64 angToAu) (asInput i₀ r) = .ok r)
    (hone : r.seps = []) (hfc1 : r.fc = [r.c]) (hfm1 : r.fm = [r.m])
    (m : MolRec) (hok : RecOk m) (hatoms : ForallPairs Carried (allAtoms m) (recNucs r))
    (g : List Rat) (hg : optMapM (floatOf rd64) (projectPsi4 m).geom = some g)
    (hscreen : validateGeometry dfltTooclose g = .ok g)
    (hseps : (projectPsi4 m).seps.map (fun (k : Nat) => (k : Int)) = r.seps)
    (hfc : optMapM (optOpt (chargeOf rd64)) (projectPsi4 m).fragChg = some (r.fc.map some))
    (hfm : optMapM (optOpt multOf) (projectPsi4 m).fragMult = some (r.fm.map some))
    (hc : optOpt (chargeOf rd64) (projectPsi4 m).molChg = some none)
    (hmu : optOpt multOf (projectPsi4 m).molMult = some none) :
    readMol (envC06 rd64 angToAu) rd64 .psi4 (render (writePsi4 m)) =
      .mol { r with units := unitsOf (some m.bohr), iutau := none, name := none, comment := none, conn := none, geom := g,
                    fixCom := m.fixCom, fixOrient := m.fixOrient, fixSymm := none } :=
  read_write_validated_psi4_single_partial (envC06 rd64 angToAu) rd64 i₀ r hfix hone hfc1 hfm1 m hok g hg hscreen
    (hlab_psi4 angToAu m r hatoms) hseps hfc hfm hc hmu

/-- the two shapes of psi4 text the writer prints: totals line + one `--` block per fragment, or (one fragment) a single
`charge multiplicity` line that the reader takes as the fragment's -/
def Psi4Shape (r : Molrec) (m : MolRec) : Prop :=
  (optOpt (chargeOf rd64) (projectPsi4 m).molChg = some (some r.c) ∧
   optOpt multOf (projectPsi4 m).molMult = some (some r.m)) ∨
  (r.seps = [] ∧ r.fc = [r.c] ∧ r.fm = [r.m] ∧
   optOpt (chargeOf rd64) (projectPsi4 m).molChg = some none ∧ optOpt multOf (projectPsi4 m).molMult = some none)

/-- **(a) psi4, either shape, no `hlab` / `hcm`.** -/
theorem read_write_validated_psi4 (angToAu : Rat) (i₀ : Inp) (r : Molrec)
    (hfix : fromArrays (envC06 rd64 angToAu) (asInput i₀ r) = .ok r)
    (m : MolRec) (hok : RecOk m) (hatoms : ForallPairs Carried (allAtoms m) (recNucs r))
    (g : List Rat) (hg : optMapM (floatOf rd64) (projectPsi4 m).geom = some g)
    (hscreen : validateGeometry dfltTooclose g = .ok g)
    (hseps : (projectPsi4 m).seps.map (fun (k : Nat) => (k : Int)) = r.seps)
    (hfc : optMapM (optOpt (chargeOf rd64)) (projectPsi4 m).fragChg = some (r.fc.map some))
    (hfm : optMapM (optOpt multOf) (projectPsi4 m).fragMult = some (r.fm.map some))
    (hshape : Psi4Shape r m) :
    readMol (envC06 rd64 angToAu) rd64 .psi4 (render (writePsi4 m)) =
      .mol { r with units := unitsOf (some m.bohr), iutau := none, name := none, comment := none, conn := none, geom := g,
                    fixCom := m.fixCom, fixOrient := m.fixOrient, fixSymm := none } := by
  rcases hshape with ⟨hc, hmu⟩ | ⟨hone, hfc1, hfm1, hc, hmu⟩
  · exact read_write_validated_psi4_multi angToAu i₀ r hfix m hok hatoms g hg hscreen hseps hfc hfm hc hmu
  · exact read_write_validated_psi4_single angToAu i₀ r hfix hone hfc1 hfm1 m hok hatoms g hg hscreen hseps hfc hfm hc hmu

/-! ## (a) xyz+ : the C05 step, then the theorem -/

open ChgMult in
theorem cands_totals_head (f : List Int) (c mu : Int) (hmu : 1 ≤ mu) :
    ∃ tl, candidates { frags := [f], c := some c, fc := [none], m := some mu, fm := [none], zgf := false }
      = { c := c, fc := [c], m := mu, fm := [mu] } :: tl := by
  have hmax : max mu 1 = mu := by omega
  have h1 : highSpin (applyDefault (removeFirstNone [none]) 2) = 1 := by decide
  have h2 : highSpin (applyDefault (removeFirstNone [none]) 1) = 1 := by decide
  have hlo : mu - 1 + 1 = mu := by omega
  simp only [candidates, candC, candFc, candM, candFm, missingMult, sumKnown, ChgMult.isum, List.any_cons, List.any_nil,
    Option.isNone_none, Bool.or_false, if_true, h1, h2, hlo, hmax, ChgMult.irange_self, List.map_cons, List.map_nil,
    Option.getD_none, Option.getD_some, List.foldr_cons, List.foldr_nil, List.reverse_cons, List.reverse_nil,
    List.nil_append, dedup, prod, List.flatMap_cons, List.cons_append, Int.sub_zero, Int.add_zero]
  exact ⟨_, rfl⟩

open ChgMult in
/-- **C05 on a single-fragment xyz+ text.**  The xyz+ title line gives the TOTAL charge and multiplicity; the reader passes no
fragment values.  `validate_and_fill_chgmult` with the totals given and the single fragment's values absent returns what it
returns with everything given: its first candidate is (S3: `fc = c − Σ known`, S6: `fm = m`) the full specification, and
the rules agree on it (R6/R7: totals kept, rest absent; high-spin R8 is `m = m`). -/
theorem vfc_single_fragment_absent (f : List Int) (c mu : Int) (o : Out)
    (h : vfc { frags := [f], c := some c, fc := [some c], m := some mu, fm := [some mu], zgf := false } = .ok o) :
    vfc { frags := [f], c := some c, fc := [none], m := some mu, fm := [none], zgf := false } = .ok o := by
  -- the answer is the full specification itself, and it passes the rules
  cases vfc_full_returns_input [f] ⟨c, [c], mu, [mu]⟩ o h
  obtain ⟨_, hp, hf⟩ := vfc_eq_ok_iff.mp h
  have hr := List.find?_some hf
  rw [effective_of_not_zgf _ rfl] at hr
  obtain ⟨tl, htl⟩ := cands_totals_head f c mu (vfc_sound_plain _ _ rfl h).mult_pos.1
  have hr' : rulesOk { frags := [f], c := some c, fc := [none], m := some mu, fm := [none], zgf := false }
      { c := c, fc := [c], m := mu, fm := [mu] } = true := by
    rw [← hr]
    simp [rulesOk, keeps, keepsAll, highSpinRequired, highSpin_single]
  refine vfc_eq_ok_iff.mpr ⟨rfl, by simpa [precheckFails, badMult] using hp, ?_⟩
  rw [effective_of_not_zgf _ rfl, htl, List.find?_cons, hr']

/-- **(a) xyz+, no `hlab` / `hcm`.**  The xyz+ text carries symbols, ghost markers, unit, coordinates and the TOTAL charge and
multiplicity only.  For a validated single-fragment record without user labels (`hatoms`: every atom carried, label empty)
whose one fragment holds the molecular charge and multiplicity (`hfc1 hfm1`), reading the written text returns `r` with the
text's unit, the printed coordinates and both frame flags off. -/
theorem read_write_validated_xyzplus (angToAu : Rat) (i₀ : Inp) (r : Molrec)
    (hfix : fromArrays (envC06 rd64 angToAu) (asInput i₀ r) = .ok r)
    (hseps : r.seps = []) (hfc1 : r.fc = [r.c]) (hfm1 : r.fm = [r.m])
    (natS : Str) (m : MolRec) (hok : XyzOk natS m) (hname : Clean m.name) (hne : allAtoms m ≠ [])
    (hatoms : ForallPairs (fun a u => Carried a u ∧ u.label = "") (allAtoms m) (recNucs r))
    (g : List Rat) (hg : optMapM (floatOf rd64) (projectXyzPlus m).geom = some g)
    (hscreen : validateGeometry dfltTooclose g = .ok g)
    (hc : chargeOf rd64 m.chg.parts = some r.c) (hmu : multOf m.mult = some r.m) :
    readMol (envC06 rd64 angToAu) rd64 .xyzPlus (render (writeXyz natS m)) =
      .mol { r with units := unitsOf (some m.bohr), iutau := none, name := none, comment := none, conn := none, geom := g,
                    fixCom := false, fixOrient := false, fixSymm := none } := by
  apply read_write_validated_xyzplus_partial (envC06 rd64 angToAu) rd64 i₀ r hfix natS m hok hname hne g hg hscreen
    (hlab_xyzplus angToAu m r hatoms) hseps hc hmu
  exact chgmultStage_single hfix hseps hfc1 hfm1 (some r.c) (some r.m) [none] [none]
    (fun f o => vfc_single_fragment_absent f r.c r.m o)

/-! ## the hash survives `Molecule → psi4 text → Molecule` -/

/-- **A Molecule survives Molecule → string → Molecule with an unchanged hash** (psi4 text, Bohr, ≥ 10 printed decimals).

Hypotheses, all of them:
 * `hfix`   — `r` is a validated molecule record: a fixed point of `from_arrays` (C04 model, C06 reconciler over the shipped
              periodic table, C05 stage; what `from_arrays_idempotent_c06_plain` / `from_arrays_second_pass_c06` conclude);
 * `hunits` — stored in Bohr (so `r.geom` IS the geometry `get_hash` looks at); `hconn` — no connectivity (no text format
              carries bonds);
 * `hok`    — `m` is what the psi4 writer is given: well-formed printed numbers, symbols, labels (`RecOk`);
              `hbohr` — written with `units='Bohr'`;
 * `hatoms` — FORMAT-CARRIABILITY: `m`'s atoms are `r`'s atoms (symbol, real flag, label as stored), each the default
              isotope of a shipped element with a grammar-conformant lower-case label (no format carries masses);
 * `hg`     — `float()` of the printed coordinates is `g`; `hscreen` — `g` passes the 0.1 closeness screen (in the text's
              unit = Bohr here, the same screen the molecule passed when it was built);
 * `hseps hfc hfm hshape` — the printed integers are the record's fragment boundaries, charges and multiplicities, in one
              of the two shapes the writer prints;
 * `hprec`  — ≥ 10 printed decimals: each coordinate read back is within 1e-10 bohr of the stored one, which is not within
              0.02e-8 of an 8-decimal rounding boundary and below 2^45·1e-8 in size (`printed_same_prep`);
 * `hfl`    — the hash's product rounding is within 1/256 (`FlOk`; proved for the concrete double rounding: `flOk_concrete`).
Conclusion: the composed reader returns a molecule record — `r` with the printed coordinates — whose unit is still Bohr and
whose C11 hash (`Molecule.get_hash`) equals the original's. -/
theorem text_roundtrip_same_hash {D} (P : Params D) (hfl : FlOk P.fl) (angToAu : Rat) (i₀ : Inp) (r : Molrec)
    (hfix : fromArrays (envC06 rd64 angToAu) (asInput i₀ r) = .ok r)
    (hunits : r.units = sBohr) (hconn : r.conn = none)
    (m : MolRec) (hok : RecOk m) (hbohr : m.bohr = true)
    (hatoms : ForallPairs Carried (allAtoms m) (recNucs r))
    (g : List Rat) (hg : optMapM (floatOf rd64) (projectPsi4 m).geom = some g)
    (hscreen : validateGeometry dfltTooclose g = .ok g)
    (hseps : (projectPsi4 m).seps.map (fun (k : Nat) => (k : Int)) = r.seps)
    (hfc : optMapM (optOpt (chargeOf rd64)) (projectPsi4 m).fragChg = some (r.fc.map some))
    (hfm : optMapM (optOpt multOf) (projectPsi4 m).fragMult = some (r.fm.map some))
    (hshape : Psi4Shape r m)
    (hprec : List.Forall₂ (fun x x' => ∃ n : Int, |x * (10 : Rat) ^ 8| ≤ 2 ^ 45 - 1 ∧
        |x * (10 : Rat) ^ 8 - n| ≤ 48 / 100 ∧ |x' - x| * (10 : Rat) ^ 8 ≤ 1 / 100) r.geom g) :
    ∃ r', readMol (envC06 rd64 angToAu) rd64 .psi4 (render (writePsi4 m)) = .mol r' ∧
      r' = readBack r sBohr g m.fixCom m.fixOrient none ∧ r'.units = r.units ∧
      hash P (molOfRec r' r'.geom) = hash P (molOfRec r r.geom) := by
  refine ⟨readBack r sBohr g m.fixCom m.fixOrient none, ?_, rfl, hunits.symm, ?_⟩
  · have h := read_write_validated_psi4 angToAu i₀ r hfix m hok hatoms g hg hscreen hseps hfc hfm hshape
    rw [hbohr] at h
    exact h
  · exact roundtrip_same_hash P r hconn sBohr g m.fixCom m.fixOrient none r.geom g (printed_same_prep hfl _ _ hprec)

/-! ## non-vacuity (tests) -/

section NonVacuity
open QcelVerif.Nucleus

local instance exDecide' {ε α} [DecidableEq ε] [DecidableEq α] : DecidableEq (Except ε α) := fun a b =>
  match a, b with
  | .ok x, .ok y => if h : x = y then isTrue (h ▸ rfl) else isFalse (fun e => h (Except.ok.inj e))
  | .error x, .error y => if h : x = y then isTrue (h ▸ rfl) else isFalse (fun e => h (Except.error.inj e))
  | .ok _, .error _ => isFalse (fun e => by cases e)
  | .error _, .ok _ => isFalse (fun e => by cases e)

/-- test: every hypothesis of `read_write_validated_psi4_multi` is met by a two-fragment molecule with a labelled ghost atom;
`hlab` is supplied by `exCarried` through the theorems of `Props/C07Label.lean`, not by evaluation -/
example : readMol (envC06 rd64 1) rd64 .psi4 (render (writePsi4 exM)) =
    .mol { exR with units := unitsOf (some true), iutau := none, name := none, comment := none, conn := none,
                    geom := [0, 0, 0, 0, 0, 5 / 2], fixCom := true, fixOrient := false, fixSymm := none } :=
  read_write_validated_psi4_multi 1 hdoInp exR exR_fix exM exM_ok exCarried [0, 0, 0, 0, 0, 5 / 2]
    (by decide +kernel) (by decide +kernel) (by decide +kernel) (by decide +kernel) (by decide +kernel)
    (by decide +kernel) (by decide +kernel)

/-- test: … and of `read_write_validated_psi4_single` by the same atoms as one fragment -/
example : readMol (envC06 rd64 1) rd64 .psi4 (render (writePsi4 exM1)) =
    .mol { exR1 with units := unitsOf (some true), iutau := none, name := none, comment := none, conn := none,
                     geom := [0, 0, 0, 0, 0, 5 / 2], fixCom := true, fixOrient := false, fixSymm := none } :=
  read_write_validated_psi4_single 1 hdoInp exR1 exR1_fix rfl rfl rfl exM1 exM1_ok exCarried1
    [0, 0, 0, 0, 0, 5 / 2] (by decide +kernel) (by decide +kernel) (by decide +kernel) (by decide +kernel)
    (by decide +kernel) (by decide +kernel) (by decide +kernel)

/-- test: … and of the either-shape theorem through its first disjunct -/
example : readMol (envC06 rd64 1) rd64 .psi4 (render (writePsi4 exM)) =
    .mol { exR with units := unitsOf (some true), iutau := none, name := none, comment := none, conn := none,
                    geom := [0, 0, 0, 0, 0, 5 / 2], fixCom := true, fixOrient := false, fixSymm := none } :=
  read_write_validated_psi4 1 hdoInp exR exR_fix exM exM_ok exCarried [0, 0, 0, 0, 0, 5 / 2]
    (by decide +kernel) (by decide +kernel) (by decide +kernel) (by decide +kernel) (by decide +kernel)
    (Or.inl ⟨by decide +kernel, by decide +kernel⟩)

/-- test: C05, one helium atom, totals only (`vfc_single_fragment_absent`) -/
example : ChgMult.vfc { frags := [[2]], c := some 0, fc := [none], m := some 1, fm := [none], zgf := false }
    = .ok { c := 0, fc := [0], m := 1, fm := [1] } :=
  vfc_single_fragment_absent [2] 0 1 _ (by decide)

/-- xyz+: the same two helium atoms WITHOUT user label, one fragment -/
def exGh0 : Atom := { exGh with lbl := [] }
def exMx : MolRec := { exM1 with frags := [⟨⟨false, "0".toList⟩, "1".toList, [exHe, exGh0]⟩] }
def exRx : Molrec := { exR1 with elbl := ["", ""] }

/-- test [decide +kernel]: `exRx` is a fixed point of the whole `from_arrays` pipeline -/
theorem exRx_fix : fromArrays (envC06 rd64 1) (asInput hdoInp exRx) = .ok exRx := by decide +kernel

theorem exMx_ok : XyzOk "2".toList exMx := by decide

theorem exCarriedX : ForallPairs (fun a u => Carried a u ∧ u.label = "") (allAtoms exMx) (recNucs exRx) :=
  ⟨⟨⟨rfl, rfl, rfl, heDefault _ _, Or.inl rfl, rfl⟩, rfl⟩, ⟨⟨rfl, rfl, rfl, heDefault _ _, Or.inl rfl, rfl⟩, rfl⟩, trivial⟩

/-- test: every hypothesis of `read_write_validated_xyzplus` is met (a real and a ghost helium atom, Bohr); the conclusion
by the theorem -/
example : readMol (envC06 rd64 1) rd64 .xyzPlus (render (writeXyz "2".toList exMx)) =
    .mol { exRx with units := unitsOf (some true), iutau := none, name := none, comment := none, conn := none,
                     geom := [0, 0, 0, 0, 0, 5 / 2], fixCom := false, fixOrient := false, fixSymm := none } :=
  read_write_validated_xyzplus 1 hdoInp exRx exRx_fix rfl rfl rfl "2".toList exMx exMx_ok (by intro c hc; cases hc)
    (by decide) exCarriedX [0, 0, 0, 0, 0, 5 / 2] (by decide +kernel) (by decide +kernel) (by decide +kernel)
    (by decide +kernel)

/-- the stored coordinates of `exR` printed with ≥ 10 decimals come back exactly: the precision hypothesis holds -/
theorem exPrec : List.Forall₂ (fun x x' => ∃ n : Int, |x * (10 : Rat) ^ 8| ≤ 2 ^ 45 - 1 ∧
    |x * (10 : Rat) ^ 8 - n| ≤ 48 / 100 ∧ |x' - x| * (10 : Rat) ^ 8 ≤ 1 / 100)
    exR.geom [0, 0, 0, 0, 0, 5 / 2] := by
  have z : ∃ n : Int, |(0 : Rat) * (10 : Rat) ^ 8| ≤ 2 ^ 45 - 1 ∧ |(0 : Rat) * (10 : Rat) ^ 8 - n| ≤ 48 / 100 ∧
      |(0 : Rat) - 0| * (10 : Rat) ^ 8 ≤ 1 / 100 := ⟨0, by norm_num, by norm_num, by norm_num⟩
  refine .cons z (.cons z (.cons z (.cons z (.cons z (.cons ⟨250000000, ?_, ?_, ?_⟩ .nil))))) <;> norm_num [abs_le]

/-- test: every hypothesis of `text_roundtrip_same_hash` is met (two fragments, a labelled ghost atom, Bohr, `no_com`), for ANY
mass table and digest function of the concrete C11 parameters; the hash equality is by the theorem -/
example {D : Type} (massOf : List Char → Dbl) (sha1 : List Char → D) :
    ∃ r', readMol (envC06 rd64 1) rd64 .psi4 (render (writePsi4 exM)) = .mol r' ∧
      r' = readBack exR sBohr [0, 0, 0, 0, 0, 5 / 2] true false none ∧ r'.units = exR.units ∧
      hash (concreteParams massOf sha1) (molOfRec r' r'.geom) = hash (concreteParams massOf sha1) (molOfRec exR exR.geom) :=
  text_roundtrip_same_hash (concreteParams massOf sha1) flOk_concrete 1 hdoInp exR exR_fix rfl rfl exM exM_ok rfl
    exCarried [0, 0, 0, 0, 0, 5 / 2] (by decide +kernel) (by decide +kernel) (by decide +kernel) (by decide +kernel)
    (by decide +kernel) (Or.inl ⟨by decide +kernel, by decide +kernel⟩) exPrec

/-! ### isotopes are not carried: a kernel-checked witness -/

/-- one deuterium atom (`A = 2`, the mass of ²H) at the origin, in Bohr -/
def exD : Molrec :=
  { units := sBohr, iutau := none, name := none, comment := none, conn := none, geom := [0, 0, 0],
    elea := [2], elez := [1], elem := ["H"], mass := [4535354008443527 / 2251799813685248], real := [true], elbl := [""],
    seps := [], c := 0, fc := [0], m := 2, fm := [2], fixCom := false, fixOrient := false, fixSymm := none }
/-- the same molecule with the default isotope ¹H -/
def exH : Molrec := { exD with elea := [1], mass := [2269420219802843 / 2251799813685248] }

def exHtext : MolRec :=
  { chg := ⟨false, "0".toList⟩, mult := "2".toList,
    frags := [⟨⟨false, "0".toList⟩, "2".toList, [{ sym := "H".toList, real := true, lbl := [], x := z8, y := z8, z := z8 }]⟩],
    bohr := true, fixCom := false, fixOrient := false, name := [] }

/-- **Isotope information is not carried — witness** [decide +kernel: the whole pipeline on the shipped table].  The
deuterium record `exD` and the plain record `exH` are both validated records (fixed points of `from_arrays`); the writers
print the SAME text for them (`writeMol_ignores_isotopes`; here: `toTextRec` of both is `exHtext`); reading that text returns
`exH`, not `exD`.  So `hlab` — and the round trip — necessarily fails for `exD`: the hypothesis `Carried` (default isotope)
cannot be dropped. -/
theorem deuterium_not_carried :
    fromArrays (envC06 rd64 1) (asInput hdoInp exD) = .ok exD ∧
    fromArrays (envC06 rd64 1) (asInput hdoInp exH) = .ok exH ∧
    toTextRec exD true [z8, z8, z8] [] = exHtext ∧ toTextRec exH true [z8, z8, z8] [] = exHtext ∧
    readMol (envC06 rd64 1) rd64 .psi4 (writeMol .psi4 exD true [z8, z8, z8] []) = .mol exH ∧ exH ≠ exD := by
  refine ⟨by decide +kernel, by decide +kernel, by decide +kernel, by decide +kernel, by decide +kernel, by decide⟩

end NonVacuity

end QcelVerif.TextToMol
