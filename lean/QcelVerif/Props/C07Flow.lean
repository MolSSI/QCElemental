import QcelVerif.Gen.FromStringFlow
import QcelVerif.Props.C07Text
/-!
# C07 — the COMPOSITION of the psi4 text reader, regenerated from the source, against M1

`Gen/FromStringFlow.lean` holds the statements of `_filter_universals`, `_filter_mints`, `filter_fragment`, `parse_as_psi4_ish` and the
head of `from_string` as printed by `harness/c07_flow.py`; `Model/MolTextFlow.lean` evaluates them on M1's line classes.
-/
namespace QcelVerif.C07Flow
open QcelVerif.MolText QcelVerif.Gen

/-! ## shape obligations -/

/-- SHAPE [rfl]: the head of `from_string` strips, then removes comments; `parse_as_psi4_ish` chains pubchem, universals, libefp,
mints (only mints is given `unsettled`), raises MoleculeFormatError on leftover text and only then returns; the dtype dispatch
sends xyz / xyz+ to `parse_as_xyz_ish(strict=True/False)` and psi4 / psi4+ to `parse_as_psi4_ish(unsettled=False/True)`. -/
theorem shape_dispatch :
    FromStringFlow.pre = [.strip, .filterComments] ∧
    FromStringFlow.psi4Ish = [.initMolinit, .call .pubchem false, .update, .call .universals false, .update, .call .libefp false, .update,
      .call .mints true, .update, .raiseIfLeft "MoleculeFormatError", .ret] ∧
    FromStringFlow.dispatch = [("xyz", "parse_as_xyz_ish", "strict", true), ("xyz+", "parse_as_xyz_ish", "strict", false),
      ("psi4", "parse_as_psi4_ish", "unsettled", false), ("psi4+", "parse_as_psi4_ish", "unsettled", true)] := ⟨rfl, rfl, rfl⟩

/-- the line loop of `_filter_universals` as the proofs below walk through it -/
def universalsLoop : List LStmt :=
  [.strip, .subnIfNot .com .com [.set .fixCom .tt], .subnIfNot .orient .orient [.set .fixOrientation .tt],
   .subnIfNot .bohrang .bohrang [.ifElif .uang .units .angstrom .ubohr .units .bohr],
   .subnIfNot .symmetry .symmetry [.set .fixSymmetry (.lowerGroup .pg)], .keep]

/-- SHAPE [rfl]: `_filter_universals` = four flags cleared, one loop over the lines (strip; com, orient, bohrang, symmetry each tried
only while not yet found, in this order, on every line; non-empty lines kept), remnant joined by newlines -/
theorem shape_universals :
    FromStringFlow.universals = [.initRecon, .initProcessed, .flagFalse .com, .flagFalse .orient, .flagFalse .bohrang, .flagFalse .symmetry,
      .forLines universalsLoop, .retJoin "\n"] := rfl

/-- the line loop of `filter_fragment` -/
def fragmentLoop : List LStmt :=
  [.strip, .subnIfNot .fcgmp .cgmp [.append .fragmentCharges (.floatGroup .chg), .append .fragmentMultiplicities (.intGroup .mult)],
   .sub .unsettled .atomVcart [.unknown "process_atom_unsettled"], .sub .unsettled .atomZmat1 [.unknown "process_atom_unsettled"],
   .sub .unsettled .atomZmat2 [.unknown "process_atom_unsettled"], .sub .unsettled .atomZmat3 [.unknown "process_atom_unsettled"],
   .sub .unsettled .atomZmat4 [.unknown "process_atom_unsettled"], .sub .unsettled .variable [.unknown "process_variable"],
   .sub .settled .atomCartesian [.append .elbl (.strGroup .nucleus), .append .geom (.floatGroup .x), .append .geom (.floatGroup .y),
     .append .geom (.floatGroup .z)], .keep]

/-- SHAPE [rfl]: `_filter_mints` = one loop over the `--`-separated fragments (strip; the FIRST fragment, if it is a lone CHGMULT line,
stores the system charge / multiplicity, every other fragment goes through `filter_fragment`; non-empty remnants kept), nothing after
the loop but the return; `filter_fragment` = fragment separator from the atoms read so far, first CHGMULT line is the fragment's,
Cartesian atom lines consumed, `None`/`None` appended when no CHGMULT line was found -/
theorem shape_mints :
    FromStringFlow.mints = [.initRecon, .initProcessed, .initList .always .elbl, .initList .always .fragmentSeparators,
      .initList .always .fragmentCharges, .initList .always .fragmentMultiplicities, .initList .unsettled .geomUnsettled,
      .initList .unsettled .variables, .initList .settled .geom,
      .forFrags [.stripFrag, .sysOrFragment .cgmp [.set .molecularCharge (.floatGroup .chg), .set .molecularMultiplicity (.intGroup .mult)], .keepFrag],
      .retJoin "\n--\n"] ∧
    FromStringFlow.filterFragment = [.initRecon, .startAtom, .sepIfStart, .flagFalse .fcgmp, .forLines fragmentLoop,
      .ifNotFlag .fcgmp [.append .fragmentCharges .none, .append .fragmentMultiplicities .none], .retJoin "\n"] := ⟨rfl, rfl⟩

/-! ## `_filter_universals` = M1's `univGo` -/

/-- M1's universals state seen as the flags and the record of the source's loop -/
def emb (u : UState) (q : Processed) (rc : List Line) : LState :=
  { fl := { com := u.com, orient := u.ori, bohrang := u.units.isSome, symmetry := u.sym.isSome },
    p := some { q with units := u.units, fixCom := u.com, fixOrient := u.ori, fixSym := u.sym },
    recon := rc, bad := false }

/-- one line of M1's `univGo`: the new state and whether the line stays -/
def uStep (u : UState) (l : Line) : UState × Bool :=
  match l with
  | .com => if u.com then (u, true) else ({ u with com := true }, false)
  | .orient => if u.ori then (u, true) else ({ u with ori := true }, false)
  | .units b => if u.units.isSome then (u, true) else ({ u with units := some b }, false)
  | .sym pg => if u.sym.isSome then (u, true) else ({ u with sym := some pg }, false)
  | _ => (u, true)

theorem univGo_cons (u : UState) (l : Line) (ls : List Line) :
    univGo u (l :: ls) = ((univGo (uStep u l).1 ls).1, (if (uStep u l).2 then [l] else []) ++ (univGo (uStep u l).1 ls).2) := by
  cases l <;> simp only [univGo, uStep] <;> split <;> simp_all

theorem line_step (u : UState) (q : Processed) (rc : List Line) (l : Line) :
    lstmts false universalsLoop (emb u q rc) (some l)
      = emb (uStep u l).1 q (rc ++ (if (uStep u l).2 && l != .blank then [l] else [])) := by
  -- each keyword class consults only its own flag; every other line passes all four `subn` statements unchanged
  cases l with
  | com => cases h : u.com <;> simp [universalsLoop, lstmts, lstmt, emb, uStep, Flags.get, Flags.set, patHits, stores, store1, h]
  | orient => cases h : u.ori <;> simp [universalsLoop, lstmts, lstmt, emb, uStep, Flags.get, Flags.set, patHits, stores, store1, h]
  | units b =>
    cases h : u.units <;> cases b <;>
      simp [universalsLoop, lstmts, lstmt, emb, uStep, Flags.get, Flags.set, patHits, stores, store1, grpTruthy, unitOf, h]
  | sym pg =>
    cases h : u.sym <;> simp [universalsLoop, lstmts, lstmt, emb, uStep, Flags.get, Flags.set, patHits, stores, store1, grpStr, h]
  | _ => simp [universalsLoop, lstmts, lstmt, emb, uStep, Flags.get, patHits]

theorem forLines_universals (ls : List Line) : ∀ (u : UState) (q : Processed) (rc : List Line),
    forLines false universalsLoop (emb u q rc) ls
      = emb (univGo u ls).1 q (rc ++ (univGo u ls).2.filter (· != .blank)) := by
  induction ls with
  | nil => intro u q rc; simp [forLines, univGo]
  | cons l ls ih =>
    intro u q rc
    rw [forLines, line_step, ih, univGo_cons]
    cases h1 : (uStep u l).2 <;> cases h2 : (l != .blank) <;> simp [h2]

/-- M1 drops blank lines before `univGo`; the source drops them in the loop (`if line:`): the same -/
theorem univGo_filter_blank (ls : List Line) : ∀ u : UState,
    univGo u (ls.filter (· != .blank)) = ((univGo u ls).1, (univGo u ls).2.filter (· != .blank)) := by
  induction ls with
  | nil => intro u; simp [univGo]
  | cons l ls ih =>
    intro u
    by_cases hb : l = .blank
    · subst hb; simp [univGo, ih]
    · have : (l != .blank) = true := by simpa using hb
      have hf : (l :: ls).filter (· != Line.blank) = l :: ls.filter (· != Line.blank) := by simp [List.filter, this]
      rw [hf, univGo_cons, univGo_cons, ih]
      cases (uStep u l).2 <;> simp [this]

/-- `_filter_universals` as regenerated from the source, run from a fresh record on ANY list of (stripped,
classified) lines, consumes exactly what M1's `univGo` consumes after blank lines are dropped: same four stored fields, same remnant
lines in the same order, every statement interpreted. -/
theorem universals_flow_eq (ls : List Line) :
    runFilter false FromStringFlow.universals (some {}) ls
      = (some { ({} : Processed) with units := (univGo {} (ls.filter (· != .blank))).1.units,
                                      fixCom := (univGo {} (ls.filter (· != .blank))).1.com,
                                      fixOrient := (univGo {} (ls.filter (· != .blank))).1.ori,
                                      fixSym := (univGo {} (ls.filter (· != .blank))).1.sym },
         (univGo {} (ls.filter (· != .blank))).2, true) := by
  have h : forLines false universalsLoop ({} : LState) ls
      = emb (univGo {} ls).1 {} ((univGo {} ls).2.filter (· != .blank)) := by
    have := forLines_universals ls {} {} []
    rw [List.nil_append] at this
    exact this
  rw [univGo_filter_blank]
  simp only [runFilter, shape_universals, stmts, stmt, Flags.set]
  simp [h, emb]

/-! ## `parse_as_psi4_ish`, `_filter_mints`: kernel tests (the for-all theorems are in Props/C07FlowMints.lean) -/

def np (s : String) : NumParts := (parseNumber s.toList).getD { neg := false, ip := [], fp := [], hasDot := false, exp := none }
def atomL (n : String) (z : String) : Line := .atom n.toList (np "0") (np "0") (np z)

/-- test [decide]: system header + two fragments with their own CHGMULT lines, keywords anywhere, a blank line -/
example : srcPsi4Lines FromStringFlow.prog
      [.cgmp (np "0") "1".toList, .marker, .cgmp (np "-1") "2".toList, atomL "He" "0", .units true, .marker, .blank, atomL "@He" "3", .cgmp (np "1") "2".toList, .com]
    = parsePsi4Lines
      [.cgmp (np "0") "1".toList, .marker, .cgmp (np "-1") "2".toList, atomL "He" "0", .units true, .marker, .blank, atomL "@He" "3", .cgmp (np "1") "2".toList, .com] := by
  decide

/-- test [decide]: leftover text (a second units line, a second CHGMULT line in one fragment) is MoleculeFormatError in both -/
example : srcPsi4Lines FromStringFlow.prog [.units true, atomL "He" "0", .units false] = .formatError ∧
    parsePsi4Lines [.units true, atomL "He" "0", .units false] = .formatError ∧
    srcPsi4Lines FromStringFlow.prog [.cgmp (np "0") "1".toList, atomL "He" "0", .cgmp (np "0") "1".toList] = .formatError ∧
    parsePsi4Lines [.cgmp (np "0") "1".toList, atomL "He" "0", .cgmp (np "0") "1".toList] = .formatError := by
  decide

/-- test [decide]: no atom at all; a lone CHGMULT line is the system header only in the FIRST fragment -/
example : srcPsi4Lines FromStringFlow.prog [] = parsePsi4Lines [] ∧
    srcPsi4Lines FromStringFlow.prog [atomL "He" "0", .marker, .cgmp (np "0") "1".toList] = parsePsi4Lines [atomL "He" "0", .marker, .cgmp (np "0") "1".toList] ∧
    srcPsi4Lines FromStringFlow.prog [.pubchem] = .outOfScope := by
  decide

end QcelVerif.C07Flow
