import QcelVerif.Lemmas.Orient
import Mathlib.Tactic.NormNum

/-!
# C16 — orientation puts a molecule in a canonical inertial frame without distorting it

Property theorems about the model `Model/Orient.lean`.

`V` (the eigenvector matrix returned by `numpy.linalg.eigh`) is a parameter everywhere; what the
theorems assume about it (`Orth V`, `Vᵀ T V = diag l`) is the certificate `isEigFrame … 0 0` at tolerance 0; the
driver certifies each `eigh` call only up to residuals of ~1e-15, for which `Props/C16Approx.lean` gives the
explicit-ε versions.
All statements hold for any number of atoms and over any field of the stated kind (ℚ and ℝ included).
-/

namespace QcelVerif.Orient

section Ordered
variable {K : Type} [Field K] [LinearOrder K] [IsStrictOrderedRing K]

/-- unfolding of a successful run -/
theorem orientCore_ok {noise : K} {ms : List K} {xs : List (V3 K)} {V : M3 K} {out : List (V3 K)}
    (h : orientCore noise ms xs V = .ok out) :
    ms.length = xs.length ∧ massSum ms ≠ 0 ∧ out = phase noise (rotate (center ms xs) V) := by
  unfold orientCore at h
  split_ifs at h with h1 h2
  · injection h with h
    exact ⟨not_not.mp h1, h2, h.symm⟩

theorem orientCore_length {noise : K} {ms : List K} {xs : List (V3 K)} {V : M3 K} {out : List (V3 K)}
    (h : orientCore noise ms xs V = .ok out) : out.length = xs.length := by
  obtain ⟨_, _, rfl⟩ := orientCore_ok h
  simp [phase, rotate, center]

/-- the model refuses (ZeroDivisionError) exactly when the masses sum to zero — it never "repairs" -/
theorem orientCore_zero_mass {noise : K} {ms : List K} {xs : List (V3 K)} {V : M3 K}
    (hl : ms.length = xs.length) (h : massSum ms = 0) : orientCore noise ms xs V = .error .zeroDivision := by
  simp [orientCore, hl, h]

omit [IsStrictOrderedRing K] in
/-- … and otherwise it centres, rotates and fixes the phases -/
theorem orientCore_eq {noise : K} {ms : List K} {xs : List (V3 K)} (V : M3 K)
    (hl : ms.length = xs.length) (hM : massSum ms ≠ 0) :
    orientCore noise ms xs V = .ok (phase noise (rotate (center ms xs) V)) := by
  simp [orientCore, hl, hM]

/-! ## 1. centre of mass at the origin -/

/-- **Centring.**  Whatever `V` is, the mass-weighted sum of the oriented coordinates is zero. -/
theorem orient_com_zero {noise : K} {ms : List K} {xs : List (V3 K)} {V : M3 K} {out : List (V3 K)}
    (h : orientCore noise ms xs V = .ok out) : wsum ms out = V3.zero := by
  obtain ⟨hl, hM, rfl⟩ := orientCore_ok h
  rw [phaseLoop_eq_colSign, wsum_map_flip, rotate, wsum_map_mulMat, wsum_center hl hM, mulMat_zero, flip_zero]

/-- so the tensor a second call hands to `eigh` is the inertia tensor of the oriented geometry as it stands -/
theorem orientTensor_oriented {noise : K} {ms : List K} {xs : List (V3 K)} {V : M3 K} {out : List (V3 K)}
    (h : orientCore noise ms xs V = .ok out) : orientTensor ms out = inertia ms out := by
  rw [orientTensor, center_of_centred (orient_com_zero h)]

/-! ## 2. no distortion -/

/-- **Isometry.**  If `V Vᵀ = 1`, the oriented geometry is the image of the input under one map `f`
(translate, rotate, flip signs) that preserves every squared distance. -/
theorem orient_isometry {noise : K} {ms : List K} {xs : List (V3 K)} {V : M3 K} {out : List (V3 K)}
    (hV : M3.mul V (M3.tr V) = M3.one) (h : orientCore noise ms xs V = .ok out) :
    ∃ f : V3 K → V3 K, out = xs.map f ∧ ∀ p q, V3.distSq (f p) (f q) = V3.distSq p q := by
  obtain ⟨_, _, rfl⟩ := orientCore_ok h
  let g1 := rotate (center ms xs) V
  refine ⟨fun p => V3.flip (colSign noise (g1.map (·.x))) (colSign noise (g1.map (·.y))) (colSign noise (g1.map (·.z)))
      (V3.mulMat (V3.sub p (com ms xs)) V), ?_, ?_⟩
  · rw [phaseLoop_eq_colSign]
    simp only [rotate, center, List.map_map, g1]
    rfl
  · intro p q
    rw [distSq_flip (colSign_sq _ _) (colSign_sq _ _) (colSign_sq _ _), distSq_mulMat hV, distSq_sub_right]

/-- indexed form: every interatomic squared distance is preserved -/
theorem orient_isometry_get {noise : K} {ms : List K} {xs : List (V3 K)} {V : M3 K} {out : List (V3 K)}
    (hV : M3.mul V (M3.tr V) = M3.one) (h : orientCore noise ms xs V = .ok out)
    (i j : Nat) (hi : i < xs.length) (hj : j < xs.length) :
    ∃ (hi' : i < out.length) (hj' : j < out.length), V3.distSq out[i] out[j] = V3.distSq xs[i] xs[j] := by
  obtain ⟨f, rfl, hf⟩ := orient_isometry hV h
  refine ⟨by simpa using hi, by simpa using hj, ?_⟩
  simp [hf]

/-- For **any** `V` the distortion of a squared distance is the quadratic form of `V Vᵀ - 1`:
the certified residual `‖VVᵀ - 1‖ ≤ ε` bounds it by `3 ε |p - q|²` (`isometry_approx`). -/
theorem isometry_defect {R : Type} [CommRing R] (p q : V3 R) (V : M3 R) :
    V3.distSq (V3.mulMat p V) (V3.mulMat q V) - V3.distSq p q
      = V3.dot (V3.mulMat (V3.sub p q) (M3.sub (M3.mul V (M3.tr V)) M3.one)) (V3.sub p q) := by
  simp only [V3.distSq]
  rw [← mulMat_sub, normSq_mulMat_defect]

/-! ## 2b. what the per-call certificate buys (no exactness assumed) -/

/-- **Certified distortion bound.**  If the residual the driver computes satisfies
`‖V Vᵀ - 1‖_max ≤ ε`, the rotation step changes every squared distance by at most `3 ε` times itself. -/
theorem isometry_approx {V : M3 K} {ε : K} (h : M3.maxAbs (M3.sub (M3.mul V (M3.tr V)) M3.one) ≤ ε) (p q : V3 K) :
    |V3.distSq (V3.mulMat p V) (V3.mulMat q V) - V3.distSq p q| ≤ 3 * ε * V3.distSq p q := by
  rw [isometry_defect]
  have := bilin_bound h (V3.sub p q) (V3.sub p q)
  rw [V3.distSq]
  linarith

/-- the certificate the driver evaluates, at tolerance 0, is exactly the hypotheses used above -/
theorem isEigFrame_exact {T V : M3 K} {l : V3 K} (h : isEigFrame T V l 0 0 = true) :
    Orth V ∧ M3.mul (M3.mul (M3.tr V) T) V = M3.diag l.x l.y l.z ∧ l.x ≤ l.y ∧ l.y ≤ l.z := by
  obtain ⟨⟨h1, h2, h3⟩, h4, h5⟩ := isEigFrame_iff.mp h
  exact ⟨⟨maxAbs_sub_le_zero.mp h1, maxAbs_sub_le_zero.mp h2⟩, maxAbs_sub_le_zero.mp h3, h4, h5⟩

/-! ## 3. the inertia tensor -/

/-- **Transformation law** `I(xV) = Vᵀ I(x) V` for orthogonal `V` (any commutative ring, any atoms). -/
theorem inertia_transforms {R : Type} [CommRing R] {V : M3 R} (hV : Orth V) : ∀ (ms : List R) (g : List (V3 R)),
    inertia ms (rotate g V) = M3.mul (M3.mul (M3.tr V) (inertia ms g)) V :=
  inertia_rotate hV

/-- **Diagonal tensor, certified eigenvalues as moments.**  If `V` is orthogonal and `Vᵀ T V = diag l`
for `T` the tensor the code hands to `eigh`, then the inertia tensor of the oriented geometry (whose
centre of mass is the origin by `orient_com_zero`) is exactly `diag l`; ascending `l` = ascending moments. -/
theorem orient_inertia_diagonal {noise : K} {ms : List K} {xs : List (V3 K)} {V : M3 K} {out : List (V3 K)} {l : V3 K}
    (hV : Orth V) (hD : M3.mul (M3.mul (M3.tr V) (orientTensor ms xs)) V = M3.diag l.x l.y l.z)
    (h : orientCore noise ms xs V = .ok out) :
    inertia ms out = M3.diag l.x l.y l.z ∧ (l.x ≤ l.y → l.y ≤ l.z → (inertia ms out).xx ≤ (inertia ms out).yy ∧ (inertia ms out).yy ≤ (inertia ms out).zz) := by
  obtain ⟨_, _, rfl⟩ := orientCore_ok h
  have key : inertia ms (phase noise (rotate (center ms xs) V)) = M3.diag l.x l.y l.z := by
    have hD' : sandwich V (inertia ms (center ms xs)) = M3.diag l.x l.y l.z := hD
    rw [phaseLoop_eq_colSign, inertia_flip (colSign_sq _ _) (colSign_sq _ _) (colSign_sq _ _), inertia_rotate hV, hD', sandwich_diag_diag,
      colSign_sq, colSign_sq, colSign_sq, one_mul, one_mul, one_mul]
  refine ⟨key, ?_⟩
  intro h1 h2
  rw [key]
  exact ⟨h1, h2⟩

/-! ## 4. the phase convention — exactly what the loop does (`phaseLoop_eq_colSign`, stated in `Lemmas/Orient.lean`) -/

/-- **Sign convention.**  In every column of the phased geometry, if `v` is the first entry that is
not within `noise` of the coordinate plane (all entries before it are), then `v ≥ noise`. -/
theorem phase_convention {noise : K} (g : List (V3 K)) (proj : V3 K → K)
    (hproj : proj = (·.x) ∨ proj = (·.y) ∨ proj = (·.z))
    (pre : List K) (v : K) (suf : List K)
    (hcol : (phase noise g).map proj = pre ++ v :: suf) (hpre : ∀ u ∈ pre, |u| < noise) (hv : ¬ |v| < noise) :
    noise ≤ v := by
  rw [phaseLoop_eq_colSign] at hcol
  rcases hproj with rfl | rfl | rfl
  · rw [map_x_flip] at hcol; exact colSign_spec _ pre v suf hcol hpre hv
  · rw [map_y_flip] at hcol; exact colSign_spec _ pre v suf hcol hpre hv
  · rw [map_z_flip] at hcol; exact colSign_spec _ pre v suf hcol hpre hv

/-- the loop does nothing but negate whole columns -/
theorem phase_column_pm (noise : K) (g : List (V3 K)) :
    ((phase noise g).map (·.x) = g.map (·.x) ∨ (phase noise g).map (·.x) = (g.map (·.x)).map (-1 * ·)) ∧
    ((phase noise g).map (·.y) = g.map (·.y) ∨ (phase noise g).map (·.y) = (g.map (·.y)).map (-1 * ·)) ∧
    ((phase noise g).map (·.z) = g.map (·.z) ∨ (phase noise g).map (·.z) = (g.map (·.z)).map (-1 * ·)) := by
  have pm : ∀ l : List K, l.map (colSign noise l * ·) = l ∨ l.map (colSign noise l * ·) = l.map (-1 * ·) := by
    intro l
    rcases colSign_pm noise l with h | h <;> rw [h] <;> simp
  rw [phaseLoop_eq_colSign, map_x_flip, map_y_flip, map_z_flip]
  exact ⟨pm _, pm _, pm _⟩

/-! ## 5. non-geometric fields -/

/-- **Only the geometry is assigned.** -/
theorem nongeometric_untouched {α : Type} {noise : K} {m m' : Mol K α} {V : M3 K}
    (h : orientMol noise m V = .ok m') :
    m'.masses = m.masses ∧ m'.rest = m.rest ∧ orientCore noise m.masses m.geometry V = .ok m'.geometry := by
  unfold orientMol at h
  split at h
  · rename_i g hg
    injection h with h
    subst h
    exact ⟨rfl, rfl, hg⟩
  · cases h

/-! ## 6. uniqueness consequences, with eigen-frame uniqueness as a hypothesis

The hypothesis is proved, and both theorems are stated without it, in `Props/C16Unique.lean`. -/

/-- **Rigid invariance (partial).**  `ys = xs R + t` with `R` orthogonal.  Hypothesis standing for
"distinct moments ⇒ principal axes unique up to sign": the eigenvectors found for the moved copy are
`V' = Rᵀ V D` with `D = diag(±1)`; and every column whose sign differs has an atom off the plane.
Then both copies orient to exactly the same coordinates.
Full statement (the hypothesis derived from exact certificates with `l.x < l.y < l.z`):
`orient_rigid_invariant` in `Props/C16Unique.lean`. -/
theorem orient_rigid_invariant_partial {noise : K} (h0 : 0 < noise) {ms : List K} {xs : List (V3 K)}
    {R V : M3 K} (t : V3 K) {dx dy dz : K}
    (hl : ms.length = xs.length) (hM : massSum ms ≠ 0) (hR : M3.mul R (M3.tr R) = M3.one)
    (hx : ColOK noise dx ((rotate (center ms xs) V).map (·.x)))
    (hy : ColOK noise dy ((rotate (center ms xs) V).map (·.y)))
    (hz : ColOK noise dz ((rotate (center ms xs) V).map (·.z))) :
    orientCore noise ms (xs.map (fun p => V3.add (V3.mulMat p R) t)) (M3.mul (M3.mul (M3.tr R) V) (M3.diag dx dy dz))
      = orientCore noise ms xs V := by
  rw [orientCore_eq _ (by simpa using hl) hM, orientCore_eq _ hl hM, center_rigid hl hM]
  have : rotate ((center ms xs).map (fun p => V3.mulMat p R)) (M3.mul (M3.mul (M3.tr R) V) (M3.diag dx dy dz))
      = (rotate (center ms xs) V).map (V3.flip dx dy dz) := by
    simp only [rotate, List.map_map]
    apply List.map_congr_left
    intro p _
    simp only [Function.comp]
    rw [mulMat_mulMat, ← mul_assoc3, ← mul_assoc3, hR, one_mul3, ← mulMat_mulMat, mulMat_diag]
  rw [this, phase_flip h0 _ hx hy hz]

/-- **Idempotence (partial).**  `out` an oriented geometry.  Hypothesis standing for "its tensor is
`diag l` with distinct `l`, so a second `eigh` can only return `±` unit vectors": `V2 = diag(±1)`; and
every column whose sign is `-1` has an atom off the plane.  Then orienting again returns `out` itself.
Full statement (`V2 = diag(±1)` derived): `orient_idempotent` in `Props/C16Unique.lean`.
-- FULL: the statement is about exact arithmetic — the implementation re-orients the *rounded*
--        geometry, for which the claim is false on a narrow input class (see Finding
--        `oracle:idempotent_flushed_decider`). -/
theorem orient_idempotent_partial {noise : K} (h0 : 0 < noise) {ms : List K} {xs : List (V3 K)} {V : M3 K}
    {out : List (V3 K)} {dx dy dz : K} (h : orientCore noise ms xs V = .ok out)
    (hx : ColOK noise dx (out.map (·.x))) (hy : ColOK noise dy (out.map (·.y))) (hz : ColOK noise dz (out.map (·.z))) :
    orientCore noise ms out (M3.diag dx dy dz) = .ok out := by
  have hc := orient_com_zero h
  obtain ⟨hl, hM, hout⟩ := orientCore_ok h
  rw [orientCore_eq _ (hl.trans (orientCore_length h).symm) hM, center_of_centred hc, ← map_flip, phase_flip h0 _ hx hy hz, hout, phase_phase]

end Ordered

/-! ## 7. rounding of sub-noise columns -/
section Floor
variable {K : Type} [Field K] [LinearOrder K] [IsStrictOrderedRing K] [FloorRing K]

theorem roundHalfEven_small {t : K} (h : |t| < 1) : (roundHalfEven t).natAbs ≤ 1 := by
  have h1 : (-1 : K) < t := (abs_lt.mp h).1
  have h2 : t < 1 := (abs_lt.mp h).2
  have hf1 : -1 ≤ Int.floor t := Int.le_floor.mpr (by push_cast; linarith)
  have hf2 : Int.floor t < 1 := Int.floor_lt.mpr (by push_cast; linarith)
  unfold roundHalfEven
  simp only
  split_ifs <;> omega

/-- entries within `10⁻⁸` of a plane are printed as exact zeros by `float_prep(·, 8)`, whatever their
sign: columns in which no atom is off-plane (planar and linear molecules) come out identically zero. -/
theorem floatPrep_small {v : K} (h : |v| < 1 / 10 ^ 8) : floatPrepK 8 v = 0 := by
  have ht : |v * (10 : K) ^ 8| < 1 := by
    rw [abs_mul, abs_of_pos (by positivity : (0 : K) < 10 ^ 8)]
    have : |v| * 10 ^ 8 < 1 / 10 ^ 8 * 10 ^ 8 := mul_lt_mul_of_pos_right h (by positivity)
    simpa using this
  have := roundHalfEven_small ht
  unfold floatPrepK
  simp only
  rw [if_pos]
  calc (roundHalfEven (v * (10 : K) ^ 8)).natAbs * 5 ^ (8 + 1) ≤ 1 * 5 ^ (8 + 1) := Nat.mul_le_mul_right _ this
    _ < 10 ^ 8 := by norm_num

end Floor

/-! ## non-vacuity: the hypotheses are met by non-trivial concrete values (tests, `K = ℚ`) -/
section Examples

/-- a permutation-with-sign matrix is orthogonal and is not the identity -/
example : Orth (⟨0, 1, 0, 0, 0, -1, 1, 0, 0⟩ : M3 ℚ) := by
  constructor <;> decide +kernel

/-- test: a bent triatomic (masses 1, 1, 2) whose axes are already principal (`V = 1` is an
eigen-frame with ascending distinct eigenvalues) but whose first atom is negative in x and y. -/
def exMs : List ℚ := [1, 1, 2]
def exXs : List (V3 ℚ) := [⟨-2, -1, 0⟩, ⟨-2, 1, 0⟩, ⟨2, 0, 0⟩]

example : massSum exMs ≠ 0 ∧ exMs.length = exXs.length := by decide +kernel
example : Orth (M3.one : M3 ℚ) := by constructor <;> decide +kernel
example : M3.mul (M3.mul (M3.tr M3.one) (orientTensor exMs exXs)) M3.one = M3.diag (2 : ℚ) 16 18 := by decide +kernel
/-- test: the exact certificate holds for the example (`isEigFrame_exact` is not vacuous) -/
example : isEigFrame (orientTensor exMs exXs) M3.one ⟨2, 16, 18⟩ 0 0 = true := by decide +kernel
/-- test: both columns are flipped so that the first off-plane atom is positive; the third column
(no atom off the plane) is untouched -/
example : orientCore (1 / 100000000) exMs exXs M3.one = .ok [⟨2, 1, 0⟩, ⟨2, -1, 0⟩, ⟨-2, 0, 0⟩] := by decide +kernel
/-- test: rotated by π about z (`R = diag(-1,-1,1)`) and translated, with the eigenvectors `Rᵀ V D`,
`D = 1`: the same coordinates result (instance of `orient_rigid_invariant_partial`) -/
example : orientCore (1 / 100000000) exMs [⟨2 + 5, 1 - 3, 1 / 7⟩, ⟨2 + 5, -1 - 3, 1 / 7⟩, ⟨-2 + 5, 0 - 3, 1 / 7⟩] (M3.diag (-1) (-1) 1)
    = orientCore (1 / 100000000) exMs exXs M3.one := by decide +kernel
/-- test: `ColOK` with `d = -1` is satisfiable (column x of the example has an off-plane atom) -/
example : ColOK (1 / 100000000 : ℚ) (-1) (exXs.map (·.x)) := Or.inr ⟨rfl, -2, by decide +kernel, by decide +kernel⟩
/-- test: orienting the oriented example again with `V2 = diag(-1, 1, 1)` returns it unchanged -/
example : orientCore (1 / 100000000) exMs [⟨2, 1, 0⟩, ⟨2, -1, 0⟩, ⟨-2, 0, 0⟩] (M3.diag (-1) 1 1)
    = .ok [⟨2, 1, 0⟩, ⟨2, -1, 0⟩, ⟨-2, 0, 0⟩] := by decide +kernel

/-! ### the flushed-decider class (harness Findings `oracle:sign_convention_flushed_decider`,
`oracle:idempotent_flushed_decider`) — a concrete witness that the *printed* geometry can violate the
sign convention.  Three unit masses, planar, centred, tensor exactly diagonal with ascending distinct
moments (so `V = 1` is a legitimate `eigh` answer); atom 0 is 3·10⁻⁷ off the plane y = 0. -/
def bandEps : ℚ := 3 / 10000000
def bandX1 : ℚ := -3 * (1 - 2 * bandEps) / (1 + bandEps)
def bandXs : List (V3 ℚ) := [⟨-bandX1 + 3, bandEps, 0⟩, ⟨bandX1, -1, 0⟩, ⟨-3, 1 - bandEps, 0⟩]

example : wsum [1, 1, 1] bandXs = V3.zero := by decide +kernel
example : (orientTensor [1, 1, 1] bandXs).xy = 0 ∧ (orientTensor [1, 1, 1] bandXs).xz = 0 ∧ (orientTensor [1, 1, 1] bandXs).yz = 0
    ∧ (orientTensor [1, 1, 1] bandXs).xx < (orientTensor [1, 1, 1] bandXs).yy
    ∧ (orientTensor [1, 1, 1] bandXs).yy < (orientTensor [1, 1, 1] bandXs).zz := by decide +kernel
/-- atom 0 decides the sign of column y (3·10⁻⁷ ≥ 10⁻⁸, positive: no flip) but `float_prep(·, 8)`
prints it as 0 (3·10⁻⁷ < 5⁻⁹ = 5.12·10⁻⁷); in the printed geometry the first atom with a non-zero y
coordinate (atom 1) is negative. -/
theorem flushed_decider_witness :
    (orientCore (1 / 100000000) [1, 1, 1] bandXs M3.one).map (floatPrepGeom 8)
      = .ok [(599999730, 0, 0), (-299999730, -100000000, 0), (-300000000, 99999970, 0)] := by decide +kernel

end Examples

end QcelVerif.Orient
