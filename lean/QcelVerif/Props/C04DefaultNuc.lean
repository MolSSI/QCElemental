import QcelVerif.Props.C04C06
import QcelVerif.Lemmas.NuclideRuns
/-!
# C04 — an isotope given by its mass number only is self-consistent

The class treated here: a mass number supplied (argument `elea` or label `2H`) WITHOUT a mass (the
self-consistency theorems of `Props/C04C06.lean` need a mass clue or no isotope clue at all).  The answer
then carries `A` = the supplied number and, as mass, the first candidate inside the window of `E+str(A)`: the element's default mass (first candidate, nucleus.py:203) if it lies within
`mtol` of the tabulated mass of `A`, else that tabulated mass.  Fed back, the mass must re-derive `A`
(`massToA`, nucleus.py:237-246).  That holds when

  * (T1) every tabulated mass rounds (half-even) to its own mass number, and
  * (T2) the default mass of an element is not within the window of any OTHER nuclide of the element,

two facts about the periodic table (`IsotopesReDerive N rd rng B`, `B` = the widest window for which (T2)
is claimed).  General theorem here (any table, any odd rounding function): `rederives_of_A_clue`.
The facts are decided for the shipped table under `rd64` with `B = isoB = 0.9865 u` by kernel evaluation,
element by element over the tabulated mass-number range (`elementIsoOk`; `Props/C04DefaultTab{A..E}.lean`).

Core Lean only.
-/
namespace QcelVerif.Nucleus
open QcelVerif.PStr

/-- **(T1) + (T2) for a table**, over the mass numbers the physical-range test admits
(`A = −1` or `amin ≤ A ≤ amax`, nucleus.py:195): whenever `E + str(a)` is tabulated, its (rounded) mass
`tm` rounds half-even to `a`, and the element's default mass `zm` is either that very mass or further
than `B` away from it (float-evaluated, as `offer_mass_number`'s test evaluates it). -/
def IsotopesReDerive (N : NTables) (rd : Rat → Rat) (rng : Nat → Option Range) (B : Rat) : Prop :=
  ∀ (z : Int) (sym : Nat) (zm : Rat) (r : Range) (a : Int) (tm : Rat),
    N.pt.toE (.int z) false = some sym → tableMass N rd (.int z) = .ok zm → rng sym = some r →
    (a = -1 ∨ (r.amin ≤ a ∧ a ≤ r.amax)) →
    tableMass N rd (.str (unpack sym ++ intStr a)) = .ok tm →
    roundHalfEven tm = a ∧ (tm = zm ∨ B < absR (rd (zm - tm)))

/-- **A mass number supplied without a mass re-derives itself** — ANY table with (T1)+(T2) up to `B`, ANY
odd rounding function, ANY input with `nonphysical = False` and `0 ≤ mtol ≤ B` that carries a mass-number
clue (argument or label) and no mass clue: the returned mass, read back as a mass clue, suggests exactly
the returned mass number (`massToA … o.mass = o.A`), and it IS the tabulated mass of `E+str(A)`. -/
theorem rederives_of_A_clue (N : NTables) (rd : Rat → Rat) (rng : Nat → Option Range) (B : Rat)
    (hiso : IsotopesReDerive N rd rng B) (hodd : ∀ x, rd (-x) = -(rd x))
    (i : Input) (o : Output) (h : reconcileWith N rd rng i = .ok o)
    (hnp : i.nonphysical = false) (hm0 : 0 ≤ i.mtol.val) (hmB : i.mtol.val ≤ B)
    (a : Int) (hA : ClaimsA i a) (hM : ∀ m, ¬ ClaimsMass rd i m) :
    massToA N rd o.E i.mtol.val o.mass = o.A ∧
    tableMass N rd (.str (unpack o.E ++ intStr o.A)) = .ok o.mass := by
  have S := reconcileWith_spec h
  obtain ⟨rfl, tm, htm, hnear⟩ := S.claimA a hA
  obtain ⟨x, hoff, h1, _⟩ := S.offer
  obtain ⟨_, hxE, hxm, _, r, hr0, hap, _⟩ := offerZ_ok hoff
  have hrange : o.A = -1 ∨ (r.amin ≤ o.A ∧ o.A ≤ r.amax) := by
    rw [hap, hnp] at h1
    simpa [APred.holds] using h1
  obtain ⟨hround, hfar⟩ := hiso o.Z o.E x.zMass r o.A tm S.E hxm (Option.some.inj (S.E.symm.trans hxE) ▸ hr0) hrange htm
  -- the returned mass is the tabulated mass of `E + str(A)`
  have hmass : o.mass = tm := by
    rcases S.massFrom with hz | ⟨a', hA', htm'⟩ | hM'
    · have e : x.zMass = o.mass := Except.ok.inj (hxm.symm.trans hz)
      rcases hfar with heq | hgt
      · exact e ▸ heq.symm
      · exact absurd (Rat.le_trans hnear hmB) (Rat.not_le.mpr (e ▸ hgt))
    · rw [← (S.claimA a' hA').1, htm] at htm'
      exact (Except.ok.inj htm').symm
    · exact absurd hM' (hM _)
  have hkey : tableMass N rd (.str (unpack o.E ++ intStr (roundHalfEven o.mass))) = .ok o.mass := by
    rw [hmass, hround]; exact htm
  refine ⟨?_, hmass ▸ htm⟩
  rw [massToA_of_table N rd hodd o.E hm0 hkey, hmass, hround]

end QcelVerif.Nucleus

namespace QcelVerif.FromArrays
open QcelVerif.PStr QcelVerif.Nucleus

/-- through the adapter: an answer to clues that carry a mass number (argument or label) and no mass is
`SelfConsistent`, given (T1)+(T2) up to `B ≥ mtol ≥ 0`, `nonphysical = False`, and a rounding function
that is odd and a projection -/
theorem selfConsistent_of_A_clue (N : NTables) (rd : Rat → Rat) (rng : Nat → Option Range) (B : Rat)
    (hiso : IsotopesReDerive N rd rng B) (hodd : ∀ x, rd (-x) = -(rd x)) (hidem : ∀ x, rd (rd x) = rd x)
    (st : NucSettings) (c : Clue) (u : Nuc) (h : reconOfC06With N rd rng st c = .ok u)
    (hnp : st.nonphysical = false) (hm0 : 0 ≤ st.mtol) (hmB : st.mtol ≤ B)
    (a : Int) (hA : ClaimsA (toInput st c) a) (hM : ∀ m, ¬ ClaimsMass rd (toInput st c) m) :
    SelfConsistent N rd st.mtol u := by
  obtain ⟨o, ho, rfl⟩ := reconOfC06With_ok h
  refine ⟨mass_rounded hidem ho, ?_⟩
  rw [massToAStr_toNuc]
  exact (rederives_of_A_clue N rd rng B hiso hodd (toInput st c) o ho hnp hm0 hmB a hA hM).1

/-! ## the table facts, decided element by element (shipped table, `rd64`, `B = isoB`) -/

/-- the widest window for which (T2) is decided -/
def isoB : Rat := 9865 / 10000

/-- a binary64 number between `isoB` and the least distance that occurs in the table (He-3 / He-4: 0.98657 u) -/
def isoC : Rat := 16163 / 16384

/-- one candidate nuclide `sym + str(a)`: not tabulated, or its mass rounds to `a` and the element's default
mass `zm` is that mass or at least `isoC` from it.  The distance is the exact one: rounding it cannot take it below the
binary64 number `isoC`, hence not to `isoB` (the hypothesis `hfar` of `isotopesReDerive_of_rows`), and one `rd64` per
nuclide need not be evaluated. -/
def isoOk (sym : Nat) (zm : Rat) (a : Int) : Bool :=
  match tableMass shippedN rd64 (.str (unpack sym ++ intStr a)) with
  | .error _ => true
  | .ok tm => roundHalfEven tm == a && (tm == zm || decide (isoC ≤ absR (zm - tm)))

/-- element row check: every mass number the physical-range test admits (−1 and `amin … amax`) passes `isoOk`; the range is
`shippedRange` (`= elRange shippedN rd64`, Lemmas/NuclideRuns.lean), which spares a pass over the nuclide table per element -/
def elementIsoOk (r : Nat × Nat × Nat) : Bool :=
  match shippedN.pt.toE (.int (r.1 : Int)) false, tableMass shippedN rd64 (.int (r.1 : Int)) with
  | some sym, .ok zm =>
    match shippedRange sym with
    | some rg => ((-1) :: ChgMult.irange rg.amin rg.amax).all (isoOk sym zm)
    | none => true
  | _, _ => true

/-- the row checks give (T1)+(T2) for the shipped table -/
theorem isotopesReDerive_of_rows (hfar : ∀ x, isoC ≤ absR x → isoB < absR (rd64 x))
    (hrows : Gen.PT.elements.all elementIsoOk = true) :
    IsotopesReDerive shippedN rd64 (elRange shippedN rd64) isoB := by
  intro z sym zm r a tm hE hzm hr hrange htm
  obtain ⟨row, hrow, hz⟩ := row_of_toE hE
  have hok := (List.all_eq_true.mp hrows) row hrow
  rw [elRange_shipped] at hr
  unfold elementIsoOk at hok
  simp only [hz, hE, hzm, hr] at hok
  have hmem : a ∈ (-1) :: ChgMult.irange r.amin r.amax := by
    rcases hrange with rfl | ⟨h1, h2⟩
    · exact List.mem_cons_self
    · exact List.mem_cons_of_mem _ ((ChgMult.mem_irange _ _ _).2 ⟨h1, h2⟩)
  have := (List.all_eq_true.mp hok) a hmem
  unfold isoOk at this
  simp only [htm, Bool.and_eq_true, Bool.or_eq_true, beq_iff_eq, decide_eq_true_eq] at this
  exact ⟨this.1, this.2.imp id (hfar _)⟩

/-- chunks of a list checked separately give the whole list -/
theorem all_drop_of_chunk {α} (f : α → Bool) (l : List α) (k n : Nat)
    (h1 : ((l.drop k).take n).all f = true) (h2 : (l.drop (k + n)).all f = true) :
    (l.drop k).all f = true := by
  have e := List.take_append_drop n (l.drop k)
  rw [← e, List.all_append, h1, List.drop_drop, h2]
  rfl

end QcelVerif.FromArrays
