import QcelVerif.Lemmas.UnitNamesChk
/-! C03 text level: every listed spelling of these table units resolves to its unit over the regenerated registry names, or is one of
the eight collisions of `collisionTable` (kernel evaluation, one table unit per lemma).  `spellingsOf_all` in `Props/C03Text.lean`
assembles these per-unit checks. -/
namespace QcelVerif.Units.Text

theorem sp_debye : (spellingsOf .debye).all chk = true := by decide +kernel
theorem sp_newton : (spellingsOf .newton).all chk = true := by decide +kernel
theorem sp_dyne : (spellingsOf .dyne).all chk = true := by decide +kernel
theorem sp_pascal : (spellingsOf .pascal).all chk = true := by decide +kernel
theorem sp_bar : (spellingsOf .bar).all chk = true := by decide +kernel
theorem sp_atm : (spellingsOf .atm).all chk = true := by decide +kernel
theorem sp_torr : (spellingsOf .torr).all chk = true := by decide +kernel
theorem sp_volt : (spellingsOf .volt).all chk = true := by decide +kernel
theorem sp_tesla : (spellingsOf .tesla).all chk = true := by decide +kernel
theorem sp_farad : (spellingsOf .farad).all chk = true := by decide +kernel
theorem sp_watt : (spellingsOf .watt).all chk = true := by decide +kernel
theorem sp_auPressure : (spellingsOf .auPressure).all chk = true := by decide +kernel

end QcelVerif.Units.Text
