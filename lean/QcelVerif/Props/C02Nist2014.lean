import QcelVerif.Lemmas.CodataBuild
import QcelVerif.Gen.Codata2014
/-! C02 table theorems, CODATA 2014 (kernel evaluation over the generated tables; re-checked whenever
the data files change). -/
namespace QcelVerif.Codata
open QcelVerif

/-- **The shipped 2014 table is NIST's published ASCII table** (`raw_data/nist_data/codata-2014.txt`):
row for row, in order, none missing or extra — key = lower-cased name, same name, same value text
after deleting blanks and the `...` of exact values (hence the same Decimal digits and exponent),
same uncertainty text, unit equal up to `{}` exponent markup. -/
theorem shipped_eq_nist_2014 :
    tableMatchesTxt Gen.Codata2014.shipped Gen.Codata2014.raw = true :=
  tableMatchesTxt_of_pairs (by decide +kernel)

/-- test (not a property): the table is not empty — 335 rows -/
example : Gen.Codata2014.shipped.length = 335 := by decide +kernel

end QcelVerif.Codata
