import QcelVerif.Gen.MolSchemaSrc
import QcelVerif.Props.C09
/-!
# C09 — the hand model of the schema translators computes what the SOURCE-DERIVED terms compute

`Gen/MolSchemaSrc.lean` is rewritten on every run by `harness/c09_src.py:gen_molschema_src`, which reads by python `ast`
(never by importing) `to_schema` (qcelemental/molparse/to_schema.py: geometry copy, unit chain, `nat`, `name`, the
`dtype in [1, 2]` branch with every `molecule[...] = ...` statement, the dtype 1 / 2 layouts, the refusal of other dtypes,
`unnp`), `from_schema` (qcelemental/molparse/from_schema.py: the name / version chain, the fragment pattern, every keyword of
the `contiguize_from_fragment_pattern` and `from_arrays` calls, the stamp) and `_filter_defaults`
(qcelemental/models/molecule.py), and emits them as terms of the small syntax of `Model/MolSchemaAst.lean`.

This file proves, for ALL records and ALL schema dictionaries, that the generic evaluator AT THE GENERATED TERMS equals
`Model/MolSchema.lean`'s `toSchema` / `fromSchemaArgs` (for every `np_out` and `copy` flag, and that the caller's record keeps
its geometry) and restates the round-trip and Bohr-geometry theorems of `Props/C09.lean` over the source-derived functions.
`_filter_defaults` is tied in `Props/C09SrcFilter.lean` (evaluator `Model/MolDictAst.lean`).
A change of any of these regions in the source changes a generated term (or is refused by the translator) and breaks an
obligation here, whether or not a generated molecule exposes it.
-/
namespace QcelVerif.MolSchema
open Src

/-- the translator recognised every region (otherwise it emits inert terms and `false` here) -/
theorem src_translated : Gen.translationOk = true := rfl

section dec
variable {K : Type}
@[simp] theorem decStr_map (o : Option String) : decStr (K := K) (o.map .str) = o := by cases o <;> rfl
@[simp] theorem decInt_map (o : Option Int) : decInt (K := K) (o.map .int) = o := by cases o <;> rfl
@[simp] theorem decNum_map (o : Option K) : decNum (o.map .num) = o := by cases o <;> rfl
@[simp] theorem decBool_map (o : Option Bool) : decBool (K := K) (o.map .bool) = o := by cases o <;> rfl
@[simp] theorem decStrs_map (o : Option (List String)) : decStrs (K := K) (o.map .strs) = o := by cases o <;> rfl
@[simp] theorem decNums_map (o : Option (List K)) : decNums (o.map .nums) = o := by cases o <;> rfl
@[simp] theorem decInts_map (o : Option (List Int)) : decInts (K := K) (o.map .ints) = o := by cases o <;> rfl
@[simp] theorem decBools_map (o : Option (List Bool)) : decBools (K := K) (o.map .bools) = o := by cases o <;> rfl
@[simp] theorem decFrags_map (o : Option (List (List Int))) : decFrags (K := K) (o.map .frags) = o := by cases o <;> rfl
@[simp] theorem decConn_map (o : Option (List (Nat × Nat × K))) : decConn (o.map .conn) = o := by cases o <;> rfl

/-- `if k in molrec: molecule[k'] = molrec[k]` writes exactly the record's entry -/
theorem guarded_lookup (rec : Dict K) (g : String) :
    (if (rec g).isSome then (lookup rec g).map some else .ok none) = (.ok (rec g) : Except SErr _) := by
  unfold lookup
  cases rec g <;> rfl
end dec

variable {K : Type} [Mul K]

/-- the two entries of the record `to_schema` reads before the `dtype` test -/
theorem src_geomKey (prov : PV K) (r : Molrec K) : lookup (recDict prov r) Gen.toSchemaFn.geomKey = .ok (.nums r.geom) := by
  simp [Gen.toSchemaFn, lookup, recDict]

theorem src_fgKey (prov : PV K) (r : Molrec K) : recDict prov r Gen.toSchemaFn.fgKey = some (.strs r.elem) := by
  simp [Gen.toSchemaFn, recDict]

theorem src_geom (E : Env K) (hu : E.units = "Bohr") (prov : PV K) (r : Molrec K) (al : Bool) :
    evalChain E (recDict prov r) al (.nums r.geom) (.nums r.geom) Gen.toSchemaFn.unitChain Gen.toSchemaFn.unitElse
      = .ok (.nums (exportGeom (E.conv "Angstrom" "Bohr") r), .nums r.geom) := by
  rcases r with ⟨units, iutau, geom⟩
  cases units <;> cases iutau <;>
    simp [Gen.toSchemaFn, evalChain, evalAtom, evalAct, evalFactor, scaleBy, lookup, recDict, unitsName, hu, exportGeom]

def verInt : Version → Int
  | .v1 => 1
  | .v2 => 2

theorem src_stmts (prov : PV K) (r : Molrec K) (g nm : PV K) (nat : Nat) :
    ∃ mol, evalStmts (recDict prov r) g nm nat Gen.toSchemaFn.stmts Dict.empty = .ok mol ∧ decodeMol mol =
          { symbols := some r.elem, geometry := decNums (some g), masses := some r.mass, atomicNumbers := some r.elez,
              massNumbers := some r.elea, atomLabels := some r.elbl, real := some r.real, name := decStr (some nm),
              comment := r.comment, charge := some r.charge, mult := some r.mult,
              fragments := some ((npSplit (List.range nat) r.seps).map (·.map Int.ofNat)),
              fragCharges := some r.fragCharges, fragMults := some r.fragMults, fixCom := some r.fixCom,
              fixOri := some r.fixOri, fixSym := r.fixSym, connectivity := r.connectivity, validated := some true } := by
  -- run the statements (the dictionary they leave is the witness), then read it back
  refine ⟨?mol, ?run, ?_⟩
  case run =>
    simp only [Gen.toSchemaFn, evalStmts, evalRhs, guarded_lookup]
    simp [lookup, recDict]
    rfl
  simp [decodeMol, Dict.set, Dict.setOpt, Dict.empty, decStrs, decNums, decInts, decBools, decNum, decInt, decFrags, decBool]

/-- the source-derived `to_schema` never fails on a record, whatever `np_out` / `copy`, and leaves the caller's geometry alone -/
theorem src_toSchema_total (E : Env K) (hu : E.units = "Bohr") (prov : PV K) (r : Molrec K) (v : Version) :
    ∃ o, evalToSchema Gen.toSchemaFn E (verInt v) (recDict prov r) = .ok (o, PV.nums r.geom) ∧
      decode o = toSchema (E.conv "Angstrom" "Bohr") E.fg r v := by
  have hnm : ((recDict prov r Gen.toSchemaFn.nameKey).getD (.str (E.fg r.elem))) = .str (nameOf E.fg r) := by
    simp only [Gen.toSchemaFn, recDict, nameOf]
    cases r.name <;> simp
  have hdt : verInt v ∈ Gen.toSchemaFn.dtypes := by cases v <;> simp [Gen.toSchemaFn, verInt]
  have hug : (E.units != Gen.toSchemaFn.unitsGuard) = false := by simp [Gen.toSchemaFn, hu]
  have hnd : Gen.toSchemaFn.natDiv = 3 := rfl
  obtain ⟨mol, hm, hst⟩ := src_stmts prov r (.nums (exportGeom (E.conv "Angstrom" "Bohr") r)) (.str (nameOf E.fg r))
    ((exportGeom (E.conv "Angstrom" "Bohr") r).length / 3)
  unfold evalToSchema
  rw [src_geomKey]
  simp only [src_geom E hu, src_fgKey, hnm, hdt, hug, hnd, if_true, hm]
  have hd : ∀ (m : Dict K) a b, decodeMol ((m.set "schema_name" a).set "schema_version" b) = decodeMol m := by
    intros; simp [decodeMol, Dict.set]
  have he : decodeMol (Dict.empty : Dict K) = emptyDict := by
    simp [decodeMol, Dict.empty, emptyDict, decStr, decInt, decNums, decStrs, decInts, decBools, decNum, decFrags, decBool, decConn]
  simp only [decNums, decStr] at hst
  cases v
  · simp [verInt, Gen.toSchemaFn, assocI, evalShape, applyEntries, KeyE.eval, decode, Out.empty, hd, he, hst,
      toSchema, molDict, Except.map, exportGeom_length]
    simp [Dict.set, Dict.empty, decStr, decInt]
  · simp [verInt, Gen.toSchemaFn, assocI, evalShape, applyEntries, KeyE.eval, decode, hd, hst, toSchema, molDict,
      Except.map, exportGeom_length]
    simp [Dict.set, decStr, decInt]

theorem src_toSchema_eq (E : Env K) (hu : E.units = "Bohr") (prov : PV K) (r : Molrec K) (v : Version) :
    (evalToSchema Gen.toSchemaFn E (verInt v) (recDict prov r)).map (fun p => (decode p.1, p.2))
      = .ok (toSchema (E.conv "Angstrom" "Bohr") E.fg r v, PV.nums r.geom) := by
  obtain ⟨o, ho, hd⟩ := src_toSchema_total E hu prov r v
  rw [ho, ← hd]
  rfl

/-! ## from_schema -/

section fs
variable {K : Type}

def liftE {α : Type} : Except Err α → Except SErr α
  | .ok a => .ok a
  | .error e => .error (.err e)

theorem contiguize_elem {pat : List (List Int)} {geom : List K} {elea elez : Option (List Int)}
    {elem : Option (List String)} {mass : Option (List K)} {real : Option (List Bool)} {elbl : Option (List String)}
    {c : Contig K} (h : contiguize pat geom elea elez elem mass real elbl = .ok c) : c.elem = elem := by
  unfold contiguize at h
  simp only [] at h
  repeat' split at h
  all_goals first | (cases h; done) | (cases h; rfl)

@[simp] theorem optOf_ints (o : Option (List Int)) : optOf (K := K) decInts ((o.map .ints).getD .none) = .ok o := by cases o <;> rfl
@[simp] theorem optOf_nums (o : Option (List K)) : optOf decNums ((o.map .nums).getD .none) = .ok o := by cases o <;> rfl
@[simp] theorem optOf_strs (o : Option (List String)) : optOf (K := K) decStrs ((o.map .strs).getD .none) = .ok o := by cases o <;> rfl
@[simp] theorem optOf_bools (o : Option (List Bool)) : optOf (K := K) decBools ((o.map .bools).getD .none) = .ok o := by cases o <;> rfl
@[simp] theorem optOf_str (o : Option String) : optOf (K := K) decStr ((o.map .str).getD .none) = .ok o := by cases o <;> rfl
@[simp] theorem optOf_int (o : Option Int) : optOf (K := K) decInt ((o.map .int).getD .none) = .ok o := by cases o <;> rfl
@[simp] theorem optOf_num (o : Option K) : optOf decNum ((o.map .num).getD .none) = .ok o := by cases o <;> rfl
@[simp] theorem optOf_bool (o : Option Bool) : optOf (K := K) decBool ((o.map .bool).getD .none) = .ok o := by cases o <;> rfl
@[simp] theorem optOf_conn (o : Option (List (Nat × Nat × K))) : optOf decConn ((o.map .conn).getD .none) = .ok o := by cases o <;> rfl
@[simp] theorem optOf_enc_ints (o : Option (List Int)) : optOf (K := K) decInts (encOpt .ints o) = .ok o := by cases o <;> rfl
@[simp] theorem optOf_enc_nums (o : Option (List K)) : optOf decNums (encOpt .nums o) = .ok o := by cases o <;> rfl
@[simp] theorem optOf_enc_strs (o : Option (List String)) : optOf (K := K) decStrs (encOpt .strs o) = .ok o := by cases o <;> rfl
@[simp] theorem optOf_enc_bools (o : Option (List Bool)) : optOf (K := K) decBools (encOpt .bools o) = .ok o := by cases o <;> rfl

@[simp] theorem optOf_strs_lit (l : List String) : optOf (K := K) decStrs (PV.strs l) = .ok (some l) := rfl

@[simp] theorem encOpt_some {α : Type} (f : α → PV K) (x : α) : encOpt f (some x) = f x := rfl

theorem src_body (n : Option String) (v : Option Int) (ms : MolDict K) :
    evalBody Gen.fromSchemaFn (encTop n v ms) = liftE (bodyOf ms) := by
  rcases ms with ⟨symbols, geometry, masses, atomicNumbers, massNumbers, atomLabels, real, name, comment, charge, mult,
    fragments, fragCharges, fragMults, fixCom, fixOri, fixSym, connectivity, validated⟩
  cases symbols <;> cases geometry <;> cases fragments <;>
    simp [evalBody, Gen.fromSchemaFn, encTop, encMol, evalArgs, evalArg, lookup, Dict.get, kwArg, bodyOf, liftE, reqOf, decNums,
      decStrs, bind, Except.bind]
  · rename_i syms geo
    cases hc : contiguize _ geo massNumbers atomicNumbers (some syms) masses real atomLabels with
    | error e => simp
    | ok c =>
      have hel := contiguize_elem hc
      simp [evalFArgs, evalFArg, contigDict, lookup, faOfKw, kwArg, reqOf, hel, encTop, encMol, Dict.get, bind, Except.bind,
        decNums, decStrs, decNats, encOpt_some, pure, Except.pure]
  · rename_i syms geo frs
    cases hc : contiguize _ geo massNumbers atomicNumbers (some syms) masses real atomLabels with
    | error e => simp
    | ok c =>
      have hel := contiguize_elem hc
      simp [evalFArgs, evalFArg, contigDict, lookup, faOfKw, kwArg, reqOf, hel, encTop, encMol, Dict.get, bind, Except.bind,
        decNums, decStrs, decNats, encOpt_some, pure, Except.pure]

theorem src_fromSchema_eq (d : SchemaDict K) :
    evalFromSchema Gen.fromSchemaFn (encode d) = liftE (fromSchemaArgs d) := by
  rw [fromSchemaArgs_eq]
  unfold evalFromSchema
  have hs : Gen.fromSchemaFn.sniff = [{ prefixes := ["qc_schema", "qcschema"], version := 1, nest := some "molecule" },
      { prefixes := ["qcschema_molecule"], version := 2, nest := none }] := rfl
  have he : Gen.fromSchemaFn.elseRaises = true := rfl
  rw [hs, he]
  simp only [evalSniff, sniff, encode, encTop, List.any_cons, List.any_nil, Bool.or_false, if_true, decStr_map, decInt_map,
    String.reduceEq, if_false]
  by_cases h1 : ((startsWith (d.schemaName.getD "") "qc_schema" || startsWith (d.schemaName.getD "") "qcschema") &&
      d.schemaVersion == some 1) = true
  · simp only [h1, if_true]
    cases hm : d.molecule with
    | none => simp [liftE, bind, Except.bind]
    | some m => simp [src_body, bind, Except.bind]
  · simp only [h1, if_false]
    by_cases h2 : (startsWith (d.schemaName.getD "") "qcschema_molecule" && d.schemaVersion == some 2) = true
    · simp only [h2, if_true]
      simp [src_body, bind, Except.bind]
    · simp [h2, liftE, bind, Except.bind]

end fs

/-! ## the theorems of `Props/C09.lean` over the source-derived functions -/

/-- non-vacuity of the hypothesis `E.units = "Bohr"` (the only export unit dtype 1 / 2 allow), with both flags set -/
example : ∃ E : Env Int, E.units = "Bohr" ∧ E.npOut = true ∧ E.copy = false :=
  ⟨{ conv := fun _ _ => 2, fg := fun _ => "H", units := "Bohr", npOut := true, copy := false }, rfl, rfl, rfl⟩

/-- a `dtype` outside the list written in the source is refused with ValidationError -/
theorem src_toSchema_bad_dtype (E : Env K) (hu : E.units = "Bohr") (prov : PV K) (r : Molrec K) (dt : Int)
    (h1 : dt ≠ 1) (h2 : dt ≠ 2) :
    evalToSchema Gen.toSchemaFn E dt (recDict prov r) = .error (.err .validation) := by
  have hdt : ¬ dt ∈ Gen.toSchemaFn.dtypes := by simp [Gen.toSchemaFn, h1, h2]
  have her : Gen.toSchemaFn.elseRaises = true := rfl
  unfold evalToSchema
  rw [src_geomKey]
  simp only [src_geom E hu, src_fgKey, hdt, her, if_true, if_false]

example : (3 : Int) ≠ 1 ∧ (3 : Int) ≠ 2 := by decide

/-- `from_schema ∘ to_schema` over the source-derived functions hands `from_arrays` the record's own data — where
the dictionary `to_schema` returned is passed to `from_schema` through `decode` / `encode` (the 19 molecule keys,
`schema_name`, `schema_version`, the `molecule` nesting).  NOT proved: the same with the returned dictionary passed on
as it is; that the evaluator of `from_schema` reads no other entry of it (e.g. `provenance`) is visible in the term
`Gen.fromSchemaFn` but not stated as a theorem. -/
theorem src_roundtrip_args_partial (E : Env K) (hu : E.units = "Bohr") (prov : PV K) (r : Molrec K) (hinv : Inv r)
    (v : Version) :
    ∃ o, evalToSchema Gen.toSchemaFn E (verInt v) (recDict prov r) = .ok (o, PV.nums r.geom) ∧
      evalFromSchema Gen.fromSchemaFn (encode (decode o)) = .ok (argsOf (E.conv "Angstrom" "Bohr") E.fg r) := by
  obtain ⟨o, ho, hd⟩ := src_toSchema_total E hu prov r v
  refine ⟨o, ho, ?_⟩
  rw [src_fromSchema_eq, hd, roundtrip_args _ _ r hinv v]
  rfl

/-- non-vacuity of `Inv` (test) -/
example : Inv (⟨.angstrom, none, [0, 0, 0], [1], [1], ["H"], [1], [true], [""], [], [0], [2], 0, 2, false, false, none, none,
    none, none⟩ : Molrec Int) :=
  ⟨rfl, by decide, rfl, rfl, rfl, rfl, rfl, rfl, by simp⟩

/-- the geometry written by the source-derived `to_schema` is `exportGeom`: the stored one times the Bohr factor
(`exported_geometry_bohr` of Props/C09.lean spells the factor out: 1, the record's own `input_units_to_au`, or the default) -/
theorem src_exported_geometry_bohr (E : Env K) (hu : E.units = "Bohr") (prov : PV K) (r : Molrec K) (v : Version) :
    ∃ o, evalToSchema Gen.toSchemaFn E (verInt v) (recDict prov r) = .ok (o, PV.nums r.geom) ∧
      (match v with | .v1 => ((decode o).molecule.getD emptyDict).geometry | .v2 => (decode o).top.geometry)
        = some (exportGeom (E.conv "Angstrom" "Bohr") r) := by
  obtain ⟨o, ho, hd⟩ := src_toSchema_total E hu prov r v
  refine ⟨o, ho, ?_⟩
  rw [hd]
  cases v <;> simp [toSchema, molDict]

/-- the literals of the `from_arrays` call, the two switches of `from_schema` (`throw_reorder=True`, the provenance
stamp overwriting) and the one of `to_schema` (`unnp` unless `np_out`) the hand model takes for granted -/
theorem src_fromArrays_constants :
    faLit Gen.fromSchemaFn "units" = some (.strLit "Bohr") ∧ faLit Gen.fromSchemaFn "domain" = some (.strLit "qm") ∧
    faLit Gen.fromSchemaFn "input_units_to_au" = some .noneLit ∧ faLit Gen.fromSchemaFn "speclabel" = some (.boolLit false) ∧
    Gen.fromSchemaFn.throwReorder = true ∧ Gen.fromSchemaFn.stampOverwrites = true ∧
    Gen.toSchemaFn.unnpUnlessNpOut = true := by decide

def MStmt.key : MStmt → String
  | .set k _ => k
  | .setIfIn _ k _ => k

/-- the keys the source writes into the `molecule` dictionary are the 19 of the hand model's `MolDict` and `provenance`,
each exactly once (so `decode` loses no entry but `provenance`) -/
theorem src_toSchema_keys :
    Gen.toSchemaFn.stmts.map MStmt.key = ["validated", "symbols", "geometry", "masses", "atomic_numbers", "mass_numbers",
      "atom_labels", "name", "comment", "molecular_charge", "molecular_multiplicity", "real", "fragments", "fragment_charges",
      "fragment_multiplicities", "fix_com", "fix_orientation", "fix_symmetry", "provenance", "connectivity"] := by decide

end QcelVerif.MolSchema
