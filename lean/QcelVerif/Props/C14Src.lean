import QcelVerif.Lemmas.MunkresSrc.Step136
import QcelVerif.Lemmas.MunkresSrc.Step4
import QcelVerif.Lemmas.MunkresSrc.Step5
import QcelVerif.Props.C14Exact
/-!
C14 — the solver REGENERATED FROM THE SOURCE equals the hand-written model.

`Gen/MunkresSrc.lean` is written by `harness/c14_src.py` from `qcelemental/util/scipy_hungarian.py`
on every run (one array-statement term per step function, the constants of `_Hungary`, the statements
of `linear_sum_assignment`); `Model/MunkresAst.lean` evaluates those terms over the model's state type
with a rounding parameter at every `+`/`-` of the work matrix.  This file proves, for ALL states, all
rounding functions and every fuel, that

* each source-derived step function is the model's step (`Model/Munkres.lean`), and — with rounding —
  performs exactly the operations, in the order, that `Model/MunkresFloat.lean` writes down by hand;
* the source-derived `while step is not None` loop is the model's `runSteps` / `runStepsF`;
* the source-derived `linear_sum_assignment` (validation, transposition test, `_Hungary`, first step,
  loop, un-transposition, read-out) is the model's `solve` / `solveFloat`;

and restates total correctness, refusal and the exactness of the float64 / int64 / uint64 runs over
the source-derived solver.  All five steps are reached: nothing here is partial.
-/
namespace QcelVerif.MunkresAst
open QcelVerif.Munkres QcelVerif.Assign QcelVerif.Gen.MunkresSrc

/-- **every step, work dtype**: for all states and rounding functions the source-derived `_stepN`
is the step of `Model/MunkresFloat.lean` (same state, same next-step label, same error). -/
theorem doStep_src_float (rnd : Rat → Rat) (st : Step) (s : State) :
    prog.doStep rnd st s = doStepF rnd st s := by
  cases st
  · exact step1_src rnd s
  · exact step3_src rnd s
  · exact step4_src rnd s
  · exact step5_src rnd s
  · exact step6_src rnd s

theorem doStepF_id (st : Step) (s : State) : doStepF id st s = doStep st s := by
  cases st <;> rfl

theorem step1F_id (s : State) : step1F id s = Munkres.step1 s := rfl
theorem step6F_id (s : State) : step6F id s = Munkres.step6 s := rfl

/-- **every step, exact arithmetic**: with `rnd = id` the source-derived `_stepN` is the step of
`Model/Munkres.lean`. -/
theorem doStep_src (st : Step) (s : State) : prog.doStep id st s = doStep st s := by
  rw [doStep_src_float, doStepF_id]

/-- **the state machine**: the source-derived `while step is not None: step = step(state)` equals the
model's, for every fuel, start label, state and trace prefix. -/
theorem runSteps_src_float (rnd : Rat → Rat) :
    ∀ (f : Nat) (st : Step) (s : State) (tr : Array (Step × State)),
      prog.runSteps rnd f st s tr = runStepsF rnd f st s tr := by
  intro f
  induction f with
  | zero => intro st s tr; rfl
  | succ f ih =>
    intro st s tr
    simp only [Prog.runSteps, runStepsF, doStep_src_float]
    cases h : doStepF rnd st s with
    | error e => rfl
    | ok r =>
      obtain ⟨s', nx⟩ := r
      cases nx with
      | none => rfl
      | some st' => simp only [ih]

theorem runStepsF_id : ∀ (f : Nat) (st : Step) (s : State) (tr : Array (Step × State)),
    runStepsF id f st s tr = runSteps f st s tr
  | 0, _, _, _ => rfl
  | f + 1, st, s, tr => by
    simp only [runStepsF, runSteps, doStepF_id]
    cases doStep st s with
    | error e => rfl
    | ok r =>
      obtain ⟨s', nx⟩ := r
      cases nx with
      | none => rfl
      | some st' => exact runStepsF_id f st' s' _

theorem runSteps_src :
    ∀ (f : Nat) (st : Step) (s : State) (tr : Array (Step × State)),
      prog.runSteps id f st s tr = runSteps f st s tr := by
  intro f st s tr
  rw [runSteps_src_float, runStepsF_id]

theorem init_src (n m : Nat) (cost : Mat Rat) : prog.init.state n m cost = initState n m cost := rfl

theorem nonzeroEq_one (M : Mat Nat) : nonzeroEq 1 M = starPairs M := rfl

/-- the statements of `linear_sum_assignment` up to and including the transposition test -/
theorem head_src (rnd : Rat → Rat) (inp : Input) (fuelOf : Nat → Nat → Nat) (rest : List PStmt) (p : PState) :
    evalMain prog rnd inp fuelOf
      (.asarray :: .raiseIfNdimNe 2 .ndim :: .raiseIfNotNumeric .dtype :: .raiseIfAnyNonfinite .nonfinite ::
        .widenDtype :: .transposeIf 1 .lt 0 :: rest) p =
      if inp.ndim != 2 then .error .ndim
      else if inp.dt = .other then .error .dtype
      else if !inp.allFinite then .error .nonfinite
      else if p.m < p.n then
        evalMain prog rnd inp fuelOf rest { p with cost := transpose p.n p.m p.cost, n := p.m, m := p.n, transposed := true }
      else evalMain prog rnd inp fuelOf rest { p with transposed := false } := by
  simp only [evalMain, PStmt.eval]
  by_cases h1 : (inp.ndim != 2) = true
  · simp only [h1, if_true]
  by_cases h2 : inp.dt = .other
  · simp only [h1, h2, if_true]
    simp
  by_cases h3 : (!inp.allFinite) = true
  · simp only [h1, h2, h3, if_true]
    simp
  simp only [h1, h2, h3, if_false, Bool.false_eq_true]
  by_cases h4 : p.m < p.n
  · simp [Cmp.eval, h4]
  · simp [Cmp.eval, h4]

/-- `_Hungary(cost_matrix)`, the choice of the first step and the `while step is not None` loop of
`linear_sum_assignment`, from the source-derived program, on `fuelOf n m` step calls -/
def srcWide (rnd : Rat → Rat) (fuelOf : Nat → Nat → Nat) (n m : Nat) (cost : Mat Rat) :
    Except Err (State × Array (Step × State)) :=
  if n == 0 || m == 0 then .ok (initState n m cost, #[])
  else prog.runSteps rnd (fuelOf n m) .s1 (initState n m cost) #[]

/-- the statements after the transposition test: `_Hungary`, the first step, the loop, the
un-transposition and the read-out -/
theorem tail_gen (rnd : Rat → Rat) (inp : Input) (fuelOf : Nat → Nat → Nat) (p : PState) (ht : p.trace = #[]) :
    evalMain prog rnd inp fuelOf [.mkState, .firstStep true .s1, .loop, .untransposeIf, .retNonzeroEq 1] p =
      match srcWide rnd fuelOf p.n p.m p.cost with
      | .error e => .error e
      | .ok (s, tr) =>
        if p.transposed then
          .ok { n := p.m, m := p.n, pairs := starPairs (transpose p.n p.m s.marked), red := transpose p.n p.m s.C,
                trace := tr }
        else .ok { n := p.n, m := p.m, pairs := starPairs s.marked, red := s.C, trace := tr } := by
  simp only [evalMain, PStmt.eval, srcWide, init_src, nonzeroEq_one]
  by_cases h5 : (p.n == 0 || p.m == 0) = true
  · simp only [h5, Bool.and_self, if_true]
    cases p.transposed <;> simp [ht]
  · simp only [h5, Bool.and_false, Bool.false_eq_true, if_false]
    cases prog.runSteps rnd (fuelOf p.n p.m) Step.s1 (initState p.n p.m p.cost) #[] with
    | error e => rfl
    | ok r => cases p.transposed <;> simp

theorem srcWide_stepFuel (rnd : Rat → Rat) : srcWide rnd stepFuel = solveWideF rnd := by
  funext n m cost
  simp only [srcWide, solveWideF, runSteps_src_float]

theorem main_split : prog.main = .asarray :: .raiseIfNdimNe 2 .ndim :: .raiseIfNotNumeric .dtype ::
    .raiseIfAnyNonfinite .nonfinite :: .widenDtype :: .transposeIf 1 .lt 0 ::
    [.mkState, .firstStep true .s1, .loop, .untransposeIf, .retNonzeroEq 1] := rfl

/-- the source-derived `linear_sum_assignment` on any fuel is the wrapper around `srcWide` -/
theorem solveWith_src (rnd : Rat → Rat) (fuelOf : Nat → Nat → Nat) (inp : Input) :
    prog.solveWith fuelOf rnd inp = solveVia (srcWide rnd fuelOf) inp := by
  unfold Prog.solveWith
  rw [main_split, head_src, solveVia_eq]
  -- the validation is the same chain of tests on both sides
  refine if_congr Iff.rfl rfl (if_congr Iff.rfl rfl (if_congr Iff.rfl rfl ?_))
  unfold Input.wideN Input.wideM Input.wideMat Input.readout
  by_cases h4 : inp.m < inp.n
  · simp only [if_pos h4]
    rw [tail_gen _ _ _ _ rfl]
    generalize srcWide rnd fuelOf _ _ _ = w
    rcases w with e | ⟨s, tr⟩ <;> rfl
  · simp only [if_neg h4]
    rw [tail_gen _ _ _ _ rfl]
    generalize srcWide rnd fuelOf _ _ _ = w
    rcases w with e | ⟨s, tr⟩ <;> rfl

/-- **the whole function, work dtype**: the source-derived `linear_sum_assignment(cost, return_cost=True)`
equals `solveFloat rnd` (same refusals, same trace, pairs, reduced matrix), for every input. -/
theorem solve_src_float (rnd : Rat → Rat) (inp : Input) : prog.solve rnd inp = solveFloat rnd inp := by
  unfold Prog.solve
  rw [solveWith_src, srcWide_stepFuel]
  rfl

/-! ### the driver's smaller fuel -/

/-- more fuel never changes an answer of the state machine -/
theorem runSteps_mono (p : Prog) (rnd : Rat → Rat) : ∀ (f k : Nat) (st : Step) (s : State) (tr : Array (Step × State))
    (r : State × Array (Step × State)), p.runSteps rnd f st s tr = .ok r → p.runSteps rnd (f + k) st s tr = .ok r := by
  intro f
  induction f with
  | zero => intro k st s tr r h; simp [Prog.runSteps] at h
  | succ f ih =>
    intro k st s tr r h
    rw [Nat.add_right_comm]
    simp only [Prog.runSteps] at h ⊢
    cases hd : p.doStep rnd st s with
    | error e => rw [hd] at h; simp at h
    | ok q =>
      obtain ⟨s', nx⟩ := q
      rw [hd] at h
      cases nx with
      | none => exact h
      | some st' => exact ih k st' s' _ r h

theorem srcWide_mono (rnd : Rat → Rat) (f1 f2 : Nat → Nat → Nat) (hle : ∀ n m, f1 n m ≤ f2 n m) (n m : Nat)
    (cost : Mat Rat) (r : State × Array (Step × State)) (h : srcWide rnd f1 n m cost = .ok r) :
    srcWide rnd f2 n m cost = .ok r := by
  unfold srcWide at h ⊢
  by_cases h0 : (n == 0 || m == 0) = true
  · rw [if_pos h0] at h ⊢; exact h
  · rw [if_neg h0] at h ⊢
    obtain ⟨k, hk⟩ := Nat.exists_eq_add_of_le (hle n m)
    rw [hk]
    exact runSteps_mono prog rnd _ k _ _ _ r h

/-- **the driver's run is the solver's run**: whenever the source-derived solver answers on the driver's
fuel `capFuel` (what ops `TS`/`FS` of `Driver/C14.lean` execute), `Prog.solve` — the object of the theorems of
this file — returns the same answer. -/
theorem solveCapped_ok (rnd : Rat → Rat) (inp : Input) (o : Output) (h : prog.solveCapped rnd inp = .ok o) :
    prog.solve rnd inp = .ok o := by
  unfold Prog.solveCapped at h
  unfold Prog.solve
  rw [solveWith_src] at h ⊢
  exact solveVia_mono (srcWide_mono rnd capFuel stepFuel fun n m => Nat.min_le_right _ _) h

/-- TEST (non-vacuity): the docstring example is answered on the driver's fuel -/
example : (match prog.solveCapped id exInput with | .ok _ => true | .error _ => false) = true := by decide +kernel

theorem solveFloat_id (inp : Input) : solveFloat id inp = Munkres.solve inp := by
  unfold solveFloat Munkres.solve solveWideF solveWide
  simp only [runStepsF_id]
  rfl

/-- **the whole function, exact arithmetic**: the source-derived `linear_sum_assignment` is the model's
`solve` — for every input (valid or not, any shape), same refusal or same trace, pairs and reduced matrix. -/
theorem solve_src (inp : Input) : prog.solve id inp = Munkres.solve inp := by
  rw [solve_src_float, solveFloat_id]

/-! ### the property theorems over the source-derived solver -/

/-- **TOTAL CORRECTNESS of the source-derived solver** (`solve_correct` restated): for every valid
well-shaped cost matrix the program regenerated from `scipy_hungarian.py` returns an answer, and it is a
complete assignment, rows increasing, of minimum total cost over all complete assignments; every optimum
lies on the zeros of the reduced matrix, which is non-negative, zero on the pairs and `cost - u_i - v_j`. -/
theorem solve_src_correct (inp : Input) (hw : inp.WellShaped) (h2 : inp.ndim = 2) (hdt : inp.dt ≠ .other)
    (hfin : inp.allFinite = true) :
    ∃ o, prog.solve id inp = .ok o
    ∧ IsAssign inp.n inp.m o.pairs
    ∧ (o.pairs.map Prod.fst).Pairwise (· < ·)
    ∧ (∀ τ, IsAssign inp.n inp.m τ → total inp.costFn o.pairs ≤ total inp.costFn τ)
    ∧ (∀ τ, IsAssign inp.n inp.m τ → total inp.costFn τ ≤ total inp.costFn o.pairs →
        ∀ p ∈ τ, matFn o.red p.1 p.2 = 0)
    ∧ (∀ i < inp.n, ∀ j < inp.m, 0 ≤ matFn o.red i j)
    ∧ (∀ p ∈ o.pairs, matFn o.red p.1 p.2 = 0)
    ∧ ∃ u v : Nat → Rat, ∀ i < inp.n, ∀ j < inp.m, matFn o.red i j = inp.costFn i j - u i - v j := by
  rw [solve_src]
  exact solve_correct inp hw h2 hdt hfin

/-- TEST (non-vacuity): the docstring example and the tall example satisfy the hypotheses -/
example : exInput.WellShaped ∧ exInput.ndim = 2 ∧ exInput.dt ≠ .other ∧ exInput.allFinite = true := by
  refine ⟨by unfold Input.WellShaped; decide, by decide, by decide, by decide +kernel⟩
example : exTall.WellShaped ∧ exTall.ndim = 2 ∧ exTall.dt ≠ .other ∧ exTall.allFinite = true := by
  refine ⟨by unfold Input.WellShaped; decide, by decide, by decide, by decide +kernel⟩

/-- **refusal** (`solve_refuses_bad` restated) for every rounding function: not 2-d, non-numeric, or an
inf/nan entry → the source-derived solver returns the corresponding error, never an answer. -/
theorem solve_src_refuses_bad (rnd : Rat → Rat) (inp : Input)
    (h : inp.ndim ≠ 2 ∨ inp.dt = .other ∨ ∃ r ∈ inp.ent.toList, ∃ e ∈ r.toList, e.isFinite = false) :
    ∃ e, prog.solve rnd inp = .error e ∧ (e = .ndim ∨ e = .dtype ∨ e = .nonfinite) := by
  rw [solve_src_float]
  exact refuses_bad inp _ h

/-- TEST (non-vacuity of the three refusal branches, on the source-derived solver) -/
example : errOf (prog.solve id { ndim := 2, n := 1, m := 2, dt := .float, ent := #[#[.fin 1, .posInf]] }) = some .nonfinite := by
  decide +kernel
example : errOf (prog.solve id { ndim := 1, n := 0, m := 0, dt := .float, ent := #[] }) = some .ndim := by decide +kernel
example : errOf (prog.solve id { ndim := 2, n := 1, m := 1, dt := .other, ent := #[] }) = some .dtype := by decide +kernel

/-- TEST (non-vacuity): a 1-d input satisfies the hypothesis -/
example : ({ ndim := 1, n := 0, m := 0, dt := .float, ent := #[] } : Input).ndim ≠ 2 := by decide

/-- **the work dtype, from the source** (`float64_exact_run`, `no_overflow_int64`, `no_overflow_uint64`
restated): the source-derived solver run with IEEE round-to-nearest-even / int64 / uint64 wrap-around at
every `+`/`-` the SOURCE performs on `state.C` (in source order) equals its exact run, for integer entries
within the bounds of `Props/C14Exact.lean`. -/
theorem solve_src_float64_exact (inp : Input) (hw : inp.WellShaped) (M : Rat) (hI : inp.IntBounded M)
    (hB : boundB M inp.n inp.m ≤ 2 ^ 53) : prog.solve Hash.rndDouble inp = prog.solve id inp := by
  rw [solve_src_float, solve_src]
  exact float64_exact_run inp hw M hI hB

/-- TEST (non-vacuity): the docstring example satisfies the hypotheses of the three theorems around, and the
source-derived runs of it in float64 / int64 reach step 6 and agree with the exact one -/
example : exInput.WellShaped ∧ exInput.IntBounded 5 ∧ boundB 5 exInput.n exInput.m ≤ 2 ^ 53 := by
  refine ⟨by unfold Input.WellShaped; decide, ?_, by norm_num [boundB]⟩
  have hb := intBoxB_sound exInput (-5) 5 (by decide +kernel)
  intro i hi j hj
  exact ⟨isInt_iff_grid.2 (hb.grid i hi j hj), abs_le.2 ⟨hb.lo_le i hi j hj, hb.le_hi i hi j hj⟩⟩
example : (match prog.solve Hash.rndDouble exInput, prog.solve wrapInt64 exInput, prog.solve id exInput with
    | .ok a, .ok b, .ok c => a.pairs == c.pairs && a.red == c.red && b.red == c.red
        && a.trace.size == c.trace.size && c.trace.any (·.1 == .s6) && c.trace.any (·.1 == .s5)
    | _, _, _ => false) = true := by decide +kernel

theorem solve_src_int64_exact (inp : Input) (hw : inp.WellShaped) (M : Rat) (hI : inp.IntBounded M)
    (hB : boundB M inp.n inp.m < 2 ^ 63) : prog.solve wrapInt64 inp = prog.solve id inp := by
  rw [solve_src_float, solve_src]
  exact (no_overflow_int64 inp hw M hI hB).2

theorem solve_src_uint64_exact (inp : Input) (hw : inp.WellShaped) (M : Rat) (hI : inp.IntBounded M)
    (hB : boundB M inp.n inp.m < 2 ^ 64) : prog.solve wrapUInt64 inp = prog.solve id inp := by
  rw [solve_src_float, solve_src]
  exact no_overflow_uint64 inp hw M hI hB

/-- **any grid / rounding pair**: cost entries on `g·ℤ` inside `[lo, hi]`, `rnd` the identity on the grid values in
`[0, 4(hi − lo)]` — the source-derived run with `rnd` at every `+`/`-` equals its exact run
(`solveFloat_eq_solve_box` over the source-derived solver) -/
theorem solve_src_box_exact {g lo hi : Rat} (inp : Input) (hw : inp.WellShaped)
    (hb : CostBox g lo hi inp.n inp.m inp.costFn)
    (rnd : Rat → Rat) (hrnd : ∀ x, OnGrid g x → 0 ≤ x → x ≤ 4 * (hi - lo) → rnd x = x) :
    prog.solve rnd inp = prog.solve id inp := by
  rw [solve_src_float, solve_src]
  exact solveFloat_eq_solve_box inp hw hb rnd hrnd

/-- TEST (non-vacuity), as for `solveFloat_eq_solve_box` -/
example : CostBox 1 0 5 exInput.n exInput.m exInput.costFn
    ∧ ∀ x, OnGrid 1 x → 0 ≤ x → x ≤ 4 * ((5 : Rat) - 0) → Hash.rndDouble x = x :=
  ⟨intBoxB_sound exInput 0 5 (by decide +kernel), fun x hx h0 hK =>
    rndDouble_exact53 x (exact53_of (isInt_iff_grid.2 hx) h0 hK (by norm_num))⟩

end QcelVerif.MunkresAst
