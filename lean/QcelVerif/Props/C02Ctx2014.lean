import QcelVerif.Props.C02Float
/-! C02: attribute and float theorems about `PhysicalConstantsContext("CODATA2014")` (kernel evaluation). -/
namespace QcelVerif.Constants
open QcelVerif

/-- **Attributes are faithful and floats are nearest (2014)**: for every entry of `pc` (published
constants, calorie-joule relationship, legacy names, aliases) the attribute named by the mangled
label holds `float(data)`; no two labels share a mangled name (as many attributes as entries, so no
attribute is overwritten by another constant); and every such float is the double nearest to the
Decimal — right sign, finite, neither neighbouring double closer, even mantissa on a tie. -/
theorem attrs_and_floats_2014 : withCtx ctx2014 ctxChecks = true := by
  unfold ctx2014 build buildPC; rw [loadRows_2014]
  exact withCtx_build (by rw [floatOk_eq]; decide +kernel)

end QcelVerif.Constants
