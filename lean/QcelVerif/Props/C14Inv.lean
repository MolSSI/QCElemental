import QcelVerif.Props.C14
import QcelVerif.Lemmas.MunkresInv2
/-!
# C14 — the Munkres model itself returns a certified optimum (no certificate hypothesis)

`Props/C14.lean` proves that a *certified* answer is optimal.  This file proves that every answer of
the solver model is certified: one theorem per step for the step invariants `Inv` (`InvAt`,
`Lemmas/MunkresInv2/Basic.lean`), `runSteps_preserves` for any number of steps on any fuel,
`step3_done_cert` for the read-out, and `solve_certified` / `solve_optimal` for `solve` on every
well-shaped input, tall ones (run on the transpose) included.

Termination is a hypothesis here: `solve inp = .ok o` says the run finished within the model's fuel
(`stepFuel`, `Err.fuel` otherwise); `solve_total_partial` only classifies the errors.  Termination
itself is proved in `Props/C14Term.lean` (`solve_total`, `solve_correct`).
-/
namespace QcelVerif.Munkres
open QcelVerif.Assign

/-! ### the invariant, one theorem per step -/

/-- The invariant before step `st` (see `Inv1`, `Inv3`, `Loop`, `Inv5` for the clauses). -/
abbrev Inv (n m : Nat) (cost : Nat → Nat → Rat) (st : Step) (s : State) : Prop := InvAt n m cost st s

/-- **Step 1** (subtract row minima, star zeros greedily) establishes the invariant of step 3:
`C ≥ 0`, `C = cost − rowmin`, stars independent and on zeros, no primes, nothing covered. -/
theorem step1_establishes {n m : Nat} {cost : Nat → Nat → Rat} {s : State} (h : Inv n m cost .s1 s) :
    (step1 s).2 = some .s3 ∧ Inv n m cost .s3 (step1 s).1 :=
  ⟨step1_next s, step1_inv h⟩

/-- **Step 3** (cover the starred columns) hands the loop invariant to step 4, or reports "done"
in a state where every row has a star. -/
theorem step3_preserves {n m : Nat} {cost : Nat → Nat → Rat} {s : State} (h : Inv n m cost .s3 s) :
    ((step3 s).2 = some .s4 ∧ Inv n m cost .s4 (step3 s).1)
    ∨ ((step3 s).2 = none ∧ Final n m cost (step3 s).1) := by
  rcases step3_next s with h4 | hd
  · exact Or.inl ⟨h4, step3_inv h⟩
  · refine Or.inr ⟨hd, (step3_inv h).base, fun i hi => ?_⟩
    obtain ⟨j, hj⟩ := step3_done h hd i hi
    exact ⟨j, by rw [(step3_state s).1]; exact hj⟩

/-- **Step 4** (prime uncovered zeros, cover rows / uncover columns) preserves the loop invariant and
hands over to step 6, or hands step 5 a prime `Z0` in a star-free row with an acyclic priming order. -/
theorem step4_preserves {n m : Nat} {cost : Nat → Nat → Rat} {s s' : State} {nx : Option Step}
    (hrun : step4 s = .ok (s', nx)) (h : Inv n m cost .s4 s) :
    (nx = some .s6 ∧ Inv n m cost .s6 s') ∨ (nx = some .s5 ∧ Inv n m cost .s5 s') :=
  step4_inv hrun h

/-- **Step 5** (flip the alternating path, erase primes, clear covers) re-establishes the invariant
of step 3: the stars are again independent zeros, and every column that had a star keeps one. -/
theorem step5_preserves {n m : Nat} {cost : Nat → Nat → Rat} {s s' : State} {nx : Option Step}
    (hrun : step5 s = .ok (s', nx)) (h : Inv n m cost .s5 s) : nx = some .s3 ∧ Inv n m cost .s3 s' :=
  step5_inv hrun h

/-- **Step 6** (`+ minval` on covered rows, `− minval` on uncovered columns) preserves the loop
invariant: `C` stays non-negative, stars and primes stay zeros, never-starred columns keep the
maximal potential. -/
theorem step6_preserves {n m : Nat} {cost : Nat → Nat → Rat} {s : State} (h : Inv n m cost .s6 s) :
    (step6 s).2 = some .s4 ∧ Inv n m cost .s4 (step6 s).1 :=
  ⟨step6_next s, step6_inv h⟩

/-- **Any number of steps, any fuel**: a run of the state machine that finishes ends in a state with
`C ≥ 0`, `C = cost − u − v`, independent stars on zeros, one in every row. -/
theorem runSteps_preserves {n m : Nat} {cost : Nat → Nat → Rat} (f : Nat) (st : Step) (s : State)
    (tr : Array (Step × State)) (s' : State) (tr' : Array (Step × State))
    (hrun : runSteps f st s tr = .ok (s', tr')) (h : Inv n m cost st s) : Final n m cost s' :=
  runSteps_final f st s tr s' tr' hrun h

/-! ### read-out -/

theorem wideOK_nil (k : Nat) (c red : Nat → Nat → Rat) : wideOK 0 k c red [] = true := by
  simp [wideOK, isAssign, allIdx, nodupB]

theorem starPairs_of_unmarked (M : Mat Nat) (h : ∀ i j, get2 M i j = 0) : starPairs M = [] := by
  apply List.eq_nil_iff_forall_not_mem.2
  intro p hp
  have := (starPairs_mem M p).1 hp
  rw [h] at this
  exact absurd this (by decide)

/-- **When step 3 reports "done", the read-out is a certificate** (wide orientation, `0 < n ≤ m`). -/
theorem step3_done_cert {n m : Nat} (hn : 0 < n) (hnm : n ≤ m) {cost : Nat → Nat → Rat} {s : State}
    (h : Inv n m cost .s3 s) (hd : (step3 s).2 = none) :
    certOK n m cost (matFn (step3 s).1.C) (starPairs (step3 s).1.marked) = true := by
  rcases step3_preserves h with ⟨h4, _⟩ | ⟨_, hf⟩
  · rw [hd] at h4; exact absurd h4 (by simp)
  · obtain ⟨h1, h2⟩ := final_wideOK hn hnm hf (matFn (step3 s).1.C) (fun _ _ _ _ => rfl)
    unfold certOK
    rw [h2, if_pos hnm, h1]
    rfl

theorem swap_swap (p : Nat × Nat) : swap (swap p) = p := rfl

theorem get2_transpose_zero (k : Nat) (M : Mat Nat) (i j : Nat) : get2 (transpose 0 k M) i j = 0 := by
  unfold transpose get2
  by_cases hi : i < k
  · simp [Array.getD_eq_getD_getElem?, hi]
  · simp [Array.getD_eq_getD_getElem?, hi]

/-- **Every answer of the solver model is certified** — no certificate hypothesis: whenever `solve`
answers a well-shaped input (any shape, tall ones through the transpose, empty ones included), the
answer passes the proved checker `certOK`. -/
theorem solve_certified (inp : Input) (o : Output) (hw : inp.WellShaped) (h : solve inp = .ok o) :
    certOK inp.n inp.m inp.costFn (matFn o.red) o.pairs = true := by
  unfold certOK
  obtain ⟨⟨s, trc⟩, hs, rfl⟩ := solveVia_ok (wide := solveWide) h
  by_cases hlt : inp.m < inp.n
  · -- tall: Munkres ran on the transpose
    simp only [Input.wideN, Input.wideM, Input.wideMat, Input.readout, if_pos hlt] at hs ⊢
    rw [if_neg (Nat.not_le.2 hlt)]
    by_cases hm0 : inp.m = 0
    · have hz := solveWide_empty (Or.inl hm0) hs
      have : starPairs (transpose inp.m inp.n s.marked) = [] := by
        apply starPairs_of_unmarked
        intro i j
        rw [hm0]
        exact get2_transpose_zero _ _ _ _
      rw [this, hm0]
      simp only [List.map_nil, wideOK_nil]
      rfl
    · have hm : 0 < inp.m := Nat.pos_of_ne_zero hm0
      have hf := solveWide_final (inp.stores hw).transpose hm (Nat.lt_trans hm hlt) hs
      have hsh := hf.base.shape
      have hiff : ∀ i j, get2 (transpose inp.m inp.n s.marked) j i = 1 ↔ get2 s.marked i j = 1 :=
        fun i j => get2_transpose_nat_iff inp.m inp.n s.marked i j hsh.Msz hsh.Mrow
      have h2 : incB ((starPairs (transpose inp.m inp.n s.marked)).map Prod.fst) = true := by
        apply starPairs_incB
        intro i j j' h1 h2
        exact hf.base.starCol j j' i ((hiff j i).1 h1) ((hiff j' i).1 h2)
      have h1 : wideOK inp.m inp.n (Assign.tr inp.costFn) (Assign.tr (matFn (transpose inp.m inp.n s.C)))
          ((starPairs (transpose inp.m inp.n s.marked)).map swap) = true := by
        refine wideOK_of_stars' hm (Nat.le_of_lt hlt) hf.base hf.full _ ?_ _ ?_ ?_
        · intro i hi j hj
          exact get2_transpose inp.m inp.n s.C i j hi hj
        · intro p
          rw [List.mem_map]
          constructor
          · rintro ⟨q, hq, rfl⟩
            exact (hiff q.2 q.1).1 ((starPairs_mem _ q).1 hq)
          · intro hp
            exact ⟨swap p, (starPairs_mem _ (swap p)).2 ((hiff p.1 p.2).2 hp), rfl⟩
        · exact (starPairs_nodup _).map (fun a b hab => by
            have := congrArg swap hab
            simpa [swap_swap] using this)
      rw [h2, h1]
      rfl
  · have hnm := Nat.le_of_not_lt hlt
    simp only [Input.wideN, Input.wideM, Input.wideMat, Input.readout, if_neg hlt] at hs ⊢
    rw [if_pos hnm]
    by_cases hn0 : inp.n = 0
    · have hz := solveWide_empty (Or.inl hn0) hs
      rw [starPairs_of_unmarked _ hz, hn0]
      simp only [List.map_nil, wideOK_nil]
      rfl
    · have hn : 0 < inp.n := Nat.pos_of_ne_zero hn0
      have hf := solveWide_final (inp.stores hw) hn (Nat.lt_of_lt_of_le hn hnm) hs
      obtain ⟨h1, h2⟩ := final_wideOK hn hnm hf (matFn s.C) (fun _ _ _ _ => rfl)
      rw [h2, h1]
      rfl

/-- **The reduced matrix differs from the input only by a constant per row and a constant per
column**, for every matrix of every shape and whatever the fuel: whenever `solve` answers, there are `u, v`
with `reduced i j = cost i j − u i − v j` on all `n × m` entries (steps 1 and 6 only shift whole rows
and columns, steps 3-5 never write to `C`, and the transposition of tall inputs is undone).  No certificate
hypothesis: it is the last clause of the certificate every answer carries. -/
theorem solve_reduced_rowcol (inp : Input) (o : Output) (hw : inp.WellShaped) (h : solve inp = .ok o) :
    ∃ u v : Nat → Rat, ∀ i < inp.n, ∀ j < inp.m, matFn o.red i j = inp.costFn i j - u i - v j :=
  (certOK_shape (solve_certified inp o hw h)).2.2.2.2

/-- **The solver model returns a minimum-cost complete assignment and a valid reduced matrix.**
For every well-shaped input that `solve` answers (the run finished within the model's fuel) —
square, wide, tall, or empty — the returned pairs are a complete assignment with strictly
increasing rows, their total cost is the minimum over ALL complete assignments, every optimal
complete assignment lies on the zeros of the returned reduced matrix, and the reduced matrix is
non-negative, zero on the returned pairs, and equal to the cost minus a constant per row and a
constant per column.  No certificate hypothesis. -/
theorem solve_optimal (inp : Input) (o : Output) (hw : inp.WellShaped) (h : solve inp = .ok o) :
    IsAssign inp.n inp.m o.pairs
    ∧ (o.pairs.map Prod.fst).Pairwise (· < ·)
    ∧ (∀ τ, IsAssign inp.n inp.m τ → total inp.costFn o.pairs ≤ total inp.costFn τ)
    ∧ (∀ τ, IsAssign inp.n inp.m τ → total inp.costFn τ ≤ total inp.costFn o.pairs →
        ∀ p ∈ τ, matFn o.red p.1 p.2 = 0)
    ∧ (∀ i < inp.n, ∀ j < inp.m, 0 ≤ matFn o.red i j)
    ∧ (∀ p ∈ o.pairs, matFn o.red p.1 p.2 = 0)
    ∧ ∃ u v : Nat → Rat, ∀ i < inp.n, ∀ j < inp.m, matFn o.red i j = inp.costFn i j - u i - v j := by
  have hc := solve_certified inp o hw h
  have hs := certOK_shape hc
  exact ⟨hs.1, hs.2.1, fun τ hτ => cert_optimal hc hτ, fun τ hτ hopt => optimal_on_zeros hc hτ hopt,
    hs.2.2.1, hs.2.2.2.1, hs.2.2.2.2⟩

/-- The certifying wrapper never rejects a Munkres answer: on well-shaped inputs `solveChecked`
answers exactly when `solve` does, with the same answer. -/
theorem solveChecked_eq_solve (inp : Input) (o : Output) (hw : inp.WellShaped) :
    solveChecked inp = .ok o ↔ solve inp = .ok o :=
  solveChecked_ok_iff.trans ⟨And.left, fun h => ⟨h, solve_certified inp o hw h⟩⟩

/-- **The only errors on valid inputs are the two resource errors.**  A valid input (2-d, numeric dtype,
all entries finite) is either answered — and then `solve_optimal` applies — or the model ran out of
fuel / overran `path`.  That neither happens on well-shaped inputs is `solve_total` in
`Props/C14Term.lean`. -/
theorem solve_total_partial (inp : Input) (h2 : inp.ndim = 2) (hdt : inp.dt ≠ .other)
    (hfin : inp.allFinite = true) :
    (∃ o, solve inp = .ok o) ∨ solve inp = .error .fuel ∨ solve inp = .error .index := by
  rw [solve_eq_via, solveVia_eq, if_neg (by simp [h2]), if_neg hdt, if_neg (by simp [hfin])]
  split
  · rename_i e he
    rcases solveWide_err _ _ _ _ he with rfl | rfl
    · exact Or.inr (Or.inl rfl)
    · exact Or.inr (Or.inr rfl)
  · exact Or.inl ⟨_, rfl⟩

/-! #### non-vacuity (tests, by kernel evaluation) -/

/-- the cost matrix of the docstring example as the solver stores it -/
def exCostM : Mat Rat := exInput.ent.map fun r => r.map Entry.val

/-- the hypothesis of `step1_establishes` (and so, step by step, of every `…_preserves` theorem and
of `runSteps_preserves`) is satisfied by the freshly built state of the docstring example -/
example : Inv 3 3 exInput.costFn .s1 (initState 3 3 exCostM) :=
  initState_inv1 ⟨by decide +kernel, by decide +kernel, fun i _ j _ => get2_cost exInput i j⟩

/-- TEST: the hypotheses of `solve_certified` / `solve_optimal` are satisfiable by an input whose run
goes through every step (1, 3, 4, 5, 6): the docstring example is well shaped (`C14.lean`) and
answered after 9 steps with `col_ind = [1,0,2]` -/
example : (match solve exInput with
    | .ok o => o.pairs == [(0, 1), (1, 0), (2, 2)] && o.trace.size == 9
        && o.trace.any (·.1 == .s5) && o.trace.any (·.1 == .s6) && o.trace.any (·.1 == .s4)
    | .error _ => false) = true := by decide +kernel

/-- TEST: … and by a tall input (answered through the transposed run) -/
example : (match solve exTall with
    | .ok o => o.pairs == [(0, 0), (2, 2), (3, 1)] && o.trace.any (·.1 == .s5)
    | .error _ => false) = true := by decide +kernel

/-- TEST: … and by an input with an empty axis (nothing runs, nothing is assigned) -/
example : (match solve { ndim := 2, n := 0, m := 3, dt := .float, ent := #[] } with
    | .ok o => o.pairs == [] && o.trace.size == 0
    | .error _ => false) = true := by decide +kernel

/-- TEST: the hypotheses of `step3_done_cert` are met on the way: after step 1 the 2 × 2 identity-like
matrix `[[0,1],[1,0]]` has a star in every row and step 3 reports "done" -/
example : (step3 (step1 (initState 2 2 #[#[0, 1], #[1, 0]])).1).2 = none := by decide +kernel

end QcelVerif.Munkres
