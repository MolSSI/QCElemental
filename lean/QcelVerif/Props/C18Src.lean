import QcelVerif.Model.MeasureSrc
import QcelVerif.Props.C18Real
import Mathlib.Tactic.Ring
/-!
# C18 — the measurement formulas REGENERATED FROM THE SOURCE are the hand model's

`Gen/MeasureSrc.lean` is written by `harness/c18_src.py` from `qcelemental/util/misc.py` and
`qcelemental/molutil/connectivity.py` on every run (terms of the AST of `Model/MeasureAst.lean`).
This file proves, for ALL inputs, that

* evaluated with the field operations of any ordered field and ANY functions standing for
  `np.sqrt / np.arccos / np.arctan2 / np.pi / np.degrees`, the generated terms are the code-shaped
  hand functions of `Model/Measure.lean` (`distSq`, `angleCos`, `dihedralXY`) wrapped in those
  functions exactly as `Props/C18Real.lean` wraps them;
* hence over ℝ with Mathlib's `Real.sqrt`, `Real.arccos`, `Complex.arg`: `srcDistR = distR`,
  `srcAngleR = angleR`, `srcDihedralR = dihedralR`, and the `degrees=True` branch is `degrees ∘ ·`;
* the exact parts (`exactDist`, `exactAngle`, `exactDihedral` — the evaluators the driver runs at ℚ)
  are `distSq`, `angleArgs`, `dihedralArgs`;
* the generated pair loop of `guess_connectivity` (`srcConn` on `connSpec`) is `guessConnectivity`,
  both with the real `√· < ·` test and with the exact root-free test the driver runs.

The headline theorems of `Props/C18Real.lean` / `Props/C18.lean` are then restated over the
source-derived functions.
-/
set_option linter.unusedSectionVars false
namespace QcelVerif.MeasureSrc
open QcelVerif.Measure QcelVerif.Measure.V3 QcelVerif.MeasureAst QcelVerif.Gen.MeasureSrc

-- The equation lemmas of these functions are derived here once; without this, every proof that unfolds them derives them again.
section
attribute [local simp] evalS evalV
end

/-! ## evaluation over an ordered field with the transcendental functions as parameters -/

/-- whatever stands for `np.sqrt`, `np.arccos`, `np.arctan2`, `np.pi`, `np.degrees` -/
structure Fns (K : Type) where
  sqrt : K → K
  arccos : K → K
  arctan2 : K → K → K
  pi : K
  degrees : K → K

section generic
variable {K : Type} [Field K] [LinearOrder K] [IsStrictOrderedRing K]

/-- the field operations of `K`, `np.clip` = `Measure.clip` (= `min (max x lo) hi`), `f` for the rest -/
def fieldOps (f : Fns K) : Ops K where
  add := (· + ·)
  sub := (· - ·)
  mul := (· * ·)
  div := (· / ·)
  neg := (- ·)
  ofInt i := (i : K)
  sqrt := f.sqrt
  arccos := f.arccos
  arctan2 := f.arctan2
  clip := Measure.clip
  pi := f.pi
  degrees := f.degrees

/-- `compute_distance` as regenerated from the source, one row -/
def srcDistance (f : Fns K) (p q : V3 K) : K :=
  evalS (fieldOps f) (env4 p q q q false) compute_distance

/-- `compute_angle(…, degrees=deg)` as regenerated from the source, one row -/
def srcAngle (f : Fns K) (deg : Bool) (p1 p2 p3 : V3 K) : K :=
  evalS (fieldOps f) (env4 p1 p2 p3 p3 deg) compute_angle

/-- `compute_dihedral(…, degrees=deg)` as regenerated from the source, one row -/
def srcDihedral (f : Fns K) (deg : Bool) (p1 p2 p3 p4 : V3 K) : K :=
  evalS (fieldOps f) (env4 p1 p2 p3 p4 deg) compute_dihedral

/-! The evaluator at `fieldOps`, vector by vector: a row of the AST's arrays read as a `V3`, every vector
node of the AST is the hand model's operation of the same name. -/

def ofVec (v : Vec K) : V3 K := ⟨v.x, v.y, v.z⟩

theorem ofVec_pt (p1 p2 p3 p4 : V3 K) (deg : Bool) :
    ofVec ((env4 p1 p2 p3 p4 deg).pt 0) = p1 ∧ ofVec ((env4 p1 p2 p3 p4 deg).pt 1) = p2 ∧
    ofVec ((env4 p1 p2 p3 p4 deg).pt 2) = p3 ∧ ofVec ((env4 p1 p2 p3 p4 deg).pt 3) = p4 :=
  ⟨rfl, rfl, rfl, rfl⟩

section evaluator
variable (f : Fns K) (ρ : Env K)

theorem evalV_pt (i : Nat) : ofVec (evalV (fieldOps f) ρ (.pt i)) = ofVec (ρ.pt i) := by rw [evalV]

theorem evalV_sub (a b : VE) :
    ofVec (evalV (fieldOps f) ρ (.sub a b)) = ofVec (evalV (fieldOps f) ρ a) - ofVec (evalV (fieldOps f) ρ b) := by
  rw [evalV]; rfl

theorem evalV_scale (s : SE) (v : VE) :
    ofVec (evalV (fieldOps f) ρ (.scale s v)) = evalS (fieldOps f) ρ s • ofVec (evalV (fieldOps f) ρ v) := by
  rw [evalV]; rfl

theorem evalV_divS (v : VE) (s : SE) :
    ofVec (evalV (fieldOps f) ρ (.divS v s)) = (1 / evalS (fieldOps f) ρ s) • ofVec (evalV (fieldOps f) ρ v) := by
  rw [evalV]
  ext <;> exact (div_eq_mul_one_div _ _).trans (mul_comm _ _)

theorem evalV_cross (a b : VE) :
    ofVec (evalV (fieldOps f) ρ (.cross a b))
      = cross (ofVec (evalV (fieldOps f) ρ a)) (ofVec (evalV (fieldOps f) ρ b)) := by
  rw [evalV]; rfl

theorem evalS_dot (a b : VE) :
    evalS (fieldOps f) ρ (.dot a b) = dot (ofVec (evalV (fieldOps f) ρ a)) (ofVec (evalV (fieldOps f) ρ b)) := by
  rw [evalS]; rfl

end evaluator

/-- source-derived distance = `sqrt` of the hand model's `distSq`, whatever `sqrt` is -/
theorem srcDistance_eq (f : Fns K) (p q : V3 K) : srcDistance f p q = f.sqrt (distSq p q) := by
  obtain ⟨e0, e1, -, -⟩ := ofVec_pt p q q q false
  unfold srcDistance compute_distance
  -- `↓`: a `.dot` node is read as the hand model's `dot` before `evalS` could expand it into components
  simp only [↓evalS_dot, evalS, evalV_sub, evalV_pt, e0, e1]
  rfl

/-- source-derived angle = `pi − arccos (angleCos ‖v12‖ ‖v23‖ …)` with the hand model's code-shaped
`angleCos` (clip included) and `‖·‖ = sqrt (nsq ·)`, through `degrees` iff the flag is set —
whatever `sqrt`, `arccos`, `pi`, `degrees` are -/
theorem srcAngle_eq (f : Fns K) (deg : Bool) (p1 p2 p3 : V3 K) :
    srcAngle f deg p1 p2 p3 =
      if deg then
        f.degrees (f.pi - f.arccos (angleCos (f.sqrt (nsq (p1 - p2))) (f.sqrt (nsq (p2 - p3))) p1 p2 p3))
      else f.pi - f.arccos (angleCos (f.sqrt (nsq (p1 - p2))) (f.sqrt (nsq (p2 - p3))) p1 p2 p3) := by
  obtain ⟨e0, e1, e2, -⟩ := ofVec_pt p1 p2 p3 p3 deg
  unfold srcAngle compute_angle
  simp only [↓evalS_dot, evalS, evalV_sub, evalV_pt, e0, e1, e2]
  simp only [fieldOps, Int.cast_neg, Int.cast_one]
  rfl

/-- source-derived dihedral = `arctan2 y x` with `(x, y)` the hand model's code-shaped `dihedralXY`
at `n = sqrt (nsq (p3 − p2))`, through `degrees` iff the flag is set — whatever the functions are -/
theorem srcDihedral_eq (f : Fns K) (deg : Bool) (p1 p2 p3 p4 : V3 K) :
    srcDihedral f deg p1 p2 p3 p4 =
      if deg then
        f.degrees (f.arctan2 (dihedralXY (f.sqrt (nsq (p3 - p2))) p1 p2 p3 p4).2
          (dihedralXY (f.sqrt (nsq (p3 - p2))) p1 p2 p3 p4).1)
      else f.arctan2 (dihedralXY (f.sqrt (nsq (p3 - p2))) p1 p2 p3 p4).2
          (dihedralXY (f.sqrt (nsq (p3 - p2))) p1 p2 p3 p4).1 := by
  obtain ⟨e0, e1, e2, e3⟩ := ofVec_pt p1 p2 p3 p4 deg
  unfold srcDihedral compute_dihedral
  simp only [↓evalS_dot, evalS, evalV_sub, evalV_scale, evalV_divS, evalV_cross, evalV_pt, e0, e1, e2, e3]
  simp only [fieldOps, Int.cast_neg, Int.cast_one]
  rfl

end generic

/-! ## exact parts: what the driver evaluates at ℚ -/
section exact
variable {K : Type} [Field K] [LinearOrder K] [IsStrictOrderedRing K]

/-- the exact part of the source-derived distance (the argument of its `sqrt`) is `distSq` -/
theorem src_exactDist (p q : V3 K) :
    srcDistSq p q = some (distSq p q) := by
  unfold srcDistSq compute_distance
  simp only [exactDist, evalS, evalV, exactOps, Env.some, env4, toVec]
  v3_unfold
  rfl

/-- the exact part of the source-derived angle — numerator and radicand product of the `arccos`
argument `num / (√r₁ · √r₂)` inside `np.clip(·, −1, 1)` — is the hand model's `angleArgs` -/
theorem src_exactAngle (p1 p2 p3 : V3 K) :
    srcAngleArgs p1 p2 p3 = some (angleArgs p1 p2 p3) := by
  unfold srcAngleArgs compute_angle angleArgs
  simp only [radianBranch, exactAngle, evalS, evalV, exactOps, Env.some, env4, toVec]
  v3_unfold
  rfl

/-- the exact part of the source-derived dihedral — `x`, `y` of `arctan2(y, x)` evaluated in
`K(√N)`, `N` the one radicand of the term — is the hand model's `dihedralArgs = (XN, Y, N)`:
the code's `x` is the rational `XN / N`, its `y` is `(Y / N)·√N`.  Non-degenerate central bond. -/
theorem src_exactDihedral_partial (p1 p2 p3 p4 : V3 K) (h : nsq (p3 - p2) ≠ 0) :
    srcDihedralArgs p1 p2 p3 p4 = some (dihedralArgs p1 p2 p3 p4) := by
  -- FULL: the degenerate case `p2 = p3` (where Lean's `x / 0 = 0` replaces numpy's nan) is not covered
  -- the term reads the points only through the bond vectors `a = p2 - p1`, `u = p3 - p2`, `c = p4 - p3`
  obtain ⟨a, rfl⟩ : ∃ a, p1 = p2 - a := ⟨p2 - p1, by ext <;> simp⟩
  obtain ⟨u, rfl⟩ : ∃ u, p3 = p2 + u := ⟨p3 - p2, by ext <;> simp⟩
  obtain ⟨c, rfl⟩ : ∃ c, p4 = p2 + u + c := ⟨p4 - (p2 + u), by ext <;> simp⟩
  have hu : p2 + u - p2 = u := by ext <;> simp
  rw [hu] at h
  have hN : evalS exactOps (env4 (p2 - a) p2 (p2 + u) (p2 + u + c) false).some
      (.dot (.sub (.pt 2) (.pt 1)) (.sub (.pt 2) (.pt 1))) = some (nsq u) := by
    simp only [evalS, evalV, exactOps, Env.some, env4, toVec, V3.add_x, V3.add_y, V3.add_z, add_sub_cancel_left,
      Option.bind_eq_bind, Option.pure_def, Option.bind_some]
    rfl
  unfold srcDihedralArgs compute_dihedral
  simp only [radianBranch, exactDihedral, radicandsS, radicandsV, List.nil_append, List.cons_append,
    List.append_nil, hN, Option.bind_eq_bind, Option.bind_some]
  -- the radicand `N` and `t = 1/N` stay variables while the term is evaluated in `K(√N)`: `hN'` is all the
  -- `sqrt` node asks of `N`, and each component then differs from its target by a multiple of `N t - 1`
  generalize hN' : nsq u = N at h ⊢
  simp only [V3.nsq, V3.dot] at hN'
  have ht := mul_inv_cancel₀ h
  simp only [evalS, evalV, quadOps, Env.quad, env4, toVec, Option.bind_eq_bind, Option.pure_def, Option.bind_some,
    Int.cast_zero, Int.cast_one, Int.cast_neg, sub_zero, mul_zero, zero_mul, add_zero, zero_add, and_self, if_true,
    zero_sub, neg_zero, mul_one, one_mul, V3.add_x, V3.add_y, V3.add_z, V3.sub_x, V3.sub_y, V3.sub_z,
    V3.smul_x, V3.smul_y, V3.smul_z, add_sub_cancel_left, sub_sub_cancel, hN', dihedralArgs, V3.nsq, V3.dot, V3.cross,
    div_eq_mul_inv, inv_neg]
  generalize N⁻¹ = t at ht ⊢
  rw [if_pos]
  · simp only [Option.some.injEq, Prod.mk.injEq]
    refine ⟨?_, ?_, trivial⟩
    · linear_combination ((a.x * u.x + a.y * u.y + a.z * u.z) * (c.x * u.x + c.y * u.y + c.z * u.z) * (N * t + 1)) * ht
    · linear_combination ((u.y * (-1 * a.z) - u.z * (-1 * a.y)) * c.x + (u.z * (-1 * a.x) - u.x * (-1 * a.z)) * c.y
        + (u.x * (-1 * a.y) - u.y * (-1 * a.x)) * c.z) * ht
  · constructor
    · linear_combination ((a.x * a.x + a.y * a.y + a.z * a.z) * t * (c.x * u.x + c.y * u.y + c.z * u.z))
        * ((N * t + 1) * ht + t ^ 2 * N * hN')
    · ring

end exact

/-! ## over ℝ: the source-derived measurements are `distR`, `angleR`, `dihedralR`, `degrees` -/
section real

/-- Mathlib's functions where the source has numpy's: `np.sqrt ↦ Real.sqrt`, `np.arccos ↦ Real.arccos`,
`np.arctan2(y, x) ↦ atan2 y x = Complex.arg (x + y i)`, `np.pi ↦ Real.pi`, `np.degrees ↦ · * (180/π)` -/
noncomputable def realFns : Fns ℝ := ⟨Real.sqrt, Real.arccos, atan2, Real.pi, degrees⟩

/-- `compute_distance`, regenerated from the source, over ℝ -/
noncomputable def srcDistR (p q : V3 ℝ) : ℝ := srcDistance realFns p q
/-- `compute_angle(…, degrees=deg)`, regenerated from the source, over ℝ -/
noncomputable def srcAngleR (deg : Bool) (p1 p2 p3 : V3 ℝ) : ℝ := srcAngle realFns deg p1 p2 p3
/-- `compute_dihedral(…, degrees=deg)`, regenerated from the source, over ℝ -/
noncomputable def srcDihedralR (deg : Bool) (p1 p2 p3 p4 : V3 ℝ) : ℝ :=
  srcDihedral realFns deg p1 p2 p3 p4

theorem srcDistR_eq_distR (p q : V3 ℝ) : srcDistR p q = distR p q :=
  srcDistance_eq realFns p q

theorem srcAngleR_cases (deg : Bool) (p1 p2 p3 : V3 ℝ) :
    srcAngleR deg p1 p2 p3 = if deg then angleDegR p1 p2 p3 else angleR p1 p2 p3 :=
  srcAngle_eq realFns deg p1 p2 p3

theorem srcDihedralR_cases (deg : Bool) (p1 p2 p3 p4 : V3 ℝ) :
    srcDihedralR deg p1 p2 p3 p4 = if deg then dihedralDegR p1 p2 p3 p4 else dihedralR p1 p2 p3 p4 :=
  srcDihedral_eq realFns deg p1 p2 p3 p4

theorem srcAngleR_eq_angleR (p1 p2 p3 : V3 ℝ) : srcAngleR false p1 p2 p3 = angleR p1 p2 p3 :=
  srcAngleR_cases false p1 p2 p3

theorem srcDihedralR_eq_dihedralR (p1 p2 p3 p4 : V3 ℝ) :
    srcDihedralR false p1 p2 p3 p4 = dihedralR p1 p2 p3 p4 :=
  srcDihedralR_cases false p1 p2 p3 p4

/-- the `degrees=True` branch of the source is `np.degrees` of the radian value: `angleDegR`,
`dihedralDegR` of `Props/C18Real.lean` -/
theorem src_degrees_eq (p1 p2 p3 p4 : V3 ℝ) :
    srcAngleR true p1 p2 p3 = angleDegR p1 p2 p3 ∧
    srcDihedralR true p1 p2 p3 p4 = dihedralDegR p1 p2 p3 p4 :=
  ⟨srcAngleR_cases true p1 p2 p3, srcDihedralR_cases true p1 p2 p3 p4⟩

end real

/-! ## the pair loop of `guess_connectivity` -/
section conn
variable {K : Type} [Field K] [LinearOrder K] [IsStrictOrderedRing K]

/-- the exact test of the generated loop is defined on every pair and is the hand model's `bonded` -/
theorem exactTest_connSpec (thr : K) (a b : Atom K) :
    exactTest connSpec (connEnv thr (toAtomS a) (toAtomS b) b.r) = some (bonded thr a b) := by
  unfold connSpec bonded
  simp only [exactTest, evalS, evalV, exactOps, Env.some, connEnv, toAtomS, toVec, cmpSqrt,
    Option.bind_eq_bind, Option.pure_def, Option.bind_some, Int.cast_zero, if_true, if_false,
    OfNat.ofNat_ne_zero, one_ne_zero, OfNat.ofNat_ne_one]
  v3_unfold
  by_cases h1 : 0 < (a.r + b.r) * thr <;>
    by_cases h2 : (a.p.x - b.p.x) * (a.p.x - b.p.x) + (a.p.y - b.p.y) * (a.p.y - b.p.y)
      + (a.p.z - b.p.z) * (a.p.z - b.p.z) < (a.r + b.r) * thr * ((a.r + b.r) * thr) <;>
    simp [h1, h2]

/-- the driver's definedness check never fires on the generated loop -/
theorem srcConnExactDefined_true (thr : K) (atoms : List (Atom K)) :
    srcConnExactDefined thr atoms = true := by
  unfold srcConnExactDefined
  simp only [List.all_eq_true]
  intro a _ b _
  rw [exactTest_connSpec]
  rfl

theorem srcConnRow_eq (test : Env K → Bool) (thr : K) (x : Nat) (a : Atom K)
    (ht : ∀ b : Atom K, test (connEnv thr (toAtomS a) (toAtomS b) b.r) = bonded thr a b) :
    ∀ (l : List (Atom K)) (k : Nat),
      srcConnRow connSpec test thr x (toAtomS a) k (l.map toAtomS) ((l.map toAtomS).map AtomS.r)
        = connRow thr x a (k + x + 1) l
  | [], _ => by simp [srcConnRow, connRow]
  | b :: rest, k => by
      have ih := srcConnRow_eq test thr x a ht rest (k + 1)
      have e : k + 1 + x + 1 = k + x + 1 + 1 := by omega
      have e2 : connSpec.pairFirstIsX = true := rfl
      have e3 : connSpec.whereOff = 1 := rfl
      have hb : (toAtomS b).r = b.r := rfl
      simp only [List.map_cons, srcConnRow, connRow]
      rw [ih, e, hb, ht b, e2, e3]
      rfl

theorem srcConnFrom_eq (test : Env K → Bool) (thr : K)
    (ht : ∀ a b : Atom K, test (connEnv thr (toAtomS a) (toAtomS b) b.r) = bonded thr a b) :
    ∀ (l : List (Atom K)) (x : Nat),
      srcConnFrom connSpec test thr x (l.map toAtomS) = connFrom thr x l
  | [], _ => by simp [srcConnFrom, connFrom]
  | a :: rest, x => by
      have ih := srcConnFrom_eq test thr ht rest (x + 1)
      have hr := srcConnRow_eq test thr x a (ht a) rest 0
      simp only [List.map_cons, srcConnFrom, connFrom]
      rw [ih]
      have e : (connSpec.geomOff = 1) ∧ (connSpec.radOff = 1) := ⟨rfl, rfl⟩
      rw [e.1, e.2]
      simp only [List.drop_succ_cons, List.drop_zero]
      rw [hr]
      simp

/-- the generated pair loop (loop bounds, slice offsets, index shift, `<`, `(rᵢ + rⱼ)·threshold`,
pair order — all read from the source) with the exact test lists exactly the hand model's bonds -/
theorem srcConnExact_eq_guessConnectivity (thr : K) (atoms : List (Atom K)) :
    srcConnExact thr atoms = guessConnectivity thr atoms := by
  unfold srcConnExact srcConn guessConnectivity
  apply srcConnFrom_eq
  intro a b
  unfold exactTestB
  rw [exactTest_connSpec]
  cases bonded thr a b <;> rfl

end conn

section connReal

/-- the comparison operator read from the source, on reals -/
noncomputable def cmpR : Cmp → ℝ → ℝ → Bool
  | .lt, a, b => decide (a < b)
  | .le, a, b => decide (a ≤ b)
  | .gt, a, b => decide (a > b)
  | .ge, a, b => decide (a ≥ b)

/-- the source's test as written: `dists cmp cutoff` with `dists = np.sqrt(einsum(diffs, diffs))`
evaluated with `Real.sqrt` -/
noncomputable def realTest (ρ : Env ℝ) : Bool :=
  cmpR connSpec.cmp (evalS (fieldOps realFns) ρ connSpec.dist) (evalS (fieldOps realFns) ρ connSpec.cutoff)

/-- `guess_connectivity`'s pair loop regenerated from the source, over ℝ with the real square root -/
noncomputable def srcConnR (thr : ℝ) (atoms : List (Atom ℝ)) : List (Nat × Nat) :=
  srcConn connSpec realTest thr (atoms.map toAtomS)

theorem realTest_connSpec (thr : ℝ) (a b : Atom ℝ) :
    realTest (connEnv thr (toAtomS a) (toAtomS b) b.r) = bonded thr a b := by
  have h0 : 0 ≤ distSq a.p b.p := (distSq_nonneg_zero a.p b.p).1
  have key := sqrt_lt_iff (Real.sqrt (distSq a.p b.p)) (distSq a.p b.p) ((a.r + b.r) * thr)
    (Real.sqrt_nonneg _) (Real.mul_self_sqrt h0)
  have e1 : evalS (fieldOps realFns) (connEnv thr (toAtomS a) (toAtomS b) b.r) connSpec.dist
      = Real.sqrt (distSq a.p b.p) := by
    unfold connSpec
    simp only [evalS, evalV, fieldOps, realFns, connEnv, toAtomS, toVec, if_true, if_false, one_ne_zero]
    v3_unfold
  have e2 : evalS (fieldOps realFns) (connEnv thr (toAtomS a) (toAtomS b) b.r) connSpec.cutoff
      = (a.r + b.r) * thr := by
    unfold connSpec
    simp only [evalS, fieldOps, realFns, connEnv, toAtomS, if_true, if_false, OfNat.ofNat_ne_zero, one_ne_zero,
      OfNat.ofNat_ne_one]
  have e3 : connSpec.cmp = .lt := rfl
  unfold realTest bonded
  rw [e1, e2, e3]
  simp only [cmpR, decide_eq_decide]
  exact key

/-- with the real square root and the source's own `<`, the generated loop lists exactly the hand
model's bonds (which uses the root-free test): the two forms of the test agree by `sqrt_lt_iff` -/
theorem srcConnR_eq_guessConnectivity (thr : ℝ) (atoms : List (Atom ℝ)) :
    srcConnR thr atoms = guessConnectivity thr atoms := by
  unfold srcConnR srcConn guessConnectivity
  exact srcConnFrom_eq realTest thr (realTest_connSpec thr) atoms 0

end connReal

/-! ## the headline clauses of C18, restated over the source-derived functions -/
section headlines

/-- INVARIANCE: the source-derived distance, angle and dihedral (either `degrees` flag) are unchanged
by every proper rigid motion `p ↦ R p + t` (`R Rᵀ = I`, `det R = 1`) -/
theorem src_rigid_invariant (T : Motion ℝ) (h : T.R.IsRotation) (deg : Bool) (p1 p2 p3 p4 : V3 ℝ) :
    srcDistR (T.apply p1) (T.apply p2) = srcDistR p1 p2 ∧
    srcAngleR deg (T.apply p1) (T.apply p2) (T.apply p3) = srcAngleR deg p1 p2 p3 ∧
    srcDihedralR deg (T.apply p1) (T.apply p2) (T.apply p3) (T.apply p4)
      = srcDihedralR deg p1 p2 p3 p4 := by
  obtain ⟨d1, d2⟩ := degrees_rigid_invariant T h p1 p2 p3 p4
  refine ⟨?_, ?_, ?_⟩
  · rw [srcDistR_eq_distR, srcDistR_eq_distR, distR_rigid_invariant T h.1]
  · rw [srcAngleR_cases, srcAngleR_cases, d1, angleR_rigid_invariant T h.1]
  · rw [srcDihedralR_cases, srcDihedralR_cases, d2, dihedralR_rigid_invariant T h]

/-- RANGES: source-derived distance in `[0, ∞)`, angle in `[0, π]` (degrees: `[0, 180]`), dihedral in
`(−π, π]` (degrees: `(−180, 180]`) — for all inputs of the real model -/
theorem src_ranges (p1 p2 p3 p4 : V3 ℝ) :
    0 ≤ srcDistR p1 p2 ∧
    (0 ≤ srcAngleR false p1 p2 p3 ∧ srcAngleR false p1 p2 p3 ≤ Real.pi) ∧
    (-Real.pi < srcDihedralR false p1 p2 p3 p4 ∧ srcDihedralR false p1 p2 p3 p4 ≤ Real.pi) ∧
    (0 ≤ srcAngleR true p1 p2 p3 ∧ srcAngleR true p1 p2 p3 ≤ 180) ∧
    (-180 < srcDihedralR true p1 p2 p3 p4 ∧ srcDihedralR true p1 p2 p3 p4 ≤ 180) := by
  obtain ⟨-, -, -, -, ha, hd⟩ := degrees_spec p1 p2 p3 p4
  rw [srcDistR_eq_distR, srcAngleR_eq_angleR, srcDihedralR_eq_dihedralR, (src_degrees_eq p1 p2 p3 p4).1,
    (src_degrees_eq p1 p2 p3 p4).2]
  exact ⟨(distR_range p1 p2).1, angleR_range p1 p2 p3, dihedralR_range p1 p2 p3 p4, ha, hd⟩

/-- REFLECTION: under an improper orthogonal map (`det R = −1`) the source-derived distance and angle
are unchanged and the dihedral changes sign (the edge value `π`, planar trans, stays `π`) -/
theorem src_dihedral_reflection (T : Motion ℝ) (h : T.R.IsReflection) (p1 p2 p3 p4 : V3 ℝ) :
    srcDistR (T.apply p1) (T.apply p2) = srcDistR p1 p2 ∧
    srcAngleR false (T.apply p1) (T.apply p2) (T.apply p3) = srcAngleR false p1 p2 p3 ∧
    srcDihedralR false (T.apply p1) (T.apply p2) (T.apply p3) (T.apply p4)
      = if srcDihedralR false p1 p2 p3 p4 = Real.pi then Real.pi
        else -srcDihedralR false p1 p2 p3 p4 := by
  refine ⟨?_, ?_, ?_⟩
  · rw [srcDistR_eq_distR, srcDistR_eq_distR, distR_rigid_invariant T h.1]
  · rw [srcAngleR_eq_angleR, srcAngleR_eq_angleR, angleR_rigid_invariant T h.1]
  · rw [srcDihedralR_eq_dihedralR, srcDihedralR_eq_dihedralR, dihedralR_reflection T h]

/-- REVERSAL: listing the points backwards leaves the source-derived distance, angle and dihedral
unchanged (either `degrees` flag) -/
theorem src_reversal (deg : Bool) (p1 p2 p3 p4 : V3 ℝ) :
    srcDistR p2 p1 = srcDistR p1 p2 ∧
    srcAngleR deg p3 p2 p1 = srcAngleR deg p1 p2 p3 ∧
    srcDihedralR deg p4 p3 p2 p1 = srcDihedralR deg p1 p2 p3 p4 := by
  refine ⟨?_, ?_, ?_⟩
  · rw [srcDistR_eq_distR, srcDistR_eq_distR, (distR_range p1 p2).2.2]
  · rw [srcAngleR_cases, srcAngleR_cases]
    unfold angleDegR
    rw [angleR_reversal]
  · rw [srcDihedralR_cases, srcDihedralR_cases]
    unfold dihedralDegR
    rw [dihedralR_reversal]

/-- DEGREES: the `degrees=True` result of the source is the radian result times `180/π` -/
theorem src_degrees_factor (p1 p2 p3 p4 : V3 ℝ) :
    srcAngleR true p1 p2 p3 = srcAngleR false p1 p2 p3 * (180 / Real.pi) ∧
    srcDihedralR true p1 p2 p3 p4 = srcDihedralR false p1 p2 p3 p4 * (180 / Real.pi) := by
  rw [(src_degrees_eq p1 p2 p3 p4).1, (src_degrees_eq p1 p2 p3 p4).2, srcAngleR_eq_angleR,
    srcDihedralR_eq_dihedralR]
  exact ⟨rfl, rfl⟩

/-- TEXTBOOK: for non-degenerate input the source-derived values are `√(Δx²+Δy²+Δz²)`, the `arccos`
of the normalised dot product of the bond vectors at the vertex, and the IUPAC signed dihedral in
`atan2` form -/
theorem src_textbook (p1 p2 p3 p4 : V3 ℝ) (h12 : p1 ≠ p2) (h32 : p3 ≠ p2) :
    srcDistR p1 p2 = Real.sqrt ((p1.x - p2.x) ^ 2 + (p1.y - p2.y) ^ 2 + (p1.z - p2.z) ^ 2) ∧
    srcAngleR false p1 p2 p3
      = Real.arccos (dot (p1 - p2) (p3 - p2) / (normR (p1 - p2) * normR (p3 - p2))) ∧
    srcDihedralR false p1 p2 p3 p4
      = atan2 (normR (p3 - p2) * dot (p2 - p1) (cross (p3 - p2) (p4 - p3)))
          (dot (cross (p2 - p1) (p3 - p2)) (cross (p3 - p2) (p4 - p3))) := by
  rw [srcDistR_eq_distR, srcAngleR_eq_angleR, srcDihedralR_eq_dihedralR]
  exact ⟨(distR_textbook p1 p2).1, (angleR_textbook p1 p2 p3 h12 h32).1,
    dihedralR_textbook p1 p2 p3 p4 h32⟩

/-- non-vacuity of `src_textbook`'s hypotheses (test) -/
example : (⟨1, 0, 0⟩ : V3 ℝ) ≠ ⟨0, 0, 0⟩ ∧ (⟨0, 1, 0⟩ : V3 ℝ) ≠ ⟨0, 0, 0⟩ :=
  ⟨fun e => one_ne_zero (congrArg V3.x e), fun e => one_ne_zero (congrArg V3.y e)⟩

/-- non-vacuity of `src_exactDihedral_partial`'s hypothesis (test) -/
example : nsq ((⟨0, 1, 0⟩ : V3 ℚ) - ⟨0, 0, 0⟩) ≠ 0 := by decide +kernel

variable {K : Type} [Field K] [LinearOrder K] [IsStrictOrderedRing K]

/-- CONNECTIVITY, exactness: the source-derived list contains `(i, j)` iff `i < j`, both atoms exist
and `0 < (rᵢ+rⱼ)·thr`, `d² < ((rᵢ+rⱼ)·thr)²` -/
theorem src_connectivity_exact (thr : K) (atoms : List (Atom K)) (i j : Nat) :
    (i, j) ∈ srcConnExact thr atoms ↔
      i < j ∧ ∃ a b, atoms[i]? = some a ∧ atoms[j]? = some b ∧
        0 < (a.r + b.r) * thr ∧
        distSq a.p b.p < ((a.r + b.r) * thr) * ((a.r + b.r) * thr) := by
  rw [srcConnExact_eq_guessConnectivity]
  exact connectivity_exact thr atoms i j

/-- CONNECTIVITY, rigid motion: unchanged by every orthogonal motion of the geometry -/
theorem src_connectivity_rigid_invariant (T : Motion K) (h : T.R.IsOrthogonal) (thr : K)
    (atoms : List (Atom K)) :
    srcConnExact thr (atoms.map (Atom.move T)) = srcConnExact thr atoms := by
  rw [srcConnExact_eq_guessConnectivity, srcConnExact_eq_guessConnectivity]
  exact connectivity_rigid_invariant T h thr atoms

/-- CONNECTIVITY, relabelling: under an injective relabelling `σ` of the atoms the bonds correspond
(re-sorted within the pair) -/
theorem src_connectivity_relabel (thr : K) (atoms atoms' : List (Atom K)) (σ : Nat → Nat)
    (hσ : ∀ k a, atoms[k]? = some a → atoms'[σ k]? = some a)
    (hinj : ∀ i j, i < atoms.length → j < atoms.length → σ i = σ j → i = j)
    (i j : Nat) (hij : i < j) (hj : j < atoms.length) :
    (i, j) ∈ srcConnExact thr atoms ↔
      (min (σ i) (σ j), max (σ i) (σ j)) ∈ srcConnExact thr atoms' := by
  rw [srcConnExact_eq_guessConnectivity, srcConnExact_eq_guessConnectivity]
  exact connectivity_relabel thr atoms atoms' σ hσ hinj i j hij hj

/-- non-vacuity of `src_connectivity_relabel`'s hypotheses: swapping two atoms (test) -/
example : ∃ (atoms atoms' : List (Atom ℚ)) (σ : Nat → Nat),
    (∀ k a, atoms[k]? = some a → atoms'[σ k]? = some a) ∧
    (∀ i j, i < atoms.length → j < atoms.length → σ i = σ j → i = j) ∧ 0 < 1 ∧ 1 < atoms.length := by
  refine ⟨[⟨1, ⟨0, 0, 0⟩⟩, ⟨2, ⟨1, 0, 0⟩⟩], [⟨2, ⟨1, 0, 0⟩⟩, ⟨1, ⟨0, 0, 0⟩⟩], fun k => 1 - k, ?_, ?_,
    by decide, by decide⟩
  · intro k a hk
    match k, hk with
    | 0, hk => simpa using hk
    | 1, hk => simpa using hk
    | k + 2, hk => simp at hk
  · intro i j hi hj hs
    simp only [List.length_cons, List.length_nil] at hi hj
    dsimp only at hs
    omega

/-- TEST (the real rotation / reflection hypotheses are inhabited): see `Props/C18Real.lean` -/
example : (quatRot (1 : ℝ) 2 3 4).IsRotation := quatRot_isRotation _ _ _ _ (by norm_num)

end headlines

end QcelVerif.MeasureSrc
