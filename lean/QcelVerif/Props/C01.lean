import QcelVerif.Props.C01General
import QcelVerif.Props.C01Faithful
import QcelVerif.Props.C01Aliases
import QcelVerif.Props.C01Nuclides
import QcelVerif.Props.C01Anycase
import QcelVerif.Props.C01Anchor
/-!
# C01 — periodic-table lookups

`C01General`: any table, any ASCII text.  `C01Faithful`, `C01Aliases`, `C01Nuclides`: the whole finite *generated*
table, re-checked whenever the data files change (`shipped_faithful`: the shipped table is exactly the documented
rebuild of the raw NIST SRD-144 file); by kernel evaluation, except that for the nuclide rows only the spelling of the
key and the tree entry are evaluated and the rest follows from a lemma (`C01NucRow`).  `C01Anycase`: evaluated tests.
`C01Anchor`: anchored outside the repository, against the textbook table embedded in `harness/c01_anchor.py` and the
raw "Standard Atomic Weight" strings of SRD-144.  The same theorems for the lookups regenerated from
`periodic_table.py` are in `C01Src`, `C01SrcShipped`, `C01SrcAnchor` (not imported here).
-/
