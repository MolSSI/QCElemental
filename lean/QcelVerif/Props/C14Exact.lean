import QcelVerif.Lemmas.MunkresExactRun
import QcelVerif.Lemmas.MunkresRound
import QcelVerif.Props.C14Term
/-!
# C14 — floating point (and int64) inside the proved part, where it is exact

`Model/Munkres.lean` computes in exact rationals; the implementation in the work dtype of `state.C`
(float64, int64 or uint64 — `Model/MunkresFloat.lean` lists the three lines that do arithmetic).
This file proves, for every shape and without any size bound:

* `visited_values_box` — for cost entries on a grid `g·ℤ` inside `[lo, hi]` (`K = hi − lo`), at every
  state the run of `solve` visits: every entry of the working matrix is on the grid and in `[0, 2K]`,
  every subtracted minimum is on the grid (row minima in `[lo, hi]`, `minval` in `[0, 2K]`), potentials
  `u, v` with `C = cost − u − v` exist on the grid with explicit bounds, and every result of an
  arithmetic operation of `_step1` / `_step6` (`ArithVal`, `Lemmas/MunkresExact.lean`) is on the grid and in `[0, 4K]`;
* `entries_integral`, `entries_bounded` — the integer instance: entries integers with `|·| ≤ M` give
  integers everywhere, inside `B(M, n, m) = 8·M` (`boundB`; working matrix within `4M`);
* `solveFloat_eq_solve_box` — `solveFloat rnd inp = solve inp` (whole trace, answer, reduced matrix)
  for every `rnd` that is the identity on the grid values in `[0, 4K]`;
* `float_exact_on_small_integers` — with `B(M,n,m) ≤ 2^53` every such value is `Exact53`, and any
  rounding function that is the identity on `Exact53` values gives the exact run;
  `float64_exact_run` — in particular IEEE round-to-nearest-even (`Hash.rndDouble`, exact on integers
  up to `2^53` by `Lemmas/MunkresRound.lean`);
* `no_overflow_int64`, `no_overflow_uint64`, `no_overflow_int64_spread` — the integer work dtypes
  never wrap when `B(M,n,m) < 2^63` (`< 2^64`), or, for entries of any magnitude, when four times
  their spread is.
-/
namespace QcelVerif.Munkres
open QcelVerif.Assign

/-- `x` is an integer -/
def IsInt (x : Rat) : Prop := ∃ z : Int, x = z

theorem isInt_iff_grid {x : Rat} : IsInt x ↔ OnGrid 1 x := by
  constructor
  · rintro ⟨z, rfl⟩; exact ⟨z, by simp⟩
  · rintro ⟨z, rfl⟩; exact ⟨z, by simp⟩

/-- an integer of absolute value at most `2^53`: exactly representable in float64, and so are the sum
and the difference of two of them whenever those are again `Exact53` -/
def Exact53 (x : Rat) : Prop := IsInt x ∧ |x| ≤ 2 ^ 53

/-- every entry of the `n × m` input is an integer of absolute value `≤ M` -/
def Input.IntBounded (inp : Input) (M : Rat) : Prop :=
  ∀ i, i < inp.n → ∀ j, j < inp.m → IsInt (inp.costFn i j) ∧ |inp.costFn i j| ≤ M

/-- every entry of the `n × m` input is an integer in `[lo, hi]` -/
def Input.IntBox (inp : Input) (lo hi : Rat) : Prop := CostBox 1 lo hi inp.n inp.m inp.costFn

theorem Input.IntBounded.box {inp : Input} {M : Rat} (h : inp.IntBounded M) : inp.IntBox (-M) M :=
  ⟨fun i hi j hj => isInt_iff_grid.1 (h i hi j hj).1,
   fun i hi j hj => (abs_le.1 (h i hi j hj).2).1, fun i hi j hj => (abs_le.1 (h i hi j hj).2).2⟩

/-- **the executable check is sound**: what the driver reports as "inside the theorem" is the
hypothesis of the theorems below -/
theorem intBoxB_sound (inp : Input) (lo hi : Rat) (h : inp.intBoxB lo hi = true) : inp.IntBox lo hi := by
  unfold Input.intBoxB at h
  have h' := allIdx_iff.1 h
  refine ⟨fun i hi' j hj => ?_, fun i hi' j hj => ?_, fun i hi' j hj => ?_⟩
  · have := h' i hi' j hj
    simp only [Bool.and_eq_true, beq_iff_eq, decide_eq_true_eq] at this
    refine ⟨(inp.costFn i j).num, ?_⟩
    rw [mul_one]
    exact (Rat.coe_int_num_of_den_eq_one this.1.1).symm
  · have := h' i hi' j hj
    simp only [Bool.and_eq_true, beq_iff_eq, decide_eq_true_eq] at this
    exact this.1.2
  · have := h' i hi' j hj
    simp only [Bool.and_eq_true, beq_iff_eq, decide_eq_true_eq] at this
    exact this.2

/-- **Every value of the run, on the grid and in an explicit box.**  Cost entries on `g·ℤ` inside
`[lo, hi]`, `K = hi − lo`; `(nx, s)` any state the run of `solve inp` visits (wide orientation). -/
theorem visited_values_box {g lo hi : Rat} (inp : Input) (hw : inp.WellShaped)
    (hb : CostBox g lo hi inp.n inp.m inp.costFn) {nx : Option Step} {s : State} (hv : inp.Visits nx s) :
    -- the working matrix
    (∀ i, i < inp.wideN → ∀ j, j < inp.wideM → OnGrid g (get2 s.C i j)
        ∧ (nx = some .s1 → lo ≤ get2 s.C i j ∧ get2 s.C i j ≤ hi)
        ∧ (nx ≠ some .s1 → 0 ≤ get2 s.C i j ∧ get2 s.C i j ≤ 2 * (hi - lo)))
    -- the minima subtracted by step 1
    ∧ (nx = some .s1 → 0 < inp.wideM → ∀ i, i < inp.wideN →
        OnGrid g (rowMin (s.C.getD i #[])) ∧ lo ≤ rowMin (s.C.getD i #[]) ∧ rowMin (s.C.getD i #[]) ≤ hi)
    -- the minimum added / subtracted by step 6
    ∧ (nx = some .s6 → (s.rowUnc.any id && s.colUnc.any id) = true →
        OnGrid g (minval6 s) ∧ 0 ≤ minval6 s ∧ minval6 s ≤ 2 * (hi - lo))
    -- row and column potentials
    ∧ (nx ≠ some .s1 → 0 < inp.wideN → 0 < inp.wideM → ∃ u v : Nat → Rat,
        (∀ i, i < inp.wideN → ∀ j, j < inp.wideM → get2 s.C i j = inp.wideCost i j - u i - v j)
        ∧ (∀ i, i < inp.wideN → OnGrid g (u i) ∧ lo - 2 * (hi - lo) ≤ u i ∧ u i ≤ hi)
        ∧ (∀ j, j < inp.wideM → OnGrid g (v j) ∧ lo - 2 * (hi - lo) - hi ≤ v j ∧ v j ≤ hi - (lo - 2 * (hi - lo))))
    -- every result of an arithmetic operation
    ∧ (∀ st x, nx = some st → ArithVal st s x → OnGrid g x ∧ 0 ≤ x ∧ x ≤ 4 * (hi - lo)) := by
  have he := inp.visits_einv hw hb hv
  have hbw := inp.wide_box hb
  refine ⟨?_, ?_, ?_, ?_, ?_⟩
  · intro i hi' j hj
    by_cases h1 : nx = some .s1
    · subst h1
      have hI : Inv1 _ _ _ s := he.1
      rw [hI.C_eq i hi' j hj]
      exact ⟨hbw.grid i hi' j hj, fun _ => ⟨hbw.lo_le i hi' j hj, hbw.le_hi i hi' j hj⟩, fun h => absurd rfl h⟩
    · have hg := he.2 h1 i hi' j hj
      exact ⟨hg.1, fun h => absurd h h1, fun _ => ⟨(he.1.toBase h1).nonneg i hi' j hj, hg.2⟩⟩
  · intro h1 hm i hi'
    subst h1
    have hI : Inv1 _ _ _ s := he.1
    obtain ⟨j, hj, e⟩ := rowMin_cost hI hm i hi'
    rw [e]
    exact ⟨hbw.grid i hi' j hj, hbw.lo_le i hi' j hj, hbw.le_hi i hi' j hj⟩
  · intro h6 hany
    subst h6
    have hL : Loop _ _ _ s := he.1
    rw [minval6_eq]
    exact (step6_vals hL hbw (he.2 (by simp)) hany).1
  · intro h1 hn hm
    exact pot_exact (he.1.toBase h1) hbw (he.2 h1) hn hm
  · intro st x hst hx
    exact arith_box hbw (hst ▸ he) hx

/-- **1. Integer costs give integers everywhere**: every entry of the working matrix, every subtracted
minimum, row and column potentials, and every arithmetic result, at every state of the run. -/
theorem entries_integral (inp : Input) (hw : inp.WellShaped) (M : Rat) (hI : inp.IntBounded M)
    {nx : Option Step} {s : State} (hv : inp.Visits nx s) :
    (∀ i, i < inp.wideN → ∀ j, j < inp.wideM → IsInt (get2 s.C i j))
    ∧ (nx = some .s1 → 0 < inp.wideM → ∀ i, i < inp.wideN → IsInt (rowMin (s.C.getD i #[])))
    ∧ (nx = some .s6 → (s.rowUnc.any id && s.colUnc.any id) = true → IsInt (minval6 s))
    ∧ (nx ≠ some .s1 → 0 < inp.wideN → 0 < inp.wideM → ∃ u v : Nat → Rat,
        (∀ i, i < inp.wideN → ∀ j, j < inp.wideM → get2 s.C i j = inp.wideCost i j - u i - v j)
        ∧ (∀ i, i < inp.wideN → IsInt (u i)) ∧ (∀ j, j < inp.wideM → IsInt (v j)))
    ∧ (∀ st x, nx = some st → ArithVal st s x → IsInt x) := by
  obtain ⟨h1, h2, h3, h4, h5⟩ := visited_values_box inp hw hI.box hv
  refine ⟨fun i hi' j hj => isInt_iff_grid.2 (h1 i hi' j hj).1,
    fun a b i hi' => isInt_iff_grid.2 (h2 a b i hi').1, fun a b => isInt_iff_grid.2 (h3 a b).1, ?_,
    fun st x a b => isInt_iff_grid.2 (h5 st x a b).1⟩
  intro a b c
  obtain ⟨u, v, e, hu, hv'⟩ := h4 a b c
  exact ⟨u, v, e, fun i hi' => isInt_iff_grid.2 (hu i hi').1, fun j hj => isInt_iff_grid.2 (hv' j hj).1⟩

/-- **2. Everything stays inside `B(M, n, m) = 8·M`** (`boundB`; independent of the shape): working
matrix in `[0, 4M]` (`[-M, M]` before step 1), row minima in `[-M, M]`, `minval` in `[0, 4M]`,
potentials `|u|, |v| ≤ 8M`, arithmetic results in `[0, 8M]`. -/
theorem entries_bounded (inp : Input) (hw : inp.WellShaped) (M : Rat) (hI : inp.IntBounded M)
    {nx : Option Step} {s : State} (hv : inp.Visits nx s) :
    (∀ i, i < inp.wideN → ∀ j, j < inp.wideM →
        (nx = some .s1 → |get2 s.C i j| ≤ M) ∧ (nx ≠ some .s1 → 0 ≤ get2 s.C i j ∧ get2 s.C i j ≤ 4 * M)
        ∧ |get2 s.C i j| ≤ boundB M inp.n inp.m)
    ∧ (nx = some .s1 → 0 < inp.wideM → ∀ i, i < inp.wideN → |rowMin (s.C.getD i #[])| ≤ M)
    ∧ (nx = some .s6 → (s.rowUnc.any id && s.colUnc.any id) = true → 0 ≤ minval6 s ∧ minval6 s ≤ 4 * M)
    ∧ (nx ≠ some .s1 → 0 < inp.wideN → 0 < inp.wideM → ∃ u v : Nat → Rat,
        (∀ i, i < inp.wideN → ∀ j, j < inp.wideM → get2 s.C i j = inp.wideCost i j - u i - v j)
        ∧ (∀ i, i < inp.wideN → |u i| ≤ boundB M inp.n inp.m)
        ∧ (∀ j, j < inp.wideM → |v j| ≤ boundB M inp.n inp.m))
    ∧ (∀ st x, nx = some st → ArithVal st s x → 0 ≤ x ∧ x ≤ boundB M inp.n inp.m) := by
  obtain ⟨h1, h2, h3, h4, h5⟩ := visited_values_box inp hw hI.box hv
  unfold boundB
  refine ⟨?_, ?_, ?_, ?_, ?_⟩
  · intro i hi' j hj
    obtain ⟨_, a, b⟩ := h1 i hi' j hj
    refine ⟨fun h => abs_le.2 ⟨(a h).1, (a h).2⟩, fun h => ⟨(b h).1, by linarith only [(b h).2]⟩, ?_⟩
    by_cases h : nx = some .s1
    · have := a h
      exact abs_le.2 ⟨by linarith only [this.1, this.2], by linarith only [this.1, this.2]⟩
    · have := b h
      exact abs_le.2 ⟨by linarith only [this.1, this.2], by linarith only [this.1, this.2]⟩
  · intro a b i hi'
    have := h2 a b i hi'
    exact abs_le.2 ⟨this.2.1, this.2.2⟩
  · intro a b
    have := h3 a b
    exact ⟨this.2.1, by linarith only [this.2.2]⟩
  · intro a b c
    obtain ⟨u, v, e, hu, hv'⟩ := h4 a b c
    have hbw := inp.wide_box hI.box
    have hM1 := hbw.lo_le 0 b 0 c
    have hM2 := hbw.le_hi 0 b 0 c
    refine ⟨u, v, e, fun i hi' => ?_, fun j hj => ?_⟩
    · have := hu i hi'
      exact abs_le.2 ⟨by linarith only [this.2.1, hM1, hM2], by linarith only [this.2.2, hM1, hM2]⟩
    · have := hv' j hj
      exact abs_le.2 ⟨by linarith only [this.2.1, hM1, hM2], by linarith only [this.2.2, hM1, hM2]⟩
  · intro st x a b
    have := h5 st x a b
    exact ⟨this.2.1, by linarith only [this.2.2]⟩

/-- **3. The run in the work dtype IS the exact run** — same trace, same pairs, same reduced matrix,
same error if any — for every rounding function that is the identity on the grid values in
`[0, 4·(hi − lo)]`.  No size bound; termination not needed. -/
theorem solveFloat_eq_solve_box {g lo hi : Rat} (inp : Input) (hw : inp.WellShaped)
    (hb : CostBox g lo hi inp.n inp.m inp.costFn)
    (rnd : Rat → Rat) (hrnd : ∀ x, OnGrid g x → 0 ≤ x → x ≤ 4 * (hi - lo) → rnd x = x) :
    solveFloat rnd inp = solve inp :=
  solveFloat_eq inp hw hb rnd hrnd

/-- the states recorded in an answer's trace are states the run visits (so the clauses above hold
of every `_Hungary` state the harness compares) -/
theorem trace_states_visited (inp : Input) (o : Output) (h : solve inp = .ok o) :
    ∀ p ∈ o.trace, ∃ nx, inp.Visits nx p.2 :=
  trace_visited inp o h

theorem exact53_of {x B : Rat} (hx : IsInt x) (h0 : 0 ≤ x) (hB : x ≤ B) (h53 : B ≤ 2 ^ 53) : Exact53 x :=
  ⟨hx, abs_le.2 ⟨by linarith, by linarith⟩⟩

/-- **4. float64 is exact on small integers.**  If every entry is an integer with `|entry| ≤ M` and
`B(M, n, m) = 8M ≤ 2^53`, then the entries, every entry of every visited working matrix and every
result of an arithmetic operation of the run are `Exact53`; and for every rounding function `rnd` that
leaves `Exact53` values unchanged (float64 addition / subtraction: correctly rounded, so exact when
the exact result is representable; comparison and `min` never round) `solveFloat rnd inp = solve inp`. -/
theorem float_exact_on_small_integers (inp : Input) (hw : inp.WellShaped) (M : Rat) (hI : inp.IntBounded M)
    (hB : boundB M inp.n inp.m ≤ 2 ^ 53) :
    (∀ i, i < inp.n → ∀ j, j < inp.m → Exact53 (inp.costFn i j))
    ∧ (∀ nx s, inp.Visits nx s →
        (∀ i, i < inp.wideN → ∀ j, j < inp.wideM → Exact53 (get2 s.C i j))
        ∧ ∀ st x, nx = some st → ArithVal st s x → Exact53 x)
    ∧ ∀ rnd : Rat → Rat, (∀ x, Exact53 x → rnd x = x) → solveFloat rnd inp = solve inp := by
  unfold boundB at hB
  refine ⟨?_, ?_, ?_⟩
  · intro i hi' j hj
    have := hI i hi' j hj
    have h0 : 0 ≤ M := le_trans (abs_nonneg _) this.2
    exact ⟨this.1, le_trans this.2 (by linarith)⟩
  · intro nx s hv
    obtain ⟨b1, _, _, _, b5⟩ := entries_bounded inp hw M hI hv
    obtain ⟨i1, _, _, _, i5⟩ := entries_integral inp hw M hI hv
    unfold boundB at b1 b5
    refine ⟨fun i hi' j hj => ⟨i1 i hi' j hj, le_trans (b1 i hi' j hj).2.2 hB⟩, fun st x a b => ?_⟩
    have := b5 st x a b
    exact exact53_of (i5 st x a b) this.1 this.2 hB
  · intro rnd hrnd
    apply solveFloat_eq inp hw hI.box rnd
    intro x hx h0 hK
    exact hrnd x (exact53_of (isInt_iff_grid.2 hx) h0 (by linarith) hB)

/-- `Hash.rndDouble` (IEEE round-to-nearest-even to 53 bits) leaves `Exact53` values unchanged -/
theorem rndDouble_exact53 (x : Rat) (hx : Exact53 x) : Hash.rndDouble x = x := by
  obtain ⟨⟨z, rfl⟩, hz⟩ := hx
  apply rndDouble_int
  have : |((z : Int) : Rat)| = ((|z| : Int) : Rat) := by simp
  rw [this] at hz
  exact_mod_cast hz

/-- **4b. The float64 run is the exact run**: with the concrete IEEE rounding at every `+`/`−` of the
work matrix, integer entries with `8·max|entry| ≤ 2^53` give exactly the trace and the answer of the
exact-rational model (to which `solve_correct` applies). -/
theorem float64_exact_run (inp : Input) (hw : inp.WellShaped) (M : Rat) (hI : inp.IntBounded M)
    (hB : boundB M inp.n inp.m ≤ 2 ^ 53) : solveFloat Hash.rndDouble inp = solve inp :=
  (float_exact_on_small_integers inp hw M hI hB).2.2 _ rndDouble_exact53

/-- two's-complement wrap-around leaves the integers in `[0, 2^63)` alone -/
theorem wrapInt64_grid {x : Rat} (hx : OnGrid 1 x) (h0 : 0 ≤ x) (h : x < 2 ^ 63) : wrapInt64 x = x := by
  obtain ⟨z, rfl⟩ := isInt_iff_grid.2 hx
  have h1 : (0 : Int) ≤ z := by exact_mod_cast h0
  exact wrapInt64_int z (by omega) (by exact_mod_cast h)

/-- **5. int64 never overflows** when `B(M, n, m) = 8M < 2^63`: every arithmetic result lies in
`[0, 2^63)`, and the run with two's-complement wrap-around at every operation is the exact run. -/
theorem no_overflow_int64 (inp : Input) (hw : inp.WellShaped) (M : Rat) (hI : inp.IntBounded M)
    (hB : boundB M inp.n inp.m < 2 ^ 63) :
    (∀ nx s st x, inp.Visits nx s → nx = some st → ArithVal st s x → IsInt x ∧ 0 ≤ x ∧ x < 2 ^ 63)
    ∧ solveFloat wrapInt64 inp = solve inp := by
  refine ⟨?_, ?_⟩
  · intro nx s st x hv a b
    have h1 := (entries_bounded inp hw M hI hv).2.2.2.2 st x a b
    exact ⟨(entries_integral inp hw M hI hv).2.2.2.2 st x a b, h1.1, lt_of_le_of_lt h1.2 hB⟩
  · unfold boundB at hB
    apply solveFloat_eq inp hw hI.box wrapInt64
    exact fun x hx h0 hK => wrapInt64_grid hx h0 (by linarith only [hK, hB])

/-- … and uint64 never wraps when `8M < 2^64` (every arithmetic result is non-negative) -/
theorem no_overflow_uint64 (inp : Input) (hw : inp.WellShaped) (M : Rat) (hI : inp.IntBounded M)
    (hB : boundB M inp.n inp.m < 2 ^ 64) : solveFloat wrapUInt64 inp = solve inp := by
  unfold boundB at hB
  apply solveFloat_eq inp hw hI.box wrapUInt64
  intro x hx h0 hK
  obtain ⟨z, rfl⟩ := isInt_iff_grid.2 hx
  have h1 : (0 : Int) ≤ z := by exact_mod_cast h0
  have h2 : ((z : Int) : Rat) < 2 ^ 64 := by linarith
  exact wrapUInt64_int z h1 (by exact_mod_cast h2)

/-- **5b. … for entries of any magnitude**: integer entries in `[lo, hi]` (themselves int64 values,
possibly far beyond `2^53`) with `4·(hi − lo) < 2^63`: only differences of entries are ever formed, so
nothing wraps. -/
theorem no_overflow_int64_spread (inp : Input) (hw : inp.WellShaped) (lo hi : Rat) (hI : inp.IntBox lo hi)
    (hB : 4 * (hi - lo) < 2 ^ 63) : solveFloat wrapInt64 inp = solve inp := by
  apply solveFloat_eq inp hw hI wrapInt64
  exact fun x hx h0 hK => wrapInt64_grid hx h0 (by linarith only [hK, hB])

/-! #### non-vacuity (tests, by kernel evaluation) -/

/-- TEST: the docstring example (entries 0..5) satisfies the hypotheses of `entries_integral`,
`entries_bounded`, `float_exact_on_small_integers`, `float64_exact_run`, `no_overflow_int64` with `M = 5` -/
example : exInput.IntBounded 5 ∧ boundB 5 exInput.n exInput.m ≤ 2 ^ 53 ∧ boundB 5 exInput.n exInput.m < 2 ^ 63 := by
  refine ⟨?_, by norm_num [boundB], by norm_num [boundB]⟩
  have hb := intBoxB_sound exInput (-5) 5 (by decide +kernel)
  intro i hi j hj
  exact ⟨isInt_iff_grid.2 (hb.grid i hi j hj), abs_le.2 ⟨hb.lo_le i hi j hj, hb.le_hi i hi j hj⟩⟩

/-- TEST: … and so does the tall example with `M = 11` (run on the transpose) -/
example : exTall.IntBox (-11) 11 := intBoxB_sound exTall (-11) 11 (by decide +kernel)

/-- TEST: a state with an arithmetic result exists: the fresh state of the docstring example is visited
and `4 − 1 = 3` is a difference formed by its step 1 -/
example : exInput.Visits (some .s1) exInput.start ∧ ArithVal .s1 exInput.start 3 :=
  ⟨Reach.start, 0, 0, by decide +kernel, by decide +kernel, by decide +kernel⟩

/-- TEST: the rounded runs of the docstring example (float64 rounding, int64 wrap) reach step 6 and
equal the exact run, pairs and reduced matrix included -/
example : (match solveFloat Hash.rndDouble exInput, solveFloat wrapInt64 exInput, solve exInput with
    | .ok a, .ok b, .ok c => a.pairs == c.pairs && a.red == c.red && b.red == c.red
        && a.trace.size == c.trace.size && c.trace.any (·.1 == .s6)
    | _, _, _ => false) = true := by decide +kernel

/-- TEST: the hypotheses of `solveFloat_eq_solve_box` are satisfiable with a non-trivial rounding function:
the docstring example lies on the grid `1·ℤ` inside `[0, 5]`, and IEEE rounding is the identity on the
integers in `[0, 20]` -/
example : CostBox 1 0 5 exInput.n exInput.m exInput.costFn
    ∧ ∀ x, OnGrid 1 x → 0 ≤ x → x ≤ 4 * ((5 : Rat) - 0) → Hash.rndDouble x = x :=
  ⟨intBoxB_sound exInput 0 5 (by decide +kernel), fun x hx h0 hK =>
    rndDouble_exact53 x (exact53_of (isInt_iff_grid.2 hx) h0 hK (by norm_num))⟩

/-- int64 entries near `2^62` (far beyond `2^53`, and `8·M ≥ 2^63`) whose spread is 9 -/
def exHuge : Input :=
  { ndim := 2, n := 2, m := 2, dt := .int
    ent := #[#[.fin 4611686018427387904, .fin 4611686018427387913], #[.fin 4611686018427387911, .fin 4611686018427387905]] }

/-- TEST: `exHuge` satisfies the hypotheses of `no_overflow_int64_spread` (and not those of
`no_overflow_int64`), and its wrapped run equals its exact run -/
example : exHuge.WellShaped ∧ exHuge.IntBox 4611686018427387904 4611686018427387913
    ∧ (4 : Rat) * (4611686018427387913 - 4611686018427387904) < 2 ^ 63
    ∧ ¬ boundB 4611686018427387913 2 2 < 2 ^ 63 := by
  refine ⟨by unfold Input.WellShaped; decide, intBoxB_sound _ _ _ (by decide +kernel), by norm_num, by norm_num [boundB]⟩

/-- a 2 × 2 float matrix with an entry of magnitude `2^53`: `8·M` is beyond `2^53` -/
def exBig : Input :=
  { ndim := 2, n := 2, m := 2, dt := .float
    ent := #[#[.fin (-9007199254740992), .fin 1], #[.fin 1, .fin 3]] }

/-- TEST: rounding is NOT harmless beyond the bound — `1 − (−2^53) = 2^53 + 1` is not a double, and the
float64 run of `exBig` returns another reduced matrix than the exact run (so the hypothesis
`B ≤ 2^53` is doing work) -/
example : (match solveFloat Hash.rndDouble exBig, solve exBig with
    | .ok a, .ok c => a.red != c.red
    | _, _ => false) = true := by decide +kernel

end QcelVerif.Munkres
