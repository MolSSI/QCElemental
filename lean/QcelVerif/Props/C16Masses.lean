import QcelVerif.Props.C16

/-!
# C16 — the inertial frame belongs to the masses it was computed with

The harness's call-sequence stream orients isotopologues / custom-mass copies of one structure one after
another in one process: a frame worked out for the masses `ms` and handed to a molecule with the same
coordinates but masses `ms'` (a memo keyed without the masses, masses looked up per element, …) is
what that stream looks for.  These theorems say exactly when such a *stale* frame still satisfies the
centre-of-mass clause: **iff the two mass distributions have the same centre of mass** — so the oracle
clause `oracle:com`, evaluated with the molecule's OWN masses, separates the two whenever they differ.
-/

namespace QcelVerif.Orient

section Ordered
variable {K : Type} [Field K] [LinearOrder K] [IsStrictOrderedRing K]

/-- **Stale frame.**  `out` = the geometry oriented with masses `ms` (any `V` with `V Vᵀ = 1`).  For any
other masses `ms'` (one per atom, total `≠ 0`) the `ms'`-weighted sum of `out` vanishes **iff** the centre
of mass of the input under `ms'` is the centre of mass under `ms`. -/
theorem orient_com_other_masses {noise : K} {ms ms' : List K} {xs : List (V3 K)} {V : M3 K} {out : List (V3 K)}
    (hV : M3.mul V (M3.tr V) = M3.one) (h : orientCore noise ms xs V = .ok out)
    (hl' : ms'.length = xs.length) (hM' : massSum ms' ≠ 0) :
    wsum ms' out = V3.zero ↔ com ms' xs = com ms xs := by
  obtain ⟨_, _, rfl⟩ := orientCore_ok h
  rw [phaseLoop_eq_colSign, wsum_map_flip, rotate, wsum_map_mulMat, wsum_center_other hl' hM']
  set g1 := (center ms xs).map (fun p => V3.mulMat p V) with hg1
  constructor
  · intro h0
    -- undo the sign flips, then the rotation, then the factor Σ m'
    have h1 := congrArg (V3.flip (colSign noise (g1.map (·.x))) (colSign noise (g1.map (·.y))) (colSign noise (g1.map (·.z)))) h0
    rw [flip_flip, colSign_sq, colSign_sq, colSign_sq, flip_one, flip_zero] at h1
    have h2 := congrArg (fun p => V3.mulMat p (M3.tr V)) h1
    simp only [mulMat_mulMat, hV, mulMat_one, mulMat_zero] at h2
    have h3 : (com ms' xs).x - (com ms xs).x = 0 ∧ (com ms' xs).y - (com ms xs).y = 0 ∧
        (com ms' xs).z - (com ms xs).z = 0 := by
      simpa [V3.smul, V3.sub, V3.zero, hM'] using h2
    exact V3.ext' (sub_eq_zero.mp h3.1) (sub_eq_zero.mp h3.2.1) (sub_eq_zero.mp h3.2.2)
  · intro hc
    rw [hc, smul_sub_self, mulMat_zero, flip_zero]

end Ordered

/-! ### tests (concrete, kernel-evaluated) -/
section Examples

/-- the hypotheses of `orient_com_other_masses` are satisfiable with `com ms' xs ≠ com ms xs`:
H–H–H on a line, unit masses vs. the first atom doubled (H → D) -/
def staleXs : List (V3 ℚ) := [⟨0, 0, 0⟩, ⟨1, 0, 0⟩, ⟨3, 0, 0⟩]

example : com [2, 1, 1] staleXs ≠ com [1, 1, 1] staleXs := by decide +kernel

/-- test: the frame computed for masses `[1,1,1]` (here `V = 1` is a legitimate eigen-frame: the tensor is
diagonal) is centred for `[1,1,1]` and NOT centred for the isotopologue `[2,1,1]` -/
theorem stale_frame_witness :
    (orientCore (1 / 100000000) [1, 1, 1] staleXs M3.one).map (wsum [1, 1, 1]) = .ok V3.zero ∧
    (orientCore (1 / 100000000) [1, 1, 1] staleXs M3.one).map (wsum [2, 1, 1]) ≠ .ok V3.zero := by
  decide +kernel

end Examples

end QcelVerif.Orient
