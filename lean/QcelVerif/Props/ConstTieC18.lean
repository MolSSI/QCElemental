import QcelVerif.Model.MeasureRadii
import QcelVerif.Gen.SrcConsts
import QcelVerif.Props.ConstTieLib
/-!
# C18 — the literals of the measure / connectivity models are those of `misc.py` and `connectivity.py`

Inline in the models: the clip bounds `(-1, 1)` of `compute_angle` (`Measure.angleCos`), the factor `-1.0` of
`compute_dihedral`'s first vector (`dihedralXY`, `dihedralArgs`), the fall-back radius `1.8` of `guess_connectivity`
(both `covalentradii.get(s, missing=1.8)` and the `except NotAnElementError` branch; `Measure.missing18`), the strict
bond criterion `dists < (r_i + r_j) * threshold` and the truthiness test of `default_connectivity`.  The default
`threshold=1.2` is an argument of the model: it is pinned to the double harness/c18.py uses when it leaves the keyword
out.  `Gen/SrcConsts.lean` is rewritten on every run from the two sources (by `ast`).
-/
namespace QcelVerif.Measure
open QcelVerif QcelVerif.ConstTie V3

theorem measure_float_literals_ok :
    FloatLit.ok Src.guess_connectivity.threshold Src.guess_connectivity.threshold_dec Src.guess_connectivity.threshold_bits Src.guess_connectivity.threshold_f64 = true ∧
    FloatLit.ok Src.guess_connectivity.missing_radius Src.guess_connectivity.missing_radius_dec Src.guess_connectivity.missing_radius_bits Src.guess_connectivity.missing_radius_f64 = true ∧
    FloatLit.ok Src.guess_connectivity.unknown_symbol_radius Src.guess_connectivity.unknown_symbol_radius_dec Src.guess_connectivity.unknown_symbol_radius_bits Src.guess_connectivity.unknown_symbol_radius_f64 = true ∧
    FloatLit.ok Src.compute_dihedral.v1_factor Src.compute_dihedral.v1_factor_dec Src.compute_dihedral.v1_factor_bits Src.compute_dihedral.v1_factor_f64 = true := by
  decide +kernel

/-- the model's fall-back radius is the double of BOTH source literals (`missing=1.8` and the handler's `1.8`) -/
theorem missing_radius_matches_source :
    missing18 = Src.guess_connectivity.missing_radius_f64 ∧
    missing18 = Src.guess_connectivity.unknown_symbol_radius_f64 := by
  decide +kernel

/-- `cosine_angle = np.clip(dot / denom, lo, hi)` with the source's bounds -/
theorem clip_bounds_match_source (n12 n23 : Rat) (p1 p2 p3 : V3 Rat) :
    angleCos n12 n23 p1 p2 p3 =
      clip (dot (p1 - p2) (p2 - p3) / (n12 * n23))
        ((Src.compute_angle.clip_lo : Int) : Rat) ((Src.compute_angle.clip_hi : Int) : Rat) := by
  have h1 : Src.compute_angle.clip_lo = -1 := by decide
  have h2 : Src.compute_angle.clip_hi = 1 := by decide
  rw [h1, h2]
  simp [angleCos]

/-- `v1 = -1.0 * (points2 - points1)`: the model's first vector carries the source's factor -/
theorem dihedral_first_vector_matches_source (n : Rat) (p1 p2 p3 p4 : V3 Rat) :
    dihedralXY n p1 p2 p3 p4 =
      (let v1 := Src.compute_dihedral.v1_factor_f64 • (p2 - p1)
       let v2 := (1 / n) • (p3 - p2)
       let v3 := p4 - p3
       let v := v1 - (dot v1 v1) • v2
       let w := v3 - (dot v3 v2) • v2
       (dot v w, dot (cross v2 v) w)) := by
  have h : Src.compute_dihedral.v1_factor_f64 = -1 := by decide +kernel
  rw [h]
  rfl

/-- two atoms are bonded iff the cutoff `(r_a + r_b)·thr` is positive and the squared distance is strictly below its
square — the source's `dists < cutoff` on the non-negative root -/
theorem bond_criterion_matches_source (thr : Rat) (a b : Atom Rat) :
    bonded thr a b = decide (0 < (a.r + b.r) * thr ∧ distSq a.p b.p < ((a.r + b.r) * thr) * ((a.r + b.r) * thr)) ∧
    Src.guess_connectivity.criterion_strict = true :=
  ⟨rfl, by decide⟩

/-- `threshold=1.2`: the double harness/c18.py hands to the model when the keyword is left out -/
theorem threshold_default_matches_source :
    Src.guess_connectivity.threshold_f64 = (5404319552844595 : Rat) / 4503599627370496 ∧
    Src.guess_connectivity.threshold = 6 / 5 := by
  decide +kernel

/-- `default_connectivity=None` by default, and it is applied only when truthy: `None` and `0` give plain pairs -/
theorem default_connectivity_matches_source (thr : Rat) (atoms : List (Atom Rat)) :
    Src.guess_connectivity.default_connectivity = none ∧
    guessConnectivityDC thr none atoms = (guessConnectivity thr atoms).map (fun (i, j) => (i, j, none)) ∧
    guessConnectivityDC thr (some 0) atoms = (guessConnectivity thr atoms).map (fun (i, j) => (i, j, none)) := by
  refine ⟨by decide, rfl, ?_⟩
  simp [guessConnectivityDC]

end QcelVerif.Measure
