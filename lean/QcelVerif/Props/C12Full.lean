import QcelVerif.Props.C12
import QcelVerif.Lemmas.QuatSurj
import QcelVerif.Lemmas.RigidMotion
/-!
# C12 (full strength over ℝ) — optimality against *every* proper rotation / proper rigid motion

`Props/C12.lean` `kabsch_optimal_partial` bounds the residual of the certified `U(q)` by that of every rotation of
*quaternion form* `U(p)/|p|²`.  Over ℝ every proper rotation has that form (`Lemmas/QuatSurj.lean`:
`quatRot_surjective`; `quatRot_surjective_of_sqrt` over every ordered field with square roots of positive elements — for
exactly the matrix written at align.py:545-553), so here the bound is stated against **every proper rotation**, and —
with the centroid decomposition of `Lemmas/RigidMotion.lean` — against **every proper rigid motion** `c ↦ (c − s)·R`
applied to the *uncentred* geometries, also on the output record of the model `kabschAlign`.

slack = `2ε + δ(2+δ)·Σ|c̃|²` as in `kabsch_optimal_partial` (ε: certificate margin on the eigenvalue,
δ: `| |q|² − 1 |` of the floating-point eigenvector).  Outside these theorems: `eigh` itself and float rounding (handled
per call by the certificate).  Uniqueness of an EXACTLY superimposing rotation is `Props/C12Unique.lean`; uniqueness of
a general minimiser is not proved.
-/
namespace QcelVerif.Kabsch
variable {K : Type}

section Ordered
variable [Field K] [LinearOrder K] [IsStrictOrderedRing K]

omit [LinearOrder K] [IsStrictOrderedRing K] in
/-- for a unit quaternion the normalised rotation `U(p)/|p|²` is `U(p)` itself -/
theorem rotOf_unit (p : Q4 K) (hp : p.nrm2 = 1) : rotOf p = quatRot p := by
  rw [rotOf, hp, div_one, smul_one_eq]

/-- optimality against every proper rotation, over any ordered field with square roots of positive elements -/
theorem kabsch_optimal_of_sqrt (hsqrt : ∀ x : K, 0 < x → ∃ s : K, s * s = x)
    (pairs : List (V3 K × V3 K)) (q : Q4 K) (δ ε : K)
    (h : isTopEig (Fmat (cov pairs)) q δ ε = true)
    (R : M3 K) (ho : R.mul R.transpose = M3.one) (hd : R.det = 1) :
    resid (quatRot q) pairs ≤ resid R pairs + 2 * ε + δ * (2 + δ) * sumC2 pairs := by
  obtain ⟨p, hp, rfl⟩ := quatRot_surjective_of_sqrt hsqrt R ho hd
  have := kabsch_optimal_partial pairs q δ ε h p (by rw [hp]; exact one_ne_zero)
  rwa [rotOf_unit p hp] at this

end Ordered

/-- **characterisation of SO(3)** by the implementation's quaternion matrix: a real 3×3 matrix is a proper
    rotation iff it is `quatRot q` for a unit quaternion `q` -/
theorem properRot_iff_quat (R : M3 ℝ) :
    (R.mul R.transpose = M3.one ∧ R.det = 1) ↔ ∃ q : Q4 ℝ, q.nrm2 = 1 ∧ quatRot q = R := by
  constructor
  · rintro ⟨ho, hd⟩; exact quatRot_surjective R ho hd
  · rintro ⟨q, hq, rfl⟩; exact ⟨(quatRot_orthogonal q hq).1, quatRot_det q hq⟩

-- non-vacuity (test): a proper rotation with trace −1 (rotation by π about x), i.e. one for which the
-- `q₀` branch of the construction is unavailable (`1 + tr R = 0`) and another column must be used
example : (⟨1, 0, 0, 0, -1, 0, 0, 0, -1⟩ : M3 ℝ).mul (⟨1, 0, 0, 0, -1, 0, 0, 0, -1⟩ : M3 ℝ).transpose = M3.one
    ∧ (⟨1, 0, 0, 0, -1, 0, 0, 0, -1⟩ : M3 ℝ).det = 1 ∧ (Nmat (⟨1, 0, 0, 0, -1, 0, 0, 0, -1⟩ : M3 ℝ)).f00 = 0 := by
  refine ⟨?_, ?_, ?_⟩
  · ext <;> simp only [M3.mul, M3.transpose, M3.one] <;> norm_num
  · simp only [M3.det]; norm_num
  · simp only [Nmat]; norm_num
-- and a reflection is (rightly) not reached: det = −1
example : (⟨1, 0, 0, 0, 1, 0, 0, 0, -1⟩ : M3 ℝ).det = -1 := by simp only [M3.det]; norm_num

/-- **optimality, full strength**: if the eigenvector `q` the implementation used passes the certificate for
    `F = F(cov(R̃,C̃))`, then the rotation `U(q)` it built has a residual no larger than that of **every proper
    rotation** `R` (orthogonal, det = +1) of ℝ³, up to `2ε + δ(2+δ)·Σ|c|²`. -/
theorem kabsch_optimal (pairs : List (V3 ℝ × V3 ℝ)) (q : Q4 ℝ) (δ ε : ℝ)
    (h : isTopEig (Fmat (cov pairs)) q δ ε = true)
    (R : M3 ℝ) (ho : R.mul R.transpose = M3.one) (hd : R.det = 1) :
    resid (quatRot q) pairs ≤ resid R pairs + 2 * ε + δ * (2 + δ) * sumC2 pairs :=
  kabsch_optimal_of_sqrt (fun x hx => ⟨Real.sqrt x, Real.mul_self_sqrt hx.le⟩) pairs q δ ε h R ho hd

/-- **recovery, full strength**: if *some proper rotation* maps the centred concern geometry exactly onto the
    centred reference, the certified answer's residual is at most `2ε + δ(2+δ)Σ|c|²`. -/
theorem recovery_full (pairs : List (V3 ℝ × V3 ℝ)) (q : Q4 ℝ) (δ ε : ℝ)
    (h : isTopEig (Fmat (cov pairs)) q δ ε = true)
    (R : M3 ℝ) (ho : R.mul R.transpose = M3.one) (hd : R.det = 1) (hexact : resid R pairs = 0) :
    resid (quatRot q) pairs ≤ 2 * ε + δ * (2 + δ) * sumC2 pairs := by
  have := kabsch_optimal pairs q δ ε h R ho hd
  rw [hexact] at this; linarith

/-- **optimal proper rigid motion**: for two geometries of equal length, with `pairs` the centred pairs
    `kabsch_align` works on (align.py:488-496), the certified rotation's centred residual is at most the
    residual `Σ_i |r_i − (c_i − s)·R|²` of **every** proper rotation `R` combined with **every** shift `s`,
    applied to the *uncentred* geometries the way `align_coordinates` applies a recipe — up to the slack. -/
theorem kabsch_optimal_rigid (Rg Cg : List (V3 ℝ)) (hlen : Rg.length = Cg.length) (q : Q4 ℝ) (δ ε : ℝ)
    (h : isTopEig (Fmat (cov ((centre Rg).zip (centre Cg)))) q δ ε = true)
    (R : M3 ℝ) (ho : R.mul R.transpose = M3.one) (hd : R.det = 1) (s : V3 ℝ) :
    resid (quatRot q) ((centre Rg).zip (centre Cg))
      ≤ dist2 Rg (Cg.map (fun c => rowMul (c.sub s) R)) + 2 * ε
        + δ * (2 + δ) * sumC2 ((centre Rg).zip (centre Cg)) := by
  have h1 := kabsch_optimal _ q δ ε h R ho hd
  have h2 := centred_le_motion R s Rg Cg hlen
  linarith

/-- the same on the output record of the model: whenever the exact-equality head-off did not fire,
    `res2` (= N·rmsd²/bohr2angstroms²) is within the slack of the residual of every proper rigid motion -/
theorem kabschAlign_optimal (Rg Cg : List (V3 ℝ)) (hlen : Rg.length = Cg.length) (q : Q4 ℝ) (δ ε : ℝ)
    (hs : (kabschAlign Rg Cg q).shortcut = false)
    (h : isTopEig (kabschAlign Rg Cg q).F q δ ε = true)
    (R : M3 ℝ) (ho : R.mul R.transpose = M3.one) (hd : R.det = 1) (s : V3 ℝ) :
    (kabschAlign Rg Cg q).res2
      ≤ dist2 Rg (Cg.map (fun c => rowMul (c.sub s) R)) + 2 * ε + δ * (2 + δ) * (kabschAlign Rg Cg q).sc2 := by
  unfold kabschAlign at hs h ⊢
  by_cases hg : geomEq Rg Cg = true
  · simp only [hg, if_true] at hs; cases hs
  · simp only [hg] at h ⊢
    exact kabsch_optimal_rigid Rg Cg hlen q δ ε h R ho hd s

/-- **recovery of a known proper rigid motion**: if the reference is the concern geometry moved by a proper
    rotation `R` and a shift `s` (`r_i = (c_i − s)·R` for every atom), the certified answer's residual is at
    most `2ε + δ(2+δ)Σ|c̃|²` — zero up to the stated numerical slack. -/
theorem recovery_rigid (Rg Cg : List (V3 ℝ)) (R : M3 ℝ) (ho : R.mul R.transpose = M3.one) (hd : R.det = 1)
    (s : V3 ℝ) (hmove : Rg = Cg.map (fun c => rowMul (c.sub s) R)) (q : Q4 ℝ) (δ ε : ℝ)
    (h : isTopEig (Fmat (cov ((centre Rg).zip (centre Cg)))) q δ ε = true) :
    resid (quatRot q) ((centre Rg).zip (centre Cg))
      ≤ 2 * ε + δ * (2 + δ) * sumC2 ((centre Rg).zip (centre Cg)) := by
  have hlen : Rg.length = Cg.length := by rw [hmove, List.length_map]
  have h1 := kabsch_optimal_rigid Rg Cg hlen q δ ε h R ho hd s
  rw [← hmove, dist2_self] at h1
  linarith

-- non-vacuity of the hypotheses over ℝ (test): two atoms (already centred), C = R rotated by 120° about (1,1,1);
-- q = (1/2,1/2,1/2,1/2) is certified with δ = 0, ε = 1/1000 and its rotation superimposes the pairs exactly.
example :
    let pairs : List (V3 ℝ × V3 ℝ) := [(⟨1, 0, 0⟩, ⟨0, 1, 0⟩), (⟨-1, 0, 0⟩, ⟨0, -1, 0⟩)]
    isTopEig (Fmat (cov pairs)) (⟨1/2, 1/2, 1/2, 1/2⟩ : Q4 ℝ) 0 (1/1000) = true
      ∧ resid (quatRot (⟨1/2, 1/2, 1/2, 1/2⟩ : Q4 ℝ)) pairs = 0 := by
  intro pairs
  -- `F = F(cov)` has the two entries `F₀₃ = F₁₂ = 2`, `|q|² = 1` and `qᵀFq = 2`
  have hF : Fmat (cov pairs) = ⟨0, 0, 0, 2, 0, 2, 0, 0, 0, 0⟩ := by
    ext <;> simp only [pairs, Fmat, cov, outer, M3.add, M3.zero] <;> norm_num
  have hq : (⟨1/2, 1/2, 1/2, 1/2⟩ : Q4 ℝ).nrm2 = 1 := by simp only [Q4.nrm2]; norm_num
  have hquad : quad ⟨0, 0, 0, 2, 0, 2, 0, 0, 0, 0⟩ (⟨1/2, 1/2, 1/2, 1/2⟩ : Q4 ℝ) = 2 := by
    simp only [quad]; norm_num
  rw [rmsd2_formula_unit _ hq, hF, isTopEig, hq, hquad]
  constructor
  · simp only [shiftNeg, posDef4, posDef3, posDef2, schur4, schur3, schur2]
    norm_num
  · simp only [pairs, sumR2, sumC2, V3.nrm2]; norm_num

end QcelVerif.Kabsch
