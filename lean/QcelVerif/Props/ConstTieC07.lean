import QcelVerif.Model.TextToMol
import QcelVerif.Gen.SrcConsts
import QcelVerif.Props.ConstTieLib
/-!
# C07 — the processing options `from_string` hands on are those of the source

`from_string` calls `from_input_arrays(speclabel=True, …)` and passes no `tooclose=`, `mtol=`, `nonphysical=`,
`zero_ghost_fragments=`, so `from_input_arrays`' keyword defaults apply and are forwarded unchanged to `from_arrays`.
The model writes these values into `textInp` / `textSettings` (via `FromArrays.dfltTooclose`, `dfltMtol` and literal
booleans).  `Gen/SrcConsts.lean` is rewritten on every run from `from_string.py` / `from_arrays.py` (by `ast`); the
theorems below hold for every parsed text.
-/
namespace QcelVerif.TextToMol
open QcelVerif QcelVerif.MolText QcelVerif.FromArrays QcelVerif.ConstTie

theorem text_float_literals_ok :
    FloatLit.ok Src.from_input_arrays.tooclose Src.from_input_arrays.tooclose_dec Src.from_input_arrays.tooclose_bits Src.from_input_arrays.tooclose_f64 = true ∧
    FloatLit.ok Src.from_input_arrays.mtol Src.from_input_arrays.mtol_dec Src.from_input_arrays.mtol_bits Src.from_input_arrays.mtol_f64 = true := by
  decide +kernel

/-- for every processed text: the options of the `from_arrays` call are the source's — `speclabel` as written in
`from_string`'s call, the other four `from_input_arrays`' defaults (which the call does not override and
`from_input_arrays` forwards unchanged) -/
theorem text_options_match_source (p : Processed) (g : List Rat) (c m : Option Int) (fc fm : List (Option Int)) :
    (textInp p g c m fc fm).speclabel = Src.from_string.call_speclabel ∧
    (textInp p g c m fc fm).tooclose = Src.from_input_arrays.tooclose_f64 ∧
    (textInp p g c m fc fm).mtol = Src.from_input_arrays.mtol_f64 ∧
    (textInp p g c m fc fm).nonphysical = Src.from_input_arrays.nonphysical ∧
    (textInp p g c m fc fm).zgf = Src.from_input_arrays.zero_ghost_fragments ∧
    Src.from_string.call_uses_defaults = true ∧ Src.from_input_arrays.forwards_options = true := by
  have h1 : dfltTooclose = Src.from_input_arrays.tooclose_f64 := by decide +kernel
  have h2 : dfltMtol = Src.from_input_arrays.mtol_f64 := by decide +kernel
  refine ⟨by simp [textInp]; decide, by simp [textInp, h1], by simp [textInp, h2], by simp [textInp]; decide,
    by simp [textInp]; decide, by decide, by decide⟩

/-- the settings the per-atom reconciler sees on the text route -/
theorem text_settings_match_source :
    textSettings = { speclabel := Src.from_string.call_speclabel, nonphysical := Src.from_input_arrays.nonphysical,
                     mtol := Src.from_input_arrays.mtol_f64 } := by
  decide +kernel

/-- a text that names no unit is read in `from_input_arrays`' default unit; `bohr` texts in the source's second word -/
theorem text_default_unit_matches_source :
    unitsOf none = Src.from_input_arrays.units.toList ∧ unitsOf (some false) = Src.from_input_arrays.units.toList ∧
    [unitsOf (some false), unitsOf (some true)] = Src.units.accepted.map String.toList := by
  decide

end QcelVerif.TextToMol
