import QcelVerif.Props.C03
import QcelVerif.Lemmas.UnitLex
import QcelVerif.Props.C03NamesA
import QcelVerif.Props.C03NamesB
import QcelVerif.Props.C03NamesC
import QcelVerif.Props.C03NamesD
import QcelVerif.Props.C03NamesE
/-!
# C03 at the level of the strings users pass (`Model/UnitText.lean`)

Name resolution over the regenerated registry names (`spellings_resolve`: the 8 869 listed spellings — {long prefix, symbol prefix} ×
{long names, plurals, symbols} of every SI prefix on every table unit — minus the eight collisions of `collisionTable`), and the group
laws of `Props/C03.lean` restated for `conversion_factor` on texts and on Quantity / Decimal / non-unit arguments (SI reading), for
every text the modelled front end reads.  The round trip of a rendered text through the front end is `render_roundtrip` in
`Props/C03Parse.lean`.

KNOWN DEFECT (`implicit_mul_drops_factor_counterexample`): `conversion_factor("2 (3 m)", "m")` is 2 in the code model, 6 in the SI reading.
-/
namespace QcelVerif.Units.Text
open QcelVerif.PStr (Bytes)

theorem registry_tree_sorted : Gen.unitTree.isBST = true := by decide +kernel

theorem spellingsOf_all : (x : Base) → (spellingsOf x).all chk = true
  | .meter => sp_meter
  | .angstrom => sp_angstrom
  | .angstromCap => sp_angstromCap
  | .bohr => sp_bohr
  | .inch => sp_inch
  | .foot => sp_foot
  | .yard => sp_yard
  | .mile => sp_mile
  | .gram => sp_gram
  | .amu => sp_amu
  | .emass => sp_emass
  | .second => sp_second
  | .minute => sp_minute
  | .hour => sp_hour
  | .ampere => sp_ampere
  | .kelvin => sp_kelvin
  | .rankine => sp_rankine
  | .mole => sp_mole
  | .coulomb => sp_coulomb
  | .echarge => sp_echarge
  | .statC => sp_statC
  | .joule => sp_joule
  | .calorie => sp_calorie
  | .eV => sp_eV
  | .hartree => sp_hartree
  | .erg => sp_erg
  | .hertz => sp_hertz
  | .wavenumber => sp_wavenumber
  | .debye => sp_debye
  | .newton => sp_newton
  | .dyne => sp_dyne
  | .pascal => sp_pascal
  | .bar => sp_bar
  | .atm => sp_atm
  | .torr => sp_torr
  | .volt => sp_volt
  | .tesla => sp_tesla
  | .farad => sp_farad
  | .watt => sp_watt
  | .auPressure => sp_auPressure
  | .au .hyper1 => sp_au_hyper1
  | .au .hyper2 => sp_au_hyper2
  | .au .action => sp_au_action
  | .au .chargeDensity => sp_au_chargeDensity
  | .au .current => sp_au_current
  | .au .dipole => sp_au_dipole
  | .au .efield => sp_au_efield
  | .au .efg => sp_au_efg
  | .au .polarizability => sp_au_polarizability
  | .au .potential => sp_au_potential
  | .au .quadrupole => sp_au_quadrupole
  | .au .force => sp_au_force
  | .au .magDipole => sp_au_magDipole
  | .au .magFlux => sp_au_magFlux
  | .au .magnetizability => sp_au_magnetizability
  | .au .momentum => sp_au_momentum
  | .au .permittivity => sp_au_permittivity
  | .au .time => sp_au_time
  | .au .velocity => sp_au_velocity

theorem spellingsOf_resolve (x : Base) (s : Spelling) (hx : s ∈ spellingsOf x) (hc : isCollision s = false) :
    resolveUnit Gen.nameReg s.name = .ok (s.p, s.x) := by
  have h := List.all_eq_true.mp (spellingsOf_all x) s hx
  unfold chk at h
  rw [hc, Bool.false_or, okB_eq] at h
  exact (okS_iff s).mp h

/-- every listed spelling that is not one of the eight collisions resolves to the unit it was written for -/
theorem spellings_resolve (s : Spelling) (hs : s ∈ allSpellings) (hc : isCollision s = false) :
    resolveUnit Gen.nameReg s.name = .ok (s.p, s.x) := by
  obtain ⟨x, _, hx⟩ := List.mem_flatMap.mp hs
  exact spellingsOf_resolve x s hx hc

example : (⟨3, .calorie, [107,99,97,108]⟩ : Spelling) ∈ allSpellings ∧ isCollision ⟨3, .calorie, [107,99,97,108]⟩ = false :=
  ⟨List.mem_flatMap.mpr ⟨.calorie, by decide, by decide +kernel⟩, by decide⟩

/-- the eight collisions, and what the rule picks for each -/
theorem spelling_collisions : collisionTable.all chkCollision = true := by decide +kernel

def siExps : List Int := 0 :: siPrefixes.map (·.1)

theorem baseCanon_mem (x : Base) : baseCanon x ∈ baseLongs x := by
  cases x with
  | au u => cases u <;> exact List.mem_cons_self
  | _ => exact List.mem_cons_self

theorem prefixLong_of_mem : ∀ pre ∈ siPrefixes, prefixLong pre.1 = pre.2.1 := by decide

/-- the canonical spelling is the long prefix (or none) in front of a long name -/
theorem canon_mem_spellingsOf {p : Int} (hp : p ∈ siExps) (x : Base) : ⟨p, x, canonName p x⟩ ∈ spellingsOf x := by
  have hb : baseCanon x ∈ baseLongs x ++ (baseLongs x).map (· ++ sfxS) ++ baseSyms x :=
    List.mem_append_left _ (List.mem_append_left _ (baseCanon_mem x))
  rcases List.mem_cons.mp hp with rfl | hp
  · exact List.mem_append_left _ (List.mem_map.mpr ⟨_, hb, rfl⟩)
  · obtain ⟨pre, hpre, rfl⟩ := List.mem_map.mp hp
    refine List.mem_append_right _ (List.mem_flatMap.mpr ⟨pre, hpre, List.mem_append_left _ (List.mem_map.mpr ⟨_, hb, ?_⟩)⟩)
    rw [canonName, prefixLong_of_mem pre hpre]

theorem canon_not_collision :
    (siExps.all fun p => allBases.all fun x => !isCollision ⟨p, x, canonName p x⟩) = true := by decide +kernel

/-- the canonical spelling of every SI prefix on every table unit reads back as that prefix and unit: it is a listed spelling and none
    of the eight collisions -/
theorem canon_names_resolve :
    (siExps.all fun p => allBases.all fun x =>
      match resolveUnit Gen.nameReg (canonName p x) with
      | .ok (p', x') => decide (p' = p) && decide (x' = x)
      | .error _ => false) = true := by
  simp only [List.all_eq_true]
  intro p hp x hx
  have hc := List.all_eq_true.mp (List.all_eq_true.mp canon_not_collision p hp) x hx
  have h : resolveUnit Gen.nameReg (canonName p x) = .ok (p, x) :=
    spellingsOf_resolve x ⟨p, x, canonName p x⟩ (canon_mem_spellingsOf hp x) (by simpa using hc)
  simp [h]

/-- `conversion_factor(sa, sb)` for two `str` arguments under the SI reading -/
def convText (reg : NameReg) (cd : Codata) (sa sb : Bytes) : Except CErr Rat :=
  convArgs (parseText reg) (conv cd) (.str sa) (.str sb)

/-- … and as the code computes it -/
def convImplText (reg : NameReg) (cd : Codata) (sa sb : Bytes) : Except CErr Rat :=
  convArgs (parseImpl reg) (convImpl cd) (.str sa) (.str sb)

theorem conv_self_text (reg : NameReg) (cd : Codata) (s : Bytes) (a : Expr) (h : parseText reg s = .ok a)
    (hm : mag cd a ≠ 0) : convText reg cd s s = .ok 1 := by
  unfold convText; rw [convArgs_str h h, conv_self cd a hm]

theorem conv_swap_text (reg : NameReg) (cd : Codata) (sa sb : Bytes) (a b : Expr)
    (ha : parseText reg sa = .ok a) (hb : parseText reg sb = .ok b)
    (hd : dim a = dim b) (hma : mag cd a ≠ 0) (hmb : mag cd b ≠ 0) :
    ∃ x y, convText reg cd sa sb = .ok x ∧ convText reg cd sb sa = .ok y ∧ x * y = 1 := by
  obtain ⟨x, y, h1, h2, h3⟩ := conv_swap cd a b hd hma hmb
  refine ⟨x, y, ?_, ?_, h3⟩
  · unfold convText; rw [convArgs_str ha hb, h1]
  · unfold convText; rw [convArgs_str hb ha, h2]

theorem conv_chain_text (reg : NameReg) (cd : Codata) (sa sb sc : Bytes) (a b c : Expr)
    (ha : parseText reg sa = .ok a) (hb : parseText reg sb = .ok b) (hc : parseText reg sc = .ok c)
    (h1 : dim a = dim b) (h2 : dim b = dim c) (hmb : mag cd b ≠ 0) :
    ∃ x y z, convText reg cd sa sb = .ok x ∧ convText reg cd sb sc = .ok y ∧ convText reg cd sa sc = .ok z ∧ x * y = z := by
  obtain ⟨x, y, z, e1, e2, e3, e4⟩ := conv_chain cd a b c h1 h2 hmb
  refine ⟨x, y, z, ?_, ?_, ?_, e4⟩
  · unfold convText; rw [convArgs_str ha hb, e1]
  · unfold convText; rw [convArgs_str hb hc, e2]
  · unfold convText; rw [convArgs_str ha hc, e3]

theorem conv_dim_mismatch_text (reg : NameReg) (cd : Codata) (sa sb : Bytes) (a b : Expr)
    (ha : parseText reg sa = .ok a) (hb : parseText reg sb = .ok b) (hd : dim a ≠ dim b) :
    convText reg cd sa sb = .error (.conv .dimensionality) := by
  unfold convText; rw [convArgs_str ha hb, conv_dim_mismatch cd a b hd]

/-- Quantity arguments `p * parse(sa)`, `q * parse(sb)`: the factor is `p / q` times the factor of the texts (an error stays that error) -/
theorem conv_quantity_prefactor (reg : NameReg) (cd : Codata) (sa sb : Bytes) (a b : Expr) (p q : Rat)
    (ha : parseText reg sa = .ok a) (hb : parseText reg sb = .ok b) :
    convArgs (parseText reg) (conv cd) (.qty p sa) (.qty q sb) = (convText reg cd sa sb).map (fun x => p / q * x) := by
  unfold convText
  rw [convArgs_str ha hb]
  simp only [convArgs, argExpr, ha, hb, isDecimalQty, Except.map, Bool.or_self, Bool.false_eq_true, if_false]
  rw [conv_prefactor cd a b p q]
  cases conv cd a b <;> rfl

/-- a source text the front end refuses: `conversion_factor` raises that error, whatever the target is -/
theorem malformed_source_refused (parse : Bytes → Except TErr Expr) (cv : Expr → Expr → Except Err Rat) (sa : Bytes) (c : Arg) (e : TErr)
    (h : parse sa = .error e) : convArgs parse cv (.str sa) c = .error (.text e) := by
  simp [convArgs, argExpr, h, Except.map]

theorem malformed_target_refused (parse : Bytes → Except TErr Expr) (cv : Expr → Expr → Except Err Rat) (sa sb : Bytes) (a : Expr) (e : TErr)
    (ha : parse sa = .ok a) (h : parse sb = .error e) : convArgs parse cv (.str sa) (.str sb) = .error (.text e) := by
  simp [convArgs, argExpr, ha, h, Except.map]

/-- the code on texts: where its parser reads what the text means, and the dimensions agree, it returns the SI ratio -/
theorem convImpl_text_same_dim (reg : NameReg) {cd : Codata} (hp : cd.Pos) (sa sb : Bytes) (a b : Expr)
    (ha : parseText reg sa = .ok a) (hb : parseText reg sb = .ok b)
    (ha' : parseImpl reg sa = .ok a) (hb' : parseImpl reg sb = .ok b) (hd : dim a = dim b) :
    convImplText reg cd sa sb = convText reg cd sa sb := by
  unfold convImplText convText
  rw [convArgs_str ha' hb', convArgs_str ha hb, convImpl_same_dim hp a b hd]

/-- trees without juxtaposition -/
def NoJuxt : PT → Prop
  | .num _ _ _ => True
  | .name _ => True
  | .bin _ l r => NoJuxt l ∧ NoJuxt r
  | .imul _ _ => False
  | .un _ t => NoJuxt t

/-- `evalTree` under pint's `_eval_implicit_mul` reading (`impl = true`) and under the plain reading (`impl = false`) agree on every
    tree without a juxtaposition node, for any resolver -/
theorem parseImpl_eq_parseText_of_noJuxtaposition (res : Bytes → Except TErr (Int × Base)) (t : PT) (h : NoJuxt t) :
    evalTree res true t = evalTree res false t := by
  induction t with
  | num m e i => rfl
  | name s => rfl
  | bin o l r ihl ihr => simp only [evalTree, ihl h.1, ihr h.2]
  | imul l r _ _ => exact absurd h (by simp [NoJuxt])
  | un o t ih => simp only [evalTree, ih h]

example : NoJuxt (.bin .mul (.num 2 0 true) (.un .minus (.name [109]))) := by simp [NoJuxt]

theorem decimal_quantity_typeError (parse : Bytes → Except TErr Expr) (cv : Expr → Expr → Except Err Rat) (sa sb : Bytes) (a b : Expr)
    (ha : parse sa = .ok a) (hb : parse sb = .ok b) :
    convArgs parse cv (.qtyDecimal sa) (.str sb) = .error .typeError ∧ convArgs parse cv (.str sa) (.qtyDecimal sb) = .error .typeError := by
  simp [convArgs, argExpr, ha, hb, isDecimalQty, Except.map]

theorem non_unit_objects (parse : Bytes → Except TErr Expr) (cv : Expr → Expr → Except Err Rat) :
    convArgs parse cv .other .other = .ok 1 := by
  simp [convArgs, argExpr, isDecimalQty]

def isOk (r : Except CErr Rat) (v : Rat) : Bool := match r with | .ok x => decide (x = v) | .error _ => false

/-- KNOWN DEFECT (pint's `_eval_implicit_mul`, reached through `conversion_factor`): `2 (3 m)` → `m` is 2 in the code model and 6 in
    the SI reading; with an explicit `*` both are 6 -/
theorem implicit_mul_drops_factor_counterexample :
    isOk (convImplText Gen.nameReg Gen.codata2014 [50,32,40,51,32,109,41] [109]) 2 = true ∧
    isOk (convText Gen.nameReg Gen.codata2014 [50,32,40,51,32,109,41] [109]) 6 = true ∧
    isOk (convImplText Gen.nameReg Gen.codata2014 [50,32,42,32,40,51,32,109,41] [109]) 6 = true := by decide +kernel

def parsesTo (s : Bytes) (cd : Codata) (v : Rat) (t : Bytes) : Bool := isOk (convText Gen.nameReg cd s t) v

-- TEST: "kcal/mol" → "J/mol" is 4184
example : parsesTo [107,99,97,108,47,109,111,108] Gen.codata2014 4184 [74,47,109,111,108] = true := by decide +kernel
-- TEST: spelling variety: "2.5e-1 kilocalories mole^-1" → "cal / mol" is 250
example : parsesTo [50,46,53,101,45,49,32,107,105,108,111,99,97,108,111,114,105,101,115,32,109,111,108,101,94,45,49] Gen.codata2014 250 [99,97,108,32,47,32,109,111,108] = true := by decide +kernel
-- TEST: the canonical rendering of an expression reads back with the same factor
example : parsesTo (render canonName (.div (.mul (.num (5/2)) (.unit 3 .calorie)) (.pow (.unit 0 .mole) (-1)))) Gen.codata2014 1
    (render canonName (.div (.mul (.num (5/2)) (.unit 3 .calorie)) (.pow (.unit 0 .mole) (-1)))) = true := by decide +kernel
def isErr (r : Except TErr Expr) (e : TErr) : Bool := match r with | .error e' => decide (e' = e) | .ok _ => false

-- TEST: malformed texts are refused with the class of the implementation
example : isErr (parseText Gen.nameReg [109,32,42]) .syntax = true ∧ isErr (parseText Gen.nameReg [40,109]) .token = true ∧
    isErr (parseText Gen.nameReg [109,32,40,41]) .assertion = true ∧ isErr (parseText Gen.nameReg [102,111,111,42,109]) .undefinedUnit = true := by
  decide +kernel

end QcelVerif.Units.Text
