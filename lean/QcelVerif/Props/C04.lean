import QcelVerif.Lemmas.FromArrays
import QcelVerif.Props.C05
/-!
# C04 — a validated molecule is complete, consistent and a fixed point of validation

Model: `Model/FromArrays.lean` (`fromArrays` = `from_arrays(domain='qm')`, `fromSchema`).
The per-atom reconciler is a parameter (`Env.recon`); the two facts used about it are named hypotheses:

  * `NucSound rc valid` — whatever it answers is valid.  Proved for the C06 model in `Props/C04C06.lean`
    (`recon_c06_sound_shipped`, from C06's `reconcile_sound`).
  * `NucIdem rc` — an answer fed back as clues (`speclabel = False`) is answered by itself.  FALSE for the
    C06 model in general (`recon_c06_not_idem`, `Props/C04C06.lean`); proved there for self-consistent
    atoms, and without hypothesis on the atoms for `nonphysical = False`, `0 ≤ mtol ≤ 0.9865` under `rd64`
    in `Props/C04Default.lean` (`recon_c06_idem_narrow`, `from_arrays_idempotent_narrow` / `_default`).

The charge/multiplicity stage is C05's model `ChgMult.vfc`; `vfc_sound` and
`vfc_accepts_valid_full` are reused.  All theorems hold for any number of atoms and fragments.
The round trip `from_schema (to_schema r v)` is `schema_roundtrip` in `Props/C04Schema.lean`.
-/
namespace QcelVerif.FromArrays
open QcelVerif.ChgMult (vfc Rules fullSpec)

/-- every answer of the reconciler is valid (in C06's sense: symbol, Z, A and mass consistent
with each other and the periodic table for the given `nonphysical` / `mtol`) -/
def NucSound (rc : Reconciler) (valid : NucSettings → Nuc → Prop) : Prop :=
  ∀ st c o, rc st c = .ok o → valid st o

/-- the answer as clues for a second call: `A = -1` is `None` (from_arrays.py:641-644) -/
def clueOf (o : Nuc) : Clue :=
  { A := if o.A = -1 then none else some o.A, Z := some o.Z, E := some o.E,
    mass := some o.mass, real := some o.real, label := some o.label }

/-- an answer fed back with `speclabel = False` (same `nonphysical`, `mtol`) is returned unchanged -/
def NucIdem (rc : Reconciler) : Prop :=
  ∀ st c o, rc st c = .ok o → rc { st with speclabel := false } (clueOf o) = .ok o

/-- the property's invariant for a record (`Molrec`) validated with per-atom settings `st`,
overlap threshold `tc` and default Å→a₀ factor `angToAu`. -/
structure Inv (valid : NucSettings → Nuc → Prop) (angToAu : Rat) (st : NucSettings) (tc : Rat)
    (r : Molrec) : Prop where
  /-- every per-atom field is present with the same length: the six arrays are the columns of ONE
  list of nuclei, each of them valid -/
  cols : ∃ nucs : List Nuc, r.elea = nucs.map (·.A) ∧ r.elez = nucs.map (·.Z) ∧ r.elem = nucs.map (·.E) ∧
      r.mass = nucs.map (·.mass) ∧ r.real = nucs.map (·.real) ∧ r.elbl = nucs.map (·.label) ∧
      ∀ u ∈ nucs, valid st u
  /-- three coordinates per atom, and no two atoms closer than the threshold -/
  geom : ∃ rows, rows3 r.geom = some rows ∧ rows.length = r.elem.length ∧
      rows.Pairwise (fun p q => ¬ dist2 p q < tc * tc)
  units : r.units = sAngstrom ∨ r.units = sBohr
  iutau : ∀ x, r.iutau = some x → absRat (x - dfltIutau angToAu r.units) < 1 / 20
  /-- the fragments partition the atoms in order: the split yields consecutive blocks covering
  `0 … nat-1`, none of them empty -/
  frag_cover : (npSplit (List.range r.elem.length) r.seps).flatten = List.range r.elem.length
  frag_nonempty : r.elem.length ≠ 0 → ∀ p ∈ npSplit (List.range r.elem.length) r.seps, p ≠ []
  len_fc : r.fc.length = r.seps.length + 1
  len_fm : r.fm.length = r.seps.length + 1
  /-- total charge = Σ fragment charges; every (charge, multiplicity) pair feasible for the electron
  count `Σ Z·real` of the system and of each fragment; ghost fragments neutral singlets (C05 `Rules`) -/
  chg : Rules (fullSpec (npSplit (zeff r.elez r.real) r.seps) ⟨r.c, r.fc, r.m, r.fm⟩ false) ⟨r.c, r.fc, r.m, r.fm⟩
  /-- bonds `(min, max, order)`, order within [0, 5], sorted -/
  conn : ∀ bs, r.conn = some bs → bs.Pairwise (fun a b => bondLe a b = true) ∧
      ∀ b ∈ bs, b.1 ≤ b.2.1 ∧ 0 ≤ b.2.2 ∧ b.2.2 ≤ 5
  symm : ∀ s, r.fixSymm = some s → s ≠ [] ∧ lower s = s

theorem Inv.lengths {valid a st tc r} (h : Inv valid a st tc r) :
    r.elea.length = r.elem.length ∧ r.elez.length = r.elem.length ∧ r.mass.length = r.elem.length ∧
    r.real.length = r.elem.length ∧ r.elbl.length = r.elem.length ∧ r.geom.length = 3 * r.elem.length := by
  obtain ⟨nucs, h1, h2, h3, h4, h5, h6, _⟩ := h.cols
  obtain ⟨rows, hr, hl, _⟩ := h.geom
  have := rows3_length _ _ hr
  simp [h1, h2, h3, h4, h5, h6] at *
  omega

/-! ## what a successful run of each stage means -/

theorem missingGeom_ok {i : Inp} {g : List Rat} (h : missingGeom i = .ok g) :
    (g ≠ [] ∧ i.geom = some g) ∨ (g = [] ∧ i.minimal = true) := by
  unfold missingGeom at h
  split at h
  · cases h; exact Or.inl ⟨by simp, by assumption⟩
  · split at h
    · cases h; exact Or.inr ⟨rfl, by assumption⟩
    · cases h

theorem validateGeometry_ok {tc : Rat} {g g' : List Rat} (h : validateGeometry tc g = .ok g') :
    g' = g ∧ ∃ rows, rows3 g = some rows ∧ anyTooClose tc rows = false := by
  unfold validateGeometry at h
  split at h
  · cases h
  · rename_i rows hr
    split at h
    · cases h
    · rename_i hc
      cases h
      exact ⟨rfl, rows, hr, by simpa using hc⟩

theorem validateConn_ok {c : Option (List BondIn)} {o : Option (List Bond)} (h : validateConn c = .ok o) :
    (c = none ∧ o = none) ∨ ∃ l bs, c = some l ∧ mapE normBond l = .ok bs ∧ o = some (sortBonds bs) := by
  unfold validateConn at h
  split at h
  · cases h; exact Or.inl ⟨rfl, rfl⟩
  · rename_i l
    split at h
    · cases h
    · rename_i bs hbs
      cases h
      exact Or.inr ⟨l, bs, rfl, hbs, rfl⟩

theorem normBond_ok {b : BondIn} {o : Bond} (h : normBond b = .ok o) :
    o.1 ≤ o.2.1 ∧ 0 ≤ o.2.2 ∧ o.2.2 ≤ 5 := by
  -- anything but a triple of two integers and an order is refused outright
  match b, h with
  | .mk (some x) (some y) q, h =>
    rw [normBond_mk] at h
    split at h
    · cases h
    · rename_i hc
      cases h
      simp only [not_or, Rat.not_lt] at hc
      exact ⟨by simp only; omega, hc.2.2.1, hc.2.2.2⟩

theorem validateUnits_ok {a : Rat} {i : Inp} {u : UnitsOut} (h : validateUnits a i = .ok u) :
    validateConn i.conn = .ok u.conn ∧ u.units = capitalize i.units ∧
    (u.units = sAngstrom ∨ u.units = sBohr) ∧ u.iutau = i.iutau ∧
    (∀ x, u.iutau = some x → absRat (x - dfltIutau a u.units) < 1 / 20) := by
  unfold validateUnits at h
  split at h
  · cases h
  · rename_i conn hconn
    simp only at h
    split at h
    · rename_i hu
      split at h
      · rename_i hi
        cases h
        exact ⟨hconn, rfl, hu, hi.symm, by intro x hx; cases hx⟩
      · rename_i x hi
        split at h
        · rename_i hw
          cases h
          refine ⟨hconn, rfl, hu, hi.symm, ?_⟩
          intro y hy
          cases hy
          exact hw
        · cases h
    · cases h

theorem validateNuclei_ok {rc : Reconciler} {nat : Nat} {i : Inp} {nucs : List Nuc}
    (h : validateNuclei rc nat i = .ok nucs) :
    let a := nucArrays nat i
    (a.elea.length = nat ∧ a.elez.length = nat ∧ a.elem.length = nat ∧
      a.mass.length = nat ∧ a.real.length = nat ∧ a.elbl.length = nat) ∧
    mapE (rc (nucSettings i)) (clues a.elea a.elez a.elem a.mass a.real a.elbl) = .ok nucs := by
  unfold validateNuclei at h
  simp only at h
  split at h
  · rename_i hl
    exact ⟨hl, h⟩
  · cases h

theorem length_clues : ∀ (a z : List (Option Int)) (e : List (Option String)) (m : List (Option Rat))
    (r : List (Option Bool)) (l : List (Option String)) (n : Nat),
    a.length = n → z.length = n → e.length = n → m.length = n → r.length = n → l.length = n →
    (clues a z e m r l).length = n
  | a, _, _, _, _, _, 0, h, _, _, _, _, _ => by rw [List.length_eq_zero_iff.1 h]; rfl
  | a, z, e, m, r, l, n + 1, h1, h2, h3, h4, h5, h6 => by
      obtain ⟨_, a, rfl⟩ := List.exists_cons_of_length_eq_add_one h1
      obtain ⟨_, z, rfl⟩ := List.exists_cons_of_length_eq_add_one h2
      obtain ⟨_, e, rfl⟩ := List.exists_cons_of_length_eq_add_one h3
      obtain ⟨_, m, rfl⟩ := List.exists_cons_of_length_eq_add_one h4
      obtain ⟨_, r, rfl⟩ := List.exists_cons_of_length_eq_add_one h5
      obtain ⟨_, l, rfl⟩ := List.exists_cons_of_length_eq_add_one h6
      simp only [List.length_cons, Nat.add_right_cancel_iff] at h1 h2 h3 h4 h5 h6
      simp only [clues, List.length_cons, length_clues a z e m r l n h1 h2 h3 h4 h5 h6]

theorem validateNuclei_length {rc : Reconciler} {nat : Nat} {i : Inp} {nucs : List Nuc}
    (h : validateNuclei rc nat i = .ok nucs) : nucs.length = nat := by
  obtain ⟨hl, hm⟩ := validateNuclei_ok h
  rw [mapE_ok_length hm]
  exact length_clues _ _ _ _ _ _ _ hl.1 hl.2.1 hl.2.2.1 hl.2.2.2.1 hl.2.2.2.2.1 hl.2.2.2.2.2

/-- what a successful fragment stage returns, and what it checked -/
theorem validateFragments_ok {nat : Nat} {seps : Option (List Int)} {fc fm : Option (List (Option Int))}
    {fr : FragOut} (h : validateFragments nat seps fc fm = .ok fr) :
    (nat = 0 ∨ ∀ p ∈ npSplit (List.replicate nat ()) fr.seps, p ≠ []) ∧
    fr.fc.length = fr.seps.length + 1 ∧ fr.fm.length = fr.seps.length + 1 ∧
    ((seps = none ∧ fc = none ∧ fm = none ∧ fr.seps = [] ∧ fr.fc = [none] ∧ fr.fm = [none]) ∨
     (∃ s, seps = some s ∧ fr.seps = s ∧
        fr.fc = fc.getD (List.replicate (npSplit (List.replicate nat ()) s).length none) ∧
        fr.fm = fm.getD (List.replicate (npSplit (List.replicate nat ()) s).length none))) := by
  unfold validateFragments at h
  split at h
  · split at h
    · cases h
      refine ⟨Decidable.or_iff_not_imp_left.2 fun hn p hp hpe => ?_, rfl, rfl, Or.inl ⟨rfl, rfl, rfl, rfl, rfl, rfl⟩⟩
      rw [npSplit_nil, List.mem_singleton] at hp
      rw [hp] at hpe
      exact hn (by simpa using congrArg List.length hpe)
    · cases h
  · rename_i s
    simp only at h
    split at h
    · cases h
    · rename_i hne
      split at h
      · cases h
      · split at h
        · rename_i hl
          cases h
          exact ⟨(trialSplit_ok_iff _ _).1 hne, hl.1, hl.2, Or.inr ⟨s, rfl, rfl, rfl, rfl⟩⟩
        · cases h

theorem chgmultStage_ok {elez : List Int} {real : List Bool} {fr : FragOut} {c m : Option Int} {zgf : Bool}
    {o : ChgMult.Out} (h : chgmultStage elez real fr c m zgf = .ok o) :
    vfc { frags := npSplit (zeff elez real) fr.seps, c := c, fc := fr.fc, m := m, fm := fr.fm, zgf := zgf } = .ok o := by
  unfold chgmultStage at h
  split at h
  · rename_i o' ho
    cases h; exact ho
  · cases h
  · cases h

theorem frameSymm_spec (s : Option (List Char)) : ∀ t, frameSymm s = some t → t ≠ [] ∧ lower t = t := by
  intro t ht
  unfold frameSymm at ht
  split at ht
  · cases ht
  · split at ht
    · cases ht
    · rename_i hne
      cases ht
      exact ⟨by intro h0; apply hne; simp [h0], lower_idem _⟩

/-- everything a successful `fromArrays` went through -/
theorem fromArrays_ok {env : Env} {i : Inp} {r : Molrec} (h : fromArrays env i = .ok r) :
    ∃ g u nucs fr cm com orient,
      missingGeom i = .ok g ∧ validateUnits env.angToAu i = .ok u ∧
      validateGeometry i.tooclose g = .ok g ∧
      validateNuclei env.recon (g.length / 3) i = .ok nucs ∧
      validateFragments (g.length / 3) i.seps i.fc i.fm = .ok fr ∧
      chgmultStage (nucs.map (·.Z)) (nucs.map (·.real)) fr i.c i.m i.zgf = .ok cm ∧
      frameFlag i.fixCom = .ok com ∧ frameFlag i.fixOrient = .ok orient ∧
      r = { units := u.units, iutau := u.iutau, name := i.name, comment := i.comment, conn := u.conn
            geom := g
            elea := nucs.map (·.A), elez := nucs.map (·.Z), elem := nucs.map (·.E), mass := nucs.map (·.mass)
            real := nucs.map (·.real), elbl := nucs.map (·.label)
            seps := fr.seps
            c := cm.c, fc := cm.fc, m := cm.m, fm := cm.fm
            fixCom := com, fixOrient := orient, fixSymm := frameSymm i.fixSymm } := by
  simp only [fromArrays] at h
  repeat' split at h
  all_goals cases h
  rename_i _ g0 hg0 _ u hu _ g hg _ nucs hn _ fr hfr _ cm hcm _ com hcom _ orient hor
  cases (validateGeometry_ok hg).1
  exact ⟨_, u, nucs, fr, cm, com, orient, hg0, hu, hg, hn, hfr, hcm, hcom, hor, rfl⟩

/-- a successful charge/multiplicity stage leaves an assignment that obeys C05's rules when read
as a full specification of its own -/
theorem rules_of_vfc {frags : List (List Int)} {c m : Option Int} {fc fm : List (Option Int)} {zgf : Bool}
    {o : ChgMult.Out} (h : vfc { frags := frags, c := c, fc := fc, m := m, fm := fm, zgf := zgf } = .ok o) :
    Rules (fullSpec frags o false) o := by
  have R := ChgMult.vfc_sound _ _ h
  exact ChgMult.Rules_respec _ (fullSpec frags o false) o R
    (by rw [ChgMult.effective_frags]; rfl) rfl rfl (Or.inl rfl) (Or.inl rfl)

/-- **Invariant.** Whenever building a molecule from arrays succeeds, the record satisfies `Inv`
(for the per-atom settings, threshold and conversion factor of the call). -/
theorem from_arrays_inv (env : Env) (valid : NucSettings → Nuc → Prop) (hs : NucSound env.recon valid)
    (i : Inp) (r : Molrec) (h : fromArrays env i = .ok r) :
    Inv valid env.angToAu (nucSettings i) i.tooclose r := by
  obtain ⟨g, u, nucs, fr, cm, com, orient, hg0, hu, hg, hn, hfr, hcm, hcom, hor, rfl⟩ := fromArrays_ok h
  obtain ⟨_, rows, hrows, hclose⟩ := validateGeometry_ok hg
  have hlen := rows3_length _ _ hrows
  have hnl : nucs.length = g.length / 3 := validateNuclei_length hn
  obtain ⟨_, hm⟩ := validateNuclei_ok hn
  obtain ⟨hconn, _, hunits, _, hiu⟩ := validateUnits_ok hu
  obtain ⟨hne, _, _, _⟩ := validateFragments_ok hfr
  have R := rules_of_vfc (chgmultStage_ok hcm)
  have hRl := R.len_fc
  have hRm := R.len_fm
  simp only [fullSpec, length_npSplit] at hRl hRm
  -- the split of `range nat` has an empty piece iff the trial split has one
  have hne' : nucs.length ≠ 0 → ∀ p ∈ npSplit (List.range nucs.length) fr.seps, p ≠ [] := fun hn0 =>
    npSplit_nonempty_congr (by simp [hnl]) (hne.resolve_left (by omega))
  exact {
    cols := ⟨nucs, rfl, rfl, rfl, rfl, rfl, rfl, fun u hu' => by
      obtain ⟨c, _, hc⟩ := mapE_ok_mem hm u hu'
      exact hs _ _ _ hc⟩
    geom := ⟨rows, hrows, by simp only [List.length_map]; omega, (anyTooClose_false_iff _ _).1 hclose⟩
    units := hunits
    iutau := hiu
    frag_cover := by
      simp only [List.length_map]
      by_cases hn0 : nucs.length = 0
      · rw [hn0]; exact flatten_npSplit_nil _
      · exact flatten_npSplit _ _ (hne' hn0)
    frag_nonempty := by simpa using hne'
    len_fc := hRl
    len_fm := hRm
    chg := R
    conn := by
      intro bs hbs
      rcases validateConn_ok hconn with ⟨_, h2⟩ | ⟨l, bs', _, hmap, h2⟩
      · rw [h2] at hbs; cases hbs
      · rw [h2] at hbs; cases hbs
        refine ⟨pairwise_sortBonds _, ?_⟩
        intro b hb
        obtain ⟨bi, _, hbi⟩ := mapE_ok_mem hmap b (mem_sortBonds.1 hb)
        exact normBond_ok hbi
    symm := frameSymm_spec _ }

/-- the invariant without a claim about the atoms asks nothing of the reconciler -/
theorem from_arrays_inv_plain {env : Env} {i : Inp} {r : Molrec} (h : fromArrays env i = .ok r) :
    Inv (fun _ _ => True) env.angToAu (nucSettings i) i.tooclose r :=
  from_arrays_inv env _ (fun _ _ _ _ => trivial) i r h

/-! ## a record that satisfies the invariant is accepted again -/

theorem missingGeom_of_geom {i : Inp} {g : List Rat} (hg : i.geom = some g) (hne : g ≠ []) :
    missingGeom i = .ok g := by
  unfold missingGeom; rw [hg]
  cases g with
  | nil => exact absurd rfl hne
  | cons x t => rfl

theorem missingGeom_back {i i' : Inp} {g : List Rat} (h : missingGeom i = .ok g)
    (hg : i'.geom = some g) (hm : i'.minimal = i.minimal) : missingGeom i' = .ok g := by
  rcases missingGeom_ok h with ⟨hne, _⟩ | ⟨he, hmin⟩
  · exact missingGeom_of_geom hg hne
  · subst he; unfold missingGeom; rw [hg]; simp [hm, hmin]

theorem normBond_back (b : Bond) (h : b.1 ≤ b.2.1 ∧ 0 ≤ b.2.2 ∧ b.2.2 ≤ 5) :
    normBond (bondBack b) = .ok b := by
  obtain ⟨a, b', o⟩ := b
  obtain ⟨h1, h2, h3⟩ := h
  simp only at h1 h2 h3
  rw [bondBack, normBond_mk, if_neg (by simp only [not_or, Rat.not_lt]; exact ⟨by omega, by omega, h2, h3⟩)]
  simp only [Int.toNat_natCast, Nat.min_eq_left h1, Nat.max_eq_right h1]

theorem validateConn_back {bs : List Bond} (hs : bs.Pairwise (fun a b => bondLe a b = true))
    (hb : ∀ b ∈ bs, b.1 ≤ b.2.1 ∧ 0 ≤ b.2.2 ∧ b.2.2 ≤ 5) :
    validateConn (some (bs.map bondBack)) = .ok (some bs) := by
  have := mapE_map_of_forall (f := normBond) (g := bondBack) (bs := bs) (fun b hb' => normBond_back b (hb b hb'))
  simp [validateConn, this, sortBonds_of_pairwise hs]

theorem validateUnits_back (a : Rat) (i' : Inp) (units : List Char) (iu : Option Rat) (conn : Option (List Bond))
    (hu : units = sAngstrom ∨ units = sBohr) (hi : i'.units = units) (hiu : i'.iutau = iu)
    (hw : ∀ x, iu = some x → absRat (x - dfltIutau a units) < 1 / 20)
    (hc : validateConn i'.conn = .ok conn) :
    validateUnits a i' = .ok { units := units, iutau := iu, conn := conn } := by
  have hcap : capitalize units = units := by
    rcases hu with rfl | rfl
    · exact capitalize_sAngstrom
    · exact capitalize_sBohr
  unfold validateUnits
  rw [hc, hi, hcap]
  simp only [hu, if_true]
  cases iu with
  | none => rw [hiu]
  | some x => rw [hiu]; simp [hw x rfl]

theorem clues_of_nucs : ∀ nucs : List Nuc,
    clues (eleaNorm (nucs.map (fun u => some u.A))) (nucs.map (fun u => some u.Z))
      (nucs.map (fun u => some u.E)) (nucs.map (fun u => some u.mass))
      (nucs.map (fun u => some u.real)) (nucs.map (fun u => some u.label)) = nucs.map clueOf
  | [] => rfl
  | u :: t => by
      have ih := clues_of_nucs t
      simp only [eleaNorm, List.map_cons, clues] at ih ⊢
      rw [ih]
      simp [clueOf]

/-- the columns of `nucs`, supplied as the six arrays, are answered by `nucs` if the reconciler reproduces
each of them from its own clues -/
theorem validateNuclei_back {rc : Reconciler} {nucs : List Nuc} {i' : Inp}
    (hi : ∀ u ∈ nucs, rc (nucSettings i') (clueOf u) = .ok u)
    (h1 : i'.elea = some (nucs.map (fun u => some u.A))) (h2 : i'.elez = some (nucs.map (fun u => some u.Z)))
    (h3 : i'.elem = some (nucs.map (fun u => some u.E))) (h4 : i'.mass = some (nucs.map (fun u => some u.mass)))
    (h5 : i'.real = some (nucs.map (fun u => some u.real))) (h6 : i'.elbl = some (nucs.map (fun u => some u.label))) :
    validateNuclei rc nucs.length i' = .ok nucs := by
  unfold validateNuclei
  simp only [nucArrays, h1, h2, h3, h4, h5, h6, fillNone, eleaNorm, List.length_map, and_self, if_true]
  have := clues_of_nucs nucs
  simp only [eleaNorm] at this
  rw [this]
  exact mapE_map_of_forall hi

theorem sum_lengths_npSplit {α} (l : List α) (seps : List Int)
    (h : l.length = 0 ∨ ∀ p ∈ npSplit l seps, p ≠ []) :
    ((npSplit l seps).map List.length).sum = l.length := by
  rw [← List.length_flatten]
  rcases h with h | h
  · have : l = [] := List.length_eq_zero_iff.1 h
    subst this
    rw [flatten_npSplit_nil]
  · rw [flatten_npSplit l seps h]

theorem validateFragments_back {nat : Nat} {seps : List Int} {fc fm : List Int}
    (hne : nat = 0 ∨ ∀ p ∈ npSplit (List.replicate nat ()) seps, p ≠ [])
    (hfc : fc.length = seps.length + 1) (hfm : fm.length = seps.length + 1) :
    validateFragments nat (some seps) (some (fc.map some)) (some (fm.map some))
      = .ok { seps := seps, fc := fc.map some, fm := fm.map some } := by
  have hsum := sum_lengths_npSplit (List.replicate nat ()) seps (by simpa using hne)
  simp only [List.length_replicate] at hsum
  have hany := (trialSplit_ok_iff _ _).2 hne
  unfold validateFragments
  simp only [hany, if_false, hsum, ne_eq, not_true_eq_false, Option.getD_some, List.length_map, hfc, hfm,
    and_self, if_true]

theorem frameFlag_back (b : Bool) : frameFlag (Tri.ofBool b) = .ok b := by cases b <;> rfl

/-- a lower-cased non-empty point-group string passes `validate_and_fill_frame` unchanged -/
theorem frameSymm_of_spec (s : Option (List Char)) (h : ∀ t, s = some t → t ≠ [] ∧ lower t = t) :
    frameSymm s = s := by
  cases s with
  | none => rfl
  | some t =>
    obtain ⟨hne, hl⟩ := h t rfl
    simp only [frameSymm, hl]
    cases t with
    | nil => exact absurd rfl hne
    | cons c t' => simp

theorem frameSymm_idem (s : Option (List Char)) : frameSymm (frameSymm s) = frameSymm s :=
  frameSymm_of_spec _ (frameSymm_spec s)

/-- `validate_and_fill_geometry` accepts exactly what the invariant's geometry clause says -/
theorem validateGeometry_of_pairwise {tc : Rat} {g : List Rat} {rows : List R3} (hr : rows3 g = some rows)
    (hp : rows.Pairwise (fun p q => ¬ dist2 p q < tc * tc)) : validateGeometry tc g = .ok g := by
  unfold validateGeometry
  rw [hr]
  simp only [(anyTooClose_false_iff tc rows).2 hp]
  rfl

/-- the keyword arguments `i` hand `from_arrays` the per-atom columns, charges, multiplicities, bonds and
frame of the record `r` (the default `zero_ghost_fragments`); geometry, units, separators, name, comment
and processing details are not constrained -/
structure Carries (i : Inp) (r : Molrec) : Prop where
  conn : i.conn = r.conn.map (·.map bondBack)
  elea : i.elea = some (r.elea.map some)
  elez : i.elez = some (r.elez.map some)
  elem : i.elem = some (r.elem.map some)
  mass : i.mass = some (r.mass.map some)
  real : i.real = some (r.real.map some)
  elbl : i.elbl = some (r.elbl.map some)
  fc : i.fc = some (r.fc.map some)
  fm : i.fm = some (r.fm.map some)
  c : i.c = some r.c
  m : i.m = some r.m
  zgf : i.zgf = false
  fixCom : i.fixCom = Tri.ofBool r.fixCom
  fixOrient : i.fixOrient = Tri.ofBool r.fixOrient
  fixSymm : i.fixSymm = r.fixSymm

theorem asInput_carries (i : Inp) (r : Molrec) : Carries (asInput i r) r :=
  ⟨rfl, rfl, rfl, rfl, rfl, rfl, rfl, rfl, rfl, rfl, rfl, rfl, rfl, rfl, rfl⟩

/-- **Re-validation** (the converse of `from_arrays_inv`).  A record `r` that satisfies the invariant, handed
to `from_arrays` as keyword arguments (`Carries`) with a geometry `g` of the same size that passes the overlap
screen, validated units, and separators that cut like the record's, is accepted, provided the reconciler
reproduces every atom from its own clues.  What comes back is `r` with the geometry, units, separators, name
and comment of the call. -/
theorem fromArrays_feed {env : Env} {valid : NucSettings → Nuc → Prop} {st : NucSettings} {tc : Rat} {r : Molrec}
    (I : Inv valid env.angToAu st tc r) {nucs : List Nuc}
    (hcols : r.elea = nucs.map (·.A) ∧ r.elez = nucs.map (·.Z) ∧ r.elem = nucs.map (·.E) ∧
      r.mass = nucs.map (·.mass) ∧ r.real = nucs.map (·.real) ∧ r.elbl = nucs.map (·.label))
    {i : Inp} (C : Carries i r) {g : List Rat} {units : List Char} {iutau : Option Rat} {seps : List Int}
    (hgeom : missingGeom i = .ok g) (hlen : g.length = r.geom.length)
    (hscreen : validateGeometry i.tooclose g = .ok g)
    (hunits : i.units = units) (hu : units = sAngstrom ∨ units = sBohr) (hiutau : i.iutau = iutau)
    (hw : ∀ x, iutau = some x → absRat (x - dfltIutau env.angToAu units) < 1 / 20)
    (hre : ∀ u ∈ nucs, env.recon (nucSettings i) (clueOf u) = .ok u)
    (hseps : i.seps = some seps) (hsl : seps.length = r.seps.length)
    (hcut : ∀ {α : Type} (l : List α), l.length = r.elem.length → npSplit l seps = npSplit l r.seps) :
    fromArrays env i = .ok { r with units := units, iutau := iutau, name := i.name, comment := i.comment,
                                    geom := g, seps := seps } := by
  obtain ⟨e1, e2, e3, e4, e5, e6⟩ := hcols
  have hnl : nucs.length = r.elem.length := by rw [e3, List.length_map]
  have hnat : g.length / 3 = nucs.length := by
    have := I.lengths.2.2.2.2.2
    omega
  have sconn : validateConn i.conn = .ok r.conn := by
    rw [C.conn]
    cases hc : r.conn with
    | none => rfl
    | some bs => exact validateConn_back (I.conn bs hc).1 (I.conn bs hc).2
  have s2 := validateUnits_back env.angToAu i units iutau r.conn hu hunits hiutau hw sconn
  have s4 : validateNuclei env.recon (g.length / 3) i = .ok nucs := by
    rw [hnat]
    exact validateNuclei_back hre (by simp [C.elea, e1]) (by simp [C.elez, e2]) (by simp [C.elem, e3])
      (by simp [C.mass, e4]) (by simp [C.real, e5]) (by simp [C.elbl, e6])
  have s5 : validateFragments (g.length / 3) i.seps i.fc i.fm
      = .ok { seps := seps, fc := r.fc.map some, fm := r.fm.map some } := by
    rw [hseps, C.fc, C.fm, hnat]
    refine validateFragments_back ?_ (hsl ▸ I.len_fc) (hsl ▸ I.len_fm)
    by_cases hn0 : nucs.length = 0
    · exact Or.inl hn0
    · right
      rw [hcut _ (by simp [hnl])]
      exact npSplit_nonempty_congr (by simp [hnl]) (I.frag_nonempty (hnl ▸ hn0))
  have s6 : chgmultStage (nucs.map (·.Z)) (nucs.map (·.real))
      { seps := seps, fc := r.fc.map some, fm := r.fm.map some } i.c i.m i.zgf = .ok ⟨r.c, r.fc, r.m, r.fm⟩ := by
    have R := I.chg
    rw [e2, e5, ← hcut _ (by simp [zeff, hnl])] at R
    have := ChgMult.vfc_accepts_valid_full _ _ R
    simp only [fullSpec] at this
    simp only [chgmultStage, C.c, C.m, C.zgf, this]
  have s7 : frameFlag i.fixCom = .ok r.fixCom := by rw [C.fixCom]; exact frameFlag_back _
  have s8 : frameFlag i.fixOrient = .ok r.fixOrient := by rw [C.fixOrient]; exact frameFlag_back _
  have s9 : frameSymm i.fixSymm = r.fixSymm := by rw [C.fixSymm]; exact frameSymm_of_spec _ I.symm
  unfold fromArrays
  simp only [hgeom, s2, hscreen, s4, s5, s6, s7, s8, s9]
  rw [← e1, ← e2, ← e3, ← e4, ← e5, ← e6]

/-- **Fixed point, hypothesis on the record's own atoms only**: the reconciler need only reproduce the
answers it gave for this record. -/
theorem from_arrays_idempotent_on (env : Env) (i : Inp) (r : Molrec) (h : fromArrays env i = .ok r)
    (hid : ∀ nucs, validateNuclei env.recon (r.geom.length / 3) i = .ok nucs →
      ∀ u ∈ nucs, env.recon { nucSettings i with speclabel := false } (clueOf u) = .ok u) :
    fromArrays env (asInput i r) = .ok r := by
  have I := from_arrays_inv_plain h
  obtain ⟨g, u, nucs, fr, cm, com, orient, hg0, _, hg, hn, _, _, _, _, rfl⟩ := fromArrays_ok h
  exact fromArrays_feed I (nucs := nucs) ⟨rfl, rfl, rfl, rfl, rfl, rfl⟩ (asInput_carries i _)
    (missingGeom_back hg0 rfl rfl) rfl hg rfl I.units rfl I.iutau (hid nucs hn) rfl rfl (fun _ _ => rfl)

/-- **Fixed point.** A record returned by `from_arrays`, passed through `from_arrays` again
(`speclabel=False`, same `nonphysical` / `mtol` / `tooclose` / `missing_enabled_return`), is returned
unchanged — provided the per-atom reconciler satisfies `NucIdem`.  The C06 model does not in general
(`recon_c06_not_idem`, `Props/C04C06.lean`); for it the fixed point is `from_arrays_idempotent_c06_partial`
(`Props/C04C06.lean`) and `from_arrays_idempotent_narrow` / `_default` (`Props/C04Default.lean`). -/
theorem from_arrays_idempotent (env : Env) (hid : NucIdem env.recon)
    (i : Inp) (r : Molrec) (h : fromArrays env i = .ok r) :
    fromArrays env (asInput i r) = .ok r := by
  refine from_arrays_idempotent_on env i r h fun nucs hn u hu => ?_
  obtain ⟨c, _, hc⟩ := mapE_ok_mem (validateNuclei_ok hn).2 u hu
  exact hid _ _ _ hc

/-! Each stage raises `ValidationError` in every branch that raises (the reconciler's own errors aside). -/

theorem missingGeom_error {i : Inp} {e : Err} (h : missingGeom i = .error e) : e = .validation := by
  unfold missingGeom at h
  repeat' split at h
  all_goals cases h
  rfl

theorem normBond_error {b : BondIn} {e : Err} (h : normBond b = .error e) : e = .validation := by
  unfold normBond at h
  repeat' split at h
  all_goals cases h
  all_goals rfl

theorem validateConn_error {c : Option (List BondIn)} {e : Err} (h : validateConn c = .error e) :
    e = .validation := by
  unfold validateConn at h
  split at h
  · cases h
  · split at h
    · rename_i e' he'
      cases h
      obtain ⟨_, _, hb⟩ := mapE_error_mem he'
      exact normBond_error hb
    · cases h

theorem validateUnits_error {a : Rat} {i : Inp} {e : Err} (h : validateUnits a i = .error e) :
    e = .validation := by
  unfold validateUnits at h
  split at h
  · rename_i e' he'
    cases h; exact validateConn_error he'
  · simp only at h
    repeat' split at h
    all_goals cases h
    all_goals rfl

theorem validateGeometry_error {tc : Rat} {g : List Rat} {e : Err} (h : validateGeometry tc g = .error e) :
    e = .validation := by
  unfold validateGeometry at h
  repeat' split at h
  all_goals cases h
  all_goals rfl

theorem validateFragments_error {nat : Nat} {seps : Option (List Int)} {fc fm : Option (List (Option Int))}
    {e : Err} (h : validateFragments nat seps fc fm = .error e) : e = .validation := by
  unfold validateFragments at h
  split at h
  · repeat' split at h
    all_goals cases h
    rfl
  · simp only at h
    repeat' split at h
    all_goals cases h
    all_goals rfl

theorem frameFlag_error {t : Tri} {e : Err} (h : frameFlag t = .error e) : e = .validation := by
  cases t <;> simp [frameFlag] at h
  exact h.symm

/-- with one charge and one multiplicity slot per fragment (guaranteed by the fragment stage) the
charge/multiplicity stage can only refuse with `ValidationError` -/
theorem chgmultStage_error {elez : List Int} {real : List Bool} {fr : FragOut} {c m : Option Int} {zgf : Bool}
    {e : Err} (hfc : fr.fc.length = fr.seps.length + 1) (hfm : fr.fm.length = fr.seps.length + 1)
    (h : chgmultStage elez real fr c m zgf = .error e) : e = .validation := by
  unfold chgmultStage at h
  split at h
  · cases h
  · cases h; rfl
  · rename_i hv
    exfalso
    have hw : ChgMult.wellFormed { frags := npSplit (zeff elez real) fr.seps, c := c, fc := fr.fc, m := m, fm := fr.fm, zgf := zgf } = true := by
      simp [ChgMult.wellFormed, length_npSplit, hfc, hfm]
    rcases ChgMult.vfc_error_is_validation _ hw with ⟨o, ho, _⟩ | hh
    · rw [ho] at hv; cases hv
    · rw [hh] at hv; cases hv

/-- **Refusal classes of `from_arrays`.** Any refusal is a `ValidationError`, except that an error
raised by the per-atom reconciler itself is passed on unchanged — and that can only happen after
the units, the geometry and the per-atom array lengths have been accepted. -/
theorem fromArrays_error {env : Env} {i : Inp} {e : Err} (h : fromArrays env i = .error e) :
    e = .validation ∨
    ∃ g u, missingGeom i = .ok g ∧ validateUnits env.angToAu i = .ok u ∧ validateGeometry i.tooclose g = .ok g ∧
      ((nucArrays (g.length / 3) i).elea.length = g.length / 3 ∧ (nucArrays (g.length / 3) i).elez.length = g.length / 3 ∧
       (nucArrays (g.length / 3) i).elem.length = g.length / 3 ∧ (nucArrays (g.length / 3) i).mass.length = g.length / 3 ∧
       (nucArrays (g.length / 3) i).real.length = g.length / 3 ∧ (nucArrays (g.length / 3) i).elbl.length = g.length / 3) ∧
      ∃ c, env.recon (nucSettings i) c = .error e := by
  simp only [fromArrays] at h
  repeat' split at h
  all_goals cases h
  · exact Or.inl (missingGeom_error ‹_›)
  · exact Or.inl (validateUnits_error ‹_›)
  · exact Or.inl (validateGeometry_error ‹_›)
  · rename_i _ g0 hg0 _ u hu _ g hg _ he
    cases (validateGeometry_ok hg).1
    unfold validateNuclei at he
    simp only at he
    split at he
    · rename_i hl
      obtain ⟨c, _, hc⟩ := mapE_error_mem he
      exact Or.inr ⟨_, u, hg0, hu, hg, hl, c, hc⟩
    · cases he; exact Or.inl rfl
  · exact Or.inl (validateFragments_error ‹_›)
  · rename_i _ fr hfr _ he
    obtain ⟨_, hlfc, hlfm, _⟩ := validateFragments_ok hfr
    exact Or.inl (chgmultStage_error hlfc hlfm he)
  · exact Or.inl (frameFlag_error ‹_›)
  · exact Or.inl (frameFlag_error ‹_›)

/-- **Refusals are validation errors** (short form): the only other class is one raised by the
per-atom reconciler itself. -/
theorem errors_are_validation (env : Env) (i : Inp) (e : Err) (h : fromArrays env i = .error e) :
    e = .validation ∨ ∃ st c, env.recon st c = .error e := by
  rcases fromArrays_error h with h | ⟨_, _, _, _, _, _, c, hc⟩
  · exact Or.inl h
  · exact Or.inr ⟨_, c, hc⟩

/-- some supplied per-atom array does not have one entry per atom -/
def LengthMismatch (i : Inp) (nat : Nat) : Prop :=
  (∃ l, i.elea = some l ∧ l.length ≠ nat) ∨ (∃ l, i.elez = some l ∧ l.length ≠ nat) ∨
  (∃ l, i.elem = some l ∧ l.length ≠ nat) ∨ (∃ l, i.mass = some l ∧ l.length ≠ nat) ∨
  (∃ l, i.real = some l ∧ l.length ≠ nat) ∨ (∃ l, i.elbl = some l ∧ l.length ≠ nat)

theorem lengths_contra {i : Inp} {nat : Nat} (hm : LengthMismatch i nat)
    (hl : (nucArrays nat i).elea.length = nat ∧ (nucArrays nat i).elez.length = nat ∧
       (nucArrays nat i).elem.length = nat ∧ (nucArrays nat i).mass.length = nat ∧
       (nucArrays nat i).real.length = nat ∧ (nucArrays nat i).elbl.length = nat) : False := by
  obtain ⟨l1, l2, l3, l4, l5, l6⟩ := hl
  -- in each case the supplied array is the one `nucArrays` holds
  rcases hm with ⟨l, h, hn⟩ | ⟨l, h, hn⟩ | ⟨l, h, hn⟩ | ⟨l, h, hn⟩ | ⟨l, h, hn⟩ | ⟨l, h, hn⟩
  all_goals simp only [nucArrays, h, fillNone, eleaNorm, List.length_map] at l1 l2 l3 l4 l5 l6
  all_goals exact hn (by assumption)

/-- every outcome other than a `ValidationError` — a record, or an error raised by the reconciler — has
passed the checks on geometry, units, overlap and per-atom array lengths -/
theorem fromArrays_front (env : Env) (i : Inp) :
    fromArrays env i = .error .validation ∨
    ∃ g u, missingGeom i = .ok g ∧ validateUnits env.angToAu i = .ok u ∧ validateGeometry i.tooclose g = .ok g ∧
      ¬ LengthMismatch i (g.length / 3) := by
  cases h : fromArrays env i with
  | ok r =>
    obtain ⟨g, u, _, _, _, _, _, hg0, hu, hg, hn, _⟩ := fromArrays_ok h
    exact Or.inr ⟨g, u, hg0, hu, hg, fun hm => lengths_contra hm (validateNuclei_ok hn).1⟩
  | error e =>
    rcases fromArrays_error h with rfl | ⟨g, u, hg0, hu, hg, hl, _⟩
    · exact Or.inl rfl
    · exact Or.inr ⟨g, u, hg0, hu, hg, fun hm => lengths_contra hm hl⟩

/-- **Unknown unit ⇒ ValidationError.** -/
theorem refuses_unknown_unit (env : Env) (i : Inp)
    (h1 : capitalize i.units ≠ sAngstrom) (h2 : capitalize i.units ≠ sBohr) :
    fromArrays env i = .error .validation := by
  rcases fromArrays_front env i with h | ⟨_, u, _, hu, _⟩
  · exact h
  · obtain ⟨_, hcap, hun, _⟩ := validateUnits_ok hu
    rw [hcap] at hun
    exact (hun.elim h1 h2).elim

theorem missingGeom_some {i : Inp} {g g' : List Rat} (hg : i.geom = some g) (h : missingGeom i = .ok g') :
    g' = g := by
  rcases missingGeom_ok h with ⟨_, h'⟩ | ⟨he, _⟩
  · rw [hg] at h'; cases h'; rfl
  · subst he
    unfold missingGeom at h
    rw [hg] at h
    cases g with
    | nil => rfl
    | cons x t => simp at h

/-- **Geometry not castable to (nat, 3) ⇒ ValidationError.** -/
theorem refuses_geom_not_3n (env : Env) (i : Inp) (g : List Rat) (hg : i.geom = some g)
    (h3 : rows3 g = none) : fromArrays env i = .error .validation := by
  rcases fromArrays_front env i with h | ⟨g', _, hg0, _, hgeo, _⟩
  · exact h
  · cases missingGeom_some hg hg0
    obtain ⟨_, rows, hr, _⟩ := validateGeometry_ok hgeo
    rw [h3] at hr; cases hr

/-- **Overlapping atoms ⇒ ValidationError**: some pair closer than `tooclose`. -/
theorem refuses_too_close (env : Env) (i : Inp) (g : List Rat) (rows : List R3) (hg : i.geom = some g)
    (h3 : rows3 g = some rows) (hclose : ¬ rows.Pairwise (fun p q => ¬ dist2 p q < i.tooclose * i.tooclose)) :
    fromArrays env i = .error .validation := by
  rcases fromArrays_front env i with h | ⟨g', _, hg0, _, hgeo, _⟩
  · exact h
  · cases missingGeom_some hg hg0
    obtain ⟨_, rows', hr, hc⟩ := validateGeometry_ok hgeo
    rw [h3] at hr; cases hr
    exact absurd ((anyTooClose_false_iff _ _).1 hc) hclose

/-- **Mismatched per-atom lengths ⇒ ValidationError.** -/
theorem refuses_length_mismatch (env : Env) (i : Inp) (g : List Rat) (hg : i.geom = some g)
    (hm : LengthMismatch i (g.length / 3)) : fromArrays env i = .error .validation := by
  rcases fromArrays_front env i with h | ⟨g', _, hg0, _, _, hl⟩
  · exact h
  · cases missingGeom_some hg hg0
    exact (hl hm).elim

/-- with separators supplied, the fragment stage returns them, and accepts supplied charge / multiplicity
lists only with one entry per fragment -/
theorem validateFragments_some {nat : Nat} {s : List Int} {fc fm : Option (List (Option Int))} {fr : FragOut}
    (h : validateFragments nat (some s) fc fm = .ok fr) :
    fr.seps = s ∧ (∀ l, fc = some l → l.length = s.length + 1) ∧ (∀ l, fm = some l → l.length = s.length + 1) := by
  obtain ⟨_, hlc, hlm, hcase⟩ := validateFragments_ok h
  rcases hcase with ⟨h0, _⟩ | ⟨s', hs', hfs, hfc, hfm⟩
  · cases h0
  · cases hs'
    rw [hfs] at hlc hlm
    refine ⟨hfs, fun l hl => ?_, fun l hl => ?_⟩
    · rw [hl, Option.getD_some] at hfc; rw [← hfc]; exact hlc
    · rw [hl, Option.getD_some] at hfm; rw [← hfm]; exact hlm

/-- an input for which no record can be returned is refused, with a `ValidationError` unless the reconciler
raised first -/
theorem refused_of_no_record (env : Env) (i : Inp) (h : ∀ r, fromArrays env i ≠ .ok r) :
    ∃ e, fromArrays env i = .error e ∧ (e = .validation ∨ ∃ st c, env.recon st c = .error e) := by
  cases h' : fromArrays env i with
  | ok r => exact absurd h' (h r)
  | error e => exact ⟨e, rfl, errors_are_validation env i e h'⟩

/-- **Bad separators are never accepted**: if the trial split of `nat > 0` atoms at the supplied
separators has an empty block — which is what an empty fragment (`[0]`, `[nat]`, a repeated
separator), unsorted (`[3, 1]`) or out-of-range (`[nat + 3]`) separators produce, see the examples
below — no record is returned; the refusal is a `ValidationError` unless the reconciler raised first. -/
theorem refuses_bad_separators (env : Env) (i : Inp) (g : List Rat) (s : List Int)
    (hg : i.geom = some g) (hs : i.seps = some s) (hn : g.length / 3 ≠ 0)
    (hempty : ∃ p ∈ npSplit (List.replicate (g.length / 3) ()) s, p = []) :
    ∃ e, fromArrays env i = .error e ∧ (e = .validation ∨ ∃ st c, env.recon st c = .error e) := by
  refine refused_of_no_record env i fun r h => ?_
  obtain ⟨g', _, _, fr, _, _, _, hg0, _, _, _, hfr, _⟩ := fromArrays_ok h
  cases missingGeom_some hg hg0
  rw [hs] at hfr
  obtain ⟨p, hp, hpe⟩ := hempty
  have hne := (validateFragments_ok hfr).1
  rw [(validateFragments_some hfr).1] at hne
  exact hne.elim hn (fun hne => hne p hp hpe)

/-- **Wrong number of fragment charges / multiplicities is never accepted.** -/
theorem refuses_fragment_length_mismatch (env : Env) (i : Inp) (s : List Int) (hs : i.seps = some s)
    (hbad : (∃ l, i.fc = some l ∧ l.length ≠ s.length + 1) ∨ (∃ l, i.fm = some l ∧ l.length ≠ s.length + 1)) :
    ∃ e, fromArrays env i = .error e ∧ (e = .validation ∨ ∃ st c, env.recon st c = .error e) := by
  refine refused_of_no_record env i fun r h => ?_
  obtain ⟨_, _, _, fr, _, _, _, _, _, _, _, hfr, _⟩ := fromArrays_ok h
  rw [hs] at hfr
  obtain ⟨_, hfc, hfm⟩ := validateFragments_some hfr
  rcases hbad with ⟨l, hl, hne⟩ | ⟨l, hl, hne⟩
  · exact hne (hfc l hl)
  · exact hne (hfm l hl)

theorem chain_bounds (a : Nat) (t : List Nat) (z : Nat) (h : ∀ d ∈ diffs (a :: (t ++ [z])), d ≠ 0) :
    (∀ x ∈ t, a < x ∧ x < z) ∧ t.Pairwise (· < ·) ∧ a < z := by
  have hp := sorted_of_diffs _ h
  rw [List.pairwise_cons, List.pairwise_append] at hp
  obtain ⟨ha, ht, -, htz⟩ := hp
  exact ⟨fun x hx => ⟨ha x (by simp [hx]), htz x hx z (by simp)⟩, ht, ha z (by simp)⟩

/-- accepted non-negative separators lie strictly inside `(0, len)` and are their own clamped cut points -/
theorem clamp_of_accepted {α} {l : List α} {seps : List Int} (hpos : ∀ s ∈ seps, 0 ≤ s)
    (h : ∀ p ∈ npSplit l seps, p ≠ []) :
    ∀ s ∈ seps, 0 < s ∧ s < (l.length : Int) ∧ ((pyClamp l.length s : Nat) : Int) = s := by
  obtain ⟨hx, _, _⟩ := chain_bounds 0 (seps.map (pyClamp l.length)) l.length (cuts_increasing h)
  intro s hs
  have h0 := hpos s hs
  have := hx _ (List.mem_map_of_mem hs)
  have hnn : ¬ s < 0 := by omega
  simp only [pyClamp, hnn, if_false] at this ⊢
  omega

/-- **Accepted non-negative separators are strictly increasing inside (0, nat).**  (Negative
separators are Python slice indices; they are accepted exactly when the split still has no empty
block, and then denote the cut points `nat + s`.) -/
theorem accepted_separators_sorted {α} (l : List α) (seps : List Int) (hpos : ∀ s ∈ seps, 0 ≤ s)
    (h : ∀ p ∈ npSplit l seps, p ≠ []) :
    seps.Pairwise (· < ·) ∧ ∀ s ∈ seps, 0 < s ∧ s < (l.length : Int) := by
  have hcl := clamp_of_accepted hpos h
  obtain ⟨_, hp, _⟩ := chain_bounds 0 (seps.map (pyClamp l.length)) l.length (cuts_increasing h)
  refine ⟨?_, fun s hs => ⟨(hcl s hs).1, (hcl s hs).2.1⟩⟩
  rw [List.pairwise_map] at hp
  refine hp.imp_of_mem ?_
  intro a b ha hb hab
  have h1 := (hcl a ha).2.2
  have h2 := (hcl b hb).2.2
  omega

/-- the separators `contiguize_from_fragment_pattern` computes: cumulative fragment sizes -/
def sepsOfPattern (pattern : List (List Nat)) : List Int :=
  ((cumsum 0 (pattern.map List.length)).dropLast).map (fun (k : Nat) => (k : Int))

theorem cumsum_diffs : ∀ (a : Nat) (t : List Nat), (∀ d ∈ diffs (a :: t), d ≠ 0) →
    cumsum a (diffs (a :: t)) = t
  | _, [], _ => rfl
  | a, b :: t, h => by
      have h0 : b - a ≠ 0 := h _ (by simp [diffs])
      have ih := cumsum_diffs b t (fun d hd => h d (by simp [diffs, hd]))
      simp only [diffs, cumsum]
      have : a + (b - a) = b := by omega
      rw [this, ih]

/-- the cumulative sizes of the blocks of an accepted split are its clamped cut points, then `n` -/
theorem cumsum_pattern (n : Nat) (seps : List Int) (h : ∀ p ∈ npSplit (List.range n) seps, p ≠ []) :
    cumsum 0 ((npSplit (List.range n) seps).map List.length) = seps.map (pyClamp n) ++ [n] := by
  have hd := cuts_increasing h
  simp only [npSplit, lengths_splitAux, List.map_cons, List.map_append, List.map_nil, pyClamp_zero, pyClamp_self,
    List.length_range] at hd ⊢
  exact cumsum_diffs 0 _ hd

/-- **Separators ↔ fragment index lists** (the round trip used by the schema translation).
For separators that pass the trial split of `nat` atoms (no empty block), the pattern
`np.split(arange(nat), seps)` written by `to_schema`
  * flattens to `arange(nat)` — so `contiguize_from_fragment_pattern` neither sees skipped atoms nor
    wants to reorder — and
  * is turned back by the cumulative-size rule into the canonical cut points
    `[clamp(s) for s in seps]` (equal to `seps` themselves when these are non-negative); same cuts:
    `npSplit_canonSeps` (Lemmas/C04Schema.lean). -/
theorem seps_pattern_roundtrip (nat : Nat) (seps : List Int)
    (h : ∀ p ∈ npSplit (List.range nat) seps, p ≠ []) :
    (npSplit (List.range nat) seps).flatten = List.range nat ∧
    sepsOfPattern (npSplit (List.range nat) seps) = seps.map (fun s => ((pyClamp nat s : Nat) : Int)) ∧
    ((∀ s ∈ seps, 0 ≤ s) → sepsOfPattern (npSplit (List.range nat) seps) = seps) := by
  have hcs : sepsOfPattern (npSplit (List.range nat) seps) = seps.map (fun s => ((pyClamp nat s : Nat) : Int)) := by
    simp [sepsOfPattern, cumsum_pattern nat seps h, List.map_map, Function.comp_def]
  refine ⟨flatten_npSplit _ _ h, hcs, ?_⟩
  intro hpos
  have hcl := clamp_of_accepted hpos h
  rw [List.length_range] at hcl
  rw [hcs]
  exact map_eq_self fun s hs => (hcl s hs).2.2

/-- what a successful `from_schema` is: `from_arrays` on the dictionary's arrays with `from_schema`'s settings -/
theorem fromSchema_ok {env : Env} {s : Schema} {r : Molrec} (h : fromSchema env s = .ok r) :
    ∃ seps, fromArrays env { s.body with
        units := sBohr, iutau := none, seps := some seps
        minimal := false, speclabel := false, zgf := false
        mtol := dfltMtol, tooclose := dfltTooclose } = .ok r := by
  unfold fromSchema at h
  simp only at h
  split at h
  · cases h
  · split at h
    · cases h
    · rename_i cg _
      exact ⟨cg.seps, h⟩

/-- **Invariant through `from_schema`.** A record returned by `from_schema` satisfies `Inv`
(Bohr, default `tooclose` and `mtol`, `speclabel = False`). -/
theorem from_schema_inv (env : Env) (valid : NucSettings → Nuc → Prop) (hs : NucSound env.recon valid)
    (s : Schema) (r : Molrec) (h : fromSchema env s = .ok r) :
    Inv valid env.angToAu { speclabel := false, nonphysical := s.body.nonphysical, mtol := dfltMtol } dfltTooclose r ∧
    r.units = sBohr := by
  obtain ⟨_, hfa⟩ := fromSchema_ok h
  refine ⟨from_arrays_inv env valid hs _ r hfa, ?_⟩
  obtain ⟨_, u, _, _, _, _, _, _, hu, _, _, _, _, _, _, rfl⟩ := fromArrays_ok hfa
  rw [(validateUnits_ok hu).2.1]
  exact capitalize_sBohr

/-! ## non-vacuity tests -/

/-- a toy reconciler for the examples: atomic number given, everything else defaulted -/
def toyRec : Reconciler := fun _ c =>
  match c.Z with
  | some z => .ok { A := 2 * z, Z := z, E := "X", mass := c.mass.getD (2 * z), real := c.real.getD true,
                    label := c.label.getD "" }
  | none => .error .validation

def toyEnv : Env := { recon := toyRec, angToAu := 189 / 100 }

theorem toyRec_idem : NucIdem toyRec := by
  intro st c o h
  unfold toyRec at h ⊢
  split at h
  · cases h
    simp only [clueOf]
    simp
  · cases h

/-- two helium-like atoms 2 apart, one separator, charge +1 on the system -/
def toyInp : Inp :=
  { geom := some [0, 0, 0, 0, 0, 2], elea := none, elez := some [some 2, some 2], elem := none, mass := none,
    real := none, elbl := none, name := none, comment := none, units := "bohr".toList, iutau := none,
    fixCom := .none, fixOrient := .tt, fixSymm := some "C2V".toList, seps := some [1], fc := none, fm := none,
    c := some 1, m := none, conn := some [.mk (some 1) (some 0) 1], minimal := false, speclabel := true,
    nonphysical := false, mtol := 1 / 1000, tooclose := 1 / 10, zgf := false }

def toyRecOut : Molrec :=
  { units := sBohr, iutau := none, name := none, comment := none, conn := some [(0, 1, 1)],
    geom := [0, 0, 0, 0, 0, 2], elea := [4, 4], elez := [2, 2], elem := ["X", "X"], mass := [4, 4],
    real := [true, true], elbl := ["", ""], seps := [1], c := 1, fc := [1, 0], m := 2, fm := [2, 1],
    fixCom := false, fixOrient := true, fixSymm := some "c2v".toList }

/-- test: the hypotheses of `from_arrays_inv` / `from_arrays_idempotent` are met by a non-trivial input -/
theorem toy_ok : fromArrays toyEnv toyInp = .ok toyRecOut := by decide +kernel

example : fromArrays toyEnv (asInput toyInp toyRecOut) = .ok toyRecOut :=
  from_arrays_idempotent toyEnv toyRec_idem _ _ toy_ok

/-- tests: empty / unsorted / out-of-range separators give an empty block in the trial split of 4 atoms -/
example : [] ∈ npSplit (List.replicate 4 ()) [0] := by decide
example : [] ∈ npSplit (List.replicate 4 ()) [4] := by decide
example : [] ∈ npSplit (List.replicate 4 ()) [2, 2] := by decide
example : [] ∈ npSplit (List.replicate 4 ()) [3, 1] := by decide
example : [] ∈ npSplit (List.replicate 4 ()) [2, 7] := by decide
example : [] ∈ npSplit (List.replicate 4 ()) [-5] := by decide
/-- test: a negative separator that still partitions (Python slice semantics) -/
example : npSplit (List.range 4) [-2] = [[0, 1], [2, 3]] := by decide
/-- tests: refusals on the toy input -/
example : fromArrays toyEnv { toyInp with units := "nm".toList } = .error .validation := by decide +kernel
example : fromArrays toyEnv { toyInp with geom := some [0, 0, 0, 0, 0] } = .error .validation := by decide +kernel
example : fromArrays toyEnv { toyInp with geom := some [0, 0, 0, 0, 0, 1 / 20] } = .error .validation := by decide +kernel
example : fromArrays toyEnv { toyInp with elez := some [some 2] } = .error .validation := by decide +kernel
example : fromArrays toyEnv { toyInp with seps := some [2] } = .error .validation := by decide +kernel
example : fromArrays toyEnv { toyInp with fc := some [none] } = .error .validation := by decide +kernel

end QcelVerif.FromArrays
