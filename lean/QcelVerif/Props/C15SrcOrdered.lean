import QcelVerif.Props.C15Src
import QcelVerif.Props.C15
/-!
# C15 — the source-derived `get_fragment`: order-preserving path, argument forms, refusals (all inputs)

`Props/C15Src.lean` proves the grouped path of the generated body equal to the model.  This file does the same for the
`group_fragments=False` branch (loop invariants in `Lemmas/FragmentsSrcOrdered.lean`), for the int / `None` forms of the
arguments, and for the refusals (the evaluator reports "raises"; the class of the one explicit `raise` is read from the source,
`gf_raise_class`; the classes of the implicit refusals are Python's and stay differential).
-/
namespace QcelVerif.FragSrc
open QcelVerif.FragAst QcelVerif.Fragments

section
variable (R G : List Nat)

/-- the number of kept atoms before atom `i` -/
def cntBefore (frags : List (List Nat)) (i : Nat) : Nat := (List.range i).countP (keepAtom frags R G)

def selFrN (frags : List (List Nat)) (k : Nat) (frs : List (List Nat)) : List (List Nat) :=
  (selOf R G frs k).map (fun p => p.1.map (cntBefore R G frags))

def selChN (fcs : List Int) (dflt : Int) (k : Nat) (frs : List (List Nat)) : List Int :=
  (selOf R G frs k).map (fun p => if R.contains p.2 then fcs.getD p.2 0 else dflt)

/-- every atom of a selected fragment is kept (true when no atom lies in two fragments) -/
def SelKept (frags : List (List Nat)) (k : Nat) (rest : List (List Nat)) : Prop :=
  ∀ p ∈ selOf R G rest k, ∀ i ∈ p.1, keepAtom frags R G i = true

theorem SelKept.tail {frags : List (List Nat)} {k : Nat} {y : List Nat} {t : List (List Nat)} (h : SelKept R G frags k (y :: t)) :
    SelKept R G frags (k + 1) t :=
  fun p hp => h p (by rw [selOf_cons]; exact List.mem_append_right _ hp)

theorem at2at_kept (frags : List (List Nat)) (i : Nat) (h : keepAtom frags R G i = true) :
    at2at frags R G i = some (cntBefore R G frags i) := at2at_eq_some_iff.2 ⟨h, rfl⟩

theorem selFr_eq (frags : List (List Nat)) (rest : List (List Nat)) (k : Nat) (h : SelKept R G frags k rest) :
    selFr R G (fun i => oI (at2at frags R G i)) k rest = (selFrN R G frags k rest).map natL := by
  rw [selFr, selFrN, List.map_map]
  refine List.map_congr_left fun p hp => ?_
  rw [Function.comp_apply, natL, List.map_map]
  exact List.map_congr_left fun i hi => by simp [at2at_kept R G frags i (h p hp i hi), oI]

theorem selCh_eq (fcs : List Int) (d : Int) (rest : List (List Nat)) (k : Nat) :
    selCh R G fcs d k rest = intL (selChN R G fcs d k rest) := by
  simp [selCh, selChN, intL, List.map_map, Function.comp_def]

theorem fragLoop_eq (frags : List (List Nat)) (fcs fms : List Int) : ∀ (rest : List (List Nat)) (k : Nat),
    SelKept R G frags k rest → k + rest.length ≤ fcs.length → k + rest.length ≤ fms.length →
    fragLoop frags fcs fms R G rest k = some (selFrN R G frags k rest, selChN R G fcs 0 k rest, selChN R G fms 1 k rest)
  | [], _, _, _, _ => rfl
  | y :: t, k, h, h1, h2 => by
    simp only [List.length_cons] at h1 h2
    have ih := fragLoop_eq frags fcs fms t (k + 1) h.tail (by omega) (by omega)
    have hk1 : k < fcs.length := by omega
    have hk2 : k < fms.length := by omega
    have hc : fcs[k]? = some fcs[k] := List.getElem?_eq_getElem hk1
    have hm : fms[k]? = some fms[k] := List.getElem?_eq_getElem hk2
    have hmap : (k ∈ R ∨ k ∈ G) → y.mapM (at2at frags R G) = some (y.map (cntBefore R G frags)) := by
      intro hs
      rw [mapM_eq_some_iff]
      simp only [List.map_map]
      apply List.map_congr_left
      intro i hi
      simp [at2at_kept R G frags i (h (y, k) (by simpa [selOf_cons] using Or.inl hs) i hi)]
    rw [fragLoop_cons, ih]
    by_cases hr : k ∈ R
    · simp [hr, hmap (Or.inl hr), hc, hm, selFrN, selChN, selOf_cons]
    · by_cases hg : k ∈ G
      · simp [hr, hg, hmap (Or.inr hg), selFrN, selChN, selOf_cons]
      · simp [hr, hg, selFrN, selChN, selOf_cons]

/-- the keyword arguments the order-preserving path collects, written with the model's functions -/
def orderedCtor (frags : List (List Nat)) (fcs fms : List Int) (n : Nat) : SrcCtor :=
  { sym := keptTo R G frags n, mass := keptTo R G frags n, geom := keptTo R G frags n
    real := (keptTo R G frags n).map (realAtom frags R)
    frags := selFrN R G frags 0 frags
    fc := selChN R G fcs 0 0 frags
    fm := selChN R G fms 1 0 frags
    c := none, m := none }

end

theorem selKept_of_disjoint (R G : List Nat) (frags : List (List Nat)) (hd : DisjointFrags frags) :
    SelKept R G frags 0 frags := by
  intro p hp i hi
  obtain ⟨hz, hs⟩ := List.mem_filter.1 hp
  rw [keepAtom_of_mem hd (List.mem_zipIdx_iff_getElem?.1 hz) hi, ← hs]

/-- **source-derived get_fragment, `group_fragments=False`**, on ANY molecule whose fragment lists name existing atoms, with a
charge and a multiplicity per fragment and every atom of a selected fragment kept (true when no atom lies in two fragments),
ANY two lists of fragment numbers without a common element, any `orient`: the generated body raises (`np.vstack([])`) when
nothing is selected, and otherwise reaches the constructor call with exactly these keyword arguments — rows of `symbols`,
`masses`, `geometry` = the parent's atoms whose fragment is selected, in ORIGINAL order; flag = (its fragment is in `real`);
one index list per selected fragment in original order, remapped through `at2at` (= number of kept atoms before);
charges / multiplicities kept for real and (0, 1) for ghost fragments; no totals passed -/
theorem srcExtract_ordered_run {α} (mol : Mol α) (R G : List Nat) (orient : Bool)
    (hA : ∀ fr ∈ mol.frags, ∀ i ∈ fr, i < mol.atoms.length)
    (hfc : mol.frags.length ≤ mol.fc.length) (hfm : mol.frags.length ≤ mol.fm.length)
    (hsk : SelKept R G mol.frags 0 mol.frags) (hov : R.any (G.contains ·) = false) :
    (gfRun mol (.l (natL R)) (.l (natL G)) orient false).bind (fun st => readCtor st.v) =
      if keptTo R G mol.frags mol.atoms.length = [] then none
      else some (orderedCtor R G mol.frags mol.fc mol.fm mol.atoms.length) := by
  obtain ⟨st', hg, ⟨⟨b5, b6, b7, b8, _, _⟩, _, h9, h10, h11⟩, hF⟩ := wp_frame (g_ordered_wp
    (gfInp_inputs mol.atoms.length [] mol.real mol.frags mol.fc mol.fm mol.c) (d := fun _ _ => (0 : Int)) R G orient hA hfc hfm)
  have hflags : (keptTo R G mol.frags mol.atoms.length).map (fun i => some (b2i (realAtom mol.frags R i))) =
      boolL ((keptTo R G mol.frags mol.atoms.length).map (realAtom mol.frags R)) := by simp [boolL]
  rw [selFr_eq R G mol.frags mol.frags 0 hsk] at h9
  rw [selCh_eq] at h10 h11
  rw [hflags] at b8
  rw [gfRun_lists, gf_pre _ R G orient false hov, if_neg (by simp), gfInputs, hg, Option.bind_some]
  refine (suffix_read hF.length
    (if keptTo R G mol.frags mol.atoms.length = [] then none else some (keptTo R G mol.frags mol.atoms.length))
    ?_ b5 b6 b7 b8 h9 h10 h11 (hF.get 17 (by decide)) (hF.get 19 (by decide))).trans ?_
  · cases h : keptTo R G mol.frags mol.atoms.length <;> simp [evalE, natL]
  · split <;> rfl

theorem keptTo_lt (R G : List Nat) (frags : List (List Nat)) (n : Nat) : ∀ i ∈ keptTo R G frags n, i < n := by
  intro i hi
  exact List.mem_range.1 (List.mem_filter.1 hi).1

/-- the hand model of the order-preserving path on the same hypotheses -/
theorem extractOrdered_eq {α} (mol : Mol α) (R G : List Nat)
    (hA : ∀ fr ∈ mol.frags, ∀ i ∈ fr, i < mol.atoms.length)
    (hfc : mol.frags.length ≤ mol.fc.length) (hfm : mol.frags.length ≤ mol.fm.length)
    (hsk : SelKept R G mol.frags 0 mol.frags) :
    ∃ atoms, pick mol.atoms (keptTo R G mol.frags mol.atoms.length) = some atoms ∧
      extractOrdered mol R G = .ok { atoms := atoms, real := (keptTo R G mol.frags mol.atoms.length).map (realAtom mol.frags R)
                                     frags := selFrN R G mol.frags 0 mol.frags, fc := selChN R G mol.fc 0 0 mol.frags
                                     fm := selChN R G mol.fm 1 0 mol.frags, c := none, m := none } := by
  obtain ⟨atoms, hat⟩ := pick_exists mol.atoms _ (keptTo_lt R G mol.frags mol.atoms.length)
  refine ⟨atoms, hat, ?_⟩
  have hany : mol.frags.any (fun fr => fr.any (fun iat => decide (mol.atoms.length ≤ iat))) = false := by
    simp only [List.any_eq_false, List.any_eq_true, not_exists, not_and, decide_eq_true_eq]
    intro fr hfr i hi
    have := hA fr hfr i hi
    omega
  have hk : keptAtoms mol.atoms.length mol.frags R G = keptTo R G mol.frags mol.atoms.length := rfl
  have hfl := fragLoop_eq R G mol.frags mol.fc mol.fm mol.frags 0 hsk (by omega) (by omega)
  simp only [extractOrdered, hany, hk, hat, hfl, liftIdx, bind, Except.bind, pure, Except.pure]
  simp

/-- **source-derived get_fragment (order-preserving path) = the hand model**, for ALL molecules whose fragment lists name
existing atoms, no atom in two fragments, a charge and a multiplicity per fragment (every validated molecule), and ALL
lists `real`, `ghost` without a common element (any order, repeats, numbers outside the molecule, nothing selected): the
record the generated body hands to the constructor is the record of `Fragments.extract … false` (`extractOrdered` followed
by the `np.vstack([])` refusal), and it raises exactly when the model refuses -/
theorem srcExtract_ordered_eq_model {α} (mol : Mol α) (R G : List Nat)
    (hA : ∀ fr ∈ mol.frags, ∀ i ∈ fr, i < mol.atoms.length) (hd : DisjointFrags mol.frags)
    (hfc : mol.frags.length ≤ mol.fc.length) (hfm : mol.frags.length ≤ mol.fm.length)
    (hov : R.any (G.contains ·) = false) :
    (srcExtract mol R G false).bind (SrcCtor.toCtor mol) = (extract mol R G false).toOption := by
  have hsk := selKept_of_disjoint R G mol.frags hd
  obtain ⟨atoms, hat, hmodel⟩ := extractOrdered_eq mol R G hA hfc hfm hsk
  rw [srcExtract_eq_bind, srcExtract_ordered_run mol R G false hA hfc hfm hsk hov]
  simp only [extract, hov, Bool.false_eq_true, reduceIte, hmodel]
  have hlen := pick_length hat
  by_cases hK : keptTo R G mol.frags mol.atoms.length = []
  · have : atoms = [] := by
      rw [hK] at hlen; simpa using hlen
    simp [hK, this, Except.toOption]
  · have : atoms.isEmpty = false := by
      cases atoms with
      | nil => exact absurd (List.eq_nil_of_length_eq_zero (by simpa using hlen.symm)) hK
      | cons a t => rfl
    simp [hK, this, Except.toOption, SrcCtor.toCtor, orderedCtor, hat]

/-! ## refusals over the source-derived function -/

/-- [regenerated from molecule.py, rfl] the exception CLASS of the explicit `raise`: the only `raise` statement of
`get_fragment` is the one of the overlap test (tag 0 = first `raise` of the function, in `gfMain`) and the source names `TypeError` there; `nelectrons` and
`nuclear_repulsion_energy` contain no `raise`.  (The classes of the implicit refusals — IndexError of an index outside a list,
ValueError of `np.vstack([])`, TypeError of `set(None)` — are Python's, not the source's: the evaluator does not name them.) -/
theorem gf_raise_class : Gen.FragmentsSrc.gfRaises = [(0, "TypeError")] ∧ Gen.FragmentsSrc.neRaises = [] ∧
    Gen.FragmentsSrc.nreRaises = [] := ⟨rfl, rfl, rfl⟩

/-- the statements before the accumulators on overlapping lists: the first `raise` of the function is reached -/
theorem gf_overlap (inp : List Val) (R G : List Nat) (orient group : Bool) (hov : R.any (G.contains ·) = true)
    (grouped ordered : Stmt) :
    exec inp (fun _ _ => (0 : Int)) (gfTop grouped ordered) (gfInit R G orient group) = none := by
  rw [gfTop, gf_norm_lists, gf_main, hov]
  rfl

/-- **refusal, overlapping selection** (both paths, any molecule, any `orient`): when a fragment number is in `real` and in
`ghost` the source-derived body raises (its first `raise`) and the model answers `overlap` -/
theorem srcExtract_overlap_refused {α} (mol : Mol α) (R G : List Nat) (orient group : Bool) (hov : R.any (G.contains ·) = true) :
    gfRun mol (.l (natL R)) (.l (natL G)) orient group = none ∧ srcExtract mol R G group = none ∧
      extract mol R G group = .error .overlap := by
  refine ⟨?_, ?_, ?_⟩
  · rw [gfRun_lists, gf_overlap _ R G orient group hov]
  · rw [srcExtract_eq_bind, gfRun_lists, gf_overlap _ R G false group hov]; rfl
  · unfold extract; rw [if_pos hov]

/-- non-vacuity (test): real = [0, 2], ghost = [2] overlap -/
example : ([0, 2] : List Nat).any (([2] : List Nat).contains ·) = true := by decide

theorem foldO_mem_none {σ β} (f : σ → β → Option σ) (a : β) (ha : ∀ s, f s a = none) :
    ∀ (l : List β) (s : σ), a ∈ l → foldO f s l = none
  | [], _, h => by simp at h
  | b :: t, s, h => by
    simp only [foldO]
    cases hb : f s b with
    | none => rfl
    | some s' =>
      rcases List.mem_cons.1 h with rfl | h'
      · rw [ha] at hb; cases hb
      · exact foldO_mem_none f a ha t s' h'

/-- a block loop of the grouped path over a list with a number that names no fragment raises -/
theorem g_loop_oob {inp : List Val} {n : Nat} {frags : List (List Nat)} {fcs fms : List Int} (hI : GfInp inp n frags fcs fms)
    (d : Nat → Nat → Int) (isReal : Bool) (ks : List Nat) (k : Nat) (hk : k ∈ ks) (hoob : frags.length ≤ k) (e : Expr)
    (st : St Int) (he : evalE inp st.v e = some (.l (natL ks))) :
    exec inp d (.forIn 14 e (gOuter isReal)) st = none := by
  simp only [exec, he, Option.bind_some, Val.items]
  split
  · exact foldO_mem_none _ (.s (some (k : Int))) (fun s => g_outer_oob hI (d := d) isReal k hoob s) _ _
      (by simp only [natL, List.mem_map]; exact ⟨some (k : Int), ⟨k, hk, rfl⟩, rfl⟩)
  · rfl

/-- **refusal, fragment number out of range** (grouped path, any molecule, any `orient`): a number in `real` that names no
fragment makes the source-derived body raise (`self.fragments[frag]`, IndexError in Python) — it is never silently skipped —
and the model answers `index` -/
theorem srcExtract_grouped_oob_refused {α} (mol : Mol α) (R G : List Nat) (orient : Bool) (k : Nat) (hk : k ∈ R)
    (hoob : mol.frags.length ≤ k) (hov : R.any (G.contains ·) = false) :
    gfRun mol (.l (natL R)) (.l (natL G)) orient true = none ∧ srcExtract mol R G true = none ∧
      extract mol R G true = .error .index := by
  have hrun : ∀ o, gfRun mol (.l (natL R)) (.l (natL G)) o true = none := by
    intro o
    rw [gfRun_lists, gf_pre _ R G o true hov, if_pos rfl]
    have : exec (gfInputs mol) (fun _ _ => (0 : Int)) gGrouped (gfStart R G o true) = none := by
      rw [gGrouped, gReal, gfInputs, step_seq, show exec _ _ (.set 13 (.int 0)) (gfStart R G o true) = some _ from rfl,
        andThen_some, step_seq, g_loop_oob (gfInp_inputs _ _ _ _ _ _ _) _ true R k hk hoob _ _ rfl]
      rfl
    rw [this]; rfl
  refine ⟨hrun orient, ?_, ?_⟩
  · rw [srcExtract_eq_bind, hrun false]; rfl
  · have hp := pick_oob mol.frags R k hk hoob
    unfold extract
    rw [if_neg (by rw [hov]; simp), if_pos rfl]
    simp [extractGrouped, hp, liftIdx, bind, Except.bind]

/-- non-vacuity (test, kernel evaluation): real = [0, 5] on the three-fragment test molecule is refused on the grouped path,
while on the order-preserving path the source (and the model) IGNORE the number 5 — `5 in real` is never asked of a
fragment that does not exist -/
example : srcExtract testMol [0, 5] [] true = none ∧
    srcExtract testMol [0, 5] [] false = srcExtract testMol [0] [] false := by decide +kernel

/-- **refusal, fragment number out of range in `ghost`** (grouped path): when every number in `real` names a fragment (with
existing atoms, a charge and a multiplicity) and a number in `ghost` names none, the generated body raises in the ghost loop at
`self.fragments[frag]` and the model answers `index` -/
theorem srcExtract_grouped_ghost_oob_refused {α} (mol : Mol α) (R G : List Nat) (orient : Bool)
    (hR : ∀ k ∈ R, FragOK mol.atoms.length mol.frags mol.fc mol.fm k) (k : Nat) (hk : k ∈ G)
    (hoob : mol.frags.length ≤ k) (hov : R.any (G.contains ·) = false) :
    gfRun mol (.l (natL R)) (.l (natL G)) orient true = none ∧ srcExtract mol R G true = none ∧
      extract mol R G true = .error .index := by
  have hrun : ∀ o, gfRun mol (.l (natL R)) (.l (natL G)) o true = none := by
    intro o
    rw [gfRun_lists, gf_pre _ R G o true hov, if_pos rfl]
    obtain ⟨s, h1, _, _, _, h2, _⟩ := g_real (gfInp_inputs mol.atoms.length [] mol.real mol.frags mol.fc mol.fm mol.c)
      (fun _ _ => (0 : Int)) R G o hR (.forIn 14 (.var 2) (gOuter false))
    rw [gfInputs, gGrouped, h1, g_loop_oob (gfInp_inputs _ _ _ _ _ _ _) _ false G k hk hoob (.var 2) s h2]
    rfl
  refine ⟨hrun orient, ?_, ?_⟩
  · rw [srcExtract_eq_bind, hrun false]; rfl
  · have hp := pick_oob mol.frags G k hk hoob
    have p1 := pick_getD mol.frags [] R (fun k hk => (hR k hk).getD.1)
    unfold extract
    rw [if_neg (by rw [hov]; simp), if_pos rfl]
    simp [extractGrouped, hp, p1, liftIdx, bind, Except.bind]

/-- non-vacuity (test): real = [0], ghost = [1, 7] on the three-fragment test molecule -/
example : (∀ k ∈ [0], FragOK testMol.atoms.length testMol.frags testMol.fc testMol.fm k) ∧ (7 ∈ [1, 7]) ∧
    testMol.frags.length ≤ 7 ∧ ([0] : List Nat).any (([1, 7] : List Nat).contains ·) = false := by
  refine ⟨?_, by decide, by decide, by decide⟩
  intro k hk
  simp at hk
  subst hk
  exact ⟨[0, 1], 0, 1, rfl, by decide, rfl, rfl⟩

/-! ## argument forms: `real` an int or a list, `ghost` an int, `None` or a list -/

/-- the forms in which `get_fragment` accepts `real` / `ghost` -/
inductive ArgForm where
  | int (k : Nat)
  | none
  | list (l : List Nat)

def ArgForm.val : ArgForm → Val
  | .int k => .s (some (k : Int))
  | .none => .s Option.none
  | .list l => .l (natL l)

/-- `int -> [int]`, `None -> []` -/
def ArgForm.norm : ArgForm → List Nat
  | .int k => [k]
  | .none => []
  | .list l => l

theorem arg_real (inp : List Val) (d : Nat → Nat → Int) (rv : ArgForm) (hr : rv ≠ .none) (gv o g : Val) :
    exec inp d gfNormReal (argInit rv.val gv o g) = some (argInit (.l (natL rv.norm)) gv o g) := by
  cases rv with
  | none => exact absurd rfl hr
  | int k => simp [gfNormReal, exec, evalE, argInit, ArgForm.val, ArgForm.norm, b2v, Val.truthy, setSlot, natL]
  | list l => simp [gfNormReal, exec, evalE, argInit, ArgForm.val, ArgForm.norm, b2v, Val.truthy]

theorem arg_ghost (inp : List Val) (d : Nat → Nat → Int) (gv : ArgForm) (rv o g : Val) :
    exec inp d gfNormGhost (argInit rv gv.val o g) = some (argInit rv (.l (natL gv.norm)) o g) := by
  cases gv with
  | none => simp [gfNormGhost, exec, evalE, argInit, ArgForm.val, ArgForm.norm, b2v, Val.truthy, setSlot, natL]
  | int k => simp [gfNormGhost, exec, evalE, argInit, ArgForm.val, ArgForm.norm, b2v, Val.truthy, setSlot, natL]
  | list l => simp [gfNormGhost, exec, evalE, argInit, ArgForm.val, ArgForm.norm, b2v, Val.truthy]

/-- **argument-form normalisation, all inputs**: for every molecule, `real` an int or any list, `ghost` an int, `None` or any
list, any `orient` / `group_fragments`, the source-derived body behaves exactly as on the normalised lists
(`int -> [int]`, `None -> []`) — same final state, same refusals -/
theorem gfRun_args {α} (mol : Mol α) (rv gv : ArgForm) (hr : rv ≠ .none) (orient group : Bool) :
    gfRun mol rv.val gv.val orient group = gfRun mol (.l (natL rv.norm)) (.l (natL gv.norm)) orient group := by
  have key : ∀ (rv gv : ArgForm), rv ≠ .none →
      exec (gfInputs mol) (fun _ _ => (0 : Int)) (gfTop gGrouped gOrdered) (argInit rv.val gv.val (b2v orient) (b2v group)) =
      exec (gfInputs mol) (fun _ _ => (0 : Int)) (gfMain gGrouped gOrdered)
        (argInit (.l (natL rv.norm)) (.l (natL gv.norm)) (b2v orient) (b2v group)) := by
    intro rv gv hr
    rw [gfTop, step_seq, arg_real _ _ rv hr, andThen_some, step_seq, arg_ghost _ _ gv, andThen_some]
  rw [gfRun_eq, gfRun_eq, key rv gv hr]
  exact (key (.list rv.norm) (.list gv.norm) (by simp)).symm

/-- **refusal, `real=None`**: the source-derived body raises at `set(real)` (TypeError in Python) for every molecule and
every form of `ghost` -/
theorem gfRun_real_none_refused {α} (mol : Mol α) (gv : ArgForm) (orient group : Bool) :
    gfRun mol (.s none) gv.val orient group = none := by
  have h1 : exec (gfInputs mol) (fun _ _ => (0 : Int)) gfNormReal (argInit (.s none) gv.val (b2v orient) (b2v group)) =
      some (argInit (.s none) gv.val (b2v orient) (b2v group)) := by
    simp [gfNormReal, exec, evalE, argInit, b2v, Val.truthy]
  have h3 : exec (gfInputs mol) (fun _ _ => (0 : Int)) (.ite (.anyCommon (.var 1) (.var 2)) (.raise 0) .skip)
      (argInit (.s none) (.l (natL gv.norm)) (b2v orient) (b2v group)) = none := by
    simp [exec, evalE, argInit]
  rw [gfRun_eq, gfTop, step_seq, h1, andThen_some, step_seq, arg_ghost _ _ gv, andThen_some, gfMain, step_seq, h3]
  rfl

/-- `srcExtract_args_partial` at full strength for the record: int / None forms give the record of the list forms -/
theorem srcExtract_args {α} (mol : Mol α) (rv gv : ArgForm) (hr : rv ≠ .none) (group : Bool) :
    (gfRun mol rv.val gv.val false group).bind (fun st => readCtor st.v) = srcExtract mol rv.norm gv.norm group := by
  rw [gfRun_args mol rv gv hr, srcExtract_eq_bind]

/-- tests: `real = 2, ghost = None` is an instance (values and normalised lists) -/
example : (ArgForm.int 2).val = .s (some 2) ∧ ArgForm.none.val = .s none ∧ (ArgForm.int 2).norm = [2] ∧ ArgForm.none.norm = [] :=
  ⟨rfl, rfl, rfl, rfl⟩

/-! ## the headline statements for `group_fragments=False`, over the source-derived function -/

/-- **atoms, flags, index lists, charges and multiplicities of the order-preserving path, over the source-derived body**
(restating `ordered_atoms_conserved`, `ordered_remap`'s list, `ordered_fragments_partition`, `ordered_chgmult` at the
constructor call): on a contiguous parent (every validated molecule) with a charge and a multiplicity per fragment and
disjoint `real` / `ghost`, whenever the generated body reaches the constructor its keyword arguments say: `symbols`,
`masses`, `geometry` rows are the same list = the parent's atoms whose fragment is selected, in original order, each once,
non-empty; an atom is flagged real iff its fragment is in `real` (ghost fragments flagged ghost); the index lists
concatenate to `0..n'-1`; per selected fragment in original order: remapped index list, `(fc, fm)` kept for a real
fragment and `(0, 1)` for a ghost; no totals are passed (the constructor completes them from the fragments) -/
theorem srcOrdered_headline {α} (mol : Mol α) (R G : List Nat) (orient : Bool)
    (hc : mol.frags.flatten = List.range mol.atoms.length)
    (hfc : mol.frags.length ≤ mol.fc.length) (hfm : mol.frags.length ≤ mol.fm.length)
    (hov : R.any (G.contains ·) = false) (k : SrcCtor)
    (h : (gfRun mol (.l (natL R)) (.l (natL G)) orient false).bind (fun st => readCtor st.v) = some k) :
    let kept := (List.range mol.atoms.length).filter (keepAtom mol.frags R G)
    let S := (mol.frags.zipIdx 0).filter (fun p => R.contains p.2 || G.contains p.2)
    k.sym = kept ∧ k.mass = kept ∧ k.geom = kept ∧ kept ≠ [] ∧ kept.Pairwise (· < ·) ∧
    (∀ i, i ∈ kept ↔ i < mol.atoms.length ∧ ∃ j fr, mol.frags[j]? = some fr ∧ i ∈ fr ∧ (j ∈ R ∨ j ∈ G)) ∧
    k.real = kept.map (realAtom mol.frags R) ∧
    (∀ i, realAtom mol.frags R i = true ↔ ∃ j fr, mol.frags[j]? = some fr ∧ i ∈ fr ∧ j ∈ R) ∧
    k.frags.flatten = List.range kept.length ∧
    k.frags.map (fun f => f.map some) = S.map (fun p => p.1.map (at2at mol.frags R G)) ∧
    k.fc.map some = S.map (fun p => if R.contains p.2 then mol.fc[p.2]? else some 0) ∧
    k.fm.map some = S.map (fun p => if R.contains p.2 then mol.fm[p.2]? else some 1) ∧
    k.c = none ∧ k.m = none := by
  have hA : ∀ fr ∈ mol.frags, ∀ i ∈ fr, i < mol.atoms.length := by
    intro fr hfr i hi
    have : i ∈ mol.frags.flatten := List.mem_flatten.2 ⟨fr, hfr, hi⟩
    rw [hc] at this
    exact List.mem_range.1 this
  have hd : DisjointFrags mol.frags := disjoint_of_nodup_flatten _ (hc ▸ List.nodup_range)
  have hsk := selKept_of_disjoint R G mol.frags hd
  rw [srcExtract_ordered_run mol R G orient hA hfc hfm hsk hov] at h
  obtain ⟨atoms, hat, hmodel⟩ := extractOrdered_eq mol R G hA hfc hfm hsk
  have hfl := fragLoop_eq R G mol.frags mol.fc mol.fm mol.frags 0 hsk (by omega) (by omega)
  by_cases hK : keptTo R G mol.frags mol.atoms.length = []
  · simp [hK] at h
  · rw [if_neg hK] at h
    cases h
    obtain ⟨kept, hkept, hpw, hmem, _, _, hreal⟩ := ordered_atoms_conserved hmodel hd
    have hpart := ordered_fragments_partition hmodel hc
    have hspec := fragLoop_spec _ _ _ _ _ _ _ _ _ _ hfl
    have hlen := pick_length hat
    simp only at hpart
    rw [hlen] at hpart
    subst hkept
    exact ⟨rfl, rfl, rfl, hK, hpw, hmem, rfl, hreal, hpart, hspec.1, hspec.2.1, hspec.2.2, rfl, rfl⟩

/-- non-vacuity (test, kernel evaluation): the hypotheses of `srcExtract_ordered_eq_model` / `srcOrdered_headline` hold for the
test molecule with real = [2], ghost = [0] and the body reaches the constructor -/
example : testMol.frags.flatten = List.range testMol.atoms.length ∧ testMol.frags.length ≤ testMol.fc.length ∧
    testMol.frags.length ≤ testMol.fm.length ∧ ([2] : List Nat).any (([0] : List Nat).contains ·) = false ∧
    (srcExtract testMol [2] [0] false).isSome = true := by decide +kernel

end QcelVerif.FragSrc
