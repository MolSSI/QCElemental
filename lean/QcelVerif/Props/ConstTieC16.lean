import QcelVerif.Driver.C16
import QcelVerif.Gen.SrcConsts
/-!
# C16 — the phase threshold and the zero band used by the C16 model are those of `molecule.py`

`_orient_molecule_internal` skips entries with `abs(val) < geom_noise`, `geom_noise = 10 ** (-GEOMETRY_NOISE)`; the
model's phase loop takes the threshold as an argument and the driver (`Driver/C16.lean`) runs it at `noiseQ`.
`float_prep` zeroes entries below `5 ** (-(around + 1))`; `Model/Orient.lean: floatPrepK` has `5` and `+ 1` inline.
`Gen/SrcConsts.lean` is rewritten on every run from `qcelemental/models/molecule.py` (by `ast`); the translator also
compares harness/c16.py's `NOISE` and `FLUSH8` with the source.
-/
namespace QcelVerif.Orient
open QcelVerif

/-- the threshold the driver hands to the phase loop is `B ** (-GEOMETRY_NOISE)` with the source's base and constant -/
theorem orient_noise_matches_source :
    noiseQ = 1 / ((Src.orient.noise_base : Int) : Rat) ^ Src.molecule.GEOMETRY_NOISE.toNat := by
  have h1 : Src.orient.noise_base = 10 := by decide
  have h2 : Src.molecule.GEOMETRY_NOISE.toNat = 8 := by decide
  rw [h1, h2]
  norm_num [noiseQ]

/-- one column step on an undecided column (`val = s·v` is the entry the code reads, `s` the sign applied so far):
an entry with `|val| < noise` (strict) is skipped; otherwise the column is decided and flipped iff `val < 0` (strict)
— the two tests as the source writes them -/
theorem phase_test_matches_source (noise s v : Rat) :
    colStep noise (false, s) v = (if |s * v| < noise then (false, s) else (true, if s * v < 0 then -s else s)) ∧
    Src.orient.tests_strict = true :=
  ⟨rfl, by decide⟩

/-- `float_prep(v, d)`: the rounded entry `k·10^-d` becomes 0 iff `|k|·B^(d+O) < 10^d`, i.e. `|k·10^-d| < B^-(d+O)`,
with the source's base `B = 5` and offset `O = 1` -/
theorem zero_band_matches_source (d : Nat) (v : Rat) :
    floatPrepK d v =
      (if (roundHalfEven (v * (10 : Rat) ^ d)).natAbs * Src.float_prep.zero_band_base.toNat ^ (d + Src.float_prep.zero_band_offset.toNat) < 10 ^ d
       then 0 else roundHalfEven (v * (10 : Rat) ^ d)) := by
  have h1 : Src.float_prep.zero_band_base.toNat = 5 := by decide
  have h2 : Src.float_prep.zero_band_offset.toNat = 1 := by decide
  rw [h1, h2]
  rfl

end QcelVerif.Orient
