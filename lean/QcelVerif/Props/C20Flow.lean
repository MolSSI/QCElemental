import QcelVerif.Model.ProtocolsFlow
import QcelVerif.Props.C20
import QcelVerif.Props.C20Elems
/-!
# C20 — the CONTROL FLOW of the validators, tied to the source

`Gen/ProtocolsFlow.lean` holds the bodies of `_wavefunction_protocol`, `_stdout_protocol`, `_native_file_protocol`
(results.py), `_trajectory_protocol` (procedures.py), `ElectronShell.nfunctions`, `_check_atom_map`, `_check_nbf`,
`_calculate_nbf` (basis.py) as the translator `harness/c20_flow.py` printed them from the text of the working tree on this
run — statement by statement, in the AST of `Model/ProtocolsAst.lean`.  `Model/ProtocolsFlow.lean` runs those bodies with
the evaluator on encodings of the model's own state (`…Src` functions).  This file proves, for ALL inputs, that every
source-derived function equals the hand-written model of `Model/Protocols.lean`, and restates the headline retention
theorems over the source-derived functions.

Where a proof needs to talk about a loop body it names it (`dropBody`, `keepBody`, …) and proves BY `decide` that the
generated body is exactly the named shape (`wfn_body_shape`, `nbf_body_shape`): any change of the source text changes the
generated term and breaks these obligations (or the evaluation steps after them).
-/
namespace QcelVerif.Protocols.Src
open QcelVerif.Flow


section
variable {κ α : Type} [DecidableEq κ] (d : Dom κ α)
@[simp] theorem binV_add_int (x y : Int) : binV d .add (.sc (.int x)) (.sc (.int y)) = .ok (.sc (.int (x + y))) := rfl
@[simp] theorem binV_sub_int (x y : Int) : binV d .sub (.sc (.int x)) (.sc (.int y)) = .ok (.sc (.int (x - y))) := rfl
@[simp] theorem binV_mul_int (x y : Int) : binV d .mul (.sc (.int x)) (.sc (.int y)) = .ok (.sc (.int (x * y))) := rfl
@[simp] theorem binV_floordiv_two (x : Int) : binV d .floordiv (.sc (.int x)) (.sc (.int 2)) = .ok (.sc (.int (x / 2))) := rfl
@[simp] theorem binV_sub_list_dict (x : List (Sc κ α)) (keys : List κ) (get : κ → Option (Sc κ α)) :
    binV d .sub (.list x) (.dict keys get) =
      .ok (.list (x.filter (fun s => match toKey d s with | some k => (get k).isNone | Option.none => true))) := rfl
end

/-! The comparisons the bodies make, case by case (unfolding `cmpV` leaves its overlapping matches to be decided at
every step). -/
section
variable {κ α : Type} [DecidableEq κ] (d : Dom κ α)
@[simp] theorem cmpV_eq (x y : Sc κ α) :
    cmpV d .eq (.sc x) (.sc y) = match scEq x y with | some r => .ok (.sc (.bool r)) | none => .error .stuck := rfl
@[simp] theorem cmpV_ne (x y : Sc κ α) :
    cmpV d .ne (.sc x) (.sc y) = match (scEq x y).map (!·) with | some r => .ok (.sc (.bool r)) | none => .error .stuck := rfl
@[simp] theorem cmpV_gt (x y : Int) : cmpV d .gt (.sc (.int x)) (.sc (.int y)) = .ok (.sc (.bool (decide (x > y)))) := rfl
@[simp] theorem cmpV_is (x y : Sc κ α) :
    cmpV d .is (.sc x) (.sc y) = match scIs x y with | some r => .ok (.sc (.bool r)) | none => .error .stuck := rfl
@[simp] theorem cmpV_is_dict (keys : List κ) (get : κ → Option (Sc κ α)) :
    cmpV d .is (.dict keys get) (.sc .none) = .ok (.sc (.bool false)) := rfl
@[simp] theorem cmpV_isNot (x y : Sc κ α) :
    cmpV d .isNot (.sc x) (.sc y) = match (scIs x y).map (!·) with | some r => .ok (.sc (.bool r)) | none => .error .stuck := rfl
@[simp] theorem cmpV_isIn (x : Sc κ α) (b : Val κ α) :
    cmpV d .isIn (.sc x) b = match isMember d x b with | some r => .ok (.sc (.bool r)) | none => .error .stuck := rfl
@[simp] theorem cmpV_notIn (x : Sc κ α) (b : Val κ α) :
    cmpV d .notIn (.sc x) b = match (isMember d x b).map (!·) with | some r => .ok (.sc (.bool r)) | none => .error .stuck := rfl
end

section
variable {κ π : Type} (keyOf : String → Option κ) (nameOf : κ → String)
@[simp] theorem objDom_keyOf : (objDom (π := π) keyOf nameOf).keyOf = keyOf := rfl
@[simp] theorem objDom_nameOf : (objDom (π := π) keyOf nameOf).nameOf = nameOf := rfl
@[simp] theorem objDom_attr (pr : Protos) (a : String) :
    (objDom (π := π) keyOf nameOf).attr (.protocols pr) a = protoAttr pr a := rfl
end

/- The bodies are evaluated by `simp` with the equations of the evaluator.  The domains stay folded (their fields are
read through the lemmas above): unfolding them puts `protoAttr` on a bound attribute name under every step.  `andThen`
is unfolded before its arguments are visited, so that a continuation is simplified only once its argument is known. -/
attribute [local simp] run exec eval protoVals protoAttr scEq scIs truthy attrV indexV callV meth0V meth1V
  isinstV Env.set toKey tpName nfName wpName
attribute [local simp ↓] andThen


/-! ## stdout -/

/-- `_stdout_protocol` as translated from the source = the hand model, for every flag and value -/
theorem stdoutSrc_eq {σ : Type} (keep : Bool) (v : Option σ) : stdoutSrc keep v = some (stdoutProtocol keep v) := by
  cases keep <;> cases v <;>
    simp [stdoutSrc, stdoutRaw, stdoutProtocol, Gen.stdoutProtocol, encOpt]

/-! ## trajectory and nfunctions -/

theorem decSteps_enc {τ : Type} (v : List τ) :
    decSteps (v.map (fun x => (Sc.atom (Obj.payload x) : Sc Unit (Obj τ)))) = some v := by
  induction v with
  | nil => rfl
  | cons x xs ih => simp [decSteps, ih]

theorem pyIndex_zero {τ : Type} (x : τ) (l : List τ) : pyIndex (x :: l) 0 = some x := by
  simp [pyIndex]

theorem pyIndex_neg_one {τ : Type} (x : τ) (l : List τ) : pyIndex (x :: l) (-1) = some (lastOf x l) := by
  have h := getElem?_lastOf x l
  rw [List.getElem?_eq_getElem (by simp)] at h
  simpa [pyIndex] using Option.some.inj h

theorem lastOf_map {τ : Type} : ∀ (x : τ) (l : List τ),
    lastOf (Sc.atom (Obj.payload x) : Sc Unit (Obj τ)) (l.map (fun x => Sc.atom (Obj.payload x))) = Sc.atom (Obj.payload (lastOf x l))
  | _, [] => rfl
  | _, y :: ys => by simpa [lastOf] using lastOf_map y ys

theorem trajectorySrc_eq {τ : Type} (p : TrajPolicy) (v : List τ) : trajectorySrc p v = some (trajectoryProtocol p v) := by
  cases p
  · simp [trajectorySrc, trajectoryRaw, trajectoryProtocol, Gen.trajectoryProtocol, encSteps, decSteps_enc]
  · by_cases h : v.length > 2
    · cases v with
      | nil => simp at h
      | cons x xs =>
        have h' : (2 : Int) < (xs.length : Int) + 1 := by simp at h; omega
        have h'' : 2 < xs.length + 1 := by simpa using h
        simp [trajectorySrc, trajectoryRaw, trajectoryProtocol, Gen.trajectoryProtocol, encSteps, h', h'', pyIndex_zero,
          pyIndex_neg_one, decSteps, lastOf_map]
    · have h' : ¬ (2 : Int) < (v.length : Int) := by omega
      simp [trajectorySrc, trajectoryRaw, trajectoryProtocol, Gen.trajectoryProtocol, encSteps, h, h', decSteps_enc]
  · by_cases h : v.length > 1
    · cases v with
      | nil => simp at h
      | cons x xs =>
        have h' : (1 : Int) < (xs.length : Int) + 1 := by simp at h; omega
        have h'' : 1 < xs.length + 1 := by simpa using h
        simp [trajectorySrc, trajectoryRaw, trajectoryProtocol, Gen.trajectoryProtocol, encSteps, h', h'',
          pyIndex_neg_one, decSteps, lastOf_map]
    · have h' : ¬ (1 : Int) < (v.length : Int) := by omega
      simp [trajectorySrc, trajectoryRaw, trajectoryProtocol, Gen.trajectoryProtocol, encSteps, h, h', decSteps_enc]
  · simp [trajectorySrc, trajectoryRaw, trajectoryProtocol, Gen.trajectoryProtocol, encSteps, decSteps]

theorem genList_map {κ α τ : Type} (f : Sc κ α → ER κ α) (g h : τ → Sc κ α) (hf : ∀ a, f (g a) = .ok (.sc (h a))) (l : List τ) :
    genList f (l.map g) = .ok (.list (l.map h)) := by
  induction l with
  | nil => rfl
  | cons a as ih => simp only [List.map, genList, hf, ih]

theorem sumInts_map {κ α τ : Type} (g : τ → Int) (l : List τ) :
    sumInts (l.map (fun a => (Sc.int (g a) : Sc κ α))) = some ((l.map g).foldr (· + ·) 0) := by
  induction l with
  | nil => rfl
  | cons a as ih => simp [sumInts, ih]

theorem castSum {τ : Type} (f : τ → Nat) (g : τ → Int) (hfg : ∀ a, g a = (f a : Nat)) (l : List τ) :
    (l.map g).foldr (· + ·) 0 = (((l.map f).foldr (· + ·) 0 : Nat) : Int) := by
  induction l with
  | nil => rfl
  | cons a as ih => simp [hfg, ih, Int.natCast_add]

theorem nfunctions_foldr (h : Harm) (am : List Nat) :
    QcelVerif.Protocols.nfunctions h am = (am.map (fun l => match h with | .spherical => 2 * l + 1 | .cartesian => (l + 1) * (l + 2) / 2)).foldr (· + ·) 0 := by
  induction am with
  | nil => rfl
  | cons l ls ih => cases h <;> simp_all [QcelVerif.Protocols.nfunctions]

theorem nfunctionsRaw_eq (s : Shell) : nfunctionsRaw s = .ok (.sc (.int (s.nfunctions : Nat))) := by
  obtain ⟨h, am, ne, rows⟩ := s
  cases h
  · have := genList_map (κ := Nat) (α := BObj)
      (fun x => eval (basisDom noExt) noVals (.bin .add (.bin .mul (.int 2) (.var "L")) (.int 1))
        ((Env.empty.set "self" (.sc (.atom (.shell ⟨.spherical, am, ne, rows⟩)))).set "L" (.sc x)))
      (fun (l : Nat) => Sc.int (l : Int)) (fun (l : Nat) => Sc.int ((2 * l + 1 : Nat) : Int)) (by intro a; simp) am
    simp [nfunctionsRaw, Gen.shellNfunctions, basisDom, harmName] at this ⊢
    simp [this, sumInts_map (fun (l : Nat) => 2 * (l : Int) + 1), Shell.nfunctions, nfunctions_foldr]
    exact castSum (fun l => 2 * l + 1) _ (by intro l; simp) am
  · have := genList_map (κ := Nat) (α := BObj)
      (fun x => eval (basisDom noExt) noVals (.bin .floordiv (.bin .mul (.bin .add (.var "L") (.int 1)) (.bin .add (.var "L") (.int 2))) (.int 2))
        ((Env.empty.set "self" (.sc (.atom (.shell ⟨.cartesian, am, ne, rows⟩)))).set "L" (.sc x)))
      (fun (l : Nat) => Sc.int (l : Int)) (fun (l : Nat) => Sc.int (((l + 1) * (l + 2) / 2 : Nat) : Int)) (by intro a; simp) am
    simp [nfunctionsRaw, Gen.shellNfunctions, basisDom, harmName] at this ⊢
    simp [this, sumInts_map (fun (l : Nat) => ((l : Int) + 1) * ((l : Int) + 2) / 2), Shell.nfunctions, nfunctions_foldr]
    exact castSum (fun l => (l + 1) * (l + 2) / 2) _ (by intro l; simp) am

/-! ## native files -/

theorem find_of_nodup {γ : Type} : ∀ (f : Files γ), (f.map (·.1)).Nodup → ∀ e ∈ f, f.find? (fun e' => e'.1 == e.1) = some e
  | [], _, e, he => by simp at he
  | a :: as, hn, e, he => by
    simp only [List.map, List.nodup_cons] at hn
    rcases List.mem_cons.mp he with rfl | h
    · simp
    · have hne : a.1 ≠ e.1 := by
        intro heq; apply hn.1; rw [heq]; exact List.mem_map_of_mem h
      simp [hne, find_of_nodup as hn.2 e h]

theorem decFiles_enc {γ : Type} (f : Files γ) (hn : (f.map (·.1)).Nodup) : decFiles (f.map (·.1)) (filesGetSc f) = f := by
  have key : ∀ l : Files γ, (∀ e ∈ l, e ∈ f) → decFiles (l.map (·.1)) (filesGetSc f) = l := by
    intro l
    induction l with
    | nil => intro _; rfl
    | cons a as ih =>
      intro hl
      have h1 := find_of_nodup f hn a (hl a (by simp))
      have h2 := ih (fun e he => hl e (by simp [he]))
      unfold decFiles at h2 ⊢
      obtain ⟨k, c⟩ := a
      cases c <;> simp_all [filesGetSc]
  exact key f (fun _ h => h)

theorem nativeSrc_eq {γ : Type} (p : NativePolicy) (f : Files γ) (hn : (f.map (·.1)).Nodup) :
    nativeSrc p f = some (nativeProtocol p f) := by
  cases p
  · simp [nativeSrc, nativeRaw, nativeProtocol, Gen.nativeFileProtocol, encFiles, decFiles_enc f hn]
  · simp [nativeSrc, nativeRaw, nativeProtocol, Gen.nativeFileProtocol, encFiles, fileKey, forLoop]
    simp only [decFiles, filesGetSc, filesGet, List.filterMap]
    cases hfd : f.find? (fun e => e.1 == 0) with
    | none => simp
    | some e => obtain ⟨k, c⟩ := e; cases c <;> simp
  · simp [nativeSrc, nativeRaw, nativeProtocol, Gen.nativeFileProtocol, encFiles, decFiles]

/-! ## wavefunction protocol -/

def endsB (k : WKey) : Bool := endsWithL k.name "_b"
def isBeta : WKey → Bool
  | .arr k => k.spin = .b
  | .ptr k => k.spin = .b
  | _ => false
theorem endsWithL_suffix (x : String) (s : Spin) : endsWithL (x ++ s.suffix) "_b" = decide (s = .b) := by
  cases s <;> simp [endsWithL, Spin.suffix, String.toList_append, List.isSuffixOf, List.reverse_append, List.isPrefixOf]

theorem endsB_eq : ∀ k : WKey, endsB k = isBeta k
  | .restricted => by decide
  | .basis => by decide
  | .arr _ => endsWithL_suffix _ _
  | .ptr _ => endsWithL_suffix _ _
theorem ofName_name : ∀ k : WKey, WKey.ofName k.name = some k := by
  intro k
  rcases k with _ | _ | ⟨b, s⟩ | ⟨b, s⟩
  · decide
  · decide
  · cases b <;> cases s <;> decide
  · cases b <;> cases s <;> decide
theorem all_nodup : WKey.all.Nodup := by decide
theorem mem_all (k : WKey) : k ∈ WKey.all := List.mem_of_find?_eq_some (ofName_name k)

/-- the body of `for k in list(wfn.keys())` -/
def dropBody : Stmt := .ite (.meth1 (.var "k") "endswith" (.str "_b")) (.pop "wfn" (.var "k")) .pass

/-- the body of `for rk in return_keep` -/
def keepBody : Stmt :=
  (.seq (.assign "key" (.meth1 (.var "wfn") "get" (.var "rk")))
  (.seq (.ite (.cmp .is (.var "key") .none) .continue .pass)
  (.seq (.ite (.cmp .notIn (.var "key") (.var "wfn")) (.raise "ValueError") .pass)
  (.seq (.setItem "ret_wfn" (.var "rk") (.var "key"))
        (.setItem "ret_wfn" (.var "key") (.index (.var "wfn") (.var "key")))))))

def strList (l : List String) : Expr := l.foldr (fun s e => .cons (.str s) e) .nil

/-- `for rk in return_keep: …` then `return ret_wfn` -/
def keepTail : Stmt := .seq (.for1 "rk" (.var "return_keep") keepBody) (.ret (.var "ret_wfn"))

/-- `if return_keep is not None: … else: return wfn` -/
def finalIte : Stmt :=
 (.ite (.cmp .isNot (.var "return_keep") .none)
   (.seq (.assign "ret_wfn" (.dictCons (.str "restricted") (.var "restricted") .dictNil))
   (.seq (.ite (.cmp .isIn (.str "basis") (.var "wfn"))
           (.setItem "ret_wfn" (.str "basis") (.index (.var "wfn") (.str "basis"))) .pass)
         keepTail))
   (.ret (.var "wfn")))

/-- from `wfnp = values["protocols"].wavefunction` to the end -/
def wfnPost : Stmt :=
 (.seq (.assign "wfnp" (.attr (.values "protocols") "wavefunction"))
 (.seq (.assign "return_keep" .none)
 (.seq (.ite (.cmp .eq (.var "wfnp") (.str "all")) .pass
   (.ite (.cmp .eq (.var "wfnp") (.str "none")) (.assign "wfn" .none)
   (.ite (.cmp .eq (.var "wfnp") (.str "return_results"))
     (.assign "return_keep" (strList ((PtrKey.all).map PtrKey.name)))
   (.ite (.cmp .eq (.var "wfnp") (.str "orbitals_and_eigenvalues"))
     (.assign "return_keep" (strList ["orbitals_a", "orbitals_b", "eigenvalues_a", "eigenvalues_b"]))
   (.ite (.cmp .eq (.var "wfnp") (.str "occupations_and_eigenvalues"))
     (.assign "return_keep" (strList ["occupations_a", "occupations_b", "eigenvalues_a", "eigenvalues_b"]))
     (.raise "ValueError"))))))
 finalIte)))

/-- `_wavefunction_protocol` with the loop bodies and the tail named -/
def wfnShape : Stmt :=
 (.seq (.ite (.cmp .is (.var "value") .none)
   (.ret (.var "value"))
   (.ite (.isinst (.var "value") "dict")
     (.assign "wfn" (.meth0 (.var "value") "copy"))
     (.ite (.isinst (.var "value") "WavefunctionProperties")
       (.assign "wfn" (.meth0 (.var "value") "dict"))
       (.raise "ValueError"))))
 (.seq (.ite (.cmp .eq (.inValues "protocols") (.bool false)) (.raise "ValueError") .pass)
 (.seq (.assign "restricted" (.meth1 (.var "wfn") "get" (.str "restricted")))
 (.seq (.ite (.cmp .is (.var "restricted") .none) (.raise "ValueError") .pass)
 (.seq (.ite (.var "restricted") (.for1 "k" (.call "list" (.meth0 (.var "wfn") "keys")) dropBody) .pass)
   wfnPost)))))

/-- OBLIGATION: the generated body IS this shape (breaks when the source changes) -/
theorem wfn_body_shape : Gen.wavefunctionProtocol.body = wfnShape := by decide

theorem ofName_ptr (k : PtrKey) : WKey.ofName k.name = some (.ptr k) := ofName_name (.ptr k)
theorem ofName_restricted : WKey.ofName "restricted" = some .restricted := by decide
theorem ofName_basis : WKey.ofName "basis" = some .basis := by decide

/-- The dict `_wavefunction_protocol` is run on, with opaque payloads `ρ` under `basis` and under the array keys.
`Wfn β` (payloads `WPay β`) and `WfnE π β` (payloads `WPayE π β`) are both laid out this way, so the translated body is
evaluated once, on a `WDict`; the operations below follow results.py:670-741 as `Model/Protocols.lean` does. -/
structure WDict (ρ : Type) where
  restricted : Option Bool
  basis : Option ρ
  arr : ArrKey → Option ρ
  ptr : PtrKey → Option ArrKey

namespace WDict
variable {ρ : Type}

/-- the lookup function of the dict: a pointer's value is the key of the array it names -/
def get (x : WDict ρ) : WKey → Option (Sc WKey (Obj ρ))
  | .restricted => x.restricted.map .bool
  | .basis => x.basis.map (fun b => .atom (.payload b))
  | .arr k => (x.arr k).map (fun a => .atom (.payload a))
  | .ptr k => (x.ptr k).map (fun t => .key (.arr t))

def dropBeta (x : WDict ρ) : WDict ρ :=
  { x with
    arr := fun k => if k.spin = .b then none else x.arr k
    ptr := fun k => if k.spin = .b then none else x.ptr k }

/-- `ret_wfn[rk] = key; ret_wfn[key] = wfn[key]` -/
def copy (ret : WDict ρ) (rk : PtrKey) (t : ArrKey) (v : ρ) : WDict ρ :=
  { ret with
    arr := fun k => if k = t then some v else ret.arr k
    ptr := fun k => if k = rk then some t else ret.ptr k }

def keepLoop (x : WDict ρ) : List PtrKey → WDict ρ → Except Err (WDict ρ)
  | [], ret => .ok ret
  | rk :: rest, ret =>
    match x.ptr rk with
    | none => keepLoop x rest ret
    | some t =>
      match x.arr t with
      | none => .error (.validation ["wavefunction"])
      | some v => keepLoop x rest (ret.copy rk t v)

/-- the protocol once `restricted = r` has been read and the beta entries are gone -/
def post (p : WfnProto) (r : Bool) (x : WDict ρ) : Except Err (Option (WDict ρ)) :=
  match p with
  | .none => .ok none
  | p =>
    match keepList p with
    | none => .ok (some x)
    | some keep =>
      match x.keepLoop keep { restricted := some r, basis := x.basis, arr := fun _ => none, ptr := fun _ => none } with
      | .ok ret => .ok (some ret)
      | .error e => .error e

def protocol (p : WfnProto) (x : WDict ρ) : Except Err (Option (WDict ρ)) :=
  match x.restricted with
  | none => .error (.validation ["wavefunction"])
  | some r => post p r (if r then x.dropBeta else x)

abbrev dom (ρ : Type) : Dom WKey (Obj ρ) := objDom WKey.ofName WKey.name

theorem get_copy (ret : WDict ρ) (rk : PtrKey) (t : ArrKey) (v : ρ) :
    (ret.copy rk t v).get = fun j => if j = .arr t then some (.atom (.payload v))
      else if j = .ptr rk then some (.key (.arr t)) else ret.get j := by
  funext j
  cases j <;> simp [get, copy]
  · rename_i k; by_cases h : k = t <;> simp [h]
  · rename_i k; by_cases h : k = rk <;> simp [h]

theorem get_dropBeta (x : WDict ρ) :
    x.dropBeta.get = fun k => if k ∈ dictKeys WKey.all x.get ∧ endsB k then none else x.get k := by
  funext k
  rw [endsB_eq]
  symm
  cases k <;> simp [isBeta, get, dropBeta, dictKeys, mem_all]
  · rename_i k; by_cases h : k.spin = .b <;> simp [h]
  · rename_i k; by_cases h : k.spin = .b <;> simp [h]

theorem keepLoop_spec (vals : String → Option (Val WKey (Obj ρ))) (x : WDict ρ) (wkeys : List WKey) :
    ∀ (keep : List PtrKey) (ret : WDict ρ) (env : Env WKey (Obj ρ)) (rkeys : List WKey),
      env "wfn" = some (.dict wkeys x.get) → env "ret_wfn" = some (.dict rkeys ret.get) →
      match x.keepLoop keep ret with
      | .ok ret' => ∃ env' rkeys',
          forLoop (fun s e => exec (dom ρ) vals keepBody (e.set "rk" (.sc s))) (keep.map (fun k => Sc.str k.name)) env = .next env' ∧
          env' "ret_wfn" = some (.dict rkeys' ret'.get)
      | .error er => er = .validation ["wavefunction"] ∧
          forLoop (fun s e => exec (dom ρ) vals keepBody (e.set "rk" (.sc s))) (keep.map (fun k => Sc.str k.name)) env
            = .exc (.raise "ValueError") := by
  intro keep
  induction keep with
  | nil => intro ret env rkeys _ h2; exact ⟨env, rkeys, rfl, h2⟩
  | cons rk rest ih =>
    intro ret env rkeys h1 h2
    simp only [keepLoop, List.map, forLoop]
    cases hp : x.ptr rk with
    | none =>
      have hstep : exec (dom ρ) vals keepBody (env.set "rk" (.sc (.str rk.name)))
          = .cont ((env.set "rk" (.sc (.str rk.name))).set "key" (.sc .none)) := by
        simp [keepBody, h1, ofName_ptr, get, hp]
      rw [hstep]
      exact ih ret _ rkeys (by simp [h1]) (by simp [h2])
    | some t =>
      dsimp only
      cases ha : x.arr t with
      | none =>
        have hstep : exec (dom ρ) vals keepBody (env.set "rk" (.sc (.str rk.name))) = .exc (.raise "ValueError") := by
          simp [keepBody, h1, ofName_ptr, get, hp, ha, isMember]
        rw [hstep]; exact ⟨rfl, rfl⟩
      | some v =>
        dsimp only
        have hstep : ∃ env1 rkeys1, exec (dom ρ) vals keepBody (env.set "rk" (.sc (.str rk.name))) = .next env1 ∧
            env1 "wfn" = some (.dict wkeys x.get) ∧ env1 "ret_wfn" = some (.dict rkeys1 (ret.copy rk t v).get) := by
          let K1 := if rkeys.contains (.ptr rk) then rkeys else rkeys ++ [WKey.ptr rk]
          let g1 : WKey → Option (Sc WKey (Obj ρ)) := fun j => if j = WKey.ptr rk then some (Sc.key (WKey.arr t)) else ret.get j
          let K2 := if K1.contains (.arr t) then K1 else K1 ++ [WKey.arr t]
          let g2 : WKey → Option (Sc WKey (Obj ρ)) := fun j => if j = WKey.arr t then some (Sc.atom (Obj.payload v)) else g1 j
          refine ⟨(((env.set "rk" (.sc (.str rk.name))).set "key" (.sc (.key (.arr t)))).set "ret_wfn" (.dict K1 g1)).set
                    "ret_wfn" (.dict K2 g2), K2, ?_, ?_, ?_⟩
          · simp [keepBody, h1, h2, ofName_ptr, get, hp, ha, isMember, K1, K2, g1, g2]
          · simp [h1]
          · simp [g2, g1, get_copy]
        obtain ⟨env1, rkeys1, he, hw, hr⟩ := hstep
        rw [he]
        exact ih _ env1 rkeys1 hw hr

/-- one round of `for k in list(wfn.keys())`: a present key ending in `_b` is popped, any other left alone -/
theorem dropBody_step (vals : String → Option (Val WKey (Obj ρ))) (keys : List WKey) (env : Env WKey (Obj ρ))
    (get : WKey → Option (Sc WKey (Obj ρ))) (x : WKey) (h : env "wfn" = some (.dict keys get)) (hx : (get x).isSome) :
    ∃ env', exec (dom ρ) vals dropBody (env.set "k" (.sc (.key x))) = .next env' ∧
      env' "wfn" = some (.dict keys (fun j => if j = x ∧ endsB x then none else get j)) ∧
      ∀ n, n ≠ "k" → n ≠ "wfn" → env' n = env n := by
  cases hb : endsB x with
  | true =>
    refine ⟨(env.set "k" (.sc (.key x))).set "wfn" (.dict keys (fun j => if j = x then none else get j)), ?_, ?_, ?_⟩
    · have hb' : endsWithL x.name "_b" = true := hb
      simp [dropBody, h, hb', hx]
    · simp
    · intro n h1 h2; simp [h1, h2]
  | false =>
    refine ⟨env.set "k" (.sc (.key x)), ?_, ?_, ?_⟩
    · have hb' : endsWithL x.name "_b" = false := hb
      simp [dropBody, hb']
    · simp [h]
    · intro n h1 _; simp [h1]

theorem dropLoop_spec (vals : String → Option (Val WKey (Obj ρ))) (keys : List WKey) :
    ∀ (l : List WKey), l.Nodup → ∀ (env : Env WKey (Obj ρ)) (get : WKey → Option (Sc WKey (Obj ρ))),
      env "wfn" = some (.dict keys get) → (∀ x ∈ l, (get x).isSome) →
      ∃ env', forLoop (fun s e => exec (dom ρ) vals dropBody (e.set "k" (.sc s))) (l.map Sc.key) env = .next env' ∧
        env' "wfn" = some (.dict keys (fun k => if k ∈ l ∧ endsB k then none else get k)) ∧
        ∀ n, n ≠ "k" → n ≠ "wfn" → env' n = env n := by
  intro l
  induction l with
  | nil => intro _ env get h _; exact ⟨env, rfl, by simpa using h, fun _ _ _ => rfl⟩
  | cons x xs ih =>
    intro hn env get h hp
    simp only [List.nodup_cons] at hn
    obtain ⟨env1, hstep, hw, hfr⟩ := dropBody_step vals keys env get x h (hp x (by simp))
    obtain ⟨env', h1, h2, h3⟩ := ih hn.2 env1 _ hw (by
      intro y hy
      have : y ≠ x := fun e => hn.1 (e ▸ hy)
      simp [this, hp y (by simp [hy])])
    refine ⟨env', by simp only [List.map, forLoop, hstep]; exact h1, ?_, fun n a b => (h3 n a b).trans (hfr n a b)⟩
    rw [h2]; congr 2; funext k
    by_cases hk : k = x
    · subst hk; simp [hn.1]
    · simp [hk]

/-- what pydantic makes of the outcome of the pre-validator; a returned dict is given by its lookup function -/
def outToRes : Out WKey (Obj ρ) → Option (Except Err (Option (WKey → Option (Sc WKey (Obj ρ)))))
  | .ret (.sc .none) => some (.ok none)
  | .ret (.dict _ get) => some (.ok (some get))
  | .exc (.raise c) => if c = "ValueError" then some (.error (.validation ["wavefunction"])) else none
  | .next _ => some (.ok none)
  | _ => none

theorem keepTail_spec (vals : String → Option (Val WKey (Obj ρ))) (x : WDict ρ) (wkeys : List WKey)
    (keep : List PtrKey) (ret : WDict ρ) (env : Env WKey (Obj ρ)) (rkeys : List WKey)
    (h0 : env "return_keep" = some (.list (keep.map (fun k => Sc.str k.name))))
    (h1 : env "wfn" = some (.dict wkeys x.get)) (h2 : env "ret_wfn" = some (.dict rkeys ret.get)) :
    outToRes (exec (dom ρ) vals keepTail env) =
      some (match x.keepLoop keep ret with | .ok r' => .ok (some r'.get) | .error e => .error e) := by
  have := keepLoop_spec vals x wkeys keep ret env rkeys h1 h2
  cases hk : x.keepLoop keep ret with
  | ok r' =>
    rw [hk] at this
    obtain ⟨env', rk', e1, e2⟩ := this
    simp [keepTail, h0, e1, e2, outToRes]
  | error er =>
    rw [hk] at this
    simp [keepTail, h0, this.2, this.1, outToRes]

theorem final_spec (vals : String → Option (Val WKey (Obj ρ))) (keep : List PtrKey) (r : Bool) (x : WDict ρ)
    (keys : List WKey) (env : Env WKey (Obj ρ))
    (h0 : env "return_keep" = some (.list (keep.map (fun k => Sc.str k.name))))
    (h1 : env "wfn" = some (.dict keys x.get)) (h2 : env "restricted" = some (.sc (.bool r))) :
    outToRes (exec (dom ρ) vals finalIte env) =
      some (match x.keepLoop keep { restricted := some r, basis := x.basis, arr := fun _ => none, ptr := fun _ => none } with
            | .ok r' => .ok (some r'.get) | .error e => .error e) := by
  cases hb : x.basis with
  | none =>
    have hg : (fun j => if j = WKey.restricted then some (Sc.bool r) else none)
        = get ({ restricted := some r, basis := none, arr := fun _ => none, ptr := fun _ => none } : WDict ρ) := by
      funext j; cases j <;> simp [get]
    simp [finalIte, h0, h1, h2, isMember, ofName_restricted, ofName_basis, get, hb]
    refine (keepTail_spec vals x keys keep _ _ [WKey.restricted] (by simp [h0]) (by simp [h1]) ?_)
    simp [hg]
  | some b =>
    have hg : (fun j => if j = WKey.basis then some (Sc.atom (Obj.payload b))
                        else if j = WKey.restricted then some (Sc.bool r) else none)
        = get ({ restricted := some r, basis := some b, arr := fun _ => none, ptr := fun _ => none } : WDict ρ) := by
      funext j; cases j <;> simp [get]
    simp [finalIte, h0, h1, h2, isMember, ofName_restricted, ofName_basis, get, hb]
    refine (keepTail_spec vals x keys keep _ _ [WKey.restricted, WKey.basis] (by simp [h0]) (by simp [h1]) ?_)
    simp [hg]

theorem post_spec (p : WfnProto) (r : Bool) (x : WDict ρ) (keys : List WKey) (env : Env WKey (Obj ρ))
    (h1 : env "wfn" = some (.dict keys x.get)) (h2 : env "restricted" = some (.sc (.bool r))) :
    outToRes (exec (dom ρ) (protoVals { wp := p }) wfnPost env) = some ((x.post p r).map (Option.map get)) := by
  cases p
  · simp [wfnPost, finalIte, h1, outToRes, post, keepList, Except.map]
  · simp [wfnPost, post, keepList, strList]
    refine (final_spec _ [⟨.orbitals, .a⟩, ⟨.orbitals, .b⟩, ⟨.eigenvalues, .a⟩, ⟨.eigenvalues, .b⟩] r x keys _
      (by simp [PtrKey.name, PtrBase.name, Spin.suffix]) (by simp [h1]) (by simp [h2])).trans ?_
    cases x.keepLoop _ _ <;> rfl
  · simp [wfnPost, post, keepList, strList]
    refine (final_spec _ [⟨.occupations, .a⟩, ⟨.occupations, .b⟩, ⟨.eigenvalues, .a⟩, ⟨.eigenvalues, .b⟩] r x keys _
      (by simp [PtrKey.name, PtrBase.name, Spin.suffix]) (by simp [h1]) (by simp [h2])).trans ?_
    cases x.keepLoop _ _ <;> rfl
  · simp [wfnPost, post, keepList, strList]
    refine (final_spec _ PtrKey.all r x keys _
      (by simp [PtrKey.all, PtrBase.all, flatten, PtrKey.name, PtrBase.name, Spin.suffix]) (by simp [h1]) (by simp [h2])).trans ?_
    cases x.keepLoop _ _ <;> rfl
  · simp [wfnPost, finalIte, outToRes, post, Except.map]

/-- the translated `_wavefunction_protocol`, run on any such dict, computes `protocol` -/
theorem protocol_run (p : WfnProto) (x : WDict ρ) :
    outToRes (exec (dom ρ) (protoVals { wp := p }) Gen.wavefunctionProtocol.body
        (Env.empty.set "value" (.dict WKey.all x.get)))
      = some ((x.protocol p).map (Option.map get)) := by
  rw [wfn_body_shape]
  unfold protocol
  cases hr : x.restricted with
  | none => simp [wfnShape, ofName_restricted, get, hr, outToRes, Except.map]
  | some r =>
    cases r
    · simp [wfnShape, ofName_restricted, get, hr]
      exact post_spec p false x WKey.all _ (by simp) (by simp)
    · simp [wfnShape, ofName_restricted, get, hr]
      have hnd : (dictKeys WKey.all x.get).Nodup := all_nodup.sublist List.filter_sublist
      obtain ⟨env', h1, h2, h3⟩ := dropLoop_spec (protoVals { wp := p }) WKey.all (dictKeys WKey.all x.get) hnd
        (((Env.empty.set "value" (Val.dict WKey.all x.get)).set "wfn" (Val.dict WKey.all x.get)).set
            "restricted" (Val.sc (Sc.bool true))) x.get (by simp)
        (by intro k hk; simpa [dictKeys] using (List.mem_filter.mp hk).2)
      rw [h1]
      rw [← get_dropBeta] at h2
      exact post_spec p true x.dropBeta WKey.all env' h2 (by rw [h3 _ (by decide) (by decide)]; simp)

/-- reading the source-derived function off `protocol`, for a model `W` laid out as such dicts by `enc` -/
theorem src_eq {W : Type} (enc : W → WDict ρ) (dec : (WKey → Option (Sc WKey (Obj ρ))) → W)
    (hdec : ∀ w, dec (enc w).get = w) (p : WfnProto) (w : W) (r : Except Err (Option W))
    (hr : (enc w).protocol p = r.map (Option.map enc)) :
    (outToRes (exec (dom ρ) (protoVals { wp := p }) Gen.wavefunctionProtocol.body
        (Env.empty.set "value" (.dict WKey.all (enc w).get)))).map (fun o => o.map (Option.map dec)) = some r := by
  rw [protocol_run, hr]
  rcases r with e | _ | w'
  · rfl
  · rfl
  · show some (Except.ok (some (dec (enc w').get))) = _
    rw [hdec]

end WDict

/-! ### the shape model as such a dict -/

def wfnDict {β : Type} (w : Wfn β) : WDict (WPay β) :=
  { restricted := w.restricted, basis := w.basis.map .basis, arr := fun k => (w.arr k).map .shape, ptr := w.ptr }

theorem wfnGet_eq {β : Type} (w : Wfn β) : wfnGet w = (wfnDict w).get := by
  funext k
  cases k <;> simp [wfnGet, WDict.get, wfnDict] <;> rfl

theorem decWfn_get {β : Type} (w : Wfn β) : decWfn (wfnDict w).get = w := by
  obtain ⟨r, b, a, p⟩ := w
  simp only [decWfn, WDict.get, wfnDict]
  congr 1
  · cases r <;> rfl
  · cases b <;> rfl
  · funext k; cases a k <;> rfl
  · funext k; cases p k <;> rfl

theorem wfnDict_dropBeta {β : Type} (w : Wfn β) : wfnDict (dropBeta w) = (wfnDict w).dropBeta := by
  unfold wfnDict dropBeta WDict.dropBeta
  congr 1
  funext k
  dsimp only
  split <;> rfl

theorem wfnDict_keepLoop {β : Type} (w : Wfn β) : ∀ (keep : List PtrKey) (ret : Wfn β),
    (wfnDict w).keepLoop keep (wfnDict ret) = (keepLoop w keep ret).map wfnDict
  | [], _ => rfl
  | rk :: rest, ret => by
    have hc : ∀ t v, (wfnDict ret).copy rk t (.shape v) = wfnDict (setArr (setPtr ret rk t) t v) := by
      intro t v
      unfold wfnDict setArr setPtr WDict.copy
      congr 1
      funext k
      dsimp only
      split <;> rfl
    unfold keepLoop WDict.keepLoop
    rw [show (wfnDict w).ptr rk = w.ptr rk from rfl]
    cases w.ptr rk with
    | none => exact wfnDict_keepLoop w rest ret
    | some t =>
      simp only [show (wfnDict w).arr t = (w.arr t).map WPay.shape from rfl]
      cases w.arr t with
      | none => rfl
      | some v => simp only [Option.map_some, hc]; exact wfnDict_keepLoop w rest _

theorem wfnDict_protocol {β : Type} (p : WfnProto) (w : Wfn β) :
    (wfnDict w).protocol p = (wfnProtocol p w).map (Option.map wfnDict) := by
  unfold WDict.protocol wfnProtocol
  rw [show (wfnDict w).restricted = w.restricted from rfl]
  cases w.restricted with
  | none => rfl
  | some r =>
    have hw : (if r then (wfnDict w).dropBeta else wfnDict w) = wfnDict (if r then dropBeta w else w) := by
      cases r
      · rfl
      · exact (wfnDict_dropBeta w).symm
    simp only [hw]
    generalize (if r then dropBeta w else w) = w1
    have hk : ∀ keep, (wfnDict w1).keepLoop keep ⟨some r, (wfnDict w1).basis, fun _ => none, fun _ => none⟩
        = (keepLoop w1 keep ⟨some r, w1.basis, fun _ => none, fun _ => none⟩).map wfnDict :=
      fun keep => wfnDict_keepLoop w1 keep ⟨some r, w1.basis, fun _ => none, fun _ => none⟩
    cases p <;> simp only [WDict.post, keepList] <;> try rfl
    all_goals rw [hk]; cases keepLoop w1 _ _ <;> rfl

theorem wfnProtocolSrc_eq {β : Type} (p : WfnProto) (w : Wfn β) : wfnProtocolSrc p w = some (wfnProtocol p w) := by
  rw [← WDict.src_eq wfnDict decWfn decWfn_get p w _ (wfnDict_protocol p w), ← wfnGet_eq]
  unfold wfnProtocolSrc wfnRaw run wfnDom WDict.dom
  generalize exec (objDom WKey.ofName WKey.name) _ Gen.wavefunctionProtocol.body _ = o
  rcases o with e | e | (s | l | ⟨k, g⟩) | (c | _) <;> try rfl
  · cases s <;> rfl
  · show (if _ then _ else _) = Option.map _ (if _ then _ else _)
    split <;> rfl

@[simp] theorem wfnDom_keyOf {β : Type} : (wfnDom β).keyOf = WKey.ofName := rfl
@[simp] theorem wfnDom_nameOf {β : Type} : (wfnDom β).nameOf = WKey.name := rfl
@[simp] theorem wfnDom_attr {β : Type} (pr : Protos) (a : String) : (wfnDom β).attr (.protocols pr) a = protoAttr pr a := rfl
@[simp] theorem wfnDom_isinst {β : Type} (o : Obj (WPay β)) (c : String) : (wfnDom β).isinst o c = false := rfl


/-! ## BasisSet: nfunctions, _calculate_nbf, _check_nbf, _check_atom_map -/

/-- `center_count[k] = sum(x.nfunctions() for x in center.electron_shells)` -/
def countBody : Stmt :=
  .setItem "center_count" (.var "k") (.call "sum" (.gen (.ext1 "nfunctions" (.var "x")) "x" (.attr (.var "center") "electron_shells")))
def sumBody : Stmt := .augAdd "ret" (.index (.var "center_count") (.var "center"))

def nbfShape : Stmt :=
 (.seq (.assign "center_count" .dictNil)
 (.seq (.for2 "k" "center" (.var "center_data") countBody)
 (.seq (.assign "ret" (.int 0))
 (.seq (.for1 "center" (.var "atom_map") sumBody)
 (.ret (.var "ret"))))))

theorem nbf_body_shape : Gen.calculateNbf.body = nbfShape := by decide

def cget (cs : List Center) : Nat → Option (Sc Nat BObj) := fun i => (findCenter cs i).map (fun c => .atom (.center c))

theorem countStep (vals : String → Option BVal) (i : Nat) (c : Center) (env : Env Nat BObj) (K : List Nat)
    (cc : Nat → Option (Sc Nat BObj)) (h : env "center_count" = some (.dict K cc)) :
    exec (basisDom extNf) vals countBody ((env.set "k" (.sc (.key i))).set "center" (.sc (.atom (.center c))))
      = .next (((env.set "k" (.sc (.key i))).set "center" (.sc (.atom (.center c)))).set "center_count"
          (.dict (if K.contains i then K else K ++ [i]) (fun j => if j = i then some (.int (c.nfunctions : Nat)) else cc j))) := by
  have hg := genList_map (κ := Nat) (α := BObj)
    (fun x => eval (basisDom extNf) vals (.ext1 "nfunctions" (.var "x"))
      ((((env.set "k" (.sc (.key i))).set "center" (.sc (.atom (.center c)))).set "x" (.sc x))))
    (fun (s : Shell) => Sc.atom (BObj.shell s)) (fun (s : Shell) => Sc.int ((s.nfunctions : Nat) : Int))
    (by intro s; simp [basisDom, extNf, nfunctionsRaw_eq]) c.shells
  simp [basisDom] at hg
  simp [countBody, h, basisDom, hg, sumInts_map (fun (s : Shell) => ((s.nfunctions : Nat) : Int)), castSum Shell.nfunctions _ (fun _ => rfl),
    Center.nfunctions]

theorem countLoop (cs : List Center) (vals : String → Option BVal) :
    ∀ (ids : List Nat) (env : Env Nat BObj) (K : List Nat) (cc : Nat → Option (Sc Nat BObj)),
      env "center_count" = some (.dict K cc) →
      ∃ env' K',
        forLoop (fun (kv : Nat × Sc Nat BObj) e => exec (basisDom extNf) vals countBody ((e.set "k" (.sc (.key kv.1))).set "center" (.sc kv.2)))
          (dictItems ids (cget cs)) env = .next env' ∧
        env' "center_count" = some (.dict K' (fun k => if k ∈ ids then
            (match findCenter cs k with | some c => some (.int (c.nfunctions : Nat)) | none => cc k) else cc k)) ∧
        ∀ n, n ≠ "k" → n ≠ "center" → n ≠ "center_count" → env' n = env n := by
  intro ids
  induction ids with
  | nil => intro env K cc h; exact ⟨env, K, rfl, by simpa using h, fun _ _ _ _ => rfl⟩
  | cons i rest ih =>
    intro env K cc h
    cases hf : findCenter cs i with
    | none =>
      obtain ⟨env', K', h1, h2, h3⟩ := ih env K cc h
      refine ⟨env', K', ?_, ?_, h3⟩
      · simpa [dictItems, cget, hf] using h1
      · rw [h2]; congr 2; funext k
        by_cases hk : k = i
        · subst hk; simp [hf]
        · simp [hk]
    | some c =>
      have hstep := countStep vals i c env K cc h
      obtain ⟨env', K', h1, h2, h3⟩ := ih
        (((env.set "k" (.sc (.key i))).set "center" (.sc (.atom (.center c)))).set "center_count"
          (.dict (if K.contains i then K else K ++ [i]) (fun j => if j = i then some (.int (c.nfunctions : Nat)) else cc j)))
        (if K.contains i then K else K ++ [i]) (fun j => if j = i then some (.int (c.nfunctions : Nat)) else cc j) (by simp)
      refine ⟨env', K', ?_, ?_, ?_⟩
      · simp only [dictItems, cget, hf, List.filterMap_cons, Option.map_some, forLoop, hstep]
        simpa [dictItems, cget] using h1
      · rw [h2]; congr 2; funext k
        by_cases hk : k = i
        · subst hk; simp [hf]
        · simp [hk]
      · intro n a b c'; rw [h3 n a b c']; simp [a, b, c']

theorem sumLoop (cs : List Center) (vals : String → Option BVal) (K : List Nat) (cc : Nat → Option (Sc Nat BObj))
    (hcc : ∀ k, cc k = (findCenter cs k).map (fun c => Sc.int (c.nfunctions : Nat))) :
    ∀ (am : List Nat) (env : Env Nat BObj) (acc : Nat),
      env "center_count" = some (.dict K cc) → env "ret" = some (.sc (.int (acc : Nat))) →
      (∀ a ∈ am, (findCenter cs a).isSome) →
      ∃ env', forLoop (fun x e => exec (basisDom extNf) vals sumBody (e.set "center" (.sc x))) (am.map Sc.key) env = .next env' ∧
        env' "ret" = some (.sc (.int ((acc + calcNbf cs am : Nat) : Int))) := by
  intro am
  induction am with
  | nil => intro env acc _ h2 _; exact ⟨env, rfl, by simpa [calcNbf] using h2⟩
  | cons a rest ih =>
    intro env acc h1 h2 hk
    obtain ⟨c, hc⟩ := Option.isSome_iff_exists.mp (hk a (by simp))
    have hstep : exec (basisDom extNf) vals sumBody (env.set "center" (.sc (.key a)))
        = .next ((env.set "center" (.sc (.key a))).set "ret" (.sc (.int ((acc + c.nfunctions : Nat) : Int)))) := by
      simp [sumBody, h1, h2, hcc, hc, basisDom, Int.natCast_add]
    obtain ⟨env', e1, e2⟩ := ih ((env.set "center" (.sc (.key a))).set "ret" (.sc (.int ((acc + c.nfunctions : Nat) : Int))))
      (acc + c.nfunctions) (by simp [h1]) (by simp) (fun x hx => hk x (by simp [hx]))
    refine ⟨env', ?_, ?_⟩
    · simp only [List.map, forLoop, hstep]; exact e1
    · rw [e2]; simp [calcNbf, hc, Nat.add_assoc]

theorem mem_ids_of_find (cs : List Center) (k : Nat) (c : Center) (h : findCenter cs k = some c) : k ∈ cs.map (·.id) := by
  unfold findCenter at h
  have h1 := List.mem_of_find?_eq_some h
  have h2 := List.find?_some h
  simp at h2
  exact List.mem_map.mpr ⟨c, h1, h2⟩

theorem calcNbfRaw_eq (cs : List Center) (am : List Nat) (hk : ∀ a ∈ am, (findCenter cs a).isSome) :
    calcNbfRaw (encAtomMap am) (encCenters cs) = .ok (.sc (.int (calcNbf cs am : Nat))) := by
  unfold calcNbfRaw
  rw [nbf_body_shape]
  obtain ⟨env1, K1, h1, h2, h3⟩ := countLoop cs noVals (cs.map (·.id))
    (((Env.empty.set "atom_map" (encAtomMap am)).set "center_data" (encCenters cs)).set "center_count" (.dict [] (fun _ => none)))
    [] (fun _ => none) (by simp)
  have hcc : ∀ k, (fun k => if k ∈ cs.map (·.id) then
            (match findCenter cs k with | some c => some (Sc.int (c.nfunctions : Nat) : Sc Nat BObj) | none => none) else none) k
        = (findCenter cs k).map (fun c => Sc.int (c.nfunctions : Nat)) := by
    intro k
    dsimp only
    cases hf : findCenter cs k with
    | none => simp
    | some c => have := mem_ids_of_find cs k c hf; simp at this; simp [this]
  obtain ⟨env2, e1, e2⟩ := sumLoop cs noVals K1 _ hcc am (env1.set "ret" (.sc (.int 0))) 0 (by simp [h2]) (by simp) hk
  have hcg : cget cs = fun i => (findCenter cs i).map (fun c => Sc.atom (BObj.center c)) := rfl
  rw [hcg] at h1
  simp only [encAtomMap, encCenters] at h1 h3 e1
  have ha : env1 "atom_map" = some (.list (am.map Sc.key)) := by rw [h3 _ (by decide) (by decide) (by decide)]; simp
  simp [nbfShape, encCenters, encAtomMap, h1, ha, e1, e2]

theorem binV_sub_list_list {κ α : Type} [DecidableEq κ] (d : Dom κ α) (x y : List (Sc κ α)) :
    binV d .sub (.list x) (.list y) = .ok (.list (x.filter (fun s => !(y.any (fun t => scEq s t == some true))))) := rfl

theorem known_iff (cs : List Center) (a : Nat) :
    (dictKeys (cs.map (·.id)) (fun i => (findCenter cs i).map (fun c => (Sc.atom (BObj.center c) : Sc Nat BObj)))).any
      (fun i => decide (a = i)) = (findCenter cs a).isSome := by
  cases hf : findCenter cs a with
  | none =>
    simp only [Option.isSome_none, List.any_eq_false, dictKeys, List.mem_filter]
    rintro x ⟨_, hx⟩
    simp only [decide_eq_true_eq]
    intro hax; subst hax; simp [hf] at hx
  | some c =>
    have := mem_ids_of_find cs a c hf
    simp only [Option.isSome_some, List.any_eq_true, dictKeys, List.mem_filter]
    exact ⟨a, ⟨this, by simp [hf]⟩, by simp⟩

theorem missing_eq (cs : List Center) (am : List Nat) :
    (am.map (Sc.key : Nat → Sc Nat BObj)).filter (fun s => !(((dictKeys (cs.map (·.id))
        (fun i => (findCenter cs i).map (fun c => (Sc.atom (BObj.center c) : Sc Nat BObj)))).map Sc.key).any
          (fun t => scEq s t == some true)))
      = (am.filter (fun a => (findCenter cs a).isNone)).map Sc.key := by
  rw [List.filter_map]
  congr 1
  apply List.filter_congr
  intro a _
  simp only [Function.comp, List.any_map]
  have : ((fun t => scEq (Sc.key a : Sc Nat BObj) t == some true) ∘ Sc.key) = (fun i => decide (a = i)) := by
    funext i; simp [scEq, Function.comp]
  rw [this, known_iff]
  cases findCenter cs a <;> rfl

theorem missing_nil_iff (cs : List Center) (am : List Nat) :
    am.filter (fun a => (findCenter cs a).isNone) = [] ↔ am.all (fun a => (findCenter cs a).isSome) = true := by
  simp [List.filter_eq_nil_iff, Option.isSome_iff_ne_none]

theorem checkAtomMapRaw_eq (cdOk : Bool) (b : BasisIn) :
    checkAtomMapRaw cdOk b =
      if cdOk && !(b.atomMap.all (fun a => (findCenter b.centers a).isSome)) then .error (.raise "ValueError")
      else .ok (encAtomMap b.atomMap) := by
  cases cdOk
  · simp [checkAtomMapRaw, Gen.checkAtomMap, basisVals, encAtomMap]
  · simp only [checkAtomMapRaw, Gen.checkAtomMap, encAtomMap]
    -- the code branches on `missing = sv - values["center_data"].keys()` being empty
    cases hl : b.atomMap.filter (fun a => (findCenter b.centers a).isNone) with
    | nil =>
      have h := (missing_nil_iff _ _).mp hl
      simp [basisVals, encCenters, binV_sub_list_list, missing_eq, -List.any_map, -scEq, -List.all_eq_true, hl, h]
    | cons x xs =>
      have h : ¬ b.atomMap.all (fun a => (findCenter b.centers a).isSome) = true :=
        fun h => by rw [(missing_nil_iff _ _).mpr h] at hl; cases hl
      simp [basisVals, encCenters, binV_sub_list_list, missing_eq, -List.any_map, -scEq, -List.all_eq_true, hl, h]

theorem checkNbfRaw_skip (cdOk amOk : Bool) (b : BasisIn) (h : (cdOk && amOk) = false) :
    checkNbfRaw cdOk amOk b = .ok (encNbf b.nbf) := by
  cases cdOk <;> cases amOk <;> simp at h <;> simp [checkNbfRaw, Gen.checkNbf, basisVals]

theorem checkNbfRaw_eq (b : BasisIn) (hk : ∀ a ∈ b.atomMap, (findCenter b.centers a).isSome) :
    checkNbfRaw true true b =
      match b.nbf with
      | none => .ok (.sc (.int (calcNbf b.centers b.atomMap : Nat)))
      | some v => if v = calcNbf b.centers b.atomMap then .ok (.sc (.int (v : Nat))) else .error (.raise "ValidationError") := by
  have hc := calcNbfRaw_eq b.centers b.atomMap hk
  cases hn : b.nbf with
  | none => simp [checkNbfRaw, Gen.checkNbf, basisVals, basisDom, extCalc, hc, hn, encNbf]
  | some v =>
    by_cases hv : v = calcNbf b.centers b.atomMap
    · simp [checkNbfRaw, Gen.checkNbf, basisVals, basisDom, extCalc, hc, hn, encNbf, hv]
    · have hb : ((v : Int) == ((calcNbf b.centers b.atomMap : Nat) : Int)) = false := by
        rw [beq_eq_false_iff_ne]; omega
      simp [checkNbfRaw, Gen.checkNbf, basisVals, basisDom, extCalc, hc, hn, encNbf, hv, hb]

/-- `BasisSet(**b)` with the source-derived `_check_atom_map` / `_check_nbf` / `_calculate_nbf` / `nfunctions` = hand model.
Full strength as an equation between the two functions, for every input.
-- FULL: (of the tie, not of this statement) `validateBasisSrc` still takes from the hand model the shell validators
-- `_check_coefficient_length` / `_check_general_contraction_or_fused` (`centerLocs`, `Shell.ok`) and what pydantic does between the
-- validators (a failed field is absent from `values`, ValueError is collected, qcelemental's ValidationError escapes); those stay
-- tied by differential correspondence only. -/
theorem validateBasisSrc_eq (b : BasisIn) : validateBasisSrc b = some (validateBasis b) := by
  unfold validateBasisSrc validateBasis
  cases hl : flatten (b.centers.map centerLocs) with
  | cons x xs =>
    simp [checkAtomMapRaw_eq, checkNbfRaw_skip]
    cases hn : b.nbf <;> simp [encNbf]
  | nil =>
    by_cases h : b.atomMap.all (fun a => (findCenter b.centers a).isSome)
    · have hk : ∀ a ∈ b.atomMap, (findCenter b.centers a).isSome := List.all_eq_true.mp h
      simp [checkAtomMapRaw_eq, h, checkNbfRaw_eq b hk, -List.all_eq_true]
      cases hn : b.nbf with
      | none => simp
      | some v =>
        by_cases hv : v = calcNbf b.centers b.atomMap
        · simp [hv]
          obtain ⟨c, a, n⟩ := b
          simp_all
        · simp [hv]
    · simp [checkAtomMapRaw_eq, h, checkNbfRaw_skip, -List.all_eq_true]
      cases hn : b.nbf <;> simp [encNbf]

/-! ## the source-derived functions on the model's own state types -/

/-- `ElectronShell.nfunctions` as translated = the model's count (spherical 2L+1, cartesian (L+1)(L+2)/2, summed over a fused shell) -/
theorem nfunctionsSrc_eq (s : Shell) : nfunctionsSrc s = some s.nfunctions := by
  simp [nfunctionsSrc, nfunctionsRaw_eq]

/-- `_calculate_nbf` as translated = `calcNbf`, whenever every atom names a centre (which `_check_atom_map` has established) -/
theorem calcNbfSrc_eq (cs : List Center) (am : List Nat) (hk : ∀ a ∈ am, (findCenter cs a).isSome) :
    calcNbfSrc cs am = some (calcNbf cs am) := by
  simp [calcNbfSrc, calcNbfRaw_eq cs am hk]

example : calcNbfSrc [⟨1, [⟨.spherical, [0, 1], 1, [1, 1]⟩]⟩, ⟨2, [⟨.cartesian, [2], 1, [1]⟩]⟩] [1, 2, 2] = some 16 := by
  decide   -- test (hypothesis of calcNbfSrc_eq satisfiable: both atoms name centres)

theorem wfnFieldSrc_eq (p : WfnProto) (w : Option (Wfn BasisIn)) : wfnFieldSrc p w = some (wfnField p w) := by
  cases w with
  | none => rfl
  | some w =>
    simp only [wfnFieldSrc, wfnField, wfnProtocolSrc_eq]
    cases wfnProtocol p w with
    | error e => rfl
    | ok o =>
      cases o with
      | none => rfl
      | some w1 =>
        dsimp only
        cases validateWfn w1 with
        | ok w2 => rfl
        | error e => cases e <;> rfl

/-- AtomicResult construction with the three protocol validators taken from the source = the hand model (file names of a
dict are distinct).
-- FULL: (of the tie) `atomicResultSrc` still takes from the hand model the reshape validators (tied through the tables of
-- Props/C20Spec.lean), `validateWfn`, and pydantic's field order / error collection; only dict-valued `wavefunction` inputs are
-- modelled (the `isinstance(value, WavefunctionProperties)` branch of the source is translated but never entered by the encodings). -/
theorem atomicResultSrc_eq {γ σ : Type} (i : ARIn γ σ) (hn : ((i.native.getD []).map (·.1)).Nodup) :
    atomicResultSrc i = some (atomicResult i) := by
  unfold atomicResultSrc atomicResult
  simp only [wfnFieldSrc_eq, stdoutSrc_eq, nativeFieldSrc, nativeSrc_eq _ _ hn, nativeField]
  cases wfnField i.wp i.wfn with
  | error e => cases e <;> rfl
  | ok w => rfl

example : ((((some [(0, some 1), (3, some 2)] : Option (Files Nat))).getD []).map (·.1)).Nodup := by decide  -- non-vacuity

/-! ## the headline retention theorems, over the SOURCE-DERIVED functions -/

/-- protocol `all` (source-derived): restricted -> exactly the non-beta entries unchanged; unrestricted -> everything unchanged -/
theorem src_wfn_all_keeps {β : Type} (w : Wfn β) (r : Bool) (hr : w.restricted = some r) :
    ∃ w', wfnProtocolSrc .all w = some (.ok (some w')) ∧ w'.restricted = some r ∧ w'.basis = w.basis ∧
      (∀ pk ak, w'.ptr pk = some ak ↔ (¬ (r = true ∧ pk.spin = .b) ∧ w.ptr pk = some ak)) ∧
      (∀ ak v, w'.arr ak = some v ↔ (¬ (r = true ∧ ak.spin = .b) ∧ w.arr ak = some v)) ∧
      (r = false → w' = w) := by
  obtain ⟨w', h, rest⟩ := wfn_all_keeps w r hr
  exact ⟨w', by rw [wfnProtocolSrc_eq, h], rest⟩

/-- subset protocols (source-derived): kept pointers = selected, supplied, non-beta-if-restricted pointers; kept arrays =
exactly their targets, unchanged; basis and restricted kept; nothing else -/
theorem src_wfn_keeps_exactly {β : Type} (p : WfnProto) (keep : List PtrKey) (hk : keepList p = some keep)
    (w w' : Wfn β) (r : Bool) (hr : w.restricted = some r) (h : wfnProtocolSrc p w = some (.ok (some w'))) :
    w'.restricted = some r ∧ w'.basis = w.basis ∧
    (∀ pk ak, w'.ptr pk = some ak ↔ (Selected keep r pk ∧ w.ptr pk = some ak)) ∧
    (∀ ak v, w'.arr ak = some v ↔ ((∃ pk, Selected keep r pk ∧ w.ptr pk = some ak) ∧ w.arr ak = some v)) := by
  rw [wfnProtocolSrc_eq] at h
  exact wfn_keeps_exactly p keep hk w w' r hr (Option.some.inj h)

example : ∃ w', wfnProtocolSrc .orbitals_and_eigenvalues
    ({ restricted := some true, basis := some 0, arr := fun k => if k = ⟨.scf_orbitals, .a⟩ then some [2, 2] else none,
       ptr := fun k => if k = ⟨.orbitals, .a⟩ then some ⟨.scf_orbitals, .a⟩ else none } : Wfn Nat) = some (.ok (some w')) := by
  rw [wfnProtocolSrc_eq]; exact ⟨_, rfl⟩   -- non-vacuity: an accepted subset-protocol case exists

/-- protocol `none` (source-derived) keeps no wavefunction -/
theorem src_wfn_none_drops {β : Type} (w : Wfn β) (r : Bool) (hr : w.restricted = some r) :
    wfnProtocolSrc .none w = some (.ok none) := by
  rw [wfnProtocolSrc_eq, wfn_none_drops w r hr]

/-- the source-derived filter rejects (validation error at `wavefunction`, never stuck, never another exception) exactly
when a selected pointer names an array that is not (any longer) supplied -/
theorem src_wfn_rejects_iff_dangling {β : Type} (p : WfnProto) (w : Wfn β) (r : Bool) (hr : w.restricted = some r) :
    (∀ e, wfnProtocolSrc p w = some (.error e) → e = .validation ["wavefunction"]) ∧
    ((∃ e, wfnProtocolSrc p w = some (.error e)) ↔
      ∃ keep, keepList p = some keep ∧ ∃ pk ak, Selected keep r pk ∧ w.ptr pk = some ak ∧
        ¬ (∃ v, ¬ (r = true ∧ ak.spin = .b) ∧ w.arr ak = some v)) := by
  obtain ⟨h1, h2⟩ := wfn_rejects_iff_dangling p w r hr
  rw [wfnProtocolSrc_eq]
  refine ⟨fun e he => h1 e (Option.some.inj he), ?_⟩
  rw [← h2]
  constructor
  · rintro ⟨e, he⟩; exact ⟨e, Option.some.inj he⟩
  · rintro ⟨e, he⟩; exact ⟨e, by rw [he]⟩

/-- applying the source-derived wavefunction protocol to its own output returns it unchanged -/
theorem src_wfn_idempotent {β : Type} (p : WfnProto) (w w' : Wfn β) (h : wfnProtocolSrc p w = some (.ok (some w'))) :
    wfnProtocolSrc p w' = some (.ok (some w')) := by
  rw [wfnProtocolSrc_eq] at h ⊢
  rw [(wfn_idempotent p w).1 w' (Option.some.inj h)]

/-- stdout (source-derived): kept unchanged iff requested; idempotent -/
theorem src_stdout_keeps {σ : Type} (v : Option σ) :
    stdoutSrc true v = some v ∧ stdoutSrc false v = some none ∧
    (∀ keep, (stdoutSrc keep v).bind (stdoutSrc keep) = stdoutSrc keep v) := by
  refine ⟨by rw [stdoutSrc_eq]; rfl, by rw [stdoutSrc_eq]; rfl, ?_⟩
  intro keep
  simp only [stdoutSrc_eq, Option.bind_some]
  rw [(stdout_keeps keep v).2.2]

/-- native files (source-derived; distinct file names): all -> unchanged, none -> empty, input -> only `input` with its
supplied content -/
theorem src_native_keeps {γ : Type} (f : Files γ) (hn : (f.map (·.1)).Nodup) :
    nativeSrc .all f = some f ∧ nativeSrc .none f = some [] ∧ nativeSrc .input f = some [(0, filesGet f 0)] := by
  refine ⟨?_, ?_, ?_⟩ <;> rw [nativeSrc_eq _ _ hn] <;> rfl

/-- trajectory (source-derived): all -> everything, none -> nothing, final -> the last step (nothing if empty),
initial_and_final -> first and last (<= 2 steps unchanged); never stuck, never an exception (no IndexError) -/
theorem src_trajectory_selects {τ : Type} (x : τ) (l : List τ) :
    (∀ v : List τ, trajectorySrc .all v = some v ∧ trajectorySrc .none v = some []) ∧
    trajectorySrc .final ([] : List τ) = some [] ∧
    trajectorySrc .initial_and_final ([] : List τ) = some [] ∧
    trajectorySrc .final (x :: l) = some [(x :: l).getLast (by simp)] ∧
    trajectorySrc .initial_and_final [x] = some [x] ∧
    (l ≠ [] → trajectorySrc .initial_and_final (x :: l) = some [x, (x :: l).getLast (by simp)]) := by
  obtain ⟨h1, h2, h3, h4, h5, h6⟩ := trajectory_selects x l
  simp only [trajectorySrc_eq]
  refine ⟨fun v => ⟨by rw [(h1 v).1], by rw [(h1 v).2]⟩, by rw [h2], by rw [h3], by rw [h4], by rw [h5], fun hl => by rw [h6 hl]⟩

example : ([2, 3] : List Nat) ≠ [] := by decide   -- non-vacuity of the last clause

/-- nbf (source-derived BasisSet validators): an accepted basis carries nbf = the count implied by its shells; on a
well-formed basis another supplied nbf is rejected, an absent one filled in -/
theorem src_nbf_consistent (b : BasisIn) :
    (∀ b', validateBasisSrc b = some (.ok b') →
        b'.nbf = some (calcNbf b.centers b.atomMap) ∧ b'.centers = b.centers ∧ b'.atomMap = b.atomMap ∧
        (b.nbf = none ∨ b.nbf = some (calcNbf b.centers b.atomMap))) ∧
    (b.wellFormed → ∀ v, b.nbf = some v → v ≠ calcNbf b.centers b.atomMap → validateBasisSrc b = some (.error .nbfMismatch)) ∧
    (b.wellFormed → b.nbf = none → ∃ b', validateBasisSrc b = some (.ok b')) := by
  obtain ⟨h1, h2, h3⟩ := nbf_consistent b
  simp only [validateBasisSrc_eq]
  refine ⟨fun b' h => h1 b' (Option.some.inj h), fun hw v hn hv => by rw [h2 hw v hn hv], fun hw hn => ?_⟩
  obtain ⟨b', hb⟩ := h3 hw hn
  exact ⟨b', by rw [hb]⟩


/-! ### the element-carrying model (Model/ProtocolsElems.lean) as such a dict -/

def wfnDictE {π β : Type} (w : WfnE π β) : WDict (WPayE π β) :=
  { restricted := w.restricted, basis := w.basis.map .basis, arr := fun k => (w.arr k).map .arr, ptr := w.ptr }

theorem wfnGetE_eq {π β : Type} (w : WfnE π β) : wfnGetE w = (wfnDictE w).get := by
  funext k
  cases k <;> simp [wfnGetE, WDict.get, wfnDictE] <;> rfl

theorem decWfnE_get {π β : Type} (w : WfnE π β) : decWfnE (wfnDictE w).get = w := by
  obtain ⟨r, b, a, p⟩ := w
  simp only [decWfnE, WDict.get, wfnDictE]
  congr 1
  · cases r <;> rfl
  · cases b <;> rfl
  · funext k; cases a k <;> rfl
  · funext k; cases p k <;> rfl

theorem wfnDictE_dropBeta {π β : Type} (w : WfnE π β) : wfnDictE (dropBetaE w) = (wfnDictE w).dropBeta := by
  unfold wfnDictE dropBetaE WDict.dropBeta
  congr 1
  funext k
  dsimp only
  split <;> rfl

theorem wfnDictE_keepLoop {π β : Type} (w : WfnE π β) : ∀ (keep : List PtrKey) (ret : WfnE π β),
    (wfnDictE w).keepLoop keep (wfnDictE ret) = (keepLoopE w keep ret).map wfnDictE
  | [], _ => rfl
  | rk :: rest, ret => by
    have hc : ∀ t v, (wfnDictE ret).copy rk t (.arr v) = wfnDictE (setArrE (setPtrE ret rk t) t v) := by
      intro t v
      unfold wfnDictE setArrE setPtrE WDict.copy
      congr 1
      funext k
      dsimp only
      split <;> rfl
    unfold keepLoopE WDict.keepLoop
    rw [show (wfnDictE w).ptr rk = w.ptr rk from rfl]
    cases w.ptr rk with
    | none => exact wfnDictE_keepLoop w rest ret
    | some t =>
      simp only [show (wfnDictE w).arr t = (w.arr t).map WPayE.arr from rfl]
      cases w.arr t with
      | none => rfl
      | some v => simp only [Option.map_some, hc]; exact wfnDictE_keepLoop w rest _

theorem wfnDictE_protocol {π β : Type} (p : WfnProto) (w : WfnE π β) :
    (wfnDictE w).protocol p = (wfnProtocolE p w).map (Option.map wfnDictE) := by
  unfold WDict.protocol wfnProtocolE
  rw [show (wfnDictE w).restricted = w.restricted from rfl]
  cases w.restricted with
  | none => rfl
  | some r =>
    have hw : (if r then (wfnDictE w).dropBeta else wfnDictE w) = wfnDictE (if r then dropBetaE w else w) := by
      cases r
      · rfl
      · exact (wfnDictE_dropBeta w).symm
    simp only [hw]
    generalize (if r then dropBetaE w else w) = w1
    have hk : ∀ keep, (wfnDictE w1).keepLoop keep ⟨some r, (wfnDictE w1).basis, fun _ => none, fun _ => none⟩
        = (keepLoopE w1 keep ⟨some r, w1.basis, fun _ => none, fun _ => none⟩).map wfnDictE :=
      fun keep => wfnDictE_keepLoop w1 keep ⟨some r, w1.basis, fun _ => none, fun _ => none⟩
    cases p <;> simp only [WDict.post, keepList] <;> try rfl
    all_goals rw [hk]; cases keepLoopE w1 _ _ <;> rfl

theorem wfnProtocolESrc_eq {π β : Type} (p : WfnProto) (w : WfnE π β) : wfnProtocolESrc p w = some (wfnProtocolE p w) := by
  rw [← WDict.src_eq wfnDictE decWfnE decWfnE_get p w _ (wfnDictE_protocol p w), ← wfnGetE_eq]
  unfold wfnProtocolESrc wfnRawE run wfnDomE WDict.dom
  generalize exec (objDom WKey.ofName WKey.name) _ Gen.wavefunctionProtocol.body _ = o
  rcases o with e | e | (s | l | ⟨k, g⟩) | (c | _) <;> try rfl
  · cases s <;> rfl
  · show (if _ then _ else _) = Option.map _ (if _ then _ else _)
    split <;> rfl

@[simp] theorem wfnDom_keyOfE {π β : Type} : (wfnDomE π β).keyOf = WKey.ofName := rfl
@[simp] theorem wfnDom_nameOfE {π β : Type} : (wfnDomE π β).nameOf = WKey.name := rfl
@[simp] theorem wfnDom_attrE {π β : Type} (pr : Protos) (a : String) : (wfnDomE π β).attr (.protocols pr) a = protoAttr pr a := rfl
@[simp] theorem wfnDom_isinstE {π β : Type} (o : Obj (WPayE π β)) (c : String) : (wfnDomE π β).isinst o c = false := rfl



/-- headline, over the source-derived element-carrying function: whatever array the wavefunction protocol keeps under a key
is exactly (shape and row-major elements) the array supplied under that key -/
theorem src_wfnE_retains {π β : Type} (p : WfnProto) (w w' : WfnE π β)
    (h : wfnProtocolESrc p w = some (.ok (some w'))) : ∀ k a, w'.arr k = some a → w.arr k = some a := by
  rw [wfnProtocolESrc_eq] at h
  exact wfnProtocolE_retains p w w' (Option.some.inj h)

example : ∃ w', wfnProtocolESrc .return_results
    ({ restricted := some false, basis := some 0, arr := fun k => if k = ⟨.scf_fock, .b⟩ then some ⟨[2, 2], "ab"⟩ else none,
       ptr := fun k => if k = ⟨.fock, .b⟩ then some ⟨.scf_fock, .b⟩ else none } : WfnE String Nat) = some (.ok (some w')) := by
  rw [wfnProtocolESrc_eq]; exact ⟨_, rfl⟩   -- non-vacuity

end QcelVerif.Protocols.Src
