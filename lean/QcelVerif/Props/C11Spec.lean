import QcelVerif.Model.HashConcrete
import QcelVerif.Gen.HashSpec
/-!
# C11 — the constants and the field list the hand model hard-codes are those of the source

`Gen/HashSpec.lean` is generated by `harness/c11.py:gen_hash_spec` from `/repo/qcelemental/models/molecule.py` (read by
`ast`): the `*_NOISE` constants, `hash_fields` with its order, which constant `get_hash` hands to `float_prep` for
which field, and base / exponent offset of `float_prep`'s zero band `5 ** (-(around + 1))`.

Two kinds of statements (by `rfl`, `decide`, or `simp` / `rw` with the definitions):
  (a) the model follows its own tables: `canon`, `preimage`, `zeroBand` of `Model/Hash.lean` are the
      table-driven `canonBy` / `preimageBy` / `zeroBandBy` of `Model/HashConcrete.lean` at the model's tables;
  (b) the model's tables are EQUAL to the generated ones.
Together: `canon`, `preimage`, `zeroBand` are the table-driven functions at the tables read from the source
(`*_matches_source`), so a change of a constant, of the field list or its order, of the field → constant map or of
the zero-band expression in the source makes a proof of this file fail.
-/
namespace QcelVerif.Hash

/-! ## (b) the model's tables are the source's -/

theorem noise_constants_match_source :
    GEOMETRY_NOISE = Gen.GEOMETRY_NOISE ∧ MASS_NOISE = Gen.MASS_NOISE ∧ CHARGE_NOISE = Gen.CHARGE_NOISE := by
  decide

/-- field list, its order, and the decimals each field is rounded to -/
theorem fieldSpec_matches_source : fieldSpec = Gen.fieldSpec := by decide

/-- which named constant `get_hash` uses for which field -/
theorem fieldConst_matches_source : fieldConst = Gen.fieldConst := by decide

theorem zeroBand_constants_match_source :
    zeroBandBase = Gen.zeroBandBase ∧ zeroBandExpOffset = Gen.zeroBandExpOffset := by
  decide

/-- the named constants of `fieldConst` resolve to the decimals of `fieldSpec` (test of internal consistency) -/
example : fieldConst.map (fun p => (p.1, decimalsIn fieldSpec p.1))
    = [("masses", Gen.MASS_NOISE), ("molecular_charge", Gen.CHARGE_NOISE), ("geometry", Gen.GEOMETRY_NOISE),
       ("fragment_charges", Gen.CHARGE_NOISE)] := by decide

/-! ## (a) the model follows its tables -/

/-- `preimage` concatenates the fields in `fieldSpec` order, printing with the decimals of `fieldSpec` -/
theorem preimage_follows_fieldSpec {D} (P : Params D) (c : Canon) : preimage P c = preimageBy P fieldSpec c := by
  simp [preimage, preimageBy, fieldSpec, renderField]

/-- `canon` rounds each field to the decimals of `fieldSpec` -/
theorem canon_follows_fieldSpec {D} (P : Params D) (m : Mol) : canon P m = canonBy P fieldSpec m := rfl

theorem zeroBand_follows_constants (k : Nat) (r : Rd) : zeroBand k r = zeroBandBy zeroBandBase zeroBandExpOffset k r := rfl

/-! ## together -/

/-- **`preimage` serialises exactly the source's `hash_fields`, in the source's order** -/
theorem preimage_matches_source {D} (P : Params D) (c : Canon) : preimage P c = preimageBy P Gen.fieldSpec c := by
  rw [preimage_follows_fieldSpec, fieldSpec_matches_source]

/-- **`canon` rounds each field to the decimals `get_hash` names in the source** -/
theorem canon_matches_source {D} (P : Params D) (m : Mol) : canon P m = canonBy P Gen.fieldSpec m := by
  rw [canon_follows_fieldSpec, fieldSpec_matches_source]

/-- **the model's zero band is the source's `B ** (-(around + O))`**: `|mag / 10^k| < 1 / B^(k+O)` -/
theorem zeroBand_matches_source (k : Nat) (r : Rd) :
    zeroBand k r = decide (r.mag * Gen.zeroBandBase ^ (k + Gen.zeroBandExpOffset) < 10 ^ k) := by
  rw [zeroBand_follows_constants, zeroBand_constants_match_source.1, zeroBand_constants_match_source.2]
  rfl

/-- test: a field outside the model's ten would be printed as a marker, never silently dropped -/
example {D} (P : Params D) (c : Canon) : renderField P c ("atom_labels", none) = "<field outside the model>".toList := by
  simp [renderField]

end QcelVerif.Hash
