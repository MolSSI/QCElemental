import QcelVerif.Props.C05Src
/-!
# C05 — a fully specified assignment is never altered, and is accepted exactly when it obeys the rules

`vfc_accepts_valid_full` gives one direction ("any fully specified assignment that obeys these rules is accepted as
is").  Here the converse and the sharpening the caller relies on ("keeps every value the caller supplied":
`vfc_full_returns_input`, Props/C05.lean, where C07 can reach it) are put together for the fully specified case
(`zero_ghost_fragments = False`), for any fragment count and any electron counts: a full specification is returned
iff it obeys `Rules`, and otherwise (if well-formed) refused with `ValidationError`, never changed.  The same is stated
for `vfcSrc`, the procedure regenerated from `chgmult.py`.
-/
namespace QcelVerif.ChgMult

/-- **Accepted exactly when it obeys the rules.** -/
theorem vfc_full_iff (frags : List (List Int)) (o : Out) :
    vfc (fullSpec frags o false) = .ok o ↔ Rules (fullSpec frags o false) o :=
  ⟨fun h => vfc_sound_plain _ _ rfl h, vfc_accepts_valid_full frags o⟩

/-- **A well-formed full specification that breaks a rule is refused with `ValidationError`** —
it is neither returned nor repaired into something else. -/
theorem vfc_full_rejects_invalid (frags : List (List Int)) (o : Out)
    (hl : o.fc.length = frags.length ∧ o.fm.length = frags.length)
    (hR : ¬ Rules (fullSpec frags o false) o) : vfc (fullSpec frags o false) = .error .validation := by
  have hw : wellFormed (fullSpec frags o false) = true := by
    simp [wellFormed, fullSpec, hl.1, hl.2]
  rcases vfc_error_is_validation _ hw with ⟨o', ho', _⟩ | he
  · have : o' = o := vfc_full_returns_input frags o o' ho'
    subst this
    exact absurd ((vfc_full_iff frags o').1 ho') hR
  · exact he

/-! ### the same of the procedure regenerated from `chgmult.py` -/

theorem vfc_full_returns_input_src (frags : List (List Int)) (o o' : Out)
    (h : vfcSrc (fullSpec frags o false) = .ok o') : o' = o := by
  rw [vfcSrc_eq_vfc] at h; exact vfc_full_returns_input frags o o' h

theorem vfc_full_iff_src (frags : List (List Int)) (o : Out) :
    vfcSrc (fullSpec frags o false) = .ok o ↔ Rules (fullSpec frags o false) o := by
  rw [vfcSrc_eq_vfc]; exact vfc_full_iff frags o

theorem vfc_full_rejects_invalid_src (frags : List (List Int)) (o : Out)
    (hl : o.fc.length = frags.length ∧ o.fm.length = frags.length)
    (hR : ¬ Rules (fullSpec frags o false) o) : vfcSrc (fullSpec frags o false) = .error .validation := by
  rw [vfcSrc_eq_vfc]; exact vfc_full_rejects_invalid frags o hl hR

/-! ### tests (non-vacuity): acceptance and refusal on concrete full specifications, by `decide` -/

/-- water-like 10-electron fragment, neutral singlet: accepted as is -/
example : vfc (fullSpec [[8, 1, 1]] ⟨0, [0], 1, [1]⟩ false) = .ok ⟨0, [0], 1, [1]⟩ := by decide
/-- same with a doublet: wrong parity, refused -/
example : vfc (fullSpec [[8, 1, 1]] ⟨0, [0], 2, [2]⟩ false) = .error .validation := by decide
/-- total charge differing from the fragment sum: refused, not repaired -/
example : vfc (fullSpec [[1], [1]] ⟨1, [0, 0], 2, [2, 2]⟩ false) = .error .validation := by decide

end QcelVerif.ChgMult
