import QcelVerif.Model.PTShipped
import QcelVerif.Lemmas.PeriodicSrc
import QcelVerif.Lemmas.Msort
/-! C01 (source-derived dictionaries): the one table-wide kernel evaluation they need. -/
namespace QcelVerif.PT.Src
open QcelVerif

/-- **The generated search tree has no key of its own**: its keys, in order, are the nuclide labels of the
data file's `EA` array, sorted (so every key of the tree is the label of some row). -/
theorem tree_keys_are_row_keys :
    msort (Gen.PT.nuclides.map (·.1)) = Gen.PT.tree.toList.map (·.1) := by decide +kernel

end QcelVerif.PT.Src
