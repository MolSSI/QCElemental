import QcelVerif.Model.RadiiFactor
import QcelVerif.Model.RadiiShipped
import QcelVerif.Props.C17
import QcelVerif.Props.C17Units
import QcelVerif.Props.C03
/-!
# C17 — the unit clauses with the factor DERIVED from the CODATA set

(the link to C02's `bohr2angstroms` is in Props/C17FactorC02.lean; the Datum clause in Props/C17ToUnits.lean)

`Props/C17.lean` states the unit clauses for EVERY factor (`value_is_factor_times_native`, `default_value`)
and takes the concrete factor from the implementation.  Here the factor is C03's SI model
(`Units.conv` on the unit expressions of bohr / angstrom / pm / nm / m) over the CODATA table regenerated
from `/repo`, and the model's double is `rnd64` of that exact rational.

What REMAINS a checked parameter (not modelled, not proved): pint's float evaluation of the factor.
The implementation's double `f` is compared on every run with the model's exact rational `q`
(`withinTol f q`: `|f − q| ≤ 2^-50·|q|`, i.e. 4 units of the machine epsilon 2^-52); what follows from that
tolerance for the returned radius is `impl_factor_value_accuracy`.  Where `f = rnd64 q` (true of ångström→bohr,
pm, m and the identity on this platform) the implementation's result must equal `getFull` exactly
(`getFull_eq_of_factor_eq`).
-/
namespace QcelVerif.Radii
open QcelVerif QcelVerif.PStr QcelVerif.PT

/-! ## the exact factors -/

/-- SI magnitude (in metres) of the five units under the CODATA set `cd` -/
def lmag (cd : Units.Codata) : LUnit → Rat
  | .bohr => cd.a0
  | .angstrom => 1 / 10000000000
  | .pm => 1 / 1000000000000
  | .nm => 1 / 1000000000
  | .m => 1

theorem mag_expr (cd : Units.Codata) (u : LUnit) : Units.mag cd u.expr = lmag cd u := by
  cases u <;> simp [LUnit.expr, Units.mag, Units.baseMag, lmag, Units.ten, Units.zpw_eq] <;> norm_num

theorem dim_expr (u : LUnit) : Units.dim u.expr = Units.Dim.length := by
  cases u <;> rfl

/-- **The factor of every ordered pair of the quantifier's units is the ratio of SI magnitudes**, an exact
rational, and never an error (all five are lengths). -/
theorem factor_is_si_ratio (cd : Units.Codata) (s d : LUnit) :
    factorQ cd s d = .ok (lmag cd s / lmag cd d) := by
  unfold factorQ Units.conv
  rw [dim_expr, dim_expr, mag_expr, mag_expr]
  simp

theorem ofName_name (u : LUnit) : LUnit.ofName u.name = some u := by
  cases u <;> decide

theorem convModel_eq (cd : Units.Codata) (s d : LUnit) :
    convModel cd s.name d.name = some (rnd64 (lmag cd s / lmag cd d)) := by
  unfold convModel
  simp only [ofName_name, factor_is_si_ratio]

theorem rnd64_one : rnd64 1 = 1 := by decide +kernel

theorem lmag_ne_zero (cd : Units.Codata) (ha0 : cd.a0 ≠ 0) (u : LUnit) : lmag cd u ≠ 0 := by
  cases u <;> simp [lmag, ha0]

/-! ## the default unit -/

theorem angstrom_bohr_ratio (cd : Units.Codata) :
    lmag cd .angstrom / lmag cd .bohr = 1 / (cd.a0 * 10000000000) := by
  simp only [lmag]
  rw [div_div, mul_comm]

/-- **The default result is the tabulated ångström value times the context's ångström→bohr factor**, with
that factor derived: `conversion_factor("angstrom", "bohr")` of the SI model is `1 / (a0·10^10)`, `a0` the
CODATA set's "bohr radius" (in metres; `a0·10^10` is the context's `bohr2angstroms`, see
`Props/C17FactorC02.lean`), the model's double is the correctly rounded value of that rational, and the
returned radius is `fl(that double · float(tabulated decimal))` — for ANY tables and ANY CODATA set. -/
theorem default_is_bohr_full (cd : Units.Codata) (T : Tables) (t : Table) (a : PyVal) (k : Nat) (m : Option Rat)
    (d : Datum) (n : Bool) (c : Nat) (e : Int)
    (hid : identify T t a = some k) (hd : lookupK t k = some d) (hdec : d.data = .dec n c e)
    (hu : d.units = bAngstrom) :
    getFull cd T t a false none m = .ok (.value (fmul (rnd64 (1 / (cd.a0 * 10000000000))) (ofDec n c e))) ∧
    Units.conv cd (LUnit.expr .angstrom) (LUnit.expr .bohr) = .ok (1 / (cd.a0 * 10000000000)) := by
  constructor
  · unfold getFull
    apply default_value T t (convModel cd) a k m d _ n c e hid hd hdec
    rw [hu, ← angstrom_bohr_ratio]
    exact convModel_eq cd .angstrom .bohr
  · have h := factor_is_si_ratio cd .angstrom .bohr
    rw [angstrom_bohr_ratio] at h
    exact h

/-- entry predicate: stored in ångström as a Decimal -/
def angDecOk (d : Datum) : Bool :=
  d.units == bAngstrom && (match d.data with | .dec _ _ _ => true | _ => false)

/-- every stored Datum of both shipped sets is a Decimal in ångström (kernel evaluation over the generated tables) -/
theorem shipped_entries_angstrom_decimal :
    cov.all (fun p => angDecOk p.2) = true ∧ vdw.all (fun p => angDecOk p.2) = true := by
  constructor <;> decide +kernel

/-- **Shipped tables, both sets, every argument that identifies a tabulated entry** (any alias form, any
case, special labels): the default result is `fl(rnd(1/(a0·10^10)) · float(tabulated decimal))`. -/
theorem shipped_default_is_bohr_full (cd : Units.Codata) (t : Table) (ht : t = cov ∨ t = vdw) (a : PyVal) (k : Nat)
    (m : Option Rat) (d : Datum) (hid : identify shipped t a = some k) (hd : lookupK t k = some d) :
    ∃ n c e, d.data = .dec n c e ∧
      getFull cd shipped t a false none m = .ok (.value (fmul (rnd64 (1 / (cd.a0 * 10000000000))) (ofDec n c e))) := by
  have hok : angDecOk d = true := by
    rcases ht with rfl | rfl
    · exact all_of_lookupK shipped_entries_angstrom_decimal.1 hd
    · exact all_of_lookupK shipped_entries_angstrom_decimal.2 hd
  unfold angDecOk at hok
  simp only [Bool.and_eq_true, beq_iff_eq] at hok
  cases hdat : d.data with
  | dec n c e => exact ⟨n, c, e, rfl, (default_is_bohr_full cd shipped t a k m d n c e hid hd hdat hok.1).1⟩
  | flt x => rw [hdat] at hok; exact absurd hok.2 (by simp)
  | arr xs => rw [hdat] at hok; exact absurd hok.2 (by simp)

-- the hypotheses are satisfiable (tests): "HYDROGEN" identifies H, which both sets tabulate; "c_SP3" does not
-- identify anything, "C_sp3" identifies its own covalent entry
example : identify shipped cov (.str [72, 89, 68, 82, 79, 71, 69, 78]) = some (pack [72]) ∧
    (lookupK cov (pack [72])).isSome = true ∧ (lookupK vdw (pack [72])).isSome = true := by decide +kernel
example : identify shipped cov (.str [67, 95, 115, 112, 51]) = some (pack [67, 95, 115, 112, 51]) ∧
    (lookupK cov (pack [67, 95, 115, 112, 51])).isSome = true := by decide +kernel

/-! ## the native unit -/

/-- **Asking for the unit the entry is stored in has factor exactly 1** — the exact rational is 1 and so is
the model's double (`a0 ≠ 0` is needed for bohr→bohr only; it holds of both generated sets,
`Units.codata2014_pos` / `codata2018_pos`). -/
theorem native_unit_exact_full (cd : Units.Codata) (ha0 : cd.a0 ≠ 0) (u : LUnit) :
    factorQ cd u u = .ok 1 ∧ convModel cd u.name u.name = some 1 := by
  have h1 : lmag cd u / lmag cd u = 1 := div_self (lmag_ne_zero cd ha0 u)
  refine ⟨by rw [factor_is_si_ratio, h1], ?_⟩
  rw [convModel_eq, h1, rnd64_one]

/-- … hence the lookup returns `float(tabulated Decimal)` itself, for ANY tables. -/
theorem native_get_full (cd : Units.Codata) (ha0 : cd.a0 ≠ 0) (T : Tables) (t : Table) (a : PyVal) (k : Nat)
    (m : Option Rat) (d : Datum) (u : LUnit) (n : Bool) (c : Nat) (e : Int)
    (hid : identify T t a = some k) (hd : lookupK t k = some d) (hdec : d.data = .dec n c e)
    (hu : d.units = u.name) :
    getFull cd T t a false (some u.name) m = .ok (.value (ofDec n c e)) := by
  unfold getFull getU
  rw [get_of_identify hid]
  apply native_unit_exact_any t _ k m d n c e hd hdec
  simp only [Option.getD_some, hu]
  exact (native_unit_exact_full cd ha0 u).2

example : Units.Gen.codata2014.a0 ≠ 0 ∧ Units.Gen.codata2018.a0 ≠ 0 :=
  ⟨Units.codata2014_pos.a0.ne', Units.codata2018_pos.a0.ne'⟩

/-! ## the other units: exact decimal scales -/

/-- **Other length units scale linearly, exactly**: before rounding, the factors from ångström are the
exact rationals 1 (Å), 100 (pm), 1/10 (nm), 10^-10 (m), 1/(a0·10^10) (bohr); and bohr→Å is `a0·10^10`. -/
theorem units_linear_full (cd : Units.Codata) :
    factorQ cd .angstrom .angstrom = .ok 1 ∧ factorQ cd .angstrom .pm = .ok 100 ∧
    factorQ cd .angstrom .nm = .ok (1 / 10) ∧ factorQ cd .angstrom .m = .ok (1 / 10000000000) ∧
    factorQ cd .angstrom .bohr = .ok (1 / (cd.a0 * 10000000000)) ∧
    factorQ cd .bohr .angstrom = .ok (cd.a0 * 10000000000) := by
  refine ⟨?_, ?_, ?_, ?_, ?_, ?_⟩
  · rw [factor_is_si_ratio]; norm_num [lmag]
  · rw [factor_is_si_ratio]; norm_num [lmag]
  · rw [factor_is_si_ratio]; norm_num [lmag]
  · rw [factor_is_si_ratio]; norm_num [lmag]
  · rw [factor_is_si_ratio, angstrom_bohr_ratio]
  · rw [factor_is_si_ratio]; simp only [lmag]; congr 1; ring

/-- going through an intermediate unit multiplies the exact factors (all 125 triples) -/
theorem factor_chain (cd : Units.Codata) (ha0 : cd.a0 ≠ 0) (s d e : LUnit) :
    ∃ x y z, factorQ cd s d = .ok x ∧ factorQ cd d e = .ok y ∧ factorQ cd s e = .ok z ∧ x * y = z := by
  refine ⟨_, _, _, factor_is_si_ratio cd s d, factor_is_si_ratio cd d e, factor_is_si_ratio cd s e, ?_⟩
  have := lmag_ne_zero cd ha0 d
  field_simp

/-- the factors of the two directions are reciprocal (all 25 pairs) -/
theorem factor_swap (cd : Units.Codata) (ha0 : cd.a0 ≠ 0) (s d : LUnit) :
    ∃ x y, factorQ cd s d = .ok x ∧ factorQ cd d s = .ok y ∧ x * y = 1 := by
  refine ⟨_, _, factor_is_si_ratio cd s d, factor_is_si_ratio cd d s, ?_⟩
  have h1 := lmag_ne_zero cd ha0 d
  have h2 := lmag_ne_zero cd ha0 s
  field_simp

/-- C03's model of the CODE (`convImpl`: pint's container arithmetic and context graph as driven by
`context.py:278-331`) returns the same exact rational as the SI model on these units, for every positive
CODATA set (from C03's `convImpl_same_dim`). -/
theorem convModel_is_convImpl {cd : Units.Codata} (hp : cd.Pos) (s d : LUnit) :
    Units.convImpl cd s.expr d.expr = factorQ cd s d := by
  unfold factorQ
  exact Units.convImpl_same_dim hp s.expr d.expr (by rw [dim_expr, dim_expr])

/-! ## what a tolerance on the factor means for the radius -/

/-- one float multiplication: relative error at most `u = 2^-53` -/
theorem fmul_err (f x : Rat) : |fmul f x - f * x| ≤ (2 : Rat) ^ (-53 : Int) * |f * x| := rnd64_err _

/-- a factor within `ε` (relative) of `q`, one multiplication by a double `x`: within `(1+ε)(1+u) − 1` of `q·x` -/
theorem fmul_factor_tol (q f x ε : Rat) (hf : |f - q| ≤ ε * |q|) :
    |fmul f x - q * x| ≤ ((1 + ε) * (1 + (2 : Rat) ^ (-53 : Int)) - 1) * |q * x| := by
  have h1 : |f * x - q * x| ≤ ε * |q * x| := by
    rw [← sub_mul, abs_mul, abs_mul, ← mul_assoc]
    exact mul_le_mul_of_nonneg_right hf (abs_nonneg x)
  exact rel_err_compose (F64.zpow2_pos _).le h1 (fmul_err f x)

/-- **A factor within `ε` of the exact rational `q`, applied to a tabulated decimal `v`**: the returned
radius `fl(f · float(v))` is within `(1+ε)(1+u)² − 1` (relative) of the exact product `q·v`, `u = 2^-53`
— for EVERY `q`, `f`, `ε ≥ 0` and decimal. -/
theorem factor_tolerance_accuracy (q f ε : Rat) (n : Bool) (c : Nat) (e : Int) (hε : 0 ≤ ε)
    (hf : |f - q| ≤ ε * |q|) :
    |fmul f (ofDec n c e) - q * decVal n c e|
      ≤ ((1 + ε) * (1 + (2 : Rat) ^ (-53 : Int)) ^ 2 - 1) * |q * decVal n c e| := by
  have hu := (F64.zpow2_pos (-53)).le
  have h := rel_err_compose (by nlinarith [mul_nonneg hε hu]) (mul_rnd64_err q (decVal n c e))
    (fmul_factor_tol q f (ofDec n c e) ε hf)
  rw [show (1 + ε) * (1 + (2 : Rat) ^ (-53 : Int)) ^ 2 - 1
    = (1 + (2 : Rat) ^ (-53 : Int)) * (1 + ((1 + ε) * (1 + (2 : Rat) ^ (-53 : Int)) - 1)) - 1 by ring]
  exact h

/-- **The model's result is the exact factor times the tabulated decimal up to three roundings** (factor,
`float(Decimal)`, product): relative error at most `(1+u)³ − 1 = 3u + 3u² + u³`. -/
theorem full_value_accuracy (q : Rat) (n : Bool) (c : Nat) (e : Int) :
    |fmul (rnd64 q) (ofDec n c e) - q * decVal n c e|
      ≤ ((1 + (2 : Rat) ^ (-53 : Int)) ^ 3 - 1) * |q * decVal n c e| := by
  have h := factor_tolerance_accuracy q (rnd64 q) ((2 : Rat) ^ (-53 : Int)) n c e (F64.zpow2_pos _).le (rnd64_err q)
  have e1 : (1 + (2 : Rat) ^ (-53 : Int)) ^ 3 = (1 + (2 : Rat) ^ (-53 : Int)) * (1 + (2 : Rat) ^ (-53 : Int)) ^ 2 := by ring
  rw [e1]
  exact h

/-- `withinTol` is the inequality it names -/
theorem withinTol_iff (f q : Rat) : withinTol f q = true ↔ |f - q| ≤ (2 : Rat) ^ (-50 : Int) * |q| := by
  have habs : ∀ x : Rat, qabs x = |x| := by
    intro x
    unfold qabs
    split
    · next h => exact (abs_of_neg h).symm
    · next h => exact (abs_of_nonneg (not_lt.mp h)).symm
  have hp : (0 : Rat) < (2 : Rat) ^ (50 : Nat) := by positivity
  unfold withinTol
  rw [decide_eq_true_iff, habs, habs, ← le_div_iff₀ hp, div_eq_inv_mul, zpow_neg]
  norm_cast

/-- **What the per-run check of the implementation's double buys**: if the double `f` that
`constants.conversion_factor` returned passes `withinTol f q` against the model's exact rational `q`, then the
radius the code returns, `fl(f · float(v))` (that it IS this product is the harness's exact correspondence), is
within `(1 + 2^-50)(1+u)² − 1 < 11u` (relative) of the exact `q·v`. -/
theorem impl_factor_value_accuracy (q f : Rat) (n : Bool) (c : Nat) (e : Int) (h : withinTol f q = true) :
    |fmul f (ofDec n c e) - q * decVal n c e|
      ≤ ((1 + (2 : Rat) ^ (-50 : Int)) * (1 + (2 : Rat) ^ (-53 : Int)) ^ 2 - 1) * |q * decVal n c e| :=
  factor_tolerance_accuracy q f _ n c e (F64.zpow2_pos _).le ((withinTol_iff f q).mp h)

/-- the correctly rounded factor always passes the tolerance (so the check cannot reject the model's own double) -/
theorem rnd64_within_tol (q : Rat) : withinTol (rnd64 q) q = true := by
  rw [withinTol_iff]
  refine (rnd64_err q).trans (mul_le_mul_of_nonneg_right ?_ (abs_nonneg q))
  exact zpow_le_zpow_right₀ (by norm_num) (by norm_num)

-- the bound of `impl_factor_value_accuracy` is below 11u (test)
example : (1 + (2 : Rat) ^ (-50 : Int)) * (1 + (2 : Rat) ^ (-53 : Int)) ^ 2 - 1 < 11 * (2 : Rat) ^ (-53 : Int) := by
  norm_num

/-- **Where the implementation's double IS the correctly rounded factor, its answer is the model's**: `getU`
with any factor map that agrees with `convModel cd` on the entry's unit and the requested unit equals `getFull`. -/
theorem getFull_eq_of_factor_eq (cd : Units.Codata) (T : Tables) (t : Table) (convF : Bytes → Bytes → Option Rat)
    (a : PyVal) (k : Nat) (rt : Bool) (u : Option Bytes) (m : Option Rat) (d : Datum)
    (hid : identify T t a = some k) (hd : lookupK t k = some d)
    (hagree : convF d.units (u.getD bBohr) = convModel cd d.units (u.getD bBohr)) :
    getU T t convF a rt u m = getFull cd T t a rt u m := by
  unfold getFull getU
  simp only [get_of_identify hid, getByKey, hd, Datum.toUnits, hagree]

end QcelVerif.Radii
