import QcelVerif.Props.C03Text
import QcelVerif.Lemmas.UnitBuild
/-!
# C03 — the front-end round trip on the texts the harness renders (`Model/UnitRender.lean`)

The statements are about `RExpr.renderTop pre post e`: the text of the decorated expression `e` with `pre` / `post` blanks around it,
as harness/c03.py writes it (`build_dtree` draws the random choices, `render_d` writes the text; the driver op `rend|…` prints
`RExpr.renderTop` of the same decorated expression and the harness compares the two byte for byte on every text it sends).
For well-formed `e` the modelled tokenizer and tree builder read that text as `treeOf e`, `parse_expression` gives `denote e` in both
readings of a juxtaposition, and when every name is a listed spelling (not one of the eight collisions) the text reads back as
`erase e`, the AST the generator wrote down (`render_roundtrip`); `conv_text_render` carries the group laws of `Props/C03.lean` to these
texts.  `normal e` is `erase e` by definition, so `normal_mag_dim` holds by `rfl`.

Well-formedness (`RExpr.WF`, `RExpr.Listed`) is decidable and is evaluated by the driver on every generated text.
-/
namespace QcelVerif.Units.Text
open QcelVerif.PStr (Bytes)
open RExpr

/-- the modelled tokenizer (after `^` → `**`) reads the text of a well-formed decorated expression, with any number of blanks around it,
    as exactly the tokens of its pieces -/
theorem tokenize_render (pre post : Nat) (e : RExpr) (hw : WF e = true) :
    lex (caret (renderTop pre post e)) = .ok (tokensOf e) := (lex_renderTop pre post e hw).1

/-- the tree builder (`_build_eval_tree`, with the step budget `parseTree` gives it) turns those tokens into exactly `treeOf e`:
    `*` `/` and juxtaposition left-associative, `**` with its written exponent, parentheses as written -/
theorem parse_tokens (e : RExpr) (hw : WF e = true) :
    build (4 * (tokensOf e).length + 4) .top none (tokensOf e) = .ok (treeOf e, []) := by
  have hb := tot_bound e
  have h := build_expr e hw .top [] (treeOf e, []) 1 (Or.inl rfl) (Or.inr rfl) (fun | f + 1, _ => rfl)
    (4 * (tokensOf e).length + 4) (by omega)
  rwa [List.append_nil] at h

theorem parseTree_render (pre post : Nat) (e : RExpr) (hw : WF e = true) : parseTree (renderTop pre post e) = .ok (treeOf e) := by
  obtain ⟨h1, h2⟩ := lex_renderTop pre post e hw
  unfold parseTree
  simp only [h2, Bool.not_true, Bool.false_eq_true, if_false, h1, parenOK_tokensOf e, parse_tokens e hw]

theorem renderTop_ne_nil (pre post : Nat) (e : RExpr) (hw : WF e = true) : (renderTop pre post e).isEmpty = false := by
  cases h : renderTop pre post e with
  | cons _ _ => rfl
  | nil =>
    have h1 := tokenize_render pre post e hw
    rw [h] at h1
    have : tokensOf e = [] := by
      have h0 : lex (caret []) = .ok [] := rfl
      rw [h0] at h1; exact (Except.ok.inj h1).symm
    have hb := tot_bound e
    rw [this] at hb
    simp at hb

/-- `parse_expression` on a rendered text, for any resolver and either reading of a juxtaposition -/
theorem parseWith_render (res : Bytes → Except TErr (Int × Base)) (impl : Bool) (pre post : Nat) (e : RExpr) (hw : WF e = true) :
    parseWith res impl (renderTop pre post e) = denote res e := by
  unfold parseWith
  simp only [renderTop_ne_nil pre post e hw, Bool.false_eq_true, if_false, parseTree_render pre post e hw,
    evalTree_treeOf _ impl e hw]

/-- `parse_expression` on a rendered text, SI reading: what the decorated expression denotes (names through the resolver) -/
theorem parseText_render (reg : NameReg) (pre post : Nat) (e : RExpr) (hw : WF e = true) :
    parseText reg (renderTop pre post e) = denote (resolveUnit reg) e := parseWith_render _ false pre post e hw

/-- … and as pint computes it (`_eval_implicit_mul`): the same, because the renderer juxtaposes only bare (powers of) unit names -/
theorem parseImpl_render (reg : NameReg) (pre post : Nat) (e : RExpr) (hw : WF e = true) :
    parseImpl reg (renderTop pre post e) = denote (resolveUnit reg) e := parseWith_render _ true pre post e hw

/-- with listed spellings every name reads back as the unit it was written for: the text denotes the generator's AST -/
theorem denote_listed (e : RExpr) (hw : WF e = true) (hl : Listed e = true) :
    denote (resolveUnit Gen.nameReg) e = .ok (erase e) := by
  induction e with
  | num l => rfl
  | unit p x n =>
    simp only [Listed, Bool.and_eq_true, List.any_eq_true, decide_eq_true_eq, Bool.not_eq_true'] at hl
    obtain ⟨⟨s, hs, rfl⟩, hc⟩ := hl
    have := spellingsOf_resolve x ⟨p, x, n⟩ hs hc
    simp only at this
    simp only [denote, this, erase]
  | paren e ih => exact ih hw hl
  | bin dv sp a b iha ihb =>
    simp only [WF, Bool.and_eq_true] at hw
    simp only [Listed, Bool.and_eq_true] at hl
    simp only [denote, iha hw.1.1 hl.1, ihb hw.1.2 hl.2, erase]
  | juxt bl a b iha ihb =>
    simp only [WF, Bool.and_eq_true] at hw
    simp only [Listed, Bool.and_eq_true] at hl
    simp only [denote, iha hw.1.1.1 hl.1, ihb hw.1.1.2 hl.2, erase]
  | pow a crt l r x iha =>
    simp only [WF, Bool.and_eq_true, decide_eq_true_eq] at hw
    simp only [Listed] at hl
    simp only [denote, iha hw.1.1.1 hl, erase, hw.2, if_false]

/-- the normal form the tree builder produces for a rendered text is the generator's AST itself -/
def normal (e : RExpr) : Expr := erase e

theorem normal_mag_dim (cd : Codata) (e : RExpr) : mag cd (normal e) = mag cd (erase e) ∧ dim (normal e) = dim (erase e) := ⟨rfl, rfl⟩

/-- **parse (renderTop pre post e) = ok (erase e)**, in both readings: a rendered text (any blanks around it) whose names are listed
    spellings reads back as exactly the AST the generator wrote down -/
theorem render_roundtrip (pre post : Nat) (e : RExpr) (hw : WF e = true) (hl : Listed e = true) :
    parseText Gen.nameReg (renderTop pre post e) = .ok (normal e) ∧ parseImpl Gen.nameReg (renderTop pre post e) = .ok (normal e) :=
  ⟨by rw [parseText_render _ _ _ _ hw, denote_listed e hw hl]; rfl, by rw [parseImpl_render _ _ _ _ hw, denote_listed e hw hl]; rfl⟩

/-- **`conversion_factor` on two rendered texts is `conv` of the two ASTs** (SI reading) — so every group law of `Props/C03.lean`
    holds verbatim for the texts the harness sends -/
theorem conv_text_render (cd : Codata) (pa qa pb qb : Nat) (a b : RExpr) (hwa : WF a = true) (hla : Listed a = true)
    (hwb : WF b = true) (hlb : Listed b = true) :
    convText Gen.nameReg cd (renderTop pa qa a) (renderTop pb qb b) =
      (match conv cd (erase a) (erase b) with | .ok x => .ok x | .error e => .error (.conv e)) := by
  unfold convText
  exact convArgs_str (render_roundtrip pa qa a hwa hla).1 (render_roundtrip pb qb b hwb hlb).1

/-- the code model on two rendered texts of equal dimension returns the SI ratio -/
theorem convImpl_text_render {cd : Codata} (hp : cd.Pos) (pa qa pb qb : Nat) (a b : RExpr) (hwa : WF a = true) (hla : Listed a = true)
    (hwb : WF b = true) (hlb : Listed b = true) (hd : dim (erase a) = dim (erase b)) :
    convImplText Gen.nameReg cd (renderTop pa qa a) (renderTop pb qb b) = .ok (mag cd (erase a) / mag cd (erase b)) := by
  have ha := render_roundtrip pa qa a hwa hla
  have hb := render_roundtrip pb qb b hwb hlb
  rw [convImpl_text_same_dim Gen.nameReg hp _ _ _ _ ha.1 hb.1 ha.2 hb.2 hd, conv_text_render cd pa qa pb qb a b hwa hla hwb hlb]
  simp [conv, hd]

/-- `2.5e-1 kcal/(mol * angstroms^ (- 2))`: prefactor in scientific notation, blank juxtaposition, a parenthesised product, `^` with a blank, a negative exponent
    written `(- 2)`, a plural -/
def ex1 : RExpr :=
  (.bin true false (.juxt true (.num ⟨[50], [53], true, true, false, 2, [49]⟩) (.unit 3 .calorie [107,99,97,108]))
    (.paren (.bin false true (.unit 0 .mole [109,111,108]) (.pow (.unit 0 .angstrom [97,110,103,115,116,114,111,109,115]) true false true ⟨true, 2, true, [50]⟩))))

/-- `((10meV*(s) ** +3))**-1`: nested parentheses, direct juxtaposition of a number and a prefixed symbol, `(s)`, `+3`, an outer negative power -/
def ex2 : RExpr :=
  (.pow (.paren (.paren (.bin false false (.juxt false (.num ⟨[49,48], [], false, false, false, 0, []⟩) (.unit (-3) .eV [109,101,86])) (.pow (.paren (.unit 0 .second [115])) false true true ⟨false, 1, false, [51]⟩)))) false false false ⟨false, 2, false, [49]⟩)

-- TEST: the hypotheses of the theorems above are satisfiable by non-trivial expressions
example : WF ex1 = true ∧ Listed ex1 = true ∧ WF ex2 = true ∧ Listed ex2 = true := by decide +kernel
-- TEST: the renderer writes the texts quoted above (two blanks in front of / one after the second)
example : renderTop 0 0 ex1 = [50,46,53,101,45,49,32,107,99,97,108,47,40,109,111,108,32,42,32,97,110,103,115,116,114,111,109,115,94,32,40,45,32,50,41,41] := by decide +kernel
example : renderTop 2 1 ex2 = [32,32,40,40,49,48,109,101,86,42,40,115,41,32,42,42,32,43,51,41,41,42,42,45,49,32] := by decide +kernel
-- TEST: the ASTs they read back as
example : (match normal ex1 with
    | .div (.mul (.num q) (.unit p1 .calorie)) (.mul (.unit p2 .mole) (.pow (.unit p3 .angstrom) n)) =>
      decide (q = 1 / 4) && decide (p1 = 3) && decide (p2 = 0) && decide (p3 = 0) && decide (n = -2)
    | _ => false) = true := by decide +kernel
-- TEST: the whole pipeline evaluated on the same text agrees with the theorem (kcal/(mol Å²) against itself)
example : isOk (convText Gen.nameReg Gen.codata2014 (renderTop 0 0 ex1) (renderTop 1 0 ex1)) 1 = true := by decide +kernel

end QcelVerif.Units.Text
