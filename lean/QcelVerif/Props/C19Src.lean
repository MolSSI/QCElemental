import QcelVerif.Model.CompareAst
import QcelVerif.Gen.CompareSrc
import QcelVerif.Props.C19
import QcelVerif.Props.C19Wide
/-!
# C19 — the hand models of `compare_values` / `compare` / `_compare_recursive` / `compare_recursive` are what the SOURCE says

`Gen/CompareSrc.lean` is rewritten on every run from `qcelemental/testing.py` (harness/c19_src.py, by `ast`): the decision
skeletons of `_handle_return`, `compare_values`, `compare`, the `isinstance` chain of `_compare_recursive`, and the top-level
stages of `compare_recursive` with `_path_under`, as terms of `Model/CompareAst.lean`.  Here: for ALL inputs the evaluator of
those terms returns what the hand models (`compareValues`, `compareExact`, `recErrsW`, `compareRecursiveW`) return; hence the
headline theorems of Props/C19.lean / C19Wide.lean hold of the source-derived functions.  The proofs run over the regenerated
terms themselves, so a changed source breaks them (and the tests beside the theorems); copied by hand: the `isinstance`
chain `recRef` (tied by `compareRecursiveNodeSrc_eq_ref`), the loop records in `phaseLoop_ref` / `forgiveLoop_ref` (`evalTop_ref`).
-/
namespace QcelVerif.CompareAst
open QcelVerif.Compare QcelVerif.Gen.CompareSrc

/-! ## `_handle_return` -/

/-- `_handle_return` as translated returns the boolean it was given, alone or first in a pair (message) -/
theorem handleReturnSrc_passes_verdict (v m q : Bool) :
    evalHandler handleReturnSrc v m q = some (if m then .withMessage v else .plain v) ∧
    ∀ r, evalHandler handleReturnSrc v m q = some r → r.passfail = v := by
  cases m <;> simp [evalHandler, hBool, handleReturnSrc, Ret.passfail]

theorem callHandler_ref (rep : Reporting) (st : St) (hs : st.handlerSet = true) (v : BoolE) (b : Bool)
    (hv : boolEVal st v = some b) :
    callHandler handleReturnSrc rep st ⟨v, .returnMessage, .quiet⟩ = .ret (report rep b) := by
  unfold callHandler report
  simp only [hv]
  cases rep.customHandler <;> cases hm : rep.returnMessage <;>
    simp [evalHandler, hBool, handleReturnSrc, repVal, hs, hm]

/-! ## compare_values -/

theorem passnone_guard (o : VOpts) (e c : Tree) (st : St) :
    evalCond o e c st (.and (.flag (.param .passnone)) (.and (.isNone .expected) (.isNone .computed)))
      = some (o.passnone && isNone e && isNone c) := by
  cases hp : o.passnone <;> cases h1 : isNone e <;> cases h2 : isNone c <;> simp [evalCond, flagVal, pick, hp, h1, h2]

/-- the statements after the cast, on real data -/
theorem values_tail_real (rep : Reporting) (o : VOpts) (e c : Tree) (h0 : 0 < o.atol) (sx sc : List Nat) (xs cs : List XR) :
    evalStmts handleReturnSrc rep o e c (compareValuesSrc.drop 3) { data := some (.real sx sc xs cs), handlerSet := true }
      = .ret (report rep (if sx ≠ sc then false
          else allClosePhase (closeR o.atol o.rtol o.equalNan) XR.neg o.equalPhase cs xs)) := by
  have hna : ¬ o.atol ≤ 0 := Rat.not_le.mpr h0
  by_cases hs : sx = sc
  · subst hs
    cases hb : all2 (closeR o.atol o.rtol o.equalNan) cs xs <;> cases hp : o.equalPhase <;>
      simp [compareValuesSrc, evalStmts, evalCond, cmpShape, Data.shape, tolVal, hna, evalTest, agg, sel, negIf, flagVal,
        allClosePhase, hb, hp, callHandler_ref, boolEVal]
  · have hne : (sx != sc) = true := by simpa using hs
    simp [compareValuesSrc, evalStmts, evalCond, cmpShape, Data.shape, hs, hne, callHandler_ref, boolEVal]

/-- the statements after the cast, on complex data -/
theorem values_tail_cplx (rep : Reporting) (o : VOpts) (e c : Tree) (h0 : 0 < o.atol) (sx sc : List Nat) (xs cs : List Cx) :
    evalStmts handleReturnSrc rep o e c (compareValuesSrc.drop 3) { data := some (.cplx sx sc xs cs), handlerSet := true }
      = .ret (report rep (if sx ≠ sc then false
          else allClosePhase (closeC o.atol o.rtol o.equalNan) Cx.neg o.equalPhase cs xs)) := by
  have hna : ¬ o.atol ≤ 0 := Rat.not_le.mpr h0
  by_cases hs : sx = sc
  · subst hs
    cases hb : all2 (closeC o.atol o.rtol o.equalNan) cs xs <;> cases hp : o.equalPhase <;>
      simp [compareValuesSrc, evalStmts, evalCond, cmpShape, Data.shape, tolVal, hna, evalTest, agg, sel, negIf, flagVal,
        allClosePhase, hb, hp, callHandler_ref, boolEVal]
  · have hne : (sx != sc) = true := by simpa using hs
    simp [compareValuesSrc, evalStmts, evalCond, cmpShape, Data.shape, hs, hne, callHandler_ref, boolEVal]

/-! ## compare (exact) -/

theorem exact_tail (rep : Reporting) (o : VOpts) (e c : Tree) (sx sc : List Nat) (kx kc : Kind) (xs cs : List Sc) :
    evalStmts handleReturnSrc rep o e c (compareSrc.drop 2) { data := some (.exact sx sc kx kc xs cs), handlerSet := true }
      = .ret (report rep (if sx ≠ sc then false
          else (all2 scEq xs cs || (o.equalPhase && kc.negatable && all2 scEq xs (cs.map Sc.negate))))) := by
  by_cases hs : sx = sc
  · subst hs
    cases hb : all2 scEq xs cs <;> cases hp : o.equalPhase <;> cases hn : kc.negatable <;>
      simp [compareSrc, evalStmts, evalCond, cmpShape, Data.shape, evalTest, agg, sel, flagVal, opndExact,
        hb, hp, hn, callHandler_ref, boolEVal]
  · have hne : (sx != sc) = true := by simpa using hs
    simp [compareSrc, evalStmts, evalCond, cmpShape, Data.shape, hs, hne, callHandler_ref, boolEVal]

/-! ## the theorems over the SOURCE-DERIVED functions -/

/-- `compare_values(expected, computed, atol=, rtol=, equal_nan=, equal_phase=, passnone=, quiet=, return_message=, return_handler=)`
    as translated from testing.py -/
def compareValuesS (rep : Reporting) (o : VOpts) (e c : Tree) : Out := evalFn compareValuesSrc handleReturnSrc rep o e c

/-- `compare(expected, computed, equal_phase=, quiet=, return_message=, return_handler=)` as translated from testing.py
    (the tolerances are not parameters of `compare`; any value does) -/
def compareS (rep : Reporting) (phase : Bool) (e c : Tree) : Out :=
  evalFn compareSrc handleReturnSrc rep { atol := 1, rtol := 0, equalPhase := phase } e c

/-- **compare_values: source = model**, every input, every reporting option (`0 < atol`: `np.log10(atol)` raises otherwise) -/
theorem compareValuesSrc_eq_model (rep : Reporting) (o : VOpts) (e c : Tree) (h0 : 0 < o.atol) :
    compareValuesS rep o e c = liftRes rep (compareValues o e c) := by
  unfold compareValuesS
  have tailR := values_tail_real rep o e c h0
  have tailC := values_tail_cplx rep o e c h0
  simp only [compareValuesSrc, List.drop] at tailR tailC
  unfold evalFn
  simp only [compareValuesSrc]
  rw [evalStmts, evalStmts, passnone_guard]
  cases hg : (o.passnone && isNone e && isNone c)
  · rw [evalStmts]
    unfold castFloatPair
    cases he : flatten e with
    | unmodelled => cases hc : flatten c <;> simp [compareValues, hg, he, hc, liftRes]
    | notArrayLike => cases hc : flatten c <;> simp [compareValues, hg, he, hc, liftRes, callHandler_ref, boolEVal]
    | ok fe =>
      cases hc : flatten c with
      | unmodelled => simp [compareValues, hg, he, hc, liftRes]
      | notArrayLike => simp [compareValues, hg, he, hc, liftRes, callHandler_ref, boolEVal]
      | ok fc =>
        cases hke : fe.kind with
        | none => cases hkc : fc.kind <;> simp [compareValues, hg, he, hc, hke, hkc, liftRes]
        | some ke =>
          cases hkc : fc.kind with
          | none => simp [compareValues, hg, he, hc, hke, hkc, liftRes]
          | some kc =>
            -- both sides branch on the dtype, then on the two casts, in the same way
            simp only [compareValues_flat hg he hc hke hkc, castCompare, List.any_cons, List.any_nil, argKindIs, hke, hkc,
              Bool.or_false, Bool.or_eq_true, beq_iff_eq, Option.some.injEq]
            by_cases hcx : ke = .cpx ∨ kc = .cpx
            · simp only [hcx, if_true]
              by_cases hsh : fe.shape = fc.shape <;> cases fe.data.mapM castC <;> cases fc.data.mapM castC <;>
                simp [hsh, liftRes, tailC, callHandler_ref, boolEVal]
            · simp only [hcx, if_false]
              by_cases hsh : fe.shape = fc.shape <;> cases fe.data.mapM castF <;> cases fc.data.mapM castF <;>
                simp [hsh, liftRes, tailR, callHandler_ref, boolEVal]
  · simp [compareValues, hg, liftRes, callHandler_ref, boolEVal]

/-- **compare: source = model**, every input, every reporting option -/
theorem compareSrc_eq_model (rep : Reporting) (phase : Bool) (e c : Tree) :
    compareS rep phase e c = liftRes rep (compareExact phase e c) := by
  unfold compareS
  have tail := exact_tail rep { atol := 1, rtol := 0, equalPhase := phase } e c
  simp only [compareSrc, List.drop] at tail
  unfold evalFn compareExact
  simp only [compareSrc]
  rw [evalStmts, evalStmts]
  unfold castPlainPair
  cases he : flatten e with
  | unmodelled => simp [liftRes]
  | notArrayLike => simp [liftRes]
  | ok fe =>
    cases hc : flatten c with
    | unmodelled => simp [liftRes]
    | notArrayLike => simp [liftRes]
    | ok fc =>
      simp only []
      cases hke : fe.kind with
      | none => cases hkc : fc.kind <;> simp [liftRes]
      | some ke =>
        cases hkc : fc.kind with
        | none => simp [liftRes]
        | some kc =>
          simp only [liftRes, tail]
          by_cases hsh : fe.shape = fc.shape <;> simp [hsh]

/-- the boolean inside a lifted answer is the model's verdict, whatever the reporting options -/
theorem verdict?_liftRes (rep : Reporting) : ∀ r, (liftRes rep r).verdict? = (match r with | .verdict b => some b | _ => none)
  | .verdict b => congrArg some (report_passfail rep b)
  | .raised _ => rfl
  | .unmodelled => rfl

theorem liftRes_verdict (rep : Reporting) (r : Res) (b : Bool) : (liftRes rep r).verdict? = some b ↔ r = .verdict b := by
  rw [verdict?_liftRes]
  cases r <;> simp

/-- **Headline, compare_values (source-derived)**: True exactly when `passnone` applies, or both inputs cast to the common dtype
(complex iff one of them is complex), have the same shape and every element of `computed` is close to the element of `expected`
(`closeR` / `closeC`: |c − e| ≤ atol + rtol·|e|, see `closeR_fin_iff`, `sqrtLe_iff`) — or, on request only, every element of `-computed` is. -/
theorem compareValuesSrc_true_iff (rep : Reporting) (o : VOpts) (e c : Tree) (h0 : 0 < o.atol) :
    (compareValuesS rep o e c).verdict? = some true ↔
      (o.passnone = true ∧ isNone e = true ∧ isNone c = true) ∨
      ((IsCx e ∨ IsCx c) ∧ ∃ sh es cs, CastsTo castC e sh es ∧ CastsTo castC c sh cs ∧
          (all2 (closeC o.atol o.rtol o.equalNan) cs es = true ∨
           (o.equalPhase = true ∧ all2 (closeC o.atol o.rtol o.equalNan) (cs.map Cx.neg) es = true))) ∨
      (¬ (IsCx e ∨ IsCx c) ∧ ∃ sh es cs, CastsTo castF e sh es ∧ CastsTo castF c sh cs ∧
          (all2 (closeR o.atol o.rtol o.equalNan) cs es = true ∨
           (o.equalPhase = true ∧ all2 (closeR o.atol o.rtol o.equalNan) (cs.map XR.neg) es = true))) := by
  rw [compareValuesSrc_eq_model rep o e c h0, liftRes_verdict]
  exact compareValues_true_iff o e c

/-- non-vacuity (test): a pass at the edge and a failure just beyond it, through the translated source -/
example : (compareValuesS {} { atol := 1/1000, rtol := 0 } (.sc (.flt (.fin 2))) (.sc (.flt (.fin (2001/1000))))).verdict? = some true := by
  decide +kernel
example : (compareValuesS {} { atol := 1/1000, rtol := 0 } (.sc (.flt (.fin 2))) (.sc (.flt (.fin (2002/1000))))).verdict? = some false := by
  decide +kernel

/-- two Python floats: one-element real data, the shapes agree -/
theorem compareValues_flt (o : VOpts) (x y : XR) :
    compareValues o (.sc (.flt x)) (.sc (.flt y)) =
      .verdict (allClosePhase (closeR o.atol o.rtol o.equalNan) XR.neg o.equalPhase [y] [x]) := by
  simp [compareValues, isNone, flatten, Flat.kind, joinKinds, Sc.kind, castF]

/-- **The tolerance scales with |expected|** (source-derived, finite real scalars, no options): True exactly when
`|computed − expected| ≤ atol + rtol·|expected|` (or they are equal). -/
theorem compareValuesSrc_real_iff (rep : Reporting) (atol rtol x y : Rat) (h0 : 0 < atol) :
    (compareValuesS rep { atol := atol, rtol := rtol } (.sc (.flt (.fin x))) (.sc (.flt (.fin y)))).verdict? = some true ↔
      (absQ (y - x) ≤ atol + rtol * absQ x ∨ y = x) := by
  rw [compareValuesSrc_eq_model rep _ _ _ h0, liftRes_verdict, compareValues_flt]
  simp [allClosePhase, all2, closeR]

/-- test: the bound uses |expected| = 100, not |computed| -/
example : (compareValuesS {} { atol := 1/1000, rtol := 1/100 } (.sc (.flt (.fin 100))) (.sc (.flt (.fin (101001/1000))))).verdict? = some true := by
  decide +kernel
example : (compareValuesS {} { atol := 1/1000, rtol := 1/100 } (.sc (.flt (.fin (101001/1000)))) (.sc (.flt (.fin 100)))).verdict? = some true := by
  decide +kernel
example : (compareValuesS {} { atol := 1/1000, rtol := 1/100 } (.sc (.flt (.fin 100))) (.sc (.flt (.fin (98999/1000))))).verdict? = some true := by
  decide +kernel
example : (compareValuesS {} { atol := 1/1000, rtol := 1/100 } (.sc (.flt (.fin (98999/1000)))) (.sc (.flt (.fin 100)))).verdict? = some false := by
  decide +kernel

/-- a float64 ndarray of finite values -/
def fltArr (sh : List Nat) (xs : List Rat) : Tree := .arr .flt sh (xs.map fun q => .npflt (.fin q))

/-- float data has no object element, and joins to float64 (or to nothing when empty) -/
theorem fltData_kinds (xs : List Rat) :
    ((xs.map fun q => Sc.npflt (.fin q)).map Sc.kind).contains .obj = false ∧
    (joinKinds ((xs.map fun q => Sc.npflt (.fin q)).map Sc.kind) = some none ∨
      joinKinds ((xs.map fun q => Sc.npflt (.fin q)).map Sc.kind) = some (some .flt)) := by
  induction xs with
  | nil => exact ⟨rfl, Or.inl rfl⟩
  | cons a t ih => obtain ⟨h1, h2 | h2⟩ := ih <;> simp_all [joinKinds, Sc.kind, Kind.join]

theorem kind_fltData (sh : List Nat) (xs : List Rat) : (Flat.mk sh (xs.map fun q => Sc.npflt (.fin q))).kind = some .flt := by
  obtain ⟨h1, h2 | h2⟩ := fltData_kinds xs <;> simp only [Flat.kind, h1, h2, Bool.false_eq_true, if_false]

theorem castF_fltData (xs : List Rat) : (xs.map fun q => Sc.npflt (.fin q)).mapM castF = some (xs.map XR.fin) := by
  induction xs with
  | nil => rfl
  | cons a t ih => simp [List.mapM_cons, castF, ih]

/-- **Headline on arrays (source-derived)**: for float arrays of finite values of ANY shape and size, without options, translated
`compare_values` is True exactly when the shapes are equal, the sizes are equal and every element satisfies
`|computed_i − expected_i| ≤ atol + rtol·|expected_i|` (or is equal). -/
theorem compareValuesSrc_array_iff (rep : Reporting) (atol rtol : Rat) (h0 : 0 < atol) (she shc : List Nat) (xs ys : List Rat) :
    (compareValuesS rep { atol := atol, rtol := rtol } (fltArr she xs) (fltArr shc ys)).verdict? = some true ↔
      she = shc ∧ ys.length = xs.length ∧
        ∀ i (h₁ : i < ys.length) (h₂ : i < xs.length), absQ (ys[i] - xs[i]) ≤ atol + rtol * absQ xs[i] ∨ ys[i] = xs[i] := by
  rw [compareValuesSrc_eq_model rep _ _ _ h0, liftRes_verdict]
  simp only [compareValues, fltArr, isNone, flatten, kind_fltData, castF_fltData, Bool.and_false, Bool.false_eq_true, if_false,
    allClosePhase, Bool.false_and, Bool.or_false]
  have hne : ¬ (Kind.flt = Kind.cpx ∨ Kind.flt = Kind.cpx) := by decide
  simp only [hne, if_false]
  by_cases hs : she = shc
  · simp only [hs, ne_eq, not_true_eq_false, if_false, Res.verdict.injEq, true_and]
    rw [all2_iff]
    simp only [List.length_map, List.getElem_map, closeR_fin_iff]
  · simp [hs]

/-- non-vacuity (test): 2x2 arrays, one element at the edge / beyond it -/
example : (compareValuesS {} { atol := 1/1000, rtol := 0 } (fltArr [2, 2] [1, 2, 3, 4]) (fltArr [2, 2] [1, 2, 3001/1000, 4])).verdict? = some true := by
  decide +kernel
example : (compareValuesS {} { atol := 1/1000, rtol := 0 } (fltArr [2, 2] [1, 2, 3, 4]) (fltArr [2, 2] [1, 2, 3002/1000, 4])).verdict? = some false := by
  decide +kernel
example : (compareValuesS {} { atol := 1/1000, rtol := 0 } (fltArr [2, 2] [1, 2, 3, 4]) (fltArr [4] [1, 2, 3, 4])).verdict? = some false := by
  decide +kernel

/-- **NaN only on request** (source-derived): without `equal_nan` a NaN on either side fails — also under the sign retry;
with it NaN ~ NaN passes. -/
theorem compareValuesSrc_nan_only_on_request (rep : Reporting) (atol rtol : Rat) (ph : Bool) (x : XR) (h0 : 0 < atol) :
    (compareValuesS rep { atol := atol, rtol := rtol, equalPhase := ph } (.sc (.flt .nan)) (.sc (.flt x))).verdict? = some false ∧
    (compareValuesS rep { atol := atol, rtol := rtol, equalPhase := ph } (.sc (.flt x)) (.sc (.flt .nan))).verdict? = some false ∧
    (compareValuesS rep { atol := atol, rtol := rtol, equalNan := true, equalPhase := ph } (.sc (.flt .nan)) (.sc (.flt .nan))).verdict? = some true := by
  -- the element rule of the model (`nan_only_on_request`), at `x` and at `-x` for the sign retry
  have hx := nan_only_on_request atol rtol x
  have hn := nan_only_on_request atol rtol x.neg
  refine ⟨?_, ?_, ?_⟩ <;> rw [compareValuesSrc_eq_model rep _ _ _ h0, liftRes_verdict, compareValues_flt] <;>
    simp [allClosePhase, all2, show XR.nan.neg = .nan from rfl, hx, hn]

/-- **Sign flip only on request** (source-derived): with `equal_phase=False` the verdict is the plain all-close; with it, a pass
without the option stays a pass. -/
theorem compareValuesSrc_phase_only_on_request (rep : Reporting) (o : VOpts) (e c : Tree) (h0 : 0 < o.atol) :
    (o.equalPhase = false →
      ((compareValuesS rep o e c).verdict? = some true ↔
        (o.passnone = true ∧ isNone e = true ∧ isNone c = true) ∨
        ((IsCx e ∨ IsCx c) ∧ ∃ sh es cs, CastsTo castC e sh es ∧ CastsTo castC c sh cs ∧ all2 (closeC o.atol o.rtol o.equalNan) cs es = true) ∨
        (¬ (IsCx e ∨ IsCx c) ∧ ∃ sh es cs, CastsTo castF e sh es ∧ CastsTo castF c sh cs ∧ all2 (closeR o.atol o.rtol o.equalNan) cs es = true))) ∧
    ((compareValuesS rep { o with equalPhase := false } e c).verdict? = some true →
      (compareValuesS rep { o with equalPhase := true } e c).verdict? = some true) := by
  constructor
  · intro hp
    rw [compareValuesSrc_true_iff rep o e c h0]
    simp only [hp, Bool.false_eq_true, false_and, or_false]
  · intro h
    have h := (compareValuesSrc_true_iff rep { o with equalPhase := false } e c h0).mp h
    apply (compareValuesSrc_true_iff rep { o with equalPhase := true } e c h0).mpr
    simp only [Bool.false_eq_true, false_and, or_false, true_and] at h ⊢
    exact h.imp_right (Or.imp
      (And.imp_right fun ⟨sh, es, cs, h1, h2, h3⟩ => ⟨sh, es, cs, h1, h2, Or.inl h3⟩)
      (And.imp_right fun ⟨sh, es, cs, h1, h2, h3⟩ => ⟨sh, es, cs, h1, h2, Or.inl h3⟩))

/-- test: a sign-flipped value passes only with the option -/
example : (compareValuesS {} { atol := 1/1000, rtol := 0 } (.sc (.flt (.fin 2))) (.sc (.flt (.fin (-2))))).verdict? = some false := by
  decide +kernel
example : (compareValuesS {} { atol := 1/1000, rtol := 0, equalPhase := true } (.sc (.flt (.fin 2))) (.sc (.flt (.fin (-2))))).verdict? = some true := by
  decide +kernel

/-- **Headline, compare (source-derived)**: True exactly when same shape and every element equal — or, on request and for a
dtype with a unary minus, every element equals the negated computed element. -/
theorem compareSrc_true_iff (rep : Reporting) (phase : Bool) (e c : Tree) :
    (compareS rep phase e c).verdict? = some true ↔
      ∃ fe fc kc, flatten e = .ok fe ∧ flatten c = .ok fc ∧ fe.kind.isSome ∧ fc.kind = some kc ∧
        fe.shape = fc.shape ∧
        (all2 scEq fe.data fc.data = true ∨
          (phase = true ∧ kc.negatable = true ∧ all2 scEq fe.data (fc.data.map Sc.negate) = true)) := by
  rw [compareSrc_eq_model, liftRes_verdict]
  exact compareExact_true_iff phase e c

example : (compareS {} false (.list [.sc (.int 1), .sc (.int 2)]) (.list [.sc (.int 1), .sc (.int 2)])).verdict? = some true := by
  decide +kernel
example : (compareS {} false (.list [.sc (.int 1), .sc (.int 2)]) (.list [.sc (.int 1), .sc (.int 3)])).verdict? = some false := by
  decide +kernel
example : (compareS {} false (.list [.sc (.int 1), .sc (.int 2)]) (.sc (.int 1))).verdict? = some false := by
  decide +kernel

/-- **The message / return-handler options do not change the verdict** (source-derived): whatever `quiet`, `return_message`
and `return_handler` are, both translated helpers hand back the same boolean — inside a pair with `return_message`, as the
first argument of a caller-supplied handler otherwise unchanged. -/
theorem src_verdict_independent_of_reporting (r₁ r₂ : Reporting) (o : VOpts) (phase : Bool) (e c : Tree) (h0 : 0 < o.atol) :
    (compareValuesS r₁ o e c).verdict? = (compareValuesS r₂ o e c).verdict? ∧
    (compareS r₁ phase e c).verdict? = (compareS r₂ phase e c).verdict? := by
  simp only [compareValuesSrc_eq_model _ o e c h0, compareSrc_eq_model, verdict?_liftRes, and_self]

/-! ## `_compare_recursive`: the isinstance chain -/

def recRef : RecProg := {
  modelToDict := [.expected, .computed],
  branches := [
    (.inst .expected [.str, .int, .bool, .complex, .npBool], .exactNe .expected .computed true 2),
    (.and (.inst .expected [.list, .tuple]) (.inst .computed [.str, .bytes, .dict]), .entry 8),
    (.inst .expected [.list, .tuple], .listWalk .ne .expected .computed 3 3 (.expected, .computed)),
    (.and (.inst .expected [.dict]) (.notInst .computed [.dict]), .entry 7),
    (.inst .expected [.dict], .dictWalk [((.computed, .expected), 0), ((.expected, .computed), 1)] (.expected, .computed) (.expected, .computed)),
    (.inst .expected [.float, .npNumber], .values .expected .computed .param 4),
    (.inst .expected [.ndarray], .arrLeaf .expected .expected .computed .param .expected .computed .param 4),
    (.inst .expected [.noneType], .noneLeaf .expected .computed 5)],
  fallTag := 6 }

/-- the obligation a changed dispatch breaks -/
theorem compareRecursiveNodeSrc_eq_ref : compareRecursiveNodeSrc = recRef := rfl

theorem sizeRuleT_eq (name : String) (s : Sc) (data : List Sc) : sizeRuleT true 2 name s data = sizeRule name s data := by
  unfold sizeRuleT sizeRule
  split <;> simp

theorem exactLeafT_eq (name : String) (s : Sc) (c : Tree) : exactLeafT true 2 name s c = exactLeafW name s c := by
  cases c with
  | sc t => simp [exactLeafT, exactLeafW]
  | list l =>
    simp only [exactLeafT, exactLeafW, sizeRuleT_eq]
    split
    · split <;> simp_all
    · rfl
  | dict kv => simp [exactLeafT, exactLeafW]
  | arr k sh fl => simp [exactLeafT, exactLeafW, sizeRuleT_eq]

theorem select_list_seq (es : List Tree) (c : Tree) (h : instOf c .str = false) (h' : instOf c .dict = false) :
    selectAct (.list es) c recRef.branches = some (.listWalk .ne .expected .computed 3 3 (.expected, .computed)) := by
  cases c with
  | sc t => cases t <;> first | rfl | (exfalso; simp [instOf] at h)
  | list l => rfl
  | dict kv => exfalso; simp [instOf] at h'
  | arr k sh fl => rfl

theorem select_dict_dict (ekv ckv : List (String × Tree)) :
    selectAct (.dict ekv) (.dict ckv) recRef.branches =
      some (.dictWalk [((.computed, .expected), 0), ((.expected, .computed), 1)] (.expected, .computed) (.expected, .computed)) := by
  simp [recRef, selectAct, Guard.holds, instOf, pick]

theorem evalRec_sc (o : ROpts) (name : String) : ∀ s c, evalRec recRef o name (.sc s) c = recErrsW o name (.sc s) c
  | .str _, c | .int _, c | .bool _, c | .cpx _, c | .npcpx _, c | .npbool _, c => by
    rw [evalRec, recErrsW]
    exact exactLeafT_eq ..
  | .flt _, c | .npflt _, c | .npint _, c => by
    rw [evalRec, recErrsW]
    rfl
  | .none, c => by
    rw [evalRec, recErrsW]
    rfl

mutual
theorem evalRec_ref (o : ROpts) (name : String) : ∀ e c, evalRec recRef o name e c = recErrsW o name e c
  | .sc s, c => evalRec_sc o name s c
  | .arr k sh fl, c => by
    rw [evalRec, recErrsW]
    rfl
  | .list es, c => by
    cases c with
    | list cs =>
      simp only [evalRec, recErrsW]
      rw [select_list_seq es _ rfl rfl]
      simp only [isEC, asSeq, cmpNat, pickLen, evalList_ref o name 0 es cs, bne_iff_ne]
      rfl
    | arr k sh fl =>
      simp only [evalRec, recErrsW]
      rw [select_list_seq es _ rfl rfl]
      cases sh with
      | nil => simp [isEC, asSeq]
      | cons n rest =>
        simp only [isEC, asSeq, cmpNat, pickLen, evalList_ref o name 0 es (arrRows k n rest fl), bne_iff_ne]
        rfl
    | sc t => cases t <;> rfl
    | dict kv => rfl
  | .dict ekv, c => by
    cases c with
    | dict ckv =>
      simp only [evalRec, recErrsW]
      rw [select_dict_dict]
      have hne : (Arg.expected != Arg.computed) = true := rfl
      simp only [isEC, isECorCE, keyEntries, keysDiff, pickKV, evalDict_ref o name ekv ckv, beq_self_eq_true, hne,
        Bool.and_self, Bool.not_true, Bool.false_eq_true, if_false]
      simp only [List.append_nil, List.append_assoc]
      rfl
    | sc t => cases t <;> rfl
    | _ => rfl
theorem evalList_ref (o : ROpts) (name : String) : ∀ i es cs, evalList recRef o name i es cs = recListW o name i es cs
  | _, [], _ => by simp [evalList, recListW]
  | _, _ :: _, [] => by simp [evalList, recListW]
  | i, e :: es, c :: cs => by
    simp only [evalList, recListW]
    rw [evalRec_ref o _ e c, evalList_ref o name (i + 1) es cs]
theorem evalDict_ref (o : ROpts) (name : String) : ∀ ekv ckv, evalDict recRef o name ekv ckv = recDictW o name ekv ckv
  | [], _ => by simp [evalDict, recDictW]
  | (k, e) :: rest, ckv => by
    simp only [evalDict, recDictW]
    rw [evalDict_ref o name rest ckv]
    cases hl : lookup k ckv with
    | none => rfl
    | some c => simp only; rw [evalRec_ref o _ e c]
end

/-! ## compare_recursive over the source-derived dispatch -/

/-- `_compare_recursive` as translated from testing.py -/
def recS (o : ROpts) (name : String) (e c : Tree) : List ItemW := evalRec compareRecursiveNodeSrc o name e c

/-- **`_compare_recursive`: source = wide model**, all trees (mutual induction): the `isinstance` chain in source order, the key-set
differences, the length test, the roles of the items in nested calls and the leaf rule selection produce exactly the error
entries of `recErrsW`. -/
theorem recSrc_eq_model (o : ROpts) (name : String) (e c : Tree) : recS o name e c = recErrsW o name e c := by
  unfold recS
  rw [compareRecursiveNodeSrc_eq_ref]
  exact evalRec_ref o name e c

/-- tests: one entry per mismatching node, through the translated chain -/
example : recS ⟨1/1000, 0, false⟩ "root" (.dict [("a", .sc (.flt (.fin 1))), ("b", .list [.sc (.int 1), .sc (.str "x")])])
    (.dict [("a", .sc (.flt (.fin (1002/1000)))), ("b", .list [.sc (.int 1), .sc (.str "y")])])
    = [.err ⟨"root.a", 4⟩, .err ⟨"root.b.1", 2⟩] := by decide +kernel
example : recS ⟨1/1000, 0, false⟩ "root" (.dict [("a", .sc (.int 1))]) (.dict [("b", .sc (.int 1))])
    = [.err ⟨"root", 0⟩, .err ⟨"root", 1⟩] := by decide +kernel
example : recS ⟨1/1000, 0, false⟩ "root" (.list [.sc (.int 1), .sc (.int 2)]) (.list [.sc (.int 1)]) = [.err ⟨"root", 3⟩] := by decide +kernel

/-! ### the top-level stages -/

theorem removeForG_tt (hit : String → Bool) (nm : Err) : ∀ ps errs, removeForG true true hit nm ps errs = removeFor hit nm ps errs
  | [], errs => rfl
  | p :: ps, errs => by
    simp only [removeForG, removeFor, if_true]
    rw [removeForG_tt hit nm ps errs]

theorem removeLoopG_tt (cond : Err → String → Bool) (ps : List String) :
    ∀ iter errs, removeLoopG true true cond ps iter errs = removeLoop cond ps iter errs
  | [], errs => rfl
  | nm :: rest, errs => by
    simp only [removeLoopG, removeLoop, removeForG_tt]
    cases removeFor (cond nm) nm ps errs with
    | none => rfl
    | some errs' => exact removeLoopG_tt cond ps rest errs'

theorem underG_ref (a b : String) : underG ⟨true, "."⟩ a b = pathUnder a b := by simp [underG, pathUnder]

theorem rootifyG_ref : rootifyG ⟨"root.", "root."⟩ = rootify := by
  funext s
  simp [rootifyG, rootify]

theorem phaseLoop_ref (phase : PhaseOpt) (nn : List String) (errors : List Err) (h : (!errors.isEmpty && phase.truthy) = true) :
    filterLoopG ⟨true, true, true, true, true⟩ ⟨true, "."⟩ nn
      (phasePrefixes phase errors .empty .errorNames (.rootified ⟨"root.", "root."⟩)) errors = some (phaseStage phase nn errors) := by
  unfold filterLoopG phaseStage phasePrefixes
  simp only [h, if_true, Bool.not_true, Bool.false_eq_true, if_false, removeLoopG_tt, underG_ref, Bool.false_or]
  cases phase <;> simp [plist, phaseEps, rootifyG_ref]

theorem forgiveLoop_ref (forgive : Option (List String)) (errors : List Err) :
    filterLoopG ⟨true, true, false, true, true⟩ ⟨true, "."⟩ []
      (forgivePrefixes forgive errors .empty (.rootified ⟨"root.", "root."⟩)) errors = some (forgiveStage forgive errors) := by
  unfold filterLoopG forgiveStage forgivePrefixes
  simp only [Bool.not_true, Bool.false_eq_true, if_false, removeLoopG_tt, underG_ref, Bool.not_false, Bool.true_or, Bool.and_true]
  cases forgive <;> simp [plist, rootifyG_ref]

theorem evalTop_ref (rec : ROpts → String → Tree → Tree → List ItemW)
    (atol rtol : Rat) (forgive : Option (List String)) (phase : PhaseOpt) (e c : Tree) :
    evalTop compareRecursiveTopSrc rec atol rtol forgive phase e c = compareRecursiveVia rec atol rtol forgive phase e c := by
  have h1 : ((1 : Int) : Rat) = 1 := rfl
  unfold evalTop compareRecursiveVia
  simp only [compareRecursiveTopSrc, cmpRat, h1, decide_eq_true_eq, evalStages, RecCall.isEC, beq_self_eq_true, Bool.and_self, Bool.not_true]
  by_cases ha : 1 ≤ atol
  · simp only [ha, if_true]
  · simp only [ha, if_false, Bool.false_eq_true]
    cases hu : (rec ⟨atol, rtol, false⟩ "root" e c).contains ItemW.unmodelled
    · simp only [Bool.false_eq_true, if_false]
      generalize errsOfW (rec ⟨atol, rtol, false⟩ "root" e c) = errors
      cases hp : (!errors.isEmpty && phase.truthy)
      · have hps : phaseStage phase (List.map Err.name (errsOfW (rec ⟨atol, rtol, true⟩ "root" e c))) errors = some errors := by
          unfold phaseStage; simp [hp]
        simp only [Bool.false_eq_true, if_false, Bool.false_and, hps, forgiveLoop_ref]
        cases forgiveStage forgive errors <;> rfl
      · simp only [if_true, Bool.true_and]
        cases hn : (rec ⟨atol, rtol, true⟩ "root" e c).contains ItemW.unmodelled
        · simp only [Bool.false_eq_true, if_false, phaseLoop_ref phase _ errors hp]
          cases phaseStage phase (List.map Err.name (errsOfW (rec ⟨atol, rtol, true⟩ "root" e c))) errors with
          | none => rfl
          | some errs =>
            simp only [forgiveLoop_ref]
            cases forgiveStage forgive errs <;> rfl
        · simp only [if_true]
    · simp only [if_true]

/-- `compare_recursive` as translated from testing.py: the translated stages over the translated per-node chain -/
def compareRecursiveS (atol rtol : Rat) (forgive : Option (List String)) (phase : PhaseOpt) (e c : Tree) : Res :=
  evalTop compareRecursiveTopSrc recS atol rtol forgive phase e c

/-- **compare_recursive: source = wide model**, every input: the `atol >= 1` refusal, the recursion, the `equal_phase` stage
(second recursion with `equal_phase=True`, prefixes `[]` / the entries' own names / the rootified list, removal guarded by
`not in n_errors`) and then the `forgive` stage (rootified list), each with `_path_under(nomatch[0], prefix)`, `errors.remove`,
`break`, over the translated per-node chain. -/
theorem compareRecursiveSrc_eq_model (atol rtol : Rat) (forgive : Option (List String)) (phase : PhaseOpt) (e c : Tree) :
    compareRecursiveS atol rtol forgive phase e c = compareRecursiveW atol rtol forgive phase e c := by
  have h : recS = recErrsW := by
    funext o name e c
    exact recSrc_eq_model o name e c
  have hw : compareRecursiveW atol rtol forgive phase e c = compareRecursiveVia recErrsW atol rtol forgive phase e c := rfl
  rw [hw, compareRecursiveS, evalTop_ref, h]

/-- **Headline, compare_recursive (source-derived)**: True exactly when `atol < 1` and every error entry the translated chain
produces is phase-excused (listed, and absent from the sign-tolerant recursion) or forgiven (at / below a forgive path, whole
segments) — `compare_recursiveW_iff` restated over the translated function. -/
theorem compareRecursiveSrc_iff (atol rtol : Rat) (forgive : Option (List String)) (phase : PhaseOpt) (e c : Tree)
    (hm : ItemW.unmodelled ∉ recS ⟨atol, rtol, false⟩ "root" e c)
    (hm' : ItemW.unmodelled ∉ recS ⟨atol, rtol, true⟩ "root" e c) :
    compareRecursiveS atol rtol forgive phase e c = .verdict true ↔
      (atol < 1 ∧
        ∀ p ∈ namesW (recS ⟨atol, rtol, false⟩ "root" e c),
          (PhaseListed phase p ∧ p ∉ namesW (recS ⟨atol, rtol, true⟩ "root" e c)) ∨ Forgiven forgive p) := by
  rw [compareRecursiveSrc_eq_model]
  simp only [recSrc_eq_model] at hm hm' ⊢
  exact compare_recursiveW_iff atol rtol forgive phase e c hm hm'

/-- non-vacuity (tests): a forgiven changed key passes, an unforgiven one fails; a sign flip passes only when listed -/
example : compareRecursiveS (1/1000) 0 (some ["b"]) .off (.dict [("a", .sc (.int 1)), ("b", .sc (.int 2))])
    (.dict [("a", .sc (.int 1)), ("b", .sc (.int 3))]) = .verdict true := by decide +kernel
example : compareRecursiveS (1/1000) 0 none .off (.dict [("a", .sc (.int 1)), ("b", .sc (.int 2))])
    (.dict [("a", .sc (.int 1)), ("b", .sc (.int 3))]) = .verdict false := by decide +kernel
example : compareRecursiveS (1/1000) 0 none (.paths ["a"]) (.dict [("a", .sc (.flt (.fin 1)))]) (.dict [("a", .sc (.flt (.fin (-1))))])
    = .verdict true := by decide +kernel
example : compareRecursiveS (1/1000) 0 none (.paths ["b"]) (.dict [("a", .sc (.flt (.fin 1)))]) (.dict [("a", .sc (.flt (.fin (-1))))])
    = .verdict false := by decide +kernel
example : compareRecursiveS 1 0 none .off (.sc (.int 1)) (.sc (.int 1)) = .raised .valueError := by decide +kernel

end QcelVerif.CompareAst
