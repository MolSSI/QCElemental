import QcelVerif.Props.C13
import QcelVerif.Lemmas.MillCalculus
import Mathlib.Analysis.Calculus.ContDiff.Comp
import Mathlib.Analysis.Calculus.ContDiff.Operations
/-!
# C13 — the calculus bridge, formalised over ℝ

`Props/C13.lean` proves the algebra of the recipe over any commutative ring.  This file proves,
with Mathlib's Fréchet derivative over ℝ and about the MODEL's own `alignCoords`, `alignGradient`,
`alignHessian` (Model/Mill.lean at `K = ℝ`), the analytic step:

  for EVERY energy that is invariant under the recipe's motion, the gradient / Hessian at the
  aligned geometry is the aligned gradient / aligned Hessian of the original.

What "invariant" has to mean.  The aligned system is the same molecule moved rigidly (reflected
first if `mirror`) and with its atoms RELABELLED: atom `i` of the aligned system is atom `map i` of
the original.  So the aligned system has its own energy function `E' : Geom ℝ m → ℝ` — the same
physics with every per-atom parameter (charge, coupling, …) permuted by the same atom map — and
the physical statement "the energy does not change under rotation, translation, reflection and
relabelling" is exactly

    E' (alignCoords r y) = E y        (for the geometries y near the one considered).

Nothing else about `E`, `E'` is used: no polynomial form, no pair structure, no symmetry of second
derivatives.  For an energy of identical particles (or `map = id`) and a proper recipe this is the
usual `E (R x + t) = E x` with `E' = E`.  For mirrored recipes it asks for parity invariance as
well, which holds for every energy that depends on the interatomic distances only
(`distance_energy_invariant`).

Helper definitions (`basisG`, `Jclm`, `grad`, `hess`, `vecGrad`, `pairEnergy`, `coulombHarmonic`,
`alignInv`) and lemmas: `Lemmas/MillCalculus.lean`.
-/
namespace QcelVerif.Mill
open Finset Filter Topology

noncomputable section

variable {n m : Nat}

/-! ## The coordinate map is affine, its derivative is `J`, and `J` is an orthogonal isomorphism -/

/-- the model's forward coordinate map is `g x = J x + b` (`b = g 0`) with `J` a continuous linear
map, hence Fréchet differentiable everywhere with derivative `J` — every recipe, mirror on or off -/
theorem coords_hasFDerivAt (r : Recipe ℝ n m) (x : Geom ℝ n) :
    alignCoords r x = Jclm r x + alignCoords r 0 ∧ HasFDerivAt (alignCoords r) (Jclm r) x :=
  ⟨alignCoords_eq_affine r x, hasFDerivAt_alignCoords r x⟩

/-- `J` preserves the standard inner product `⟨d,e⟩ = Σ_{i,a} d_ia e_ia` of coordinate arrays
(`J_inner` of `Lemmas/Mill.lean` at ℝ; `pairing_preserved` is its gradient form) -/
theorem J_inner_preserved (r : Recipe ℝ n m) (hR : IsOrtho r.rot) (hmap : Function.Bijective r.map)
    (d e : Geom ℝ n) :
    ∑ i, sum3 (fun a => Jclm r d i a * Jclm r e i a) = ∑ i, sum3 (fun a => d i a * e i a) :=
  Jclm_inner r hR hmap d e

/-- `J` is invertible (a linear isomorphism of the coordinate-array spaces), hence the coordinate map
`alignCoords r` is an affine isomorphism with inverse `alignInv` (Lemmas/MillCalculus.lean) -/
theorem J_bijective (r : Recipe ℝ n m) (hR : IsOrtho r.rot) (hmap : Function.Bijective r.map) :
    Function.Bijective (Jclm r)
    ∧ (∀ z, alignCoords r (alignInv r hR hmap z) = z)
    ∧ (∀ x, alignInv r hR hmap (alignCoords r x) = x) :=
  ⟨Jclm_bijective r hR hmap, alignCoords_alignInv r hR hmap, alignInv_alignCoords r hR hmap⟩

/-- (non-vacuity, test) the recipe of `Props/C13.lean` cast to ℝ: rotation by 90° about `z`, shift
`(1,-2,3)`, atom map the 3-cycle, mirror on -/
def exRecipeR : Recipe ℝ 3 3 where
  shift := fun c => exRecipe.shift c
  rot := fun a b => exRecipe.rot a b
  map := exRecipe.map
  mirror := true

theorem exRecipeR_ortho : IsOrtho exRecipeR.rot := by
  intro c c'
  have := congrArg (Int.cast : ℤ → ℝ) (exRecipe_ortho c c')
  simp only [sum3] at this ⊢
  push_cast at this
  exact this

theorem exRecipeR_bij : Function.Bijective exRecipeR.map := exRecipe_bij

example : Function.Bijective (Jclm exRecipeR) := (J_bijective _ exRecipeR_ortho exRecipeR_bij).1

/-- three atoms on the `x` axis -/
def exGeom : Geom ℝ 3 := fun i a => if a = 0 then (i.val : ℝ) else 0

/-! ## Gradient -/

/-- **Gradient covariance for every invariant energy.**  If the aligned system's energy `E'` takes,
at the aligned image of every geometry near `x`, the value the original energy `E` takes at that
geometry, and `E'` is differentiable at the aligned geometry, then the coordinate array of the
derivative of `E'` at the aligned geometry is `align_gradient` of the coordinate array of the
derivative of `E` at `x`.  Any recipe with `R Rᵀ = I` and an injective atom map, mirror on or off.
(`E` is then differentiable at `x` too — that is part of the proof, not a hypothesis.) -/
theorem gradient_covariance (r : Recipe ℝ n m) (hR : IsOrtho r.rot) (hinj : Function.Injective r.map)
    (E : Geom ℝ n → ℝ) (E' : Geom ℝ m → ℝ) (x : Geom ℝ n)
    (hinv : ∀ᶠ y in 𝓝 x, E' (alignCoords r y) = E y)
    (hE' : DifferentiableAt ℝ E' (alignCoords r x)) :
    grad E' (alignCoords r x) = alignGradient r (grad E x) := by
  funext i a
  rw [gradient_is_J]
  unfold grad
  rw [(hasFDerivAt_of_invariant r E E' x hinv hE').fderiv]
  simp only [ContinuousLinearMap.comp_apply, Jclm_apply]
  exact (J_pullback r hR hinj _ i a).symm

/-! ## Hessian -/

/-- **Hessian covariance for every invariant energy**, mirrored recipes included.  If `E'` at the
aligned image equals `E` near `x`, `E'` is differentiable near the aligned geometry and its
derivative is differentiable at it (i.e. `E'` is twice differentiable there), then the `(3m,3m)`
array of second derivatives of `E'` at the aligned geometry is `align_hessian` of the `(3n,3n)` array
of second derivatives of `E` at `x`.  No symmetry of the second derivative is used. -/
theorem hessian_covariance (r : Recipe ℝ n m) (hR : IsOrtho r.rot) (hinj : Function.Injective r.map)
    (E : Geom ℝ n → ℝ) (E' : Geom ℝ m → ℝ) (x : Geom ℝ n)
    (hinv : ∀ᶠ y in 𝓝 x, E' (alignCoords r y) = E y)
    (hd1 : ∀ᶠ z in 𝓝 (alignCoords r x), DifferentiableAt ℝ E' z)
    (hd2 : DifferentiableAt ℝ (fderiv ℝ E') (alignCoords r x)) :
    hess E' (alignCoords r x) = alignHessian r (hess E x) := by
  -- first derivatives near x
  have hg := hasFDerivAt_alignCoords r
  have h1 : ∀ᶠ y in 𝓝 x, fderiv ℝ E y = (fderiv ℝ E' (alignCoords r y)).comp (Jclm r) := by
    filter_upwards [hinv.eventually_nhds, (hg x).continuousAt.eventually hd1] with y hy hdy
    exact (hasFDerivAt_of_invariant r E E' y hy hdy).fderiv
  -- second derivative of E at x along e_s of the component e_t
  set B := fderiv ℝ (fderiv ℝ E') (alignCoords r x)
  have h2 : ∀ (w d : Geom ℝ n), fderiv ℝ (fun y => fderiv ℝ E y w) x d = B (J r d) (J r w) := by
    intro w d
    have hc : HasFDerivAt (fderiv ℝ E' ∘ alignCoords r) (B.comp (Jclm r)) x :=
      hd2.hasFDerivAt.comp x (hg x)
    have he : (fun y => fderiv ℝ E y w) =ᶠ[𝓝 x] fun y => (fderiv ℝ E' ∘ alignCoords r) y (J r w) := by
      filter_upwards [h1] with y hy
      rw [hy]; rfl
    rw [he.fderiv_eq, (hc.clm_apply (hasFDerivAt_const (J r w) x)).fderiv]
    simp
  funext s t
  rw [hess_eq_second E' _ hd2, alignHessian_apply]
  simp only [hess, blk_idx, off_idx, h2]
  exact (J_pullback₂ r hR hinj B (blk s) (blk t) (off s) (off t)).symm

/-- the same with the customary smoothness hypothesis: `E'` is `C²` at the aligned geometry -/
theorem hessian_covariance_of_contDiffAt (r : Recipe ℝ n m) (hR : IsOrtho r.rot)
    (hinj : Function.Injective r.map) (E : Geom ℝ n → ℝ) (E' : Geom ℝ m → ℝ) (x : Geom ℝ n)
    (hinv : ∀ᶠ y in 𝓝 x, E' (alignCoords r y) = E y)
    (hE' : ContDiffAt ℝ 2 E' (alignCoords r x)) :
    hess E' (alignCoords r x) = alignHessian r (hess E x) := by
  exact hessian_covariance r hR hinj E E' x hinv (twice_differentiable_of_contDiffAt hE').1
    (twice_differentiable_of_contDiffAt hE').2

/-! ## Smoothness may be assumed of the ORIGINAL energy instead

`alignCoords r` is an affine isomorphism (`J_bijective`), so the aligned system's energy is the
original one composed with the inverse affine map `alignInv`; smoothness transfers. -/

/-- if the original energy is `C^k` at `x`, the aligned system's energy is `C^k` at the aligned
geometry (invariance near `x`, orthogonal rotation, bijective atom map) -/
theorem aligned_contDiffAt_of_invariant (r : Recipe ℝ n m) (hR : IsOrtho r.rot)
    (hmap : Function.Bijective r.map) (E : Geom ℝ n → ℝ) (E' : Geom ℝ m → ℝ) (x : Geom ℝ n)
    (hinv : ∀ᶠ y in 𝓝 x, E' (alignCoords r y) = E y) (k : WithTop ℕ∞) (hE : ContDiffAt ℝ k E x) :
    ContDiffAt ℝ k E' (alignCoords r x) := by
  have hc : ContinuousAt (alignInv r hR hmap) (alignCoords r x) :=
    (alignInv_contDiff r hR hmap 0).continuous.continuousAt
  have hx := alignInv_alignCoords r hR hmap x
  have hev : ∀ᶠ z in 𝓝 (alignCoords r x), E' z = (E ∘ alignInv r hR hmap) z := by
    have h := hc.eventually (by rw [hx]; exact hinv)
    filter_upwards [h] with z hz
    rw [alignCoords_alignInv] at hz
    exact hz
  have hcomp : ContDiffAt ℝ k (E ∘ alignInv r hR hmap) (alignCoords r x) :=
    ContDiffAt.comp _ (by rw [hx]; exact hE) (alignInv_contDiff r hR hmap k).contDiffAt
  exact hcomp.congr_of_eventuallyEq hev

/-- **both clauses, smoothness assumed of the original energy only**: `E` is `C²` at `x` and
invariant near `x`  ⇒  gradient and Hessian of the aligned system's energy at the aligned geometry are
`align_gradient` / `align_hessian` of those of `E` at `x` (mirror on and off) -/
theorem covariance_of_contDiffAt_original (r : Recipe ℝ n m) (hR : IsOrtho r.rot)
    (hmap : Function.Bijective r.map) (E : Geom ℝ n → ℝ) (E' : Geom ℝ m → ℝ) (x : Geom ℝ n)
    (hinv : ∀ᶠ y in 𝓝 x, E' (alignCoords r y) = E y) (hE : ContDiffAt ℝ 2 E x) :
    grad E' (alignCoords r x) = alignGradient r (grad E x)
    ∧ hess E' (alignCoords r x) = alignHessian r (hess E x) := by
  have h2 := aligned_contDiffAt_of_invariant r hR hmap E E' x hinv 2 hE
  exact ⟨gradient_covariance r hR hmap.1 E E' x hinv (h2.differentiableAt (by simp)),
    hessian_covariance_of_contDiffAt r hR hmap.1 E E' x hinv h2⟩

/-! ## Energies that depend on the interatomic distances only

Every function of the matrix of squared interatomic distances (hence of the distances) is invariant
under every recipe with `R Rᵀ = I` — rotation, translation, REFLECTION and relabelling — when the
relabelled system reads the matrix through the atom map (`permute`, Lemmas/Mill.lean). -/

/-- `ψ` of the distance matrix of the aligned geometry = `ψ` of the relabelled distance matrix of the
original (from `coords_isometry`) -/
theorem distance_energy_invariant (r : Recipe ℝ n m) (hR : IsOrtho r.rot)
    (ψ : (Fin m → Fin m → ℝ) → ℝ) (y : Geom ℝ n) :
    ψ (dist2 (alignCoords r y)) = ψ (permute r.map (dist2 y)) := by
  congr 1
  funext i j
  exact dist2_align r hR y i j

/-- gradient and Hessian covariance for every `C²` function of the interatomic distances; no
invariance hypothesis is left -/
theorem distance_energy_covariance (r : Recipe ℝ n m) (hR : IsOrtho r.rot)
    (hinj : Function.Injective r.map) (ψ : (Fin m → Fin m → ℝ) → ℝ) (x : Geom ℝ n)
    (hψ : ContDiffAt ℝ 2 (fun z : Geom ℝ m => ψ (dist2 z)) (alignCoords r x)) :
    grad (fun z : Geom ℝ m => ψ (dist2 z)) (alignCoords r x)
        = alignGradient r (grad (fun y : Geom ℝ n => ψ (permute r.map (dist2 y))) x)
    ∧ hess (fun z : Geom ℝ m => ψ (dist2 z)) (alignCoords r x)
        = alignHessian r (hess (fun y : Geom ℝ n => ψ (permute r.map (dist2 y))) x) := by
  have hinv : ∀ᶠ y in 𝓝 x, (fun z : Geom ℝ m => ψ (dist2 z)) (alignCoords r y)
      = (fun y : Geom ℝ n => ψ (permute r.map (dist2 y))) y :=
    Filter.Eventually.of_forall fun y => distance_energy_invariant r hR ψ y
  exact ⟨gradient_covariance r hR hinj _ _ x hinv (hψ.differentiableAt (by simp)),
    hessian_covariance_of_contDiffAt r hR hinj _ _ x hinv hψ⟩

/-! ## Pair potentials: Coulomb and harmonic terms (the energies the property's quantifier names)

`pairEnergy f x = Σ_{i≠j} f_ij(|x_i − x_j|²)` with ARBITRARY pair functions `f_ij : ℝ → ℝ`
(Lemmas/MillCalculus.lean); the atom map acts on the pair functions. -/

/-- a pair potential is invariant under every recipe with `R Rᵀ = I` and a bijective atom map -/
theorem pairEnergy_invariant (r : Recipe ℝ n m) (hR : IsOrtho r.rot) (hmap : Function.Bijective r.map)
    (f : Fin n → Fin n → ℝ → ℝ) (y : Geom ℝ n) :
    pairEnergy (fun i j => f (r.map i) (r.map j)) (alignCoords r y) = pairEnergy f y := by
  unfold pairEnergy
  refine Fintype.sum_bijective r.map hmap _ _ fun i => Fintype.sum_bijective r.map hmap _ _ fun j => ?_
  simp only [dist2_align r hR, hmap.1.eq_iff]

/-- gradient and Hessian covariance for every pair potential whose pair functions are `C²` at the
squared distances occurring in `x` — non-polynomial energies included, mirror on and off -/
theorem pair_potential_covariance (r : Recipe ℝ n m) (hR : IsOrtho r.rot)
    (hmap : Function.Bijective r.map) (f : Fin n → Fin n → ℝ → ℝ) (x : Geom ℝ n)
    (hf : ∀ i j, i ≠ j → ContDiffAt ℝ 2 (f i j) (dist2 x i j)) :
    grad (pairEnergy fun i j => f (r.map i) (r.map j)) (alignCoords r x)
        = alignGradient r (grad (pairEnergy f) x)
    ∧ hess (pairEnergy fun i j => f (r.map i) (r.map j)) (alignCoords r x)
        = alignHessian r (hess (pairEnergy f) x) :=
  covariance_of_contDiffAt_original r hR hmap (pairEnergy f) _ x
    (Filter.Eventually.of_forall fun y => pairEnergy_invariant r hR hmap f y)
    (pairEnergy_contDiffAt f x 2 hf)

/-- **Coulomb + harmonic energies** `Σ_{i≠j} k_ij/|x_i−x_j| + h_ij (|x_i−x_j| − ρ_ij)²` with arbitrary
couplings, at every geometry without coincident atoms: gradient and Hessian at the aligned geometry
(couplings permuted by the atom map) are `align_gradient` / `align_hessian` of those at `x`. -/
theorem coulomb_harmonic_covariance (r : Recipe ℝ n m) (hR : IsOrtho r.rot)
    (hmap : Function.Bijective r.map) (k h ρ : Fin n → Fin n → ℝ) (x : Geom ℝ n)
    (hx : ∀ i j, i ≠ j → dist2 x i j ≠ 0) :
    grad (pairEnergy fun i j => coulombHarmonic (permute r.map k i j) (permute r.map h i j)
            (permute r.map ρ i j)) (alignCoords r x)
        = alignGradient r (grad (pairEnergy fun i j => coulombHarmonic (k i j) (h i j) (ρ i j)) x)
    ∧ hess (pairEnergy fun i j => coulombHarmonic (permute r.map k i j) (permute r.map h i j)
            (permute r.map ρ i j)) (alignCoords r x)
        = alignHessian r (hess (pairEnergy fun i j => coulombHarmonic (k i j) (h i j) (ρ i j)) x) :=
  pair_potential_covariance r hR hmap (fun i j => coulombHarmonic (k i j) (h i j) (ρ i j)) x
    (fun i j hij => coulombHarmonic_contDiffAt _ _ _ _
      (lt_of_le_of_ne (dist2_nonneg x i j) (hx i j hij).symm) 2)

/-! ## Attached vectors and their nuclear derivatives (recipes without mirror)

A molecule-attached vector (dipole, …) is a vector-valued function of the geometry that rotates with
the frame: the aligned system's `μ'` satisfies `μ' (alignCoords r y) = align_vector (μ y)`.  That
equivariance is what "attached" means; the content of the property is the derivative clause. -/

/-- **nuclear derivatives of every attached vector rotate with the frame** (mirror off): if
`μ' (alignCoords r y) = align_vector (μ y)` near `x` and `μ'` is differentiable at the aligned
geometry, the `(3,3n)` derivative array of `μ'` there is `align_vector_gradient` of that of `μ` at `x` -/
theorem vector_gradient_covariance (r : Recipe ℝ n n) (hm : r.mirror = false) (hR : IsOrtho r.rot)
    (hinj : Function.Injective r.map) (μ μ' : Geom ℝ n → Vec3 ℝ) (x : Geom ℝ n)
    (hequi : ∀ᶠ y in 𝓝 x, μ' (alignCoords r y) = alignVector r (μ y))
    (hμ' : DifferentiableAt ℝ μ' (alignCoords r x)) :
    vecGrad μ' (alignCoords r x) = alignVectorGradient r (vecGrad μ x) := by
  have hF := frame_of_not_mirror r hm
  set D' := fderiv ℝ μ' (alignCoords r x)
  let A := LinearMap.toContinuousLinearMap (rotBackLin r.rot)
  have hcomp : HasFDerivAt (A ∘ (μ' ∘ alignCoords r)) (A.comp (D'.comp (Jclm r))) x :=
    A.hasFDerivAt.comp x (hμ'.hasFDerivAt.comp x (hasFDerivAt_alignCoords r x))
  have hev : μ =ᶠ[𝓝 x] A ∘ (μ' ∘ alignCoords r) := by
    filter_upwards [hequi] with y hy
    show μ y = rotBackLin r.rot (μ' (alignCoords r y))
    rw [hy, rotBack_alignVector r hR]
  have hD := (hcomp.congr_of_eventuallyEq hev).fderiv
  funext a' c
  have key := congrArg (fun v => D' v a') (frame_J_basis r hR hinj (blk c) (off c))
  simp only [map_add, map_smul, Pi.add_apply, Pi.smul_apply, smul_eq_mul, hF] at key
  have hb := fun b => rowDot_transpose_rowDot hR (D' (J r (basisG (r.map (blk c)) b))) a'
  unfold vecGrad
  rw [← key]
  simp only [alignVectorGradient_apply, hD, blk_idx, off_idx, sum3, ContinuousLinearMap.comp_apply, Jclm_apply]
  simp only [A, LinearMap.coe_toContinuousLinearMap', rotBackLin, LinearMap.coe_mk, AddHom.coe_mk] at hb ⊢
  linear_combination (-(r.rot 0 (off c))) * hb 0 - r.rot 1 (off c) * hb 1 - r.rot 2 (off c) * hb 2

/-- (non-vacuity) the polynomial pair vector field `μ_w` of `Lemmas/Mill.lean` (cubic in the
coordinates, arbitrary weights) meets the hypotheses on every mirror-free recipe, by `field_covariance` -/
example (r : Recipe ℝ n n) (hm : r.mirror = false) (hR : IsOrtho r.rot)
    (hmap : Function.Bijective r.map) (w : Fin n → Fin n → ℝ) (x : Geom ℝ n) :
    vecGrad (fieldMu (permute r.map w)) (alignCoords r x)
      = alignVectorGradient r (vecGrad (fieldMu w) x) :=
  vector_gradient_covariance r hm hR hmap.1 (fieldMu w) (fieldMu (permute r.map w)) x
    (Filter.Eventually.of_forall fun y => (field_covariance r hm hR hmap w y).1)
    ((fieldMu_contDiff (permute r.map w) 1).differentiable (by simp)).differentiableAt

/-- `exRecipeR` without the mirror -/
def exRecipeRot : Recipe ℝ 3 3 := { exRecipeR with mirror := false }

/-- (test) a concrete instance: rotation by 90° about `z`, shift, 3-cycle atom map -/
example : vecGrad (fieldMu (permute exRecipeRot.map fun i j => (i.val : ℝ) + 2 * j.val))
      (alignCoords exRecipeRot exGeom)
    = alignVectorGradient exRecipeRot (vecGrad (fieldMu fun i j => (i.val : ℝ) + 2 * j.val) exGeom) :=
  vector_gradient_covariance exRecipeRot rfl exRecipeR_ortho exRecipeR_bij.1 _ _ exGeom
    (Filter.Eventually.of_forall fun y =>
      (field_covariance exRecipeRot rfl exRecipeR_ortho exRecipeR_bij _ y).1)
    ((fieldMu_contDiff _ 1).differentiable (by simp)).differentiableAt

/-! ## The polynomial pair energies of `Props/C13.lean` are an instance

`gradE_is_derivative` / `hessE_is_derivative` (expansions along lines, valid in any commutative ring)
become statements about the Fréchet derivative over ℝ: the explicit arrays `gradE`, `hessE` ARE the
coordinate arrays `grad`, `hess` of the derivatives of `energy`.  So `energy_gradient_covariance` /
`energy_hessian_covariance` are special cases of the general theorems above, and `grad` / `hess`
are checked against explicit formulas. -/

/-- the Fréchet gradient array of the polynomial pair energy is the explicit `gradE` -/
theorem grad_energy_eq_gradE (k c : Fin n → Fin n → ℝ) (hk : ∀ i j, k i j = k j i)
    (hc : ∀ i j, c i j = c j i) (x : Geom ℝ n) : grad (energy k c) x = gradE k c x := by
  funext i a
  obtain ⟨q2, q3, q4, h⟩ := gradE_is_derivative k c hk hc x (basisG i a)
  unfold grad
  rw [fderiv_of_line_expansion _ x (basisG i a)
    ((energy_contDiff k c 1).differentiable (by simp)).differentiableAt _ q2 q3 q4 h]
  exact inner_basisG (gradE k c x) i a

/-- the Fréchet Hessian array of the polynomial pair energy is the explicit `hessE` -/
theorem hess_energy_eq_hessE (k c : Fin n → Fin n → ℝ) (hk : ∀ i j, k i j = k j i)
    (hc : ∀ i j, c i j = c j i) (x : Geom ℝ n) : hess (energy k c) x = hessE k c x := by
  funext s t
  unfold hess
  have e : (fun y => fderiv ℝ (energy k c) y (basisG (blk t) (off t)))
      = fun y => gradE k c y (blk t) (off t) :=
    funext fun y => congrFun (congrFun (grad_energy_eq_gradE k c hk hc y) _) _
  rw [e]
  obtain ⟨q2, q3, h⟩ := hessE_is_derivative k c x (basisG (blk s) (off s))
  rw [fderiv_of_line_expansion _ x (basisG (blk s) (off s))
    ((gradE_contDiff k c (blk t) (off t) 1).differentiable (by simp)).differentiableAt
    (∑ s', hessE k c x (idx (blk t) (off t)) s' * flat (basisG (blk s) (off s)) s')
    (q2 (blk t) (off t)) (q3 (blk t) (off t)) 0 (by intro τ; rw [h τ]; ring)]
  simp only [flat_basisG, idx_blk_off, mul_ite, mul_one, mul_zero, Finset.sum_ite_eq', Finset.mem_univ,
    if_true]
  exact hessE_symm k c hk hc x t s

/-- (consistency) the general theorem specialised to the polynomial family gives back
`energy_gradient_covariance` and `energy_hessian_covariance` for symmetric couplings -/
example (r : Recipe ℝ n m) (hR : IsOrtho r.rot) (hmap : Function.Bijective r.map)
    (k c : Fin n → Fin n → ℝ) (hk : ∀ i j, k i j = k j i) (hc : ∀ i j, c i j = c j i) (x : Geom ℝ n) :
    gradE (permute r.map k) (permute r.map c) (alignCoords r x) = alignGradient r (gradE k c x)
    ∧ hessE (permute r.map k) (permute r.map c) (alignCoords r x) = alignHessian r (hessE k c x) := by
  have hk' : ∀ i j, permute r.map k i j = permute r.map k j i := fun i j => hk _ _
  have hc' : ∀ i j, permute r.map c i j = permute r.map c j i := fun i j => hc _ _
  have h := covariance_of_contDiffAt_original r hR hmap (energy k c)
    (energy (permute r.map k) (permute r.map c)) x
    (Filter.Eventually.of_forall fun y => energy_invariant r hR hmap k c hk hc y)
    (energy_contDiff k c 2).contDiffAt
  rw [grad_energy_eq_gradE _ _ hk' hc', grad_energy_eq_gradE _ _ hk hc,
    hess_energy_eq_hessE _ _ hk' hc', hess_energy_eq_hessE _ _ hk hc] at h
  exact h

/-! ## Non-vacuity (tests): a non-polynomial invariant energy meets every hypothesis above

recipe `exRecipeR` (rotation by 90° about `z`, shift `(1,-2,3)`, 3-cycle atom map, MIRROR ON), geometry
with atoms at `(0,0,0)`, `(1,0,0)`, `(2,0,0)`, energy Coulomb + harmonic with unit couplings. -/

theorem exGeom_distinct : ∀ i j : Fin 3, i ≠ j → dist2 exGeom i j ≠ 0 := by
  intro i j
  fin_cases i <;> fin_cases j <;> simp [dist2, sum3, exGeom] <;> norm_num

/-- Coulomb + harmonic energy with unit couplings -/
def exEnergy : Geom ℝ 3 → ℝ := pairEnergy fun _ _ => coulombHarmonic 1 1 1

/-- the hypotheses of `gradient_covariance`, `hessian_covariance`,
`hessian_covariance_of_contDiffAt`, `covariance_of_contDiffAt_original`,
`aligned_contDiffAt_of_invariant` are all met by this (non-polynomial) energy on a mirrored,
rotating, shifting, permuting recipe -/
example :
    (∀ᶠ y in 𝓝 exGeom, exEnergy (alignCoords exRecipeR y) = exEnergy y)
    ∧ ContDiffAt ℝ 2 exEnergy exGeom
    ∧ ContDiffAt ℝ 2 exEnergy (alignCoords exRecipeR exGeom)
    ∧ DifferentiableAt ℝ exEnergy (alignCoords exRecipeR exGeom)
    ∧ (∀ᶠ z in 𝓝 (alignCoords exRecipeR exGeom), DifferentiableAt ℝ exEnergy z)
    ∧ DifferentiableAt ℝ (fderiv ℝ exEnergy) (alignCoords exRecipeR exGeom) := by
  have hinv : ∀ᶠ y in 𝓝 exGeom, exEnergy (alignCoords exRecipeR y) = exEnergy y :=
    Filter.Eventually.of_forall fun y =>
      pairEnergy_invariant exRecipeR exRecipeR_ortho exRecipeR_bij (fun _ _ => coulombHarmonic 1 1 1) y
  have h2 : ContDiffAt ℝ 2 exEnergy exGeom :=
    pairEnergy_contDiffAt _ _ 2 fun i j hij => coulombHarmonic_contDiffAt _ _ _ _
      (lt_of_le_of_ne (dist2_nonneg exGeom i j) (exGeom_distinct i j hij).symm) 2
  have h2' := aligned_contDiffAt_of_invariant exRecipeR exRecipeR_ortho exRecipeR_bij
    exEnergy exEnergy exGeom hinv 2 h2
  exact ⟨hinv, h2, h2', h2'.differentiableAt (by simp),
    (twice_differentiable_of_contDiffAt h2').1, (twice_differentiable_of_contDiffAt h2').2⟩

/-- (test) the conclusion on this instance -/
example :
    grad exEnergy (alignCoords exRecipeR exGeom) = alignGradient exRecipeR (grad exEnergy exGeom)
    ∧ hess exEnergy (alignCoords exRecipeR exGeom) = alignHessian exRecipeR (hess exEnergy exGeom) :=
  coulomb_harmonic_covariance exRecipeR exRecipeR_ortho exRecipeR_bij
    (fun _ _ => 1) (fun _ _ => 1) (fun _ _ => 1) exGeom exGeom_distinct

/-- (test) the geometry of the instance is really moved: aligned atom 0 (= original atom 1 at
`(1,0,0)`: reflect `(1,0,0)`, shift `(0,2,-3)`, rotate `(2,0,-3)`) -/
example : alignCoords exRecipeR exGeom 0 0 = 2 ∧ alignCoords exRecipeR exGeom 0 2 = -3 := by
  constructor <;> simp [alignCoords, takeRows, rowDot, flipY, sum3, exRecipeR, exRecipe, exGeom]

/-- (test) the aligned geometry of the instance has no coincident atoms either -/
theorem exGeom_aligned_distinct :
    ∀ i j : Fin 3, i ≠ j → dist2 (alignCoords exRecipeR exGeom) i j ≠ 0 := by
  intro i j hij
  rw [dist2_align exRecipeR exRecipeR_ortho]
  exact exGeom_distinct _ _ fun e => hij (exRecipeR_bij.1 e)

/-- (test) hypothesis of `distance_energy_covariance` at the aligned geometry of the instance:
`ψ D = Σ_{i≠j} 1/√D_ij + (√D_ij − 1)²` -/
example : ContDiffAt ℝ 2
    (fun z : Geom ℝ 3 => (fun D : Fin 3 → Fin 3 → ℝ => ∑ i, ∑ j, if i = j then 0 else coulombHarmonic 1 1 1 (D i j))
      (dist2 z)) (alignCoords exRecipeR exGeom) :=
  pairEnergy_contDiffAt (fun _ _ => coulombHarmonic 1 1 1) _ 2 fun i j hij =>
    coulombHarmonic_contDiffAt _ _ _ _
      (lt_of_le_of_ne (dist2_nonneg _ i j) (exGeom_aligned_distinct i j hij).symm) 2

/-- (test) symmetric couplings as `grad_energy_eq_gradE` / `hess_energy_eq_hessE` ask for exist and
are not constant: `k_ij = i + j`; the explicit gradient they produce at the test geometry is non-zero
(`∂E/∂x_{0,x} = Σ_j 4 k_0j (|x_0−x_j|² − c_0j)(x_0 − x_j)_x = 4·1·1·(−1) + 4·2·4·(−2) = −68` for `c = 0`),
so `grad` of this instance is a non-trivial array -/
example : (∀ i j : Fin 3, (fun i j : Fin 3 => ((i.val + j.val : ℕ) : ℝ)) i j
      = (fun i j : Fin 3 => ((i.val + j.val : ℕ) : ℝ)) j i)
    ∧ grad (energy (fun i j : Fin 3 => ((i.val + j.val : ℕ) : ℝ)) fun _ _ => 0) exGeom 0 0 = -68 := by
  refine ⟨fun i j => by simp [Nat.add_comm], ?_⟩
  rw [grad_energy_eq_gradE _ _ (fun i j => by simp [Nat.add_comm]) (fun _ _ => rfl)]
  simp [gradE, dist2, sum3, exGeom, Fin.sum_univ_three]
  norm_num

end

end QcelVerif.Mill
