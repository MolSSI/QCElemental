import QcelVerif.Lemmas.CodataBuild
import QcelVerif.Gen.Codata2018
/-! C02 table theorem, CODATA 2018 (kernel evaluation over the generated tables). -/
namespace QcelVerif.Codata
open QcelVerif

/-- **The shipped 2018 table is NIST's published ASCII table** (`raw_data/nist_data/codata-2018.txt`):
row for row, in order, none missing or extra — key = lower-cased name, same name, same value text
after deleting blanks and the `...` of exact values, same uncertainty text, unit equal up to `{}`
exponent markup (`^-1` ↦ `^{-1}`, `_90` ↦ `_{90}`). -/
theorem shipped_eq_nist_2018 :
    tableMatchesTxt Gen.Codata2018.shipped Gen.Codata2018.raw = true :=
  tableMatchesTxt_of_pairs (by decide +kernel)

/-- test (not a property): 354 rows -/
example : Gen.Codata2018.shipped.length = 354 := by decide +kernel

end QcelVerif.Codata
