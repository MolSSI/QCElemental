import QcelVerif.Model.CompareWide
import QcelVerif.Props.C19
import QcelVerif.Lib.InsertionSort
import QcelVerif.Lib.Monadic
/-!
# C19 — theorems about `Model/CompareWide.lean`: the pairs `Model/Compare.lean` leaves out, `compare_molrecs`, `ProtoModel.compare`

On modelled inputs `compare_recursive` raises only for `atol >= 1`.
-/
namespace QcelVerif.Compare

/-! ## `compare_recursive` over the wide recursion -/

/-- names of the error entries of the wide recursion -/
def namesW (items : List ItemW) : List String := (errsOfW items).map Err.name

/-- below the refusal bound and on modelled inputs, wide `compare_recursive` is the two filter stages over the
entries of the two recursions -/
theorem compareRecursiveW_eq_stages {atol : Rat} (ha : ¬ 1 ≤ atol) (rtol : Rat) (forgive : Option (List String))
    (phase : PhaseOpt) {e c : Tree}
    (hm : ItemW.unmodelled ∉ recErrsW ⟨atol, rtol, false⟩ "root" e c)
    (hm' : ItemW.unmodelled ∉ recErrsW ⟨atol, rtol, true⟩ "root" e c) :
    compareRecursiveW atol rtol forgive phase e c =
      stagesVerdict forgive phase (namesW (recErrsW ⟨atol, rtol, true⟩ "root" e c))
        (errsOfW (recErrsW ⟨atol, rtol, false⟩ "root" e c)) := by
  have hc1 : (recErrsW ⟨atol, rtol, false⟩ "root" e c).contains .unmodelled = false := by simpa using hm
  have hc2 : (recErrsW ⟨atol, rtol, true⟩ "root" e c).contains .unmodelled = false := by simpa using hm'
  simp only [compareRecursiveW, ha, hc1, hc2, if_false, Bool.and_false, Bool.false_eq_true]
  rfl

theorem compareRecursiveW_atol_ge_one (atol rtol : Rat) (forgive : Option (List String)) (phase : PhaseOpt)
    (e c : Tree) (h : 1 ≤ atol) : compareRecursiveW atol rtol forgive phase e c = .raised .valueError := by
  simp [compareRecursiveW, h]

theorem compareRecursiveW_verdict {atol : Rat} (ha : ¬ 1 ≤ atol) (rtol : Rat) (forgive : Option (List String))
    (phase : PhaseOpt) {e c : Tree}
    (hm : ItemW.unmodelled ∉ recErrsW ⟨atol, rtol, false⟩ "root" e c)
    (hm' : ItemW.unmodelled ∉ recErrsW ⟨atol, rtol, true⟩ "root" e c) :
    ∃ b, compareRecursiveW atol rtol forgive phase e c = .verdict b :=
  compareRecursiveW_eq_stages ha rtol forgive phase hm hm' ▸ (stagesVerdict_spec ..).1

/-- **Wide `compare_recursive` returns True exactly when** `atol < 1` and every error entry the recursion produced is
excused: open to the sign-flip retry and absent from the sign-tolerant recursion, or forgiven.  (An exact
leaf against an array-like of size ≠ 1 is an ordinary error entry: the `ValueError` of `bool(array)` is caught.) -/
theorem compare_recursiveW_iff (atol rtol : Rat) (forgive : Option (List String)) (phase : PhaseOpt) (e c : Tree)
    (hm : ItemW.unmodelled ∉ recErrsW ⟨atol, rtol, false⟩ "root" e c)
    (hm' : ItemW.unmodelled ∉ recErrsW ⟨atol, rtol, true⟩ "root" e c) :
    compareRecursiveW atol rtol forgive phase e c = .verdict true ↔
      (atol < 1 ∧
        ∀ p ∈ namesW (recErrsW ⟨atol, rtol, false⟩ "root" e c),
          (PhaseListed phase p ∧ p ∉ namesW (recErrsW ⟨atol, rtol, true⟩ "root" e c)) ∨ Forgiven forgive p) := by
  by_cases ha : 1 ≤ atol
  · simp [compareRecursiveW_atol_ge_one, ha, Rat.not_lt.mpr ha]
  · rw [compareRecursiveW_eq_stages ha rtol forgive phase hm hm', (stagesVerdict_spec ..).2,
      and_iff_right (Rat.not_le.mp ha), ← namesW]

/-- **Wide `compare_recursive` raises exactly when** `atol ≥ 1` (the documented refusal) — nothing else raises on
modelled inputs. -/
theorem compare_recursiveW_raises_iff (atol rtol : Rat) (forgive : Option (List String)) (phase : PhaseOpt) (e c : Tree)
    (hm : ItemW.unmodelled ∉ recErrsW ⟨atol, rtol, false⟩ "root" e c)
    (hm' : ItemW.unmodelled ∉ recErrsW ⟨atol, rtol, true⟩ "root" e c) (x : Exc) :
    compareRecursiveW atol rtol forgive phase e c = .raised x ↔ 1 ≤ atol := by
  by_cases ha : 1 ≤ atol
  · cases x; simp [compareRecursiveW_atol_ge_one, ha]
  · obtain ⟨b, hb⟩ := compareRecursiveW_verdict ha rtol forgive phase hm hm'
    simp [hb, ha]

/-- the wide model always answers (a verdict or the documented ValueError) on its modelled inputs -/
theorem compare_recursiveW_total (atol rtol : Rat) (forgive : Option (List String)) (phase : PhaseOpt) (e c : Tree)
    (hm : ItemW.unmodelled ∉ recErrsW ⟨atol, rtol, false⟩ "root" e c)
    (hm' : ItemW.unmodelled ∉ recErrsW ⟨atol, rtol, true⟩ "root" e c) :
    compareRecursiveW atol rtol forgive phase e c ≠ .unmodelled := by
  by_cases ha : 1 ≤ atol
  · simp [compareRecursiveW_atol_ge_one, ha]
  · obtain ⟨b, hb⟩ := compareRecursiveW_verdict ha rtol forgive phase hm hm'
    simp [hb]

/-- tests (kernel-evaluated) of the wide model: an exact leaf vs an array of size 2 / a list of size 2 (mismatch, no
exception), vs an array of size 1 (its element decides); a list vs a str and vs a dict (one entry, forgivable); a list vs
an ndarray (compared as its rows); a ragged `computed` under a float leaf (False) -/
example : compareRecursiveW (1/1000000) 0 none .off
    (.dict [("a", .sc (.int 1))]) (.dict [("a", .arr .int [2] [.npint 1, .npint 2])]) = .verdict false := by
  decide +kernel
example : compareRecursiveW (1/1000000) 0 none .off
    (.dict [("a", .sc (.npbool true))]) (.dict [("a", .list [.sc (.bool true), .sc (.bool true)])]) = .verdict false := by
  decide +kernel
example : compareRecursiveW (1/1000000) 0 none .off
    (.dict [("a", .sc (.int 1))]) (.dict [("a", .arr .int [1] [.npint 1])]) = .verdict true := by
  decide +kernel
example : compareRecursiveW (1/1000000) 0 none .off
    (.dict [("a", .list [.sc (.str "x"), .sc (.str "y")])]) (.dict [("a", .sc (.str "xy"))]) = .verdict false := by
  decide +kernel
example : compareRecursiveW (1/1000000) 0 (some ["a"]) .off
    (.dict [("a", .list [.sc (.str "x"), .sc (.str "y")])])
    (.dict [("a", .dict [("x", .sc (.int 1)), ("y", .sc (.int 2))])]) = .verdict true := by
  decide +kernel
example : compareRecursiveW (1/1000000) 0 none .off
    (.dict [("a", .list [.sc (.str "x"), .sc (.str "y")])])
    (.dict [("a", .dict [("x", .sc (.int 1)), ("y", .sc (.int 2))])]) = .verdict false := by
  decide +kernel
example : compareRecursiveW (1/1000000) 0 none .off
    (.dict [("a", .list [.sc (.flt (.fin 1)), .sc (.flt (.fin 2))])])
    (.dict [("a", .arr .flt [2] [.npflt (.fin 1), .npflt (.fin 2)])]) = .verdict true := by
  decide +kernel
example : compareRecursiveW (1/1000000) 0 none .off
    (.dict [("a", .sc (.flt (.fin 1)))])
    (.dict [("a", .list [.list [.sc (.flt (.fin 1)), .sc (.flt (.fin 2))], .list [.sc (.flt (.fin 3))]])]) = .verdict false := by
  decide +kernel

/-! ## `ProtoModel.compare` -/

/-- `ProtoModel.compare(other, **kw)` is `compare_recursive` on the two `.dict()` trees with `compare_recursive`'s own
keyword defaults for whatever the caller leaves out (basemodels.py:196-198) -/
theorem protoCompare_eq (kw : CompareKw) (a b : Tree) :
    protoCompare kw a b =
      compareRecursiveW (kw.atol.getD atolDefault) (kw.rtol.getD rtolDefault) kw.forgive kw.phase a b := rfl

theorem atolDefault_lt_one : atolDefault < 1 := by decide +kernel

/-- **`a.compare(b)` with no keywords returns True exactly when** the recursion with atol = 1e-6, rtol = 1e-16 produces
no error entry at all (nothing is forgiven, no sign retry). -/
theorem protoCompare_default_iff (a b : Tree)
    (hm : ItemW.unmodelled ∉ recErrsW ⟨atolDefault, rtolDefault, false⟩ "root" a b)
    (hm' : ItemW.unmodelled ∉ recErrsW ⟨atolDefault, rtolDefault, true⟩ "root" a b) :
    protoCompare {} a b = .verdict true ↔ namesW (recErrsW ⟨atolDefault, rtolDefault, false⟩ "root" a b) = [] := by
  show compareRecursiveW atolDefault rtolDefault none .off a b = .verdict true ↔ _
  rw [compare_recursiveW_iff _ _ _ _ _ _ hm hm', and_iff_right atolDefault_lt_one, List.eq_nil_iff_forall_not_mem]
  simp [PhaseListed, Forgiven]

/-- non-vacuity (tests): the default tolerance is the double 1e-6 — a leaf off by 1e-6 + 1e-12 fails, by 9e-7 passes -/
example : protoCompare {} (.dict [("x", .sc (.flt (.fin 1)))]) (.dict [("x", .sc (.flt (.fin (1 + 9/10000000))))])
    = .verdict true := by decide +kernel
example : protoCompare {} (.dict [("x", .sc (.flt (.fin 1)))]) (.dict [("x", .sc (.flt (.fin (1 + 1000001/1000000000000))))])
    = .verdict false := by decide +kernel
example : protoCompare { forgive := some ["x"] } (.dict [("x", .sc (.flt (.fin 1)))]) (.dict [("x", .sc (.flt (.fin 2)))])
    = .verdict true := by decide +kernel

/-! ## `compare_molrecs`: the normalisation -/

/-- `mapKey` keeps the key list (so "the key sets match" is a statement about the raw records) -/
theorem mapKey_keys (k : String) (f : Tree → Except MErr Tree) : ∀ kv kv',
    mapKey k f kv = .ok kv' → kv'.map Prod.fst = kv.map Prod.fst
  | [], kv', h => by cases h; rfl
  | (k', v) :: t, kv', h => by
    simp only [mapKey] at h
    split at h
    · split at h <;> cases h
      rfl
    · split at h <;> cases h
      simp [mapKey_keys k f t _ ‹_›]

/-- `b` holds `g` of what `a` holds; absent stays absent -/
def FieldRel (g : Tree → Except MErr Tree) (a b : Option Tree) : Prop :=
  (a = none ∧ b = none) ∨ (∃ v v', a = some v ∧ g v = .ok v' ∧ b = some v')

theorem FieldRel.comp {g g' : Tree → Except MErr Tree} {a b c : Option Tree} (h : FieldRel g a b) (h' : FieldRel g' b c) :
    FieldRel (fun v => g v >>= g') a c := by
  rcases h with ⟨ha, hb⟩ | ⟨v, v', ha, hg, hb⟩
  · rcases h' with ⟨_, hc⟩ | ⟨w, _, hw, _⟩
    · exact Or.inl ⟨ha, hc⟩
    · rw [hb] at hw; cases hw
  · rcases h' with ⟨hb', _⟩ | ⟨w, w', hw, hg', hc⟩
    · rw [hb] at hb'; cases hb'
    · rw [hb] at hw; cases hw
      exact Or.inr ⟨v, w', ha, by simp [hg, hg', bind, Except.bind], hc⟩

/-- under every key `j`, `mapKey k f` applies `f` if `j` is `k` and nothing otherwise -/
theorem mapKey_lookup (k : String) (f : Tree → Except MErr Tree) (j : String) : ∀ kv kv',
    mapKey k f kv = .ok kv' → FieldRel (if j == k then f else .ok) (lookup j kv) (lookup j kv')
  | [], kv', h => by cases h; exact Or.inl ⟨rfl, rfl⟩
  | (k', v) :: t, kv', h => by
    simp only [mapKey] at h
    split at h
    · rename_i hk
      have hkk : k = k' := by simpa using hk
      subst hkk
      split at h <;> cases h
      rename_i v' hf
      by_cases hj : (j == k) = true
      · exact Or.inr ⟨v, v', by simp [lookup, hj], by simp [hj, hf], by simp [lookup, hj]⟩
      · simp only [lookup, hj, if_false, Bool.false_eq_true]
        cases hl : lookup j t with
        | none => exact Or.inl ⟨rfl, rfl⟩
        | some w => exact Or.inr ⟨w, w, rfl, rfl, rfl⟩
    · rename_i hk
      split at h <;> cases h
      rename_i t' hr
      have ih := mapKey_lookup k f j t t' hr
      by_cases hj : (j == k') = true
      · have hjk : ¬ (j == k) = true := by
          intro h'; apply hk; rw [← (by simpa using h' : j = k), hj]
        exact Or.inr ⟨v, v, by simp [lookup, hj], by simp [hjk], by simp [lookup, hj]⟩
      · simpa [lookup, hj] using ih

/-- the value stored under `k` is replaced by `f` of it -/
theorem mapKey_lookup_self (k : String) (f : Tree → Except MErr Tree) : ∀ kv kv',
    mapKey k f kv = .ok kv' →
      (lookup k kv = none ∧ lookup k kv' = none) ∨ (∃ v v', lookup k kv = some v ∧ f v = .ok v' ∧ lookup k kv' = some v') := by
  intro kv kv' h
  simpa [FieldRel] using mapKey_lookup k f k kv kv' h

/-- every other key keeps its value -/
theorem mapKey_lookup_other (k : String) (f : Tree → Except MErr Tree) (j : String) (hj : (j == k) = false) : ∀ kv kv',
    mapKey k f kv = .ok kv' → lookup j kv' = lookup j kv := by
  intro kv kv' h
  rcases mapKey_lookup k f j kv kv' h with ⟨h1, h2⟩ | ⟨v, v', h1, hg, h2⟩
  · rw [h1, h2]
  · rw [hj] at hg
    cases hg
    rw [h1, h2]

/-- a successful `massage_dicts` is its four updates in the source's order -/
theorem massage_steps {kv : List (String × Tree)} {t' : Tree} (h : massage (.dict kv) = .ok t') :
    ∃ kv1 kv2 kv3 kv4, mapKey "fragment_files" normFiles kv = .ok kv1 ∧
      mapKey "fragment_separators" normSeps kv1 = .ok kv2 ∧ mapKey "provenance" normProv kv2 = .ok kv3 ∧
      mapKey "connectivity" normConn kv3 = .ok kv4 ∧ t' = .dict kv4 := by
  simp only [massage] at h
  repeat' split at h
  all_goals cases h
  exact ⟨_, _, _, _, ‹_›, ‹_›, ‹_›, ‹_›, rfl⟩

theorem massage_keys (kv : List (String × Tree)) (t' : Tree) (h : massage (.dict kv) = .ok t') :
    ∃ kv', t' = .dict kv' ∧ kv'.map Prod.fst = kv.map Prod.fst := by
  obtain ⟨kv1, kv2, kv3, kv4, h1, h2, h3, h4, rfl⟩ := massage_steps h
  exact ⟨kv4, rfl, by rw [mapKey_keys _ _ _ _ h4, mapKey_keys _ _ _ _ h3, mapKey_keys _ _ _ _ h2, mapKey_keys _ _ _ _ h1]⟩

/-- the normaliser `massage_dicts` applies to the value stored under a key (identity for every ordinary field:
geometry, units, masses, charges, … are compared as they are) -/
def fieldNorm (k : String) : Tree → Except MErr Tree :=
  if k == "fragment_files" then normFiles
  else if k == "fragment_separators" then normSeps
  else if k == "provenance" then normProv
  else if k == "connectivity" then normConn
  else fun v => .ok v

/-- **What `compare_molrecs` compares**: the massaged record has, under every key `j`, exactly `fieldNorm j` of the raw
value (absent keys stay absent) — files as text, separators as ints, provenance minus `version`, bonds as
(low, high, order) stably sorted by the whole tuple; every other field unchanged. -/
theorem massage_field (kv kv' : List (String × Tree)) (h : massage (.dict kv) = .ok (.dict kv')) (j : String) :
    (lookup j kv = none ∧ lookup j kv' = none) ∨
    (∃ v v', lookup j kv = some v ∧ fieldNorm j v = .ok v' ∧ lookup j kv' = some v') := by
  obtain ⟨kv1, kv2, kv3, kv4, h1, h2, h3, h4, h5⟩ := massage_steps h
  cases h5
  -- the four updates compose; `j` is at most one of the four (distinct) keys, so at most one of them acts
  have hc := (((mapKey_lookup _ _ j _ _ h1).comp (mapKey_lookup _ _ j _ _ h2)).comp (mapKey_lookup _ _ j _ _ h3)).comp
    (mapKey_lookup _ _ j _ _ h4)
  suffices hg : ∀ v, fieldNorm j v = ((((if j == "fragment_files" then normFiles else .ok) v >>=
      (if j == "fragment_separators" then normSeps else .ok)) >>= (if j == "provenance" then normProv else .ok)) >>=
      (if j == "connectivity" then normConn else .ok)) by
    simpa only [FieldRel, hg] using hc
  intro v
  unfold fieldNorm
  by_cases e1 : j = "fragment_files"
  · subst e1; simp [except_bind_ok]
  · by_cases e2 : j = "fragment_separators"
    · subst e2; simp [except_ok_bind, except_bind_ok]
    · by_cases e3 : j = "provenance"
      · subst e3; simp [except_ok_bind, except_bind_ok]
      · by_cases e4 : j = "connectivity"
        · subst e4; simp [except_ok_bind, except_bind_ok]
        · simp [e1, e2, e3, e4, except_bind_ok]

/-! ### the bond regularisation: a stable sort by the whole (low, high, order) tuple -/

theorem lexLe_trans {a b c : Rat × Rat × Rat} (h1 : lexLe a b) (h2 : lexLe b c) : lexLe a c := by
  unfold lexLe at *
  obtain ⟨p1, q1⟩ := h1
  obtain ⟨p2, q2⟩ := h2
  refine ⟨Rat.le_trans p1 p2, fun hca => ?_⟩
  obtain ⟨r1, s1⟩ := q1 (Rat.le_trans p2 hca)
  obtain ⟨r2, s2⟩ := q2 (Rat.le_trans hca p1)
  refine ⟨Rat.le_trans r1 r2, fun hca2 => ?_⟩
  exact Rat.le_trans (s1 (Rat.le_trans r2 hca2)) (s2 (Rat.le_trans hca2 r1))

theorem lexLe_total {a b : Rat × Rat × Rat} (h : ¬ lexLe a b) : lexLe b a := by
  -- `a` is beyond `b` at the first component where they differ
  have h' : b.1 < a.1 ∨ (b.1 ≤ a.1 ∧ (b.2.1 < a.2.1 ∨ (b.2.1 ≤ a.2.1 ∧ b.2.2 < a.2.2))) := by
    simpa only [lexLe, Classical.not_and_iff_not_or_not, Classical.not_imp, Rat.not_le] using h
  rcases h' with h1 | ⟨p, h2 | ⟨q, h3⟩⟩
  · exact ⟨Rat.le_of_lt h1, fun hp => absurd hp (Rat.not_le.mpr h1)⟩
  · exact ⟨p, fun _ => ⟨Rat.le_of_lt h2, fun hq => absurd hq (Rat.not_le.mpr h2)⟩⟩
  · exact ⟨p, fun _ => ⟨q, fun _ => Rat.le_of_lt h3⟩⟩

/-- the order `conn.sort()` puts the normalised bonds in, as a boolean comparison -/
def bondTupleLe (a b : Tree) : Bool := decide (lexLe (bondKey a) (bondKey b))

theorem insertBond_eq (t : Tree) : ∀ l, insertBond t l = Hash.insertBy bondTupleLe t l
  | [] => rfl
  | u :: us => by simp [insertBond, Hash.insertBy, bondTupleLe, insertBond_eq t us]

theorem sortBonds_eq : ∀ l, sortBonds l = Hash.sortBy bondTupleLe l
  | [] => rfl
  | t :: ts => by simp [sortBonds, Hash.sortBy, insertBond_eq, sortBonds_eq ts]

/-- the result holds the same bonds -/
theorem sortBonds_perm : ∀ l, (sortBonds l).Perm l :=
  fun l => sortBonds_eq l ▸ Hash.sortBy_perm l

/-- … in lexicographic order of (low atom, high atom, bond order): Python's tuple order -/
theorem sortBonds_sorted : ∀ l, (sortBonds l).Pairwise (fun a b => lexLe (bondKey a) (bondKey b)) := by
  intro l
  have h := Hash.sortBy_sorted (le := bondTupleLe)
    (fun a b => by simpa [bondTupleLe] using Classical.or_iff_not_imp_left.mpr lexLe_total)
    (fun a b c hab hbc => by simpa [bondTupleLe] using lexLe_trans (of_decide_eq_true hab) (of_decide_eq_true hbc)) l
  simpa [Hash.Sorted, bondTupleLe, sortBonds_eq] using h

/-! ### the verdict -/

theorem ofRes_eq_verdict (r : Res) (b : Bool) : MRes.ofRes r = .verdict b ↔ r = .verdict b := by
  rcases r with _ | ⟨⟨⟩⟩ | _ <;> simp [MRes.ofRes]

theorem ofRes_eq_raised (r : Res) (x : MExc) :
    MRes.ofRes r = .raised x ↔ x = .valueError ∧ r = .raised .valueError := by
  rcases r with _ | ⟨⟨⟩⟩ | _ <;> simp [MRes.ofRes, eq_comm]

/-- **`compare_molrecs` passes iff** both raw records normalise (no exception inside `massage_dicts`) and the two
normalised records pass `compare_recursive` with the same tolerances and forgive list (no sign retry) — i.e. agree on
every field after exactly the normalisation `massage_field` describes, within tolerance on the float fields.
`relative_geoms` is anything but 'align'. -/
theorem compare_molrecs_iff (atol rtol : Rat) (forgive : Option (List String)) (rg : RelGeoms) (e c : Tree) :
    compareMolrecs atol rtol forgive rg e c = .verdict true ↔
      (rg ≠ .align ∧ ∃ e' c', massage e = .ok e' ∧ massage c = .ok c' ∧
        compareRecursiveW atol rtol forgive .off e' c' = .verdict true) := by
  unfold compareMolrecs
  cases he : massage e with
  | error x => cases x <;> simp
  | ok e' =>
    cases hc : massage c with
    | error x => cases x <;> simp
    | ok c' =>
      by_cases hrg : rg = .align
      · simp [hrg]
      · simp [hrg, ofRes_eq_verdict]

/-- which exceptions leave `compare_molrecs`: the first one `massage_dicts` raises (expected record first), else the
ValueError of `compare_recursive` -/
theorem compare_molrecs_raises_iff (atol rtol : Rat) (forgive : Option (List String)) (rg : RelGeoms) (e c : Tree) (x : MExc) :
    compareMolrecs atol rtol forgive rg e c = .raised x ↔
      (massage e = .error (.raised x) ∨
       (∃ e', massage e = .ok e' ∧ massage c = .error (.raised x)) ∨
       (rg ≠ .align ∧ x = .valueError ∧ ∃ e' c', massage e = .ok e' ∧ massage c = .ok c' ∧
          compareRecursiveW atol rtol forgive .off e' c' = .raised .valueError)) := by
  unfold compareMolrecs
  cases he : massage e with
  | error y => cases y <;> simp
  | ok e' =>
    cases hc : massage c with
    | error y => cases y <;> simp
    | ok c' =>
      by_cases hrg : rg = .align
      · simp [hrg]
      · simp [hrg, ofRes_eq_raised]

/-- non-vacuity (tests): version is dropped, a reversed bond is the same bond, units are compared as text -/
example : compareMolrecs atolDefault rtolDefault none .exact
    (.dict [("units", .sc (.str "Angstrom")), ("provenance", .dict [("creator", .sc (.str "q")), ("version", .sc (.str "1"))]),
            ("connectivity", .list [.list [.sc (.int 1), .sc (.int 0), .sc (.flt (.fin 1))]])])
    (.dict [("units", .sc (.str "Angstrom")), ("provenance", .dict [("creator", .sc (.str "q")), ("version", .sc (.str "2"))]),
            ("connectivity", .list [.list [.sc (.int 0), .sc (.int 1), .sc (.flt (.fin 1))]])]) = .verdict true := by
  decide +kernel
example : compareMolrecs atolDefault rtolDefault none .exact
    (.dict [("units", .sc (.str "Angstrom"))]) (.dict [("units", .sc (.str "Bohr"))]) = .verdict false := by
  decide +kernel
/-- test of the sort by the whole tuple: the bonds 0-2, 1-0 listed in that order come out as 0-1, 0-2 (second atoms 1, 2) -/
example : (match normConn (.list [.list [.sc (.int 0), .sc (.int 2), .sc (.flt (.fin 1))], .list [.sc (.int 1), .sc (.int 0), .sc (.flt (.fin 1))]]) with
    | .ok (.list [.list [_, .sc (.int x), _], .list [_, .sc (.int y), _]]) => (x, y)
    | _ => (0, 0)) = (1, 2) := by
  decide +kernel
/-- … so two listings of the same bonds compare equal -/
example : compareMolrecs atolDefault rtolDefault none .exact
    (.dict [("connectivity", .list [.list [.sc (.int 0), .sc (.int 1), .sc (.flt (.fin 1))], .list [.sc (.int 0), .sc (.int 2), .sc (.flt (.fin 1))]])])
    (.dict [("connectivity", .list [.list [.sc (.int 2), .sc (.int 0), .sc (.flt (.fin 1))], .list [.sc (.int 0), .sc (.int 1), .sc (.flt (.fin 1))]])])
    = .verdict true := by
  decide +kernel

/-! ## the wide model is a conservative extension of `Model/Compare.lean` -/

def liftItem : Item → ItemW
  | .err e => .err e
  | .unmodelled => .unmodelled

theorem compareValuesW_eq {o : VOpts} {e c : Tree} (hf : ∃ f, flatten e = .ok f) (h : compareValues o e c ≠ .unmodelled) :
    compareValuesW o e c = compareValues o e c := by
  obtain ⟨f, hf⟩ := hf
  unfold compareValuesW
  rw [hf]
  cases hr : compareValues o e c with
  | unmodelled => exact absurd hr h
  | verdict b => rfl
  | raised x => rfl

theorem compareExactW_eq {phase : Bool} {e c : Tree} (h : compareExact phase e c ≠ .unmodelled) :
    compareExactW phase e c = compareExact phase e c := by
  obtain ⟨fe, fc, ke, kc, he, hc, hke, hkc⟩ := flat_of_compareExact h
  simp only [compareExactW, he, hke, hc]

/-- a leaf decided by one of the two helpers: where the narrow helper answers, the wide one agrees -/
theorem verdictOfW_lift {name : String} {tag : Nat} {r r' : Res} (h : Item.unmodelled ∉ verdictOf name tag r)
    (hr : r ≠ .unmodelled → r' = r) : verdictOfW name tag r' = (verdictOf name tag r).map liftItem := by
  cases r with
  | verdict b => rw [hr nofun]; cases b <;> rfl
  | raised e => rw [hr nofun]; rfl
  | unmodelled => simp [verdictOf] at h

theorem exactLeafW_lift {name : String} {s : Sc} {c : Tree} (h : Item.unmodelled ∉ exactLeaf name s c) :
    exactLeafW name s c = (exactLeaf name s c).map liftItem := by
  cases c with
  | sc t => by_cases hh : scEq s t = true <;> simp [exactLeafW, exactLeaf, hh, liftItem]
  | list l =>
    cases hs : s.isNumpy
    · simp [exactLeafW, exactLeaf, hs, liftItem]
    · simp [exactLeaf, hs] at h
  | dict kv => simp [exactLeafW, exactLeaf, liftItem]
  | arr k sh fl => simp [exactLeaf] at h

theorem recErrsW_sc_conservative (o : ROpts) (name : String) : ∀ s c, Item.unmodelled ∉ recErrs o name (.sc s) c →
    recErrsW o name (.sc s) c = (recErrs o name (.sc s) c).map liftItem
  | .str _, c, h | .int _, c, h | .bool _, c, h | .cpx _, c, h | .npcpx _, c, h | .npbool _, c, h => by
    simp only [recErrs] at h
    simp only [recErrsW, recErrs]
    exact exactLeafW_lift h
  | .flt _, c, h | .npflt _, c, h | .npint _, c, h => by
    simp only [recErrs] at h
    simp only [recErrsW, recErrs]
    exact verdictOfW_lift h (compareValuesW_eq ⟨_, rfl⟩)
  | .none, c, _ => by
    simp only [recErrsW, recErrs]
    split <;> rfl

mutual
/-- on every pair the narrow model answers, the wide recursion produces the same entries -/
theorem recErrsW_conservative (o : ROpts) (name : String) : ∀ e c, Item.unmodelled ∉ recErrs o name e c →
    recErrsW o name e c = (recErrs o name e c).map liftItem
  | .sc s, c, h => recErrsW_sc_conservative o name s c h
  | .arr k sh fl, c, h => by
    simp only [recErrs] at h
    simp only [recErrsW, recErrs]
    by_cases hk : k = .flt
    · simp only [hk, if_true] at h ⊢
      exact verdictOfW_lift h (compareValuesW_eq ⟨_, rfl⟩)
    · simp only [hk, if_false] at h ⊢
      exact verdictOfW_lift h compareExactW_eq
  | .list es, c, h => by
    cases c with
    | list cs =>
      simp only [recErrs] at h
      simp only [recErrsW, recErrs, asSeq]
      by_cases hl : es.length = cs.length
      · simp only [hl, ne_eq, not_true_eq_false, if_false] at h ⊢
        exact recListW_conservative o name 0 es cs h
      · simp [hl, liftItem]
    | sc t => cases t <;> simp [recErrs] at h <;> simp [recErrsW, recErrs, asSeq, liftItem]
    | _ => simp [recErrs] at h
  | .dict ekv, c, h => by
    cases c with
    | dict ckv =>
      simp only [recErrs, List.mem_append, not_or] at h
      simp only [recErrsW, recErrs, List.map_append, recDictW_conservative o name ekv ckv h.2]
      congr 2 <;> split <;> rfl
    | _ => simp [recErrsW, recErrs, liftItem]
theorem recListW_conservative (o : ROpts) (name : String) : ∀ i es cs, Item.unmodelled ∉ recList o name i es cs →
    recListW o name i es cs = (recList o name i es cs).map liftItem
  | _, [], _, _ => by simp [recListW, recList]
  | _, _ :: _, [], _ => by simp [recListW, recList]
  | i, e :: es, c :: cs, h => by
    simp only [recList, List.mem_append, not_or] at h
    simp only [recListW, recList, List.map_append]
    rw [recErrsW_conservative o _ e c h.1, recListW_conservative o name (i + 1) es cs h.2]
theorem recDictW_conservative (o : ROpts) (name : String) : ∀ ekv ckv, Item.unmodelled ∉ recDict o name ekv ckv →
    recDictW o name ekv ckv = (recDict o name ekv ckv).map liftItem
  | [], _, _ => by simp [recDictW, recDict]
  | (k, e) :: rest, ckv, h => by
    simp only [recDict, List.mem_append, not_or] at h
    simp only [recDictW, recDict, List.map_append]
    rw [recDictW_conservative o name rest ckv h.2]
    cases hl : lookup k ckv with
    | none => simp
    | some c =>
      rw [hl] at h
      simp only
      rw [recErrsW_conservative o _ e c h.1]
end

theorem errsOfW_lift : ∀ l : List Item, errsOfW (l.map liftItem) = errsOf l
  | [] => rfl
  | .err e :: t => by simp [errsOfW, errsOf, liftItem, errsOfW_lift t]
  | .unmodelled :: t => by simp [errsOfW, errsOf, liftItem, errsOfW_lift t]

theorem lift_unmodelled {l : List Item} (h : Item.unmodelled ∉ l) : ItemW.unmodelled ∉ l.map liftItem := by
  rw [List.mem_map]
  rintro ⟨i, hi, he⟩
  cases i with
  | err e => cases he
  | unmodelled => exact h hi

/-- **Conservative extension**: wherever the narrow model answers (the scope of the theorems of `Props/C19.lean`), the wide
model gives the same answer — so `compare_recursive_iff` and its corollaries hold verbatim for `compareRecursiveW` there,
and the wide model only adds answers on the pairs the narrow model answers with `unmodelled`. -/
theorem compareRecursiveW_conservative (atol rtol : Rat) (forgive : Option (List String)) (phase : PhaseOpt) (e c : Tree)
    (hm : Item.unmodelled ∉ recErrs ⟨atol, rtol, false⟩ "root" e c)
    (hm' : Item.unmodelled ∉ recErrs ⟨atol, rtol, true⟩ "root" e c) :
    compareRecursiveW atol rtol forgive phase e c = compareRecursive atol rtol forgive phase e c := by
  by_cases ha : 1 ≤ atol
  · rw [compareRecursiveW_atol_ge_one _ _ _ _ _ _ ha, compareRecursive_atol_ge_one _ _ _ _ _ _ ha]
  · have hw := recErrsW_conservative _ "root" e c hm
    have hw' := recErrsW_conservative _ "root" e c hm'
    rw [compareRecursive_eq_stages ha rtol forgive phase hm hm',
      compareRecursiveW_eq_stages ha rtol forgive phase (hw ▸ lift_unmodelled hm) (hw' ▸ lift_unmodelled hm'),
      namesW, hw, hw', errsOfW_lift, errsOfW_lift]
    rfl

/-! ## what the added pairs mean, declaratively -/

/-- **A str or dict where a list is expected is one error entry at that node**: never a pass
unless that node is forgiven. -/
theorem recErrsW_list_strdict (o : ROpts) (name : String) (es : List Tree) :
    (∀ s, recErrsW o name (.list es) (.sc (.str s)) = [.err ⟨name, 8⟩]) ∧
    (∀ kv, recErrsW o name (.list es) (.dict kv) = [.err ⟨name, 8⟩]) := by
  constructor <;> intro _ <;> simp only [recErrsW]

/-- **An ndarray where a list is expected is compared exactly as the list of its rows** (`asSeq`): the wide case
reduces to the list-vs-list clause of the narrow characterisation. -/
theorem recErrsW_list_seq (o : ROpts) (name : String) (es : List Tree) (k : Kind) (n : Nat) (rest : List Nat) (fl : List Sc) :
    recErrsW o name (.list es) (.arr k (n :: rest) fl) = recErrsW o name (.list es) (.list (arrRows k n rest fl)) := by
  simp only [recErrsW, asSeq]

/-- … and anything without a `len()` (numbers, None, 0-d arrays) is the single entry "Expected computed to have a __len__()" -/
theorem recErrsW_list_nolen (o : ROpts) (name : String) (es : List Tree) :
    (∀ t, (∀ s, t ≠ .str s) → recErrsW o name (.list es) (.sc t) = [.err ⟨name, 3⟩]) ∧
    (∀ k fl, recErrsW o name (.list es) (.arr k [] fl) = [.err ⟨name, 3⟩]) := by
  constructor
  · intro t ht
    cases t <;> first | (simp only [recErrsW, asSeq]; done) | exact absurd rfl (ht _)
  · intro k fl; simp only [recErrsW, asSeq]

/-- **An exact leaf against an ndarray**: no entry iff the array has exactly one element and it
equals the leaf; otherwise exactly the mismatch entry — never an exception, never unmodelled. -/
theorem exactLeafW_arr (name : String) (s : Sc) (k : Kind) (sh : List Nat) (fl : List Sc) :
    (exactLeafW name s (.arr k sh fl) = [] ↔ ∃ t, fl = [t] ∧ scEq s t = true) ∧
    (exactLeafW name s (.arr k sh fl) = [] ∨ exactLeafW name s (.arr k sh fl) = [.err ⟨name, 2⟩]) := by
  simp only [exactLeafW]
  match fl with
  | [] => simp [sizeRule]
  | [t] => by_cases h : scEq s t = true <;> simp [sizeRule, h]
  | _ :: _ :: _ => simp [sizeRule]

/-- ragged `computed` under a numeric leaf: `np.array` raises inside the helper, the verdict is False -/
theorem compareValuesW_ragged (o : VOpts) (e c : Tree) (f : Flat) (he : flatten e = .ok f) (hc : flatten c = .unmodelled)
    (hp : o.passnone = false) : compareValuesW o e c = .verdict false := by
  unfold compareValuesW compareValues
  simp [he, hc, hp]

/-! ### keys that contain '.': one dotted name for several nodes (kernel-evaluated witnesses of the open finding `dotted_key_path_alias`) -/

/-- forgiving the key `a` also excuses the *sibling* key `a.x` (its name `root.a.x` lies under `root.a`) -/
example : compareRecursiveW (1/1000000) 0 (some ["a"]) .off
    (.dict [("a", .sc (.int 1)), ("a.x", .sc (.flt (.fin 2)))])
    (.dict [("a", .sc (.int 1)), ("a.x", .sc (.flt (.fin 3)))]) = .verdict true := by decide +kernel
/-- … which the narrow model says as well (keys are arbitrary strings in both models) -/
example : compareRecursive (1/1000000) 0 (some ["a"]) .off
    (.dict [("a", .sc (.int 1)), ("a.x", .sc (.flt (.fin 2)))])
    (.dict [("a", .sc (.int 1)), ("a.x", .sc (.flt (.fin 3)))]) = .verdict true := by decide +kernel
/-- the key `a.b` and the nested `a → b` share the name `root.a.b`: forgiving one forgives the other -/
example : compareRecursiveW (1/1000000) 0 (some ["a.b"]) .off
    (.dict [("a.b", .sc (.int 1)), ("a", .dict [("b", .sc (.int 2))])])
    (.dict [("a.b", .sc (.int 1)), ("a", .dict [("b", .sc (.int 3))])]) = .verdict true := by decide +kernel
/-- with a key `root`, the entry `root.a` still means the top-level key `a` -/
example : compareRecursiveW (1/1000000) 0 (some ["root.a"]) .off
    (.dict [("root", .dict [("a", .sc (.int 1))]), ("a", .sc (.int 1))])
    (.dict [("root", .dict [("a", .sc (.int 2))]), ("a", .sc (.int 1))]) = .verdict false := by decide +kernel

end QcelVerif.Compare
