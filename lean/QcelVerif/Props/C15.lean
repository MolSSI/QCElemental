import QcelVerif.Lemmas.Fragments
import QcelVerif.Props.C05
import QcelVerif.Props.C15Formula
import QcelVerif.Props.C15Nre
import Mathlib.Tactic.Ring
/-!
# C15 — fragment extraction and composition bookkeeping: property theorems

Model: `Model/Fragments.lean` (`getFragment` = `Molecule.get_fragment` followed by the
constructor's fragment-contiguity and charge/multiplicity validation, `nelectrons`).  `nre` and the formula (`Model/Formula.lean`)
have their statements in `Props/C15Nre.lean`, `Props/C15Formula.lean`.  All theorems hold for any number of atoms and fragments.
-/
namespace QcelVerif.Fragments
open QcelVerif.ChgMult (isum highSpin vfc)
variable {α : Type}

/-! ### unfolding successful runs -/

theorem liftIdx_bind_ok {β γ} {o : Option β} {f : β → Except Err γ} {r : γ}
    (h : (liftIdx o >>= f) = .ok r) : ∃ b, o = some b ∧ f b = .ok r := by
  cases o with
  | none => simp [liftIdx, bind, Except.bind] at h
  | some b => exact ⟨b, rfl, by simpa [liftIdx, bind, Except.bind] using h⟩

theorem extractGrouped_ok {mol : Mol α} {R G : List Nat} {k : Ctor α}
    (h : extractGrouped mol R G = .ok k) :
    ∃ rb gb atoms fcR fmR, pick mol.frags R = some rb ∧ pick mol.frags G = some gb ∧
      pick mol.atoms (rb ++ gb).flatten = some atoms ∧ pick mol.fc R = some fcR ∧
      pick mol.fm R = some fmR ∧
      k = { atoms := atoms
            real := List.replicate rb.flatten.length true ++ List.replicate gb.flatten.length false
            frags := ranges 0 ((rb ++ gb).map List.length)
            fc := fcR ++ G.map (fun _ => 0), fm := fmR ++ G.map (fun _ => 1)
            c := some (isum fcR), m := some (isum (fmR.map (· - 1)) + 1) } := by
  unfold extractGrouped at h
  obtain ⟨rb, h1, h⟩ := liftIdx_bind_ok h
  obtain ⟨gb, h2, h⟩ := liftIdx_bind_ok h
  obtain ⟨atoms, h3, h⟩ := liftIdx_bind_ok h
  obtain ⟨fcR, h4, h⟩ := liftIdx_bind_ok h
  obtain ⟨fmR, h5, h⟩ := liftIdx_bind_ok h
  refine ⟨rb, gb, atoms, fcR, fmR, h1, h2, h3, h4, h5, ?_⟩
  simpa [pure, Except.pure] using h.symm

theorem extractOrdered_ok {mol : Mol α} {R G : List Nat} {k : Ctor α}
    (h : extractOrdered mol R G = .ok k) :
    ∃ atoms fs cs ms,
      pick mol.atoms (keptAtoms mol.atoms.length mol.frags R G) = some atoms ∧
      fragLoop mol.frags mol.fc mol.fm R G mol.frags 0 = some (fs, cs, ms) ∧
      k = { atoms := atoms
            real := (keptAtoms mol.atoms.length mol.frags R G).map (realAtom mol.frags R)
            frags := fs, fc := cs, fm := ms, c := none, m := none } := by
  unfold extractOrdered at h
  simp only [] at h
  split at h
  · simp [bind, Except.bind, throw, throwThe, MonadExceptOf.throw] at h
  · simp only [pure, Except.pure, bind, Except.bind] at h
    have h' : (liftIdx (pick mol.atoms (keptAtoms mol.atoms.length mol.frags R G)) >>= fun atoms =>
        liftIdx (fragLoop mol.frags mol.fc mol.fm R G mol.frags 0) >>= fun x =>
          (Except.ok { atoms := atoms
                       real := (keptAtoms mol.atoms.length mol.frags R G).map (realAtom mol.frags R)
                       frags := x.1, fc := x.2.1, fm := x.2.2, c := none, m := none } : Except Err (Ctor α)))
        = .ok k := h
    obtain ⟨atoms, h1, h'⟩ := liftIdx_bind_ok h'
    obtain ⟨⟨fs, cs, ms⟩, h2, h'⟩ := liftIdx_bind_ok h'
    exact ⟨atoms, fs, cs, ms, h1, h2, (Except.ok.inj h').symm⟩

theorem construct_ok {zOf : α → Int} {k : Ctor α} {m' : Mol α} (h : construct zOf k = .ok m') :
    k.frags.flatten = List.range k.atoms.length ∧
    ∃ o, vfc { frags := fragZeff (zeffList zOf k.atoms k.real) k.frags
               c := k.c, fc := k.fc.map some, m := k.m, fm := k.fm.map some, zgf := false } = .ok o ∧
      m' = { atoms := k.atoms, real := k.real, frags := k.frags, fc := o.fc, fm := o.fm, c := o.c, m := o.m } := by
  unfold construct at h
  split at h
  · cases h
  · rename_i hc
    split at h
    · rename_i o ho
      exact ⟨by simpa using hc, o, ho, (Except.ok.inj h).symm⟩
    · cases h

theorem getFragment_ok {zOf : α → Int} {mol : Mol α} {R G : List Nat} {g : Bool} {m' : Mol α}
    (h : getFragment zOf mol R G g = .ok m') :
    ∃ k, (if g then extractGrouped mol R G else extractOrdered mol R G) = .ok k ∧
      R.any (G.contains ·) = false ∧ k.atoms ≠ [] ∧ construct zOf k = .ok m' := by
  unfold getFragment at h
  split at h
  · cases h
  · rename_i k hk
    unfold extract at hk
    split at hk
    · cases hk
    · rename_i hov
      split at hk
      · cases hk
      · rename_i k' he
        split at hk
        · cases hk
        · rename_i hne
          cases hk
          refine ⟨k, he, by simpa using hov, ?_, h⟩
          intro e; simp [e] at hne

/-! ### atoms are conserved -/

/-- **group_fragments=True.** The record handed to the constructor lists exactly the atoms of the
real fragments followed by those of the ghost fragments, each fragment's atoms in the parent's
order, fragments in the order requested (`pick` = index by index); flags are `true` for the
first block and `false` for the second; the new index lists have the sizes of the chosen
fragments and concatenate to `0 … n'-1`. -/
theorem grouped_atoms_conserved {mol : Mol α} {R G : List Nat} {k : Ctor α}
    (h : extractGrouped mol R G = .ok k) :
    ∃ rb gb : List (List Nat), R.map (fun j => mol.frags[j]?) = rb.map some ∧ G.map (fun j => mol.frags[j]?) = gb.map some ∧
      k.atoms.map some = (rb ++ gb).flatten.map (fun i => mol.atoms[i]?) ∧
      k.real = List.replicate rb.flatten.length true ++ List.replicate gb.flatten.length false ∧
      k.frags.map List.length = (rb ++ gb).map List.length ∧
      k.frags.flatten = List.range k.atoms.length := by
  obtain ⟨rb, gb, atoms, fcR, fmR, h1, h2, h3, _, _, rfl⟩ := extractGrouped_ok h
  refine ⟨rb, gb, (pick_eq_some _ _ _).1 h1, (pick_eq_some _ _ _).1 h2,
    ((pick_eq_some _ _ _).1 h3).symm, rfl, ranges_map_length _ _, ?_⟩
  simp only [ranges_flatten, Nat.zero_add, List.map_id', ← List.length_flatten, pick_length h3]

/-- a test of "the fragment of atom `i`", when no atom is listed by two fragments: some fragment listing `i` passes it -/
theorem at2fr_any_iff (frags : List (List Nat)) (hd : DisjointFrags frags) (p : Nat → Bool) (i : Nat) :
    (at2fr frags i).any p = true ↔ ∃ j fr, frags[j]? = some fr ∧ i ∈ fr ∧ p j = true := by
  constructor
  · intro h
    cases hk : at2fr frags i with
    | none => simp [hk] at h
    | some k =>
      obtain ⟨fr, hfr, hi⟩ := (at2fr_eq_some_iff frags hd i k).1 hk
      exact ⟨k, fr, hfr, hi, by simpa [hk] using h⟩
  · rintro ⟨j, fr, hj, hi, hp⟩
    rw [(at2fr_eq_some_iff frags hd i j).2 ⟨fr, hj, hi⟩]
    exact hp

theorem keepAtom_iff (frags : List (List Nat)) (hd : DisjointFrags frags) (R G : List Nat) (i : Nat) :
    keepAtom frags R G i = true ↔ ∃ j fr, frags[j]? = some fr ∧ i ∈ fr ∧ (j ∈ R ∨ j ∈ G) := by
  have e : keepAtom frags R G i = (at2fr frags i).any (fun k => R.contains k || G.contains k) := by
    unfold keepAtom; cases at2fr frags i <;> rfl
  simpa [e] using at2fr_any_iff frags hd (fun k => R.contains k || G.contains k) i

theorem realAtom_iff (frags : List (List Nat)) (hd : DisjointFrags frags) (R : List Nat) (i : Nat) :
    realAtom frags R i = true ↔ ∃ j fr, frags[j]? = some fr ∧ i ∈ fr ∧ j ∈ R := by
  have e : realAtom frags R i = (at2fr frags i).any (fun k => R.contains k) := by
    unfold realAtom; cases at2fr frags i <;> rfl
  simpa [e] using at2fr_any_iff frags hd (fun k => R.contains k) i

theorem keepAtom_of_mem {frags : List (List Nat)} (hd : DisjointFrags frags) {j i : Nat} {fr : List Nat}
    (hj : frags[j]? = some fr) (hi : i ∈ fr) (R G : List Nat) :
    keepAtom frags R G i = (R.contains j || G.contains j) := by
  simp only [keepAtom, (at2fr_eq_some_iff frags hd i j).2 ⟨fr, hj, hi⟩]

/-- **group_fragments=False.** The atoms handed on are the parent's atoms `0 … n-1` filtered (so in
original order, each at most once) by "its fragment is in `real` or `ghost`"; the flag of a kept
atom is "its fragment is in `real`". -/
theorem ordered_atoms_conserved {mol : Mol α} {R G : List Nat} {k : Ctor α}
    (h : extractOrdered mol R G = .ok k) (hd : DisjointFrags mol.frags) :
    ∃ kept : List Nat,
      kept = (List.range mol.atoms.length).filter (keepAtom mol.frags R G) ∧
      kept.Pairwise (· < ·) ∧
      (∀ i, i ∈ kept ↔ i < mol.atoms.length ∧
        ∃ j fr, mol.frags[j]? = some fr ∧ i ∈ fr ∧ (j ∈ R ∨ j ∈ G)) ∧
      k.atoms.map some = kept.map (fun i => mol.atoms[i]?) ∧
      k.real = kept.map (realAtom mol.frags R) ∧
      (∀ i, realAtom mol.frags R i = true ↔ ∃ j fr, mol.frags[j]? = some fr ∧ i ∈ fr ∧ j ∈ R) := by
  obtain ⟨atoms, fs, cs, ms, h1, _, rfl⟩ := extractOrdered_ok h
  refine ⟨_, rfl, ?_, ?_, ((pick_eq_some _ _ _).1 h1).symm, rfl, realAtom_iff _ hd R⟩
  · exact List.Pairwise.filter _ List.pairwise_lt_range
  · intro i
    simp only [List.mem_filter, List.mem_range, keepAtom_iff _ hd]

/-- **Index remap.** `at2at[iat] = p` means: `iat` is the `p`-th kept atom (so the remapped index
lists of the sub-molecule name the very atoms of the parent fragment), and the remap is strictly
increasing on kept atoms. -/
theorem ordered_remap (n : Nat) (frags : List (List Nat)) (R G : List Nat) :
    (∀ i p, i < n → at2at frags R G i = some p → (keptAtoms n frags R G)[p]? = some i) ∧
    (∀ i j p q, i < j → at2at frags R G i = some p → at2at frags R G j = some q → p < q) := by
  constructor
  · intro i p hi h
    obtain ⟨hk, rfl⟩ := at2at_eq_some_iff.1 h
    exact filter_range_getElem? _ n i hi hk
  · intro i j p q hij hp hq
    obtain ⟨hk, rfl⟩ := at2at_eq_some_iff.1 hp
    obtain ⟨_, rfl⟩ := at2at_eq_some_iff.1 hq
    exact countP_range_lt _ hij hk

/-! ### what the constructor guarantees -/

theorem rules_of_construct {zOf : α → Int} {k : Ctor α} {m' : Mol α} (h : construct zOf k = .ok m') :
    m' = { atoms := k.atoms, real := k.real, frags := k.frags, fc := k.fc, fm := k.fm
           c := isum k.fc, m := k.m.getD (highSpin k.fm) } ∧
    (∀ v, k.c = some v → isum k.fc = v) ∧ k.frags.flatten = List.range k.atoms.length ∧
    k.fc.length = k.frags.length ∧ k.fm.length = k.frags.length := by
  obtain ⟨hflat, o, ho, rfl⟩ := construct_ok h
  have hw := (ChgMult.vfc_eq_ok_iff.mp ho).1
  simp only [ChgMult.wellFormed, fragZeff, List.length_map, Bool.and_eq_true, beq_iff_eq] at hw
  have R := ChgMult.vfc_sound_plain _ o rfl ho
  have l1 : o.fc.length = k.fc.length := by
    have := R.len_fc; simp only [fragZeff, List.length_map] at this; omega
  have l2 : o.fm.length = k.fm.length := by
    have := R.len_fm; simp only [fragZeff, List.length_map] at this; omega
  have e1 : o.fc = k.fc := ChgMult.eq_of_keeps k.fc o.fc l1 R.keeps_fc
  have e2 : o.fm = k.fm := ChgMult.eq_of_keeps k.fm o.fm l2 R.keeps_fm
  have ec : o.c = isum k.fc := e1 ▸ R.total_charge
  have em : o.m = k.m.getD (highSpin k.fm) := by
    cases hm : k.m with
    | none => exact e2 ▸ R.high_spin (Or.inl hm)
    | some v => exact R.keeps_m v hm
  exact ⟨by rw [e1, e2, ec, em], fun v hv => ec ▸ R.keeps_c v hv, hflat, hw.1, hw.2⟩

/-! ### charge / multiplicity bookkeeping -/

theorem fragLoop_cons (mf : List (List Nat)) (fc fm : List Int) (R G : List Nat) (fr : List Nat)
    (rest : List (List Nat)) (ifr : Nat) :
    fragLoop mf fc fm R G (fr :: rest) ifr =
      (fragLoop mf fc fm R G rest (ifr + 1)).bind fun x =>
        if R.contains ifr || G.contains ifr then
          (fr.mapM (at2at mf R G)).bind fun fr' =>
          (if R.contains ifr then fc[ifr]? else some 0).bind fun c =>
          (if R.contains ifr then fm[ifr]? else some 1).bind fun m =>
          some (fr' :: x.1, c :: x.2.1, m :: x.2.2)
        else some x := by
  rw [fragLoop]
  cases R.contains ifr <;> cases G.contains ifr <;> rfl

/-- what the last `for ifr, fr in enumerate(self.fragments)` loop of `get_fragment` (molecule.py) returns: one entry per *selected* fragment, in original order -/
theorem fragLoop_spec (mf : List (List Nat)) (fc fm : List Int) (R G : List Nat) :
    ∀ (rest : List (List Nat)) (ifr : Nat) (fs : List (List Nat)) (cs ms : List Int),
    fragLoop mf fc fm R G rest ifr = some (fs, cs, ms) →
    let S := (rest.zipIdx ifr).filter (fun p => R.contains p.2 || G.contains p.2)
    fs.map (fun f => f.map some) = S.map (fun p => p.1.map (at2at mf R G)) ∧
    cs.map some = S.map (fun p => if R.contains p.2 then fc[p.2]? else some 0) ∧
    ms.map some = S.map (fun p => if R.contains p.2 then fm[p.2]? else some 1)
  | [], _, fs, cs, ms, h => by
      simp only [fragLoop, Option.some.injEq, Prod.mk.injEq] at h
      obtain ⟨rfl, rfl, rfl⟩ := h
      simp
  | fr :: rest, ifr, fs, cs, ms, h => by
      rw [fragLoop_cons, Option.bind_eq_some_iff] at h
      obtain ⟨⟨fs', cs', ms'⟩, hr, h⟩ := h
      have ih := fragLoop_spec mf fc fm R G rest (ifr + 1) fs' cs' ms' hr
      simp only [List.zipIdx_cons, List.filter_cons]
      by_cases hs : (R.contains ifr || G.contains ifr) = true
      · simp only [if_pos hs, Option.bind_eq_some_iff, Option.some.injEq, Prod.mk.injEq] at h
        obtain ⟨fr', h1, c, h2, m, h3, rfl, rfl, rfl⟩ := h
        simp only [hs, ↓reduceIte, List.map_cons, ih, (mapM_eq_some_iff _ _ _).1 h1, h2, h3, and_self]
      · rw [if_neg hs] at h
        cases h
        simp only [hs]
        exact ih

/-- **group_fragments=True.** On success the real fragments keep their charge and multiplicity in
the order requested, every ghost fragment is `(0, 1)`, the total charge is the sum over the real
fragments and the total multiplicity their high-spin sum. -/
theorem grouped_chgmult {zOf : α → Int} {mol : Mol α} {R G : List Nat} {m' : Mol α}
    (h : getFragment zOf mol R G true = .ok m') :
    ∃ fcR fmR : List Int, R.map (fun j => mol.fc[j]?) = fcR.map some ∧ R.map (fun j => mol.fm[j]?) = fmR.map some ∧
      m'.fc = fcR ++ G.map (fun _ => 0) ∧ m'.fm = fmR ++ G.map (fun _ => 1) ∧
      m'.c = isum fcR ∧ m'.m = highSpin fmR := by
  obtain ⟨k, hk, _, _, hc⟩ := getFragment_ok h
  simp only [↓reduceIte] at hk
  obtain ⟨rb, gb, atoms, fcR, fmR, _, _, _, h4, h5, rfl⟩ := extractGrouped_ok hk
  obtain ⟨rfl, ec, _⟩ := rules_of_construct hc
  refine ⟨fcR, fmR, (pick_eq_some _ _ _).1 h4, (pick_eq_some _ _ _).1 h5, rfl, rfl, ec _ rfl, ?_⟩
  simp only [Option.getD_some, highSpin]; omega

/-- **group_fragments=False.** On success there is one fragment per selected parent fragment, in
the parent's order; a fragment selected as real keeps its charge and multiplicity, one selected as
ghost is `(0, 1)`; its index list is the parent's, remapped by `at2at`; the totals (completed by
the constructor, nothing is passed) are the sum of the fragment charges and the high-spin
multiplicity — to which ghost fragments contribute `0` and `1 - 1 = 0`. -/
theorem ordered_chgmult {zOf : α → Int} {mol : Mol α} {R G : List Nat} {m' : Mol α}
    (h : getFragment zOf mol R G false = .ok m') :
    let S := (mol.frags.zipIdx 0).filter (fun p => R.contains p.2 || G.contains p.2)
    m'.frags.map (fun f => f.map some) = S.map (fun p => p.1.map (at2at mol.frags R G)) ∧
    m'.fc.map some = S.map (fun p => if R.contains p.2 then mol.fc[p.2]? else some 0) ∧
    m'.fm.map some = S.map (fun p => if R.contains p.2 then mol.fm[p.2]? else some 1) ∧
    m'.c = isum m'.fc ∧ m'.m = highSpin m'.fm := by
  obtain ⟨k, hk, _, _, hc⟩ := getFragment_ok h
  simp only [Bool.false_eq_true, ↓reduceIte] at hk
  obtain ⟨atoms, fs, cs, ms, _, h2, rfl⟩ := extractOrdered_ok hk
  have sp := fragLoop_spec _ _ _ _ _ _ _ _ _ _ h2
  obtain ⟨rfl, _, _⟩ := rules_of_construct hc
  exact ⟨sp.1, sp.2.1, sp.2.2, rfl, rfl⟩

theorem isum_real_only {β} (isReal : β → Bool) (f : β → Int) (S : List β) :
    isum (S.map (fun p => if isReal p then f p else 0)) = isum ((S.filter isReal).map f) :=
  (isum_filter_map isReal f S).symm

/-- **Every returned sub-molecule is well formed**: index lists concatenate to `0 … n'-1` (they
partition the atoms), one charge and one multiplicity per fragment, total charge = sum of the
fragment charges; `real` and `ghost` were disjoint and something was selected. -/
theorem getFragment_ok_wf {zOf : α → Int} {mol : Mol α} {R G : List Nat} {g : Bool} {m' : Mol α}
    (h : getFragment zOf mol R G g = .ok m') :
    m'.frags.flatten = List.range m'.atoms.length ∧ m'.fc.length = m'.frags.length ∧
    m'.fm.length = m'.frags.length ∧ m'.c = isum m'.fc ∧ m'.atoms ≠ [] ∧
    (∀ j, j ∈ R → j ∉ G) := by
  obtain ⟨k, _, hov, hne, hc⟩ := getFragment_ok h
  obtain ⟨rfl, _, hflat, hfc, hfm⟩ := rules_of_construct hc
  refine ⟨hflat, hfc, hfm, rfl, hne, ?_⟩
  intro j hj hg
  simp only [List.any_eq_false, List.contains_iff_mem] at hov
  exact hov j hj hg

/-! ### the order-preserving path keeps a contiguous parent contiguous -/

theorem flatten_filter_sel (keep : Nat → Bool) (sel : Nat → Bool) :
    ∀ L : List (List Nat × Nat), (∀ p ∈ L, ∀ i ∈ p.1, keep i = sel p.2) →
    ((L.filter (fun p => sel p.2)).map Prod.fst).flatten = ((L.map Prod.fst).flatten).filter keep
  | [], _ => rfl
  | p :: L, h => by
      have ih := flatten_filter_sel keep sel L (fun q hq => h q (List.mem_cons_of_mem _ hq))
      have hp := h p (List.mem_cons_self ..)
      simp only [List.map_cons, List.flatten_cons, List.filter_append, ← ih]
      by_cases hs : sel p.2 = true
      · have : p.1.filter keep = p.1 := List.filter_eq_self.2 (fun i hi => by rw [hp i hi, hs])
        simp [hs, this]
      · have : p.1.filter keep = [] := List.filter_eq_nil_iff.2 (fun i hi => by rw [hp i hi]; exact hs)
        simp [hs, this]

theorem disjoint_of_nodup_flatten (frags : List (List Nat)) (h : frags.flatten.Nodup) :
    DisjointFrags frags := by
  intro a b fa fb i ha hb hia hib
  by_contra hab
  have hp := (List.nodup_flatten.1 h).2
  rw [List.pairwise_iff_getElem] at hp
  obtain ⟨ha1, ha2⟩ := List.getElem?_eq_some_iff.1 ha
  obtain ⟨hb1, hb2⟩ := List.getElem?_eq_some_iff.1 hb
  rcases Nat.lt_or_gt_of_ne hab with hlt | hlt
  · have := hp a b ha1 hb1 hlt
    rw [ha2, hb2] at this
    exact this hia hib
  · have := hp b a hb1 ha1 hlt
    rw [ha2, hb2] at this
    exact this hib hia

/-- **group_fragments=False on a contiguous parent** (every validated molecule has fragments
`0 … n-1` in order): the remapped index lists of the selected fragments, in original order,
concatenate to exactly `0 … n'-1` — they partition the atoms of the sub-molecule, so the
constructor's contiguity check cannot refuse the record. -/
theorem ordered_fragments_partition {α} {mol : Mol α} {R G : List Nat} {k : Ctor α}
    (h : extractOrdered mol R G = .ok k)
    (hc : mol.frags.flatten = List.range mol.atoms.length) :
    k.frags.flatten = List.range k.atoms.length := by
  obtain ⟨atoms, fs, cs, ms, h1, h2, rfl⟩ := extractOrdered_ok h
  have sp := (fragLoop_spec _ _ _ _ _ _ _ _ _ _ h2).1
  have hd : DisjointFrags mol.frags := disjoint_of_nodup_flatten _ (hc ▸ List.nodup_range)
  have hA := flatten_filter_sel (keepAtom mol.frags R G) (fun j => R.contains j || G.contains j)
    (mol.frags.zipIdx 0) (by
      intro p hp i hi
      obtain ⟨fr, j⟩ := p
      have hj := List.mem_zipIdx' hp
      exact keepAtom_of_mem hd (by rw [List.getElem?_eq_getElem hj.1]; exact congrArg some hj.2.symm) hi R G)
  rw [List.zipIdx_map_fst, hc] at hA
  have hlen : atoms.length = (List.range mol.atoms.length).countP (keepAtom mol.frags R G) := by
    rw [pick_length h1, keptAtoms, List.countP_eq_length_filter]
  have key : (fs.flatten).map some = (List.range atoms.length).map some := by
    have e1 : (fs.flatten).map some = (fs.map (fun f => f.map some)).flatten := by
      rw [List.map_flatten]
    have e2 : (List.map (fun p : List Nat × Nat => List.map (at2at mol.frags R G) p.1)
          (List.filter (fun p => R.contains p.2 || G.contains p.2) (mol.frags.zipIdx 0))).flatten
        = (((List.filter (fun p => R.contains p.2 || G.contains p.2) (mol.frags.zipIdx 0)).map
            Prod.fst).flatten).map (at2at mol.frags R G) := by
      rw [List.map_flatten, List.map_map]; rfl
    rw [e1, sp, e2, hA, hlen, ← map_countP_filter_range, List.map_map]
    apply List.map_congr_left
    intro i hi
    exact at2at_eq_some_iff.2 ⟨(List.mem_filter.1 hi).2, rfl⟩
  exact List.map_injective_iff.2 (fun _ _ e => Option.some.inj e) key
/-! ### electrons -/

/-- **Electron count** = real nuclear charges minus the charge (by definition of the model;
`FragSrc.srcNelectrons_eq`, Props/C15Src.lean, ties the definition to the source of `nelectrons()`). -/
theorem nelectrons_eq (zOf : α → Int) (mol : Mol α) :
    nelectrons zOf mol = isum (List.zipWith (fun a r => zOf a * (if r then 1 else 0)) mol.atoms mol.real) - mol.c := rfl

theorem nelectronsFrag_eq (zOf : α → Int) (mol : Mol α) (k : Nat) :
    nelectronsFrag zOf mol k =
      (List.zipWith (fun fr c => zeffIn (zeffList zOf mol.atoms mol.real) fr - c) mol.frags mol.fc)[k]? := by
  unfold nelectronsFrag
  rw [List.getElem?_zipWith]
  cases mol.frags[k]? <;> cases mol.fc[k]? <;> rfl

theorem sum_zeffIn (zeff : List Int) : ∀ frags : List (List Nat),
    isum (frags.map (zeffIn zeff)) =
      isum (zeff.zipIdx.map (fun p => p.1 * (frags.countP (fun fr => fr.contains p.2) : Nat)))
  | [] => by
      simp only [List.map_nil, List.countP_nil, Nat.cast_zero, Int.mul_zero]
      exact (ChgMult.isum_zeros _).symm
  | fr :: rest => by
      simp only [List.map_cons, ChgMult.isum_cons, sum_zeffIn zeff rest]
      rw [zeffIn_eq_indicator, isum_map_add]
      congr 1
      apply List.map_congr_left
      intro p _
      rw [List.countP_cons]
      by_cases hc : fr.contains p.2 = true
      · simp only [hc, ↓reduceIte]; push_cast; ring
      · simp only [hc, Bool.false_eq_true, ↓reduceIte]; push_cast; ring

/-- every atom index below `n` is listed by exactly one fragment -/
def ExactlyOne (n : Nat) (frags : List (List Nat)) : Prop :=
  ∀ i, i < n → frags.countP (fun fr => fr.contains i) = 1

/-- **Electrons add up.** If every atom lies in exactly one fragment, there is one charge per
fragment and the total charge is the sum of the fragment charges, then the fragment electron
counts `nelectrons(ifr)` sum to `nelectrons()`. -/
theorem electrons_additive (zOf : α → Int) (mol : Mol α)
    (hone : ExactlyOne (zeffList zOf mol.atoms mol.real).length mol.frags)
    (hlen : mol.fc.length = mol.frags.length) (hc : mol.c = isum mol.fc) :
    (∀ k, nelectronsFrag zOf mol k =
      (List.zipWith (fun fr c => zeffIn (zeffList zOf mol.atoms mol.real) fr - c) mol.frags mol.fc)[k]?) ∧
    isum (List.zipWith (fun fr c => zeffIn (zeffList zOf mol.atoms mol.real) fr - c) mol.frags mol.fc)
      = nelectrons zOf mol := by
  refine ⟨nelectronsFrag_eq zOf mol, ?_⟩
  have hz : List.zipWith (fun fr c => zeffIn (zeffList zOf mol.atoms mol.real) fr - c) mol.frags mol.fc
      = List.zipWith (· - ·) (mol.frags.map (zeffIn (zeffList zOf mol.atoms mol.real))) mol.fc := by
    rw [List.zipWith_map_left]
  rw [hz, isum_zipWith_sub _ _ (by simp [hlen]), sum_zeffIn, nelectrons, hc]
  congr 1
  have : (zeffList zOf mol.atoms mol.real).zipIdx.map
        (fun p => p.1 * ((mol.frags.countP (fun fr => fr.contains p.2) : Nat) : Int))
      = (zeffList zOf mol.atoms mol.real).zipIdx.map Prod.fst := by
    apply List.map_congr_left
    intro p hp
    obtain ⟨x, i⟩ := p
    have hi := (List.mem_zipIdx' hp).1
    show x * ((mol.frags.countP (fun fr => fr.contains i) : Nat) : Int) = x
    rw [hone i hi]; simp
  rw [this, List.zipIdx_map_fst]

theorem sum_count_eq_countP (i : Nat) : ∀ frags : List (List Nat), (∀ fr ∈ frags, fr.Nodup) →
    (frags.map (List.count i)).sum = frags.countP (fun fr => fr.contains i)
  | [], _ => rfl
  | fr :: rest, h => by
      have ih := sum_count_eq_countP i rest (fun f hf => h f (List.mem_cons_of_mem _ hf))
      have hn := h fr (List.mem_cons_self ..)
      rw [List.map_cons, List.sum_cons, ih, List.countP_cons]
      by_cases hm : i ∈ fr
      · rw [List.count_eq_one_of_mem hn hm]; simp [hm]; omega
      · rw [List.count_eq_zero_of_not_mem hm]; simp [hm]

/-- index lists that concatenate to `0 … n-1` list every atom exactly once -/
theorem exactlyOne_of_flatten (n : Nat) (frags : List (List Nat))
    (h : frags.flatten = List.range n) : ExactlyOne n frags := by
  intro i hi
  have hnd : frags.flatten.Nodup := h ▸ List.nodup_range
  have hfr : ∀ fr ∈ frags, fr.Nodup := (List.nodup_flatten.1 hnd).1
  have hc : frags.flatten.count i = 1 :=
    List.count_eq_one_of_mem hnd (h ▸ List.mem_range.2 hi)
  rw [List.count_flatten, sum_count_eq_countP i frags hfr] at hc
  exact hc

/-- **Electrons add up on every returned sub-molecule**: the fragment electron counts of a
`get_fragment` result sum to its total electron count, which is the nuclear charge of the atoms
flagged real minus the sum of the fragment charges. -/
theorem child_electrons {zOf : α → Int} {mol : Mol α} {R G : List Nat} {g : Bool} {m' : Mol α}
    (h : getFragment zOf mol R G g = .ok m') :
    isum (List.zipWith (fun fr c => zeffIn (zeffList zOf m'.atoms m'.real) fr - c) m'.frags m'.fc)
      = nelectrons zOf m' ∧
    nelectrons zOf m' = isum (zeffList zOf m'.atoms m'.real) - isum m'.fc := by
  obtain ⟨hflat, hl, _, hc, _, _⟩ := getFragment_ok_wf h
  have hone : ExactlyOne (zeffList zOf m'.atoms m'.real).length m'.frags := by
    intro i hi
    apply exactlyOne_of_flatten _ _ hflat i
    have : (zeffList zOf m'.atoms m'.real).length ≤ m'.atoms.length := by
      simp only [zeffList, List.length_zipWith]; omega
    omega
  exact ⟨(electrons_additive zOf m' hone hl hc).2, by rw [nelectrons, hc]⟩

/-- non-vacuity (test): HeH⁺ + ghost H, two fragments -/
example : ExactlyOne 3 [[0, 1], [2]] := by
  intro i hi
  have : i = 0 ∨ i = 1 ∨ i = 2 := by omega
  rcases this with rfl | rfl | rfl <;> decide

/-! ### non-vacuity: concrete runs of the model (tests, evaluated) -/
-- parent: He H | Li H(ghost fragment); atoms carry (id, Z)
private def demo : Mol (Nat × Int) :=
  { atoms := [(0, 2), (1, 1), (2, 3), (3, 1)], real := [true, true, false, false],
    frags := [[0, 1], [2, 3]], fc := [0, 0], fm := [2, 1], c := 0, m := 2 }
#guard (getFragment (·.2) demo [1] [0] true).toOption.map (fun m => (m.atoms.map (·.1), m.real, m.frags, m.fc, m.fm, m.c, m.m))
  == some ([2, 3, 0, 1], [true, true, false, false], [[0, 1], [2, 3]], [0, 0], [1, 1], 0, 1)
#guard (getFragment (·.2) demo [1] [0] false).toOption.map (fun m => (m.atoms.map (·.1), m.real, m.frags, m.fc, m.fm, m.c, m.m))
  == some ([0, 1, 2, 3], [false, false, true, true], [[0, 1], [2, 3]], [0, 0], [1, 1], 0, 1)
#guard (getFragment (·.2) demo [0] [0] true).toOption.isNone
#guard (getFragment (·.2) demo [] [] false).toOption.isNone
end QcelVerif.Fragments
