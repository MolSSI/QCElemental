import QcelVerif.Lemmas.Kabsch
import QcelVerif.Model.B787
import Mathlib.Tactic.NormNum
import Mathlib.Tactic.FieldSimp
/-!
# C12 — alignment finds the optimal proper rigid motion and recovers known ones

Kabsch part (about `Model/Kabsch.lean`; ring identities over every commutative ring, inequalities over every
linearly ordered field, so over ℝ and over ℚ where the driver executes): the matrix `U(q)` the code builds is a proper
rotation for unit `q`, the RMSD formula `‖R − C·U(q)‖² = Σ|r|² + |q|⁴Σ|c|² − 2qᵀFq`, soundness of the certificate checker
`isTopEig`, optimality of a certified `q` against every rotation of quaternion form `U(p)/|p|²`, optimality of the
centroid-matching shift, and the exact-equality head-off (align.py:483-486).  Optimality against EVERY proper rotation
and proper rigid motion (over ℝ) is `Props/C12Full.lean`; uniqueness, the shift, the mirror clause, the default atom-ordering
search, `random_rotation_matrix` and the source-derived restatements are the other `Props/C12*.lean` files.

Driver-loop part (about `Model/B787.lean`, core Lean): the held recipe has `mirror = True` only on request, with
`run_to_completion` the returned RMSD is the minimum over the eligible trials, and it is the RMSD of the held recipe.
Not proved: every permutative candidate pairs atoms of equal class — checked by the oracle on every case.
`eigh` and float rounding are outside: the eigenvector `q` is an input, accepted per call by the certificate.
-/
namespace QcelVerif.Kabsch
variable {K : Type}

section Ring
variable [CommRing K]

/-- `U(q)·U(q)ᵀ = |q|⁴·I` and `U(q)ᵀ·U(q) = |q|⁴·I` for every `q` -/
theorem quatRot_mul_transpose (q : Q4 K) :
    (quatRot q).mul (quatRot q).transpose = M3.smul (q.nrm2 ^ 2) M3.one
    ∧ (quatRot q).transpose.mul (quatRot q) = M3.smul (q.nrm2 ^ 2) M3.one := by
  constructor <;> ext <;> simp only [quatRot, M3.mul, M3.transpose, M3.smul, M3.one, Q4.nrm2] <;> ring

/-- **orthogonality**: for a unit quaternion the matrix built at align.py:545-553 is orthogonal -/
theorem quatRot_orthogonal (q : Q4 K) (h : q.nrm2 = 1) :
    (quatRot q).mul (quatRot q).transpose = M3.one ∧ (quatRot q).transpose.mul (quatRot q) = M3.one := by
  simpa only [h, one_pow, smul_one_eq] using quatRot_mul_transpose q

theorem quatRot_det_general (q : Q4 K) : (quatRot q).det = q.nrm2 ^ 3 := by
  simp only [quatRot, M3.det, Q4.nrm2]; ring

/-- **properness**: determinant +1 for a unit quaternion (never a reflection) -/
theorem quatRot_det (q : Q4 K) (h : q.nrm2 = 1) : (quatRot q).det = 1 := by
  rw [quatRot_det_general, h]; ring

-- non-vacuity: a non-trivial unit quaternion with rational entries
example : (⟨1/2, 1/2, 1/2, 1/2⟩ : Q4 ℚ).nrm2 = 1 := by decide +kernel

/-- `Σ_i r_i·(c_i U)` -/
def sumDot (U : M3 K) : List (V3 K × V3 K) → K
  | [] => 0
  | (r, c) :: t => r.dot (rowMul c U) + sumDot U t

/-- **trace identity** (entrywise, any matrix `cov`, any `q`): `qᵀ F(cov) q = tr(U(q)·cov)` -/
theorem trace_identity (cv : M3 K) (q : Q4 K) : quad (Fmat cv) q = M3.trMul (quatRot q) cv := by
  simp only [quad, Fmat, M3.trMul, quatRot]; ring

theorem sumDot_eq_trMul (U : M3 K) (pairs : List (V3 K × V3 K)) : sumDot U pairs = M3.trMul U (cov pairs) := by
  induction pairs with
  | nil => simp only [sumDot, cov, M3.trMul, M3.zero]; ring
  | cons h t ih =>
    obtain ⟨r, c⟩ := h
    simp only [sumDot, cov, trMul_add, ih]
    simp only [V3.dot, rowMul, M3.trMul, outer]; ring

/-- the overlap the rotation is chosen to maximise equals the quadratic form of the 4×4 matrix the code
    diagonalises: `Σ_i r_i·(c_i·U(q)) = qᵀ F(cov(R,C)) q` — any number of atoms, any `q` -/
theorem sumDot_eq_quad (q : Q4 K) (pairs : List (V3 K × V3 K)) :
    sumDot (quatRot q) pairs = quad (Fmat (cov pairs)) q := by
  rw [sumDot_eq_trMul, trace_identity]

/-- **RMSD formula**: `‖R − C·U(q)‖² = Σ|r|² + |q|⁴·Σ|c|² − 2·qᵀFq` (any number of atoms, any `q`);
    with `|q|² = 1` this is `N·rmsd² = Σ|r|² + Σ|c|² − 2qᵀFq`. -/
theorem rmsd2_formula (q : Q4 K) (pairs : List (V3 K × V3 K)) :
    resid (quatRot q) pairs = sumR2 pairs + q.nrm2 ^ 2 * sumC2 pairs - 2 * quad (Fmat (cov pairs)) q := by
  have := resid_smul_quatRot (1 : K) q pairs
  rw [smul_one_eq] at this
  rw [this]; ring

theorem rmsd2_formula_unit (q : Q4 K) (h : q.nrm2 = 1) (pairs : List (V3 K × V3 K)) :
    resid (quatRot q) pairs = sumR2 pairs + sumC2 pairs - 2 * quad (Fmat (cov pairs)) q := by
  rw [rmsd2_formula, h]; ring

/-- for an orthogonal `U`, `(U·v)ᵀ·U = v` — the step that makes `T = c̄ − U·r̄` match the centroids -/
theorem rowMul_matVec (U : M3 K) (h : U.transpose.mul U = M3.one) (v : V3 K) : rowMul (matVec U v) U = v := by
  rw [← rowMul_transpose, ← rowMul_mul, h, rowMul_one]

/-- **the recipe's residual is the centred residual** (per atom): with `T = c̄ − U·r̄` (align.py:497) and
    `U` orthogonal, `align_coordinates` sends `c` to `(c − T)·U`, and
    `(c − T)·U − r = (c − c̄)·U − (r − r̄)`.  Hence the RMSD recomputed by `B787` from the returned recipe
    (align.py:197-200,249-250) is the RMSD `kabsch_align` minimised. -/
theorem recipe_pointwise (U : M3 K) (h : U.transpose.mul U = M3.one) (rc cc r c : V3 K) :
    (rowMul (c.sub (cc.sub (matVec U rc))) U).sub r = (rowMul (c.sub cc) U).sub (r.sub rc) := by
  rw [rowMul_sub, rowMul_sub cc, rowMul_sub c cc, rowMul_matVec U h]
  ext <;> simp only [V3.sub] <;> ring

end Ring

section Ordered
variable [Field K] [LinearOrder K] [IsStrictOrderedRing K]

/-- the rotation `U(p)/|p|²` of quaternion form, defined for every `p` with `|p|² ≠ 0` (no square root, so it makes
    sense over ℚ); over ℝ these are exactly the proper rotations (`rotOf_proper`, `Props/C12Full.lean` `properRot_iff_quat`) -/
def rotOf (p : Q4 K) : M3 K := M3.smul (1 / p.nrm2) (quatRot p)

/-- `U(p)/|p|²` is a proper rotation whenever `|p|² ≠ 0` (no unit-norm assumption, no square roots) -/
theorem rotOf_proper (p : Q4 K) (hp : p.nrm2 ≠ 0) :
    (rotOf p).mul (rotOf p).transpose = M3.one ∧ (rotOf p).transpose.mul (rotOf p) = M3.one
      ∧ (rotOf p).det = 1 := by
  have hk : 1 / p.nrm2 * (1 / p.nrm2) * p.nrm2 ^ 2 = 1 := by field_simp
  obtain ⟨h1, h2⟩ := quatRot_mul_transpose p
  refine ⟨?_, ?_, ?_⟩
  · rw [rotOf, M3.transpose_smul, M3.smul_mul_smul, h1, M3.smul_smul, hk, smul_one_eq]
  · rw [rotOf, M3.transpose_smul, M3.smul_mul_smul, h2, M3.smul_smul, hk, smul_one_eq]
  · rw [rotOf, M3.det_smul, quatRot_det_general]
    field_simp

-- non-vacuity: a rational rotation from an integer quaternion that is not a unit quaternion
example : (⟨1, 2, 3, 4⟩ : Q4 ℚ).nrm2 ≠ 0 := by decide +kernel

/-- residual of the rotation `U(p)/|p|²`: `Σ|r|² + Σ|c|² − 2·pᵀFp/|p|²` -/
theorem resid_rotOf (p : Q4 K) (hp : p.nrm2 ≠ 0) (pairs : List (V3 K × V3 K)) :
    resid (rotOf p) pairs = sumR2 pairs + sumC2 pairs - 2 * (quad (Fmat (cov pairs)) p / p.nrm2) := by
  have hk : (1 / p.nrm2) ^ 2 * p.nrm2 ^ 2 = 1 := by field_simp
  rw [rotOf, resid_smul_quatRot, hk]; ring

/-- **pivot test is sound** (4×4, explicit): all four fraction-free pivots positive ⇒ the quadratic form is
    non-negative at every vector -/
theorem posDef4_sound (M : S4 K) (h : posDef4 M = true) (p : Q4 K) : 0 ≤ quad M p := by
  simp only [posDef4, Bool.and_eq_true, decide_eq_true_eq] at h
  rw [← mul_nonneg_iff_of_pos_left h.1, elim4]
  exact add_nonneg (sq_nonneg _) (posDef3_sound _ h.2 p.q1 p.q2 p.q3)

-- non-vacuity (test): a non-diagonal positive definite matrix passes
example : posDef4 (⟨2, 1, 0, 0, 2, 1, 0, 2, 1, 2⟩ : S4 ℚ) = true := by decide +kernel
-- and an indefinite one is refused (test)
example : posDef4 (⟨1, 2, 0, 0, 1, 0, 0, 1, 0, 1⟩ : S4 ℚ) = false := by decide +kernel

/-- **certificate soundness**: if `isTopEig F q δ ε` then `| |q|² − 1 | ≤ δ` and `qᵀFq + ε` bounds the
    Rayleigh quotient of `F` at *every* 4-vector: `pᵀFp ≤ (qᵀFq + ε)·|p|²`. -/
theorem isTopEig_sound (F : S4 K) (q : Q4 K) (δ ε : K) (h : isTopEig F q δ ε = true) :
    |q.nrm2 - 1| ≤ δ ∧ ∀ p : Q4 K, quad F p ≤ (quad F q + ε) * p.nrm2 := by
  simp only [isTopEig, Bool.and_eq_true, decide_eq_true_eq] at h
  refine ⟨h.1, fun p => ?_⟩
  have := posDef4_sound _ h.2 p
  rw [quad_shiftNeg] at this
  linarith

/-- **optimality** (`_partial`: against rotations of quaternion form only; against every proper rotation over ℝ it is
    `kabsch_optimal` in `Props/C12Full.lean`): if the eigenvector `q` the implementation used
    passes the certificate for `F = F(cov(R̃,C̃))`, then the rotation `U(q)` it built has a residual no larger
    than that of *every* rotation `U(p)/|p|²`, `p ≠ 0`, up to `2ε + δ(2+δ)·Σ|c|²`
    (`N·rmsd²` is the residual; `δ` accounts for `q` not being exactly unit in floating point). -/
theorem kabsch_optimal_partial (pairs : List (V3 K × V3 K)) (q : Q4 K) (δ ε : K)
    (h : isTopEig (Fmat (cov pairs)) q δ ε = true) (p : Q4 K) (hp : p.nrm2 ≠ 0) :
    resid (quatRot q) pairs ≤ resid (rotOf p) pairs + 2 * ε + δ * (2 + δ) * sumC2 pairs := by
  obtain ⟨hn, hq⟩ := isTopEig_sound _ q δ ε h
  have hpp : 0 < p.nrm2 := lt_of_le_of_ne (Q4.nrm2_nonneg p) (Ne.symm hp)
  have h1 : quad (Fmat (cov pairs)) p / p.nrm2 ≤ quad (Fmat (cov pairs)) q + ε := by
    rw [div_le_iff₀ hpp]; exact hq p
  rw [rmsd2_formula, resid_rotOf p hp]
  have hsq : q.nrm2 ^ 2 ≤ (1 + δ) ^ 2 :=
    pow_le_pow_left₀ (Q4.nrm2_nonneg q) (by linarith [(abs_le.mp hn).2]) 2
  have : q.nrm2 ^ 2 * sumC2 pairs ≤ (1 + δ) ^ 2 * sumC2 pairs :=
    mul_le_mul_of_nonneg_right hsq (sumC2_nonneg pairs)
  have e : (1 + δ) ^ 2 * sumC2 pairs = sumC2 pairs + δ * (2 + δ) * sumC2 pairs := by ring
  linarith
-- "not larger than that of any other proper rotation": every proper rotation over ℝ is `U(p)` for a unit `p`
-- (`Lemmas/QuatSurj.lean` `quatRot_surjective`, `quatRot_surjective_of_sqrt`: the surjectivity needs square roots), which
-- gives `kabsch_optimal`, `recovery_full` and `recovery_rigid` in `Props/C12Full.lean`.

/-- **recovery**: if some rotation `U(p)/|p|²` maps the centred concern geometry exactly onto the centred
    reference (`C` is a rotated, translated copy of `R`), then the certified answer's residual is at most
    `2ε + δ(2+δ)Σ|c|²` — zero up to the stated numerical slack.  (For any proper rotation / rigid motion over ℝ:
    `recovery_full`, `recovery_rigid` in `Props/C12Full.lean`.) -/
theorem recovery (pairs : List (V3 K × V3 K)) (q : Q4 K) (δ ε : K)
    (h : isTopEig (Fmat (cov pairs)) q δ ε = true) (p : Q4 K) (hp : p.nrm2 ≠ 0)
    (hexact : resid (rotOf p) pairs = 0) :
    resid (quatRot q) pairs ≤ 2 * ε + δ * (2 + δ) * sumC2 pairs := by
  have := kabsch_optimal_partial pairs q δ ε h p hp
  rw [hexact] at this; linarith

-- non-vacuity of `recovery`/`kabsch_optimal_partial` (test): two atoms, C = R rotated by 120° about (1,1,1);
-- q = (1/2,1/2,1/2,1/2) is certified with δ = 0, ε = 1/1000 and the exact superposition has residual 0.
example :
    let pairs : List (V3 ℚ × V3 ℚ) := [(⟨1, 0, 0⟩, ⟨0, 1, 0⟩), (⟨-1, 0, 0⟩, ⟨0, -1, 0⟩)]
    isTopEig (Fmat (cov pairs)) (⟨1/2, 1/2, 1/2, 1/2⟩ : Q4 ℚ) 0 (1/1000) = true
      ∧ resid (rotOf (⟨1, 1, 1, 1⟩ : Q4 ℚ)) pairs = 0 := by
  decide +kernel

/-- **the centroid-matching shift is optimal** (completing the square): for any vectors `x_i`
    (think `x_i = c_i·U − r_i`), if `m` is their mean then `Σ|x_i − m|² ≤ Σ|x_i − s|²` for every `s`. -/
theorem centroid_shift_optimal (xs : List (V3 K)) (m s : V3 K)
    (hm : vsum xs = V3.smul (xs.length : K) m) :
    sumNrm2 (xs.map (fun v => v.sub m)) ≤ sumNrm2 (xs.map (fun v => v.sub s)) := by
  have e := sum_shift_expand xs m s
  have z : (m.sub s).dot ((vsum xs).sub (V3.smul (xs.length : K) m)) = 0 := by
    rw [hm]; simp only [V3.dot, V3.sub, V3.smul]; ring
  rw [z] at e
  have : 0 ≤ (xs.length : K) * (m.sub s).nrm2 := mul_nonneg (Nat.cast_nonneg _) (V3.nrm2_nonneg _)
  linarith

-- non-vacuity (test)
example : vsum [(⟨1, 2, 3⟩ : V3 ℚ), ⟨3, 2, 1⟩] = V3.smul (([(⟨1, 2, 3⟩ : V3 ℚ), ⟨3, 2, 1⟩].length : ℕ) : ℚ) ⟨2, 2, 2⟩ := by decide +kernel

end Ordered

/-! ## the exact-equality head-off (align.py:483-486)

`kabsch_align` returns `(0.0, I, 0)` when `np.array_equal(R, C)` — exact equality, no tolerance: a merely close
geometry (e.g. `C = R + (1e-6,0,0)`) still gets its small shift and rotation, so that the RMSD returned is the one
obtained.  With exact equality the head-off is sound for every geometry: -/

theorem geomEq_eq [Field K] [LinearOrder K] : ∀ (R C : List (V3 K)), geomEq R C = true → R = C := by
  intro R
  induction R with
  | nil => intro C h; cases C with
    | nil => rfl
    | cons c cs => simp [geomEq] at h
  | cons r rs ih => intro C h; cases C with
    | nil => simp [geomEq] at h
    | cons c cs =>
      simp only [geomEq, Bool.and_eq_true, decide_eq_true_eq] at h
      obtain ⟨⟨⟨hx, hy⟩, hz⟩, ht⟩ := h
      rw [ih cs ht, V3.ext hx hy hz]

theorem dist2_self [CommRing K] : ∀ (R : List (V3 K)), dist2 R R = 0 := by
  intro R
  induction R with
  | nil => simp [dist2]
  | cons r rs ih => simp only [dist2, ih, V3.sub, V3.nrm2]; ring

/-- **the head-off is exact**: when it fires (`R = C` entry by entry) the recipe (identity, zero shift) maps
    every atom of `C` onto itself and the residual against `R` is exactly `0` = the reported RMSD. -/
theorem shortcut_exact [Field K] [LinearOrder K] (R C : List (V3 K)) (q : Q4 K)
    (h : (kabschAlign R C q).shortcut = true) :
    (kabschAlign R C q).U = M3.one ∧ (kabschAlign R C q).T = V3.zero ∧ (kabschAlign R C q).res2 = 0
      ∧ C.map (fun v => rowMul (v.sub V3.zero) M3.one) = C ∧ dist2 C R = 0 := by
  unfold kabschAlign at h ⊢
  by_cases hg : geomEq R C = true
  · simp only [hg, if_true] at h ⊢
    have hRC := geomEq_eq R C hg
    refine ⟨trivial, trivial, trivial, ?_, ?_⟩
    · have : (fun v : V3 K => rowMul (v.sub V3.zero) M3.one) = id := by
        funext v; ext <;> simp only [rowMul, V3.sub, V3.zero, M3.one, id] <;> ring
      rw [this, List.map_id]
    · rw [hRC]; exact dist2_self C
  · simp only [hg] at h; simp at h

-- non-vacuity (test): the head-off fires on equal geometries and not on a shifted copy
example : (kabschAlign [(⟨1, 2, 3⟩ : V3 ℚ), ⟨0, 0, 1⟩] [⟨1, 2, 3⟩, ⟨0, 0, 1⟩] ⟨1, 0, 0, 0⟩).shortcut = true := by decide +kernel
example : (kabschAlign [(⟨1, 2, 3⟩ : V3 ℚ), ⟨0, 0, 1⟩] [⟨1 + 1/1000000, 2, 3⟩, ⟨1/1000000, 0, 1⟩] ⟨1, 0, 0, 0⟩).shortcut = false := by decide +kernel

end QcelVerif.Kabsch


/-! ## The `B787` trial loop (`Model/B787.lean`) -/
namespace QcelVerif.B787

/-- value of a trial under a mirror flag -/
def Trial.val (t : Trial) (m : Bool) : Int := if m then t.mir else t.plain

theorem update_sel (cfg : Cfg) (st : State) (i : Nat) (m : Bool) (v : Int) :
    (update cfg st i m v).1.sel = st.sel ∨ (update cfg st i m v).1.sel = some (i, m) := by
  unfold update; dsimp only; split <;> simp

theorem update_best_le (cfg : Cfg) (st : State) (i : Nat) (m : Bool) (v : Int) :
    (update cfg st i m v).1.best ≤ st.best ∧ (update cfg st i m v).1.best ≤ v := by
  unfold update; dsimp only; split
  · rename_i h; exact ⟨Int.le_of_lt h, Int.le_refl _⟩
  · rename_i h; exact ⟨Int.le_refl _, Int.not_lt.mp h⟩

theorem update_break (cfg : Cfg) (st : State) (i : Nat) (m : Bool) (v : Int)
    (hb : (update cfg st i m v).2 = true) :
    cfg.runToCompletion = false ∧ (update cfg st i m v).1.best < cfg.aconv := by
  unfold update at hb ⊢; dsimp only at hb ⊢; split at hb
  · simp only [Bool.and_eq_true, Bool.not_eq_true', decide_eq_true_eq] at hb
    rename_i h; simp only [h, if_true]; exact hb
  · cases hb

/-- one round of the loop, the outcomes of its two `update` blocks read by projection -/
theorem loop_cons (cfg : Cfg) (i : Nat) (t : Trial) (ts : List Trial) (st : State) :
    loop cfg i (t :: ts) st =
      if (update cfg st i false t.plain).2 then (update cfg st i false t.plain).1
      else if mirrorOn cfg then
        if (update cfg (update cfg st i false t.plain).1 i true t.mir).2 then
          (update cfg (update cfg st i false t.plain).1 i true t.mir).1
        else loop cfg (i + 1) ts (update cfg (update cfg st i false t.plain).1 i true t.mir).1
      else loop cfg (i + 1) ts (update cfg st i false t.plain).1 := by
  rw [loop]
  rcases update cfg st i false t.plain with ⟨st1, _ | _⟩
  · dsimp only
    rcases update cfg st1 i true t.mir with ⟨st2, _ | _⟩ <;> simp
  · rfl

/-- what every eligible `update` keeps, the loop keeps: the plain update of each trial and, when the mirror pass is on,
    its mirror update (`all` is the whole trial list, of which `ts` is what is left after `pre`) -/
theorem loop_invariant (cfg : Cfg) (P : State → Prop) (all : List Trial)
    (hstep : ∀ (k : Nat) (t : Trial) (m : Bool) (st : State), all[k]? = some t → (m = true → mirrorOn cfg = true) →
      P st → P (update cfg st k m (t.val m)).1) :
    ∀ (ts pre : List Trial) (st : State), pre ++ ts = all → P st → P (loop cfg pre.length ts st) := by
  intro ts
  induction ts with
  | nil => intro pre st _ h; exact h
  | cons t ts ih =>
    intro pre st hall h
    have hk : all[pre.length]? = some t := by simp [← hall]
    have h1 := hstep pre.length t false st hk (fun e => by cases e) h
    have h2 := fun hm => hstep pre.length t true _ hk (fun _ => hm) h1
    have hnext := fun st' => ih (pre ++ [t]) st' (by simpa using hall)
    rw [List.length_append, List.length_singleton] at hnext
    rw [loop_cons]
    by_cases hb1 : (update cfg st pre.length false t.plain).2 = true
    · rw [if_pos hb1]
      exact h1
    by_cases hm : mirrorOn cfg = true
    · by_cases hb2 : (update cfg (update cfg st pre.length false t.plain).1 pre.length true t.mir).2 = true
      · rw [if_neg hb1, if_pos hm, if_pos hb2]
        exact h2 hm
      · rw [if_neg hb1, if_pos hm, if_neg hb2]
        exact hnext _ (h2 hm)
    · rw [if_neg hb1, if_neg hm]
      exact hnext _ h1

/-- a successful search returns the final state of the loop, and that state holds a recipe -/
theorem run_ok {cfg : Cfg} {ts : List Trial} {st : State} (h : run cfg ts = .ok st) :
    st = loop cfg 0 ts init ∧ ∃ p, st.sel = some p := by
  unfold run at h
  dsimp only at h
  split at h
  · cases h
  · rename_i p e
    injection h with h
    subst h
    exact ⟨rfl, p, e⟩

/-- **mirror images are matched only on request**: unless `run_mirror` is set *and* the concern geometry is
    not superimposable on its own mirror image, the recipe `B787` holds at the end never has `mirror = True`
    — whatever the trial RMSDs are. -/
theorem mirror_only_on_request (cfg : Cfg) (ts : List Trial) (st : State)
    (hreq : cfg.runMirror = false ∨ cfg.superimposable = true) (h : run cfg ts = .ok st) :
    ∀ j m, st.sel = some (j, m) → m = false := by
  have hoff : mirrorOn cfg = false := by
    rcases hreq with h | h <;> simp [mirrorOn, h]
  obtain ⟨rfl, -⟩ := run_ok h
  refine loop_invariant cfg (fun st => ∀ j m, st.sel = some (j, m) → m = false) ts ?_ ts [] init rfl
    (by intro j m e; simp [init] at e)
  intro k t m st _ hm hst j m' e
  rcases update_sel cfg st k m (t.val m) with e' | e'
  · exact hst j m' (e' ▸ e)
  · rw [e', Option.some.injEq, Prod.mk.injEq] at e
    rw [← e.2]
    exact Bool.eq_false_iff.mpr fun hm' => by rw [hm hm'] at hoff; cases hoff

-- non-vacuity (tests): with the request and a chiral system the mirror trial can win; without it it cannot
example : run ⟨true, false, false, 0⟩ [⟨5, 1⟩] = .ok ⟨1, some (0, true), 2⟩ := by decide
example : run ⟨false, false, false, 0⟩ [⟨5, 1⟩] = .ok ⟨5, some (0, false), 1⟩ := by decide
example : run ⟨true, true, false, 0⟩ [⟨5, 1⟩] = .ok ⟨5, some (0, false), 1⟩ := by decide

/-- the loop never raises `best`, and at its end either `best` is a lower bound of *every* trial RMSD that
    was eligible (plain always, mirrored when the mirror pass is on), or it stopped early because
    `best < a_convergence` with `run_to_completion` off. -/
theorem loop_best_le (cfg : Cfg) :
    ∀ (ts : List Trial) (i : Nat) (st : State),
      (loop cfg i ts st).best ≤ st.best ∧
      ((∀ t ∈ ts, (loop cfg i ts st).best ≤ t.plain ∧ (mirrorOn cfg = true → (loop cfg i ts st).best ≤ t.mir))
        ∨ (cfg.runToCompletion = false ∧ (loop cfg i ts st).best < cfg.aconv)) := by
  intro ts
  induction ts with
  | nil => intro i st; exact ⟨Int.le_refl _, Or.inl fun t ht => by cases ht⟩
  | cons t ts ih =>
    intro i st
    obtain ⟨u1, u2⟩ := update_best_le cfg st i false t.plain
    obtain ⟨w1, w2⟩ := update_best_le cfg (update cfg st i false t.plain).1 i true t.mir
    rw [loop_cons]
    by_cases hb1 : (update cfg st i false t.plain).2 = true
    · rw [if_pos hb1]
      exact ⟨u1, Or.inr (update_break _ _ _ _ _ hb1)⟩
    by_cases hm : mirrorOn cfg = true
    · by_cases hb2 : (update cfg (update cfg st i false t.plain).1 i true t.mir).2 = true
      · rw [if_neg hb1, if_pos hm, if_pos hb2]
        exact ⟨w1.trans u1, Or.inr (update_break _ _ _ _ _ hb2)⟩
      · rw [if_neg hb1, if_pos hm, if_neg hb2]
        obtain ⟨r1, r2⟩ := ih (i + 1) (update cfg (update cfg st i false t.plain).1 i true t.mir).1
        refine ⟨r1.trans (w1.trans u1), r2.imp_left fun r t' ht' => ?_⟩
        rcases List.mem_cons.mp ht' with rfl | ht'
        · exact ⟨r1.trans (w1.trans u2), fun _ => r1.trans w2⟩
        · exact r t' ht'
    · rw [if_neg hb1, if_neg hm]
      obtain ⟨r1, r2⟩ := ih (i + 1) (update cfg st i false t.plain).1
      refine ⟨r1.trans u1, r2.imp_left fun r t' ht' => ?_⟩
      rcases List.mem_cons.mp ht' with rfl | ht'
      · exact ⟨r1.trans u2, fun h => absurd h hm⟩
      · exact r t' ht'

/-- **the returned RMSD is the minimum over the candidates tried**: when the search runs to completion the
    held `best` (rounded to 1e-8 Å as the code does) is ≤ every eligible trial RMSD. -/
theorem best_is_min (cfg : Cfg) (hc : cfg.runToCompletion = true) (ts : List Trial) (st : State)
    (h : run cfg ts = .ok st) :
    ∀ t ∈ ts, st.best ≤ t.plain ∧ (mirrorOn cfg = true → st.best ≤ t.mir) := by
  obtain ⟨rfl, -⟩ := run_ok h
  rcases (loop_best_le cfg ts 0 init).2 with r | r
  · exact r
  · rw [hc] at r; cases r.1

/-- "the held solution is the trial whose RMSD is `best`" -/
def Consistent (all : List Trial) (st : State) : Prop :=
  ∀ j m, st.sel = some (j, m) → ∃ t, all[j]? = some t ∧ st.best = t.val m

theorem update_consistent (cfg : Cfg) (all : List Trial) (st : State) (i : Nat) (m : Bool) (t : Trial)
    (hi : all[i]? = some t) (hc : Consistent all st) : Consistent all (update cfg st i m (t.val m)).1 := by
  unfold update; dsimp only; split
  · intro j m' e
    simp only [Option.some.injEq, Prod.mk.injEq] at e
    obtain ⟨rfl, rfl⟩ := e
    exact ⟨t, hi, rfl⟩
  · intro j m' e; exact hc j m' e

/-- the held recipe is one of the trials and `best` is exactly that trial's (rounded) RMSD -/
theorem sel_attains_best (cfg : Cfg) (ts : List Trial) (st : State) (h : run cfg ts = .ok st) :
    ∃ j m t, st.sel = some (j, m) ∧ ts[j]? = some t ∧ st.best = t.val m := by
  obtain ⟨rfl, ⟨j, m⟩, e⟩ := run_ok h
  have hc : Consistent ts (loop cfg 0 ts init) :=
    loop_invariant cfg (Consistent ts) ts (fun k t m st hk _ hc => update_consistent cfg ts st k m t hk hc)
      ts [] init rfl (by intro j m e; simp [init] at e)
  obtain ⟨t, h1, h2⟩ := hc j m e
  exact ⟨j, m, t, e, h1, h2⟩

end QcelVerif.B787
