import QcelVerif.Props.C11
import QcelVerif.Lemmas.HashConcrete
import QcelVerif.Model.HashConcrete
/-!
# C11 — the general theorems at the CONCRETE parameters of the driver

`Props/C11.lean` / `Props/C11Preimage.lean` take as hypotheses
  * `FlOk fl`      : the rounding of `x * 10^k` to a double is within 1/256 for `|y| ≤ 2^45`;
  * `Params.Ok P`  : the float printers are injective, non-empty, delimiter-free.
`concreteParams` (`Model/HashConcrete.lean`; what `Driver/C11.lean` runs) has `fl = rndDouble` (round-to-nearest-even
to 53 bits), `reprF = reprRd`, `reprB = reprRat` (shortest `repr` of a short decimal).  Of these:

  * `FlOk rndDouble` holds without hypothesis, and `reprRd k` is injective, non-empty, over `0-9 + - . e` for EVERY `k`
    and EVERY `r : Rd` (read back as a decimal literal, the printed string denotes exactly `(-1)^neg · mag / 10^k`).
    The `FlOk` hypothesis and the `reprF` half of `Params.Ok` therefore disappear.
  * `reprRat` is so only on `DecPrintable` bond orders (denominator divides `10^k`, `k ≤ 18`; e.g. every multiple of
    1/8).  On other rationals it prints `?` and is NOT injective, so `Params.Ok` (which quantifies over all rationals)
    is false of the concrete printer.  It is replaced by `Params.OkOn DecPrintable`, and the theorems that used
    `Params.Ok` (`preimage_injective`, `hash_eq_iff_fields_agree`) take `Canon.BondsIn DecPrintable` on the stored bond
    orders instead: `preimage_injective_on` (`Props/C11Preimage.lean`) has a domain `SB` for the bond orders, and
    `preimage_injective` is its instance `SB = True`.
  * The theorems of `Props/C11.lean` that took `FlOk` / `Params.Ok` are restated at `concreteParams` (`…_concrete`).

DOMAIN.  Canonical values are `Rd = ⟨neg, mag⟩` read at `k` decimals.  Printing is proved for all of them.
Rounding (`FlOk`) is needed by the general theorems only on `Bdd k x` (`|x·10^k| ≤ 2^45`), which holds for the
molecules the property is stated for (harness/c11.py ASSUMPTIONS): `|coordinate| < 1e5` bohr → `< 1e13 < 2^45 ≈ 3.5e13`;
masses `< 300` → `< 3e8`; charges `|q| < 1e3` → `< 1e7`.

Parameters: `sha1` (collision-freeness is an explicit hypothesis of `hash_eq_iff_fields_agree_concrete`) and `massOf`
(C01's table, arbitrary here).  Trusted about the concrete functions: that CPython's `repr(float)` / `json.dumps`
prints, for the double nearest to `mag/10^k` with at most 15 significant digits, the same characters as `reprRd`, and
that numpy's product `x * 10**k` is the correctly rounded double (`rndDouble`); the harness compares both with the
implementation.
-/
namespace QcelVerif.Hash

/-! ## the concrete rounding -/

theorem flOk_concrete : FlOk rndDouble := flOk_rndDouble

/-- test: 207.9766525 · 10^6 (a default mass on a decimal near-tie) is within 1/256 of its rounding -/
example : |rndDouble (2079766525 / 10) - 2079766525 / 10| ≤ 1 / 256 :=
  flOk_concrete _ (by rw [abs_le]; constructor <;> norm_num)

/-! ## the concrete printers -/

/-- **The concrete printer prints the exact value.**  `decode` (a reader of decimal literals
`[-]I[.F][e±X]`, `Lemmas/HashConcrete.lean`) maps the printed string back to sign bit and magnitude. -/
theorem concrete_printer_exact (k : Nat) (r : Rd) : decode (reprRd k r) = (r.neg, (r.mag : Rat) / (10 : Rat) ^ k) :=
  decode_reprDec r.neg r.mag k

/-- tests (kernel evaluation of the printer itself) -/
example : reprRd 8 ⟨true, 0⟩ = "-0.0".toList := by decide +kernel
example : reprRd 8 ⟨false, 1⟩ = "1e-08".toList := by decide +kernel
example : reprRd 8 ⟨true, 150000000⟩ = "-1.5".toList := by decide +kernel
example : reprRd 6 ⟨false, 15994915⟩ = "15.994915".toList := by decide +kernel
example : reprRd 4 ⟨false, 10000⟩ = "1.0".toList := by decide +kernel

/-- the `reprF` field of `Params.Ok` / `Params.OkOn` at the driver's printer -/
theorem reprF_concrete_ok (k : Nat) : Atomic (fun _ : Rd => True) (reprRd k) where
  inj a b _ _ h := by
    obtain ⟨h1, h2⟩ := reprDec_inj h
    have hp : 0 < 10 ^ k := by positivity
    have := Nat.eq_of_mul_eq_mul_right hp h2
    cases a; cases b; simp_all
  tok a _ := reprDec_tok _ _ _
  ne a _ := reprDec_ne_nil _ _ _

/-- the `reprB` field of `Params.OkOn DecPrintable` at the driver's printer (not of `Params.Ok`: `reprRat_not_injective`) -/
theorem reprB_concrete_ok : Atomic DecPrintable reprRat where
  inj a b ha hb h := by
    have := congrArg decode h
    rw [decode_reprRat a ha, decode_reprRat b hb] at this
    obtain ⟨h1, h2⟩ := Prod.mk.inj this
    have h1' : a < 0 ↔ b < 0 := by simpa using h1
    by_cases hn : a < 0
    · have hb' := h1'.mp hn
      rw [abs_of_neg hn, abs_of_neg hb'] at h2
      linarith
    · have hb' : ¬ b < 0 := fun hb' => hn (h1'.mpr hb')
      rw [abs_of_nonneg (not_lt.mp hn), abs_of_nonneg (not_lt.mp hb')] at h2
      exact h2
  tok a ha := by
    obtain ⟨k, -, e⟩ := reprRat_eq ha
    rw [e]; exact reprDec_tok _ _ _
  ne a ha := by
    obtain ⟨k, -, e⟩ := reprRat_eq ha
    rw [e]; exact reprDec_ne_nil _ _ _

/-- multiples of 1/8 (the bond orders the harness generates) are printable; for any `q` with `q.den ∣ 10^j`, `j ≤ 18`,
see `decPrintable_of_dvd` -/
theorem decPrintable_eighths (n : Int) : DecPrintable ((n : Rat) / 8) := by
  apply decPrintable_of_dvd _ 3 (by norm_num)
  have h : ((Rat.divInt n 8).den : Int) ∣ 8 := Rat.den_dvd n 8
  have e : Rat.divInt n 8 = (n : Rat) / 8 := by rw [Rat.divInt_eq_div]; norm_num
  rw [e] at h
  have h' : ((n : Rat) / 8).den ∣ 8 := by exact_mod_cast h
  exact Nat.dvd_trans h' (by decide)

/-- non-vacuity: 1.5 is printable, 1/3 is not (the printer answers `?`) -/
example : DecPrintable (3 / 2) ∧ ¬ DecPrintable (1 / 3) := by decide +kernel

/-- `reprRat` is NOT injective on all rationals — why `Params.Ok` cannot hold of the concrete printer -/
theorem reprRat_not_injective : reprRat (1 / 3) = reprRat (1 / 7) ∧ (1 / 3 : Rat) ≠ 1 / 7 := by decide +kernel

/-- `preimage_injective` is the instance `SB = True` of `preimage_injective_on` -/
example {D} (P : Params D) (hP : P.Ok) (c c' : Canon) (hc : c.Valid) (hc' : c'.Valid)
    (h : preimage P c = preimage P c') : c = c' :=
  preimage_injective_on P (fun _ => True) hP.okOn c c' hc hc' (fun _ _ _ _ => trivial) (fun _ _ _ _ => trivial) h

/-! ## `FlOk` and `OkOn` at the concrete parameters -/

section concrete
variable {D : Type} (massOf : List Char → Dbl) (sha1 : List Char → D)

/-- **The concrete parameters satisfy the printing hypotheses** (bond orders on `DecPrintable`). -/
theorem concreteParams_okOn : (concreteParams massOf sha1).OkOn DecPrintable :=
  ⟨reprF_concrete_ok, reprB_concrete_ok⟩

/-- **`preimage_injective` at the concrete printers**: no hypothesis about the printers; in place of `Params.Ok`, the
stored bond orders of both records lie in the domain of `reprRat` (`BondsIn DecPrintable`). -/
theorem preimage_injective_concrete (c c' : Canon) (hc : c.Valid) (hc' : c'.Valid)
    (hb : c.BondsIn DecPrintable) (hb' : c'.BondsIn DecPrintable)
    (h : preimage (concreteParams massOf sha1) c = preimage (concreteParams massOf sha1) c') : c = c' :=
  preimage_injective_on (concreteParams massOf sha1) DecPrintable (concreteParams_okOn massOf sha1) c c' hc hc' hb hb' h

/-- non-vacuity: validated canonical data with a printable bond order -/
example : Canon.Valid
    { symbols := ["H".toList, "H".toList], masses := [⟨false, 1007825⟩, ⟨false, 1007825⟩],
      charge := ⟨false, 0⟩, mult := 1, real := [true, true], geometry := List.replicate 6 ⟨false, 0⟩,
      fragments := [[0, 1]], fragCharges := [⟨false, 0⟩], fragMults := [1], connectivity := some [⟨0, 1, 3 / 2⟩] }
    ∧ Canon.BondsIn DecPrintable
    { symbols := ["H".toList, "H".toList], masses := [⟨false, 1007825⟩, ⟨false, 1007825⟩],
      charge := ⟨false, 0⟩, mult := 1, real := [true, true], geometry := List.replicate 6 ⟨false, 0⟩,
      fragments := [[0, 1]], fragCharges := [⟨false, 0⟩], fragMults := [1], connectivity := some [⟨0, 1, 3 / 2⟩] } := by
  refine ⟨⟨by decide, by decide⟩, ?_⟩
  intro l hl b hb
  simp only [Option.some.injEq] at hl
  subst hl
  simp only [List.mem_cons, List.not_mem_nil, or_false] at hb
  subst hb
  decide +kernel

theorem hash_sign_of_zero_concrete (m : Mol) (hm : m.Bounded (concreteParams massOf sha1)) :
    hash (concreteParams massOf sha1) m.posZeros = hash (concreteParams massOf sha1) m :=
  hash_sign_of_zero (concreteParams massOf sha1) flOk_concrete m hm

theorem prepArr_small_zero_concrete (k : Nat) (q : Rat) (h : |q * (10 : Rat) ^ k| < 1/2 - 1/256) :
    prepArr rndDouble k (.val q) = ⟨false, 0⟩ :=
  prepArr_small_zero flOk_concrete k q h

theorem round_stable_concrete (k : Nat) (x d : Rat) (n : Int)
    (hb : |x * (10 : Rat) ^ k| ≤ 2 ^ 45 - 1)
    (hn : |x * (10 : Rat) ^ k - n| ≤ 48 / 100) (hd : |d| * (10 : Rat) ^ k ≤ 1 / 100) :
    roundTo rndDouble k (.val (x + d)) = n ∧ roundTo rndDouble k (.val x) = n ∧
      prepArr rndDouble k (.val (x + d)) = prepArr rndDouble k (.val x) :=
  round_stable flOk_concrete k x d n hb hn hd

theorem hash_noise_concrete (m : Mol) (g' : List Dbl) (h : List.Forall₂ NoiseClose m.geometry g') :
    hash (concreteParams massOf sha1) { m with geometry := g' } = hash (concreteParams massOf sha1) m :=
  hash_noise (concreteParams massOf sha1) flOk_concrete m g' h

theorem prep_idempotent_concrete (k : Nat) (x : Dbl) (hx : Bdd k x)
    (hm : ((prepArr rndDouble k x).mag : Rat) ≤ 2 ^ 45) :
    prepArr rndDouble k ((prepArr rndDouble k x).toDbl k) = prepArr rndDouble k x :=
  prep_idempotent flOk_concrete k x hx hm

theorem construct_hash_concrete (m : Mol)
    (hg : ∀ x ∈ m.geometry, Bdd GEOMETRY_NOISE x ∧ ((prepArr rndDouble GEOMETRY_NOISE x).mag : Rat) ≤ 2 ^ 45) :
    hash (concreteParams massOf sha1) (construct rndDouble m)
      = hash (concreteParams massOf sha1) { m with connectivity := m.connectivity.map prepBonds } :=
  construct_hash (concreteParams massOf sha1) flOk_concrete m hg

theorem canon_eq_iff_fields_agree_concrete (a b : Mol)
    (ha : a.Bounded (concreteParams massOf sha1)) (hb : b.Bounded (concreteParams massOf sha1))
    (na : a.NoBand (concreteParams massOf sha1)) (nb : b.NoBand (concreteParams massOf sha1)) :
    canon (concreteParams massOf sha1) a = canon (concreteParams massOf sha1) b ↔ FieldsAgree (concreteParams massOf sha1) a b :=
  canon_eq_iff_fields_agree (concreteParams massOf sha1) flOk_concrete a b ha hb na nb

/-- **hash equal ⇔ listed fields agree after rounding, at the concrete rounding and printers.**  About the
parameters it assumes that SHA-1 does not collide on these two preimages; in place of `Params.Ok`, the stored bond orders
of both molecules are `DecPrintable` (`pa`, `pb`). -/
theorem hash_eq_iff_fields_agree_concrete (a b : Mol)
    (hsha : sha1 (preimage (concreteParams massOf sha1) (canon (concreteParams massOf sha1) a))
        = sha1 (preimage (concreteParams massOf sha1) (canon (concreteParams massOf sha1) b)) →
      preimage (concreteParams massOf sha1) (canon (concreteParams massOf sha1) a)
        = preimage (concreteParams massOf sha1) (canon (concreteParams massOf sha1) b))
    (va : a.Valid (concreteParams massOf sha1)) (vb : b.Valid (concreteParams massOf sha1))
    (pa : (canon (concreteParams massOf sha1) a).BondsIn DecPrintable)
    (pb : (canon (concreteParams massOf sha1) b).BondsIn DecPrintable)
    (ha : a.Bounded (concreteParams massOf sha1)) (hb : b.Bounded (concreteParams massOf sha1))
    (na : a.NoBand (concreteParams massOf sha1)) (nb : b.NoBand (concreteParams massOf sha1)) :
    hash (concreteParams massOf sha1) a = hash (concreteParams massOf sha1) b ↔ FieldsAgree (concreteParams massOf sha1) a b := by
  rw [← canon_eq_iff_fields_agree_concrete massOf sha1 a b ha hb na nb]
  constructor
  · intro h
    exact preimage_injective_concrete massOf sha1 _ _ va vb pa pb (hsha h)
  · exact hash_of_canon _ a b

theorem round_separates_concrete (k : Nat) (x y : Rat)
    (hx : Bdd k (.val x)) (hy : Bdd k (.val y)) (h : 1 + 1 / 64 ≤ |x - y| * (10 : Rat) ^ k) :
    roundTo rndDouble k (.val x) ≠ roundTo rndDouble k (.val y) :=
  round_separates flOk_concrete k x y hx hy h

theorem single_edit_changes_canon_concrete (m : Mol) (l₁ l₂ : List Dbl) (x y : Rat)
    (hgeo : m.geometry = l₁ ++ .val x :: l₂)
    (hedit : 1 + 1 / 64 ≤ |x - y| * (10 : Rat) ^ 8)
    (b : Mol) (hb : b = { m with geometry := l₁ ++ .val y :: l₂ })
    (bm : m.Bounded (concreteParams massOf sha1)) (bb : b.Bounded (concreteParams massOf sha1))
    (nm : m.NoBand (concreteParams massOf sha1)) (nb : b.NoBand (concreteParams massOf sha1)) :
    canon (concreteParams massOf sha1) m ≠ canon (concreteParams massOf sha1) b :=
  single_edit_changes_canon (concreteParams massOf sha1) flOk_concrete m l₁ l₂ x y hgeo hedit b hb bm bb nm nb

end concrete

/-- a coordinate of 1e5 bohr satisfies `Bdd GEOMETRY_NOISE` (one entry of what `Mol.Bounded.geometry` asks) -/
example : Bdd GEOMETRY_NOISE (.val 100000) := by
  unfold Bdd; simp only [Dbl.toRat, GEOMETRY_NOISE]; rw [abs_le]; constructor <;> norm_num

end QcelVerif.Hash
