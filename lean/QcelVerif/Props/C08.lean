import QcelVerif.Lemmas.ToString
import QcelVerif.Lib.Monadic
/-!
# C08 — program input blocks state exactly the molecule they were made from

Property theorems about the model `Model/ToString.lean`; those about the float-print checker `Model/FixedFmt.lean`
(`isFixedRounding_spec`, `_unique`) are in `Lemmas/FixedFmt.lean`.
Every theorem holds for all molecules (any number of atoms / fragments).
-/
namespace QcelVerif.ToString
open QcelVerif.FixedFmt

/-! ## atoms listed once, in order -/

/-- `_atoms_formatter` succeeded ⇒ its lines are exactly one line per *shown* atom (real, or ghost with a
non-empty ghost format), in the molecule's order, each made of that atom's own label and its own coordinates;
and every shown atom did get a label. -/
theorem formatter_lists_shown_atoms (afmt gfmt : Str) (w : Nat) (x : Bool) :
    ∀ (atoms : List Atom) (lines : List Str), atomsFormatter afmt gfmt w x atoms = .ok lines →
      lines = (atoms.filter (shown gfmt)).map (fun a => atomLine w x (labelOf afmt gfmt a) a.xyz) ∧
      ∀ a ∈ atoms.filter (shown gfmt), ∃ l, atomLabel afmt gfmt a = .ok (some l) := by
  intro atoms
  induction atoms with
  | nil => intro lines h; simp [atomsFormatter] at h; subst h; simp
  | cons a t ih =>
    intro lines h
    unfold atomsFormatter at h
    cases hl : atomLabel afmt gfmt a with
    | error e => simp [hl] at h
    | ok ol =>
      cases ol with
      | none =>
        simp only [hl] at h
        have hs : shown gfmt a = false := atomLabel_shown hl
        obtain ⟨e1, e2⟩ := ih lines h
        simp only [List.filter_cons, hs, Bool.false_eq_true, if_false]
        exact ⟨e1, e2⟩
      | some nuc =>
        simp only [hl] at h
        have hs : shown gfmt a = true := atomLabel_shown hl
        cases hr : atomsFormatter afmt gfmt w x t with
        | error e => simp [hr] at h
        | ok rest =>
          simp only [hr, Except.ok.injEq] at h
          obtain ⟨e1, e2⟩ := ih rest hr
          simp only [List.filter_cons, hs, if_true, List.map_cons]
          refine ⟨?_, ?_⟩
          · rw [← h, e1]; simp [labelOf, hl]
          · intro b hb
            simp only [List.mem_cons] at hb
            rcases hb with rfl | hb
            · exact ⟨nuc, hl⟩
            · exact e2 b hb

/-- the number of atom lines is the number of shown atoms — all atoms when the ghost format is non-empty -/
theorem formatter_length {afmt gfmt : Str} {w : Nat} {x : Bool} {atoms : List Atom} {lines : List Str}
    (h : atomsFormatter afmt gfmt w x atoms = .ok lines) :
    lines.length = (atoms.filter (shown gfmt)).length ∧ (gfmt.isEmpty = false → lines.length = atoms.length) := by
  have e := (formatter_lists_shown_atoms afmt gfmt w x atoms lines h).1
  refine ⟨by rw [e, List.length_map], fun hg => ?_⟩
  rw [e, List.length_map]
  congr 1
  apply List.filter_eq_self.2
  intro a _
  simp [shown, hg]

/-- the line of one atom: label left-aligned in `width`, then x, y, z right-aligned in `width`, separated by two
blanks; turbomole (`xyze`) puts the three coordinates first and the right-stripped label last -/
theorem atomLine_shape (w : Nat) (nuc a b c : Str) :
    atomLine w false nuc [a, b, c] = padRight w nuc ++ sp2 ++ (padLeft w a ++ sp2 ++ (padLeft w b ++ sp2 ++ padLeft w c)) ∧
    atomLine w true nuc [a, b, c] = padLeft w a ++ sp2 ++ (padLeft w b ++ sp2 ++ (padLeft w c ++ sp2 ++ rstrip (padRight w nuc))) := by
  constructor <;> simp [atomLine, joinWith]

/-! ## tokenising an atom line (what `line.split()` sees) -/

def wstep (c : Char) (st : Bool × List Str) : Bool × List Str :=
  if c = ' ' then (false, st.2)
  else if st.1 then
    match st.2 with
    | w :: r => (true, (c :: w) :: r)
    | [] => (true, [[c]])
  else (true, [c] :: st.2)

/-- blank-separated words of a line (Python `str.split()` on blanks) -/
def words (l : Str) : List Str := (l.foldr wstep (false, [])).2

theorem wfold_append (a : Str) : ∀ W : List Str,
    a.foldr wstep (false, W) = ((a.foldr wstep (false, [])).1, (a.foldr wstep (false, [])).2 ++ W) ∧
    ((a.foldr wstep (false, [])).1 = true → (a.foldr wstep (false, [])).2 ≠ []) := by
  induction a with
  | nil => intro W; simp
  | cons c t ih =>
    intro W
    obtain ⟨e, inv⟩ := ih W
    simp only [List.foldr_cons]
    rw [e]
    generalize hst : t.foldr wstep (false, []) = st at inv ⊢
    obtain ⟨o, ws⟩ := st
    unfold wstep
    by_cases hc : c = ' '
    · simp [hc]
    · cases o with
      | false => simp [hc]
      | true =>
        cases ws with
        | nil => exact absurd rfl (inv rfl)
        | cons w r => simp [hc]

theorem words_append_space (a b : Str) : words (a ++ ' ' :: b) = words a ++ words b := by
  unfold words
  rw [List.foldr_append, List.foldr_cons]
  have : wstep ' ' (b.foldr wstep (false, [])) = (false, (b.foldr wstep (false, [])).2) := by simp [wstep]
  rw [this, (wfold_append a _).1]

theorem words_space_cons (l : Str) : words (' ' :: l) = words l := by simp [words, wstep]

theorem words_spaces_append (k : Nat) (l : Str) : words (List.replicate k ' ' ++ l) = words l := by
  induction k with
  | zero => simp
  | succ k ih => rw [List.replicate_succ, List.cons_append, words_space_cons, ih]

theorem words_append_spaces (l : Str) (k : Nat) : words (l ++ List.replicate k ' ') = words l := by
  cases k with
  | zero => simp
  | succ k =>
    rw [List.replicate_succ, words_append_space]
    have : words (List.replicate k ' ') = [] := by
      have := words_spaces_append k []
      simpa [words] using this
    rw [this, List.append_nil]

theorem words_token (s : Str) (hne : s ≠ []) (hs : ∀ c ∈ s, c ≠ ' ') : s.foldr wstep (false, []) = (true, [s]) := by
  induction s with
  | nil => exact absurd rfl hne
  | cons c t ih =>
    have hc : c ≠ ' ' := hs c (by simp)
    cases t with
    | nil => simp [wstep, hc]
    | cons d u =>
      rw [List.foldr_cons, ih (by simp) (fun x hx => hs x (by simp [hx]))]
      simp [wstep, hc]

/-- **what a whitespace tokeniser reads from an atom line**: the words of the label, then exactly the three
coordinate texts in x, y, z order (they are non-empty and blank-free: see `isFixedRounding_spec`). -/
theorem words_atomLine (w : Nat) (nuc a b c : Str)
    (ha : a ≠ [] ∧ ∀ x ∈ a, x ≠ ' ') (hb : b ≠ [] ∧ ∀ x ∈ b, x ≠ ' ') (hc : c ≠ [] ∧ ∀ x ∈ c, x ≠ ' ') :
    words (atomLine w false nuc [a, b, c]) = words nuc ++ [a, b, c] := by
  have tok : ∀ s : Str, (s ≠ [] ∧ ∀ x ∈ s, x ≠ ' ') → words (padLeft w s) = [s] := by
    intro s hs
    unfold padLeft
    rw [words_spaces_append]
    unfold words
    rw [words_token s hs.1 hs.2]
  rw [(atomLine_shape w nuc a b c).1]
  simp only [sp2, List.append_assoc, List.cons_append, List.nil_append]
  rw [words_append_space, words_space_cons, words_append_space, words_space_cons, words_append_space, words_space_cons,
    tok a ha, tok b hb, tok c hc]
  unfold padRight
  rw [words_append_spaces]
  simp
-- test: the tokens of a gamess ghost line
#guard words (atomLine 12 false " H -1".toList ["0.000".toList, "-0.000".toList, "2.835".toList]) ==
  ["H", "-1", "0.000", "-0.000", "2.835"].map String.toList

/-- non-vacuity (test): a real atom followed by a ghost, under an empty ghost format: only the real atom is listed -/
example : atomsFormatter (lit "{elem}") [] 4 false
      [⟨-1, 1, ['H'], [], [], true, [['1'], ['2'], ['3']]⟩, ⟨-1, 2, ['H', 'e'], [], [], false, [['4'], ['5'], ['6']]⟩]
    = .ok ["H        1     2     3".toList] := by decide

/-! ## per-dtype spelling of real and ghost atoms -/

/-- the label each program wants (independent statement; `xyz`, `xyz+` are the defaults, SDF uses its own column) -/
def spell (d : Dtype) (a : Atom) : Str :=
  match d with
  | .xyz | .xyzp | .qchem => if a.real then a.elem else '@' :: a.elem
  | .orca => if a.real then a.elem else a.elem ++ [':']
  | .cfour | .madness => if a.real then a.elem else ['G', 'H']
  | .molpro | .mrchem | .turbomole | .sdf => a.elem
  | .nwchem => if a.real then a.elem ++ a.elbl else 'b' :: 'q' :: (a.elem ++ a.elbl)
  | .gamess => if a.real then ' ' :: (a.elem ++ (a.elbl ++ ' ' :: natStr a.elez))
               else ' ' :: (a.elem ++ ' ' :: '-' :: natStr a.elez)
  | .terachem => if a.real then a.elem else 'X' :: a.elem
  | .psi4 => if a.real then a.elem ++ a.elbl else 'G' :: 'h' :: '(' :: (a.elem ++ (a.elbl ++ [')']))

/-- every atom of every molecule is labelled with the program's spelling.  Of the branches covered (`hd` leaves out
SDF, which takes the caller's ghost word) only xyz/xyz+ take the caller's formats; there the statement is for the
defaults -/
theorem spelling (o : Opts) (a : Atom) (hd : o.dtype ≠ .sdf)
    (hx : (o.dtype = .xyz ∨ o.dtype = .xyzp) → o.afmt = none ∧ o.gfmt = none) :
    atomLabel (formats o).1 (formats o).2.1 a = .ok (some (spell o.dtype a)) := by
  cases hdt : o.dtype <;> simp [hdt] at hd hx <;>
    cases hr : a.real <;>
    simp [formats, hdt, hx, atomLabel, hr, applyFmt, lit, fmtGo, fieldValue, plainNameChar, Except.map, spell, natStr]

/-- SDF puts the symbol, or the ghost word (default `Gh`), right-aligned in its 3-character column -/
theorem spelling_sdf (gf : Str) (a : Atom) :
    sdfAtomLine gf a = (a.xyz.map (padLeft 10)).flatten ++ padLeft 3 (if a.real then a.elem else gf) ++
      lit "  0  0     0  0  0  0  0  0" := rfl

/-- every branch but SDF hands the molecule's atoms to `_atoms_formatter` -/
theorem atomBlock_of_ne_sdf {o : Opts} (hd : o.dtype ≠ .sdf) (m : Mol) :
    atomBlock o m = atomsFormatter (formats o).1 (formats o).2.1 o.width (formats o).2.2 m.atoms := by
  unfold atomBlock
  cases hdt : o.dtype <;> first | rfl | exact absurd hdt hd

/-- ghosts are dropped only by xyz/xyz+ with `ghost_format=""`: every other call lists every atom -/
theorem ghost_suppressed_only_xyz_empty (o : Opts) (m : Mol) (atoms : List Str)
    (h : atomBlock o m = .ok atoms)
    (hne : ¬ ((o.dtype = .xyz ∨ o.dtype = .xyzp) ∧ o.gfmt = some [])) :
    atoms.length = m.atoms.length := by
  by_cases hd : o.dtype = .sdf
  · simp only [atomBlock, hd, Except.ok.injEq] at h
    rw [← h, List.length_map]
  · rw [atomBlock_of_ne_sdf hd] at h
    refine (formatter_length h).2 ?_
    cases hdt : o.dtype <;> simp [formats, hdt, lit] at hne hd ⊢
    all_goals
      cases hg : o.gfmt with
      | none => simp
      | some g => cases g <;> simp_all

/-- … and that one call does drop them -/
example : atomBlock ⟨.xyz, .dflt, none, some [], 2, .bohr, false⟩
      ⟨[⟨-1, 2, ['H', 'e'], [], [], false, [['4'], ['5'], ['6']]⟩], none, 0, 1, [], [0], [1], false, false, none, []⟩
    = .ok [] := by decide

/-! ## layout: reading the atom block back -/

theorem render_ok {o : Opts} {m : Mol} {r : Out} (h : render o m = .ok r) :
    ∃ atoms body uw, atomBlock o m = .ok atoms ∧ bodyOf o.dtype atoms m = .ok body ∧
      unitWord o.dtype (resolve o.dtype o.req) = .ok uw ∧
      r = ⟨header o.dtype m uw atoms.length ++ body ++ footer o.dtype m uw, fieldsOf o.dtype,
           keywordsOf o.dtype m uw atoms⟩ := by
  unfold render at h
  cases ha : atomBlock o m with
  | error e => simp [ha, bind, Except.bind] at h
  | ok atoms =>
    cases hb : bodyOf o.dtype atoms m with
    | error e => simp [ha, hb, bind, Except.bind] at h
    | ok body =>
      cases hu : unitWord o.dtype (resolve o.dtype o.req) with
      | error e => simp [ha, hb, hu, bind, Except.bind] at h
      | ok uw =>
        simp only [ha, hb, hu, bind, Except.bind, pure, Except.pure, Except.ok.injEq] at h
        exact ⟨atoms, body, uw, rfl, hb, rfl, h.symm⟩

/-- how many elements of the output list `smol` each format puts before the atom block (the format's layout, stated
independently).  Elements, not text lines: the SDF header element `QCElemental\n`, the mrchem footer `$end\n}` and
the gamess symmetry card (when not C1) hold an embedded newline -/
def hdrLen (d : Dtype) (m : Mol) : Nat :=
  match d with
  | .xyz | .xyzp | .terachem | .madness | .qchem => 2
  | .orca | .gamess | .sdf => 3
  | .cfour | .nwchem | .psi4 | .turbomole => 1
  | .mrchem => 5
  | .molpro => (if m.fixOrient || m.fixCom then 1 else 0) +
      (match m.fixSymm with | none => 1 | some s => if s = lit "c1" then 1 else 0) + 3

/-- … and after it -/
def ftrLen (d : Dtype) (m : Mol) : Nat :=
  match d with
  | .xyz | .xyzp | .cfour | .terachem => 0
  | .orca | .madness | .gamess | .turbomole | .qchem | .mrchem => 1
  | .nwchem => 2
  | .molpro => 3 + (if m.atoms.all (·.real) then 0 else 1)
  | .psi4 => 1 + (if m.fixCom then 1 else 0) + (if m.fixOrient then 1 else 0)
  | .sdf => m.bonds.length

/-- a positional reader on the list of output elements: skip `h` of them, ignore the last `f` -/
def readBlock (h f : Nat) (l : List Str) : List Str := (l.drop h).take (l.length - h - f)

theorem readBlock_append (H B T : List Str) : readBlock H.length T.length (H ++ B ++ T) = B := by
  unfold readBlock
  rw [List.append_assoc, List.drop_left]
  simp only [List.length_append]
  have : H.length + (B.length + T.length) - H.length - T.length = B.length := by omega
  rw [this, List.take_left]

theorem header_length (d : Dtype) (m : Mol) (uw : UnitWord) (n : Nat) : (header d m uw n).length = hdrLen d m := by
  cases d
  case molpro =>
    cases hfs : m.fixSymm with
    | none => by_cases hc : (m.fixOrient || m.fixCom) = true <;> simp [header, hdrLen, hfs, hc]
    | some s =>
      by_cases hc : (m.fixOrient || m.fixCom) = true <;> by_cases hs : s = lit "c1" <;>
        simp [header, hdrLen, hfs, hc, hs]
  all_goals simp [header, hdrLen]

theorem footer_length (d : Dtype) (m : Mol) (uw : UnitWord) : (footer d m uw).length = ftrLen d m := by
  cases d
  case molpro =>
    have e := ghostIndices_isEmpty m.atoms 0
    simp only [footer, ftrLen, e]
    cases m.atoms.all (·.real) <;> simp
  case psi4 => cases hc : m.fixCom <;> cases ho : m.fixOrient <;> simp [footer, ftrLen, hc, ho]
  all_goals simp [footer, ftrLen]

/-- what the block between header and footer is, in terms of the formatter's lines -/
def blockOf (d : Dtype) (atoms : List Str) : List Str :=
  match d with
  | .turbomole => atoms.map lower
  | _ => atoms

/-- psi4/qchem interleave `--` and charge/multiplicity lines; a reader drops them -/
def unfrag (d : Dtype) (l : List Str) : List Str :=
  match d with
  | .psi4 | .qchem => stripHeaders false l
  | _ => l

/-- `np.split` at ascending separators is a partition: the blocks concatenate to the list (from `prev` on),
there is one more block than separators -/
theorem npSplit_flatten {α} (l : List α) : ∀ (seps : List Nat) (prev : Nat), Ascending prev seps →
    (npSplit l prev seps).flatten = l.drop prev ∧ (npSplit l prev seps).length = seps.length + 1
  | [], prev, _ => by simp [npSplit]
  | s :: t, prev, ⟨h1, h2⟩ => by
    refine ⟨?_, npSplit_length l _ prev⟩
    simp only [npSplit, List.flatten_cons, (npSplit_flatten l t s h2).1]
    exact take_drop_append_drop l h1

/-- the first block cut at separator `s` from `prev` on is `l[prev : s]`: it has `s - prev` elements -/
theorem npSplit_head_length {α} (l : List α) (prev s : Nat) (t : List Nat) (h1 : prev ≤ s) (h2 : s ≤ l.length) :
    ((npSplit l prev (s :: t)).head?.map List.length) = some (s - prev) := by
  simp [npSplit, List.length_drop, List.length_take]; omega

theorem fragLoop_strip (multi : Bool) : ∀ (blocks : List (List Str)) (fc fm : List Int) (out : List Str),
    fragLoop multi blocks fc fm = .ok out → (∀ l ∈ blocks.flatten, l ≠ lit "--") →
    stripHeaders false out = blocks.flatten := by
  intro blocks
  induction blocks with
  | nil => intro fc fm out h _; simp [fragLoop] at h; subst h; rfl
  | cons b bs ih =>
    intro fc fm out h hb
    have hb0 : ∀ l ∈ b, l ≠ lit "--" := fun l hl => hb l (by simp [hl])
    have hbs : ∀ l ∈ bs.flatten, l ≠ lit "--" := fun l hl => hb l (by simp [hl])
    unfold fragLoop at h
    cases multi with
    | true =>
      simp only [if_true] at h
      cases fc with
      | nil => simp at h
      | cons c fc' =>
        cases fm with
        | nil => simp at h
        | cons mm fm' =>
          simp only at h
          cases hr : fragLoop true bs fc' fm' with
          | error e => simp [hr] at h
          | ok r =>
            simp only [hr, Except.ok.injEq] at h
            subst h
            show stripHeaders false (lit "--" :: chgMultLine c mm :: (b ++ r)) = _
            rw [stripHeaders, if_pos rfl, stripHeaders, List.flatten_cons,
              stripHeaders_append_plain b hb0, ih fc' fm' r hr hbs]
    | false =>
      simp only [Bool.false_eq_true, if_false] at h
      cases hr : fragLoop false bs fc.tail fm.tail with
      | error e => simp [hr] at h
      | ok r =>
        simp only [hr, Except.ok.injEq] at h
        subst h
        rw [List.flatten_cons, stripHeaders_append_plain b hb0, ih fc.tail fm.tail r hr hbs]

/-- with more than one fragment, block `k` is headed by `--` and fragment `k`'s charge and multiplicity -/
theorem fragLoop_headers : ∀ (blocks : List (List Str)) (fc fm : List Int) (out : List Str),
    fragLoop true blocks fc fm = .ok out →
    blocks.length ≤ fc.length ∧ blocks.length ≤ fm.length ∧
    out = ((blocks.zip (fc.zip fm)).map (fun x => lit "--" :: chgMultLine x.2.1 x.2.2 :: x.1)).flatten := by
  intro blocks
  induction blocks with
  | nil => intro fc fm out h; simp [fragLoop] at h; subst h; simp
  | cons b bs ih =>
    intro fc fm out h
    unfold fragLoop at h
    simp only [if_true] at h
    cases fc with
    | nil => simp at h
    | cons c fc' =>
      cases fm with
      | nil => simp at h
      | cons mm fm' =>
        simp only at h
        cases hr : fragLoop true bs fc' fm' with
        | error e => simp [hr] at h
        | ok r =>
          simp only [hr, Except.ok.injEq] at h
          obtain ⟨l1, l2, e⟩ := ih fc' fm' r hr
          subst h
          refine ⟨by simp; omega, by simp; omega, ?_⟩
          simp [e]

/-- **fragment blocks partition the atom lines** (psi4, qchem), any number of fragments: removing the
`--`/charge-multiplicity pairs from the fragment loop's output gives back the atom lines, in order, nothing
lost or repeated; with ≥ 1 separator every block is headed by its own fragment's charge and multiplicity and
the blocks are `np.split`'s, which concatenate to the atom lines. -/
theorem fragment_blocks_partition {atoms body : List Str} {m : Mol}
    (h : fragBlocks atoms m = .ok body) (hasc : Ascending 0 m.seps) (hsep : ∀ l ∈ atoms, l ≠ lit "--") :
    stripHeaders false body = atoms ∧
    (npSplit atoms 0 m.seps).flatten = atoms ∧ (npSplit atoms 0 m.seps).length = m.seps.length + 1 ∧
    (m.seps ≠ [] →
      (npSplit atoms 0 m.seps).length ≤ m.fcharges.length ∧ (npSplit atoms 0 m.seps).length ≤ m.fmults.length ∧
      body = (((npSplit atoms 0 m.seps).zip (m.fcharges.zip m.fmults)).map
                (fun x => lit "--" :: chgMultLine x.2.1 x.2.2 :: x.1)).flatten) := by
  obtain ⟨e, n⟩ := npSplit_flatten atoms m.seps 0 hasc
  simp only [List.drop_zero] at e
  unfold fragBlocks at h
  refine ⟨?_, e, n, ?_⟩
  · rw [fragLoop_strip _ _ _ _ _ h (by rw [e]; exact hsep), e]
  · intro hne
    have hm : decide (1 < (npSplit atoms 0 m.seps).length) = true := by
      rw [n]
      cases hs : m.seps with
      | nil => exact absurd hs hne
      | cons _ _ => simp
    simp only [hm] at h
    exact fragLoop_headers _ _ _ _ h

/-- an atom line (three coordinates, either column order) is never the separator `--`: it contains blanks -/
theorem atomLine_ne_dashes (w : Nat) (x : Bool) (nuc : Str) {xyz : List Str} (h : xyz.length = 3) :
    atomLine w x nuc xyz ≠ lit "--" := by
  match xyz, h with
  | [a, b, c], _ =>
    intro he
    have hm : ' ' ∈ atomLine w x nuc [a, b, c] := by cases x <;> simp [atomLine, joinWith, sp2]
    rw [he] at hm
    exact absurd hm (by decide)

theorem formatter_ne_dashes {afmt gfmt : Str} {w : Nat} {x : Bool} {atoms : List Atom} {lines : List Str}
    (h : atomsFormatter afmt gfmt w x atoms = .ok lines) (h3 : ∀ a ∈ atoms, a.xyz.length = 3) :
    ∀ l ∈ lines, l ≠ lit "--" := by
  intro l hl
  rw [(formatter_lists_shown_atoms afmt gfmt w x atoms lines h).1] at hl
  obtain ⟨a, ha, rfl⟩ := List.mem_map.1 hl
  exact atomLine_ne_dashes w x _ (h3 a (List.mem_filter.1 ha).1)

/-- the `xyze = false` case of `formatter_ne_dashes` (every branch but turbomole): with three coordinates per atom the
hypothesis `hsep` of `extract_atomLines` below holds -/
theorem formatter_no_dashes {afmt gfmt : Str} {w : Nat} {atoms : List Atom} {lines : List Str}
    (h : atomsFormatter afmt gfmt w false atoms = .ok lines) (h3 : ∀ a ∈ atoms, a.xyz.length = 3) :
    ∀ l ∈ lines, l ≠ lit "--" :=
  formatter_ne_dashes h h3

/-- **layout read-back**, all dtypes, all molecules: skip the format's header elements, ignore its footer elements
(`hdrLen`, `ftrLen` count elements of `r.lines`), drop the `--`/charge-multiplicity pairs (psi4, qchem) — what is left
is exactly the list of atom lines the formatter produced (lower-cased by turbomole): nothing else in the text is an
atom line and no atom line is missing.  (`hsep`: no atom line is literally `--`; see `formatter_ne_dashes`.) -/
theorem extract_atomLines {o : Opts} {m : Mol} {r : Out} {atoms : List Str}
    (h : render o m = .ok r) (ha : atomBlock o m = .ok atoms)
    (hsep : ∀ l ∈ atoms, l ≠ lit "--") (hasc : Ascending 0 m.seps) :
    unfrag o.dtype (readBlock (hdrLen o.dtype m) (ftrLen o.dtype m) r.lines) = blockOf o.dtype atoms := by
  obtain ⟨atoms', body, uw, ha', hb, _, hr⟩ := render_ok h
  rw [ha] at ha'
  cases ha'
  subst hr
  simp only
  rw [← header_length o.dtype m uw atoms.length, ← footer_length o.dtype m uw, readBlock_append]
  cases hd : o.dtype <;> simp only [hd, bodyOf, Except.ok.injEq] at hb <;>
    first
    | (subst hb; rfl)
    | exact (fragment_blocks_partition hb hasc hsep).1

/-- a two-fragment molecule whose second atom is a labelled ghost; with `exOpts` (psi4) it is the running example of
the kernel-evaluated tests -/
def exMol : Mol :=
  ⟨[⟨-1, 1, ['H'], [], [], true, [['1'], ['2'], ['3']]⟩, ⟨-1, 2, ['H', 'e'], [], ['x'], false, [['4'], ['5'], ['6']]⟩],
   some ['m'], 1, 2, [1], [1, 0], [1, 2], true, false, none, []⟩
def exOpts : Opts := ⟨.psi4, .dflt, none, none, 3, .bohr, false⟩

/-- (test) the rendered elements of the example -/
example : (render exOpts exMol).map (·.lines) = .ok
    (["1 2", "--", "1 1", "H      1    2    3", "--", "0 2", "Gh(Hex)    4    5    6", "units bohr", "no_com"].map String.toList) := by
  decide
/-- non-vacuity (test): the hypotheses of `extract_atomLines` hold of the example, which has two atom lines -/
example : ∃ r atoms, render exOpts exMol = .ok r ∧ atomBlock exOpts exMol = .ok atoms ∧
    (∀ l ∈ atoms, l ≠ lit "--") ∧ Ascending 0 exMol.seps ∧ atoms.length = 2 := by
  refine ⟨_, _, rfl, rfl, ?_, by simp [Ascending, exMol], rfl⟩
  decide

/-- the numbers on the molpro `dummy` card are exactly the 1-based positions of the ghost atoms, in
ascending order without repetition; the card is absent exactly when every atom is real -/
theorem molpro_dummy_indices (atoms : List Atom) :
    (∀ n, n ∈ ghostIndices 0 atoms ↔ ∃ i a, atoms[i]? = some a ∧ a.real = false ∧ n = i + 1) ∧
    List.Pairwise (· < ·) (ghostIndices 0 atoms) ∧
    ((ghostIndices 0 atoms).isEmpty = atoms.all (·.real)) := by
  refine ⟨fun n => ?_, ghostIndices_sorted atoms 0, ghostIndices_isEmpty atoms 0⟩
  rw [ghostIndices_mem atoms 0 n]
  simp

/-- (test) ghosts at positions 2 and 3 of four atoms -/
example : ghostIndices 0 [⟨-1, 1, [], [], [], true, []⟩, ⟨-1, 1, [], [], [], false, []⟩, ⟨-1, 1, [], [], [], false, []⟩,
    ⟨-1, 1, [], [], [], true, []⟩] = [2, 3] := by decide

def notSp (c : Char) : Bool := c != ' '

/-- the two leading blank-separated integers of a line -/
def readTwo (l : Str) : Int × Int :=
  (readInt (l.takeWhile notSp), readInt (((l.dropWhile notSp).drop 1).takeWhile notSp))

/-- two blank-free words, one blank between them, then nothing or a blank: `readTwo` reads the two words -/
theorem readTwo_words (a b t : Str) (ha : ∀ c ∈ a, c ≠ ' ') (hb : ∀ c ∈ b, c ≠ ' ') (ht : t.takeWhile notSp = []) :
    readTwo (a ++ ' ' :: (b ++ t)) = (readInt a, readInt b) := by
  have ha' : ∀ c ∈ a, notSp c = true := fun c hc => by simp [notSp, ha c hc]
  have hb' : ∀ c ∈ b, notSp c = true := fun c hc => by simp [notSp, hb c hc]
  simp [readTwo, List.takeWhile_append_of_pos ha', List.dropWhile_append_of_pos ha', List.takeWhile_append_of_pos hb', ht, notSp]

/-- reading `"c m"` or `"c m rest"` back gives the integers that were written -/
theorem readTwo_chgMult (c mm : Int) :
    readTwo (chgMultLine c mm) = (c, mm) ∧ ∀ rest, readTwo (intStr c ++ ' ' :: intStr mm ++ ' ' :: rest) = (c, mm) := by
  have h := fun t => readTwo_words (intStr c) (intStr mm) t (intStr_no_space c) (intStr_no_space mm)
  simp only [readInt_intStr] at h
  exact ⟨by simpa [chgMultLine] using h [] rfl, fun rest => by simpa using h (' ' :: rest) rfl⟩

def kwGet (k : Str) (kws : List (Str × KwVal)) : Option KwVal := (kws.find? (fun kv => kv.1 = k)).map (·.2)

/-- **charge and multiplicity are the molecule's**, per format with a slot (integer charges; every molecule,
every unit word `uw`, every number `n` of atom lines):
text slots are read back with `readTwo`/`readInt`, keyword slots with `kwGet`;
molpro states spin = multiplicity − 1, nwchem `scf__nopen` = multiplicity − 1 and only for non-singlets,
madness only a `spin_restricted` flag.  terachem, turbomole and nglview-sdf have no slot at all. -/
theorem chgmult_stated (m : Mol) (uw : UnitWord) (n : Nat) (atoms : List Str) :
    -- xyz, xyz+ : second line "c m name"
    ((header .xyz m uw n)[1]?.map readTwo = some (m.charge, m.mult) ∧
     (header .xyzp m uw n)[1]?.map readTwo = some (m.charge, m.mult)) ∧
    -- orca : "*xyz c m"
    (header .orca m uw n)[2]? = some (lit "*xyz " ++ chgMultLine m.charge m.mult) ∧
    -- psi4 first line, qchem second line : "c m"
    ((header .psi4 m uw n)[0]?.map readTwo = some (m.charge, m.mult) ∧
     (header .qchem m uw n)[1]?.map readTwo = some (m.charge, m.mult)) ∧
    -- mrchem : text and keywords
    ((header .mrchem m uw n)[1]? = some (lit "charge = " ++ intStr m.charge) ∧
     (header .mrchem m uw n)[2]? = some (lit "multiplicity = " ++ intStr m.mult) ∧
     kwGet (lit "charge") (keywordsOf .mrchem m uw atoms) = some (.int m.charge) ∧
     kwGet (lit "multiplicity") (keywordsOf .mrchem m uw atoms) = some (.int m.mult)) ∧
    -- molpro : the last two cards
    ((footer .molpro m uw).reverse[1]? = some (lit "set,charge=" ++ intStr m.charge ++ lit ".0") ∧
     (footer .molpro m uw).reverse[0]? = some (lit "set,spin=" ++ intStr (m.mult - 1))) ∧
    -- cfour, gamess keywords
    (kwGet (lit "charge") (keywordsOf .cfour m uw atoms) = some (.int m.charge) ∧
     kwGet (lit "multiplicity") (keywordsOf .cfour m uw atoms) = some (.int m.mult) ∧
     kwGet (lit "contrl__icharg") (keywordsOf .gamess m uw atoms) = some (.int m.charge) ∧
     kwGet (lit "contrl__mult") (keywordsOf .gamess m uw atoms) = some (.int m.mult)) ∧
    -- nwchem keywords
    (kwGet (lit "charge") (keywordsOf .nwchem m uw atoms) = some (.int m.charge) ∧
     (m.mult ≠ 1 →
        kwGet (lit "scf__nopen") (keywordsOf .nwchem m uw atoms) = some (.int (m.mult - 1)) ∧
        kwGet (lit "dft__mult") (keywordsOf .nwchem m uw atoms) = some (.int m.mult) ∧
        kwGet (lit "mcscf__multiplicity") (keywordsOf .nwchem m uw atoms) = some (.int m.mult)) ∧
     (m.mult = 1 → keywordsOf .nwchem m uw atoms = [(lit "charge", .int m.charge)])) ∧
    -- madness keywords
    (kwGet (lit "charge") (keywordsOf .madness m uw atoms) = some (.int m.charge) ∧
     (kwGet (lit "spin_restricted") (keywordsOf .madness m uw atoms) = some (.str (lit "false")) ↔ m.mult ≠ 1)) ∧
    -- no slot
    (keywordsOf .terachem m uw atoms = [] ∧ keywordsOf .turbomole m uw atoms = [] ∧ keywordsOf .sdf m uw atoms = []) := by
  have r1 := (readTwo_chgMult m.charge m.mult).1
  have r2 := (readTwo_chgMult m.charge m.mult).2 m.nameOr
  refine ⟨⟨?xyz, ?xyzp⟩, ?_, ⟨?_, ?_⟩, ⟨?_, ?_, ?_, ?_⟩, ⟨?_, ?_⟩, ⟨?_, ?_, ?_, ?_⟩, ⟨?_, fun h => ?nopen, fun h => ?singlet⟩,
    ⟨?_, ?spin⟩, ?_⟩
  case xyz | xyzp =>
    simp only [header, List.getElem?_cons_succ, List.getElem?_cons_zero, Option.map_some]
    rw [← r2]
  case nopen => simp [kwGet, keywordsOf, lit, h]
  case singlet => simp [keywordsOf, h]
  case spin => by_cases h : m.mult = 1 <;> simp [kwGet, keywordsOf, lit, h]
  -- the rest: read off the header, the footer or the keyword list
  all_goals simp [header, footer, kwGet, keywordsOf, lit, r1]

/-! ## the announced unit is the unit used: the complete decision table -/

/-- what the target program understands when it reads the unit word -/
inductive Announce where
  | unit (u : TUnit)   -- a length unit
  | nothing            -- the format has no unit slot and fixes no unit (mrchem)
  | notAUnit           -- the slot holds something the program cannot read as a unit (the word `None`)
  deriving DecidableEq, Repr

/-- each program's own vocabulary (stated independently of `umap`); turbomole `$coord` is Bohr and an SDF
mol block is Angstrom by definition of those formats -/
def readWord (d : Dtype) (uw : UnitWord) : Announce :=
  match d, uw with
  | .turbomole, .silent => .unit .bohr
  | .sdf, .silent => .unit .angstrom
  | _, .silent => .nothing
  | _, .pyNone => .notAUnit
  | d, .word w =>
    let tbl : List (Str × TUnit) :=
      match d with
      | .xyz | .xyzp => [([], .angstrom), (lit "au", .bohr), (lit "nm", .nm), (lit "pm", .pm)]
      | .terachem => [([], .angstrom), (lit "au", .bohr)]
      | .orca => [(lit "!", .angstrom), (lit "! Bohrs", .bohr)]
      | .cfour | .molpro | .psi4 => [(lit "angstrom", .angstrom), (lit "bohr", .bohr)]
      | .nwchem => [(lit "angstroms", .angstrom), (lit "bohr", .bohr), (lit "nanometers", .nm), (lit "picometers", .pm)]
      | .madness => [(lit "angstrom", .angstrom), (lit "au", .bohr)]
      | .gamess => [(lit "angs", .angstrom), (lit "bohr", .bohr)]
      | .qchem => [(lit "False", .angstrom), (lit "True", .bohr)]     -- INPUT_BOHR
      | _ => []
    match tbl.find? (fun e => e.1 = w) with
    | some e => .unit e.2
    | none => .notAUnit

/-- the factor that converts `stored` coordinates into unit `u` (the specification) -/
def idealFactor (stored : SUnit) (u : TUnit) (pinned : Bool) : Factor :=
  match stored, u with
  | .bohr, .bohr | .angstrom, .angstrom => .one
  | .angstrom, .bohr => if pinned then .pinned else .invB2A
  | .bohr, .angstrom => .b2a
  | s, .nm => .conv s .nm
  | s, .pm => .conv s .pm

/-- one row of the table: what happens for (dtype, stored unit, `units=` request, pinned or not) -/
def outcome (d : Dtype) (s : SUnit) (r : Req) (p : Bool) : Except Err (Factor × Announce) :=
  (unitWord d (resolve d r)).map fun uw => (selectFactor s (resolve d r) p, readWord d uw)

/-- the factor is the specification's; the program plays no part in it -/
theorem selectFactor_eq_ideal (s : SUnit) (t : TUnit) (p : Bool) : selectFactor s t p = idealFactor s t p := by
  cases s <;> cases t <;> rfl

/-- the word a program is given for unit `t`, if it reads it as a unit at all, it reads as `t` (14 × 4 rows: storage unit
and pinning play no part in the word) -/
theorem readWord_unitWord {d : Dtype} {t u : TUnit} {uw : UnitWord}
    (hw : unitWord d t = .ok uw) (hr : readWord d uw = .unit u) : u = t := by
  cases d <;> cases t <;> cases hw <;> cases hr <;> rfl

/-- **announced unit = unit used**: in every one of the 14 × 2 × 5 × 2 rows, whenever the unit word that is
written (the same `unitWord` every branch of `render` uses) is read by the target program as unit `u`, the
factor that multiplied the stored coordinates is the one converting stored → `u`. -/
theorem announced_unit_is_used (d : Dtype) (s : SUnit) (r : Req) (p : Bool) (f : Factor) (u : TUnit)
    (h : outcome d s r p = .ok (f, .unit u)) : f = idealFactor s u p := by
  unfold outcome at h
  cases hw : unitWord d (resolve d r) with
  | error e => rw [hw] at h; cases h
  | ok uw =>
    rw [hw] at h
    injection h with h
    injection h with hf hr
    rw [← hf, readWord_unitWord hw hr, selectFactor_eq_ideal]

/-- non-vacuity: e.g. nwchem in picometers from Angstrom storage announces pm -/
example : outcome .nwchem .angstrom .pm true = .ok (.conv .angstrom .pm, .unit .pm) := by decide

/-- whether a row refuses, and with what, is decided by the unit word alone: storage unit and pinning play no part -/
theorem outcome_error (d : Dtype) (s : SUnit) (r : Req) (p : Bool) (e : Err) :
    outcome d s r p = .error e ↔ unitWord d (resolve d r) = .error e := by
  unfold outcome
  cases unitWord d (resolve d r) <;> simp [Except.map]

/-- so is what the program reads -/
theorem outcome_announce (d : Dtype) (s : SUnit) (r : Req) (p : Bool) :
    (outcome d s r p).map (·.2) = (unitWord d (resolve d r)).map (readWord d) := by
  unfold outcome
  cases unitWord d (resolve d r) <;> rfl

def refuses (d : Dtype) (r : Req) : Option Err :=
  match d, resolve d r with
  | .orca, .nm | .orca, .pm | .terachem, .nm | .terachem, .pm | .psi4, .nm | .psi4, .pm
  | .qchem, .nm | .qchem, .pm => some .keyError
  | .turbomole, .angstrom | .turbomole, .nm | .turbomole, .pm => some .keyError
  | .sdf, .bohr | .sdf, .nm | .sdf, .pm => some .valueError
  | _, _ => none

/-- **error rows, explicit**: a row raises exactly when the format cannot spell the unit — KeyError for
orca/terachem/psi4/qchem × nm, pm and turbomole × anything but Bohr, ValueError for SDF × anything but
Angstrom — independent of storage unit and pinning; every other row renders. -/
theorem unit_error_rows (d : Dtype) (s : SUnit) (r : Req) (p : Bool) :
    (∀ e, outcome d s r p = .error e ↔ refuses d r = some e) := by
  intro e
  rw [outcome_error]
  cases d <;> cases r <;> cases e <;> decide

/-- **rows that write the word `None`** instead of a unit (outside the property's quantifier: formats that do
not spell nm/pm but do not refuse either): exactly cfour, molpro, gamess, madness × nm, pm. -/
theorem unit_none_rows (d : Dtype) (s : SUnit) (r : Req) (p : Bool) :
    (outcome d s r p).map (·.2) = .ok .notAUnit ↔
      ((d = .cfour ∨ d = .molpro ∨ d = .gamess ∨ d = .madness) ∧ (r = .nm ∨ r = .pm)) := by
  rw [outcome_announce]
  cases d <;> cases r <;> decide

/-- mrchem never announces anything (its coordinates are in whatever unit was requested) -/
theorem mrchem_announces_nothing (s : SUnit) (r : Req) (p : Bool) :
    ∃ f, outcome .mrchem s r p = .ok (f, .nothing) := ⟨_, rfl⟩

/-! ## coordinates: the chain text ↔ printed double ↔ stored coordinate × selected factor -/

theorem checkCoords_ok (f : Rat) (prec : Nat) : ∀ (coords : List (List Coord)) (i : Nat),
    checkCoords f prec i coords = .ok →
    ∀ cs ∈ coords, ∀ c ∈ cs, isRoundedTo (c.x * f) c.p = true ∧ isFixedRounding c.neg c.p prec c.text = true := by
  intro coords
  induction coords with
  | nil => intro i _ cs hcs; simp at hcs
  | cons cs0 t ih =>
    intro i h cs hcs c hc
    unfold checkCoords at h
    by_cases h1 : (cs0.all fun c => isRoundedTo (c.x * f) c.p) = true
    · by_cases h2 : (cs0.all fun c => isFixedRounding c.neg c.p prec c.text) = true
      · simp only [h1, h2, Bool.not_true, Bool.false_eq_true, if_false] at h
        simp only [List.mem_cons] at hcs
        rcases hcs with rfl | hcs
        · exact ⟨List.all_eq_true.1 h1 c hc, List.all_eq_true.1 h2 c hc⟩
        · exact ih (i + 1) h cs hcs c hc
      · simp [h1, h2] at h
    · simp [h1] at h

/-- **what the driver has checked when it answers `ok`**: there is a value `f` for the factor the model selects
(`selectFactor`, to_string.py:98-110) such that every printed coordinate text is the unique correctly rounded
`prec`-digit decimal (4 digits for SDF) of a double `p` that is within relative 2⁻⁵³ of `x · f` for the stored
coordinate `x` — the two third-party steps (numpy multiply, CPython print) are pinned on every value used. -/
theorem checked_coordinates {o : Opts} {prec : Nat} {c : Consts} {coords : List (List Coord)}
    (h : checkParams o prec c coords = .ok) :
    ∃ f, factorValue c (selectFactor o.stored (resolve o.dtype o.req) o.pinned) = some f ∧
      ∀ cs ∈ coords, ∀ cd ∈ cs, isRoundedTo (cd.x * f) cd.p = true ∧
        isFixedRounding cd.neg cd.p (branchPrec o.dtype prec) cd.text = true := by
  unfold checkParams at h
  cases hf : factorValue c (selectFactor o.stored (resolve o.dtype o.req) o.pinned) with
  | none => simp [hf] at h
  | some f =>
    simp only [hf] at h
    exact ⟨f, rfl, checkCoords_ok f _ coords 0 h⟩

-- test: 1.5 Å × (1/0.52917721067 as a double) printed at 5 places
#guard checkParams ⟨.psi4, .bohr, none, none, 12, .angstrom, false⟩ 5
  ⟨(4766404577572741 : Rat) / 9007199254740992, (4255284937222083 : Rat) / 2251799813685248, none, none⟩
  [[⟨(3 : Rat) / 2, (1595731851458281 : Rat) / 562949953421312, false, "2.83459".toList⟩]] == .ok

end QcelVerif.ToString
