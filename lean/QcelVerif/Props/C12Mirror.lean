import QcelVerif.Model.KabschMirror
import QcelVerif.Props.C12Unique
/-!
# C12 — the mirror clause: recipes with `mirror = True`, and "mirror images are matched only when requested"

The code mirrors FIRST (`algeom[:, 1] *= -1.0`), then subtracts the shift, then rotates (models/align.py:80-83);
`B787`'s mirror pass (align.py:216-227) mirrors the concern geometry the same way before handing it to
`kabsch_align`, so the rotation/shift it stores are those of the MIRRORED second geometry.  The model is
`alignCoords true T U amap geom` (`Model/Kabsch.lean`).

Proved here, on the model's `alignCoords`:
* a `mirror = true` recipe that exactly superimposes the mirror image (y → −y) of a rigid copy `r·A + t` of a
  non-collinear reference has `U = Aᵀ`, `T = t`; its composite linear map `reflY·U = (A·reflY)ᵀ` is the inverse of the
  improper motion that was applied (determinant −1).  The other reading — a rigid copy of the mirrored reference,
  `c = mirrorY(r)·A + t` — gives `U = (S A S)ᵀ`, `T = mirrorY t` with `S = reflY`.
* `Planar` / `NonPlanar` of `Model/KabschMirror.lean` are complementary.
* for a planar molecule a recipe with `mirror = false` superimposes the mirror image exactly
  (`mirror_never_needed_for_planar`; `planar_mirror_is_rotation` states the same fact for a centred set, without
  `alignCoords`, and is not used by it).
* for a non-planar reference NO recipe with `mirror = false` and a matrix of determinant +1 superimposes the mirror
  image with the same atom correspondence (`chiral_needs_mirror`; `no_rotation_onto_mirror_image` is the centred-set
  form, not used by it).  Together with `B787.mirror_only_on_request` this is the clause "mirror images are matched
  only when mirror matching is requested".

`section Ring` is over any commutative ring (`det_eq_one_of_fixes_three` over a domain), `section Field` over any field,
`section Ordered` over every linearly ordered field.
-/
namespace QcelVerif.Kabsch
variable {K : Type}

section Ring
variable [CommRing K]

/-! ## the reflection `y → −y` (any commutative ring) -/

theorem mirrorY_eq_rowMul (v : V3 K) : v.mirrorY = rowMul v reflY := by
  ext <;> simp only [V3.mirrorY, rowMul, reflY] <;> ring

theorem mirrorY_mirrorY (v : V3 K) : v.mirrorY.mirrorY = v := by
  ext <;> simp only [V3.mirrorY, neg_neg]

/-- the mirror image of a moved atom is the atom moved by the improper matrix `A·reflY` and the mirrored shift -/
theorem mirrorY_moved (A : M3 K) (t r : V3 K) :
    ((rowMul r A).add t).mirrorY = (rowMul r (A.mul reflY)).add t.mirrorY := by
  rw [mirrorY_eq_rowMul ((rowMul r A).add t), rowMul_add, ← rowMul_mul, ← mirrorY_eq_rowMul t]

theorem reflY_mul_reflY : (reflY : M3 K).mul reflY = M3.one := by
  ext <;> simp only [M3.mul, reflY, M3.one] <;> ring

theorem reflY_transpose : (reflY : M3 K).transpose = reflY := by
  ext <;> simp only [M3.transpose, reflY]

theorem reflY_orth : (reflY : M3 K).mul reflY.transpose = M3.one := by
  rw [reflY_transpose, reflY_mul_reflY]

theorem reflY_det : (reflY : M3 K).det = -1 := by
  simp only [M3.det, reflY]; ring

/-- the model mirrors first: a `mirror = true` recipe is the `mirror = false` recipe on the mirrored geometry -/
theorem alignCoords_true_eq (T : V3 K) (U : M3 K) (amap : List Nat) (g : List (V3 K)) :
    alignCoords true T U amap g = alignCoords false T U amap (g.map V3.mirrorY) := by
  simp only [alignCoords, if_true, Bool.false_eq_true, if_false]

/-- what one atom of a `mirror = true` recipe undergoes, as ONE affine map with an improper linear part:
    `(mirrorY c − T)·U = c·(reflY·U) − T·U`, and `det(reflY·U) = −det U` -/
theorem mirror_recipe_composite (T c : V3 K) (U : M3 K) :
    rowMul (c.mirrorY.sub T) U = (rowMul c (reflY.mul U)).sub (rowMul T U)
      ∧ (reflY.mul U).det = -U.det := by
  refine ⟨?_, by rw [M3.det_mul, reflY_det]; ring⟩
  rw [rowMul_sub, mirrorY_eq_rowMul, rowMul_mul]

theorem det_ofRows (a b d : V3 K) : (ofRows a b d).det = triple a b d := by
  simp only [ofRows, M3.det, triple, V3.cross, V3.dot]; ring

/-- a matrix that fixes three vectors with non-zero triple product has determinant 1 (over a domain) -/
theorem det_eq_one_of_fixes_three [IsDomain K] (Q : M3 K) (a b d : V3 K) (ha : rowMul a Q = a) (hb : rowMul b Q = b)
    (hd : rowMul d Q = d) (h3 : triple a b d ≠ 0) : Q.det = 1 := by
  have h := congrArg M3.det (ofRows_mul a b d Q)
  rw [ha, hb, hd, M3.det_mul, det_ofRows] at h
  have : triple a b d * (Q.det - 1) = 0 := by linear_combination h
  rcases mul_eq_zero.mp this with h0 | h1
  · exact absurd h0 h3
  · linear_combination h1

/-- Cramer: `[a, b, d]·n = (n·a)(b × d) + (n·b)(d × a) + (n·d)(a × b)` -/
theorem triple_smul (a b d n : V3 K) :
    V3.smul (triple a b d) n
      = ((V3.smul (a.dot n) (V3.cross b d)).add (V3.smul (b.dot n) (V3.cross d a))).add
          (V3.smul (d.dot n) (V3.cross a b)) := by
  ext <;> simp only [V3.smul, V3.add, triple, V3.dot, V3.cross] <;> ring

end Ring

section Field
variable [Field K]

theorem reflPlane_eq (n : V3 K) : reflPlane n = axial (-2 / n.nrm2) 1 n := by
  ext <;> simp only [reflPlane, axial, outer, M3.smul, M3.add, M3.one] <;> ring

/-- a vector of the plane is fixed by the reflection through the plane (no hypothesis on `|n|²`) -/
theorem reflPlane_fixes (n a : V3 K) (h : a.dot n = 0) : rowMul a (reflPlane n) = a := by
  rw [reflPlane_eq, rowMul_axial, h]
  ext <;> simp only [V3.add, V3.smul] <;> ring

theorem reflPlane_orth (n : V3 K) (hn : n.nrm2 ≠ 0) : (reflPlane n).mul (reflPlane n).transpose = M3.one := by
  rw [reflPlane_eq]
  exact axial_orth (by field_simp; ring) (by ring)

theorem reflPlane_det (n : V3 K) (hn : n.nrm2 ≠ 0) : (reflPlane n).det = -1 := by
  rw [reflPlane_eq, axial_det]; field_simp; ring

end Field

section Ordered
variable [Field K] [LinearOrder K] [IsStrictOrderedRing K]

/-! ## the `mirror = true` recipe recovers the applied motion -/

/-- **(mirror = true, on the model's `alignCoords`)** let the reference `Rg` be non-collinear about its centroid,
    let the second geometry `Cg` contain, at the place `amap[k]` the recipe pairs with reference atom `k`, the MIRROR
    IMAGE `mirrorY (Rg[k]·A + t)` of the moved copy of that atom (rotated, translated, then `y → −y`, and — through
    `amap` — arbitrarily shuffled), and let the recipe `(rotation U, shift T, atommap amap, mirror ON)` superimpose
    it exactly: `alignCoords true T U amap Cg = some Rg`.  Then `U = Aᵀ = A⁻¹` and `T = t` — rotation and shift are
    those of the underlying proper motion — and the recipe as a whole is that motion composed with the reflection:
    its linear part `reflY·U` equals `(A·reflY)ᵀ`, the inverse of the improper map `r ↦ r·(A·reflY) + mirrorY t`
    that produced the second geometry, and has determinant −1. -/
theorem align_recovers_motion_mirror (A U : M3 K) (hoA : A.mul A.transpose = M3.one) (hdA : A.det = 1)
    (hoU : U.mul U.transpose = M3.one) (hdU : U.det = 1) (t T : V3 K) (Rg Cg : List (V3 K)) (amap : List Nat)
    (hcopy : ∀ (k : Nat) (r : V3 K), Rg[k]? = some r →
      ∃ i, amap[k]? = some i ∧ Cg[i]? = some ((rowMul r A).add t).mirrorY)
    (hal : alignCoords true T U amap Cg = some Rg)
    (hnc : NonCollinear (centre Rg)) :
    U = A.transpose ∧ T = t ∧ reflY.mul U = (A.mul reflY).transpose ∧ (reflY.mul U).det = -1 := by
  rw [alignCoords_true_eq] at hal
  have h := align_recovers_motion A U hoA hdA hoU hdU t T Rg (Cg.map V3.mirrorY) amap (by
    intro k r hk
    obtain ⟨i, hi, hc⟩ := hcopy k r hk
    refine ⟨i, hi, ?_⟩
    rw [List.getElem?_map, hc]
    simp only [Option.map_some, mirrorY_mirrorY]) hal hnc
  refine ⟨h.1, h.2, ?_, ?_⟩
  · rw [h.1, M3.transpose_mul, reflY_transpose]
  · rw [M3.det_mul, reflY_det, hdU]; ring

/-- the other reading — the second geometry is a rigid copy of the MIRRORED reference, `c = mirrorY(r)·A + t`:
    then the `mirror = true` recipe is `U = (S·A·S)ᵀ`, `T = mirrorY t` with `S = reflY` (conjugating by the
    reflection turns the proper rotation `A` into the proper rotation `S A S`). -/
theorem align_recovers_motion_mirror_of_reference (A U : M3 K) (hoA : A.mul A.transpose = M3.one) (hdA : A.det = 1)
    (hoU : U.mul U.transpose = M3.one) (hdU : U.det = 1) (t T : V3 K) (Rg Cg : List (V3 K)) (amap : List Nat)
    (hcopy : ∀ (k : Nat) (r : V3 K), Rg[k]? = some r →
      ∃ i, amap[k]? = some i ∧ Cg[i]? = some ((rowMul r.mirrorY A).add t))
    (hal : alignCoords true T U amap Cg = some Rg)
    (hnc : NonCollinear (centre Rg)) :
    U = ((reflY.mul A).mul reflY).transpose ∧ T = t.mirrorY := by
  rw [alignCoords_true_eq] at hal
  have hoB : ((reflY.mul A).mul reflY).mul ((reflY.mul A).mul reflY).transpose = M3.one :=
    orth_mul (orth_mul reflY_orth hoA) reflY_orth
  have hdB : ((reflY.mul A).mul reflY).det = 1 := by
    rw [M3.det_mul, M3.det_mul, reflY_det, hdA]; ring
  exact align_recovers_motion _ U hoB hdB hoU hdU t.mirrorY T Rg (Cg.map V3.mirrorY) amap (by
    intro k r hk
    obtain ⟨i, hi, hc⟩ := hcopy k r hk
    refine ⟨i, hi, ?_⟩
    rw [List.getElem?_map, hc]
    rw [Option.map_some, mirrorY_moved, mirrorY_eq_rowMul r, ← rowMul_mul, ← M3.mul_assoc']) hal hnc

-- non-vacuity (test) of `align_recovers_motion_mirror`: triangle (0,0,0), (1,0,0), (0,2,0), quarter-turn A about z,
-- t = (1,2,3); the second geometry is the mirror image of the moved copy, listed as (atom 1, atom 0, atom 2);
-- the recipe (Aᵀ, t, [1,0,2], mirror = true) superimposes it exactly
example :
    let A : M3 ℚ := ⟨0, 1, 0, -1, 0, 0, 0, 0, 1⟩
    let t : V3 ℚ := ⟨1, 2, 3⟩
    let Rg : List (V3 ℚ) := [⟨0, 0, 0⟩, ⟨1, 0, 0⟩, ⟨0, 2, 0⟩]
    let Cg : List (V3 ℚ) := [((rowMul ⟨1, 0, 0⟩ A).add t).mirrorY, ((rowMul ⟨0, 0, 0⟩ A).add t).mirrorY,
      ((rowMul ⟨0, 2, 0⟩ A).add t).mirrorY]
    alignCoords true t A.transpose [1, 0, 2] Cg = some Rg := by decide +kernel

/-! ## planar / non-planar -/

/-- `NonPlanar c ↔ ¬ Planar c`: three position vectors are linearly independent iff no plane through the origin
    contains all of them -/
theorem nonPlanar_iff_not_planar (c : List (V3 K)) : NonPlanar c ↔ ¬ Planar c := by
  constructor
  · rintro ⟨a, ha, b, hb, d, hd, h3⟩ ⟨n, hn, hpl⟩
    have hs := triple_smul a b d n
    rw [hpl a ha, hpl b hb, hpl d hd] at hs
    apply hn
    simp only [V3.ext_iff, V3.smul, V3.add, V3.zero] at hs ⊢
    refine ⟨?_, ?_, ?_⟩
    · have : triple a b d * n.x = 0 := by linear_combination hs.1
      exact (mul_eq_zero.mp this).resolve_left h3
    · have : triple a b d * n.y = 0 := by linear_combination hs.2.1
      exact (mul_eq_zero.mp this).resolve_left h3
    · have : triple a b d * n.z = 0 := by linear_combination hs.2.2
      exact (mul_eq_zero.mp this).resolve_left h3
  · intro hnp
    by_contra h3
    apply hnp
    by_cases hnc : NonCollinear c
    · obtain ⟨a, ha, b, hb, hab⟩ := hnc
      refine ⟨V3.cross a b, hab, fun d hd => ?_⟩
      by_contra hne
      apply h3
      refine ⟨a, ha, b, hb, d, hd, ?_⟩
      intro h0; apply hne
      simp only [triple, V3.dot] at h0 ⊢
      linear_combination h0
    · rw [nonCollinear_iff_not_onLine, not_not] at hnc
      obtain ⟨d0, hd0⟩ := hnc
      by_cases hxy : d0.x = 0 ∧ d0.y = 0
      · refine ⟨⟨1, 0, 0⟩, by intro h; simp [V3.zero, V3.ext_iff] at h, fun a ha => ?_⟩
        obtain ⟨s, rfl⟩ := hd0 a ha
        simp only [V3.dot, V3.smul, hxy.1]; ring
      · refine ⟨⟨-d0.y, d0.x, 0⟩, ?_, fun a ha => ?_⟩
        · intro h
          simp only [V3.zero, V3.ext_iff] at h
          exact hxy ⟨h.2.1, by linear_combination -h.1⟩
        · obtain ⟨s, rfl⟩ := hd0 a ha
          simp only [V3.dot, V3.smul]; ring

/-- a planar set is fixed, vector by vector, by an improper orthogonal matrix: the reflection through its plane -/
theorem planar_fixed_by_reflection (c : List (V3 K)) (h : Planar c) :
    ∃ H : M3 K, H.mul H.transpose = M3.one ∧ H.det = -1 ∧ ∀ a ∈ c, rowMul a H = a := by
  obtain ⟨n, hn, hpl⟩ := h
  have hn2 : n.nrm2 ≠ 0 := fun h0 => hn ((nrm2_eq_zero_iff n).mp h0)
  exact ⟨reflPlane n, reflPlane_orth n hn2, reflPlane_det n hn2, fun a ha => reflPlane_fixes n a (hpl a ha)⟩

/-- **a planar centred set coincides with a properly rotated copy of its mirror image**: if all position vectors
    of `c` lie in a plane through the origin, there is a proper rotation `P` (the reflection `y → −y` undone, then
    the reflection through the plane: two reflections make a rotation) with `mirrorY(a)·P = a` for every atom -/
theorem planar_mirror_is_rotation (c : List (V3 K)) (h : Planar c) :
    ∃ P : M3 K, P.mul P.transpose = M3.one ∧ P.det = 1 ∧ ∀ a ∈ c, rowMul a.mirrorY P = a := by
  obtain ⟨H, hHo, hHd, hfix⟩ := planar_fixed_by_reflection c h
  refine ⟨reflY.mul H, orth_mul reflY_orth hHo, by rw [M3.det_mul, reflY_det, hHd]; ring, fun a ha => ?_⟩
  rw [mirrorY_eq_rowMul, ← rowMul_mul, ← M3.mul_assoc', reflY_mul_reflY, M3.one_mul']
  exact hfix a ha

/-- **mirror matching is never REQUIRED for a planar molecule** (on the model's `alignCoords`): if the reference is
    planar about its centroid and the second geometry is the mirror image of a rigid copy of it (any proper `A`, any
    `t`, any atom map `amap` of the right length), then a recipe with `mirror = false` and a PROPER rotation
    superimposes it exactly.  (So for planar — collinear included — molecules the property cannot ask for
    `mirror = True` in the returned recipe.) -/
theorem mirror_never_needed_for_planar (A : M3 K) (hoA : A.mul A.transpose = M3.one) (hdA : A.det = 1) (t : V3 K)
    (Rg Cg : List (V3 K)) (amap : List Nat) (hlen : amap.length = Rg.length)
    (hcopy : ∀ (k : Nat) (r : V3 K), Rg[k]? = some r →
      ∃ i, amap[k]? = some i ∧ Cg[i]? = some ((rowMul r A).add t).mirrorY)
    (hpl : Planar (centre Rg)) :
    ∃ (U : M3 K) (T : V3 K), U.mul U.transpose = M3.one ∧ U.det = 1
      ∧ alignCoords false T U amap Cg = some Rg := by
  obtain ⟨H, hHo, hHd, hfix⟩ := planar_fixed_by_reflection _ hpl
  -- the second geometry is ALSO a proper rigid copy: rotation B = H·(A·S), and the shift that matches the centroids
  have hB : IsRot (H.mul (A.mul reflY)) :=
    ⟨orth_mul hHo (orth_mul hoA reflY_orth), by rw [M3.det_mul, M3.det_mul, hHd, hdA, reflY_det]; ring⟩
  refine ⟨(H.mul (A.mul reflY)).transpose, ((rowMul (centroid Rg) (A.mul reflY)).sub
    (rowMul (centroid Rg) (H.mul (A.mul reflY)))).add t.mirrorY, hB.transpose.orth, hB.transpose.det, ?_⟩
  apply alignCoords_false_of_pointwise (fun r => ((rowMul r A).add t).mirrorY) _ _ Rg Cg amap hlen hcopy
  intro r hr
  -- `H` fixes `r − r̄`, so `r·H = (r − r̄) + r̄·H`
  have e : rowMul r H = (r.sub (centroid Rg)).add (rowMul (centroid Rg) H) := by
    rw [← hfix _ (List.mem_map.mpr ⟨r, hr, rfl⟩), rowMul_sub]
    ext <;> simp only [V3.sub, V3.add] <;> ring
  have key : ∀ P : M3 K, ((rowMul r P).add t.mirrorY).sub
      (((rowMul (centroid Rg) P).sub (rowMul (centroid Rg) (H.mul P))).add t.mirrorY) = rowMul r (H.mul P) := by
    intro P
    rw [rowMul_mul r, e, rowMul_add, rowMul_sub, ← rowMul_mul]
    ext <;> simp only [V3.sub, V3.add] <;> ring
  rw [mirrorY_moved, key]
  exact rowMul_rowMul_transpose hB.orth r

-- non-vacuity (test): the centred triangle (2,−1,0), (−1,2,0), (−1,−1,0) lies in the plane z = 0
example : Planar [(⟨2, -1, 0⟩ : V3 ℚ), ⟨-1, 2, 0⟩, ⟨-1, -1, 0⟩] :=
  ⟨⟨0, 0, 1⟩, by decide +kernel⟩

/-! ## a non-planar set cannot be rotated onto its mirror image -/

/-- **det argument**: for a non-planar set there is NO matrix `P` of determinant `+1` (in particular no proper
    rotation) with `mirrorY(a)·P = a` for every atom: `reflY·P` would fix three independent vectors, hence have
    determinant `+1`, but `det(reflY·P) = −det P = −1`. -/
theorem no_rotation_onto_mirror_image (c : List (V3 K)) (h : NonPlanar c) :
    ¬ ∃ P : M3 K, P.det = 1 ∧ ∀ a ∈ c, rowMul a.mirrorY P = a := by
  rintro ⟨P, hdP, hfix⟩
  obtain ⟨a, ha, b, hb, d, hd, h3⟩ := h
  have hQ : ∀ v ∈ c, rowMul v (reflY.mul P) = v := fun v hv => by
    rw [rowMul_mul, ← mirrorY_eq_rowMul]; exact hfix v hv
  have h1 := det_eq_one_of_fixes_three (reflY.mul P) a b d (hQ a ha) (hQ b hb) (hQ d hd) h3
  rw [M3.det_mul, reflY_det, hdP] at h1
  norm_num at h1

/-- **a chiral arrangement needs the mirror flag** (on the model's `alignCoords`): if the reference is non-planar
    about its centroid and the second geometry is the mirror image of a rigid copy of it (atom correspondence
    `amap`), then NO recipe with `mirror = false`, whatever its shift and whatever its matrix of determinant `+1`,
    superimposes it exactly with that atom correspondence.  With `B787.mirror_only_on_request` (the held recipe
    has `mirror = true` only if `run_mirror` was requested) this is the clause "mirror images are matched only when
    mirror matching is requested".  (With ANOTHER atom correspondence an achiral non-planar molecule — methane —
    can of course be superimposed on its mirror image: the statement is about a fixed atom correspondence.) -/
theorem chiral_needs_mirror (A : M3 K) (hdA : A.det = 1) (t : V3 K)
    (Rg Cg : List (V3 K)) (amap : List Nat)
    (hcopy : ∀ (k : Nat) (r : V3 K), Rg[k]? = some r →
      ∃ i, amap[k]? = some i ∧ Cg[i]? = some ((rowMul r A).add t).mirrorY)
    (hnp : NonPlanar (centre Rg)) :
    ¬ ∃ (U : M3 K) (T : V3 K), U.det = 1 ∧ alignCoords false T U amap Cg = some Rg := by
  rintro ⟨U, T, hdU, hal⟩
  have hpt := alignCoords_false_pointwise (fun r => ((rowMul r A).add t).mirrorY) T U Rg Cg amap hcopy hal
  obtain ⟨a, ha, b, hb, d, hd, h3⟩ := hnp
  -- the composite is the affine map r ↦ r·M + w with M = A·S·U of determinant −1
  have haff : ∀ r ∈ Rg, (rowMul r ((A.mul reflY).mul U)).add (rowMul (t.mirrorY.sub T) U) = r := fun r hr => by
    rw [← rowMul_moved_sub, ← mirrorY_moved]
    exact hpt r hr
  have hfix := linear_part_fixes_centre _ _ Rg (ne_nil_of_mem_centre ha) haff
  have h1 := det_eq_one_of_fixes_three _ a b d (hfix a ha) (hfix b hb) (hfix d hd) h3
  rw [M3.det_mul, M3.det_mul, reflY_det, hdA, hdU] at h1
  norm_num at h1

-- non-vacuity (test): the centred positions e₁, e₂, e₃, −(e₁+e₂+e₃) of a (chiral once labelled) tetrahedral
-- arrangement are non-planar
example : NonPlanar [(⟨1, 0, 0⟩ : V3 ℚ), ⟨0, 1, 0⟩, ⟨0, 0, 1⟩, ⟨-1, -1, -1⟩] := by unfold NonPlanar; decide +kernel

end Ordered

end QcelVerif.Kabsch
