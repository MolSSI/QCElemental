import QcelVerif.Lemmas.NucleusRegex
/-!
# C06 — the label grammar is the one in the source

`Gen/NucleusRegex.lean` is regenerated on every run from `qcelemental/molparse/regex.py` and the compile site in
`nucleus.py` (CPython's own parse tree of `\A` NUCLEUS `\Z` under IGNORECASE | VERBOSE).  The theorems of this file tie the
hand-written recogniser of `Model/Nucleus.lean` — the one every other C06 theorem and the C04/C07 models reason about —
to the generic regex engine run on that generated AST, for **every** byte string (no length bound).  They rest on
`allMatches_eq_regex` (Lemmas/NucleusRegex.lean: same matches, same order, same eight named groups) and on
`Regex.bt_eq_findSome` (Lemmas/RegexEngine.lean: the backtracking engine returns the first success of the list-of-successes
semantics).

Differential only: that the engine + translator reproduce CPython's `re` (P lines three-way, X lines on NUMBER and
CHGMULT), ASCII only.
-/
namespace QcelVerif.Nucleus
open QcelVerif QcelVerif.PStr QcelVerif.Regex

/-- `_nucleus.match(label)` computed by the generic engine on the AST generated from regex.py equals the hand-written
recogniser, for every byte string -/
theorem matchNucleus_eq_regex (s : Bytes) : matchNucleusRe s = matchNucleus s := by
  unfold matchNucleusRe matchNucleus
  rw [matchPrefix_eq_head, ← List.head?_map, allMatches_eq_regex]

/-- `parse_nucleus_label` through the generated regex equals the hand model's `parseLabel`, for every byte string -/
theorem parseLabel_eq_regex (s : Bytes) : parseLabelRe s = parseLabel s := by
  rw [parseLabel_eq_map, ← matchNucleus_eq_regex]
  rfl

/-- a label the generated regex does not match is exactly a label the hand recogniser rejects (the
"Nucleus label is not parseable" ValidationError of `unparseable_label`) -/
theorem unparseable_iff_regex (s : Bytes) :
    parseLabel s = none ↔ Gen.NucleusRegex.nucleus.ms (St.init s) = [] := by
  rw [← parseLabel_eq_regex]
  unfold parseLabelRe matchNucleusRe
  rw [Option.map_eq_none_iff, Option.map_eq_none_iff, matchPrefix_none]

/-- the generated ASTs (NUCLEUS, NUMBER, CHGMULT) repeat no nullable body, so the engine's fuel never truncates a repetition
(`Regex.rep_fuel_irrelevant`, Lemmas/RegexEngine.lean; the translator refuses such patterns as well) -/
theorem generated_wf :
    Gen.NucleusRegex.nucleus.wf = true ∧ Gen.NucleusRegex.number.wf = true ∧ Gen.NucleusRegex.chgmult.wf = true := by
  decide +kernel

/-! tests (concrete evaluations of the engine on the generated AST, `decide +kernel`) -/

-- test: '@13C_tag@13.003' -> gh1, A = '13', E = 'C', user1 = '_tag', mass = '13.003'
example : matchNucleusRe [64, 49, 51, 67, 95, 116, 97, 103, 64, 49, 51, 46, 48, 48, 51]
    = some { gh1 := true, gh2 := false, A := some [49, 51], E := some [67], user1 := some [95, 116, 97, 103], Z := none,
             user2 := none, mass := some [49, 51, 46, 48, 48, 51] } := by decide +kernel
-- test: 'Gh(H' (unclosed ghost) is not parseable
example : matchNucleusRe [71, 104, 40, 72] = none := by decide +kernel
-- test (non-vacuity of `unparseable_iff_regex`, both directions): '' has no match, 'H' has one
example : Gen.NucleusRegex.nucleus.ms (St.init []) = [] := by decide +kernel
example : Gen.NucleusRegex.nucleus.ms (St.init [72]) ≠ [] := by decide +kernel

end QcelVerif.Nucleus
