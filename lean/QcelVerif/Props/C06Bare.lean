import QcelVerif.Props.C06Idem
/-!
# C06 — calls that carry one element clue and no isotope clue

`Z` alone, `E` alone, or a label that parses to an element symbol with a ghost marker and a user tag only: the first stage makes one
offer, there are no late offers, and the call succeeds exactly when the offer's own candidates pass the offer's own two tests
(`reconcileWith_single_iff`).  The symbol call and the label call differ in the real/ghost and user-label searches only
(`label_only_of_symbol_only`).
-/
namespace QcelVerif.Nucleus
open QcelVerif.PStr

/-- a parsed label with an element symbol, a ghost flag and a user tag — no `A`, no `Z`, no mass (what the tokens the writers print parse to:
`parseLabel_written`, Props/C07Label.lean) -/
def symLabel (e : Bytes) (real : Bool) (u : Option Bytes) : Label :=
  { A := none, Z := none, E := some e, mass := none, real := real, user := u }

/-- `reconcile_nucleus(label=tok, speclabel=True, nonphysical=np, mtol=mtol)` -/
def labelOnly (tok : Bytes) (np : Bool) (mtol : PyNum) : Input :=
  { A := none, Z := none, E := none, mass := none, real := none, label := some tok, speclabel := true,
    nonphysical := np, mtol := mtol }

/-- `reconcile_nucleus(E=e, speclabel=True, nonphysical=np, mtol=mtol)` -/
def symbolOnly (e : Bytes) (np : Bool) (mtol : PyNum) : Input :=
  { A := none, Z := none, E := some e, mass := none, real := none, label := none, speclabel := true,
    nonphysical := np, mtol := mtol }

theorem firstPassing_single {α π} (holds : π → α → Bool) (c v : α) (p : π) :
    firstPassing holds [c] [p] = some v ↔ holds p c = true ∧ v = c := by
  cases h : holds p c <;> simp [firstPassing, h, eq_comm]

theorem reconcileWith_single_iff {N : NTables} {rd rng} {i : Input} {x : ZOffer} {lab : Option Label} {o : Output}
    (hz : zStage N rd rng i = .ok ([x], lab)) (hc : cluesOf rd i lab = .ok []) :
    reconcileWith N rd rng i = .ok o ↔
      (APred.holds x.aPred x.zA = true ∧ MPred.holds rd x.mPred x.zMass = true) ∧
      (o.Z = x.z ∧ N.pt.toE (.int x.z) false = some o.E ∧ o.A = x.zA ∧ o.mass = x.zMass) ∧
      firstPassing (fun (p c : PyNum) => c.val == p.val) (PyNum.bool true :: realClues i lab) (realClues i lab) = some o.real ∧
      firstPassing (fun (p c : Bytes) => c == p) ([] :: userClues i lab) (userClues i lab) = some o.user := by
  rw [reconcileWith_ok]
  constructor
  · rintro ⟨_, _, _, late, hz', hzf, hE, hc', hlate, hm, ha, hr, hu⟩
    cases hz.symm.trans hz'
    cases hc.symm.trans hc'
    cases (Except.ok.inj hlate : [] = late)
    simp only [List.map_cons, List.map_nil, List.append_nil, firstPassing_single] at hzf hm ha
    exact ⟨⟨ha.1, hm.1⟩, ⟨hzf.2, hzf.2 ▸ hE, ha.2, hm.2⟩, hr, hu⟩
  · rintro ⟨⟨hA, hM⟩, ⟨hZ, hE, hA', hM'⟩, hr, hu⟩
    refine ⟨_, _, _, [], hz, ?_, hZ ▸ hE, hc, rfl, ?_, ?_, hr, hu⟩
    · simp [firstPassing_single, hZ]
    · simp [firstPassing_single, hM, hM']
    · simp [firstPassing_single, hA, hA']

theorem reconcileWith_single (N : NTables) (rd : Rat → Rat) (rng : Nat → Option Range) (i : Input) (x : ZOffer) (lab : Option Label)
    (hz : zStage N rd rng i = .ok ([x], lab)) (hx : offerZ N rd rng i.nonphysical x.z = .ok x)
    (hc : cluesOf rd i lab = .ok [])
    (hA : APred.holds x.aPred x.zA = true) (hM : MPred.holds rd x.mPred x.zMass = true)
    (hr : realClues i lab = []) (hu : userClues i lab = []) :
    reconcileWith N rd rng i = .ok { A := x.zA, Z := x.z, E := x.sym, mass := x.zMass, real := .bool true, user := [] } :=
  (reconcileWith_single_iff hz hc).mpr ⟨⟨hA, hM⟩, ⟨rfl, (offerZ_ok hx).2.1, rfl, rfl⟩, by rw [hr]; rfl, by rw [hu]; rfl⟩

theorem reconcile_bareZ (N : NTables) (rd : Rat → Rat) (rng : Nat → Option Range) (np : Bool) (mtol : PyNum) (z : Int) (x : ZOffer)
    (hx : offerZ N rd rng np z = .ok x)
    (hA : APred.holds x.aPred x.zA = true) (hM : MPred.holds rd x.mPred x.zMass = true) :
    reconcileWith N rd rng { A := none, Z := some (.int z), E := none, mass := none, real := none, label := none, speclabel := true, nonphysical := np, mtol := mtol } =
      .ok { A := x.zA, Z := z, E := x.sym, mass := x.zMass, real := .bool true, user := [] } := by
  have hz := (offerZ_ok hx).1
  rw [← hz]
  refine reconcileWith_single N rd rng _ x none ?_ (hz ▸ hx) rfl hA hM rfl rfl
  simp [zStage, optList, labelOf, PyNum.val, truncInt_intCast, hz, hx, bind, Except.bind, pure, Except.pure]

theorem firstPassing_real (b : Bool) :
    firstPassing (fun (p c : PyNum) => c.val == p.val) [PyNum.bool true, PyNum.bool b] [PyNum.bool b] = some (PyNum.bool b) := by
  cases b <;> decide

theorem firstPassing_user (u : Option Bytes) :
    firstPassing (fun (p c : Bytes) => c == p) ([] :: (optList u).map lower) ((optList u).map lower) = some (lower (u.getD [])) := by
  cases u with
  | none => rfl
  | some w => exact firstPassing_user_one (lower w)

theorem zStage_symbolOnly (N : NTables) (rd : Rat → Rat) (rng) (e : Bytes) (np : Bool) (mtol : PyNum) :
    zStage N rd rng (symbolOnly e np mtol) = (fun x => ([x], none)) <$> offerE N rd rng np e := by
  cases h : offerE N rd rng np e <;>
    simp [zStage, symbolOnly, labelOf, optList, h, bind, Except.bind, pure, Except.pure, Functor.map, Except.map]

theorem zStage_labelOnly (N : NTables) (rd : Rat → Rat) (rng) (tok e : Bytes) (b : Bool) (u : Option Bytes) (np : Bool)
    (mtol : PyNum) (hp : parseLabel tok = some (symLabel e b u)) :
    zStage N rd rng (labelOnly tok np mtol) = (fun x => ([x], some (symLabel e b u))) <$> offerE N rd rng np e := by
  cases h : offerE N rd rng np e <;>
    simp [zStage, labelOnly, labelOf, hp, ofOpt, symLabel, optList, h, bind, Except.bind, pure, Except.pure, Functor.map, Except.map]

theorem reconcile_bareE (N : NTables) (rd : Rat → Rat) (rng : Nat → Option Range) (np : Bool) (mtol : PyNum) (e : Bytes) (x : ZOffer)
    (hx : offerE N rd rng np e = .ok x)
    (hA : APred.holds x.aPred x.zA = true) (hM : MPred.holds rd x.mPred x.zMass = true) :
    reconcileWith N rd rng (symbolOnly e np mtol) =
      .ok { A := x.zA, Z := x.z, E := x.sym, mass := x.zMass, real := .bool true, user := [] } :=
  reconcileWith_single N rd rng _ x none (by rw [zStage_symbolOnly, hx]; rfl) (offerE_self hx) rfl hA hM rfl rfl

/-- **Label-only clue answered like the symbol clue** (one direction: from the symbol clue's success).  For ANY table, rounding function and range table: if the label parses to an element
symbol `e` with ghost flag and user tag only (no `A`, `Z`, mass), then whenever `reconcile_nucleus(E=e)` succeeds — under any
`mtol'`: without an isotope clue the tolerance is never consulted — `reconcile_nucleus(label=tok, speclabel=True)` succeeds with
the same `(A, Z, E, mass)`, the label's real/ghost flag and the lower-cased user tag. -/
theorem label_only_of_symbol_only (N : NTables) (rd : Rat → Rat) (rng : Nat → Option Range) (tok e : Bytes) (b : Bool)
    (u : Option Bytes) (np : Bool) (mtol mtol' : PyNum) (o : Output)
    (hp : parseLabel tok = some (symLabel e b u))
    (h : reconcileWith N rd rng (symbolOnly e np mtol') = .ok o) :
    reconcileWith N rd rng (labelOnly tok np mtol) = .ok { o with real := .bool b, user := lower (u.getD []) } := by
  -- both calls make the one offer `x` of the symbol and have no isotope clue
  obtain ⟨x, hx⟩ : ∃ x, offerE N rd rng np e = .ok x := by
    obtain ⟨_, _, _, _, hz, _⟩ := reconcileWith_ok.mp h
    rw [zStage_symbolOnly, map_ok] at hz
    exact ⟨_, hz.choose_spec.1⟩
  have hz : zStage N rd rng (labelOnly tok np mtol) = .ok ([x], some (symLabel e b u)) := by
    rw [zStage_labelOnly N rd rng tok e b u np mtol hp, hx]; rfl
  have h1 := (reconcileWith_single_iff (by rw [zStage_symbolOnly, hx]; rfl) rfl).mp h
  exact (reconcileWith_single_iff hz rfl).mpr ⟨h1.1, h1.2.1, firstPassing_real b, firstPassing_user u⟩

/-- the label call is answered with the default isotope of its element -/
theorem labelOnly_default {N : NTables} {rd : Rat → Rat} {rng : Nat → Option Range} {tok e : Bytes} {b : Bool} {u : Option Bytes}
    {np : Bool} {mtol : PyNum} {o : Output} (hp : parseLabel tok = some (symLabel e b u))
    (h : reconcileWith N rd rng (labelOnly tok np mtol) = .ok o) :
    (∃ a : Nat, N.pt.toA (.int o.Z) = some a ∧ o.A = (a : Int)) ∧ tableMass N rd (.int o.Z) = .ok o.mass := by
  obtain ⟨_, _, _, _, hz, _⟩ := reconcileWith_ok.mp h
  obtain ⟨x, hx, e⟩ := map_ok.mp (zStage_labelOnly N rd rng tok e b u np mtol hp ▸ hz)
  cases e
  obtain ⟨_, ⟨hZ, _, hA, hM⟩, _⟩ := (reconcileWith_single_iff hz rfl).mp h
  obtain ⟨_, _, hm, ha, _⟩ := offerZ_ok (offerE_self hx)
  rw [hZ, hA, hM]
  exact ⟨ha, hm⟩

end QcelVerif.Nucleus
