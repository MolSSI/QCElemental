import QcelVerif.Props.C02Pred
import QcelVerif.Props.C02Nist2014
/-! C02: table-wide theorems about `PhysicalConstantsContext("CODATA2014").pc` (kernel evaluation of the
model's context construction on the generated table). -/
namespace QcelVerif.Constants
open QcelVerif

def pcChecks2014 (pc : PC) : Bool :=
  allRows (rowEntryOk pc Gen.Codata2014.doi) Gen.Codata2014.shipped && aliasChecks pc

theorem pcChecks2014_holds : withPC pc2014 pcChecks2014 = true := by
  have rest : withPC pc2014 aliasChecks = true := by
    unfold pc2014 buildPC; rw [loadRows_2014]; decide +kernel
  refine withPC_of_some rest fun pc hpc h => ?_
  simp only [pcChecks2014, Bool.and_eq_true]
  exact ⟨rows_retrievable Codata.shipped_eq_nist_2014 keys_ascending_2014 (by decide +kernel) hpc, h⟩

/-- **Every published 2014 constant is retrievable** under its lower-cased NIST name (hence, by
`get_case_insensitive`, under any casing) with label = NIST name, the shipped unit, `Decimal(value)`
digit for digit, comment `uncertainty=<u>` and the set's doi — and by `shipped_eq_nist_2014` these
are NIST's. -/
theorem constants_retrievable_2014 :
    withPC pc2014 (fun pc => allRows (rowEntryOk pc Gen.Codata2014.doi) Gen.Codata2014.shipped) = true :=
  withPC_and_left pcChecks2014_holds

/-- **The 27 convenience aliases follow the documented definitions (2014)**: each stored Decimal is
the specification's expression evaluated in precision-28 decimal arithmetic, digit for digit, with
the documented label/units/comment; it is within 2·10⁻²⁷ (relative) of the formula's exact rational
value; for the 24 aliases without a genuine division it IS the exact value; and the cross-relations
of the documentation block (hartree2kcalmol·cal2J = hartree2kJmol, dipmom_au2debye·dipmom_debye2si =
dipmom_au2si, kcalmol2wavenumbers·(N_A h c) = 10·cal2J, bohr2cm = 100·bohr2m, bohr2angstroms =
10¹⁰·bohr2m, amu2g = 1000·amu2kg, hartree2aJ = 10¹⁸·hartree2J, …) hold exactly in ℚ. -/
theorem aliases_follow_spec_2014 : withPC pc2014 aliasChecks = true :=
  withPC_and_right pcChecks2014_holds

end QcelVerif.Constants
