import QcelVerif.Model.Serialize
import QcelVerif.Lemmas.Serialize
import QcelVerif.Lemmas.SerializeRoundtrip
import QcelVerif.Gen.SerTables
/-!
# C10 — every model and array survives every serialisation encoding

Property theorems about the model `Model/Serialize.lean` (for ALL inputs; no size bounds): hex and fixed-width fields,
the ndarray envelopes of the two -ext encodings, json-ext over whole value trees, the flat reshape, the dispatch tables.
The msgpack byte-stream round trip over whole trees is in `Props/C10Msgpack.lean`, the JSON text layer in
`Props/C10Text.lean`.
-/
namespace QcelVerif.Ser

/-! ## hex (json-ext `data` field: `bytes.hex()` / `bytes.fromhex`) -/

/-- `bytes.fromhex(b.hex()) == b` for every byte string -/
theorem unhex_hex : ∀ bs : Bytes, unhex (hex bs) = some bs
  | [] => by simp [hex, unhex]
  | b :: t => by
    have hb : b.toNat < 256 := b.toNat_lt
    have h1 : b.toNat / 16 < 16 := by omega
    have h2 : b.toNat % 16 < 16 := by omega
    simp only [hex, unhex, unhex_hex_digit _ h1, unhex_hex_digit _ h2, unhex_hex t, ofNat_div_mod,
      Option.bind_eq_bind, Option.bind_some, Option.pure_def]

/-- TEST (concrete): the lower-case digits Python writes, and upper-case accepted on input -/
example : hex [0x00, 0x0f, 0xa5, 0xff] = "000fa5ff".toList := by decide
example : unhex "A5ff".toList = some [0xa5, 0xff] := by decide
example : unhex "abc".toList = none := by decide

/-! ## big-endian fixed-width fields (every msgpack length and integer field) -/

/-- a `k`-byte big-endian field holds any `n < 256^k` exactly -/
theorem beNat_beBytes (k n : Nat) (h : n < 256 ^ k) : beNat (beBytes k n) = n := by
  rw [beNat_beBytes_mod, Nat.mod_eq_of_lt h]

/-- non-vacuity: 65535 fits a 2-byte field, and the bytes are the ones msgpack writes -/
example : beBytes 2 65535 = [0xff, 0xff] ∧ beNat (beBytes 2 65535) = 65535 := by decide

/-! ## flat encodings: `ravel().tolist()` then the models' reshape validators
(molecule.py:386-393 `(N,3)`; results.py:263-305 `(3,)`,`(3,3)`,`(nat,3)`,`(3nat,3nat)`; 447-491 `(nbf,nbf)`,`(nbf,-1)`; align.py `(3,3)`) -/

/-- reshaping the ravelled rows back to `(n, m)` restores exactly the rows, for every `n × m` row list -/
theorem flat_reshape_roundtrip {α : Type} (n m : Nat) (rows : List (List α))
    (hn : rows.length = n) (hm : ∀ r ∈ rows, r.length = m) :
    reshapeRows n m (ravel rows) = some rows := by
  subst hn
  simp [reshapeRows, ravel, length_flatten_rows m rows hm, chunk_flatten m rows hm]

/-- a flat list of the wrong size is refused (the validators raise "must be castable to shape") -/
theorem flat_reshape_refuses {α : Type} (n m : Nat) (flat : List α) (h : flat.length ≠ n * m) :
    reshapeRows n m flat = none := by
  simp [reshapeRows, h]

/-- non-vacuity: a 2×3 geometry; and the empty `(0,3)` case -/
example : reshapeRows 2 3 (ravel [[1, 2, 3], [4, 5, 6]]) = some [[1, 2, 3], [4, 5, 6]] := by decide
example : reshapeRows 0 3 (ravel ([] : List (List Nat))) = some [] := by decide

/-! ## the ndarray envelopes of the two -ext encodings (serialization.py:44-49,73-78 and 130-135,145-150)

`ndWF dt shape data` : rank ≥ 1 and `len(data) = itemsize(dt) · ∏ shape` — what `np.ascontiguousarray(a).tobytes()` of a
real array always satisfies, including every zero-extent shape. -/

/-- msgpack-ext: `msgpackext_decode` applied to the envelope `msgpackext_encode` built gives back the same
dtype, shape and bytes — rank 1 (no `shape` key) and rank > 1 alike, empty arrays included -/
theorem ext_envelope_roundtrip_msgpack (dt data : Bytes) (shape : List Nat) (h : ndWF dt shape data)
    (l : List (Val × Val)) (hl : ndEnvelope dt shape data = .map l) :
    mpHook l = .ok (.nd dt shape data) := by
  obtain ⟨hrank, isz, hisz, hpos, hlen⟩ := h
  obtain ⟨hmod, hdiv⟩ := wf_arith hpos hlen
  obtain ⟨k, rfl⟩ : ∃ k, isz = k + 1 := ⟨isz - 1, by omega⟩
  simp only [ndEnvelope, Val.map.injEq] at hl
  subst hl
  by_cases hr : shape.length > 1
  · simp (config := { decide := true }) [mpHook, lookupBin, hr, hisz, hmod, hdiv, shapeOfVals_map]
  · obtain ⟨n, rfl⟩ := singleton_of_length shape hrank hr
    simp (config := { decide := true }) [mpHook, lookupBin, hisz, hmod, hdiv, prodL_singleton] at *

/-- msgpack-ext, three byte-level facts collected: every fixed-width length/integer field the encoder writes reads back
exactly (`beNat_beBytes`: `beNat (beBytes k n) = n` for `n < 256^k`, all widths), a positive fixint decodes to itself
leaving the rest of the stream (`dec_nat`), and the object hook restores any well-formed array from its envelope
(`ext_envelope_roundtrip_msgpack`).  The byte-stream round trip over whole trees is `msgpack_roundtrip` /
`reserialise_identical` in `Props/C10Msgpack.lean`. -/
theorem msgpack_roundtrip_partial :
    (∀ k n : Nat, n < 256 ^ k → beNat (beBytes k n) = n) ∧
    (∀ (f n : Nat) (rest : Bytes), n < 128 → mpDec (f + 1) (mpInt (n : Int) ++ rest) = .ok (.int n, rest)) ∧
    (∀ (dt data : Bytes) (shape : List Nat), ndWF dt shape data → ∀ l, ndEnvelope dt shape data = .map l →
        mpHook l = .ok (.nd dt shape data)) := by
  exact ⟨beNat_beBytes, fun f n rest h => dec_nat f n rest (by omega), ext_envelope_roundtrip_msgpack⟩

/-- json-ext: `jsonext_decode` applied to the envelope `JSONExtArrayEncoder.default` built (data hex-encoded)
gives back the same dtype, shape and bytes -/
theorem ext_envelope_roundtrip_json (dt data : Bytes) (shape : List Nat) (h : ndWF dt shape data)
    (l : List (Val × Val)) (hl : jxEnvelope dt shape data = .map l) :
    jxHook l = .ok (.nd dt shape data) := by
  obtain ⟨hrank, isz, hisz, hpos, hlen⟩ := h
  obtain ⟨hmod, hdiv⟩ := wf_arith hpos hlen
  obtain ⟨k, rfl⟩ : ∃ k, isz = k + 1 := ⟨isz - 1, by omega⟩
  have hhex : unhex (bytesToChars (hexBytes data)) = some data := by
    rw [bytesToChars_hexBytes, unhex_hex]
  simp only [jxEnvelope, Val.map.injEq] at hl
  subst hl
  by_cases hr : shape.length > 1
  · simp (config := { decide := true }) [jxHook, lookupStr, hr, hisz, hmod, hdiv, hhex, shapeOfVals_map]
  · obtain ⟨n, rfl⟩ := singleton_of_length shape hrank hr
    simp (config := { decide := true }) [jxHook, lookupStr, hisz, hmod, hdiv, hhex, prodL_singleton] at *

/-- non-vacuity: a (2,0,3) float64 array (empty, non-trivial shape), a big-endian int32 vector and a rank-2 unicode
array are well-formed -/
example : ndWF (asciiBytes "<f8") [2, 0, 3] [] := ⟨by decide, 8, by decide, by decide, by decide⟩
example : ndWF (asciiBytes ">i4") [2] [0, 0, 0, 1, 0, 0, 0, 2] := ⟨by decide, 4, by decide, by decide, by decide⟩
example : ndWF (asciiBytes "<U1") [1, 2] [97, 0, 0, 0, 98, 0, 0, 0] := ⟨by decide, 4, by decide, by decide, by decide⟩

/-! ## json-ext over whole payload trees (value level: what `json.dumps` is handed / what `json.loads` hands the hook)

`JWF v`: every ndarray leaf is well-formed (rank ≥ 1, size matches) and no user dict has a key `"_nd_"` (the hook treats
any such dict as an envelope — outside the property, see `ASSUMPTIONS` in harness/c10.py). No bound on depth, width or sizes. -/

inductive JWF : Val → Prop
  | nil : JWF .nil
  | bool (b) : JWF (.bool b)
  | int (i) : JWF (.int i)
  | f64 (b) : JWF (.f64 b)
  | str (s) : JWF (.str s)
  | bin (b) : JWF (.bin b)
  | arr (l) : (∀ x ∈ l, JWF x) → JWF (.arr l)
  | map (l) : lookupStr "_nd_" l = none → (∀ p ∈ l, JWF p.2) → JWF (.map l)
  | nd (dt shape data) : ndWF dt shape data → JWF (.nd dt shape data)

theorem jxDecL_ints : ∀ shape : List Nat,
    jxDecL (shape.map fun (n : Nat) => Val.int (n : Int)) = .ok (shape.map fun (n : Nat) => Val.int (n : Int))
  | [] => by simp [jxDecL]
  | n :: t => by simp [jxDecL, jxDec, jxDecL_ints t, Except.map]

/-- decoding the values of an envelope leaves them alone (they are a bool, two strings and a list of ints) -/
theorem jxDecP_envelope (dt data : Bytes) (shape : List Nat) (l : List (Val × Val))
    (hl : jxEnvelope dt shape data = .map l) : jxDecP l = .ok l := by
  simp only [jxEnvelope, Val.map.injEq] at hl
  subst hl
  by_cases hr : shape.length > 1 <;> simp [hr, jxDecP, jxDec, jxDecL_ints, Except.map]

mutual
  /-- **json-ext round trip over trees**: arrays nested at any depth in dicts/lists come back with the same dtype,
  shape and bytes, and everything else comes back unchanged -/
  theorem jsonext_roundtrip : ∀ v : Val, JWF v → jxDec (jxEnc v) = .ok v
    | .nil, _ => by simp [jxEnc, jxDec]
    | .bool _, _ => by simp [jxEnc, jxDec]
    | .int _, _ => by simp [jxEnc, jxDec]
    | .f64 _, _ => by simp [jxEnc, jxDec]
    | .str _, _ => by simp [jxEnc, jxDec]
    | .bin _, _ => by simp [jxEnc, jxDec]
    | .arr l, h => by
      have hl : ∀ x ∈ l, JWF x := by cases h; assumption
      simp [jxEnc, jxDec, jsonext_roundtripL l hl, Except.map]
    | .map l, h => by
      have ⟨hk, hl⟩ : lookupStr "_nd_" l = none ∧ ∀ p ∈ l, JWF p.2 := by cases h; exact ⟨‹_›, ‹_›⟩
      simp [jxEnc, jxDec, jsonext_roundtripP l hl, jxHook, hk]
    | .nd dt shape data, h => by
      have hwf : ndWF dt shape data := by cases h; assumption
      simp only [jxEnc]
      cases henv : jxEnvelope dt shape data with
      | map l =>
        simp only [jxDec, jxDecP_envelope dt data shape l henv]
        exact ext_envelope_roundtrip_json dt data shape hwf l henv
      | _ => simp [jxEnvelope] at henv
  theorem jsonext_roundtripL : ∀ l : List Val, (∀ x ∈ l, JWF x) → jxDecL (jxEncL l) = .ok l
    | [], _ => by simp [jxEncL, jxDecL]
    | v :: t, h => by
      have hv : JWF v := h v (List.mem_cons_self ..)
      have ht : ∀ x ∈ t, JWF x := fun x hx => h x (List.mem_cons_of_mem _ hx)
      simp [jxEncL, jxDecL, jsonext_roundtrip v hv, jsonext_roundtripL t ht, Except.map]
  theorem jsonext_roundtripP : ∀ l : List (Val × Val), (∀ p ∈ l, JWF p.2) → jxDecP (jxEncP l) = .ok l
    | [], _ => by simp [jxEncP, jxDecP]
    | (k, v) :: t, h => by
      have hv : JWF v := h (k, v) (List.mem_cons_self ..)
      have ht : ∀ p ∈ t, JWF p.2 := fun p hp => h p (List.mem_cons_of_mem _ hp)
      simp [jxEncP, jxDecP, jsonext_roundtrip v hv, jsonext_roundtripP t ht, Except.map]
end

/-- non-vacuity: a payload with an empty (0,3) array nested two levels deep beside scalars is well-formed -/
example : JWF (.map [(.str (asciiBytes "p"), .arr [.nd (asciiBytes "<f8") [0, 3] [], .map [(.str (asciiBytes "q"), .int 1)]]),
                     (.str (asciiBytes "z"), .nil)]) := by
  refine .map _ (by decide) ?_
  intro p hp
  simp at hp
  rcases hp with rfl | rfl
  · refine .arr _ ?_
    intro x hx
    simp at hx
    rcases hx with rfl | rfl
    · exact .nd _ _ _ ⟨by decide, 8, by decide, by decide, by decide⟩
    · exact .map _ (by decide) (by intro p hp; simp at hp; subst hp; exact .int 1)
  · exact .nil

/-! ## dispatch tables: which reader `parse_raw` / `from_file` / `parse_file` picks, and that it reads what the writer wrote -/

/-- the automatic choice of `parse_raw` (str → json, bytes → msgpack-ext) picks a reader that reads what the writer
the property names for that payload type wrote; and the bytes reader also reads plain msgpack -/
theorem auto_decoder_reads_writer :
    reads (readerOf (autoEnc .str)) .json = true ∧
    reads (readerOf (autoEnc .bytes)) .msgpackExt = true ∧
    reads (readerOf (autoEnc .bytes)) .msgpack = true ∧
    (∀ e : Enc, e.payloadTy = .bytes → reads (readerOf (autoEnc e.payloadTy)) e = true) := by
  refine ⟨by decide, by decide, by decide, ?_⟩
  intro e h; cases e <;> simp_all [Enc.payloadTy] <;> decide

/-- every explicit encoding's reader reads that encoding's writer (`parse_raw(serialize(e), encoding=e)`) -/
theorem explicit_reader_reads_writer : ∀ e : Enc, reads (readerOf e) e = true := by
  intro e; cases e <;> decide

/-- boundary (negative): json-ext *text* is a str, the automatic choice for str is json, and that reader does not
decode the array envelopes — recorded, not claimed as a round trip -/
theorem jsonext_text_not_read_by_auto :
    Enc.jsonExt.payloadTy = .str ∧ reads (readerOf (autoEnc Enc.jsonExt.payloadTy)) .jsonExt = false := by
  decide

/-- the hand-written dispatch tables of the model are the tables extracted from the working tree -/
theorem tables_match_source :
    (∀ p ∈ Gen.autoTable, autoEnc p.1 = p.2) ∧
    (∀ p ∈ Gen.readerTable, readerOf p.1 = p.2) ∧
    (∀ p ∈ Gen.writerTable, p.1 = p.2) ∧
    Gen.autoTable.length = 2 ∧ Gen.readerTable.length = 4 ∧ Gen.writerTable.length = 4 := by
  decide

/-- for every suffix that `Molecule.to_file` writes with a serialisation encoding, the reader `Molecule.from_file`
picks, and the reader `ProtoModel.parse_file` picks, read what was written (tables extracted from source) -/
theorem suffix_reader_reads_writer :
    (∀ p ∈ Gen.molFileTable, reads p.2 p.1 = true) ∧ (∀ p ∈ Gen.parseFileTable, reads p.2 p.1 = true) ∧
    Gen.molFileTable ≠ [] ∧ Gen.parseFileTable ≠ [] := by
  decide

end QcelVerif.Ser
