import QcelVerif.Model.RadiiShipped
import QcelVerif.Lemmas.Radii
import QcelVerif.Props.C01General
import QcelVerif.Props.C01Aliases
import QcelVerif.Props.C01Nuclides
/-!
# C17 — radii lookups are alias-invariant, unit-correct and honest about missing data

General theorems quantify over ANY periodic table `T`, ANY radius table `t`, ANY unit-factor map
`conv`; `shipped_*` / table theorems are kernel evaluations over the tables generated from `/repo`.

In THIS file the unit factor (`constants.conversion_factor`, pint — C03) is a PARAMETER: the unit clauses
are stated for every factor (`value_is_factor_times_native`, `default_value`).  "default = tabulated Å value ×
the context's Å→bohr factor" with the factor *derived* from the context's CODATA bohr radius through C03's
model of the conversion is in Props/C17Factor.lean (+ C17FactorC02.lean, C17FactorText.lean, C17ToUnits.lean).
What remains a per-run CHECKED PARAMETER is pint's float evaluation of the factor (the implementation's double
against the exact rational, tolerance 2^-50 relative; consequence proved in `impl_factor_value_accuracy`).
-/
namespace QcelVerif.Radii
open QcelVerif QcelVerif.PStr QcelVerif.PT

/-! ## alias invariance -/

/-- **Alias invariance (any tables).** If the periodic table resolves `a` to the element symbol `e`
and `a` is not an exact label other than `e` itself, then looking up `a` is looking up `e` — for
every `return_tuple`, `missing` and unit factor. -/
theorem radius_alias_invariant (T : Tables) (t : Table) (conv : Bytes → Option Rat) (a : PyVal) (e : Nat)
    (rt : Bool) (m : Option Rat)
    (hE : T.toE a false = some e)
    (hlab : ∀ s, a = .str s → hasLabel t s = true → pack s = e) :
    get T t conv a rt m = getByKey t conv e rt m := by
  refine get_of_identify ?_ conv rt m
  cases a with
  | int z => exact hE
  | str s =>
    by_cases hl : hasLabel t s = true
    · rw [identify_label hl, hlab s rfl hl]
    · simp only [identify, hl, hE]; rfl

/-- every exact label of the table that the periodic table can resolve at all resolves to itself -/
def labelsSelfResolve (T : Tables) (t : Table) : Bool :=
  t.all fun p => match T.toE (.str p.1) false with
    | none => true
    | some e => e == pack p.1

theorem alias_invariant_of_selfResolve (T : Tables) (t : Table) (hself : labelsSelfResolve T t = true)
    (conv : Bytes → Option Rat) (a : PyVal) (e : Nat) (rt : Bool) (m : Option Rat)
    (hE : T.toE a false = some e) : get T t conv a rt m = getByKey t conv e rt m := by
  refine radius_alias_invariant T t conv a e rt m hE fun s ha hl => ?_
  subst ha
  obtain ⟨p, hp, rfl⟩ := hasLabel_mem hl
  have := List.all_eq_true.mp hself p hp
  rw [hE] at this
  exact (beq_iff_eq.mp this).symm

theorem cov_labels_self : labelsSelfResolve shipped cov = true := by decide +kernel
theorem vdw_labels_self : labelsSelfResolve shipped vdw = true := by decide +kernel

/-- **Alias invariance (shipped tables, unconditional).** Whatever names the element — atomic
number, digit string, symbol, element name, nuclide label, in any letter case (whatever C01's
cascade resolves) — both radius sets answer as for the element's symbol. -/
theorem shipped_alias_invariant (conv : Bytes → Option Rat) (a : PyVal) (e : Nat) (rt : Bool) (m : Option Rat)
    (hE : shipped.toE a false = some e) :
    get shipped cov conv a rt m = getByKey cov conv e rt m ∧
    get shipped vdw conv a rt m = getByKey vdw conv e rt m :=
  ⟨alias_invariant_of_selfResolve shipped cov cov_labels_self conv a e rt m hE,
   alias_invariant_of_selfResolve shipped vdw vdw_labels_self conv a e rt m hE⟩

/-- **Letter case never matters** for anything that names an element: two ASCII texts equal after
lower-casing, one of which resolves, give the same answer (all 2^|s| casings). -/
theorem shipped_case_insensitive (conv : Bytes → Option Rat) (s s' : Bytes) (e : Nat) (rt : Bool) (m : Option Rat)
    (h : lower s = lower s') (hE : shipped.toE (.str s) false = some e) :
    get shipped cov conv (.str s) rt m = get shipped cov conv (.str s') rt m ∧
    get shipped vdw conv (.str s) rt m = get shipped vdw conv (.str s') rt m := by
  have hE' : shipped.toE (.str s') false = some e := by
    rw [← (accessors_case_insensitive shipped s s' h false).1]; exact hE
  have a := shipped_alias_invariant conv (.str s) e rt m hE
  have b := shipped_alias_invariant conv (.str s') e rt m hE'
  exact ⟨a.1.trans b.1.symm, a.2.trans b.2.symm⟩

-- hypotheses satisfiable: "kR84" ~ "Kr84", which resolves to Kr (test)
example : lower [107, 82, 56, 52] = lower [75, 114, 56, 52] ∧
    shipped.toE (.str [107, 82, 56, 52]) false = some (pack [75, 114]) := by decide +kernel

/-- **Every alias form of every element row**: atomic number as int, as digit string, symbol and
element name are answered as the symbol is, in both sets (from C01's `aliases_agree`). -/
theorem shipped_aliases_agree (r : Nat × Nat × Nat) (hr : r ∈ shipped.elements) (a : PyVal)
    (ha : a ∈ [PyVal.int r.1, .str (natDigits r.1), .str (unpack r.2.1), .str (unpack r.2.2)])
    (conv : Bytes → Option Rat) (rt : Bool) (m : Option Rat) :
    get shipped cov conv a rt m = getByKey cov conv r.2.1 rt m ∧
    get shipped vdw conv a rt m = getByKey vdw conv r.2.1 rt m := by
  have hrow : aliasRowOk r = true := List.all_eq_true.mp aliases_agree r hr
  have h2 := List.all_eq_true.mp (List.all_eq_true.mp hrow a ha) false (by simp)
  simp only [Bool.and_eq_true, beq_iff_eq] at h2
  exact shipped_alias_invariant conv a r.2.1 rt m h2.1.2

/-- **Every nuclide label of the table, in any letter case** (`H2`, `D`, `kr84`, `KR84`, …) is
answered as its element's symbol is, in both sets (from C01's `nuclides_resolve` and
case-insensitivity). -/
theorem shipped_nuclides_agree (r : Nat × Nat × Nat × Nat) (hr : r ∈ Gen.PT.nuclides) (s : Bytes)
    (hs : lower s = lower (unpack r.1)) (conv : Bytes → Option Rat) (rt : Bool) (m : Option Rat) :
    get shipped cov conv (.str s) rt m = getByKey cov conv r.2.1 rt m ∧
    get shipped vdw conv (.str s) rt m = getByKey vdw conv r.2.1 rt m := by
  have hrow : nuclideRowOk r = true := List.all_eq_true.mp nuclides_resolve r hr
  simp only [nuclideRowOk, Bool.and_eq_true, beq_iff_eq] at hrow
  refine shipped_alias_invariant conv (.str s) r.2.1 rt m ?_
  rw [(accessors_case_insensitive shipped s (unpack r.1) hs false).1]
  exact hrow.1.1.1.1.1.2

/-! ## special labels -/

/-- **An exact label returns its own entry** (any tables): the periodic table is not consulted, the
answer is the table's entry under that very key, and such an entry exists. -/
theorem label_own_entry (T : Tables) (t : Table) (conv : Bytes → Option Rat) (s : Bytes) (rt : Bool)
    (m : Option Rat) (h : hasLabel t s = true) :
    get T t conv (.str s) rt m = getByKey t conv (pack s) rt m ∧ (lookupK t (pack s)).isSome = true :=
  ⟨get_of_identify (identify_label h) conv rt m, lookupK_isSome_of_label h⟩

/-- row predicate of `shipped_rows_own_entry`: asked for by its label, the row comes back as
`Datum(label, native units, Decimal(text), comment, doi)` — unless a generic-element alias
deliberately overrides that key -/
def rowOwnOk (t : Table) (units doi : Bytes) (r : Bytes × Bytes × Option Bytes) : Bool :=
  (covAliasSpec.map (fun a => capitalize a.1)).contains r.1 ||
  match parseDec r.2.1, get shipped t (fun _ => none) (.str r.1) true none with
  | some cs, .ok (.datum d) =>
      d == { label := r.1, units := units, data := .dec false cs.1 (-(cs.2 : Int)), comment := r.2.2, doi := some doi }
  | _, _ => false

/-- **Every row of both data files is returned under its own label**, digits of the decimal
preserved, in the file's unit, with its comment and the set's DOI (kernel evaluation). -/
theorem shipped_rows_own_entry :
    Gen.Radii.covRows.all (rowOwnOk cov Gen.Radii.covUnits Gen.Radii.covDoi) = true ∧
    Gen.Radii.vdwRows.all (rowOwnOk vdw Gen.Radii.vdwUnits Gen.Radii.vdwDoi) = true := by
  constructor <;> decide +kernel

-- tests of the decimal reader: "0.31" -> 31·10^-2, "1.10" keeps its trailing zero, "1e-1" is outside the model
example : parseDec [48, 46, 51, 49] = some (31, 2) := by decide
example : parseDec [49, 46, 49, 48] = some (110, 2) := by decide
example : parseDec [49, 101, 45, 49] = none := by decide
-- test: the table is not empty and C_sp3 is a label of the covalent set only
example : cov.isEmpty = false ∧ vdw.isEmpty = false ∧ hasLabel cov [67, 95, 115, 112, 51] = true ∧
    hasLabel vdw [67, 95, 115, 112, 51] = false := by decide +kernel

/-! ## generic element = largest variant -/

/-- rows whose label is `sym_…` -/
def variantsOf (t : Table) (sym : Bytes) : List (Bytes × Datum) :=
  t.filter fun p => (sym ++ [95]).isPrefixOf p.1

def datumVal (d : Datum) : Option Rat :=
  match d.data with
  | .dec n c e => some (decVal n c e)
  | _ => none

/-- element symbols that have `sym_…` rows, in order of first appearance -/
def symbolsWithVariants (t : Table) : List Bytes :=
  (t.filterMap fun p => if p.1.contains 95 then some (p.1.takeWhile (· != 95)) else none).foldl
    (fun acc k => if acc.contains k then acc else acc ++ [k]) []

/-- the entry under the bare symbol is in ångström like all its variants and carries their maximum -/
def genericOk (t : Table) (sym : Bytes) : Bool :=
  match lookupB t sym with
  | none => false
  | some d =>
    match datumVal d with
    | none => false
    | some v =>
      let vs := variantsOf t sym
      d.units == bAngstrom && vs.all (fun p => p.2.units == bAngstrom) &&
      vs.all (fun p => match datumVal p.2 with | some w => decide (w ≤ v) | none => false) &&
      vs.any (fun p => datumVal p.2 == some v)

/-- **The bare element means the largest variant**: the elements with variant rows are exactly
C, Mn, Fe, Co (covalent set; none in the van der Waals set) and for each the generic entry equals
the maximum over its variants (C ↦ max(C_sp3, C_sp2, C_sp); Mn/Fe/Co ↦ max(low, high spin)). -/
theorem generic_is_largest :
    symbolsWithVariants cov = [[67], [77, 110], [70, 101], [67, 111]] ∧
    (symbolsWithVariants cov).all (genericOk cov) = true ∧
    symbolsWithVariants vdw = [] := by decide +kernel

/-! ## units -/

/-- **The value is the unit factor times the native number** (any tables): with entry `d` holding
the decimal `±c·10^e` and unit factor `f`, the float result is `fl(f · float(decimal))`, whatever
`missing` is. The requested unit enters only through `f` (linearity in the factor); in particular
the default (`f` = the context's ångström→bohr factor) is that factor times the ångström value. -/
theorem value_is_factor_times_native (t : Table) (conv : Bytes → Option Rat) (k : Nat) (m : Option Rat)
    (d : Datum) (f : Rat) (n : Bool) (c : Nat) (e : Int)
    (hd : lookupK t k = some d) (hdec : d.data = .dec n c e) (hf : conv d.units = some f) :
    getByKey t conv k false m = .ok (.value (fmul f (ofDec n c e))) := by
  simp [getByKey, hd, Datum.toUnits, hf, hdec, Payload.scale]

/-- **The default unit is Bohr**: omitting `units` is asking for `"bohr"` … -/
theorem default_is_bohr (T : Tables) (t : Table) (convF : Bytes → Bytes → Option Rat) (a : PyVal) (rt : Bool)
    (m : Option Rat) : getU T t convF a rt none m = getU T t convF a rt (some bBohr) m := rfl

/-- … so the default result is the context's (entry unit → bohr) factor times the tabulated value:
for the shipped ångström tables, the ångström→bohr factor times the ångström number. -/
theorem default_value (T : Tables) (t : Table) (convF : Bytes → Bytes → Option Rat) (a : PyVal) (k : Nat)
    (m : Option Rat) (d : Datum) (f : Rat) (n : Bool) (c : Nat) (e : Int)
    (hid : identify T t a = some k) (hd : lookupK t k = some d) (hdec : d.data = .dec n c e)
    (hf : convF d.units bBohr = some f) :
    getU T t convF a false none m = .ok (.value (fmul f (ofDec n c e))) := by
  unfold getU
  rw [get_of_identify hid]
  exact value_is_factor_times_native t _ k m d f n c e hd hdec hf

/-- entry predicate of `native_unit_exact` -/
def nativeOk (d : Datum) : Bool :=
  match d.data with
  | .dec n c e =>
      let x := ofDec n c e
      fmul 1 x == x && isF64 x && isNearestEven (decVal n c e) x
  | _ => false

theorem native_tables : cov.all (fun p => nativeOk p.2) = true ∧ vdw.all (fun p => nativeOk p.2) = true := by
  constructor <;> decide +kernel

/-- **The native unit returns the tabulated number exactly** (shipped tables): with factor 1 every
entry comes back as `float(Decimal)` itself — multiplying by `1.0` does not move it — and that
float is the double nearest (ties to even) to the tabulated decimal, stated independently of the
rounding function. -/
theorem native_unit_exact (t : Table) (ht : t = cov ∨ t = vdw) (conv : Bytes → Option Rat) (k : Nat)
    (m : Option Rat) (d : Datum) (hd : lookupK t k = some d) (hf : conv d.units = some 1) :
    ∃ n c e, d.data = .dec n c e ∧
      getByKey t conv k false m = .ok (.value (ofDec n c e)) ∧
      isNearestEven (decVal n c e) (ofDec n c e) = true := by
  have hok : nativeOk d = true := by
    rcases ht with rfl | rfl
    · exact all_of_lookupK native_tables.1 hd
    · exact all_of_lookupK native_tables.2 hd
  unfold nativeOk at hok
  cases hdat : d.data with
  | dec n c e =>
    rw [hdat] at hok
    simp only [Bool.and_eq_true, beq_iff_eq] at hok
    refine ⟨n, c, e, rfl, ?_, hok.2⟩
    rw [value_is_factor_times_native t conv k m d 1 n c e hd hdat hf, hok.1.1]
  | flt x => rw [hdat] at hok; cases hok
  | arr xs => rw [hdat] at hok; cases hok

/-! ## the Datum form -/

/-- **`return_tuple=True` returns the stored Datum unchanged** (any tables) — no conversion, the
units argument and `missing` are irrelevant … -/
theorem datum_native (t : Table) (conv : Bytes → Option Rat) (k : Nat) (m : Option Rat) (d : Datum)
    (hd : lookupK t k = some d) : getByKey t conv k true m = .ok (.datum d) := by
  simp [getByKey, hd]

/-- … and every stored Datum of the shipped sets is a Decimal in the data file's native unit. -/
theorem shipped_datums_native :
    cov.all (fun p => p.2.units == Gen.Radii.covUnits && (datumVal p.2).isSome) = true ∧
    vdw.all (fun p => p.2.units == Gen.Radii.vdwUnits && (datumVal p.2).isSome) = true := by
  constructor <;> decide +kernel

/-! ## missing data, non-elements -/

/-- **Missing-data contract** (any tables): the argument names a valid element `e` for which the
table has no entry. Then `missing=None` raises DataUnavailableError, a fallback is returned exactly
when `return_tuple=False`, and with `return_tuple=True` it is DataUnavailableError again. -/
theorem missing_contract (T : Tables) (t : Table) (conv : Bytes → Option Rat) (a : PyVal) (e : Nat)
    (hE : T.toE a false = some e) (hlab : ∀ s, a = .str s → hasLabel t s = true → pack s = e)
    (hno : lookupK t e = none) (x : Rat) (rt : Bool) :
    get T t conv a rt none = .error .DataUnavailable ∧
    get T t conv a false (some x) = .ok (.value x) ∧
    get T t conv a true (some x) = .error .DataUnavailable := by
  simp [radius_alias_invariant T t conv a e _ _ hE hlab, getByKey, hno]

-- non-vacuous on the shipped tables: Lr (Z=103) is an element without covalent radius, Fe one without
-- van der Waals radius, the dummy atom has neither (tests)
example : shipped.toE (.int 103) false = some (pack [76, 114]) ∧ lookupK cov (pack [76, 114]) = none := by decide +kernel
example : shipped.toE (.str [105, 114, 111, 110]) false = some (pack [70, 101]) ∧ lookupK vdw (pack [70, 101]) = none ∧
    (lookupK cov (pack [70, 101])).isSome = true := by decide +kernel
example : shipped.toE (.int 0) false = some (pack [88]) ∧ lookupK cov (pack [88]) = none ∧ lookupK vdw (pack [88]) = none := by
  decide +kernel

/-- **Non-elements are refused** (any tables): not an exact label and not resolvable by the periodic
table → NotAnElementError — never some other species' radius, never the fallback. -/
theorem not_element (T : Tables) (t : Table) (conv : Bytes → Option Rat) (a : PyVal) (rt : Bool) (m : Option Rat)
    (hlab : ∀ s, a = .str s → hasLabel t s = false) (hE : T.toE a false = none) :
    get T t conv a rt m = .error .NotAnElement := by
  unfold get
  rw [identify_of_not_label hlab, hE]

/-- the only ways `get` fails: NotAnElement exactly when nothing identifies the argument;
DataUnavailable only when the identifier has no entry; a conversion failure only from `conv` -/
theorem error_kinds (T : Tables) (t : Table) (conv : Bytes → Option Rat) (a : PyVal) (rt : Bool) (m : Option Rat)
    (er : Err) (h : get T t conv a rt m = .error er) :
    (er = .NotAnElement ∧ identify T t a = none) ∨
    (er = .DataUnavailable ∧ ∃ k, identify T t a = some k ∧ lookupK t k = none) ∨
    (er = .Conv ∧ ∃ k d, identify T t a = some k ∧ lookupK t k = some d ∧ conv d.units = none) := by
  unfold get at h
  cases hid : identify T t a with
  | none => simp only [hid] at h; left; exact ⟨by cases h; rfl, rfl⟩
  | some k =>
    simp only [hid, getByKey] at h
    cases hl : lookupK t k with
    | none =>
      right; left
      refine ⟨?_, k, rfl, hl⟩
      simp only [hl] at h
      cases m with
      | none => cases h; rfl
      | some x => cases rt <;> simp at h <;> cases h <;> rfl
    | some d =>
      right; right
      simp only [hl] at h
      cases rt with
      | true => simp at h
      | false =>
        simp only [Datum.toUnits] at h
        cases hc : conv d.units with
        | none => simp only [hc] at h; exact ⟨by cases h; rfl, k, d, rfl, hl, hc⟩
        | some f => simp [hc] at h

-- non-vacuous: "c_sp3" is neither a label nor an element (test)
example : hasLabel cov [99, 95, 115, 112, 51] = false ∧ shipped.toE (.str [99, 95, 115, 112, 51]) false = none := by
  decide +kernel

end QcelVerif.Radii
