import QcelVerif.Model.Radii
import QcelVerif.Gen.SrcConsts
/-!
# C17 — the keyword defaults of `CovalentRadii.get` / `VanderWaalsRadii.get` in `Model/Radii.lean` are the source's

The model's `getU` reads an omitted `units` as `"bohr"` (`bBohr`), and `getByKey` returns the caller's `missing`
unchanged (no unit conversion) when the element has no radius and `return_tuple` is `False`.  `Gen/SrcConsts.lean` is
rewritten on every run from `qcelemental/covalent_radii.py` and `vanderwaals_radii.py` (by `ast`).  Core Lean only.
-/
namespace QcelVerif.Radii
open QcelVerif QcelVerif.PStr

/-- `units="bohr"`, `return_tuple=False`, `missing=None` — for both tables -/
theorem radii_get_defaults_match_source :
    bBohr = Src.covalent.get.units.toList.map Char.toNat ∧ Src.vdw.get.units = Src.covalent.get.units ∧
    Src.covalent.get.return_tuple = false ∧ Src.vdw.get.return_tuple = false ∧
    Src.covalent.get.missing = none ∧ Src.vdw.get.missing = none := by
  decide

/-- an element without a radius: `missing` (a float) comes back as given when `return_tuple` is off, else / without
`missing` the lookup is `DataUnavailableError` — `if missing is not None and return_tuple is False: return missing` -/
theorem missing_returned_as_given_matches_source (t : Table) (conv : Bytes → Option Rat) (k : Nat) (rt : Bool)
    (missing : Option Rat) (h : lookupK t k = none) :
    getByKey t conv k rt missing =
      (match missing with
       | some m => if rt = false then .ok (.value m) else .error .DataUnavailable
       | none => .error .DataUnavailable) ∧
    Src.covalent.get.missing_returned_as_given = true ∧ Src.vdw.get.missing_returned_as_given = true := by
  refine ⟨?_, by decide, by decide⟩
  unfold getByKey
  rw [h]
  cases missing <;> cases rt <;> rfl

/-- test (non-vacuity): the empty table has no radius for any key -/
example : lookupK [] 7 = none := rfl

end QcelVerif.Radii
