import QcelVerif.Model.F64Check
/-!
# ConstTie — the float-literal check shared by the `Props/ConstTie<Cxx>.lean` files that tie a float

`Gen/SrcConsts.lean` (generated from the Python sources by `tools/gen_srcconsts.py`) gives every float literal four
ways: `X` the exact decimal value of its source text, `X_dec` the decimal as (negative, coefficient, exponent),
`X_bits` the IEEE-754 binary64 pattern and `X_f64` the exact value of that double.
`FloatLit.ok` re-checks, by kernel evaluation, that these belong together:

  * `X_dec` denotes `X`;
  * `X_bits` is the double nearest to `X_dec` (ties to even) — the independent statement `F64Check.nearestOk`,
    not an algorithm; for a zero coefficient only "the bits are a zero" is tested (either sign bit passes);
  * the value of `X_bits` is `X_f64`.

So `X_f64` is *proved* to be what a correctly rounding `float()` makes of the literal: CPython's parser is not
trusted for the tied constants, only "CPython rounds literals correctly" (trusted base, DESIGN.md §1.6 item 5).
-/
namespace QcelVerif.ConstTie
open QcelVerif

/-- the value of the (possibly negative) double with bit pattern `bits` -/
def f64Signed (bits : Nat) : Rat :=
  if bits / 2 ^ 63 = 1 then - F64Check.f64Val (bits % 2 ^ 63) else F64Check.f64Val (bits % 2 ^ 63)

/-- decimal text ↔ exact value ↔ nearest double ↔ value of the double -/
def FloatLit.ok (exact : Rat) (dec : Bool × Nat × Int) (bits : Nat) (f64 : Rat) : Bool :=
  let d : Dec := ⟨dec.1, dec.2.1, dec.2.2⟩
  decide (d.val = exact) &&
  (if dec.2.1 = 0 then bits % 2 ^ 63 == 0 else F64Check.nearestOk d bits) &&
  decide (f64Signed bits = f64)

/-- test: `0.1` -/
example : FloatLit.ok ((1 : Rat) / 10) (false, 1, -1) 4591870180066957722 ((3602879701896397 : Rat) / 36028797018963968) = true := by
  decide +kernel
/-- test: a neighbouring double is refused -/
example : FloatLit.ok ((1 : Rat) / 10) (false, 1, -1) 4591870180066957723 ((3602879701896397 : Rat) / 36028797018963968) = false := by
  decide +kernel
/-- test: `-1.0` -/
example : FloatLit.ok (-1 : Rat) (true, 10, -1) 13830554455654793216 (-1 : Rat) = true := by decide +kernel
/-- test: `0.0` -/
example : FloatLit.ok 0 (false, 0, -1) 0 0 = true := by decide +kernel

end QcelVerif.ConstTie
