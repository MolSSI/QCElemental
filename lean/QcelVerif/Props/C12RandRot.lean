import QcelVerif.Model.RandRot
import QcelVerif.Lemmas.RotUnique
import Mathlib.Analysis.SpecialFunctions.Trigonometric.Basic
import Mathlib.Analysis.Real.Sqrt
/-!
# C12 — `random_rotation_matrix` returns a proper rotation (the generator behind `Molecule.scramble(do_rotate=True)`)

About the model `Model/RandRot.lean` of `qcelemental/util/np_rand3drot.py`.

Proved here: `M = (V Vᵀ − I)·R_z(θ)·R_z(π)` has `M Mᵀ = I` and `det M = +1` as soon as `|V|² = 2` and `st² + ct² = 1`
(any commutative ring; also in the unit-vector form `2 v vᵀ − I`, `V = √2·v`); the source's `V` has `|V|² = 2`; hence the
whole function returns a proper rotation for EVERY deflection and every three numbers, for every `sin`/`cos`/`sqrt`/`2π`
satisfying the normalisation at the arguments used — over ℝ with the real functions whenever `0 ≤ u3·2·deflection ≤ 2`,
in particular for all `deflection, u3 ∈ [0, 1]`.  `deflection = 0` gives the identity ("For 0, no rotation", docstring):
this is what the factor `R_z(π)` is for.  The normalisation `|V|² = 2` is needed: `V = (1, 0, 0)` gives a singular matrix.
-/
namespace QcelVerif.RandRot
open QcelVerif.Kabsch
variable {K : Type}

section Ring
variable [CommRing K]

theorem rotZ_orth (st ct : K) (h : st ^ 2 + ct ^ 2 = 1) : (rotZ st ct).mul (rotZ st ct).transpose = M3.one := by
  have e : (rotZ st ct).mul (rotZ st ct).transpose = ⟨st ^ 2 + ct ^ 2, 0, 0, 0, st ^ 2 + ct ^ 2, 0, 0, 0, 1⟩ := by
    ext <;> simp only [rotZ, M3.mul, M3.transpose] <;> ring
  rw [e, h]
  rfl

theorem rotZ_det (st ct : K) (h : st ^ 2 + ct ^ 2 = 1) : (rotZ st ct).det = 1 := by
  simp only [rotZ, M3.det]; linear_combination h

theorem rotZpi_isRot : IsRot (rotZpi : M3 K) :=
  ⟨by ext <;> simp only [rotZpi, M3.mul, M3.transpose, M3.one] <;> ring, by simp only [rotZpi, M3.det]; ring⟩

theorem householderNeg_eq (v : V3 K) : householderNeg v = axial 2 (-1) v := by
  ext <;> simp only [householderNeg, axial, outer, M3.smul, M3.add, M3.one] <;> ring

theorem outerMinusOne_eq (V : V3 K) : outerMinusOne V = axial 1 (-1) V := by
  ext <;> simp only [outerMinusOne, axial, outer, M3.smul, M3.add, M3.one] <;> ring

/-- `2 v vᵀ − I` for a unit `v`: a half-turn (determinant `2|v|² − 1 = +1`), not a reflection -/
theorem householderNeg_isRot (v : V3 K) (hv : v.nrm2 = 1) : IsRot (householderNeg v) := by
  rw [householderNeg_eq]
  exact ⟨axial_orth (by rw [hv]; ring) (by ring), by rw [axial_det, hv]; ring⟩

/-- the unit-vector form `M = (2 v vᵀ − I)·R_z(θ)·R_z(π)` (`assembleUnit`); `(st, ct)` is any pair with `st² + ct² = 1`,
    not necessarily a sine and cosine -/
theorem random_rotation_is_proper (v : V3 K) (st ct : K) (hv : v.nrm2 = 1) (ht : st ^ 2 + ct ^ 2 = 1) :
    (assembleUnit v st ct).mul (assembleUnit v st ct).transpose = M3.one ∧ (assembleUnit v st ct).det = 1 := by
  have h := ((householderNeg_isRot v hv).mul ⟨rotZ_orth st ct ht, rotZ_det st ct ht⟩).mul rotZpi_isRot
  exact ⟨h.orth, h.det⟩

/-- the source's normalisation: `|V|² = 2` ("V has length sqrt(2) to eliminate the 2 in the Householder matrix") -/
theorem random_rotation_is_proper_source (V : V3 K) (st ct : K) (hV : V.nrm2 = 2) (ht : st ^ 2 + ct ^ 2 = 1) :
    (assemble V st ct).mul (assemble V st ct).transpose = M3.one ∧ (assemble V st ct).det = 1 := by
  have hH : IsRot (outerMinusOne V) := by
    rw [outerMinusOne_eq]
    exact ⟨axial_orth (by rw [hV]; ring) (by ring), by rw [axial_det, hV]; ring⟩
  have h := (hH.mul ⟨rotZ_orth st ct ht, rotZ_det st ct ht⟩).mul rotZpi_isRot
  exact ⟨h.orth, h.det⟩

/-- the two forms are the same matrix: `V = s·v` with `s² = 2` -/
theorem outerMinusOne_eq_householderNeg (v : V3 K) (s : K) (hs : s ^ 2 = 2) :
    outerMinusOne (V3.smul s v) = householderNeg v := by
  rw [outerMinusOne_eq, axial_smul, hs, one_mul, householderNeg_eq]

theorem assemble_eq_assembleUnit (v : V3 K) (s st ct : K) (hs : s ^ 2 = 2) :
    assemble (V3.smul s v) st ct = assembleUnit v st ct := by
  rw [assemble, assembleUnit, outerMinusOne_eq_householderNeg v s hs]

/-- `|V|² = (sin²φ + cos²φ)·r² + w² = z + (2 − z) = 2` -/
theorem poleVector_nrm2 (sp cp r w z : K) (hp : sp ^ 2 + cp ^ 2 = 1) (hr : r ^ 2 = z) (hw : w ^ 2 = 2 - z) :
    (poleVector sp cp r w).nrm2 = 2 := by
  simp only [poleVector, V3.nrm2]
  linear_combination (r ^ 2) * hp + hr + hw

end Ring

section Field
variable [Field K]

/-- **the whole function returns a proper rotation**: for every deflection and every three numbers, and every
    `sn`, `cs`, `sq`, `twoPi` that satisfy, at the arguments the source evaluates them at, the normalisation it relies
    on — `sin² + cos² = 1` at `θ` and `φ`, `sqrt(z)² = z`, `sqrt(2 − z)² = 2 − z` -/
theorem randomRotationMatrix_proper (sn cs sq : K → K) (twoPi deflection u1 u2 u3 : K)
    (hθ : sn ((u1 - 1 / 2) * deflection * twoPi) ^ 2 + cs ((u1 - 1 / 2) * deflection * twoPi) ^ 2 = 1)
    (hφ : sn (u2 * twoPi) ^ 2 + cs (u2 * twoPi) ^ 2 = 1)
    (hz : sq (u3 * 2 * deflection) ^ 2 = u3 * 2 * deflection)
    (hw : sq (2 - u3 * 2 * deflection) ^ 2 = 2 - u3 * 2 * deflection) :
    (randomRotationMatrix sn cs sq twoPi deflection u1 u2 u3).mul
        (randomRotationMatrix sn cs sq twoPi deflection u1 u2 u3).transpose = M3.one
      ∧ (randomRotationMatrix sn cs sq twoPi deflection u1 u2 u3).det = 1 := by
  simp only [randomRotationMatrix]
  exact random_rotation_is_proper_source _ _ _ (poleVector_nrm2 _ _ _ _ _ hφ hz hw) hθ

/-- `deflection = 0` gives the identity ("For 0, no rotation"): `θ = 0`, `z = 0`, `V = (0, 0, √2)`,
    `V Vᵀ − I = diag(−1, −1, 1)`, and the factor `R_z(π)` turns that into `I` -/
theorem randomRotationMatrix_deflection_zero (sn cs sq : K → K) (twoPi u1 u2 u3 : K)
    (hs0 : sn 0 = 0) (hc0 : cs 0 = 1) (hq0 : sq 0 = 0) (hq2 : sq 2 ^ 2 = 2) :
    randomRotationMatrix sn cs sq twoPi 0 u1 u2 u3 = M3.one := by
  have hZ : rotZ (0 : K) 1 = M3.one := by ext <;> simp only [rotZ, M3.one, neg_zero]
  have e : ∀ sp cp : K, (outerMinusOne (poleVector sp cp 0 (sq 2))).mul rotZpi
      = ⟨1, 0, 0, 0, 1, 0, 0, 0, sq 2 ^ 2 - 1⟩ := by
    intro sp cp
    ext <;> simp only [outerMinusOne, poleVector, rotZpi, M3.mul] <;> ring
  simp only [randomRotationMatrix, mul_zero, zero_mul, sub_zero, hs0, hc0, hq0, assemble, hZ, M3.mul_one', e, hq2]
  rw [show (2 : K) - 1 = 1 by norm_num]
  rfl

end Field

/-! ## over ℝ with the real functions -/

/-- **over ℝ**: `random_rotation_matrix(deflection, randnums = (u1, u2, u3))` with the real `sin`, `cos`, `sqrt` and
    `2π` is a proper rotation whenever `0 ≤ z = u3·2·deflection ≤ 2` (the domain of the two square roots) -/
theorem randomRotationMatrix_proper_real (deflection u1 u2 u3 : ℝ)
    (h0 : 0 ≤ u3 * 2 * deflection) (h2 : u3 * 2 * deflection ≤ 2) :
    (randomRotationMatrix Real.sin Real.cos Real.sqrt (2 * Real.pi) deflection u1 u2 u3).mul
        (randomRotationMatrix Real.sin Real.cos Real.sqrt (2 * Real.pi) deflection u1 u2 u3).transpose = M3.one
      ∧ (randomRotationMatrix Real.sin Real.cos Real.sqrt (2 * Real.pi) deflection u1 u2 u3).det = 1 :=
  randomRotationMatrix_proper Real.sin Real.cos Real.sqrt (2 * Real.pi) deflection u1 u2 u3
    (Real.sin_sq_add_cos_sq _) (Real.sin_sq_add_cos_sq _) (Real.sq_sqrt h0) (Real.sq_sqrt (by linarith))

/-- in particular for every `deflection ∈ [0, 1]` and every `u3 ∈ [0, 1]` (`u1`, `u2` arbitrary): the quantifier
    of `Molecule.scramble(deflection=…)` -/
theorem randomRotationMatrix_proper_unit_interval (deflection u1 u2 u3 : ℝ)
    (hd0 : 0 ≤ deflection) (hd1 : deflection ≤ 1) (hu0 : 0 ≤ u3) (hu1 : u3 ≤ 1) :
    (randomRotationMatrix Real.sin Real.cos Real.sqrt (2 * Real.pi) deflection u1 u2 u3).mul
        (randomRotationMatrix Real.sin Real.cos Real.sqrt (2 * Real.pi) deflection u1 u2 u3).transpose = M3.one
      ∧ (randomRotationMatrix Real.sin Real.cos Real.sqrt (2 * Real.pi) deflection u1 u2 u3).det = 1 := by
  apply randomRotationMatrix_proper_real
  · positivity
  · have := mul_le_one₀ hu1 hd0 hd1
    linarith

theorem randomRotationMatrix_deflection_zero_real (u1 u2 u3 : ℝ) :
    randomRotationMatrix Real.sin Real.cos Real.sqrt (2 * Real.pi) 0 u1 u2 u3 = M3.one :=
  randomRotationMatrix_deflection_zero _ _ _ _ _ _ _ Real.sin_zero Real.cos_zero Real.sqrt_zero
    (Real.sq_sqrt (by norm_num))

-- non-vacuity (test) of `random_rotation_is_proper` / `_source` at ℚ: v = (2/3, 1/3, 2/3), (st, ct) = (3/5, 4/5);
-- V = (1, 1, 0) has |V|² = 2
example : (⟨2 / 3, 1 / 3, 2 / 3⟩ : V3 ℚ).nrm2 = 1 ∧ ((3 : ℚ) / 5) ^ 2 + (4 / 5) ^ 2 = 1
    ∧ (⟨1, 1, 0⟩ : V3 ℚ).nrm2 = 2 := by decide +kernel

-- non-vacuity (test) of `randomRotationMatrix_proper` at ℚ with genuinely non-trivial parameters: "sin/cos"
-- the constant pair (3/5, 4/5), "sqrt" the function that is exact on the two arguments used (z = 1: u3 = 1/2, deflection = 1)
example :
    let sn : ℚ → ℚ := fun _ => 3 / 5
    let cs : ℚ → ℚ := fun _ => 4 / 5
    let sq : ℚ → ℚ := fun _ => 1
    sn ((1 / 3 - 1 / 2) * 1 * 6) ^ 2 + cs ((1 / 3 - 1 / 2) * 1 * 6) ^ 2 = 1
      ∧ sq ((1 / 2 : ℚ) * 2 * 1) ^ 2 = (1 / 2 : ℚ) * 2 * 1 ∧ sq (2 - (1 / 2 : ℚ) * 2 * 1) ^ 2 = 2 - (1 / 2 : ℚ) * 2 * 1 := by decide +kernel

/-- (test) the normalisation is needed: with `V = (1, 0, 0)` (`|V|² = 1 ≠ 2`) the matrix `V Vᵀ − I = diag(0, −1, −1)`
    is singular, so `det M = 0` and `M` is not a rotation at all (singular, not merely improper) -/
theorem improper_without_normalisation_example : (assemble (⟨1, 0, 0⟩ : V3 ℚ) 0 1).det = 0 := by decide +kernel

end QcelVerif.RandRot
