import QcelVerif.Props.C15
/-!
# C15 — the per-fragment variants `nelectrons(ifr)` and `nuclear_repulsion_energy(ifr)`

`Props/C15.lean` proves that the per-fragment electron counts add up; `Props/C15Nre.lean` proves
real-only / permutation / rigid invariance of the pair sum on an arbitrary atom list.  This file
states what the *per-fragment* calls compute — for a fragment that may mix real and ghost atoms —
on the executable model (`nelectronsFrag`, `nreMol … (some fr)`, Model/Fragments.lean):

* `nelectrons_fragment` : `nelectrons(ifr)` = Σ Z over the atoms of the fragment flagged real
  − `fragment_charges[ifr]`;
* `nre_fragment` : `nuclear_repulsion_energy(ifr)` = the pair sum over the fragment's real nuclei
  only (ghost atoms of the fragment and all atoms outside it do not enter);
* `nre_append` : the energy of two blocks is the sum of the block energies **plus the
  inter-block term** — so the per-fragment energies do NOT add up to the total
  (`nre_not_additive`, a concrete counter-example; additivity is not part of the property).
-/
namespace QcelVerif.Fragments
open QcelVerif.ChgMult (isum)

/-! ### electrons of one fragment -/

theorem isum_eq_sum (l : List Int) : isum l = l.sum := by
  induction l with
  | nil => rfl
  | cons x t ih => simp [ChgMult.isum_cons, ih]

theorem isum_map_indicator (z : Int) (k : Nat) : ∀ (fr : List Nat), fr.Nodup →
    isum (fr.map (fun i => if i = k then z else 0)) = if fr.contains k then z else 0
  | [], _ => by simp [isum]
  | a :: fr, hnd => by
      rw [List.nodup_cons] at hnd
      rw [List.map_cons, ChgMult.isum_cons, isum_map_indicator z k fr hnd.2]
      by_cases hak : a = k
      · subst hak
        have : fr.contains a = false := by simpa using hnd.1
        have h2 : (a :: fr).contains a = true := by simp
        rw [h2, this]; simp
      · have h1 : (a :: fr).contains k = fr.contains k := by
          simp [Ne.symm hak]
        rw [h1]; simp [hak]

/-- the sum the code forms (`zf for iat, zf in enumerate(Zeff) if iat in fragment`) is the sum
over the listed atoms, for a duplicate-free index list; offset `k` for the induction -/
theorem zeffIn_offset : ∀ (zeff : List Int) (k : Nat) (fr : List Nat), fr.Nodup →
    isum ((zeff.zipIdx k).map (fun p => if fr.contains p.2 then p.1 else 0)) =
      isum (fr.map (fun i => if k ≤ i then zeff.getD (i - k) 0 else 0))
  | [], k, fr, _ => by
      simp only [List.zipIdx_nil, List.map_nil, List.getD_nil, ite_self]
      exact (ChgMult.isum_zeros fr).symm
  | z :: zs, k, fr, hnd => by
      have e : (fun i => if k ≤ i then (z :: zs).getD (i - k) 0 else 0) =
          (fun i => (if i = k then z else 0) + (if k + 1 ≤ i then zs.getD (i - (k + 1)) 0 else 0)) := by
        funext i
        by_cases h1 : i = k
        · subst h1; simp
        · by_cases h2 : k + 1 ≤ i
          · have : i - k = (i - (k + 1)) + 1 := by omega
            have hk : k ≤ i := by omega
            simp [h1, h2, hk, this]
          · have hk : ¬ k ≤ i := by omega
            simp [h1, h2, hk]
      rw [List.zipIdx_cons, List.map_cons, ChgMult.isum_cons, zeffIn_offset zs (k + 1) fr hnd, e, ← isum_map_add,
        isum_map_indicator z k fr hnd]

theorem zeffIn_eq_listed (zeff : List Int) (fr : List Nat) (hnd : fr.Nodup) :
    zeffIn zeff fr = isum (fr.map (fun i => zeff.getD i 0)) := by
  rw [zeffIn_eq_indicator]
  simpa using zeffIn_offset zeff 0 fr hnd

/-- non-vacuity (tests, evaluated): a duplicate-free list; with a duplicate the code's `in` test
counts the atom once while the listed sum counts it twice — the hypothesis is needed -/
example : [2, 0].Nodup ∧ zeffIn [1, 6, 8] [2, 0] = 9 ∧ isum ([2, 0].map (fun i => [1, 6, 8].getD i 0)) = 9 := by decide
example : zeffIn [1, 6, 8] [2, 2] = 8 ∧ isum ([2, 2].map (fun i => ([1, 6, 8] : List Int).getD i 0)) = 16 := by decide

/-- nuclear charge of atom `i` (0 outside the atom list) -/
def zAt {α} (zOf : α → Int) (atoms : List α) (i : Nat) : Int := (atoms[i]?.map zOf).getD 0

theorem zeffList_getD {α} (zOf : α → Int) (atoms : List α) (real : List Bool) (i : Nat) :
    (zeffList zOf atoms real).getD i 0 = if real.getD i false then zAt zOf atoms i else 0 := by
  unfold zeffList zAt
  rw [List.getD_eq_getElem?_getD, List.getElem?_zipWith, List.getD_eq_getElem?_getD]
  cases atoms[i]? <;> cases hr : real[i]? <;> simp [b2i]

/-- **Electrons of one fragment** (a fragment may mix real and ghost atoms).  For a fragment
`fr = fragments[k]` without repeated atom indices and its charge `c = fragment_charges[k]`:
`nelectrons(k)` is the sum of the nuclear charges of those atoms of the fragment that are flagged
real, minus `c`.  Ghost atoms of the fragment and atoms of other fragments do not count. -/
theorem nelectrons_fragment {α} (zOf : α → Int) (mol : Mol α) (k : Nat) (fr : List Nat) (c : Int)
    (hfr : mol.frags[k]? = some fr) (hc : mol.fc[k]? = some c) (hnd : fr.Nodup) :
    nelectronsFrag zOf mol k =
      some (isum ((fr.filter (fun i => mol.real.getD i false)).map (zAt zOf mol.atoms)) - c) := by
  unfold nelectronsFrag
  rw [hfr, hc]
  simp only [Option.bind_eq_bind, Option.bind_some, Option.pure_def, Option.some.injEq]
  rw [zeffIn_eq_listed _ _ hnd, isum_filter_map]
  congr 2
  apply List.map_congr_left
  intro i _
  exact zeffList_getD zOf mol.atoms mol.real i

/-- non-vacuity (test, evaluated): fragment [0,1,2] = He, ghost H, Li with charge +1 → 2 + 3 − 1 -/
example : nelectronsFrag (fun z : Int => z)
    { atoms := [2, 1, 3, 8], real := [true, false, true, true], frags := [[0, 1, 2], [3]],
      fc := [1, 0], fm := [1, 1], c := 1, m := 1 } 0 = some 4 := by decide

/-! ### nuclear repulsion of one fragment -/

section nre
variable {K : Type} [Field K]

/-- **Nuclear repulsion of one fragment** = the pair sum restricted to the fragment's real nuclei.
`nuclear_repulsion_energy(ifr)` with `fr = fragments[ifr]` is the sum over unordered pairs of
those atoms of `fr` whose effective charge `Z·real` is non-zero; ghost atoms of the fragment
contribute nothing and atoms outside the fragment do not enter at all.  (Any field, any distance
function.) -/
theorem nre_fragment (zeff : List Int) (dist : Nat → Nat → K) (fr : List Nat) :
    nreMol zeff dist (some fr) =
      nre dist ((fr.filter (fun i => zeff.getD i 0 != 0)).map (fun i => (zeff.getD i 0, i))) := by
  unfold nreMol
  simp only [Option.getD_some]
  rw [nre_real_only, List.filter_map]
  rfl

/-- the same with the real/ghost flags of the molecule: only atoms of the fragment flagged real -/
theorem nre_fragment_real {α} (zOf : α → Int) (atoms : List α) (real : List Bool)
    (dist : Nat → Nat → K) (fr : List Nat) :
    nreMol (zeffList zOf atoms real) dist (some fr) =
      nre dist ((fr.filter (fun i => real.getD i false)).map (fun i => (zAt zOf atoms i, i))) := by
  unfold nreMol
  simp only [Option.getD_some]
  rw [nre_filter_of_zero dist (fun a => real.getD a.2 false)]
  · rw [List.filter_map]
    congr 1
    apply List.map_congr_left
    intro i hi
    have hr : real.getD i false = true := (List.mem_filter.1 hi).2
    rw [zeffList_getD, hr]; rfl
  · intro a ha h
    obtain ⟨i, _, rfl⟩ := List.mem_map.1 ha
    have hr : real.getD i false = false := h
    show (zeffList zOf atoms real).getD i 0 = 0
    rw [zeffList_getD, hr]; rfl

/-- a fragment made of ghost atoms only has no nuclear repulsion energy -/
theorem nre_fragment_all_ghost (zeff : List Int) (dist : Nat → Nat → K) (fr : List Nat)
    (h : ∀ i ∈ fr, zeff.getD i 0 = 0) : nreMol zeff dist (some fr) = 0 := by
  rw [nre_fragment]
  have : fr.filter (fun i => zeff.getD i 0 != 0) = [] := by
    apply List.filter_eq_nil_iff.2
    intro i hi
    rw [h i hi]; simp
  rw [this]; rfl

/-- non-vacuity (tests): fragment [0,1,2] of He, ghost Li, H, O on a line (distance = |i-j|):
only the He–H pair of the fragment counts, 2·1/2 = 1; the all-ghost fragment [1] has energy 0 -/
example : nreMol (K := ℚ) [2, 0, 1, 8] (fun i j => ((i : ℚ) - j) * (if i < j then -1 else 1)) (some [0, 1, 2]) = 1 := by
  norm_num [nreMol, nre, pairSum, ksum, nreTerm]
example : ∀ i ∈ [1], ([2, 0, 1, 8] : List Int).getD i 0 = 0 := by decide

/-- the whole-molecule call is the per-fragment call on `arange(n)` (the default single fragment) -/
theorem nre_whole (zeff : List Int) (dist : Nat → Nat → K) :
    nreMol zeff dist none = nreMol zeff dist (some (List.range zeff.length)) := rfl

/-- interaction of two blocks of atoms: every pair with one atom in each -/
def cross {γ} (dist : γ → γ → K) (A B : List (Int × γ)) : K :=
  ksum (A.map (fun a => ksum (B.map (fun b => nreTerm dist b a))))

/-- **Two blocks.** The energy of `A ++ B` is the energy of `A` plus the energy of `B` plus the
inter-block interaction — which is why the per-fragment energies are *not* additive. -/
theorem nre_append {γ} (dist : γ → γ → K) : ∀ (A B : List (Int × γ)),
    nre dist (A ++ B) = nre dist A + nre dist B + cross dist A B
  | [], B => by simp [nre, pairSum, cross, ksum]
  | a :: A, B => by
      have ih := nre_append dist A B
      unfold nre at ih ⊢
      simp only [List.cons_append, pairSum, ih, cross, List.map_cons, ksum, List.map_append]
      rw [ksum_eq_sum (_ ++ _), List.sum_append, ← ksum_eq_sum, ← ksum_eq_sum]
      ring

/-- **Per-fragment energies do not add up** (so additivity is deliberately not claimed): two
one-atom fragments H, H at distance 1 have fragment energies 0 and 0, the molecule has 1. -/
theorem nre_not_additive :
    ∃ (zeff : List Int) (dist : Nat → Nat → ℚ) (frags : List (List Nat)),
      frags.flatten = List.range zeff.length ∧
      ksum (frags.map (fun fr => nreMol zeff dist (some fr))) ≠ nreMol zeff dist none := by
  refine ⟨[1, 1], fun _ _ => 1, [[0], [1]], by decide, ?_⟩
  norm_num [nreMol, nre, pairSum, ksum, nreTerm, List.range, List.range.loop]

end nre

end QcelVerif.Fragments
