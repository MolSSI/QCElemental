import QcelVerif.Lemmas.FromArrays
import QcelVerif.Gen.SrcConsts
import QcelVerif.Props.ConstTieLib
/-!
# C04 — the constants, defaults and literal lists hard-coded in `Model/FromArrays.lean` are those of the source

`Gen/SrcConsts.lean` is rewritten on every run by `tools/gen_srcconsts.py`, which re-reads
`qcelemental/molparse/from_arrays.py` and `from_schema.py` of the working tree by `ast` (never by importing).
Each theorem below ties one generated value to the model: to the model's own definition by name where it has
one (`dfltTooclose`, `dfltMtol`, `sAngstrom`, `sBohr`, `dfltIutau`), else to the *behaviour* of the model
function that carries the literal inline (`anyTooClose`, `normBond`, `validateUnits`, `fromSchema`), stated for
all inputs.  A changed default, window, bond-order bound, accepted unit spelling or `from_schema` keyword in the
source breaks a proof obligation of this file, whether or not a generated molecule exposes the change.
Core Lean only.
-/
namespace QcelVerif.FromArrays
open QcelVerif QcelVerif.ConstTie

/-- every float literal read from from_arrays.py: decimal text, exact value, nearest double and the double's value
belong together (so `…_f64` below is the double a correctly rounding `float()` reads) -/
theorem float_literals_ok :
    FloatLit.ok Src.from_arrays.tooclose Src.from_arrays.tooclose_dec Src.from_arrays.tooclose_bits Src.from_arrays.tooclose_f64 = true ∧
    FloatLit.ok Src.from_arrays.mtol Src.from_arrays.mtol_dec Src.from_arrays.mtol_bits Src.from_arrays.mtol_f64 = true ∧
    FloatLit.ok Src.units.iutau_window Src.units.iutau_window_dec Src.units.iutau_window_bits Src.units.iutau_window_f64 = true ∧
    FloatLit.ok Src.units.bohr_factor Src.units.bohr_factor_dec Src.units.bohr_factor_bits Src.units.bohr_factor_f64 = true := by
  decide +kernel

/-- `tooclose=0.1`: the model's default is the double of the literal in `from_arrays`' signature, and
`from_input_arrays` and `validate_and_fill_geometry` declare the same default -/
theorem tooclose_default_matches_source :
    dfltTooclose = Src.from_arrays.tooclose_f64 ∧
    Src.from_input_arrays.tooclose_f64 = Src.from_arrays.tooclose_f64 ∧
    Src.geometry.tooclose_f64 = Src.from_arrays.tooclose_f64 := by
  decide +kernel

/-- `mtol=1.0e-3`: likewise (`from_arrays`, `from_input_arrays`, `validate_and_fill_nuclei`) -/
theorem mtol_default_matches_source :
    dfltMtol = Src.from_arrays.mtol_f64 ∧
    Src.from_input_arrays.mtol_f64 = Src.from_arrays.mtol_f64 ∧
    Src.nuclei.mtol_f64 = Src.from_arrays.mtol_f64 := by
  decide +kernel

/-- the overlap screen: the source tests `dists < tooclose ** 2` (strictly, squared distances); the model's
`anyTooClose` flags a pair exactly when its squared distance is strictly below `tc * tc` -/
theorem overlap_screen_matches_source (tc : Rat) (p q : R3) :
    anyTooClose tc [p, q] = decide (dist2 p q < tc * tc) ∧
    Src.geometry.metric_power = 2 ∧ Src.geometry.refuses_strictly_below = true := by
  refine ⟨?_, by decide, by decide⟩
  simp [anyTooClose]

/-- test (boundary, at the source's default): two atoms exactly `tooclose` apart are accepted … -/
example : anyTooClose Src.from_arrays.tooclose_f64 [(0, 0, 0), (Src.from_arrays.tooclose_f64, 0, 0)] = false := by
  decide +kernel
/-- … test: and refused one part in 2^60 closer -/
example : anyTooClose Src.from_arrays.tooclose_f64
    [(0, 0, 0), (Src.from_arrays.tooclose_f64 - 1 / 1152921504606846976, 0, 0)] = true := by decide +kernel

/-- the unit spellings the model accepts (after `capitalize`) are the source's list, in its order -/
theorem units_accepted_matches_source :
    [sAngstrom, sBohr] = Src.units.accepted.map String.toList ∧
    sAngstrom = Src.units.units.toList ∧ Src.from_arrays.units = Src.units.units ∧
    Src.from_input_arrays.units = Src.units.units := by
  decide

/-- … and nothing else: a unit word outside the source's list is refused, never repaired -/
theorem units_refused_outside_source_list (a : Rat) (i : Inp)
    (h : capitalize i.units ∉ Src.units.accepted.map String.toList) :
    (validateUnits a i).toOption = none := by
  rw [← units_accepted_matches_source.1] at h
  have h1 : capitalize i.units ≠ sAngstrom := fun e => h (by simp [e])
  have h2 : capitalize i.units ≠ sBohr := fun e => h (by simp [e])
  unfold validateUnits
  cases validateConn i.conn with
  | error e => rfl
  | ok c => simp [h1, h2, Except.toOption]

/-- test (non-vacuity): `"nm"` is outside the list -/
example : capitalize "nm".toList ∉ Src.units.accepted.map String.toList := by decide

/-- the `input_units_to_au` window: with an accepted unit word and valid connectivity, a supplied factor `x` is
accepted exactly when `|x − default| < w`, `w` the source's literal (the model compares exactly, with the decimal) -/
theorem iutau_window_matches_source (a x : Rat) (i : Inp) (c : Option (List Bond))
    (hc : validateConn i.conn = .ok c) (hx : i.iutau = some x)
    (hu : capitalize i.units ∈ Src.units.accepted.map String.toList) :
    validateUnits a i =
      if absRat (x - dfltIutau a (capitalize i.units)) < Src.units.iutau_window
      then .ok { units := capitalize i.units, iutau := some x, conn := c } else .error .validation := by
  rw [← units_accepted_matches_source.1] at hu
  have hu' : capitalize i.units = sAngstrom ∨ capitalize i.units = sBohr := by simpa using hu
  have hw : Src.units.iutau_window = 1 / 20 := by decide +kernel
  unfold validateUnits
  simp [hc, hx, hu', hw]

/-- test: the edge itself (`|x − default|` equal to the source's window) is outside -/
example : absRat ((1 : Rat) + Src.units.iutau_window - dfltIutau 2 sBohr) < Src.units.iutau_window ↔ False := by
  decide +kernel

/-- `iutau = 1.0` for Bohr -/
theorem bohr_factor_matches_source (a : Rat) : dfltIutau a sBohr = Src.units.bohr_factor_f64 := by
  have : Src.units.bohr_factor_f64 = 1 := by decide +kernel
  simp [dfltIutau, this]

/-- the bond-order range `[lo, hi]` and the atom-index floor: for integer-valued atom indices the model refuses a
bond exactly when an index is below the source's floor or the order is outside the source's closed range -/
theorem bondorder_range_matches_source (a b : Int) (o : Rat) :
    normBond (.mk (some a) (some b) o) =
      if a < Src.units.at1_min ∨ b < Src.units.at2_min ∨ o < (Src.units.bondorder_min : Int) ∨ o > (Src.units.bondorder_max : Int)
      then .error .validation else .ok (min a.toNat b.toNat, max a.toNat b.toNat, o) := by
  have h1 : Src.units.at1_min = 0 := by decide
  have h2 : Src.units.at2_min = 0 := by decide
  have h3 : ((Src.units.bondorder_min : Int) : Rat) = 0 := by decide +kernel
  have h4 : ((Src.units.bondorder_max : Int) : Rat) = 5 := by decide +kernel
  rw [normBond_mk, h1, h2, h3, h4]

/-- tests: order 5 accepted, 5 + 1/2^40 refused, 0 accepted -/
example : (normBond (.mk (some 0) (some 1) (Src.units.bondorder_max : Int))).toOption = some (0, 1, 5) := by decide +kernel
example : (normBond (.mk (some 0) (some 1) ((Src.units.bondorder_max : Int) + 1 / 1099511627776))).toOption = none := by
  decide +kernel
example : (normBond (.mk (some 0) (some 1) (Src.units.bondorder_min : Int))).toOption = some (0, 1, 0) := by decide +kernel

/-- `from_schema`'s call of `from_arrays`: `units="Bohr"`, `input_units_to_au=None`, `speclabel=False`, and — because
the call passes no `tooclose=`, `mtol=`, `zero_ghost_fragments=`, `missing_enabled_return=` — `from_arrays`' defaults.
The model's `fromSchema`, on a recognised schema whose fragment pattern is contiguous, is `fromArrays` on exactly
these settings read from the source -/
theorem from_schema_call_matches_source (env : Env) (s : Schema) (cg : Contig)
    (hrec : (((startsWith (s.schemaName.getD []) "qc_schema".toList || startsWith (s.schemaName.getD []) "qcschema".toList)
              && s.schemaVersion == some 1)
            || (startsWith (s.schemaName.getD []) "qcschema_molecule".toList && s.schemaVersion == some 2)) = true)
    (hcg : contiguize (s.fragments.getD [List.range ((s.body.elem.getD []).length)]) s.body = .ok cg) :
    fromSchema env s =
      fromArrays env { s.body with
        units := Src.from_schema.call_units.toList, iutau := none, seps := some cg.seps
        minimal := false, speclabel := Src.from_schema.call_speclabel, zgf := Src.from_arrays.zero_ghost_fragments
        mtol := Src.from_arrays.mtol_f64, tooclose := Src.from_arrays.tooclose_f64 } ∧
    Src.from_schema.call_uses_defaults = true ∧ Src.from_schema.call_input_units_to_au = none := by
  have hu : Src.from_schema.call_units.toList = sBohr := by decide
  have hs : Src.from_schema.call_speclabel = false := by decide
  have hz : Src.from_arrays.zero_ghost_fragments = false := by decide
  refine ⟨?_, by decide, by decide⟩
  rw [hu, hs, hz, ← tooclose_default_matches_source.1, ← mtol_default_matches_source.1]
  unfold fromSchema
  simp only [hrec, hcg, Bool.not_true, Bool.false_eq_true, ↓reduceIte]

end QcelVerif.FromArrays
