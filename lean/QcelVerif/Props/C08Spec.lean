import QcelVerif.Props.C08
import QcelVerif.Driver.C08
import QcelVerif.Model.ToStringSrc
import QcelVerif.Gen.ToStringSpec
import QcelVerif.Gen.SrcConsts
/-!
# C08 — the templates of `Model/ToString.lean` are those of `to_string.py`

`Gen/ToStringSpec.lean` is generated by `harness/c08_spec.py` from `qcelemental/molparse/to_string.py` (read by `ast`):
per branch of the dtype chain the `umap` dictionary and how it is read, the list `smol` as a line program (literals,
holes, conditions, atom block, fragment loop, dummy card, SDF layouts), `data.fields`, `data.keywords`; the
factor-selection chain; `_atoms_formatter`'s format specs.  `Model/ToStringSrc.lean` interprets those tables
(`renderBy`).  The main statement is `render_eq_source`: the model's `render` EQUALS `renderBy` at the generated
tables, for all inputs.

The atom / ghost format literals and `default_units` come from a second generated table, `Gen/SrcConsts.lean`; they are
used here by `spelling_source` and `resolve_eq_source`.  `Props/ConstTieC08.lean` ties that same table to `formats` and
`defaultUnit` row by row, together with the override policy and the width / prec defaults.
-/
namespace QcelVerif.ToString
open QcelVerif.FixedFmt (Str)
open QcelVerif.ToString.Src

/-- the branch of the source's chain for a dtype of the model -/
def srcBranch (d : Dtype) : Option Branch := branchOf Gen.branches d

/-- position of a dtype's branch in the source's chain -/
def chainPos : Dtype → Nat
  | .xyz => 0 | .xyzp => 1 | .orca => 2 | .cfour => 3 | .molpro => 4 | .nwchem => 5 | .madness => 6 | .gamess => 7
  | .terachem => 8 | .psi4 => 9 | .turbomole => 10 | .sdf => 11 | .qchem => 12 | .mrchem => 13

/-- the chain is searched by name here, once; every statement below reads the branch by its position -/
theorem srcBranch_eq (d : Dtype) : srcBranch d = some Gen.branches[chainPos d]! := by cases d <;> decide

/-- **dtype set**: the branches of the source's `if dtype in […] / elif dtype == …` chain, in source order, are the
model's fourteen dtypes, each exactly once (so every dtype has a branch and no branch is unknown to the model); the
names are read alike by the driver's `parseDtype?` -/
theorem dtype_set_eq :
    Gen.branches.map (fun b => dtypeOfName b.name) =
      [some .xyz, some .xyzp, some .orca, some .cfour, some .molpro, some .nwchem, some .madness, some .gamess,
       some .terachem, some .psi4, some .turbomole, some .sdf, some .qchem, some .mrchem] ∧
    Gen.branches.map (fun b => parseDtype? b.name) = Gen.branches.map (fun b => dtypeOfName b.name) ∧
    (∀ d : Dtype, (srcBranch d).isSome = true) := by
  refine ⟨by decide, by decide, ?_⟩
  intro d; rw [srcBranch_eq]; rfl

/-- the branch as a total function (by `dtype_set_eq` the default is never taken) -/
def srcBranch! (d : Dtype) : Branch := (srcBranch d).getD ⟨"", [], .none, false, [], [], []⟩

theorem srcBranch!_eq (d : Dtype) : srcBranch! d = Gen.branches[chainPos d]! := by
  unfold srcBranch!; rw [srcBranch_eq]; rfl

/-- **unit announcement texts**: the model's `umap` is the source's per-branch dictionary -/
theorem umap_eq (d : Dtype) (t : TUnit) : umap d t = umapGet (srcBranch! d) t := by
  rw [srcBranch!_eq]; cases d <;> cases t <;> decide

/-- **how the unit word is obtained** (`umap.get(u, u)` / `umap.get(u)` / `umap[u]` → KeyError / SDF's fixed-unit
guard → ValueError / no slot): the model's `unitWord` is the table-driven one -/
theorem unit_word_eq (d : Dtype) (t : TUnit) : unitWord d t = unitWordBy (srcBranch! d) t := by
  rw [srcBranch!_eq]; cases d <;> cases t <;> decide

/-- **factor selection**: the model's `selectFactor` is the source's if/elif chain on
`(molrec["units"], units.capitalize())` with its five right-hand sides -/
theorem select_factor_eq (s : SUnit) (t : TUnit) (p : Bool) :
    selectFactor s t p = selectFactorBy Gen.factorRows Gen.factorElse s t p := by
  cases s <;> cases t <;> cases p <;> decide

/-- **`data.fields`**: base list of `class Data` plus the branch's `extend([...])` -/
theorem fields_eq (d : Dtype) : fieldsOf d = (Gen.baseFields ++ (srcBranch! d).fieldsExt).map lit := by
  rw [srcBranch!_eq]; cases d <;> decide

/-- **`data.keywords`**, every program, every molecule: key names, the conditions they are written under
(`multiplicity != 1`, `fix_symmetry == "c1"`), constant values (`"cartesian"`, `"prinaxis"`, `"false"`, `True`/`False`)
and which molecule datum fills each (charge, multiplicity, multiplicity − 1, unit word, fix_com, …) are the source's -/
theorem keywords_eq (d : Dtype) (m : Mol) (uw : UnitWord) (n : Nat) (atoms : List Str) :
    keywordsOf d m uw atoms = kwsBy ⟨m, uw, n, Gen.tagline, 0, 0⟩ atoms (srcBranch! d).kws := by
  rw [srcBranch!_eq]
  cases d
  case nwchem | madness => by_cases h : m.mult = 1 <;> simp [chainPos, Gen.branches, keywordsOf, kwsBy, Cond.eval, KwExpr.eval, h]
  case qchem => by_cases h : m.fixSymm = some (lit "c1") <;> simp [chainPos, Gen.branches, keywordsOf, kwsBy, Cond.eval, KwExpr.eval, h]
  all_goals rfl

/-- non-vacuity (test): an nwchem triplet gets the three multiplicity keywords of the source -/
example : (kwsBy ⟨⟨[], none, -1, 3, [], [-1], [3], false, false, none, []⟩, .word (lit "bohr"), 0, Gen.tagline, 0, 0⟩ [] (srcBranch! .nwchem).kws).map (·.1)
    = [lit "charge", lit "scf__nopen", lit "dft__mult", lit "mcscf__multiplicity"] := by decide

/-! ## the text: header, atom block, fragment loop, footer -/

/-- what a branch puts between header and footer, given the formatter's lines and the fragment loop's output -/
def bodyPure (d : Dtype) (atoms frag : List Str) : List Str :=
  match d with
  | .psi4 | .qchem => frag
  | .turbomole => atoms.map lower
  | _ => atoms

theorem sdfAtomLine_eq (gf : Str) (a : Atom) : sdfAtomLine gf a = sdfAtomLineBy Gen.sdf gf a := by
  simp [sdfAtomLine, sdfAtomLineBy, Gen.sdf, lit]

theorem sdfBondLine_eq (b : Nat × Nat × Nat) : sdfBondLine b = sdfBondLineBy Gen.sdf b := by
  simp [sdfBondLine, sdfBondLineBy, Gen.sdf, lit]

/-- **SDF layouts**: atom line (`10.4f` coordinates, `>3s` symbol, tail) and bond line are the source's (the counts
line: `layout_eq`); so is the number of decimals the driver's float check uses for this branch -/
theorem sdf_layout_eq (gf : Str) (a : Atom) (b : Nat × Nat × Nat) (prec : Nat) :
    sdfAtomLine gf a = sdfAtomLineBy Gen.sdf gf a ∧ sdfBondLine b = sdfBondLineBy Gen.sdf b ∧
    branchPrec .sdf prec = Gen.sdf.coordPrec :=
  ⟨sdfAtomLine_eq gf a, sdfBondLine_eq b, rfl⟩

section layout
-- the model's templates and the interpreter of the generated line programs, unfolded together
attribute [local simp] header footer bodyPure linesBy Item.eval segsText Seg.eval Hole.eval Cond.eval chainPos Gen.branches

/-- **header / footer / separator literals and the charge–multiplicity text slots**, every program, every molecule:
the model's `header ++ body ++ footer` is the source's line program (literal lines such as `$molecule`, `*xyz c m`,
`geometry units w`, `{orient,noorient}`, `set,charge=`, `set,spin=`, `$coord`, `$end`, `no_com`, the SDF counts and
bond layouts, the conditions they are written under, `.rstrip()`, the molpro dummy card) -/
theorem layout_eq (d : Dtype) (m : Mol) (uw : UnitWord) (atoms frag : List Str) :
    header d m uw atoms.length ++ bodyPure d atoms frag ++ footer d m uw =
      linesBy ⟨m, uw, atoms.length, Gen.tagline, 0, 0⟩ atoms frag Gen.sdf (srcBranch! d).items := by
  rw [srcBranch!_eq]
  cases d
  case turbomole => rfl
  case nwchem =>
    cases hfs : m.fixSymm with
    | none => simp [lit, hfs]
    | some s =>
      by_cases hs : s = [] <;>
        simp [lit, hfs, hs]
  case gamess =>
    by_cases h : upper (strip (m.fixSymm.getD (lit "C1"))) = lit "C1" <;>
      simp [tagline, Gen.tagline, h] <;>
      simp [lit]
  case sdf => simp [lit, Gen.sdf, funext sdfBondLine_eq]
  case molpro =>
    have hg : (m.atoms.any fun a => !a.real) = !(ghostIndices 0 m.atoms).isEmpty := by
      rw [ghostIndices_isEmpty, List.not_all_eq_any_not]
    cases hfs : m.fixSymm with
    | none =>
      by_cases hc : (m.fixOrient || m.fixCom) = true <;> by_cases hgi : (ghostIndices 0 m.atoms).isEmpty = true <;>
        simp [lit, hfs, hc, hg, hgi]
    | some s =>
      by_cases hs : s = lit "c1" <;> by_cases hc : (m.fixOrient || m.fixCom) = true <;>
        by_cases hgi : (ghostIndices 0 m.atoms).isEmpty = true <;>
        simp [hfs, hc, hg, hgi, hs] <;>
        simp [lit]
  all_goals
    simp [lit, chgMultLine, tagline, Gen.tagline, boolStr]

end layout

theorem fragLoopBy_eq (multi : Bool) : ∀ (bs : List (List Str)) (fc fm : List Int),
    fragLoopBy (lit "--") chgMultLine multi bs fc fm = fragLoop multi bs fc fm := by
  intro bs
  induction bs with
  | nil => intro fc fm; rfl
  | cons b bs ih =>
    intro fc fm
    unfold fragLoopBy fragLoop
    cases multi with
    | true =>
      simp only [if_true]
      cases fc with
      | nil => rfl
      | cons c fc' =>
        cases fm with
        | nil => rfl
        | cons mm fm' => simp only [ih]; cases fragLoop true bs fc' fm' <;> rfl
    | false => simp only [Bool.false_eq_true, if_false, ih]; cases fragLoop false bs fc.tail fm.tail <;> rfl

/-- **fragment separators and per-fragment charge/multiplicity lines** (psi4, qchem): the separator literal `--`, the
`"{charge} {multiplicity}"` header of every block and the `np.split` loop are the source's; every other program has no
fragment loop -/
theorem frag_eq (d : Dtype) (m : Mol) (n : Nat) (atoms : List Str) :
    bodyOf d atoms m = (fragOf ⟨m, .silent, n, Gen.tagline, 0, 0⟩ atoms (srcBranch! d).items).map (bodyPure d atoms) := by
  have hh : (fun (c mm : Int) => segsText { m := m, uw := UnitWord.silent, n := n, tag := Gen.tagline, fc := c, fm := mm }
      [.hole .fragChg, .lit " ", .hole .fragMult]) = chgMultLine := by
    funext c mm; simp [segsText, Seg.eval, Hole.eval, chgMultLine, lit]
  rw [srcBranch!_eq]
  cases d
  case psi4 | qchem =>
    simp only [bodyOf, fragBlocks, chainPos, Gen.branches]
    simp only [List.getElem!_cons_succ, List.getElem!_cons_zero, fragOf, hh, fragLoopBy_eq, bodyPure, Except.map]
    generalize fragLoop _ _ _ _ = x; cases x <;> rfl
  all_goals rfl

theorem atomBlock_eq (o : Opts) (m : Mol) : atomBlock o m = atomBlockBy Gen.sdf o m := by
  have : ∀ gf, sdfAtomLine gf = sdfAtomLineBy Gen.sdf gf := fun gf => funext (sdfAtomLine_eq gf)
  unfold atomBlock atomBlockBy
  cases hd : o.dtype <;> first | rfl | simp [this]

/-- **the model is the table-driven renderer at the tables read from the source**: for every option set and every
molecule (no size bound), text lines, `fields`, `keywords` and the error outcome of the hand model `render` equal those
of `renderBy` interpreting the line programs, `umap`s, keyword lists and SDF layouts generated from `to_string.py` -/
theorem render_eq_source (o : Opts) (m : Mol) :
    render o m = renderBy Gen.branches Gen.sdf Gen.tagline Gen.baseFields o m := by
  have hb : branchOf Gen.branches o.dtype = some (srcBranch! o.dtype) := by
    rw [srcBranch!_eq]; exact srcBranch_eq o.dtype
  unfold render renderBy
  rw [hb, ← atomBlock_eq]
  cases ha : atomBlock o m with
  | error e => rfl
  | ok atoms =>
    simp only [bind, Except.bind]
    rw [frag_eq o.dtype m atoms.length atoms]
    cases hf : fragOf ⟨m, .silent, atoms.length, Gen.tagline, 0, 0⟩ atoms (srcBranch! o.dtype).items with
    | error e => rfl
    | ok frag =>
      simp only [Except.map]
      rw [unit_word_eq]
      cases hu : unitWordBy (srcBranch! o.dtype) (resolve o.dtype o.req) with
      | error e => rfl
      | ok uw =>
        simp only [pure, Except.pure]
        rw [layout_eq, fields_eq, keywords_eq o.dtype m uw atoms.length atoms]

/-- non-vacuity (test): the table-driven renderer on the two-fragment psi4 example of Props/C08.lean -/
example : (renderBy Gen.branches Gen.sdf Gen.tagline Gen.baseFields exOpts exMol).map (·.lines) = .ok
    (["1 2", "--", "1 1", "H      1    2    3", "--", "0 2", "Gh(Hex)    4    5    6", "units bohr", "no_com"].map String.toList) := by
  decide

/-! ## where charge and multiplicity are stated -/

/-- **charge / multiplicity slots**, read off the generated tables: for every program the text positions (with the
literal just before the value) and the keyword names (with their condition) that carry the total charge, the
multiplicity or multiplicity − 1 — exactly the slots `chgmult_stated` proves correct; terachem, turbomole and
nglview-sdf have none, madness has no multiplicity value -/
theorem chgmult_slots_eq :
    Gen.branches.map (fun b => (b.name, b.slots)) =
      [("xyz", [.text "" .chgInt, .text " " .mult]),
       ("xyz+", [.text "" .chgInt, .text " " .mult]),
       ("orca", [.text "*xyz " .chgInt, .text " " .mult]),
       ("cfour", [.kw "charge" .always .chgInt, .kw "multiplicity" .always .mult]),
       ("molpro", [.text "set,charge=" .chgFloat, .text "set,spin=" .multM1]),
       ("nwchem", [.kw "charge" .always .chgInt, .kw "scf__nopen" (.multNe 1) .multM1, .kw "dft__mult" (.multNe 1) .mult,
                   .kw "mcscf__multiplicity" (.multNe 1) .mult]),
       ("madness", [.kw "charge" .always .chgInt]),
       ("gamess", [.kw "contrl__icharg" .always .chgInt, .kw "contrl__mult" .always .mult]),
       ("terachem", []),
       ("psi4", [.text "" .chgInt, .text " " .mult]),
       ("turbomole", []),
       ("nglview-sdf", []),
       ("qchem", [.text "" .chgInt, .text " " .mult]),
       ("mrchem", [.text "charge = " .chgInt, .text "multiplicity = " .mult, .kw "charge" .always .chgInt,
                   .kw "multiplicity" .always .mult])] := by
  decide

/-! ## `_atoms_formatter`'s format specs -/

/-- Python's padding for a parsed spec: `>` right-aligns, `<` left-aligns; without an alignment character numbers
(a presentation type is given) go right and strings left -/
def padBy (spec : String) (w : Nat) (s : Str) : Str :=
  match parseSpec spec with
  | some ⟨.right, _, _, _⟩ => padLeft w s
  | some ⟨.left, _, _, _⟩ => padRight w s
  | some ⟨.dflt, _, _, ty⟩ => if ty.isSome then padLeft w s else padRight w s
  | none => s

/-- **format specs**: the coordinate spec is `{:>{width}.{prec}f}` (right-aligned in `width`, `prec` decimals, fixed
notation — the `prec` the driver's `isFixedRounding` check is run with), the label spec `{:{width}}`, the separator
`{:{sp}}`; `atominfo` offers exactly the five fields `fieldValue` knows; lines are joined and terminated by a newline -/
theorem coord_format_spec_eq :
    parseSpec Gen.fxyz = some ⟨.right, "width", some "prec", some 'f'⟩ ∧
    parseSpec Gen.nucSpec = some ⟨.dflt, "width", none, none⟩ ∧
    parseSpec Gen.spSpec = some ⟨.dflt, "sp", none, none⟩ ∧
    Gen.atominfo = ["elea", "elez", "elem", "mass", "elbl"] ∧
    (∀ a : Atom, ∀ f ∈ Gen.atominfo, (fieldValue a (lit f)).isSome = true) ∧
    lit Gen.joinSep = ['\n'] ∧ lit Gen.joinEnd = ['\n'] := by
  refine ⟨by decide, by decide, by decide, by decide, ?_, by decide, by decide⟩
  intro a f hf
  simp [Gen.atominfo] at hf
  rcases hf with rfl | rfl | rfl | rfl | rfl <;> simp [fieldValue, lit]

/-- **the atom line follows those specs**: label padded by the label spec, each coordinate by the coordinate spec,
joined by the separator spec applied to `""` with `sp = 2` (what every branch passes); `xyze` moves the right-stripped
label to the end -/
theorem atomLine_follows_specs (w : Nat) (nuc : Str) (xyz : List Str) :
    atomLine w false nuc xyz = joinWith (padBy Gen.spSpec 2 []) (padBy Gen.nucSpec w nuc :: xyz.map (padBy Gen.fxyz w)) ∧
    atomLine w true nuc xyz = joinWith (padBy Gen.spSpec 2 []) (xyz.map (padBy Gen.fxyz w) ++ [rstrip (padBy Gen.nucSpec w nuc)]) := by
  obtain ⟨e1, e2, e3, _⟩ := coord_format_spec_eq
  have h1 : padBy Gen.fxyz w = padLeft w := by funext s; simp [padBy, e1]
  have h2 : padBy Gen.nucSpec w nuc = padRight w nuc := by simp [padBy, e2]
  have h3 : padBy Gen.spSpec 2 [] = sp2 := by simp [padBy, e3, padRight, sp2]
  rw [h1, h2, h3]
  simp [atomLine]

/-! ## spellings, over the generated format table -/

/-- the atom / ghost format literal of the source's branch for `d` (`Gen/SrcConsts.lean`, table `to_string.formats`:
name, atom kind, atom text, ghost kind, ghost text, xyze, uses-formatter) -/
def srcAf (d : Dtype) : Str :=
  ((QcelVerif.Src.to_string.formats.find? (fun r => dtypeOfName r.1 == some d)).map (fun r => lit r.2.2.1)).getD []
def srcGf (d : Dtype) : Str :=
  ((QcelVerif.Src.to_string.formats.find? (fun r => dtypeOfName r.1 == some d)).map (fun r => lit r.2.2.2.2.1)).getD []

/-- **spellings restated over the format strings read from the source**: for every program that formats through
`_atoms_formatter` and every atom, substituting the atom's fields into the SOURCE's atom / ghost format literal gives the
program's spelling `spell` (E / Gh(E+lbl), E / @E, E / E:, bqE+lbl, ' E -Z', XE, GH ...; xyz/xyz+: the defaults) -/
theorem spelling_source (d : Dtype) (a : Atom) (hd : d ≠ .sdf) :
    atomLabel (srcAf d) (srcGf d) a = .ok (some (spell d a)) := by
  have h : srcAf d = (formats ⟨d, .dflt, none, none, 17, .bohr, false⟩).1 ∧
      srcGf d = (formats ⟨d, .dflt, none, none, 17, .bohr, false⟩).2.1 := by
    cases d <;> first | decide | exact absurd rfl hd
  rw [h.1, h.2]
  exact spelling ⟨d, .dflt, none, none, 17, .bohr, false⟩ a hd (fun _ => ⟨rfl, rfl⟩)

/-- non-vacuity (test): a labelled ghost helium under the source's psi4 formats -/
example : atomLabel (srcAf .psi4) (srcGf .psi4) ⟨-1, 2, ['H', 'e'], [], ['x'], false, []⟩ = .ok (some (lit "Gh(Hex)")) := by decide

/-! ## the caller's raw `dtype` / `units` strings (what the driver is handed) -/

/-- **raw `units=` strings**: when the model accepts a caller's string as a Bohr / Angstrom request, the two readings
the source makes of it — `units.capitalize()` in the factor chain, `units.lower()` as `umap` key — are those of the
unit the model continues with; `nm` / `pm` are accepted only as written (they are handed on to `conversion_factor`) -/
theorem raw_request_sound (u : Str) (r : Req) (h : reqOfRaw u = some r) :
    (r = .bohr → capitalize u = lit "Bohr" ∧ lower u = unitLower .bohr) ∧
    (r = .angstrom → capitalize u = lit "Angstrom" ∧ lower u = unitLower .angstrom) ∧
    (r = .nm → u = lit "nm") ∧ (r = .pm → u = lit "pm") ∧ r ≠ .dflt := by
  unfold reqOfRaw at h
  split at h
  · split at h <;> simp at h; subst h; simp_all [unitLower]
  · split at h
    · split at h <;> simp at h; subst h; simp_all [unitLower]
    · split at h
      · simp at h; subst h; simp_all
      · split at h <;> simp at h; subst h; simp_all

/-- test: the accepted spellings, and two the model refuses (`NM`, `au`) -/
example : [lit "Bohr", lit "BOHR", lit "bohr", lit "Angstrom", lit "ANGSTROM", lit "angstrom", lit "nm", lit "pm", lit "NM", lit "au"].map reqOfRaw
    = [some .bohr, some .bohr, some .bohr, some .angstrom, some .angstrom, some .angstrom, some .nm, some .pm, none, none] := by decide
/-- test: `dtype.lower()` -/
example : [lit "XYZ+", lit "Psi4", lit "NGLVIEW-SDF", lit "psi5"].map dtypeOfRaw = [some .xyzp, some .psi4, some .sdf, none] := by decide

/-! ## the `Molecule.to_string` route -/

/-- **`Molecule.to_string` is `to_string` on the molecule's own record**: it declares the same arguments with the same
defaults as `molparse.to_string` (after `self` / `molrec`), builds `from_schema(self.dict(), nonphysical=True)` — what
the harness hands the model on this route — and forwards every option unchanged, by name -/
theorem molecule_route_eq :
    Gen.molDefaults = Gen.fnDefaults ∧ Gen.molForward = Gen.fnDefaults.map (fun p => (p.1, p.1)) ∧
    Gen.molRec = "from_schema(self.dict(), nonphysical=True)" ∧
    Gen.fnDefaults.map (·.1) = ["dtype", "units", "atom_format", "ghost_format", "width", "prec", "return_data"] := by
  decide

/-! ## the unit decision, over the generated tables -/

def unitOfLower (s : Str) : Option TUnit :=
  if s = lit "bohr" then some .bohr else if s = lit "angstrom" then some .angstrom
  else if s = lit "nm" then some .nm else if s = lit "pm" then some .pm else none

/-- `default_units[dtype]` of the source (`Gen/SrcConsts.lean`), as a unit of the model -/
def defaultUnitSrc (d : Dtype) : Option TUnit :=
  (QcelVerif.Src.to_string.default_units.find? (fun p => dtypeOfName p.1 == some d)).bind fun p => unitOfLower (lower p.2.toList)

/-- `units = default_units[dtype] if units is None else units` -/
def resolveSrc (d : Dtype) : Req → Option TUnit
  | .dflt => defaultUnitSrc d
  | .bohr => some .bohr
  | .angstrom => some .angstrom
  | .nm => some .nm
  | .pm => some .pm

theorem resolve_eq_source (d : Dtype) (r : Req) : resolveSrc d r = some (resolve d r) := by
  cases d <;> cases r <;> decide

/-- one row of the decision table computed from the generated tables only: default unit (`default_units`), unit word
(`umap` + access), factor (the if/elif chain); the reading of the word is each program's own vocabulary `readWord` -/
def outcomeSrc (d : Dtype) (s : SUnit) (r : Req) (p : Bool) : Except Err (Factor × Announce) :=
  match resolveSrc d r with
  | none => .error .keyError
  | some t => (unitWordBy (srcBranch! d) t).map fun uw => (selectFactorBy Gen.factorRows Gen.factorElse s t p, readWord d uw)

theorem outcome_eq_source (d : Dtype) (s : SUnit) (r : Req) (p : Bool) : outcome d s r p = outcomeSrc d s r p := by
  unfold outcome outcomeSrc
  rw [resolve_eq_source, unit_word_eq]
  simp only [select_factor_eq]

/-- **announced unit = unit used, over the tables read from the source**: in every one of the 14 × 2 × 5 × 2 rows,
whenever the unit word the SOURCE's branch writes (its `umap`, read the way the branch reads it, for the unit the
source's `default_units` / the caller selects) is one the target program reads as unit `u`, the factor the SOURCE's
if/elif chain selects is the one converting stored → `u` -/
theorem announced_unit_is_used_source (d : Dtype) (s : SUnit) (r : Req) (p : Bool) (f : Factor) (u : TUnit)
    (h : outcomeSrc d s r p = .ok (f, .unit u)) : f = idealFactor s u p :=
  announced_unit_is_used d s r p f u (by rw [outcome_eq_source]; exact h)

/-- non-vacuity: nwchem in picometers from pinned Angstrom storage, computed from the generated tables -/
example : outcomeSrc .nwchem .angstrom .pm true = .ok (.conv .angstrom .pm, .unit .pm) := by decide

/-- the refusing rows, over the generated tables -/
theorem unit_error_rows_source (d : Dtype) (s : SUnit) (r : Req) (p : Bool) (e : Err) :
    outcomeSrc d s r p = .error e ↔ refuses d r = some e := by
  rw [← outcome_eq_source]; exact unit_error_rows d s r p e

end QcelVerif.ToString
