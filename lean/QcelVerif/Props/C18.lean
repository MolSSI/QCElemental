import QcelVerif.Lemmas.Measure
import Mathlib.Tactic.NormNum
import Mathlib.Tactic.FieldSimp
/-!
# C18 — distances, angles, dihedrals and guessed bonds depend only on shape: property theorems

Model: `Model/Measure.lean`.  All theorems hold over every commutative ring / field / ordered
field `K` (so over ℝ, and over ℚ where the driver executes the model) and for every input — no
bound on coordinates or on the number of atoms.

What is proved here is about the exact *arguments* of the final transcendental step
(`sqrt`, `arccos`, `arctan2`); that step itself is taken over ℝ in `Props/C18Real.lean` (ranges,
invariance, reflection, reversal, textbook forms) and `Props/C18Euclid.lean`; libm / IEEE rounding of
it is run-time and checked differentially (`harness/c18.py`).  The code-shaped functions `dihedralXY` / `angleCos` take the run-time norm
as a parameter `n` with `n * n = |·|²`.
-/
set_option linter.unusedSectionVars false
namespace QcelVerif.Measure
open V3

/-! ## rigid motions exist in exact rational arithmetic (used by the correspondence) -/
section field
variable {K : Type} [Field K]

/-- `U(q)/|q|²` is a proper rotation for every non-null quaternion -/
theorem quatRot_isRotation (a b c d : K) (h : a * a + b * b + c * c + d * d ≠ 0) :
    (quatRot a b c d).IsRotation := by
  -- `t` stands for `1/|q|²`: off-diagonal entries vanish identically, the others are `1` up to a multiple of `|q|² t - 1`
  have ht := mul_inv_cancel₀ h
  refine ⟨?_, ?_⟩
  · unfold M3.IsOrthogonal
    ext <;> simp only [quatRot, M3.mul, M3.transpose, M3.one, div_eq_mul_inv] <;>
      generalize (a * a + b * b + c * c + d * d)⁻¹ = t at ht ⊢ <;>
      first | ring1 | linear_combination (t * (a * a + b * b + c * c + d * d) + 1) * ht
  · simp only [quatRot, M3.det, M3.row1, M3.row2, M3.row3, V3.dot, V3.cross, div_eq_mul_inv]
    generalize (a * a + b * b + c * c + d * d)⁻¹ = t at ht ⊢
    linear_combination ((t * (a * a + b * b + c * c + d * d)) ^ 2 + t * (a * a + b * b + c * c + d * d) + 1) * ht

/-- a Householder matrix is orthogonal with determinant −1 -/
theorem householder_isReflection (h : V3 K) (h0 : nsq h ≠ 0) : (householder h).IsReflection := by
  have ht : (h.x * h.x + h.y * h.y + h.z * h.z) * (h.x * h.x + h.y * h.y + h.z * h.z)⁻¹ = 1 := mul_inv_cancel₀ h0
  refine ⟨?_, ?_⟩
  · unfold M3.IsOrthogonal
    ext <;> simp only [householder, M3.mul, M3.transpose, M3.one, V3.nsq, V3.dot, div_eq_mul_inv] <;>
      generalize (h.x * h.x + h.y * h.y + h.z * h.z)⁻¹ = t at ht ⊢
    · linear_combination (4 * t * h.x * h.x) * ht
    · linear_combination (4 * t * h.x * h.y) * ht
    · linear_combination (4 * t * h.x * h.z) * ht
    · linear_combination (4 * t * h.y * h.x) * ht
    · linear_combination (4 * t * h.y * h.y) * ht
    · linear_combination (4 * t * h.y * h.z) * ht
    · linear_combination (4 * t * h.z * h.x) * ht
    · linear_combination (4 * t * h.z * h.y) * ht
    · linear_combination (4 * t * h.z * h.z) * ht
  · simp only [householder, M3.det, M3.row1, M3.row2, M3.row3, V3.dot, V3.cross, V3.nsq, div_eq_mul_inv]
    generalize (h.x * h.x + h.y * h.y + h.z * h.z)⁻¹ = t at ht ⊢
    linear_combination (-2 : K) * ht

end field

/-! ## invariance of the arguments (`dist_rigid_invariant`, for the squared distance, is stated in `Lemmas/Measure.lean`) -/
section ring
variable {K : Type} [CommRing K]

/-- the pair feeding `arccos` is unchanged -/
theorem angle_args_rigid_invariant (T : Motion K) (h : T.R.IsOrthogonal) (p1 p2 p3 : V3 K) :
    angleArgs (T.apply p1) (T.apply p2) (T.apply p3) = angleArgs p1 p2 p3 := by
  unfold angleArgs
  simp only [apply_sub, V3.nsq, dot_mulVec h]

/-- the sqrt-free dihedral arguments: `XN`, `N` unchanged, `Y ↦ det R · Y` -/
theorem dihedral_args_motion (T : Motion K) (h : T.R.IsOrthogonal) (p1 p2 p3 p4 : V3 K) :
    dihedralArgs (T.apply p1) (T.apply p2) (T.apply p3) (T.apply p4)
      = ((dihedralArgs p1 p2 p3 p4).1, T.R.det * (dihedralArgs p1 p2 p3 p4).2.1,
         (dihedralArgs p1 p2 p3 p4).2.2) := by
  unfold dihedralArgs
  simp only [apply_sub, ← mulVec_smul, dot_mulVec h, triple_mulVec, V3.nsq]

end ring

section field
variable {K : Type} [Field K]

/-- `compute_dihedral`'s `(x, y)` as coded is unchanged by proper rotations and translations;
the norm of the central bond is unchanged as well, so the same run-time `n` serves both sides. -/
theorem dihedral_xy_rigid_invariant (T : Motion K) (h : T.R.IsRotation) (n : K)
    (p1 p2 p3 p4 : V3 K) :
    dihedralXY n (T.apply p1) (T.apply p2) (T.apply p3) (T.apply p4) = dihedralXY n p1 p2 p3 p4 ∧
    nsq (T.apply p3 - T.apply p2) = nsq (p3 - p2) := by
  refine ⟨?_, dist_rigid_invariant T h.1 p3 p2⟩
  rw [dihedralXY_motion h.1, h.2, one_mul]

/-- under an improper orthogonal map `x` is unchanged and `y` changes sign
(so `arctan2(y, x)` changes sign) -/
theorem dihedral_xy_reflection (T : Motion K) (h : T.R.IsReflection) (n : K)
    (p1 p2 p3 p4 : V3 K) :
    dihedralXY n (T.apply p1) (T.apply p2) (T.apply p3) (T.apply p4)
      = ((dihedralXY n p1 p2 p3 p4).1, -(dihedralXY n p1 p2 p3 p4).2) := by
  rw [dihedralXY_motion h.1, h.2, neg_one_mul]

/-- the coded `(x, y)` in terms of the sqrt-free arguments: `x = XN / N`, `y = Y / n` -/
theorem dihedralXY_eq_args (n : K) (p1 p2 p3 p4 : V3 K)
    (hn : n * n = nsq (p3 - p2)) (h0 : n ≠ 0) :
    dihedralXY n p1 p2 p3 p4 =
      ((dihedralArgs p1 p2 p3 p4).1 / (dihedralArgs p1 p2 p3 p4).2.2,
       (dihedralArgs p1 p2 p3 p4).2.1 / n) := by
  rw [dihedralXY_eq_gen]
  exact dihedralXYGen_eq_args _ n p1 p2 p3 p4 hn h0

/-- whatever multiple `c` of the unit central vector is removed from `v1` — the code removes
`(v1·v1)`, the textbook `(v1·v̂2)` — the result is the same, *provided* `n` really is the norm. -/
theorem dihedral_projection_irrelevant (c n : K) (p1 p2 p3 p4 : V3 K)
    (hn : n * n = nsq (p3 - p2)) (h0 : n ≠ 0) :
    dihedralXYGen c n p1 p2 p3 p4 = dihedralXY n p1 p2 p3 p4 ∧
    dihedralXYTextbook n p1 p2 p3 p4 = dihedralXY n p1 p2 p3 p4 := by
  refine ⟨?_, ?_⟩
  · rw [dihedralXY_eq_args n p1 p2 p3 p4 hn h0, dihedralXYGen_eq_args c n p1 p2 p3 p4 hn h0]
  · rw [dihedralXYTextbook_eq_gen, dihedralXY_eq_args n p1 p2 p3 p4 hn h0,
      dihedralXYGen_eq_args _ n p1 p2 p3 p4 hn h0]

/-- listing the four points backwards gives the same `(x, y)` -/
theorem dihedral_xy_reversal (n : K) (p1 p2 p3 p4 : V3 K)
    (hn : n * n = nsq (p3 - p2)) (h0 : n ≠ 0) :
    dihedralXY n p4 p3 p2 p1 = dihedralXY n p1 p2 p3 p4 := by
  have hn' : n * n = nsq (p2 - p3) := hn.trans (distSq_comm p3 p2)
  rw [dihedralXY_eq_args n p4 p3 p2 p1 hn' h0, dihedralXY_eq_args n p1 p2 p3 p4 hn h0,
    dihedralArgs_reversal]

/-- the same with the degenerate central bond (`n = 0`, where `1 / n = 0`) included -/
theorem dihedralXY_reversal (n : K) (p1 p2 p3 p4 : V3 K) (hn : n * n = nsq (p3 - p2)) :
    dihedralXY n p4 p3 p2 p1 = dihedralXY n p1 p2 p3 p4 := by
  by_cases h0 : n = 0
  · subst h0
    unfold dihedralXY
    -- `v̂2 = (1 / 0) • v2` vanishes: `y` is `0` on both sides, `x` is `v1·v3`
    refine Prod.ext ?_ ?_ <;> v3_unfold <;>
      simp only [div_zero, zero_mul, mul_zero, sub_zero, sub_self, add_zero]
    ring
  · exact dihedral_xy_reversal n p1 p2 p3 p4 hn h0

/-- agreement with the textbook (IUPAC) definition: with `b1 = p2−p1`, `b2 = p3−p2`, `b3 = p4−p3`
`N·x = (b1×b2)·(b2×b3)` and `N·y = |b2|·(b1·(b2×b3))`, `N = |b2|² ≠ 0`. -/
theorem dihedral_textbook (n : K) (p1 p2 p3 p4 : V3 K)
    (hn : n * n = nsq (p3 - p2)) (h0 : n ≠ 0) :
    nsq (p3 - p2) * (dihedralXY n p1 p2 p3 p4).1
        = dot (cross (p2 - p1) (p3 - p2)) (cross (p3 - p2) (p4 - p3)) ∧
    nsq (p3 - p2) * (dihedralXY n p1 p2 p3 p4).2
        = n * dot (p2 - p1) (cross (p3 - p2) (p4 - p3)) := by
  obtain ⟨t1, t2, t3⟩ := dihedralArgs_textbook p1 p2 p3 p4
  rw [dihedralXY_eq_args n p1 p2 p3 p4 hn h0, ← t1, ← t2]
  have hN : (dihedralArgs p1 p2 p3 p4).2.2 ≠ 0 := by
    rw [t3, ← hn]; exact mul_ne_zero h0 h0
  refine ⟨?_, ?_⟩
  · simp only
    rw [← t3]
    field_simp
  · simp only
    rw [← hn]
    field_simp

end field

/-! ## distance, angle: ranges and textbook form -/
section ordered
variable {K : Type} [Field K] [LinearOrder K] [IsStrictOrderedRing K]

/-- `d² ≥ 0`, `d² = 0` iff the points coincide, `d²` is symmetric -/
theorem distSq_nonneg_zero (p q : V3 K) :
    0 ≤ distSq p q ∧ (distSq p q = 0 ↔ p = q) ∧ distSq p q = distSq q p :=
  ⟨nsq_nonneg _, nsq_sub_eq_zero, distSq_comm p q⟩

/-- ties the squared test of the model to the `sqrt` test of the code -/
theorem sqrt_lt_iff (s d2 c : K) (hs : 0 ≤ s) (h : s * s = d2) :
    s < c ↔ 0 < c ∧ d2 < c * c := by
  subst h
  exact ⟨fun hc => ⟨hs.trans_lt hc, mul_self_lt_mul_self hs hc⟩, fun ⟨hc, hlt⟩ => lt_of_mul_self_lt_mul_self₀ hc.le hlt⟩

/-- with `n12`, `n23` the (positive) norms: the clip is inactive, the value is the cosine of the
*exterior* angle, its negative is the textbook cosine at the vertex `p2`, and it lies in `[−1, 1]`
(so `π − arccos(·) = arccos(−·) ∈ [0, π]` is the textbook angle). -/
theorem angle_textbook (n12 n23 : K) (p1 p2 p3 : V3 K) (h12 : 0 < n12) (h23 : 0 < n23)
    (e12 : n12 * n12 = nsq (p1 - p2)) (e23 : n23 * n23 = nsq (p2 - p3)) :
    angleCos n12 n23 p1 p2 p3 = dot (p1 - p2) (p2 - p3) / (n12 * n23) ∧
    -(angleCos n12 n23 p1 p2 p3) = dot (p1 - p2) (p3 - p2) / (n12 * n23) ∧
    -1 ≤ angleCos n12 n23 p1 p2 p3 ∧ angleCos n12 n23 p1 p2 p3 ≤ 1 := by
  have hD : 0 < n12 * n23 := mul_pos h12 h23
  have hcs := cauchy_schwarz (p1 - p2) (p2 - p3)
  rw [← e12, ← e23] at hcs
  rw [mul_mul_mul_comm] at hcs
  obtain ⟨h2, h1⟩ := abs_le.mp ((abs_le_iff_mul_self_le.mpr hcs).trans_eq (abs_of_pos hD))
  have hle : dot (p1 - p2) (p2 - p3) / (n12 * n23) ≤ 1 := (div_le_one hD).mpr h1
  have hge : -1 ≤ dot (p1 - p2) (p2 - p3) / (n12 * n23) := by
    rw [le_div_iff₀ hD]
    linarith
  have hval : angleCos n12 n23 p1 p2 p3 = dot (p1 - p2) (p2 - p3) / (n12 * n23) := by
    unfold angleCos clip
    simp only
    rw [max_eq_left hge, min_eq_left hle]
  refine ⟨hval, ?_, ?_, ?_⟩
  · rw [hval, ← neg_div]
    congr 1
    v3_unfold
    ring
  · rw [hval]; exact hge
  · rw [hval]; exact hle

/-- `cosine_angle = dot / √nn`: it is determined by the model's pair `(dot, nn)` -/
theorem angleCos_from_args (n12 n23 : K) (p1 p2 p3 : V3 K) (h12 : 0 < n12) (h23 : 0 < n23)
    (e12 : n12 * n12 = nsq (p1 - p2)) (e23 : n23 * n23 = nsq (p2 - p3)) :
    angleCos n12 n23 p1 p2 p3 * (n12 * n23) = (angleArgs p1 p2 p3).1 ∧
    (n12 * n23) * (n12 * n23) = (angleArgs p1 p2 p3).2 ∧ 0 < n12 * n23 := by
  have hD : 0 < n12 * n23 := mul_pos h12 h23
  obtain ⟨hval, -, -, -⟩ := angle_textbook n12 n23 p1 p2 p3 h12 h23 e12 e23
  refine ⟨?_, ?_, hD⟩
  · rw [hval]
    unfold angleArgs
    simp only
    field_simp
  · unfold angleArgs
    simp only
    rw [← e12, ← e23]
    ring

/-! ## guessed connectivity -/

/-- **exactness**: `(i, j)` is listed iff `i < j`, both atoms exist, and
`d² < ((rᵢ + rⱼ)·thr)²` with a positive cutoff (i.e. `d < (rᵢ + rⱼ)·thr`, see `sqrt_lt_iff`). -/
theorem connectivity_exact (thr : K) (atoms : List (Atom K)) (i j : Nat) :
    (i, j) ∈ guessConnectivity thr atoms ↔
      i < j ∧ ∃ a b, atoms[i]? = some a ∧ atoms[j]? = some b ∧
        0 < (a.r + b.r) * thr ∧
        distSq a.p b.p < ((a.r + b.r) * thr) * ((a.r + b.r) * thr) := by
  simp only [guessConnectivity, mem_connFrom, List.mk_mem_zipIdx_iff_getElem?, bonded_iff]

/-- the same when the two atoms are known -/
theorem mem_guessConnectivity {thr : K} {atoms : List (Atom K)} {i j : Nat} {a b : Atom K}
    (ha : atoms[i]? = some a) (hb : atoms[j]? = some b) :
    (i, j) ∈ guessConnectivity thr atoms ↔ i < j ∧ bonded thr a b = true := by
  simp only [guessConnectivity, mem_connFrom, List.mk_mem_zipIdx_iff_getElem?, ha, hb, Option.some.injEq,
    exists_and_left, exists_eq_left']

/-- the list is strictly increasing lexicographically: no duplicates, and (with
`connectivity_exact`) completely determined by the criterion -/
theorem connectivity_sorted (thr : K) (atoms : List (Atom K)) :
    (guessConnectivity thr atoms).Pairwise lexLt := connFrom_sorted thr atoms 0

/-- unchanged by every orthogonal motion of the geometry (proper or improper) -/
theorem connectivity_rigid_invariant (T : Motion K) (h : T.R.IsOrthogonal) (thr : K)
    (atoms : List (Atom K)) :
    guessConnectivity thr (atoms.map (Atom.move T)) = guessConnectivity thr atoms :=
  connFrom_move h thr atoms 0

/-- relabelling: if `atoms'` carries atom `k` of `atoms` at position `σ k` (σ injective on the
index range) then bonds correspond, re-sorted within the pair. Together with
`connectivity_sorted` this is `guess (σ·mol) = sort (σ (guess mol))`. -/
theorem connectivity_relabel (thr : K) (atoms atoms' : List (Atom K)) (σ : Nat → Nat)
    (hσ : ∀ k a, atoms[k]? = some a → atoms'[σ k]? = some a)
    (hinj : ∀ i j, i < atoms.length → j < atoms.length → σ i = σ j → i = j)
    (i j : Nat) (hij : i < j) (hj : j < atoms.length) :
    (i, j) ∈ guessConnectivity thr atoms ↔
      (min (σ i) (σ j), max (σ i) (σ j)) ∈ guessConnectivity thr atoms' := by
  have hi : i < atoms.length := by omega
  have hne : σ i ≠ σ j := fun e => by have := hinj i j hi hj e; omega
  have hai : atoms[i]? = some atoms[i] := List.getElem?_eq_getElem hi
  have haj : atoms[j]? = some atoms[j] := List.getElem?_eq_getElem hj
  have hsi := hσ i _ hai
  have hsj := hσ j _ haj
  rw [mem_guessConnectivity hai haj]
  rcases Nat.lt_or_gt_of_ne hne with hlt | hgt
  · rw [min_eq_left hlt.le, max_eq_right hlt.le, mem_guessConnectivity hsi hsj]
    exact and_congr_left' (iff_of_true hij hlt)
  · rw [min_eq_right hgt.le, max_eq_left hgt.le, mem_guessConnectivity hsj hsi, bonded_symm]
    exact and_congr_left' (iff_of_true hij hgt)

end ordered

/-! ## agreement of the row-wise, matrix and index-based forms -/
section ring
variable {K : Type} [CommRing K]

theorem pyIndex_nat (coords : List (V3 K)) (i : Nat) (p : V3 K) (h : coords[i]? = some p) :
    pyIndex coords (i : Int) = .ok p := by
  unfold pyIndex
  simp [h]

/-- row `i` of the batched `compute_distance` and entry `(i, i)` of `distance_matrix` both give
`distSq` of the same two points (the index-based form: `forms_agree_measure`) -/
theorem forms_agree_distance (a b : List (V3 K)) (hl : a.length = b.length) (i : Nat) (p q : V3 K)
    (ha : a[i]? = some p) (hb : b[i]? = some q) :
    computeDistanceSq a b = .ok (List.zipWith distSq a b) ∧
    (List.zipWith distSq a b)[i]? = some (distSq p q) ∧
    ((distanceMatrixSq a b)[i]?.bind (·[i]?)) = some (distSq p q) := by
  refine ⟨?_, ?_, ?_⟩
  · unfold computeDistanceSq bcast
    simp [hl]
    rfl
  · simp [List.getElem?_zipWith, ha, hb]
  · unfold distanceMatrixSq
    simp [List.getElem?_map, ha, hb]

/-- the index-based form on valid indices is the row-wise form on the picked points -/
theorem forms_agree_measure (coords : List (V3 K)) (i j k l : Nat) (p q r s : V3 K)
    (hi : coords[i]? = some p) (hj : coords[j]? = some q) (hk : coords[k]? = some r)
    (hl : coords[l]? = some s) :
    measureOne coords [(i : Int), j] = .ok (.dist (distSq p q)) ∧
    measureOne coords [(i : Int), j, k]
      = .ok (.angle (angleArgs p q r).1 (angleArgs p q r).2) ∧
    measureOne coords [(i : Int), j, k, l]
      = .ok (.dihedral (dihedralArgs p q r s).1 (dihedralArgs p q r s).2.1
          (dihedralArgs p q r s).2.2) := by
  have li := (List.getElem_of_getElem? hi).1
  have lj := (List.getElem_of_getElem? hj).1
  have lk := (List.getElem_of_getElem? hk).1
  have ll := (List.getElem_of_getElem? hl).1
  refine ⟨?_, ?_, ?_⟩ <;>
  · unfold measureOne
    simp only [List.any_cons, List.any_nil, Bool.or_false, Bool.or_eq_true, decide_eq_true_eq,
      Int.ofNat_le]
    rw [if_neg (by omega)]
    simp only [pyIndex_nat coords i p hi, pyIndex_nat coords j q hj, pyIndex_nat coords k r hk,
      pyIndex_nat coords l s hl]
    rfl

end ring

/-! ## non-vacuity: the hypotheses are met by non-trivial values (these are tests) -/
section examples

/-- a rational proper rotation that is not a coordinate permutation -/
example : (quatRot (1 : ℚ) 2 3 4).IsRotation := quatRot_isRotation _ _ _ _ (by norm_num)

example : (householder (⟨1, 2, 2⟩ : V3 ℚ)).IsReflection :=
  householder_isReflection _ (by norm_num [V3.nsq, V3.dot])

/-- `n = 5` is the norm of the central bond `(0,3,4)`: hypotheses of the dihedral theorems -/
example : (5 : ℚ) * 5 = nsq ((⟨0, 3, 4⟩ : V3 ℚ) - ⟨0, 0, 0⟩) ∧ (5 : ℚ) ≠ 0 := by decide +kernel

/-- TEST: a non-planar dihedral whose coded `(x, y)` has both components non-zero -/
example : dihedralXY (5 : ℚ) ⟨1, 1/2, 0⟩ ⟨0, 0, 0⟩ ⟨0, 3, 4⟩ ⟨1, 3, 5⟩ = (19 / 25, -1) := by decide +kernel

/-- TEST: the sqrt-free arguments of the same four points (what the driver prints: `19:-5:25`) -/
example : dihedralArgs (⟨1, 1/2, 0⟩ : V3 ℚ) ⟨0, 0, 0⟩ ⟨0, 3, 4⟩ ⟨1, 3, 5⟩ = (19, -5, 25) := by decide +kernel

/-- hypotheses of `angle_textbook`: norms 5 and 13 of `(3,4,0)` and `(0,−5,−12)` -/
example : (5 : ℚ) * 5 = nsq ((⟨3, 4, 0⟩ : V3 ℚ) - ⟨0, 0, 0⟩) ∧
    (13 : ℚ) * 13 = nsq ((⟨0, 0, 0⟩ : V3 ℚ) - ⟨0, 5, 12⟩) := by decide +kernel

/-- hypotheses of `connectivity_relabel`: a 3-cycle on three atoms -/
example : ∃ (atoms atoms' : List (Atom ℚ)) (σ : Nat → Nat),
    (∀ k a, atoms[k]? = some a → atoms'[σ k]? = some a) ∧
    (∀ i j, i < atoms.length → j < atoms.length → σ i = σ j → i = j) ∧
    (0, 1) ∈ guessConnectivity (6 / 5 : ℚ) atoms ∧ (0, 2) ∉ guessConnectivity (6 / 5 : ℚ) atoms := by
  refine ⟨[⟨1/2, ⟨0, 0, 0⟩⟩, ⟨1/2, ⟨1, 0, 0⟩⟩, ⟨1/2, ⟨0, 3, 0⟩⟩],
    [⟨1/2, ⟨0, 3, 0⟩⟩, ⟨1/2, ⟨0, 0, 0⟩⟩, ⟨1/2, ⟨1, 0, 0⟩⟩], fun k => (k + 1) % 3, ?_, ?_, ?_, ?_⟩
  · intro k a h
    match k, h with
    | 0, h => simpa using h
    | 1, h => simpa using h
    | 2, h => simpa using h
    | k + 3, h => simp at h
  · intro i j hi hj h
    simp only [List.length_cons, List.length_nil] at hi hj
    have h' : (i + 1) % 3 = (j + 1) % 3 := h
    omega
  · decide +kernel
  · decide +kernel

end examples

end QcelVerif.Measure
