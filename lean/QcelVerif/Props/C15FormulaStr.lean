import QcelVerif.Lemmas.FormulaStr
import QcelVerif.Props.C15Formula
import Mathlib.Data.List.Induction
/-!
# C15 (formula part, string level) — property theorems about `Model/Formula.lean`

`Props/C15Formula.lean` proves the counting / ordering clauses on the (element, count) token list.
This file proves the *string* (`List Char`) layer of the same executable model, for all inputs:

* `render` writes each key followed by the decimal digits of its count when the count is > 1
  (`render_toList`), digits being `Nat.toDigits 10` with the proved round trip
  `digitsVal_toDigits_roundtrip`;
* the tokenisation of `order_molecular_formula` — `re.findall(r"[A-Z][^A-Z]*", f)`, then
  `re.match(r"(\D+)(\d*)", chunk)`, then the `defaultdict` accumulation — applied to a rendered
  token list gives exactly that token list back (`parse_render`), under the explicit hypothesis
  `KeyOK` on the keys (what the two regexes really need);
* hence `order_molecular_formula(molecular_formula_from_symbols(syms, o), o')` *is*
  `molecular_formula_from_symbols(syms, o')` as a string, for both orders `o`, `o'`
  (`order_formula_of_formula`): idempotence for `o = o'`, conversion between the conventions
  otherwise — under the hypothesis that every title-cased symbol is `WFSym`
  (one `[A-Z]` followed by any number of `[a-z]`).

`Props/C15Symbols.lean` shows that every symbol of the shipped periodic table is `WFSym`.
ASCII scope, as in the model (`[A-Z]`, `\d`, `str.title()` on ASCII text).
-/
namespace QcelVerif.Formula

/-! ### well-formedness of keys, stated explicitly -/

/-- What the regexes of `order_molecular_formula` need of an element key so that it survives the
cut: it starts with `[A-Z]` and goes on with characters that are neither `[A-Z]` (else
`[A-Z][^A-Z]*` would cut inside the key) nor a digit (else `\D+` would stop inside the key).
Any length. -/
def keyOK : List Char → Bool
  | [] => false
  | c :: rest => isAsciiUpper c && rest.all (fun x => !isAsciiUpper x && !isAsciiDigit x)

/-- A title-cased element symbol: one upper-case ASCII letter followed by any number (0, 1, 2 for
the periodic table) of lower-case ASCII letters. -/
def wfSym : List Char → Bool
  | [] => false
  | c :: rest => isAsciiUpper c && rest.all isAsciiLower

/-- A raw symbol as a caller may write it: non-empty, ASCII letters in any case. -/
def rawSym : List Char → Bool
  | [] => false
  | c :: rest => isAsciiLetter c && rest.all isAsciiLetter

abbrev KeyOK (k : String) : Prop := keyOK k.toList = true
abbrev WFSym (k : String) : Prop := wfSym k.toList = true

theorem keyOK_elim {l : List Char} (h : keyOK l = true) : ∃ c rest, l = c :: rest ∧ isAsciiUpper c = true ∧
    ∀ x ∈ rest, isAsciiUpper x = false ∧ isAsciiDigit x = false := by
  cases l with
  | nil => simp [keyOK] at h
  | cons c rest => exact ⟨c, rest, rfl, by simpa [keyOK] using h⟩

theorem wfSym_elim {l : List Char} (h : wfSym l = true) : ∃ c rest, l = c :: rest ∧ isAsciiUpper c = true ∧
    ∀ x ∈ rest, isAsciiLower x = true := by
  cases l with
  | nil => simp [wfSym] at h
  | cons c rest => exact ⟨c, rest, rfl, by simpa [wfSym] using h⟩

theorem keyOK_of_wfSym {l : List Char} (h : wfSym l = true) : keyOK l = true := by
  obtain ⟨c, rest, rfl, hc, hr⟩ := wfSym_elim h
  simp only [keyOK, Bool.and_eq_true, List.all_eq_true, Bool.not_eq_eq_eq_not, Bool.not_true]
  exact ⟨hc, fun x hx => ⟨not_upper_of_lower (hr x hx), not_digit_of_lower (hr x hx)⟩⟩

/-- `str.title()` leaves a well-formed symbol unchanged -/
theorem title_wfSym {k : String} (h : WFSym k) : title k = k := by
  obtain ⟨c, rest, hk, hc, hr⟩ := wfSym_elim h
  rw [title, hk, titleChars_wf c rest hc hr, ← hk, String.ofList_toList]

/-- `str.title()` turns any non-empty word of ASCII letters (any case) into a well-formed symbol -/
theorem wfSym_title_of_rawSym {s : String} (h : rawSym s.toList = true) : WFSym (title s) := by
  unfold WFSym title
  rw [String.toList_ofList]
  cases hs : s.toList with
  | nil => rw [hs] at h; simp [rawSym] at h
  | cons c rest =>
    rw [hs] at h
    simp only [rawSym, Bool.and_eq_true, List.all_eq_true] at h
    rw [titleChars_letters c rest h.1 h.2]
    simp only [wfSym, Bool.and_eq_true, List.all_eq_true, List.mem_map, forall_exists_index, and_imp,
      forall_apply_eq_imp_iff₂]
    exact ⟨upperC_letter h.1, fun x hx => lowerC_letter (h.2 x hx)⟩

/-- non-vacuity (tests, evaluated): "Cl" is well formed; "cL" is a raw symbol whose title is "Cl" -/
example : wfSym "Cl".toList = true ∧ keyOK "Uue".toList = true ∧ rawSym "cL".toList = true := by decide
#guard title "cL" == "Cl"
#guard wfSym "CL".toList == false && wfSym "c".toList == false && keyOK "C2".toList == false

/-! ### digits: `Nat` ↔ decimal digits -/

/-- **Decimal round trip.** `int(str(n)) = n`: the digits written by `render` (`toString n`, i.e.
`Nat.toDigits 10 n`) are read back by `splitCount`'s `digitsVal` as `n`; they are ASCII digits and
there is at least one. -/
theorem digitsVal_toDigits_roundtrip (n : Nat) :
    digitsVal (toString n).toList = n ∧ (∀ c ∈ (toString n).toList, isAsciiDigit c = true) ∧
    (toString n).toList ≠ [] := by
  rw [Nat.toString_eq_ofList_toDigits, String.toList_ofList]
  exact ⟨digitsVal_toDigits n, toDigits_all_digit n, Nat.toDigits_ne_nil⟩

/-- the other direction: a digit string without a leading zero is the rendering of its value -/
theorem toDigits_digitsVal : ∀ (l : List Char), (∀ c ∈ l, isAsciiDigit c = true) → l ≠ [] →
    (l.length > 1 → l.head? ≠ some '0') → Nat.toDigits 10 (digitsVal l) = l := by
  intro l
  induction l using List.reverseRecOn with
  | nil => intro _ h; exact absurd rfl h
  | append_singleton l c ih =>
    intro hd _ hz
    have hc := hd c (by simp)
    rw [digit_iff] at hc
    have hcn : Nat.digitChar (c.toNat - 48) = c := by
      have key : ∀ n : Nat, n < 58 → 48 ≤ n → Nat.digitChar (n - 48) = Char.ofNat n := by decide
      rw [key c.toNat (by omega) hc.1, Char.ofNat_toNat]
    rw [digitsVal_append_single, Nat.toDigits_eq_if (by decide)]
    cases l with
    | nil =>
      simp only [digitsVal, List.foldl_nil, Nat.zero_mul, Nat.zero_add, List.nil_append]
      rw [if_pos (by omega), hcn]
    | cons a l' =>
      have ha := hd a (by simp)
      have hl : ∀ x ∈ a :: l', isAsciiDigit x = true := fun x hx => hd x (List.mem_append_left _ hx)
      -- the value of the prefix is positive because its first digit is not '0' …
      have hne : a ≠ '0' := by
        intro e; apply hz (by simp); simp [e]
      have ih' := ih hl (by simp) (fun _ => by simpa using hne)
      have hpos : 0 < digitsVal (a :: l') := by
        by_contra h0
        have h0' : digitsVal (a :: l') = 0 := by omega
        rw [h0', Nat.toDigits_zero] at ih'
        have : a = '0' := by
          have := congrArg List.head? ih'
          simpa using this.symm
        exact hne this
      have hlt : ¬ (digitsVal (a :: l') * 10 + (c.toNat - 48) < 10) := by omega
      rw [if_neg hlt]
      have h1 : (digitsVal (a :: l') * 10 + (c.toNat - 48)) / 10 = digitsVal (a :: l') := by omega
      have h2 : (digitsVal (a :: l') * 10 + (c.toNat - 48)) % 10 = c.toNat - 48 := by omega
      rw [h1, h2, ih', hcn]

-- non-vacuity (tests, evaluated)
#guard digitsVal (toString 1207).toList == 1207
#guard Nat.toDigits 10 (digitsVal "120".toList) == "120".toList
#guard Nat.toDigits 10 (digitsVal "012".toList) != "012".toList   -- leading zero: hypothesis needed

/-! ### rendering at character level -/

/-- one rendered token: the key, then the decimal count when it exceeds one (molecular_formula.py:68-73) -/
def renderTok (t : String × Nat) : List Char :=
  if t.2 > 1 then t.1.toList ++ Nat.toDigits 10 t.2 else t.1.toList

/-- **Rendering, character by character.** The formula string is the concatenation over the
tokens of key ++ (decimal digits of the count if > 1). -/
theorem render_toList (toks : List (String × Nat)) :
    (render toks).toList = toks.flatMap renderTok := by
  unfold render
  rw [String.toList_join, List.flatMap_map]
  congr 1
  funext t
  unfold renderTok
  split
  · rw [String.toList_append, Nat.toString_eq_ofList_toDigits, String.toList_ofList]
  · rfl

/-! ### parsing a rendered formula -/

/-- the first half of `orderFormula` (molecular_formula.py:23-34): cut, split each chunk, accumulate -/
def parseCounts (l : List Char) : Option (List (String × Nat)) :=
  let (pre, ms) := cutUpper l
  if !pre.isEmpty then none
  else some (ms.foldl (fun acc m => let (k, n) := splitCount m; addCount acc k n) [])

theorem orderFormula_eq (formula : String) (ord : Order) :
    orderFormula formula ord = (parseCounts formula.toList).map (fun cs => fromSymbols (expand cs) ord) := by
  unfold orderFormula parseCounts
  cases h : cutUpper formula.toList with
  | mk pre ms =>
    simp only
    split <;> rfl

theorem renderTok_shape {t : String × Nat} (hk : KeyOK t.1) :
    ∃ c body, renderTok t = c :: body ∧ isAsciiUpper c = true ∧ ∀ x ∈ body, isAsciiUpper x = false := by
  obtain ⟨c, rest, hl, hc, hr⟩ := keyOK_elim hk
  unfold renderTok
  split
  · refine ⟨c, rest ++ Nat.toDigits 10 t.2, by simp [hl], hc, ?_⟩
    intro x hx
    rcases List.mem_append.1 hx with hx | hx
    · exact (hr x hx).1
    · exact not_upper_of_digit (toDigits_all_digit _ x hx)
  · exact ⟨c, rest, by simp [hl], hc, fun x hx => (hr x hx).1⟩

/-- the `[A-Z][^A-Z]*` cut of a rendered formula is exactly the list of rendered tokens -/
theorem cutUpper_render : ∀ (toks : List (String × Nat)), (∀ t ∈ toks, KeyOK t.1) →
    cutUpper (toks.flatMap renderTok) = ([], toks.map renderTok)
  | [], _ => rfl
  | t :: toks, h => by
      obtain ⟨c, body, hs, hc, hb⟩ := renderTok_shape (h t (List.mem_cons_self ..))
      have ih := cutUpper_render toks (fun t ht => h t (List.mem_cons_of_mem _ ht))
      rw [List.flatMap_cons, List.map_cons, hs, cutUpper_chunk c body _ hc hb, ih]
      simp

/-- `(\D+)(\d*)` on a rendered token gives back the key and the count -/
theorem splitCount_renderTok {t : String × Nat} (hk : KeyOK t.1) (hn : 0 < t.2) :
    splitCount (renderTok t) = t := by
  have hnd : ∀ x ∈ t.1.toList, isAsciiDigit x = false := by
    obtain ⟨c, rest, hl, hc, hr⟩ := keyOK_elim hk
    intro x hx
    rcases List.mem_cons.1 (hl ▸ hx) with rfl | hx
    · exact not_digit_of_upper hc
    · exact (hr x hx).2
  obtain ⟨k, n⟩ := t
  unfold renderTok
  split
  · rw [splitCount_block _ _ hnd (toDigits_all_digit n), String.ofList_toList, digitsVal_toDigits,
      if_neg (by simp)]
  · have h1 : n = 1 := by omega
    rw [← List.append_nil k.toList, splitCount_block _ [] hnd (by simp), String.ofList_toList, h1]
    rfl

theorem fold_addCount : ∀ (toks acc : List (String × Nat)),
    (∀ t ∈ toks, KeyOK t.1 ∧ 0 < t.2) → ((acc ++ toks).map Prod.fst).Nodup →
    (toks.map renderTok).foldl (fun acc m => let (k, n) := splitCount m; addCount acc k n) acc
      = acc ++ toks
  | [], acc, _, _ => by simp
  | t :: toks, acc, h, hnd => by
      have ht := h t (List.mem_cons_self ..)
      rw [List.map_cons, List.foldl_cons, splitCount_renderTok ht.1 ht.2]
      have hnew : t.1 ∉ acc.map Prod.fst := by
        rw [List.map_append, List.map_cons] at hnd
        have := (List.nodup_append.1 hnd).2.2
        intro hm
        exact this _ hm _ (List.mem_cons_self ..) rfl
      simp only
      rw [addCount_new acc t.1 t.2 hnew]
      have := fold_addCount toks (acc ++ [t]) (fun t ht => h t (List.mem_cons_of_mem _ ht))
        (by simpa [List.append_assoc] using hnd)
      simpa [List.append_assoc] using this

/-- **parse ∘ render = id** (string level).  For every token list whose keys satisfy `KeyOK`, are
pairwise distinct, and whose counts are positive, the regex tokenisation of
`order_molecular_formula` applied to the rendered string gives exactly the element counts back,
in the same order. -/
theorem parse_render (toks : List (String × Nat)) (hk : ∀ t ∈ toks, KeyOK t.1)
    (hpos : ∀ t ∈ toks, 0 < t.2) (hnd : (toks.map Prod.fst).Nodup) :
    parseCounts (render toks).toList = some toks := by
  unfold parseCounts
  rw [render_toList, cutUpper_render toks hk]
  simp only [List.isEmpty_nil, Bool.not_true, Bool.false_eq_true, ↓reduceIte]
  rw [fold_addCount toks [] (fun t ht => ⟨hk t ht, hpos t ht⟩) (by simpa using hnd)]
  simp

-- non-vacuity (tests, evaluated): the hypotheses hold of a real token list, and the conclusion
-- is what the executable model computes; a key violating `KeyOK` breaks the round trip
#guard parseCounts (render [("C", 2), ("H", 12), ("Cl", 1), ("Uue", 3)]).toList ==
  some [("C", 2), ("H", 12), ("Cl", 1), ("Uue", 3)]
#guard parseCounts (render [("C2", 2), ("H", 1)]).toList != some [("C2", 2), ("H", 1)]
#guard parseCounts (render [("CH", 1)]).toList != some [("CH", 1)]

/-! ### code-point order on `String` is a total order -/

theorem strLe_trans (a b c : String) : strLe a b = true → strLe b c = true → strLe a c = true := by
  simp only [strLe, decide_eq_true_eq]; exact String.le_trans

theorem strLe_total (a b : String) : (strLe a b || strLe b a) = true := by
  simp only [strLe, Bool.or_eq_true, decide_eq_true_eq]; exact String.le_total a b

theorem strLe_antisymm (a b : String) : strLe a b = true → strLe b a = true → a = b := by
  simp only [strLe, decide_eq_true_eq]; exact String.le_antisymm

/-! ### the string-level statements about the two library functions -/

/-- every key of the tokens of well-formed symbols is one of them, so well formed -/
theorem tokens_key_wf (syms : List String) (ord : Order) (hwf : ∀ s ∈ syms, WFSym (title s)) :
    ∀ k ∈ (tokens strLe "C" "H" ord (syms.map title)).map Prod.fst, WFSym k := by
  intro k hk
  obtain ⟨s, hs, e⟩ := List.mem_map.1 ((formula_counts strLe "C" "H" ord (syms.map title)).2.1 k |>.1 hk)
  exact e ▸ hwf s hs

/-- **The rendered formula parses back to exactly the element counts.**  For every list of symbols
whose title-cased forms are well formed: tokenising `molecular_formula_from_symbols(syms, ord)` the
way `order_molecular_formula` does yields the (element, count) tokens — each distinct title-cased
symbol once, with its number of occurrences (see `formula_counts`) — in the order written. -/
theorem parse_formula (syms : List String) (ord : Order) (hwf : ∀ s ∈ syms, WFSym (title s)) :
    parseCounts (fromSymbols syms ord).toList = some (tokens strLe "C" "H" ord (syms.map title)) := by
  obtain ⟨hnd, _, hcnt⟩ := formula_counts strLe "C" "H" ord (syms.map title)
  exact parse_render _ (fun t ht => keyOK_of_wfSym (tokens_key_wf syms ord hwf t.1 (List.mem_map.2 ⟨t, ht, rfl⟩)))
    (fun t ht => (hcnt t ht).2) hnd

/-- **`order_molecular_formula` on a formula written by the library** (string level, both orders).
For every list of symbols whose title-cased forms are well formed, re-ordering the formula string
written in convention `ord` into convention `ord'` succeeds and gives, character for character,
the formula string of the same symbols in convention `ord'`. -/
theorem order_formula_of_formula (syms : List String) (ord ord' : Order)
    (hwf : ∀ s ∈ syms, WFSym (title s)) :
    orderFormula (fromSymbols syms ord) ord' = some (fromSymbols syms ord') := by
  rw [orderFormula_eq, parse_formula syms ord hwf]
  simp only [Option.map_some, Option.some.injEq]
  -- `str.title()` leaves the expanded keys as they are
  have hfix : (expand (tokens strLe "C" "H" ord (syms.map title))).map title
      = expand (tokens strLe "C" "H" ord (syms.map title)) :=
    map_eq_self fun k hk => title_wfSym (tokens_key_wf syms ord hwf k (mem_expand hk))
  unfold fromSymbols
  rw [hfix, order_convert_tokens strLe "C" "H" ord ord' _ strLe_trans strLe_total strLe_antisymm]

/-- **Idempotence at string level**: a formula in convention `ord` is a fixed point of
`order_molecular_formula(·, ord)`. -/
theorem order_formula_idempotent (syms : List String) (ord : Order)
    (hwf : ∀ s ∈ syms, WFSym (title s)) :
    orderFormula (fromSymbols syms ord) ord = some (fromSymbols syms ord) :=
  order_formula_of_formula syms ord ord hwf

/-- … and applying it twice (any two conventions) is applying the second once -/
theorem order_formula_twice (syms : List String) (o o1 o2 : Order)
    (hwf : ∀ s ∈ syms, WFSym (title s)) :
    (orderFormula (fromSymbols syms o) o1).bind (fun f => orderFormula f o2)
      = orderFormula (fromSymbols syms o) o2 := by
  rw [order_formula_of_formula syms o o1 hwf, order_formula_of_formula syms o o2 hwf, Option.bind_some]
  exact order_formula_of_formula syms o1 o2 hwf

/-- the hypothesis follows for symbols written as ASCII letters in any case -/
theorem wf_of_raw (syms : List String) (h : ∀ s ∈ syms, rawSym s.toList = true) :
    ∀ s ∈ syms, WFSym (title s) := fun s hs => wfSym_title_of_rawSym (h s hs)

/-- non-vacuity (tests, evaluated): symbols in mixed case; the conclusion computed by the model;
and a symbol list violating the hypothesis (`"A1"` is not a word of letters) for which the
statement fails — the hypothesis is needed -/
example : ∀ s ∈ ["h", "C", "cL", "H", "O", "HE"], rawSym s.toList = true := by decide
#guard orderFormula (fromSymbols ["h", "C", "cL", "H", "O", "HE"] .alphabetical) .hill ==
  some (fromSymbols ["h", "C", "cL", "H", "O", "HE"] .hill)
#guard fromSymbols ["h", "C", "cL", "H", "O", "HE"] .alphabetical == "CClH2HeO"
#guard orderFormula (fromSymbols ["A1", "A"] .alphabetical) .alphabetical !=
  some (fromSymbols ["A1", "A"] .alphabetical)

end QcelVerif.Formula
