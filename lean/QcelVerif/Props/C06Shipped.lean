import QcelVerif.Props.C06Sound
import QcelVerif.Lib.ListLemmas
/-!
# C06 — facts about the shipped table (kernel evaluation over the generated table, re-checked whenever
the data file changes) that the general theorems take as hypotheses.
-/
namespace QcelVerif.Nucleus
open QcelVerif.PStr QcelVerif.PT

/-- element row check: `Z → symbol → Z` round trip (strict), `symbol + str(default A)` is tabulated with
the element's own mass string, and that mass string parses -/
def elementRowOk (r : Nat × Nat × Nat) : Bool :=
  let z : Int := (r.1 : Int)
  match shippedN.pt.toE (.int z) false, shippedN.pt.toA (.int z) with
  | some sym, some a =>
      shippedN.pt.toMass (.str (unpack sym ++ intStr (a : Int))) == shippedN.pt.toMass (.int z) &&
      shippedN.pt.toZ (.str (unpack sym)) true == some r.1 &&
      (match shippedN.pt.toMass (.int z) with | some s => (decVal (unpack s)).isSome | none => false)
  | _, _ => false

/-- nuclide row check: the mass string parses and lies within 1/4 u of the mass number -/
def nuclideMassOk (r : Nat × Nat × Nat × Nat) : Bool :=
  match decVal (unpack r.2.2.2) with
  | some q => decide (absR (q - (r.2.2.1 : Rat)) < 1/4)
  | none => false

/-- numerator and denominator of `decVal` -/
def decParts (s : Bytes) : Option (Nat × Nat) :=
  let ip := s.takeWhile isDigit
  let rest := s.dropWhile isDigit
  if ip.isEmpty then none
  else match rest with
    | [] => some (digitsVal ip, 1)
    | c :: fp =>
      if c == 46 && !fp.isEmpty && fp.all isDigit then some (digitsVal ip * 10 ^ fp.length + digitsVal fp, 10 ^ fp.length)
      else none

/-- `nuclideMassOk` on the parts, cleared of denominators: `A − 1/4 < n/d < A + 1/4`; what is evaluated per row (no `Rat`) -/
def nuclideMassOkN (r : Nat × Nat × Nat × Nat) : Bool :=
  match decParts (unpack r.2.2.2) with
  | some (n, d) => decide (0 < d) && decide (4 * n < d + 4 * r.2.2.1 * d) && decide (4 * r.2.2.1 * d < d + 4 * n)
  | none => false

theorem decVal_eq_parts (s : Bytes) : decVal s = (decParts s).map fun p => (p.1 : Rat) / (p.2 : Rat) := by
  unfold decVal decParts
  simp only
  generalize s.takeWhile isDigit = ip
  generalize s.dropWhile isDigit = rest
  cases ip.isEmpty
  · cases rest with
    | nil => simp; grind
    | cons c fp =>
      simp only [Bool.false_eq_true, if_false]
      by_cases hc : (c == 46 && !fp.isEmpty && fp.all isDigit) = true
      · have h : ((10 ^ fp.length : Nat) : Rat) ≠ 0 :=
          Rat.ne_of_gt (Rat.natCast_pos.mpr (Nat.pow_pos (by decide)))
        simp only [hc, if_true, Option.map_some, Rat.natCast_add, Rat.natCast_mul]
        grind
      · simp [hc]
  · rfl

theorem nuclideMassOk_of_N (r : Nat × Nat × Nat × Nat) (h : nuclideMassOkN r = true) : nuclideMassOk r = true := by
  unfold nuclideMassOkN at h
  unfold nuclideMassOk
  rw [decVal_eq_parts]
  split at h
  · rename_i n d hp
    simp only [Bool.and_eq_true, decide_eq_true_eq] at h
    obtain ⟨⟨hd, h1⟩, h2⟩ := h
    have hd' : (0 : Rat) < (d : Rat) := Rat.natCast_pos.mpr hd
    have h1' := Rat.natCast_lt_natCast.mpr h1
    have h2' := Rat.natCast_lt_natCast.mpr h2
    simp only [Rat.natCast_add, Rat.natCast_mul] at h1' h2'
    have e : (n : Rat) = (n : Rat) / (d : Rat) * (d : Rat) := (Rat.div_mul_cancel (Rat.ne_of_gt hd')).symm
    simp only [hp, Option.map_some, decide_eq_true_eq]
    generalize (n : Rat) / (d : Rat) = y at e
    rw [e] at h1' h2'
    -- both bounds, with the positive denominator cancelled
    have k1 : 4 * y < 1 + 4 * (r.2.2.1 : Rat) := Rat.lt_of_mul_lt_mul_right (c := (d : Rat)) (by grind) (Rat.le_of_lt hd')
    have k2 : 4 * (r.2.2.1 : Rat) < 1 + 4 * y := Rat.lt_of_mul_lt_mul_right (c := (d : Rat)) (by grind) (Rat.le_of_lt hd')
    unfold absR
    split <;> grind
  · cases h

theorem shipped_elements_ok : Gen.PT.elements.all elementRowOk = true := by decide +kernel
theorem shipped_nuclides_parts : Gen.PT.nuclides.all nuclideMassOkN = true := by decide +kernel

/-- an atomic number that resolves is the `Z` of some element row -/
theorem row_of_toE {T : PT.Tables} {z : Int} {sym : Nat} (h : T.toE (.int z) false = some sym) :
    ∃ r ∈ T.elements, (r.1 : Int) = z := by
  unfold Tables.toE Tables.resolve Tables.resolveEliso at h
  cases hz : T.z2el z with
  | none => simp [hz] at h
  | some k =>
    unfold Tables.z2el at hz
    split at hz
    · cases hz
    · rename_i hneg
      unfold Tables.lastAssoc at hz
      rcases foldl_lastAssoc_mem _ _ _ _ hz with h0 | ⟨p, hp, hk, _⟩
      · cases h0
      · obtain ⟨r, hr, rfl⟩ := List.mem_map.mp hp
        refine ⟨r, hr, ?_⟩
        simp only [beq_iff_eq] at hk
        omega

/-- **The shipped table is coherent at every default isotope** (hypothesis `DefaultCoherent` of the
general theorems), and for every element row `Z → symbol → Z` round-trips in strict mode;
every nuclide mass string parses to within 1/4 u of its mass number. -/
theorem shipped_coherent :
    DefaultCoherent shippedN ∧
    (∀ (z : Int) (sym : Nat), shippedN.pt.toE (.int z) false = some sym →
        shippedN.pt.toZ (.str (unpack sym)) true = some z.toNat ∧ 0 ≤ z) ∧
    Gen.PT.nuclides.all nuclideMassOk = true := by
  have hrow : ∀ (z : Int) (sym : Nat), shippedN.pt.toE (.int z) false = some sym →
      ∃ r ∈ Gen.PT.elements, (r.1 : Int) = z ∧ elementRowOk r = true := by
    intro z sym h
    obtain ⟨r, hr, hz⟩ := row_of_toE h
    exact ⟨r, hr, hz, (List.all_eq_true.mp shipped_elements_ok) r hr⟩
  refine ⟨?_, ?_, ?_⟩
  · intro z sym a hE hA
    obtain ⟨r, _, hz, hok⟩ := hrow z sym hE
    unfold elementRowOk at hok
    simp only [hz, hE, hA, Bool.and_eq_true, beq_iff_eq] at hok
    exact hok.1.1
  · intro z sym hE
    obtain ⟨r, _, hz, hok⟩ := hrow z sym hE
    unfold elementRowOk at hok
    simp only [hz, hE] at hok
    cases hA : shippedN.pt.toA (.int z) with
    | none => simp [hA] at hok
    | some a =>
      simp only [hA, Bool.and_eq_true, beq_iff_eq] at hok
      refine ⟨?_, by omega⟩
      rw [hok.1.2]; congr 1; omega
  · exact List.all_eq_true.mpr fun r hr => nuclideMassOk_of_N r (List.all_eq_true.mp shipped_nuclides_parts r hr)

end QcelVerif.Nucleus
