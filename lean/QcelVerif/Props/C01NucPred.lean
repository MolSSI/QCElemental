import QcelVerif.Model.PTShipped
import QcelVerif.Model.F64Check
/-! C01: the row predicates of the nuclide theorems (definitions only; evaluated in `C01NucQ0` … `C01NucQ3`). -/
namespace QcelVerif.PT
open QcelVerif QcelVerif.PStr

/-- row predicate of `nuclides_resolve` -/
def nuclideRowOk (r : Nat × Nat × Nat × Nat) : Bool :=
  let a := PyVal.str (unpack r.1)
  shipped.resolve a false == some r.1 &&
  shipped.toE a false == some r.2.1 && shipped.toZ a false == shipped.el2z r.2.1 &&
  (shipped.el2z r.2.1).isSome &&
  shipped.toA a == some r.2.2.1 && shipped.toMass a == some r.2.2.2 &&
  shipped.resolve a true == (if shipped.isElementSymbol r.1 then some r.1 else none)

/-- row predicate of `nuclides_resolve_anycase` -/
def nuclideRowAnycaseOk (r : Nat × Nat × Nat × Nat) : Bool :=
  shipped.resolve (.str (lower (unpack r.1))) false == some r.1 &&
  shipped.resolve (.str (upper (unpack r.1))) false == some r.1

/-- row predicate of `tree_is_dict` -/
def treeRowOk (r : Nat × Nat × Nat × Nat) : Bool := Gen.PT.tree.lookup r.1 == some r.2

/-- `float(mass)` as the model computes it (`Dec.toF64` of the decimal text) is the double nearest
to the tabulated decimal — checked against the independent statement `F64Check.nearestOk` -/
def massFloatOk (r : Nat × Nat × Nat × Nat) : Bool :=
  match Dec.parse (unpack r.2.2.2) with
  | some d => if d.coeff == 0 then Nat.beq d.toF64 0 else F64Check.nearestOk d d.toF64
  | none => false

end QcelVerif.PT
