import QcelVerif.Props.C11
/-!
# C11 — non-vacuity: the hypotheses of the property theorems are satisfiable by non-trivial values
(these are examples / tests, not property theorems)
-/
namespace QcelVerif.Hash

/-- a printer satisfying `Params.Ok` exists (sign character + digits; `num/den` for bond orders):
the injectivity assumptions are consistent -/
def demoParams : Params (List Char) :=
  { massOf := fun _ => .val 1
    fl := id
    reprF := fun _ r => (if r.neg then '-' else '+') :: showNat r.mag
    reprB := fun q => showInt q.num ++ ('/' :: showNat q.den)
    sha1 := id }

theorem demoParams_ok : demoParams.Ok where
  reprF k :=
    { inj := by
        intro a b _ _ h
        simp only [demoParams, List.cons.injEq] at h
        obtain ⟨h1, h2⟩ := h
        have hm := showNat_inj h2
        cases a; cases b
        simp only [Rd.mk.injEq]
        refine ⟨?_, hm⟩
        simp only at h1
        split at h1 <;> split at h1 <;> simp_all
      tok := by
        intro a _ c hc
        simp only [demoParams, List.mem_cons] at hc
        rcases hc with rfl | hc
        · split <;> decide
        · exact isDigit_tokCh (showNat_digits _ c hc)
      ne := by intro a _; simp [demoParams] }
  reprB :=
    { inj := by
        intro a b _ _ h
        simp only [demoParams] at h
        have hp : ∀ z : Int, ∀ c ∈ showInt z, (c != '/') = true := by
          intro z c hc
          rcases showInt_chars z c hc with rfl | hd
          · decide
          · exact bne_iff_ne.mpr (isDigit_ne hd (by decide))
        obtain ⟨h1, h2⟩ := tok_split (hp a.num) (hp b.num) (stop_cons (by decide) _) (stop_cons (by decide) _) h
        have e1 := showInt_inj _ _ h1
        have e2 : a.den = b.den := showNat_inj (List.cons.inj h2).2
        exact Rat.ext e1 e2
      tok := by
        intro a _ c hc
        simp only [demoParams, List.mem_append, List.mem_cons] at hc
        rcases hc with hc | rfl | hc
        · exact showInt_tok _ c hc
        · decide
        · exact isDigit_tokCh (showNat_digits _ c hc)
      ne := by intro a _; simp [demoParams] }

/-- a coordinate pair related by admissible noise: 1.5 and 1.5 + 1e-11 -/
example : NoiseClose (.val (3 / 2)) (.val (3 / 2 + 1 / 10 ^ 11)) :=
  ⟨3 / 2, 1 / 10 ^ 11, 150000000, rfl, rfl, by rw [abs_le]; constructor <;> norm_num,
    by rw [abs_le]; constructor <;> norm_num, by rw [abs_le]; constructor <;> norm_num⟩

/-- an entry outside the zero band: 1e-6 bohr = 100 units (band: < 51.2 units) -/
example : NoBand id 8 (.val (1 / 1000000)) := by
  have r : roundTo id 8 (.val (1 / 1000000)) = 100 := by
    unfold roundTo; simp only [Dbl.toRat, id]; exact rint_near _ 100 (by norm_num)
  intro h
  rw [r] at h
  simp [zeroBand, Rd.ofInt] at h

/-- `FlOk` holds for exact arithmetic (for the double rounding `rndDouble` it is the theorem `flOk_rndDouble` of
`Lemmas/HashConcrete.lean`) -/
example : FlOk demoParams.fl := flOk_id

end QcelVerif.Hash
