import QcelVerif.Lemmas.UnitNamesChk
/-! C03 text level: every listed spelling of these table units resolves to its unit over the regenerated registry names, or is one of
the eight collisions of `collisionTable` (kernel evaluation, one table unit per lemma).  `spellingsOf_all` in `Props/C03Text.lean`
assembles these per-unit checks. -/
namespace QcelVerif.Units.Text

theorem sp_au_quadrupole : (spellingsOf (.au .quadrupole)).all chk = true := by decide +kernel
theorem sp_au_force : (spellingsOf (.au .force)).all chk = true := by decide +kernel
theorem sp_au_magDipole : (spellingsOf (.au .magDipole)).all chk = true := by decide +kernel
theorem sp_au_magFlux : (spellingsOf (.au .magFlux)).all chk = true := by decide +kernel
theorem sp_au_magnetizability : (spellingsOf (.au .magnetizability)).all chk = true := by decide +kernel
theorem sp_au_momentum : (spellingsOf (.au .momentum)).all chk = true := by decide +kernel
theorem sp_au_permittivity : (spellingsOf (.au .permittivity)).all chk = true := by decide +kernel
theorem sp_au_time : (spellingsOf (.au .time)).all chk = true := by decide +kernel
theorem sp_au_velocity : (spellingsOf (.au .velocity)).all chk = true := by decide +kernel

end QcelVerif.Units.Text
