import QcelVerif.Lemmas.UnoEnum
import QcelVerif.Lemmas.UnoAssemble
import QcelVerif.Props.C14
import QcelVerif.Props.C12
import Mathlib.Tactic.IntervalCases
/-!
# C12 — the DEFAULT atom-ordering search `algorithm='hungarian_uno'` tries the true atom map

Model: `Model/UnoOrderings.lean` (align.py:296-431 with `algorithm='hungarian_uno'`, and the output SET of
`uno`, qcelemental/util/gph_uno_bipartite.py).  All theorems hold for every number of atoms, every class
structure and every rational matrix — no size bound.

What is exact and what is float:
* the theorems are about exact rational arithmetic.  `enum_complete_sound`, `mem_zeroEdges` use nothing else: the
  correspondence check feeds the model the very doubles (as rationals) the solver returned and compares the
  implementation's edge list and matching set exactly.
* `optimal_is_candidate` / `near_optimal_is_candidate` / `true_map_is_candidate` assume the solver's answer is an
  EXACT optimality certificate (`Assign.certOK`, what C14 proves of the Munkres model).  In floats
  `reduced = cost − u − v` holds only up to rounding and a rigid copy's class cost is ~1e-20 instead of 0;
  `uno_cutoff` (1e-3 by default, 0.1 in the mirror pre-test) is what absorbs this.  `near_optimal_is_candidate` is the
  exact statement of that absorption (every assignment within `cut` of the optimum is a candidate); the float part
  itself stays differential (harness: C14's `certGap` per class call, and the applied atom map of every rigid copy is
  looked up among the enumerated candidates).
* there is NO `np.around` on this path (align.py:346-400); the only tolerance is `uno_cutoff`.
-/
namespace QcelVerif.Uno

open QcelVerif.Assign QcelVerif.B787

/-! ### the enumeration is exactly the set of perfect matchings of the zero-edge graph -/

/-- **The model's enumeration returns exactly the perfect matchings of the graph, each listed once.**
    (`sub[j]` is the row matched to column `j`.) -/
theorem enum_complete_sound (k : Nat) (E : Nat → Nat → Bool) :
    (∀ sub, sub ∈ matchings k E ↔ IsPM k E sub) ∧ (matchings k E).Nodup :=
  ⟨mem_matchings k E, nodup_matchings k E⟩

/-- `np.argwhere(reducedcost < uno_cutoff)`: the listed edges are exactly the in-range entries below the cutoff -/
theorem mem_zeroEdges (k : Nat) (red : Mat) (cut : Rat) (i j : Nat) :
    (i, j) ∈ zeroEdges k red cut ↔ i < k ∧ j < k ∧ red i j < cut := by
  simp only [zeroEdges, List.mem_flatMap, List.mem_range, List.mem_map, List.mem_filter, edgeB,
    decide_eq_true_eq, Prod.mk.injEq]
  constructor
  · rintro ⟨a, ha, b, ⟨hb, hr⟩, rfl, rfl⟩
    exact ⟨ha, hb, hr⟩
  · rintro ⟨hi, hj, hr⟩
    exact ⟨i, hi, j, ⟨hj, hr⟩, rfl, rfl⟩

/-- TEST: two equivalent atoms whose reduced matrix is all zero — both matchings are listed -/
example : matchings 2 (edgeB (fun _ _ => 0) (1 / 1000)) = [[0, 1], [1, 0]] := by decide +kernel
/-- TEST: `red = [[0,5,0],[0,0,7],[1,0,0]]`, cutoff 1/1000: the cyclic matching besides the diagonal -/
example : matchings 3 (edgeB (matOf [[0, 5, 0], [0, 0, 7], [1, 0, 0]]) (1 / 1000)) = [[0, 1, 2], [1, 2, 0]] := by
  decide +kernel
/-- TEST: with a literal cutoff of 0 the strict `<` leaves no edge of a non-negative matrix, hence no candidate -/
example : matchings 2 (edgeB (fun _ _ => 0) 0) = [] := by decide +kernel
/-- TEST (non-vacuity of `IsPM`) -/
example : IsPM 3 (edgeB (matOf [[0, 5, 0], [0, 0, 7], [1, 0, 0]]) (1 / 1000)) [1, 2, 0] :=
  (mem_matchings _ _ _).1 (by decide +kernel)

/-! ### every minimum-cost assignment is a candidate -/

/-- `sub` lists each of the rows `0 … k-1` once (a bijection columns → rows, written as a list) -/
def IsPermList (k : Nat) (sub : List Nat) : Prop := sub.length = k ∧ sub.Nodup ∧ ∀ x ∈ sub, x < k

/-- the (row, column) pairs of the assignment "column `j` gets row `sub[j]`" — up to the order of the pairs every
    complete assignment of a square matrix has this form -/
def pairsOf (sub : List Nat) : Pairs := sub.zipIdx

theorem mem_pairsOf {sub : List Nat} {p : Nat × Nat} : p ∈ pairsOf sub ↔ sub[p.2]? = some p.1 :=
  List.mem_zipIdx_iff_getElem?

theorem isAssign_pairsOf {k : Nat} {sub : List Nat} (h : IsPermList k sub) : IsAssign k k (pairsOf sub) := by
  obtain ⟨hl, hnd, hlt⟩ := h
  refine ⟨by simp [pairsOf, hl], ?_, ?_, ?_⟩
  · intro p hp
    have := mem_pairsOf.1 hp
    obtain ⟨h2, h3⟩ := List.getElem?_eq_some_iff.1 this
    exact ⟨hlt _ (h3 ▸ List.getElem_mem h2), hl ▸ h2⟩
  · simpa [pairsOf, List.zipIdx_map_fst] using hnd
  · simp only [pairsOf, List.zipIdx_map_snd]
    exact List.nodup_range'

theorem isPM_of_edges {k : Nat} {E : Nat → Nat → Bool} {sub : List Nat} (h : IsPermList k sub)
    (he : ∀ p ∈ pairsOf sub, E p.1 p.2 = true) : IsPM k E sub := by
  refine ⟨h.1, h.2.1, h.2.2, fun j hj => ?_⟩
  exact he (sub[j], j) (mem_pairsOf.2 (by simp [hj]))

/-- **Quantitative form (what `uno_cutoff` is for):** every complete assignment whose cost is within `cut` of the
    optimum is among the candidates: by C14's `cert_gap` its reduced costs are non-negative and sum to at most its
    excess over the optimum, so each of them is below `cut`. -/
theorem near_optimal_is_candidate {k : Nat} {c red : Mat} {σ : Pairs} {cut : Rat} {sub : List Nat}
    (hcert : certOK k k c red σ = true) (hsub : IsPermList k sub)
    (hnear : total c (pairsOf sub) < total c σ + cut) : sub ∈ matchings k (edgeB red cut) := by
  refine (mem_matchings _ _ _).2 (isPM_of_edges hsub fun p hp => ?_)
  obtain ⟨h0, hg⟩ := cert_gap hcert (isAssign_pairsOf hsub)
  have := le_total_of_nonneg red _ h0 p hp
  simp only [edgeB, decide_eq_true_eq]
  linarith

/-- **Every minimum-cost assignment of the class cost matrix is among the enumerated candidates** for any positive
    cutoff, when the solver's `(σ, red)` is an exact certificate: it is within `cut` of the optimum.
    (With a literal cutoff of 0 the strict `<` of align.py:386 leaves no edge at all — see the TEST above.) -/
theorem optimal_is_candidate {k : Nat} {c red : Mat} {σ : Pairs} {cut : Rat} {sub : List Nat}
    (hcert : certOK k k c red σ = true) (hcut : 0 < cut) (hsub : IsPermList k sub)
    (hopt : total c (pairsOf sub) ≤ total c σ) : sub ∈ matchings k (edgeB red cut) :=
  near_optimal_is_candidate hcert hsub (by linarith)

/-- TEST (non-vacuity): a 2×2 instance — cost `[[4,1],[2,3]]`, answer
    rows→cols (0→1, 1→0), reduced `[[2,0],[0,2]]` is a certificate, and the assignment `sub = [1,0]` is optimal -/
example : certOK 2 2 (matOf [[4, 1], [2, 3]]) (matOf [[2, 0], [0, 2]]) [(0, 1), (1, 0)] = true
    ∧ IsPermList 2 [1, 0]
    ∧ total (matOf [[4, 1], [2, 3]]) (pairsOf [1, 0]) ≤ total (matOf [[4, 1], [2, 3]]) [(0, 1), (1, 0)] := by
  refine ⟨by decide +kernel, ⟨rfl, by decide, by decide⟩, by decide +kernel⟩

/-! ### a rigid copy's true atom map has cost 0 in every class matrix and is tried -/

theorem getD_idxOf {l : List Nat} {a : Nat} (h : a ∈ l) : l.getD (l.idxOf a) 0 = a := by
  have hlt : l.idxOf a < l.length := List.idxOf_lt_length_iff.2 h
  rw [List.getD_eq_getElem?_getD, List.getElem?_eq_getElem hlt, Option.getD_some, List.getElem_idxOf hlt]

/-- the class invariant is preserved: the sum of reciprocal distances from the image atom `π a` to the concern atoms
    of the class equals that from `a` to the reference atoms of the class, because the true map carries the class onto
    the class (`hperm`) and preserves all distances (`hiso`) -/
theorem classSum_true_map (nR nC : Mat) (rgp cgp : List Nat) (π : Nat → Nat)
    (hperm : cgp.Perm (rgp.map π)) (a : Nat) (hiso : ∀ y ∈ rgp, nC (π y) (π a) = nR y a) :
    classSum nC cgp (π a) = classSum nR rgp a := by
  unfold classSum
  have h1 : (cgp.map fun x => nC x (π a)).sum = ((rgp.map π).map fun x => nC x (π a)).sum :=
    (hperm.map _).sum_eq
  rw [h1, List.map_map]
  congr 2
  exact List.map_congr_left (fun y hy => hiso y hy)

/-- **Which cost the code uses, and why a rigid copy gives zero.**  The class cost (align.py:359-367) is
    `(sumCC[i] − sumRR[j])²`, `sum..[x]` = 100 × the sum of reciprocal distances from atom `x` to the atoms of ITS OWN
    CLASS in its own geometry.  If the true atom map `π` carries the reference atoms of the class onto the concern atoms
    of the class and preserves the reciprocal-distance matrix on the class (a rigid motion and a relabelling preserve
    every interatomic distance), then the within-class form `sub` of `π` is a bijection, reads back as `π` on the class,
    and every one of its entries costs exactly 0. -/
theorem true_class_cost_zero (nR nC : Mat) (rgp cgp : List Nat) (π : Nat → Nat)
    (hcn : cgp.Nodup) (hperm : cgp.Perm (rgp.map π))
    (hiso : ∀ a ∈ rgp, ∀ b ∈ rgp, nC (π a) (π b) = nR a b) :
    let sub := rgp.map (fun a => cgp.idxOf (π a))
    IsPermList rgp.length sub ∧ sub.map (fun i => cgp.getD i 0) = rgp.map π
      ∧ ∀ p ∈ pairsOf sub, classCost nR nC rgp cgp p.1 p.2 = 0 := by
  intro sub
  have hmemc : ∀ a ∈ rgp, π a ∈ cgp := fun a ha => hperm.mem_iff.2 (List.mem_map_of_mem ha)
  have hndm : (rgp.map π).Nodup := (hperm.nodup_iff).1 hcn
  have hinj := List.inj_on_of_nodup_map hndm
  have hlen : cgp.length = rgp.length := by simpa using hperm.length_eq
  refine ⟨⟨by simp [sub], ?_, ?_⟩, ?_, ?_⟩
  · refine List.Nodup.map_on ?_ (List.Nodup.of_map π hndm)
    intro x hx y hy hxy
    exact hinj hx hy ((List.idxOf_inj (hmemc x hx)).1 hxy)
  · intro x hx
    obtain ⟨a, ha, rfl⟩ := List.mem_map.1 hx
    rw [← hlen]
    exact List.idxOf_lt_length_iff.2 (hmemc a ha)
  · simp only [sub, List.map_map]
    exact List.map_congr_left (fun a ha => by simpa [Function.comp] using getD_idxOf (hmemc a ha))
  · intro p hp
    have h1 := mem_pairsOf.1 hp
    obtain ⟨h2, h3⟩ := List.getElem?_eq_some_iff.1 h1
    have hj : p.2 < rgp.length := by simpa [sub] using h2
    have hp1 : p.1 = cgp.idxOf (π rgp[p.2]) := by rw [← h3]; simp [sub]
    have ha : rgp[p.2] ∈ rgp := List.getElem_mem hj
    have hg1 : cgp.getD p.1 0 = π rgp[p.2] := by rw [hp1]; exact getD_idxOf (hmemc _ ha)
    have hg2 : rgp.getD p.2 0 = rgp[p.2] := by
      rw [List.getD_eq_getElem?_getD, List.getElem?_eq_getElem hj, Option.getD_some]
    have hs := classSum_true_map nR nC rgp cgp π hperm rgp[p.2] (fun y hy => hiso y hy _ ha)
    simp only [classCost, hg1, hg2, hs, sub_self, mul_zero]

/-! ### why `hiso` holds for a rigid copy: a rigid motion preserves every interatomic (squared) distance -/

section Rigid
open QcelVerif.Kabsch
variable {K : Type} [CommRing K]

/-- **A rigid copy has the same interatomic distances**: if `c_a = r_a·A + s` and `c_b = r_b·A + s` with `A·Aᵀ = I`
    (how `scramble`/the generators move a geometry, rows as atoms), then `|c_a − c_b|² = |r_a − r_b|²` — over every
    commutative ring.  Hence the two distance matrices, their entrywise reciprocals (align.py:408-414) and the class
    sums built from them agree entry by entry along the true atom map, which is hypothesis `hiso` of
    `true_map_is_candidate`.  (The square root itself is outside the rational model: the reciprocal-distance matrices
    are inputs there.) -/
theorem rigid_copy_preserves_dist2 (A : M3 K) (h : A.mul A.transpose = M3.one) (s ra rb : V3 K) :
    (((rowMul ra A).add s).sub ((rowMul rb A).add s)).nrm2 = (ra.sub rb).nrm2 := by
  rw [rowMul_add_sub, nrm2_rowMul_of_orth h]

/-- TEST (non-vacuity): the 90° rotation about z is orthogonal -/
example : (⟨0, -1, 0, 1, 0, 0, 0, 0, 1⟩ : M3 ℚ).mul (⟨0, -1, 0, 1, 0, 0, 0, 0, 1⟩ : M3 ℚ).transpose = M3.one := by decide +kernel

end Rigid

theorem classCost_nonneg (nR nC : Mat) (rgp cgp : List Nat) (i j : Nat) : 0 ≤ classCost nR nC rgp cgp i j := by
  simp only [classCost]
  exact mul_self_nonneg _

/-- per class: the true map restricted to the class is one of the orderings `filter_hungarian_uno` yields -/
theorem true_class_is_candidate (nR nC : Mat) (rgp cgp : List Nat) (π : Nat → Nat) (red : Mat) (σ : Pairs) (cut : Rat)
    (hcn : cgp.Nodup) (hperm : cgp.Perm (rgp.map π))
    (hiso : ∀ a ∈ rgp, ∀ b ∈ rgp, nC (π a) (π b) = nR a b)
    (hcert : certOK cgp.length cgp.length (classCost nR nC rgp cgp) red σ = true) (hcut : 0 < cut) :
    rgp.map π ∈ filterUno cut red cgp := by
  obtain ⟨hpl, hback, hzero⟩ := true_class_cost_zero nR nC rgp cgp π hcn hperm hiso
  have hlen : cgp.length = rgp.length := by simpa using hperm.length_eq
  rw [← hlen] at hpl
  have h0 : 0 ≤ total (classCost nR nC rgp cgp) σ :=
    total_nonneg _ _ (fun p _ => classCost_nonneg nR nC rgp cgp p.1 p.2)
  have hmem := optimal_is_candidate hcert hcut hpl (by rw [total_eq_zero _ _ hzero]; exact h0)
  unfold filterUno
  exact List.mem_map.2 ⟨_, hmem, hback⟩

/-- **The true atom map is among the candidates B787's default search tries.**  `ref`/`cur` are the class labels of
    the reference and the concern geometry, `nR`/`nC` their reciprocal-distance matrices, `π` the true map (reference
    atom `a` ↔ concern atom `π a`): a bijection of `0 … n-1` (`hperm`) that respects the labels (`hcls`) and all
    interatomic distances (`hiso` — an exact rigid copy + permutation).  If for every class the solver's answer on the
    class cost matrix is an exact certificate (`hcert`; C14) and the cutoff is positive, `candidatesUno` returns a list
    that contains `[π 0, …, π (n-1)]`. -/
theorem true_map_is_candidate (cut : Rat) (ref cur : List Nat) (nR nC : Mat) (reds : List Mat)
    (π : Nat → Nat) (hcut : 0 < cut)
    (hlen : cur.length = ref.length)
    (hperm : ((List.range ref.length).map π).Perm (List.range ref.length))
    (hcls : ∀ a, a < ref.length → cur[π a]? = ref[a]?)
    (hiso : ∀ a b, a < ref.length → b < ref.length → nC (π a) (π b) = nR a b)
    (hreds : reds.length = (firstSeen ref).length)
    (hcert : ∀ t (h : t < (firstSeen ref).length) (h' : t < reds.length),
      ∃ σ, certOK (positions (firstSeen ref)[t] cur).length (positions (firstSeen ref)[t] cur).length
        (classCost nR nC (positions (firstSeen ref)[t] ref) (positions (firstSeen ref)[t] cur)) reds[t] σ = true) :
    ∃ L, candidatesUno cut ref cur reds = .ok L ∧ (List.range ref.length).map π ∈ L := by
  refine candidates_of_classes cut ref cur reds π hlen hperm hcls hreds (fun t h h' => ?_)
  obtain ⟨σ, hσ⟩ := hcert t h h'
  refine true_class_is_candidate nR nC _ _ π reds[t] σ cut (nodup_positions _ _)
    (positions_perm_map π ref cur hlen hperm hcls _) (fun a ha b hb => ?_) hσ hcut
  exact hiso a b ((mem_positions _ _ _).1 ha).1 ((mem_positions _ _ _).1 hb).1

/-- **Recovery for the default algorithm** (with `B787.best_is_min` of `Props/C12.lean`): let the trial list handed to
    the loop model be indexed like the candidate orderings; if the search runs to completion, the returned (rounded)
    RMSD is ≤ the trial RMSD of the true atom map — which `Kabsch.recovery_rigid` bounds by the certificate slack. -/
theorem uno_recovery_best_le (cfg : Cfg) (hc : cfg.runToCompletion = true) (L : List (List Nat)) (ts : List Trial)
    (st : State) (hlen : ts.length = L.length) (h : run cfg ts = .ok st) (truth : List Nat) (hmem : truth ∈ L) :
    ∃ (i : Nat) (t : Trial), L[i]? = some truth ∧ ts[i]? = some t ∧ st.best ≤ t.plain := by
  obtain ⟨i, hi, hL⟩ := List.getElem_of_mem hmem
  have hi' : i < ts.length := hlen ▸ hi
  refine ⟨i, ts[i], ?_, ?_, ?_⟩
  · rw [List.getElem?_eq_getElem hi, hL]
  · rw [List.getElem?_eq_getElem hi']
  · exact (best_is_min cfg hc ts st h ts[i] (List.getElem_mem hi')).1

/-- TEST (non-vacuity of `true_map_is_candidate`, two equivalent atoms + one other, swapped copy): the model run on a
    concrete instance returns both orderings, the true map `[1,0,2]` among them -/
example : candidatesUno (1 / 1000) [0, 0, 1] [0, 0, 1] [fun _ _ => 0, fun _ _ => 0]
    = .ok [[0, 1, 2], [1, 0, 2]] := by decide +kernel

/-! #### non-vacuity of the hypotheses of `true_map_is_candidate` -/

/-- isosceles triangle: atoms 0 and 1 equivalent (class 0), atom 2 on the axis (class 1) -/
def exNre : Mat := matOf [[0, 1 / 2, 1 / 3], [1 / 2, 0, 1 / 3], [1 / 3, 1 / 3, 0]]
def exSwap : Nat → Nat := fun a => if a = 0 then 1 else if a = 1 then 0 else a

/-- TEST (non-vacuity of every hypothesis of `true_map_is_candidate`): the swap of the two equivalent atoms of an
    isosceles triangle is a label- and distance-preserving bijection, both class certificates are exact, and the
    theorem then yields the swapped ordering among the candidates -/
example : ∃ L, candidatesUno (1 / 1000) [0, 0, 1] [0, 0, 1] [fun _ _ => 0, fun _ _ => 0] = .ok L
    ∧ [1, 0, 2] ∈ L := by
  have h := true_map_is_candidate (1 / 1000) [0, 0, 1] [0, 0, 1] exNre exNre [fun _ _ => 0, fun _ _ => 0] exSwap
    (by norm_num) rfl (by decide)
    (by intro a ha; have ha' : a < 3 := ha; interval_cases a <;> decide)
    (by intro a b ha hb; have ha' : a < 3 := ha; have hb' : b < 3 := hb; interval_cases a <;> interval_cases b <;> decide +kernel)
    (by decide)
    (by
      intro t h h'
      have ht : t < 2 := by simpa using h'
      interval_cases t
      · exact ⟨[(0, 0), (1, 1)], by decide +kernel +revert⟩
      · exact ⟨[(0, 0)], by decide +kernel +revert⟩)
  have e : List.map exSwap (List.range 3) = [1, 0, 2] := by decide
  simpa [e] using h

/-- TEST (non-vacuity of `true_class_cost_zero` / `true_class_is_candidate`) -/
example : [0, 1].map exSwap ∈ filterUno (1 / 1000) (fun _ _ => 0) [0, 1] :=
  true_class_is_candidate exNre exNre [0, 1] [0, 1] exSwap (fun _ _ => 0) [(0, 0), (1, 1)] (1 / 1000)
    (by decide) (List.Perm.swap 1 0 []) (by decide +kernel) (by decide +kernel) (by norm_num)

end QcelVerif.Uno
