import QcelVerif.Props.C01NucQ0
import QcelVerif.Props.C01NucQ1
import QcelVerif.Props.C01NucQ2
import QcelVerif.Props.C01NucQ3
/-! C01: the theorems over the whole nuclide table, assembled from the four quarters `C01NucQ0` … `C01NucQ3`. -/
namespace QcelVerif.PT
open QcelVerif

/-- **Every nuclide label resolves to its own row** (and therefore, by `shipped_faithful`, to the
NIST values): key, element symbol, atomic number, mass number, mass; and **strict mode rejects
exactly the labels that are not bare element symbols**. -/
theorem nuclides_resolve : Gen.PT.nuclides.all nuclideRowOk = true := by
  simp only [Gen.PT.nuclides, List.all_append, nuclides_resolve_q0, nuclides_resolve_q1,
    nuclides_resolve_q2, nuclides_resolve_q3, Bool.and_self]

/-- The lower- and upper-case spellings of every nuclide label resolve to the label's own row.  Nothing is
evaluated for this: each row follows from `nuclides_resolve` and the general `resolve_case_insensitive`
(`nuclideRowAnycaseOk_of` in `C01NucRow`). -/
theorem nuclides_resolve_anycase : Gen.PT.nuclides.all nuclideRowAnycaseOk = true := by
  simp only [Gen.PT.nuclides, List.all_append, nuclides_anycase_q0, nuclides_anycase_q1,
    nuclides_anycase_q2, nuclides_anycase_q3, Bool.and_self]

/-- the generated search tree is ordered … -/
theorem tree_isBST : Gen.PT.tree.isBST = true := by decide +kernel

/-- … and answers like `dict(zip(EA, zip(_EE, A, mass)))` on the labels: every row is found with its own
values, and the tree has as many keys as there are rows.  (That every key of the tree is the label of some row is
`Src.tree_keys_are_row_keys` in `Props/C01SrcKeys.lean`; with `tree_isBST` and the count, EA has no duplicate label.) -/
theorem tree_is_dict :
    Gen.PT.nuclides.all treeRowOk = true ∧ Gen.PT.tree.size = Gen.PT.nuclides.length := by
  refine ⟨?_, by decide +kernel⟩
  simp only [Gen.PT.nuclides, List.all_append, tree_rows_q0, tree_rows_q1, tree_rows_q2,
    tree_rows_q3, Bool.and_self]

/-- **The float form of every tabulated mass is the nearest double to its Decimal** (the model's
`float(Decimal)` — `Dec.toF64` — checked against an independent nearest-with-ties-to-even predicate,
for all nuclide rows; the correspondence compares these bit patterns with the implementation's). -/
theorem masses_float_nearest : Gen.PT.nuclides.all massFloatOk = true := by
  simp only [Gen.PT.nuclides, List.all_append, masses_float_q0, masses_float_q1, masses_float_q2,
    masses_float_q3, Bool.and_self]

end QcelVerif.PT
