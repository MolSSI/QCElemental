import QcelVerif.Lemmas.Nucleus
/-!
# C06 — nucleus reconciliation: property theorems

All theorems are about the model `reconcileWith N rd rng` for ANY table `N`, ANY rounding function `rd`
and ANY per-element range table `rng` (`reconcile` is the instance `rng = elRange N rd`), for ALL inputs:
soundness of a successful call, the default isotope, a supplied mass number, and contradictory clues are errors
(never resolved in favour of one).
-/
namespace QcelVerif.Nucleus
open QcelVerif.PStr

/-- the label is consulted as a nucleus specification and parses to `L` -/
def LabelIs (i : Input) (L : Label) : Prop :=
  i.speclabel = true ∧ ∃ l, i.label = some l ∧ parseLabel l = some L

/-- some clue (Z, E, label-Z, label-E) names atomic number `z` -/
def NamesZ (N : NTables) (i : Input) (z : Int) : Prop :=
  (∃ p, i.Z = some p ∧ truncInt p.val = z) ∨
  (∃ e, ∃ n : Nat, i.E = some e ∧ N.pt.toZ (.str e) true = some n ∧ (n : Int) = z) ∨
  (∃ L, ∃ n : Nat, LabelIs i L ∧ L.Z = some n ∧ (n : Int) = z) ∨
  (∃ L e, ∃ n : Nat, LabelIs i L ∧ L.E = some e ∧ N.pt.toZ (.str e) true = some n ∧ (n : Int) = z)

/-- some clue (A, label-A) gives mass number `a` -/
def ClaimsA (i : Input) (a : Int) : Prop :=
  (∃ p, i.A = some p ∧ truncInt p.val = a) ∨ (∃ L, ∃ n : Nat, LabelIs i L ∧ L.A = some n ∧ (n : Int) = a)

/-- some clue (mass, label-mass) gives the float `m` -/
def ClaimsMass (rd : Rat → Rat) (i : Input) (m : Rat) : Prop :=
  (∃ p, i.mass = some p ∧ rd p.val = m) ∨ (∃ L t q, LabelIs i L ∧ L.mass = some t ∧ decVal t = some q ∧ rd q = m)

/-- some clue (real, label ghost marker) gives the real/ghost flag with value `v` -/
def ClaimsReal (i : Input) (v : Rat) : Prop :=
  (∃ p, i.real = some p ∧ p.val = v) ∨ (∃ L, LabelIs i L ∧ (PyNum.bool L.real).val = v)

/-- the tag the label carries: lower-cased user part of a parsed label, or the whole label when it is not a
nucleus specification; `''` otherwise -/
def expectedUser (i : Input) : Bytes :=
  match i.label with
  | none => []
  | some l =>
    if i.speclabel then (match parseLabel l with | some L => lower (L.user.getD []) | none => [])
    else lower l

/-- the table is coherent at its default isotopes: `E + str(to_A(Z))` is a key with the mass of `Z` itself -/
def DefaultCoherent (N : NTables) : Prop :=
  ∀ (z : Int) (sym a : Nat), N.pt.toE (.int z) false = some sym → N.pt.toA (.int z) = some a →
    N.pt.toMass (.str (unpack sym ++ intStr (a : Int))) = N.pt.toMass (.int z)

/-- a claimed mass is a rounded number -/
theorem ClaimsMass.rounded {rd : Rat → Rat} (hidem : ∀ x, rd (rd x) = rd x)
    {i : Input} {m : Rat} (h : ClaimsMass rd i m) : rd m = m := by
  rcases h with ⟨p, _, rfl⟩ | ⟨L, t, q, _, _, _, rfl⟩ <;> exact hidem _

theorem labelOf_ok {i : Input} {lab : Option Label} (h : labelOf i = .ok lab) :
    (∀ L, lab = some L → LabelIs i L) ∧ (∀ L, LabelIs i L → lab = some L) := by
  unfold labelOf at h
  unfold LabelIs
  split at h
  · rename_i l hl hs
    cases hp : parseLabel l with
    | none => rw [hp] at h; cases h
    | some L =>
    rw [hp] at h
    have hL := hp
    simp only [ofOpt, Except.map, Except.ok.injEq] at h
    subst h
    constructor
    · intro L' e; cases e; exact ⟨hs, l, hl, hL⟩
    · rintro L' ⟨_, l', hl', hp⟩
      rw [hl] at hl'; cases hl'; rw [hL] at hp; cases hp; rfl
  · rename_i hne
    cases h
    constructor
    · intro L e; cases e
    · rintro L ⟨hs, l, hl, _⟩
      exact absurd hs (by intro hs'; exact hne l hl hs')

theorem offerClue_massNumber {N : NTables} {rd sym mtol a L} :
    offerClue N rd sym mtol (.massNumber a) = .ok L ↔
      ∃ am, tableMass N rd (.str (unpack sym ++ intStr a)) = .ok am ∧ L = { a := a, aPred := .eq a, m := am, mPred := .near am mtol } := by
  unfold offerClue
  simp only [bind_ok, pure, Except.pure, Except.ok.injEq, @eq_comm _ _ L]

theorem offerClue_massValue (N : NTables) (rd sym mtol m) :
    offerClue N rd sym mtol (.massValue m) =
      .ok { a := massToA N rd sym mtol m, aPred := .eq (massToA N rd sym mtol m), m := m, mPred := .eq m } := rfl

/-- what `massToA` means: −1, or the rounded mass names a tabulated nuclide not further than `mtol` away -/
theorem massToA_spec (N : NTables) (rd : Rat → Rat) (sym : Nat) (mtol m : Rat) :
    massToA N rd sym mtol m = -1 ∨
    ∃ tm, tableMass N rd (.str (unpack sym ++ intStr (massToA N rd sym mtol m))) = .ok tm ∧
      absR (rd (tm - m)) ≤ mtol ∧ massToA N rd sym mtol m = roundHalfEven m := by
  have key : ∀ r, tableMass N rd (.str (unpack sym ++ intStr (roundHalfEven m))) = r →
      massToA N rd sym mtol m = (match r with
        | .ok tm => if mtol < absR (rd (tm - m)) then -1 else roundHalfEven m
        | .error _ => -1) := by
    intro r hr; subst hr; rfl
  cases h : tableMass N rd (.str (unpack sym ++ intStr (roundHalfEven m))) with
  | error e => left; rw [key _ h]
  | ok tm =>
    have hk := key _ h
    simp only at hk
    by_cases hlt : mtol < absR (rd (tm - m))
    · left; rw [hk, if_pos hlt]
    · right
      rw [if_neg hlt] at hk
      exact ⟨tm, by rw [hk]; exact h, Rat.not_lt.mp hlt, hk⟩

/-- the isotope clues, inverted -/
theorem cluesOf_ok {rd : Rat → Rat} {i : Input} {lab : Option Label} {clues : List Clue}
    (h : cluesOf rd i lab = .ok clues) :
    ∃ lm, (optList (lab.bind (·.mass))).mapM (labelMass rd) = .ok lm ∧
      clues = (optList i.A).map (fun a => Clue.massNumber (truncInt a.val)) ++
              (optList i.mass).map (fun m => Clue.massValue (rd m.val)) ++
              (optList (lab.bind (·.A))).map (fun (a : Nat) => Clue.massNumber (a : Int)) ++
              lm.map Clue.massValue := by
  unfold cluesOf at h
  simp only [bind_ok] at h
  obtain ⟨lm, h1, h2⟩ := h
  simp only [pure, Except.pure, Except.ok.injEq] at h2
  exact ⟨lm, h1, h2.symm⟩

theorem labelMass_ok {rd : Rat → Rat} {t : Bytes} {m : Rat} (h : labelMass rd t = .ok m) :
    ∃ q, decVal t = some q ∧ rd q = m := by
  unfold labelMass at h
  split at h
  · rename_i q hq; exact ⟨q, hq, by cases h; rfl⟩
  · cases h

/-- a mass-number claim is among the isotope clues -/
theorem clue_of_ClaimsA {rd : Rat → Rat} {i : Input} {lab : Option Label} {clues : List Clue} {a : Int}
    (hl : labelOf i = .ok lab) (hc : cluesOf rd i lab = .ok clues) (h : ClaimsA i a) :
    Clue.massNumber a ∈ clues := by
  obtain ⟨lm, _, rfl⟩ := cluesOf_ok hc
  rcases h with ⟨p, hp, rfl⟩ | ⟨L, n, hL, hn, rfl⟩
  · simp [hp, optList]
  · have := (labelOf_ok hl).2 L hL
    subst this
    simp [hn, optList]

/-- a mass claim is among the isotope clues -/
theorem clue_of_ClaimsMass {rd : Rat → Rat} {i : Input} {lab : Option Label} {clues : List Clue} {m : Rat}
    (hl : labelOf i = .ok lab) (hc : cluesOf rd i lab = .ok clues) (h : ClaimsMass rd i m) :
    Clue.massValue m ∈ clues := by
  obtain ⟨lm, hlm, rfl⟩ := cluesOf_ok hc
  rcases h with ⟨p, hp, rfl⟩ | ⟨L, t, q, hL, ht, hq, rfl⟩
  · simp [hp, optList]
  · have := (labelOf_ok hl).2 L hL
    subst this
    simp only [Option.bind_some, ht] at hlm
    obtain ⟨m', hm', rfl⟩ := mapM_optList_some hlm
    obtain ⟨q', hq', rfl⟩ := labelMass_ok hm'
    rw [hq] at hq'; cases hq'
    simp

theorem mem_optList_iff {α} {a : α} {o : Option α} : a ∈ optList o ↔ o = some a := by
  cases o <;> simp [optList, eq_comm]

/-- conversely, every isotope clue is a claim -/
theorem claim_of_clue {rd : Rat → Rat} {i : Input} {lab : Option Label} {clues : List Clue} {c : Clue}
    (hl : labelOf i = .ok lab) (hc : cluesOf rd i lab = .ok clues) (h : c ∈ clues) :
    (∃ a, c = .massNumber a ∧ ClaimsA i a) ∨ (∃ m, c = .massValue m ∧ ClaimsMass rd i m) := by
  obtain ⟨lm, hlm, rfl⟩ := cluesOf_ok hc
  simp only [List.mem_append, List.mem_map, mem_optList_iff] at h
  rcases h with ((⟨p, hp, rfl⟩ | ⟨p, hp, rfl⟩) | ⟨n, hn, rfl⟩) | ⟨m, hm, rfl⟩
  · exact .inl ⟨_, rfl, .inl ⟨p, hp, rfl⟩⟩
  · exact .inr ⟨_, rfl, .inl ⟨p, hp, rfl⟩⟩
  · obtain ⟨L, rfl, hLA⟩ := Option.bind_eq_some_iff.mp hn
    exact .inl ⟨_, rfl, .inr ⟨L, n, (labelOf_ok hl).1 L rfl, hLA, rfl⟩⟩
  · obtain ⟨t, ht, htm⟩ := mapM_ok_of_mem_right hlm m hm
    obtain ⟨L, rfl, hLm⟩ := Option.bind_eq_some_iff.mp (mem_optList_iff.mp ht)
    obtain ⟨q, hq, hrd⟩ := labelMass_ok htm
    exact .inr ⟨_, rfl, .inr ⟨L, t, q, (labelOf_ok hl).1 L rfl, hLm, hq, hrd⟩⟩

/-- the user-label clues are the expected tag alone, or there are none and the expected tag is `''` -/
theorem userClues_expected {i : Input} {lab : Option Label} (hlab : labelOf i = .ok lab) :
    (userClues i lab = [] ∧ expectedUser i = []) ∨ userClues i lab = [expectedUser i] := by
  unfold labelOf at hlab
  unfold userClues expectedUser
  cases hl : i.label with
  | none => exact .inl ⟨rfl, rfl⟩
  | some l =>
    cases hs : i.speclabel with
    | false => exact .inr (by simp)
    | true =>
      simp only [hl, hs] at hlab
      cases hp : parseLabel l with
      | none => rw [hp] at hlab; cases hlab
      | some L =>
        rw [hp] at hlab
        cases hlab
        cases hu : L.user <;> simp [hp, hu, optList, lower]

/-- every element claim produced an offer for exactly that atomic number -/
theorem offer_of_NamesZ {N : NTables} {rd rng i zo lab z} (h : zStage N rd rng i = .ok (zo, lab))
    (hn : NamesZ N i z) : ∃ x ∈ zo, x.z = z := by
  obtain ⟨o1, o2, o3, o4, h1, h2, hl, h3, h4, rfl⟩ := zStage_ok h
  have viaE : ∀ {e : Bytes} {n : Nat} {b}, N.pt.toZ (.str e) true = some n → offerE N rd rng i.nonphysical e = .ok b → b.z = n := by
    intro e n b hz hb
    obtain ⟨n', hn', hb'⟩ := offerE_ok.mp hb
    rw [hz] at hn'; cases hn'
    exact (offerZ_ok hb').1
  rcases hn with ⟨p, hp, rfl⟩ | ⟨e, n, he, hz, rfl⟩ | ⟨L, n, hL, hn, rfl⟩ | ⟨L, e, n, hL, he, hz, rfl⟩
  · obtain ⟨b, hb, rfl⟩ := mapM_optList_some (hp ▸ h1)
    exact ⟨b, by simp, (offerZ_ok hb).1⟩
  · obtain ⟨b, hb, rfl⟩ := mapM_optList_some (he ▸ h2)
    exact ⟨b, by simp, viaE hz hb⟩
  · have := (labelOf_ok hl).2 L hL
    subst this
    simp only [Option.bind_some, hn] at h3
    obtain ⟨b, hb, rfl⟩ := mapM_optList_some h3
    exact ⟨b, by simp, (offerZ_ok hb).1⟩
  · have := (labelOf_ok hl).2 L hL
    subst this
    simp only [Option.bind_some, he] at h4
    obtain ⟨b, hb, rfl⟩ := mapM_optList_some h4
    exact ⟨b, by simp, viaE hz hb⟩

/-- after Z is reconciled all offers are one and the same `offer_atomic_number(Z_final)` -/
theorem offers_eq {N : NTables} {rd rng i zo lab} {Z : Int} (h : zStage N rd rng i = .ok (zo, lab))
    (hf : firstPassing (fun (p c : Int) => c == p) (zo.map (·.z)) (zo.map (·.z)) = some Z) :
    ∃ x0, x0 ∈ zo ∧ offerZ N rd rng i.nonphysical Z = .ok x0 ∧ ∀ x ∈ zo, x = x0 := by
  obtain ⟨hm, hall⟩ := firstPassing_some hf
  obtain ⟨x0, hx0, hz0⟩ := List.mem_map.mp hm
  have hoff := zStage_offers h
  have hx0' : offerZ N rd rng i.nonphysical Z = .ok x0 := by rw [← hz0]; exact hoff x0 hx0
  refine ⟨x0, hx0, hx0', ?_⟩
  intro x hx
  have hxz : x.z = Z := by
    have := hall x.z (List.mem_map.mpr ⟨x, hx, rfl⟩)
    simp at this; exact this.symm
  have := hoff x hx
  rw [hxz, hx0'] at this
  cases this; rfl

/-- what a successful call `reconcileWith N rd rng i = .ok o` amounts to, in terms of the clues of `i` -/
structure Reconciled (N : NTables) (rd : Rat → Rat) (rng : Nat → Option Range) (i : Input) (o : Output) : Prop where
  E : N.pt.toE (.int o.Z) false = some o.E
  names : ∀ z, NamesZ N i z → z = o.Z
  /-- every element clue made the same offer; its two tests pass -/
  offer : ∃ x, offerZ N rd rng i.nonphysical o.Z = .ok x ∧ APred.holds x.aPred o.A = true ∧ MPred.holds rd x.mPred o.mass = true
  claimA : ∀ a, ClaimsA i a → o.A = a ∧ ∃ tm, tableMass N rd (.str (unpack o.E ++ intStr a)) = .ok tm ∧ absR (rd (o.mass - tm)) ≤ i.mtol.val
  claimM : ∀ m, ClaimsMass rd i m → o.mass = m ∧ o.A = massToA N rd o.E i.mtol.val m
  massFrom : tableMass N rd (.int o.Z) = .ok o.mass ∨
    (∃ a, ClaimsA i a ∧ tableMass N rd (.str (unpack o.E ++ intStr a)) = .ok o.mass) ∨ ClaimsMass rd i o.mass
  AFrom : (∃ a : Nat, N.pt.toA (.int o.Z) = some a ∧ o.A = (a : Int)) ∨ ClaimsA i o.A ∨ ∃ m, ClaimsMass rd i m
  real : ∀ v, ClaimsReal i v → o.real.val = v
  realFrom : o.real = .bool true ∨ i.real = some o.real ∨ ∃ L, LabelIs i L ∧ o.real = .bool L.real
  user : o.user = expectedUser i

theorem reconcileWith_spec {N : NTables} {rd rng i o} (h : reconcileWith N rd rng i = .ok o) : Reconciled N rd rng i o := by
  obtain ⟨zo, lab, clues, late, hz, hzf, hE, hc, hlate, hm, ha, hr, hu⟩ := reconcileWith_ok.mp h
  obtain ⟨x0, hx0, hoff0, hall⟩ := offers_eq hz hzf
  obtain ⟨hx0z, _, hx0m, hx0A, _⟩ := offerZ_ok hoff0
  obtain ⟨_, _, _, _, _, _, hlab, _, _, _⟩ := zStage_ok hz
  obtain ⟨hmem_m, hall_m⟩ := firstPassing_some hm
  obtain ⟨hmem_a, hall_a⟩ := firstPassing_some ha
  obtain ⟨hmem_r, hall_r⟩ := firstPassing_some hr
  obtain ⟨hmem_u, hall_u⟩ := firstPassing_some hu
  have lateOf : ∀ c ∈ clues, ∃ L, offerClue N rd o.E i.mtol.val c = .ok L ∧
      APred.holds L.aPred o.A = true ∧ MPred.holds rd L.mPred o.mass = true := fun c hcm => by
    obtain ⟨L, hL, hoL⟩ := mapM_ok_of_mem_left hlate c hcm
    exact ⟨L, hoL, hall_a _ (List.mem_append_right _ (List.mem_map_of_mem hL)),
      hall_m _ (List.mem_append_right _ (List.mem_map_of_mem hL))⟩
  have claimA : ∀ a, ClaimsA i a → o.A = a ∧ ∃ tm, tableMass N rd (.str (unpack o.E ++ intStr a)) = .ok tm ∧
      absR (rd (o.mass - tm)) ≤ i.mtol.val := fun a hA => by
    obtain ⟨L, hoL, h1, h2⟩ := lateOf _ (clue_of_ClaimsA hlab hc hA)
    obtain ⟨tm, htm, rfl⟩ := offerClue_massNumber.mp hoL
    exact ⟨APred.holds_eq.mp h1, tm, htm, MPred.holds_near.mp h2⟩
  have claimM : ∀ m, ClaimsMass rd i m → o.mass = m ∧ o.A = massToA N rd o.E i.mtol.val m := fun m hM => by
    obtain ⟨L, hoL, h1, h2⟩ := lateOf _ (clue_of_ClaimsMass hlab hc hM)
    cases hoL
    exact ⟨MPred.holds_eq.mp h2, APred.holds_eq.mp h1⟩
  have lateFrom : ∀ L ∈ late, (∃ a, ClaimsA i a ∧ L.a = a ∧ tableMass N rd (.str (unpack o.E ++ intStr a)) = .ok L.m) ∨
      (∃ m, ClaimsMass rd i m ∧ L.m = m) := fun L hL => by
    obtain ⟨c, hcm, hoL⟩ := mapM_ok_of_mem_right hlate L hL
    rcases claim_of_clue hlab hc hcm with ⟨a, rfl, hA⟩ | ⟨m, rfl, hM⟩
    · obtain ⟨tm, htm, rfl⟩ := offerClue_massNumber.mp hoL
      exact .inl ⟨a, hA, rfl, htm⟩
    · cases hoL
      exact .inr ⟨m, hM, rfl⟩
  refine ⟨hE, ?_, ⟨x0, hoff0, hall_a _ (List.mem_append_left _ (List.mem_map_of_mem hx0)),
    hall_m _ (List.mem_append_left _ (List.mem_map_of_mem hx0))⟩, claimA, claimM, ?_, ?_, ?_, ?_, ?_⟩
  · intro z hn
    obtain ⟨x, hx, hxz⟩ := offer_of_NamesZ hz hn
    rw [← hxz, hall x hx, hx0z]
  · rcases List.mem_append.mp hmem_m with hmm | hmm
    · obtain ⟨x, hx, hxm⟩ := List.mem_map.mp hmm
      rw [hall x hx] at hxm
      exact .inl (hxm ▸ hx0m)
    · obtain ⟨L, hL, hLm⟩ := List.mem_map.mp hmm
      rcases lateFrom L hL with ⟨a, hA, _, htm⟩ | ⟨m, hM, e⟩
      · exact .inr (.inl ⟨a, hA, hLm ▸ htm⟩)
      · exact .inr (.inr (by rw [← hLm, e]; exact hM))
  · rcases List.mem_append.mp hmem_a with hmm | hmm
    · obtain ⟨x, hx, hxa⟩ := List.mem_map.mp hmm
      rw [hall x hx] at hxa
      exact .inl (hxa ▸ hx0A)
    · obtain ⟨L, hL, hLa⟩ := List.mem_map.mp hmm
      rcases lateFrom L hL with ⟨a, hA, e, _⟩ | ⟨m, hM, _⟩
      · exact .inr (.inl (by rw [← hLa, e]; exact hA))
      · exact .inr (.inr ⟨m, hM⟩)
  · rintro v (⟨p, hp, rfl⟩ | ⟨L, hL, rfl⟩)
    · simpa using hall_r p (by simp [realClues, hp, optList])
    · cases (labelOf_ok hlab).2 L hL
      simpa using hall_r (PyNum.bool L.real) (by simp [realClues, optList])
  · simp only [realClues, List.mem_cons, List.mem_append, mem_optList_iff, List.mem_map] at hmem_r
    rcases hmem_r with h | h | ⟨L, hL, e⟩
    · exact .inl h
    · exact .inr (.inl h)
    · exact .inr (.inr ⟨L, (labelOf_ok hlab).1 L hL, e.symm⟩)
  · rcases userClues_expected hlab with ⟨h0, he⟩ | h1
    · rw [h0] at hmem_u
      rw [he]
      simpa using hmem_u
    · rw [h1] at hall_u
      simpa using hall_u (expectedUser i) (by simp)

/-- **A supplied mass number is honoured.**  If a mass number `a` was supplied (argument or
label) the result has `A = a`, `E + str(a)` is a tabulated nuclide, and the returned mass is
(float-evaluated) inside its window (`≤ mtol`). -/
theorem supplied_A_window (N : NTables) (rd : Rat → Rat) (rng : Nat → Option Range)
    (i : Input) (o : Output) (h : reconcileWith N rd rng i = .ok o) (a : Int) (hA : ClaimsA i a) :
    o.A = a ∧ ∃ tm, tableMass N rd (.str (unpack o.E ++ intStr a)) = .ok tm ∧ absR (rd (o.mass - tm)) ≤ i.mtol.val :=
  (reconcileWith_spec h).claimA a hA

/-- **Soundness.**  A successful reconciliation
 1. returns a row of the periodic table;
 2. agrees with every element clue (Z, E, label-Z, label-E);
 3. agrees with every mass-number clue and 4. with every mass clue (argument or label);
 5. has `A = −1`, or `E + str(A)` is a tabulated nuclide whose mass equals the returned mass, or is
    (float-evaluated) not further than `mtol` from it;
 6. has `A = −1` or inside the element's tabulated mass-number range, and a mass inside
    `[fl(mmin − 0.5), fl(mmax + 0.5)]`, unless `nonphysical` (then `A = −1 ∨ A ≥ 1`, `mass > 0.5`);
 7. carries the real/ghost value of every real clue (argument, label marker), `True` when there is none;
 8. carries the lower-cased user tag of the label (`''` without one). -/
theorem reconcile_sound (N : NTables) (rd : Rat → Rat) (rng : Nat → Option Range) (hcoh : DefaultCoherent N)
    (i : Input) (o : Output) (h : reconcileWith N rd rng i = .ok o) :
    N.pt.toE (.int o.Z) false = some o.E ∧
    (∀ z, NamesZ N i z → z = o.Z) ∧
    (∀ a, ClaimsA i a → a = o.A) ∧
    (∀ m, ClaimsMass rd i m → m = o.mass) ∧
    (o.A = -1 ∨ ∃ tm, tableMass N rd (.str (unpack o.E ++ intStr o.A)) = .ok tm ∧
        (tm = o.mass ∨ absR (rd (tm - o.mass)) ≤ i.mtol.val ∨ absR (rd (o.mass - tm)) ≤ i.mtol.val)) ∧
    (∃ r, rng o.E = some r ∧
        (if i.nonphysical then (o.A = -1 ∨ 1 ≤ o.A) ∧ 1/2 < o.mass
         else (o.A = -1 ∨ (r.amin ≤ o.A ∧ o.A ≤ r.amax)) ∧
              rd (r.mmin - 1/2) ≤ o.mass ∧ o.mass ≤ rd (r.mmax + 1/2))) ∧
    (∀ v, ClaimsReal i v → o.real.val = v) ∧
    ((∀ v, ¬ ClaimsReal i v) → o.real = .bool true) ∧
    o.user = expectedUser i := by
  have S := reconcileWith_spec h
  -- a mass claim settles the nuclide clause through `massToA`
  have viaM : ∀ m, ClaimsMass rd i m → o.A = -1 ∨ ∃ tm, tableMass N rd (.str (unpack o.E ++ intStr o.A)) = .ok tm ∧
      (tm = o.mass ∨ absR (rd (tm - o.mass)) ≤ i.mtol.val ∨ absR (rd (o.mass - tm)) ≤ i.mtol.val) := fun m hM => by
    obtain ⟨e1, e2⟩ := S.claimM m hM
    rcases massToA_spec N rd o.E i.mtol.val m with hneg | ⟨tm, htm, hle, _⟩
    · exact .inl (e2.trans hneg)
    · exact .inr ⟨tm, e2 ▸ htm, .inr (.inl (e1 ▸ hle))⟩
  have viaA : ∀ a, ClaimsA i a → ∃ tm, tableMass N rd (.str (unpack o.E ++ intStr o.A)) = .ok tm ∧
      (tm = o.mass ∨ absR (rd (tm - o.mass)) ≤ i.mtol.val ∨ absR (rd (o.mass - tm)) ≤ i.mtol.val) := fun a hA => by
    obtain ⟨e, tm, htm, hle⟩ := S.claimA a hA
    exact ⟨tm, e ▸ htm, .inr (.inr hle)⟩
  refine ⟨S.E, S.names, fun a hA => (S.claimA a hA).1.symm, fun m hM => (S.claimM m hM).1.symm, ?_, ?_, S.real, ?_, S.user⟩
  · rcases S.AFrom with ⟨a0, ha0, hA0⟩ | hA | ⟨m, hM⟩
    · rcases S.massFrom with hm | ⟨a, hA, _⟩ | hM
      · refine .inr ⟨o.mass, ?_, .inl rfl⟩
        rw [tableMass_ok] at hm ⊢
        rwa [hA0, hcoh o.Z o.E a0 S.E ha0]
      · exact .inr (viaA a hA)
      · exact viaM _ hM
    · exact .inr (viaA _ hA)
    · exact viaM m hM
  · obtain ⟨x, hoff, h1, h2⟩ := S.offer
    obtain ⟨_, hxE, _, _, r, hr0, hap, hmp⟩ := offerZ_ok hoff
    refine ⟨r, Option.some.inj (S.E.symm.trans hxE) ▸ hr0, ?_⟩
    rw [hap] at h1; rw [hmp] at h2
    cases hnp : i.nonphysical <;> rw [hnp] at h1 h2 <;> simp [APred.holds] at h1 <;> simp [MPred.holds] at h2 <;>
      simp only [if_true, Bool.false_eq_true, if_false] <;> exact ⟨h1, h2⟩
  · intro hnone
    rcases S.realFrom with h | h | ⟨L, hL, _⟩
    · exact h
    · exact absurd (.inl ⟨_, h, rfl⟩) (hnone o.real.val)
    · exact absurd (.inr ⟨L, hL, rfl⟩) (hnone (PyNum.bool L.real).val)

/-- **Default isotope.**  With no mass-number and no mass clue (argument or label) a successful
reconciliation returns the table's default isotope of the element: `(to_A(Z), float(to_mass(Z)))`. -/
theorem reconcile_default (N : NTables) (rd : Rat → Rat) (rng : Nat → Option Range)
    (i : Input) (o : Output) (h : reconcileWith N rd rng i = .ok o)
    (hA : ∀ a, ¬ ClaimsA i a) (hM : ∀ m, ¬ ClaimsMass rd i m) :
    (∃ a : Nat, N.pt.toA (.int o.Z) = some a ∧ o.A = (a : Int)) ∧ tableMass N rd (.int o.Z) = .ok o.mass := by
  have S := reconcileWith_spec h
  refine ⟨?_, ?_⟩
  · rcases S.AFrom with h | h | ⟨m, h⟩
    · exact h
    · exact absurd h (hA _)
    · exact absurd h (hM _)
  · rcases S.massFrom with h | ⟨a, h, _⟩ | h
    · exact h
    · exact absurd h (hA _)
    · exact absurd h (hM _)

theorem not_ok_is_error {α} (x : Except Err α) (h : ∀ a, x ≠ .ok a) : ∃ e, x = .error e := by
  cases x with
  | error e => exact ⟨e, rfl⟩
  | ok a => exact absurd rfl (h a)

/-- two element clues (any of Z, E, label-Z, label-E) naming different atomic numbers: error -/
theorem conflict_element (N : NTables) (rd : Rat → Rat) (rng : Nat → Option Range) (hcoh : DefaultCoherent N)
    (i : Input) (z₁ z₂ : Int) (h₁ : NamesZ N i z₁) (h₂ : NamesZ N i z₂) (hne : z₁ ≠ z₂) :
    ∃ e, reconcileWith N rd rng i = .error e := by
  apply not_ok_is_error
  intro o ho
  have hs := (reconcile_sound N rd rng hcoh i o ho).2.1
  exact hne ((hs z₁ h₁).trans (hs z₂ h₂).symm)

/-- sharper: when every element clue individually names an element (first stage succeeds) but two of
them differ, the error is the ValidationError for "atomic number" -/
theorem conflict_element_validation (N : NTables) (rd : Rat → Rat) (rng : Nat → Option Range)
    (i : Input) (zo : List ZOffer) (lab : Option Label) (hz : zStage N rd rng i = .ok (zo, lab))
    (x y : ZOffer) (hx : x ∈ zo) (hy : y ∈ zo) (hne : x.z ≠ y.z) :
    reconcileWith N rd rng i = .error (.validation .atomicNumber) := by
  have hnone : firstPassing (fun (p c : Int) => c == p) (zo.map (·.z)) (zo.map (·.z)) = none := by
    cases hf : firstPassing (fun (p c : Int) => c == p) (zo.map (·.z)) (zo.map (·.z)) with
    | none => rfl
    | some Z =>
      obtain ⟨_, hall⟩ := firstPassing_some hf
      have e1 := hall x.z (List.mem_map.mpr ⟨x, hx, rfl⟩)
      have e2 := hall y.z (List.mem_map.mpr ⟨y, hy, rfl⟩)
      simp at e1 e2
      exact absurd (e1.symm.trans e2) hne
  unfold reconcileWith
  simp only [hz, bind, Except.bind, hnone, ofOpt]

/-- two mass-number clues (argument, label) with different values: error -/
theorem conflict_mass_number (N : NTables) (rd : Rat → Rat) (rng : Nat → Option Range) (hcoh : DefaultCoherent N)
    (i : Input) (a₁ a₂ : Int) (h₁ : ClaimsA i a₁) (h₂ : ClaimsA i a₂) (hne : a₁ ≠ a₂) :
    ∃ e, reconcileWith N rd rng i = .error e := by
  apply not_ok_is_error
  intro o ho
  have hs := (reconcile_sound N rd rng hcoh i o ho).2.2.1
  exact hne ((hs a₁ h₁).trans (hs a₂ h₂).symm)

/-- two mass clues (argument, label) with different float values: error -/
theorem conflict_mass (N : NTables) (rd : Rat → Rat) (rng : Nat → Option Range) (hcoh : DefaultCoherent N)
    (i : Input) (m₁ m₂ : Rat) (h₁ : ClaimsMass rd i m₁) (h₂ : ClaimsMass rd i m₂) (hne : m₁ ≠ m₂) :
    ∃ e, reconcileWith N rd rng i = .error e := by
  apply not_ok_is_error
  intro o ho
  have hs := (reconcile_sound N rd rng hcoh i o ho).2.2.2.1
  exact hne ((hs m₁ h₁).trans (hs m₂ h₂).symm)

/-- a mass-number clue `a` and a mass clue `m` for the element named `z`: unless `E + str(a)` is tabulated
and `m` is (float-evaluated) inside its window (`≤ mtol`), error -/
theorem conflict_mass_number_vs_mass (N : NTables) (rd : Rat → Rat) (rng : Nat → Option Range) (hcoh : DefaultCoherent N)
    (i : Input) (z a : Int) (m : Rat) (sym : Nat) (hz : NamesZ N i z) (hsym : N.pt.toE (.int z) false = some sym)
    (hA : ClaimsA i a) (hM : ClaimsMass rd i m)
    (hout : ∀ tm, tableMass N rd (.str (unpack sym ++ intStr a)) = .ok tm → ¬ absR (rd (m - tm)) ≤ i.mtol.val) :
    ∃ e, reconcileWith N rd rng i = .error e := by
  apply not_ok_is_error
  intro o ho
  obtain ⟨hE, hZ, _, hMs, _⟩ := reconcile_sound N rd rng hcoh i o ho
  obtain ⟨_, tm, htm, hlt⟩ := supplied_A_window N rd rng i o ho a hA
  have e1 := hZ z hz
  subst e1
  rw [hE] at hsym; cases hsym
  rw [← hMs m hM] at hlt
  exact hout tm htm hlt

/-- a real argument and a label ghost marker (or two of them) with different values: error -/
theorem conflict_real (N : NTables) (rd : Rat → Rat) (rng : Nat → Option Range) (hcoh : DefaultCoherent N)
    (i : Input) (v₁ v₂ : Rat) (h₁ : ClaimsReal i v₁) (h₂ : ClaimsReal i v₂) (hne : v₁ ≠ v₂) :
    ∃ e, reconcileWith N rd rng i = .error e := by
  apply not_ok_is_error
  intro o ho
  have hs := (reconcile_sound N rd rng hcoh i o ho).2.2.2.2.2.2.1
  exact hne ((hs v₁ h₁).symm.trans (hs v₂ h₂))

/-- an unparseable label offered as a nucleus specification: the call is an error.  (Which one is not stated: in the
model it is `.unparseable`, the ValidationError "not parseable", unless the Z or E argument, consulted first, already
failed, e.g. with NotAnElement.) -/
theorem unparseable_label (N : NTables) (rd : Rat → Rat) (rng : Nat → Option Range)
    (i : Input) (l : Bytes) (hl : i.label = some l) (hs : i.speclabel = true) (hp : parseLabel l = none) :
    ∃ e, reconcileWith N rd rng i = .error e := by
  apply not_ok_is_error
  intro o ho
  obtain ⟨zo, lab, _, _, hz, _⟩ := reconcileWith_ok.mp ho
  obtain ⟨_, _, _, _, _, _, hlab, _⟩ := zStage_ok hz
  unfold labelOf at hlab
  simp only [hl, hs, hp, ofOpt, Except.map] at hlab
  cases hlab

end QcelVerif.Nucleus
