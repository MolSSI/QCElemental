import QcelVerif.Props.C08
/-!
# C08 — sibling molecules are told apart by their atom labels

Molecules that differ only in user labels, or only in which atoms are ghosts, are spelled differently: the theorems are
about the label `spell` of one atom.  That the label is part of the atom's line is `formatter_lists_shown_atoms` with
`spelling` (Props/C08.lean); no statement about whole texts is made here.
-/
namespace QcelVerif.ToString

/-- nwchem and psi4 write the user label: two atoms of the same kind (both real or both ghost) that are spelled alike
have the same symbol-plus-label text -/
theorem spell_tells_labels_apart (d : Dtype) (a b : Atom) (hd : d = .nwchem ∨ d = .psi4)
    (hr : a.real = b.real) (h : spell d a = spell d b) : a.elem ++ a.elbl = b.elem ++ b.elbl := by
  have hb : b.real = a.real := hr.symm
  rcases hd with rfl | rfl <;> cases ha : a.real <;> rw [ha] at hb <;> simp [spell, ha, hb] at h
  · exact h
  · exact h
  · have h' : (a.elem ++ a.elbl) ++ [')'] = (b.elem ++ b.elbl) ++ [')'] := by simpa [List.append_assoc] using h
    exact List.append_cancel_right h'
  · exact h

/-- non-vacuity (test): the labels `a` / `b` on the same hydrogen are spelled differently by nwchem -/
example : spell .nwchem ⟨-1, 1, ['H'], [], ['a'], true, []⟩ ≠ spell .nwchem ⟨-1, 1, ['H'], [], ['b'], true, []⟩ := by decide

/-- every format but molpro / mrchem / turbomole / sdf spells a ghost differently from the real atom of the same element,
label and atomic number (those four name ghosts elsewhere: molpro's dummy card, sdf's ghost word; mrchem / turbomole
not at all); for cfour / madness the element symbol must not itself be the ghost word `GH` (no element is) -/
theorem spell_tells_ghost_apart (d : Dtype) (a b : Atom)
    (hd : d ≠ .molpro ∧ d ≠ .mrchem ∧ d ≠ .turbomole ∧ d ≠ .sdf)
    (he : b.elem = a.elem) (hl : b.elbl = a.elbl) (hz : b.elez = a.elez) (hne : a.elem ≠ ['G', 'H'])
    (hra : a.real = true) (hrb : b.real = false) : spell d a ≠ spell d b := by
  obtain ⟨h1, h2, h3, h4⟩ := hd
  intro h
  cases d <;> simp [spell, hra, hrb, he, hl, hz] at h h1 h2 h3 h4
  all_goals first
    | exact hne h
    | (have hlen := congrArg List.length h; simp at hlen; done)
    | (have hlen := congrArg List.length h; simp at hlen; omega)
    | skip
  -- gamess: E ++ (L ++ ' ' :: Z) = E ++ ' ' :: '-' :: Z forces |L| = 1, and then ' ' = '-'
  have hlen := congrArg List.length h
  simp at hlen
  match hL : a.elbl, hlen with
  | [c], _ =>
    rw [hL] at h
    simp at h
  | [], hlen => simp at hlen
  | _ :: _ :: _, hlen => simp at hlen; omega

/-- non-vacuity (test): ghost helium, psi4 -/
example : spell .psi4 ⟨-1, 2, ['H', 'e'], [], [], true, []⟩ ≠ spell .psi4 ⟨-1, 2, ['H', 'e'], [], [], false, []⟩ := by decide

end QcelVerif.ToString
