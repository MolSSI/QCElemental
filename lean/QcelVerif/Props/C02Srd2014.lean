import QcelVerif.Lemmas.CodataBuild
import QcelVerif.Gen.Codata2014
/-! C02 table theorem: shipped 2014 table vs the SRD-121 JSON it was generated from (kernel evaluation). -/
namespace QcelVerif.Codata
open QcelVerif

/-- **The shipped 2014 table is literally what the 2014 build script makes of the SRD-121 JSON** (units compared exactly). -/
theorem shipped_eq_srd121_2014 :
    tableMatchesJson Gen.Codata2014.shipped Gen.Codata2014.srd = true :=
  tableMatchesJson_of_pairs (by decide +kernel)

end QcelVerif.Codata
