import QcelVerif.Lemmas.Mill
/-!
# C13 — an alignment recipe transforms coordinates, gradients and Hessians covariantly

Model: `Model/Mill.lean` (`AlignmentMill.align_*` of `qcelemental/models/align.py`, and
`blockwise_expand/contract` of `qcelemental/util/np_blockwise.py`), written over core arithmetic
classes; every theorem here is about those very definitions, for every commutative ring `K`
(so over ℝ and ℚ), every number of atoms `n`, every recipe with `R Rᵀ = I` (`IsOrtho`) and a
bijective atom map, mirror on and off unless a hypothesis says otherwise.

The step from these algebraic clauses to "gradient / Hessian covariance for EVERY invariant energy"
(Fréchet derivatives over ℝ) is proved in `Props/C13Calculus.lean`.
-/
namespace QcelVerif.Mill
open Finset

variable {K : Type} [CommRing K]

/-! ## Reordering into blocks and back is lossless -/

theorem blockwise_roundtrip {α : Type} {gr gc lr lc : Nat} (a : Fin (gr * lr) → Fin (gc * lc) → α) :
    blockwiseContract (blockwiseExpand a) = a := by
  funext r c
  simp only [blockwiseContract, blockwiseExpand, idx_blk_off]

theorem blockwise_roundtrip' {α : Type} {gr gc lr lc : Nat} (b : Fin gr → Fin gc → Fin lr → Fin lc → α) :
    blockwiseExpand (blockwiseContract b) = b := by
  funext i j p q
  simp only [blockwiseContract, blockwiseExpand, blk_idx, off_idx]

/-! ## The coordinate map is affine with linear part `J`; the gradient transform *is* `J` -/

/-- `align_coordinates(x + d) − align_coordinates(x) = J d` : the map is affine, `J` (reflect `y` if
mirror, rotate, permute atoms; `Lemmas/Mill.lean`) is its differential, for any recipe. -/
theorem coords_affine {n m : Nat} (r : Recipe K n m) (x d : Geom K n) (i : Fin m) (a : Fin 3) :
    alignCoords r (fun i a => x i a + d i a) i a - alignCoords r x i a = J r d i a := by
  rw [alignCoords_apply, alignCoords_apply]
  simp only [pointMap, J, frame, sum3]
  ring

theorem gradient_is_J {n m : Nat} (r : Recipe K n m) (g : Geom K n) : alignGradient r g = J r g :=
  alignGradient_eq_J r g

/-- `⟨J d, align_gradient g⟩ = ⟨d, g⟩` : first-order energy changes are the same before and after. -/
theorem pairing_preserved {n m : Nat} (r : Recipe K n m) (hR : IsOrtho r.rot)
    (hmap : Function.Bijective r.map) (d g : Geom K n) :
    ∑ i, sum3 (fun a => J r d i a * alignGradient r g i a) = ∑ i, sum3 (fun a => d i a * g i a) := by
  rw [gradient_is_J]
  exact J_inner r hR hmap d g

/-! ## Hessian -/

/-- entrywise: `align_hessian(H)[(i,a),(j,b)] = Σ_cd F[c,a] · H[(map i,c),(map j,d)] · F[d,b]`, `F` the
frame of `J` (mirror included) — i.e. `align_hessian H = Jᵀ-conjugate of H`. -/
theorem hessian_is_JtHJ {n m : Nat} (r : Recipe K n m) (H : Hess K n) (i j : Fin m) (a b : Fin 3) :
    alignHessian r H (idx i a) (idx j b)
      = sum3 fun c => sum3 fun d => frame r c a * H (idx (r.map i) c) (idx (r.map j) d) * frame r d b := by
  rw [alignHessian_apply]; simp only [blk_idx, off_idx]

/-- `(J d)ᵀ · align_hessian(H) · (J e) = dᵀ H e` : second-order energy changes are the same before and
after, **for mirrored recipes too** (`align_hessian` consults the mirror flag; a transform that
ignores it fails this, see `hessian_mirror_counterexample`). -/
theorem hessian_form_preserved {n m : Nat} (r : Recipe K n m) (hR : IsOrtho r.rot)
    (hmap : Function.Bijective r.map) (H : Hess K n) (d e : Geom K n) :
    bilin (alignHessian r H) (flat (J r d)) (flat (J r e)) = bilin H (flat d) (flat e) := by
  rw [bilin_blocks, bilin_blocks]
  refine Fintype.sum_bijective r.map hmap _ _ fun i => Fintype.sum_bijective r.map hmap _ _ fun j => ?_
  simp only [hessian_is_JtHJ]
  exact form3 (frame_ortho r hR) (d (r.map i)) (e (r.map j)) (fun c d' => H (idx (r.map i) c) (idx (r.map j) d'))

/-! ## Per-atom arrays and coordinates use the same atom map -/

/-- `align_atoms(a)[i] = a[map i]`, and row `i` of the aligned geometry is the image of row `map i`
under one affine map `pointMap r` that does not depend on the atom. -/
theorem atoms_same_map {α : Type} {n m : Nat} (r : Recipe K n m) (ats : Fin n → α) (x : Geom K n) (i : Fin m) :
    alignAtoms r.map ats i = ats (r.map i) ∧ alignCoords r x i = pointMap r (x (r.map i)) :=
  ⟨rfl, alignCoords_apply r x i⟩

/-- the coordinate transforms (forward and reverse) move the molecule rigidly: all squared
interatomic distances are kept (with the atom map applied) -/
theorem coords_isometry {n m : Nat} (r : Recipe K n m) (hR : IsOrtho r.rot) (x : Geom K n) (i j : Fin m) :
    dist2 (alignCoords r x) i j = dist2 x (r.map i) (r.map j)
    ∧ dist2 (alignCoordsRev r x) i j = dist2 x (r.map i) (r.map j) :=
  ⟨dist2_align r hR x i j, dist2_alignRev r hR x i j⟩

/-! ## Attached vectors (recipes without mirror) -/

/-- displacement vectors between atoms — the prototype of a vector attached to the molecule — are
transformed by `align_vector` exactly as the coordinates are, when `mirror = false` -/
theorem vector_rotates {n m : Nat} (r : Recipe K n m) (hm : r.mirror = false) (x : Geom K n) (i j : Fin m) (a : Fin 3) :
    alignCoords r x i a - alignCoords r x j a
      = alignVector r (fun c => x (r.map i) c - x (r.map j) c) a := by
  rw [alignCoords_sub, frame_of_not_mirror r hm]
  rfl

/-- chain rule for nuclear derivatives of a vector: if `D` is the `(3,3n)` Jacobian of a vector `μ`
w.r.t. the coordinates, then `align_vector_gradient D` maps a displaced aligned geometry `J d` to the
aligned change of the vector, `align_vector (D d)` (mirror off). -/
theorem vector_gradient_chain {n : Nat} (r : Recipe K n n) (hm : r.mirror = false) (hR : IsOrtho r.rot)
    (hmap : Function.Bijective r.map) (D : Fin 3 → Fin (n * 3) → K) (d : Geom K n) (a' : Fin 3) :
    ∑ c, alignVectorGradient r D a' c * flat (J r d) c
      = alignVector r (fun a => ∑ c, D a c * flat d c) a' := by
  have hF := frame_of_not_mirror r hm
  simp only [sum_flat, flat, blk_idx, off_idx, alignVector, rowDot]
  have key : ∀ i : Fin n, ∑ b' : Fin 3, alignVectorGradient r D a' (idx i b') * J r d i b'
      = sum3 fun a => (∑ b : Fin 3, D a (idx (r.map i) b) * d (r.map i) b) * r.rot a a' := by
    intro i
    -- row `a'` of `Rᵀ D_i R` is `(Rᵀ D_i)_{a'} · R`, and `(J d)_i = d_{map i} · R`: a dot product of two rotated rows
    have h := pair3 hR (fun b => sum3 fun a => r.rot a a' * D a (idx (r.map i) b)) (d (r.map i))
    simp only [alignVectorGradient_apply, J, hF, blk_idx, off_idx, Fin.sum_univ_three, sum3, rowDot] at h ⊢
    linear_combination h
  simp only [key]
  rw [hmap.sum_comp (fun i' => sum3 fun a => (∑ b : Fin 3, D a (idx i' b) * d i' b) * r.rot a a')]
  simp only [sum3, Finset.sum_add_distrib, Finset.sum_mul]


/-! ## The fully formal instance: polynomial pair energies

`E_{k,c}(x) = Σ_{i<j} k_ij (|x_i − x_j|² − c_ij)²` with arbitrary couplings (`Lemmas/Mill.lean`:
`energy`, `gradE`, `hessE`; the latter two are the formal derivatives, see `gradE_is_derivative`,
`hessE_is_derivative`).  The atom map acts on the couplings: `k'_{ij} = k_{map i, map j}`. -/

/-- gradient at the aligned geometry = aligned gradient -/
theorem energy_gradient_covariance {n m : Nat} (r : Recipe K n m) (hR : IsOrtho r.rot)
    (hmap : Function.Bijective r.map) (k c : Fin n → Fin n → K) (x : Geom K n) :
    gradE (permute r.map k) (permute r.map c) (alignCoords r x) = alignGradient r (gradE k c x) := by
  funext i a
  rw [gradient_is_J]
  unfold gradE J permute
  simp only [dist2_align r hR, alignCoords_sub, rowDot, sum3, Finset.sum_mul, ← Finset.sum_add_distrib]
  refine Fintype.sum_bijective r.map hmap _ _ fun j => ?_
  ring

/-- Hessian at the aligned geometry = aligned Hessian, for every recipe including mirrored ones -/
theorem energy_hessian_covariance {n m : Nat} (r : Recipe K n m) (hR : IsOrtho r.rot)
    (hmap : Function.Bijective r.map) (k c : Fin n → Fin n → K) (x : Geom K n) :
    hessE (permute r.map k) (permute r.map c) (alignCoords r x) = alignHessian r (hessE k c x) := by
  funext s t
  rw [alignHessian_apply]
  unfold hessE
  simp only [blk_idx, off_idx, Tblk_cov r hR]
  by_cases hij : blk s = blk t
  · simp only [hij, if_true]
    simp only [sum3, Finset.mul_sum, Finset.sum_mul, ← Finset.sum_add_distrib]
    refine Fintype.sum_bijective r.map hmap _ _ fun l => ?_
    simp only [hmap.1.eq_iff]
    split_ifs <;> ring
  · have hσ : r.map (blk s) ≠ r.map (blk t) := fun h => hij (hmap.1 h)
    simp only [hij, hσ, if_false, sum3]
    ring


/-- `gradE` is the formal derivative of `energy`: along every line `x + t d` the energy is a quartic
polynomial in `t` whose linear coefficient is `⟨gradE x, d⟩` (coefficients do not depend on `t`). -/
theorem gradE_is_derivative {n : Nat} (k c : Fin n → Fin n → K) (hk : ∀ i j, k i j = k j i)
    (hc : ∀ i j, c i j = c j i) (x d : Geom K n) :
    ∃ q2 q3 q4 : K, ∀ t : K,
      energy k c (fun i a => x i a + t * d i a)
        = energy k c x + t * (∑ i, sum3 fun a => gradE k c x i a * d i a)
          + t ^ 2 * q2 + t ^ 3 * q3 + t ^ 4 * q4 := by
  refine ⟨∑ i, ∑ j, if i < j then
            k i j * (4 * dist2Pol x d i j ^ 2 + 2 * (dist2 x i j - c i j) * dist2 d i j) else 0,
          ∑ i, ∑ j, if i < j then 4 * k i j * dist2Pol x d i j * dist2 d i j else 0,
          ∑ i, ∑ j, if i < j then k i j * dist2 d i j ^ 2 else 0, ?_⟩
  intro t
  -- the pairing with the gradient, folded onto the pairs `i < j`
  have hgrad : (∑ i, sum3 fun a => gradE k c x i a * d i a)
      = ∑ i, ∑ j, if i < j then 4 * k i j * (dist2 x i j - c i j) * dist2Pol x d i j else 0 := by
    have h1 : (∑ i, sum3 fun a => gradE k c x i a * d i a)
        = ∑ i, ∑ j, 4 * k i j * (dist2 x i j - c i j) * (sum3 fun a => (x i a - x j a) * d i a) := by
      apply sum_congr rfl; intro i _
      simp only [gradE, sum3, Finset.sum_mul, ← Finset.sum_add_distrib]
      apply sum_congr rfl; intro j _; ring
    rw [h1, sum_offdiag_symm _ (by intro i; simp [sum3])]
    apply sum_congr rfl; intro i _; apply sum_congr rfl; intro j _
    split_ifs
    · simp only [dist2Pol, sum3, hk j i, hc j i, dist2_symm x j i]; ring
    · rfl
  rw [hgrad]
  unfold energy
  simp only [Finset.mul_sum, ← Finset.sum_add_distrib]
  apply sum_congr rfl; intro i _; apply sum_congr rfl; intro j _
  split_ifs
  · simp only [pairE, dist2_line]; ring
  · simp


/-- `hessE` is the formal derivative of `gradE`: along every line `x + t e` each gradient component is a
cubic polynomial in `t` whose linear coefficient is `(hessE x · e)` (no symmetry needed). -/
theorem hessE_is_derivative {n : Nat} (k c : Fin n → Fin n → K) (x e : Geom K n) :
    ∃ q2 q3 : Geom K n, ∀ (t : K) (i : Fin n) (a : Fin 3),
      gradE k c (fun i a => x i a + t * e i a) i a
        = gradE k c x i a + t * (∑ s, hessE k c x (idx i a) s * flat e s)
          + t ^ 2 * q2 i a + t ^ 3 * q3 i a := by
  refine ⟨fun i a => ∑ j, 4 * k i j * (2 * dist2Pol x e i j * (e i a - e j a) + dist2 e i j * (x i a - x j a)),
          fun i a => ∑ j, 4 * k i j * dist2 e i j * (e i a - e j a), ?_⟩
  intro t i a
  rw [hessE_mulVec]
  simp only [gradE, Tblk_mulVec, dist2_line, Finset.mul_sum, ← Finset.sum_add_distrib]
  apply sum_congr rfl; intro j _
  simp only [dist2Pol]; ring


/-- the energy itself is invariant (symmetric couplings, atom map acting on them) -/
theorem energy_invariant {n m : Nat} (r : Recipe K n m) (hR : IsOrtho r.rot)
    (hmap : Function.Bijective r.map) (k c : Fin n → Fin n → K) (hk : ∀ i j, k i j = k j i)
    (hc : ∀ i j, c i j = c j i) (x : Geom K n) :
    energy (permute r.map k) (permute r.map c) (alignCoords r x) = energy k c x := by
  have hp : ∀ i j : Fin m, pairE (permute r.map k) (permute r.map c) (alignCoords r x) i j
      = pairE k c x (r.map i) (r.map j) := by
    intro i j; simp only [pairE, permute, dist2_align r hR]
  have hsym : ∀ i j : Fin n, pairE k c x i j = pairE k c x j i := by
    intro i j; simp only [pairE, hk i j, hc i j, dist2_symm x i j]
  unfold energy
  simp only [hp]
  -- fold the target over the image order, then reindex
  have h1 : ∑ i : Fin m, ∑ j : Fin m, (if r.map i < r.map j then pairE k c x (r.map i) (r.map j) else 0)
      = ∑ i : Fin m, ∑ j : Fin m, if i < j then pairE k c x (r.map i) (r.map j) else 0 := by
    rw [sum_offdiag_symm _ (by intro i; simp)]
    apply sum_congr rfl; intro i _; apply sum_congr rfl; intro j _
    split_ifs with hij h1 h2 h2
    · exact absurd h2 (lt_asymm h1)
    · simp
    · simp [hsym (r.map j) (r.map i)]
    · exfalso
      rcases lt_trichotomy (r.map i) (r.map j) with h | h | h
      · exact h1 h
      · exact (ne_of_lt hij) (hmap.1 h)
      · exact h2 h
    · rfl
  rw [← h1]
  exact Fintype.sum_bijective r.map hmap _ _ fun i => Fintype.sum_bijective r.map hmap _ _ fun j => rfl


/-! ## The formal instance for attached vectors (mirror off)

`μ_w(x) = Σ_{i,j} w_ij |x_i − x_j|² (x_i − x_j)` with arbitrary weights and its explicit nuclear
derivatives `fieldD` (`Lemmas/Mill.lean`; `fieldD` is the formal derivative of `fieldMu`, see
`field_is_derivative`). -/

/-- the vector at the aligned geometry = `align_vector` of the vector; its nuclear derivatives at the
aligned geometry = `align_vector_gradient` of the derivatives -/
theorem field_covariance {n : Nat} (r : Recipe K n n) (hm : r.mirror = false) (hR : IsOrtho r.rot)
    (hmap : Function.Bijective r.map) (w : Fin n → Fin n → K) (x : Geom K n) :
    fieldMu (permute r.map w) (alignCoords r x) = alignVector r (fieldMu w x)
    ∧ fieldD (permute r.map w) (alignCoords r x) = alignVectorGradient r (fieldD w x) := by
  have hF := frame_of_not_mirror r hm
  constructor
  · funext a
    unfold fieldMu alignVector permute
    simp only [dist2_align r hR, alignCoords_sub, hF, rowDot, sum3, Finset.sum_mul, ← Finset.sum_add_distrib]
    refine Fintype.sum_bijective r.map hmap _ _ fun i => Fintype.sum_bijective r.map hmap _ _ fun j => ?_
    ring
  · funext a s
    unfold fieldD permute
    simp only [alignVectorGradient_apply, Pblk_cov r hR, hF, blk_idx, off_idx, sum3, Finset.mul_sum, Finset.sum_mul,
      ← Finset.sum_add_distrib]
    refine Fintype.sum_bijective r.map hmap _ _ fun j => ?_
    ring


/-- `fieldD` is the formal derivative of `fieldMu`: along every line `x + t e` each component of the
field is a cubic polynomial in `t` whose linear coefficient is `(fieldD x · e)`. -/
theorem field_is_derivative {n : Nat} (w : Fin n → Fin n → K) (x e : Geom K n) :
    ∃ q2 q3 : Vec3 K, ∀ (t : K) (a : Fin 3),
      fieldMu w (fun i a => x i a + t * e i a) a
        = fieldMu w x a + t * (∑ s, fieldD w x a s * flat e s) + t ^ 2 * q2 a + t ^ 3 * q3 a := by
  refine ⟨fun a => ∑ i, ∑ j, w i j * (2 * dist2Pol x e i j * (e i a - e j a) + dist2 e i j * (x i a - x j a)),
          fun a => ∑ i, ∑ j, w i j * dist2 e i j * (e i a - e j a), ?_⟩
  intro t a
  -- `fieldD x · e`, with the sum over the second atom of each pair moved onto the first
  have hD : (∑ s, fieldD w x a s * flat e s)
      = ∑ i, ∑ j, w i j * ∑ b : Fin 3, Pblk x i j a b * (e i b - e j b) := by
    rw [sum_flat]
    simp only [fieldD, flat, blk_idx, off_idx]
    have h2 : (∑ i, ∑ j, w i j * ∑ b : Fin 3, Pblk x i j a b * e j b)
        = ∑ i, ∑ j, w j i * ∑ b : Fin 3, Pblk x i j a b * e i b := by
      rw [Finset.sum_comm]
      apply sum_congr rfl; intro i _; apply sum_congr rfl; intro j _
      simp only [Pblk_symm x j i]
    have h3 : (∑ i, ∑ j, w i j * ∑ b : Fin 3, Pblk x i j a b * (e i b - e j b))
        = (∑ i, ∑ j, w i j * ∑ b : Fin 3, Pblk x i j a b * e i b)
          - ∑ i, ∑ j, w i j * ∑ b : Fin 3, Pblk x i j a b * e j b := by
      simp only [← Finset.sum_sub_distrib, ← mul_sub]
    rw [h3, h2]
    simp only [← Finset.sum_sub_distrib]
    apply sum_congr rfl; intro i _
    simp only [Fin.sum_univ_three, Finset.sum_mul, ← Finset.sum_add_distrib]
    apply sum_congr rfl; intro j _
    ring
  rw [hD]
  simp only [fieldMu, Pblk_mulVec, dist2_line, Finset.mul_sum, ← Finset.sum_add_distrib]
  apply sum_congr rfl; intro i _; apply sum_congr rfl; intro j _
  simp only [dist2Pol]; ring


/-! ## Non-vacuity: the hypotheses are met by a non-trivial recipe (tests, by evaluation)

rotation by 90° about `z`, shift `(1,-2,3)`, atom map the 3-cycle `0→1→2→0`, mirror on, over `ℤ`. -/

/-- the recipe described above -/
def exRecipe : Recipe ℤ 3 3 where
  shift := fun c => if c.val = 0 then 1 else if c.val = 1 then -2 else 3
  rot := fun a b =>
    if a.val = 0 ∧ b.val = 1 then -1 else if a.val = 1 ∧ b.val = 0 then 1
    else if a.val = 2 ∧ b.val = 2 then 1 else 0
  map := fun i => ⟨(i.val + 1) % 3, Nat.mod_lt _ (by decide)⟩
  mirror := true

theorem exRecipe_ortho : IsOrtho exRecipe.rot := by unfold IsOrtho; decide

theorem exRecipe_bij : Function.Bijective exRecipe.map := by
  constructor
  · intro a b; revert a b; decide
  · intro b; revert b; decide

example : IsOrtho exRecipe.rot := exRecipe_ortho

example : Function.Bijective exRecipe.map := exRecipe_bij

/-- (test) on this recipe mirror, shift, rotation and atom map all act:
atom 0 of the result is the image of atom 1 = (1,2,3): reflect → (1,-2,3), shift → (0,0,0) -/
example : ∀ a, alignCoords exRecipe
    (fun i c => if i.val = 1 then ((c.val : ℤ) + 1) else 5) 0 a = 0 := by decide

/-- (test) and atom 2 is the image of atom 0 = (5,5,5): reflect (5,-5,5), shift (4,-3,2), rotate (-3,-4,2) -/
example : alignCoords exRecipe (fun i c => if i.val = 1 then ((c.val : ℤ) + 1) else 5) 2 1 = -4 := by decide

/-! ## An `align_hessian` that ignores the mirror flag violates the Hessian clause -/

/-- one atom, rotation by 90° about `z`, mirror on -/
def exRecipe1 : Recipe ℤ 1 1 where
  shift := fun _ => 0
  rot := exRecipe.rot
  map := fun i => i
  mirror := true

/-- `align_hessian` with the mirror flag not consulted -/
def alignHessianOld {n m : Nat} (r : Recipe ℤ n m) (H : Hess ℤ n) : Hess ℤ m :=
  alignHessian { r with mirror := false } H

/-- (test, by evaluation) that transformation does **not** preserve the Hessian form on a
mirrored recipe — `hessian_form_preserved` really depends on the mirror handling -/
theorem hessian_mirror_counterexample :
    ∃ (H : Hess ℤ 1) (d e : Geom ℤ 1),
      bilin (alignHessianOld exRecipe1 H) (flat (J exRecipe1 d)) (flat (J exRecipe1 e)) ≠ bilin H (flat d) (flat e) := by
  refine ⟨fun s t => if s.val = 0 ∧ t.val = 1 then 1 else 0, fun _ c => if c.val = 0 then 1 else 0,
    fun _ c => if c.val = 1 then 1 else 0, ?_⟩
  decide


end QcelVerif.Mill
