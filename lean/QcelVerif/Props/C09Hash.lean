import QcelVerif.Props.C04SchemaBridge
import QcelVerif.Props.C11
import QcelVerif.Props.C09Dict
/-!
# C09 — `dict_roundtrip_same_hash`: a Molecule rebuilt from its own dictionary has the same hash

Built on C04 `schema_roundtrip` / `c09_roundtrip_discharged` (the record that comes back from
`from_schema(to_schema(r))` is `schemaImage r`), C11 `canon_congr` / `hash_of_canon` / `molEq_iff` (the hash is a
function of the ten canonical fields), and this property's model of `Molecule.__init__` (`Model/MolDict.lean`).

The statements are about the Molecule-LEVEL object, i.e. after `to_schema(from_schema(kwargs))`, `_filter_defaults`,
the merge with the caller's keywords, title-casing and `float_prep` (molecule.py:334-384), not about the raw record.
`toHashMol` reads such an object as C11's `Hash.Mol`; `recMol r` is the ten hash fields a validated record `r` gives
rise to, with the EXPORTED (Bohr) geometry through `float_prep`.
-/
namespace QcelVerif.C09Hash
open QcelVerif.MolSchema QcelVerif.MolDict QcelVerif.Hash

def bondOf (b : Nat × Nat × Rat) : Hash.Bond := ⟨b.1, b.2.1, b.2.2⟩

/-- a Molecule object (its set entries; `Model/MolDict.lean`) as `get_hash` sees it (C11 `Hash.Mol`) -/
def toHashMol (d : MolDict Rat) : Hash.Mol :=
  { symbols := (d.symbols.getD []).map String.toList
    masses := d.masses.map (·.map Dbl.val)
    charge := .val (d.charge.getD 0)                      -- `molecular_charge` defaults to 0.0 (molecule.py:188)
    mult := d.mult.getD 1                                 -- `molecular_multiplicity` defaults to 1 (189)
    real := d.real
    geometry := (d.geometry.getD []).map Dbl.val
    fragments := d.fragments
    fragCharges := d.fragCharges.map (·.map Dbl.val)
    fragMults := d.fragMults
    connectivity := d.connectivity.map (·.map bondOf) }

/-- the ten hash fields of a validated record, as the Molecule built from it holds them -/
def recMol (Pm : MolDict.Params Rat) (r : Molrec Rat) : Hash.Mol :=
  { symbols := r.elem.map String.toList
    masses := some (r.mass.map Dbl.val)
    charge := .val r.charge
    mult := r.mult
    real := some r.real
    geometry := (exportGeom Pm.dflt r).map (fun x => Dbl.val (Pm.prep x))
    fragments := some ((npSplit (List.range (r.geom.length / 3)) r.seps).map (·.map Int.ofNat))
    fragCharges := some (r.fragCharges.map Dbl.val)
    fragMults := some r.fragMults
    connectivity := r.connectivity.map (·.map bondOf) }

/-! ### C11's accessors on `toHashMol m` are this model's accessors on `m` -/

theorem toHashMol_accessors {D} (Ph : Hash.Params D) (massOf : String → Rat) (m : MolDict Rat)
    (hmass : ∀ s, Ph.massOf s.toList = .val (massOf s)) :
    (toHashMol m).massesR Ph.massOf = (massesR massOf m).map Dbl.val ∧ (toHashMol m).realR = realR m ∧
    (toHashMol m).fragmentsR = fragmentsR m ∧ (toHashMol m).fragChargesR = (fragChargesR 0 m).map Dbl.val ∧
    (toHashMol m).fragMultsR = fragMultsR m := by
  refine ⟨?_, ?_, ?_, ?_, ?_⟩
  · cases h : m.masses <;> simp [Mol.massesR, massesR, toHashMol, h, hmass]
  · cases h : m.real <;> simp [Mol.realR, realR, toHashMol, h]
  · cases h : m.fragments <;> simp [Mol.fragmentsR, fragmentsR, toHashMol, h, arangeI]
  · cases h : m.fragCharges <;> simp [Mol.fragChargesR, fragChargesR, toHashMol, h]
  · cases h : m.fragMults <;> simp [Mol.fragMultsR, fragMultsR, toHashMol, h]

/-! ### the Molecule built from keywords that `from_schema` maps to `r` -/

/-- **The Molecule object has the canonical hash fields of the record `from_schema` returned.**
`m` = the object `Molecule.__init__` builds once `from_schema(kwargs)` has returned `r` (keywords `kw`).
Hypotheses: the record's arrays have one entry per atom (`hinv`); the hash-relevant entries the caller spelled
out AND the filter dropped are the ones that came back (`hag : agreesB`, evaluated by the driver on every generated
construction); a one-fragment record lists the molecular charge / multiplicity as the fragment's (`hs : singleOkB`,
see `filter_single_fragment_multiplicity_counterexample`); validated symbols are title-case already (`htitle`);
C11's and this model's `to_mass` are the same function (`hmass`). -/
theorem molecule_canon_of_record {D} (Ph : Hash.Params D) (Pm : MolDict.Params Rat) (kw : MolDict Rat) (r : Molrec Rat)
    (m : MolDict Rat) (hm : afterFromSchema Pm kw r = .ok m) (hinv : MolSchema.Inv r)
    (hag : agreesB Pm.massOf kw (molDict Pm.dflt Pm.fg r) = true) (hs : singleOkB (molDict Pm.dflt Pm.fg r) = true)
    (htitle : ∀ s ∈ r.elem, Pm.title s = s) (hmass : ∀ s, Ph.massOf s.toList = .val (Pm.massOf s)) :
    canon Ph (toHashMol m) = canon Ph (recMol Pm r) := by
  rw [after_from_schema_closed_form] at hm
  cases hm
  -- title-casing changes no validated symbol, so `finish` only rounds the geometry, which no accessor reads
  have hfin : ∀ M : MolDict Rat, M.symbols = some r.elem →
      finish Pm M = { M with geometry := M.geometry.map (·.map Pm.prep) } := by
    intro M hM
    simp [finish, hM, map_eq_self htitle]
  rw [hfin _ rfl]
  obtain ⟨g1, g2, g3, g4, g5⟩ := merge_filter_invisible Pm.massOf 0 { kw with validated := some true }
    (molDict Pm.dflt Pm.fg r) (full_molDict ..) (fun l hl => by cases hl; exact hinv.real) rfl rfl hs hag
  obtain ⟨t1, t2, t3, t4, t5⟩ := toHashMol_accessors Ph Pm.massOf
    { merge { kw with validated := some true } (filteredOf Pm.massOf (molDict Pm.dflt Pm.fg r)) with
      geometry := some ((exportGeom Pm.dflt r).map Pm.prep) } hmass
  -- the accessors of `to_schema(r)` are the record's own arrays (by unfolding)
  apply canon_congr
  · rfl
  · exact t1.trans (congrArg _ g1)
  · rfl
  · rfl
  · exact t2.trans g2
  · show (((exportGeom Pm.dflt r).map Pm.prep).map Dbl.val).map _ = _
    simp only [recMol, List.map_map, Function.comp_def]
  · exact t3.trans (g3.trans (by simp [fragmentsR, molDict]; rfl))
  · exact t4.trans (congrArg _ g4)
  · exact t5.trans g5
  · show (orElse' r.connectivity kw.connectivity).map _ = r.connectivity.map _
    cases hc : r.connectivity with
    | some bs => rfl
    | none =>
      cases hk : kw.connectivity with
      | none => rfl
      | some x => simp [agreesB, molDict, hc, hk] at hag

/-! ### `r` and the record the round trip returns -/

/-- **Same hash fields before and after the record round trip.**  `inBohr r` (= C04's `schemaImage r`, the record
`from_schema(to_schema(r))` returns) has exactly the hash fields of `r`: symbols, masses, charge, multiplicity,
real flags, fragments, fragment charges / multiplicities and bonds unchanged, and the SAME held geometry — the
exported Bohr geometry through `float_prep` (for a record stored in Bohr: its own geometry). No hypothesis. -/
theorem recMol_inBohr (Pm : MolDict.Params Rat) (r : Molrec Rat) :
    recMol Pm (inBohr Pm.dflt Pm.fg r) = recMol Pm r := by
  have hg : exportGeom Pm.dflt (inBohr Pm.dflt Pm.fg r) = exportGeom Pm.dflt r := rfl
  have hl : (inBohr Pm.dflt Pm.fg r).geom.length = r.geom.length := exportGeom_length Pm.dflt r
  unfold recMol
  rw [hg, hl]
  rfl

/-- **The geometry a Molecule holds is the exported Bohr geometry through `float_prep`**: coordinate by
coordinate `prep x` for a record stored in Bohr, `prep (x * f)` for one stored in Å (`f` its own
`input_units_to_au`, else the default factor) — and the record that comes back from the round trip holds the same. -/
theorem exported_geometry_held (Pm : MolDict.Params Rat) (r : Molrec Rat) :
    (recMol Pm r).geometry = (match r.units with
      | .bohr => r.geom.map (fun x => Dbl.val (Pm.prep x))
      | .angstrom => r.geom.map (fun x => Dbl.val (Pm.prep (x * r.iutau.getD Pm.dflt)))) ∧
    (recMol Pm (inBohr Pm.dflt Pm.fg r)).geometry = (recMol Pm r).geometry := by
  refine ⟨?_, by rw [recMol_inBohr]⟩
  unfold recMol exportGeom
  cases r.units <;> cases r.iutau <;> simp [List.map_map, Function.comp_def]

/-! ### the Molecule rebuilt from `to_schema(r, 2)` -/

section roundtrip
open QcelVerif.FromArrays (toMS faOfC04 schemaImage SchemaParams sAngstrom validateGeometry dfltTooclose recNucs
  schemaSettings clueOf)

theorem inv_inBohr (Pm : MolDict.Params Rat) (r : Molrec Rat) (h : MolSchema.Inv r) :
    MolSchema.Inv (inBohr Pm.dflt Pm.fg r) := by
  exact { geom3 := (exportGeom_length Pm.dflt r).trans h.geom3
          nonempty := h.nonempty, elea := h.elea, elez := h.elez, mass := h.mass, real := h.real, elbl := h.elbl
          sepsSorted := h.sepsSorted, sepsLe := h.sepsLe }

variable {D : Type}

/-- the parameters of this model that the C04 model already fixes: the default Å→a₀ factor and
`formula_generator`; `to_mass`, `float_prep` and `str.title` stay free -/
def paramsOf (P : SchemaParams) (massOf : String → Rat) (prep : Rat → Rat) (title : String → String) :
    MolDict.Params Rat :=
  { dflt := P.cf sAngstrom, fg := P.formula, massOf := massOf, prep := prep, title := title }

/-- **dict_roundtrip_same_canon.**  C04-valid record `r` (invariant `I`), non-negative separators (`hpos`), and the
three hypotheses of C04's `schema_roundtrip` (`hn`: at least one atom; `hgeo`: the exported geometry passes the default
overlap screen; `hre`: every atom re-validates to itself under `from_schema`'s settings), in the scope of
the C04 ↔ C09 bridge (exact products `hfl`); and the three hypotheses of `molecule_canon_of_record` that are not
automatic for the exported dictionary: `hs` (`singleOkB`), `htitle`, `hmass`.  Then `Molecule(validate=True, **to_schema(r, 2))` — the C09 model of
the constructor with the C04 model of `from_arrays` plugged in — builds an object `m'`, and `m'` has the canonical
hash fields `recMol r`. -/
theorem dict_roundtrip_same_canon (Ph : Hash.Params D) (env : FromArrays.Env) (P : SchemaParams)
    (massOf : String → Rat) (prep : Rat → Rat) (title : String → String) (r : FromArrays.Molrec)
    (hfl : ∀ x, P.fl x = x)
    {valid : FromArrays.NucSettings → FromArrays.Nuc → Prop} {st : FromArrays.NucSettings} {tc : Rat}
    (I : FromArrays.Inv valid env.angToAu st tc r)
    (hn : r.elem.length ≠ 0) (hpos : ∀ s ∈ r.seps, 0 ≤ s)
    (hgeo : validateGeometry dfltTooclose (FromArrays.exportGeom P r) = .ok (FromArrays.exportGeom P r))
    (hre : ∀ u ∈ recNucs r, env.recon (schemaSettings P) (clueOf u) = .ok u)
    (hs : singleOkB (molDict (P.cf sAngstrom) P.formula (toMS r)) = true)
    (htitle : ∀ s ∈ r.elem, title s = s) (hmass : ∀ s, Ph.massOf s.toList = .val (massOf s)) :
    ∃ m', MolDict.construct (paramsOf P massOf prep title) (faOfC04 env P.nonphysical) none none
        (molDict (P.cf sAngstrom) P.formula (toMS r)) = .ok m' ∧
      canon Ph (toHashMol m') = canon Ph (recMol (paramsOf P massOf prep title) (toMS r)) := by
  generalize hPm : paramsOf P massOf prep title = Pm
  have hd : Pm.dflt = P.cf sAngstrom := by rw [← hPm]; rfl
  have hf : Pm.fg = P.formula := by rw [← hPm]; rfl
  have ht : Pm.title = title := by rw [← hPm]; rfl
  have hmo : Pm.massOf = massOf := by rw [← hPm]; rfl
  rw [← hd, ← hf] at hs ⊢
  rw [← ht] at htitle
  rw [← hmo] at hmass
  have hrt : fromSchema (faOfC04 env P.nonphysical) (toSchema Pm.dflt Pm.fg (toMS r) .v2) = .ok (toMS (schemaImage P r)) := by
    rw [hf]
    exact FromArrays.c09_roundtrip_discharged env P Pm.dflt r .v2 hfl hd.symm I hn hpos hgeo hre
  have himg : toMS (schemaImage P r) = inBohr Pm.dflt Pm.fg (toMS r) := by
    rw [hf]
    exact FromArrays.bridge_image P Pm.dflt r hfl hd.symm I hn hpos
  rw [himg] at hrt
  have hinv := FromArrays.inv_toMS I hn hpos
  have hc : MolDict.construct Pm (faOfC04 env P.nonphysical) none none (molDict Pm.dflt Pm.fg (toMS r)) =
      afterFromSchema Pm (molDict Pm.dflt Pm.fg (toMS r)) (inBohr Pm.dflt Pm.fg (toMS r)) := by
    unfold MolDict.construct
    have : ({ schemaName := some ((none : Option String).getD "qcschema_molecule"),
              schemaVersion := some ((none : Option Int).getD 2), molecule := none,
              top := molDict Pm.dflt Pm.fg (toMS r) } : SchemaDict Rat) = toSchema Pm.dflt Pm.fg (toMS r) .v2 := rfl
    rw [this, hrt]
  obtain ⟨m', hm'⟩ : ∃ m', afterFromSchema Pm (molDict Pm.dflt Pm.fg (toMS r)) (inBohr Pm.dflt Pm.fg (toMS r)) = .ok m' :=
    ⟨_, after_from_schema_closed_form Pm _ _⟩
  refine ⟨m', by rw [hc, hm'], ?_⟩
  -- `to_schema` of the record that came back is the dictionary it was built from: the caller's keywords ARE the schema's
  have := molecule_canon_of_record Ph Pm _ _ m' hm' (inv_inBohr Pm _ hinv)
    (by rw [molDict_inBohr]; exact agreesB_self ..) (by rw [molDict_inBohr]; exact hs)
    (by simpa [inBohr, toMS] using htitle) hmass
  rw [this, recMol_inBohr]

/-- **dict_roundtrip_same_hash.**  Under the hypotheses of `dict_roundtrip_same_canon`: the Molecule `m'` rebuilt
(with validation) from the dictionary `to_schema(r, 2)` has the same hash as — and is `==` to — EVERY Molecule
`m` built from keywords `kw` that `from_schema` maps to `r` and that agree with it on the entries the caller
spelled out (in particular the original Molecule that was exported).  SHA-1 and float printing stay abstract
(`Ph`): equal canonical fields give equal hashes whatever they are (C11 `hash_of_canon`). -/
theorem dict_roundtrip_same_hash [DecidableEq D] (Ph : Hash.Params D) (env : FromArrays.Env) (P : SchemaParams)
    (massOf : String → Rat) (prep : Rat → Rat) (title : String → String) (r : FromArrays.Molrec)
    (hfl : ∀ x, P.fl x = x)
    {valid : FromArrays.NucSettings → FromArrays.Nuc → Prop} {st : FromArrays.NucSettings} {tc : Rat}
    (I : FromArrays.Inv valid env.angToAu st tc r)
    (hn : r.elem.length ≠ 0) (hpos : ∀ s ∈ r.seps, 0 ≤ s)
    (hgeo : validateGeometry dfltTooclose (FromArrays.exportGeom P r) = .ok (FromArrays.exportGeom P r))
    (hre : ∀ u ∈ recNucs r, env.recon (schemaSettings P) (clueOf u) = .ok u)
    (hs : singleOkB (molDict (P.cf sAngstrom) P.formula (toMS r)) = true)
    (htitle : ∀ s ∈ r.elem, title s = s) (hmass : ∀ s, Ph.massOf s.toList = .val (massOf s)) :
    ∃ m', MolDict.construct (paramsOf P massOf prep title) (faOfC04 env P.nonphysical) none none
        (molDict (P.cf sAngstrom) P.formula (toMS r)) = .ok m' ∧
      ∀ (kw m : MolDict Rat), afterFromSchema (paramsOf P massOf prep title) kw (toMS r) = .ok m →
        agreesB massOf kw (molDict (P.cf sAngstrom) P.formula (toMS r)) = true →
        hash Ph (toHashMol m') = hash Ph (toHashMol m) ∧ molEq Ph (toHashMol m') (toHashMol m) = true := by
  obtain ⟨m', h1, h2⟩ := dict_roundtrip_same_canon Ph env P massOf prep title r hfl I hn hpos hgeo hre hs htitle hmass
  refine ⟨m', h1, ?_⟩
  intro kw m hm hag
  have hinv := FromArrays.inv_toMS I hn hpos
  have h3 := molecule_canon_of_record Ph (paramsOf P massOf prep title) kw (toMS r) m hm hinv hag hs
    (fun s hs' => htitle s hs') hmass
  have hh : hash Ph (toHashMol m') = hash Ph (toHashMol m) := hash_of_canon Ph _ _ (by rw [h2, h3])
  exact ⟨hh, (molEq_iff Ph _ _).2 hh⟩

end roundtrip

/-- **dict_rebuild_same_hash.**  `Molecule(**mol.dict())` — the route without validation, `dict()` carrying
`validated=True` — is `mol` itself (`dict_fixed_point`): same hash, `==`.  No hypothesis on the record, the
keywords or `from_arrays`. -/
theorem dict_rebuild_same_hash {D} [DecidableEq D] (Ph : Hash.Params D) (Pm : MolDict.Params Rat)
    (fa fa' : FAArgs Rat → Except MolSchema.Err (Molrec Rat)) (nm nm' : Option String) (ver ver' : Option Int)
    (kw m : MolDict Rat) (h : MolDict.construct Pm fa nm ver kw = .ok m) :
    ∃ m', rebuild Pm fa' nm' ver' (dictOf m) = .ok m' ∧ hash Ph (toHashMol m') = hash Ph (toHashMol m) ∧
      molEq Ph (toHashMol m') (toHashMol m) = true :=
  ⟨m, dict_fixed_point Pm fa nm ver kw m h fa' nm' ver', rfl, (molEq_iff Ph _ _).2 rfl⟩

/-- **Re-validating a Molecule's own (sparse) dictionary, under a hypothesis on `from_schema`.**  `Molecule(**{**mol.dict(), "validated":
False})`: IF `from_schema` maps the object's own dictionary to a record `r₂` that has the hash fields of the
record `r` the object was built from (`e1`–`e10`) except that its geometry is the HELD geometry (already in Bohr, already
through `float_prep`), and `float_prep` is idempotent on the held coordinates (C11 `prep_idempotent`), THEN the
re-validated Molecule has the same hash.
NOT proved: the same without `h2` and the hypotheses on `r₂`.  That needs `from_arrays` on a SPARSE dictionary
(masses / real / labels / fragments absent) to re-derive the dropped defaults — C04/C06's `NucIdem` on partial clues
(`schema_roundtrip_c06_plain` covers plain molecules only) — and `hre`/`hgeo` for the rounded geometry.  Checked
differentially (harness route `revalidate`). -/
theorem revalidate_same_hash_partial {D} [DecidableEq D] (Ph : Hash.Params D) (Pm : MolDict.Params Rat)
    (fa : FAArgs Rat → Except MolSchema.Err (Molrec Rat)) (nm : Option String) (ver : Option Int)
    (r r₂ : Molrec Rat) (m : MolDict Rat)
    (h2 : fromSchema fa { schemaName := some (nm.getD "qcschema_molecule"), schemaVersion := some (ver.getD 2),
                           molecule := none, top := { m with validated := some false } } = .ok r₂)
    (hinv₂ : MolSchema.Inv r₂)
    (e1 : r₂.elem = r.elem) (e2 : r₂.mass = r.mass) (e3 : r₂.charge = r.charge) (e4 : r₂.mult = r.mult)
    (e5 : r₂.real = r.real) (e6 : r₂.seps = r.seps) (e7 : r₂.geom.length = r.geom.length)
    (e8 : r₂.fragCharges = r.fragCharges) (e9 : r₂.fragMults = r.fragMults) (e10 : r₂.connectivity = r.connectivity)
    (hgeom : exportGeom Pm.dflt r₂ = (exportGeom Pm.dflt r).map Pm.prep)
    (hidem : ∀ x ∈ exportGeom Pm.dflt r,
      prepArr Ph.fl GEOMETRY_NOISE (.val (Pm.prep (Pm.prep x))) = prepArr Ph.fl GEOMETRY_NOISE (.val (Pm.prep x)))
    (hag : agreesB Pm.massOf { m with validated := some false } (molDict Pm.dflt Pm.fg r₂) = true)
    (hs : singleOkB (molDict Pm.dflt Pm.fg r₂) = true)
    (htitle : ∀ s ∈ r₂.elem, Pm.title s = s) (hmass : ∀ s, Ph.massOf s.toList = .val (Pm.massOf s)) :
    ∃ m₂, MolDict.construct Pm fa nm ver { m with validated := some false } = .ok m₂ ∧
      hash Ph (toHashMol m₂) = hash Ph (recMol Pm r) := by
  obtain ⟨m₂, hm₂⟩ : ∃ m₂, afterFromSchema Pm { m with validated := some false } r₂ = .ok m₂ :=
    ⟨_, after_from_schema_closed_form Pm _ _⟩
  refine ⟨m₂, by unfold MolDict.construct; rw [h2]; exact hm₂, ?_⟩
  apply hash_of_canon
  rw [molecule_canon_of_record Ph Pm _ r₂ m₂ hm₂ hinv₂ hag hs htitle hmass]
  apply canon_congr
  · show r₂.elem.map String.toList = r.elem.map String.toList
    rw [e1]
  · show r₂.mass.map Dbl.val = r.mass.map Dbl.val
    rw [e2]
  · show Dbl.val r₂.charge = Dbl.val r.charge
    rw [e3]
  · exact e4
  · show r₂.real = r.real
    exact e5
  · show ((exportGeom Pm.dflt r₂).map (fun x => Dbl.val (Pm.prep x))).map (prepArr Ph.fl GEOMETRY_NOISE) =
      ((exportGeom Pm.dflt r).map (fun x => Dbl.val (Pm.prep x))).map (prepArr Ph.fl GEOMETRY_NOISE)
    rw [hgeom]
    -- compositions spelt out first: left to match `∘` against `hidem`, the kernel unfolds `prepArr` and times out
    simp only [List.map_map, Function.comp_def]
    exact List.map_congr_left hidem
  · show (npSplit (List.range (r₂.geom.length / 3)) r₂.seps).map (fun x => x.map Int.ofNat) =
      (npSplit (List.range (r.geom.length / 3)) r.seps).map (fun x => x.map Int.ofNat)
    rw [e6, e7]
  · show r₂.fragCharges.map Dbl.val = r.fragCharges.map Dbl.val
    rw [e8]
  · show r₂.fragMults = r.fragMults
    exact e9
  · show r₂.connectivity.map (fun l => l.map bondOf) = r.connectivity.map (fun l => l.map bondOf)
    rw [e10]

/-! ### non-vacuity (tests) -/

/-- test parameters of the hash model: exact arithmetic (`fl`), constant default mass 4, empty `repr`s, trivial digest -/
def exPh : Hash.Params Unit :=
  { massOf := fun _ => .val 4, fl := fun x => x, reprF := fun _ _ => [], reprB := fun _ => [], sha1 := fun _ => () }

section
open QcelVerif.FromArrays (toyEnv toyP toyRecB toyInpB toyB_ok toyRec_idem recNucs_answers nucSettings from_arrays_inv toMS)

/-- test: every hypothesis of `dict_roundtrip_same_hash` (hence of `dict_roundtrip_same_canon`) is met by the toy record
of `Props/C04SchemaBridge.lean` — two atoms, two fragments, stored in Å with its own factor, a bond, a point group -/
example : ∃ m', MolDict.construct (paramsOf toyP (fun _ => 4) (fun x => x) (fun s => s)) (FromArrays.faOfC04 toyEnv false) none none
      (molDict (189 / 100) toyP.formula (toMS toyRecB)) = .ok m' ∧
    ∀ (kw m : MolDict Rat), afterFromSchema (paramsOf toyP (fun _ => 4) (fun x => x) (fun s => s)) kw (toMS toyRecB) = .ok m →
      agreesB (fun _ => 4) kw (molDict (189 / 100) toyP.formula (toMS toyRecB)) = true →
      hash exPh (toHashMol m') = hash exPh (toHashMol m) ∧ molEq exPh (toHashMol m') (toHashMol m) = true := by
  have I := from_arrays_inv toyEnv (fun _ _ => True) (fun _ _ _ _ => trivial) _ _ toyB_ok
  refine dict_roundtrip_same_hash exPh toyEnv toyP (fun _ => 4) (fun x => x) (fun s => s) toyRecB (fun _ => rfl) I
    (by decide) (by decide) (by decide +kernel) ?_ (by decide +kernel) (fun _ _ => rfl) (fun _ => rfl)
  intro u hu
  obtain ⟨c, _, hc⟩ := recNucs_answers toyB_ok u hu
  exact toyRec_idem (nucSettings toyInpB) c u hc

/-- test: the hypotheses of `molecule_canon_of_record` are met with keywords that spell out a default (`real`) -/
example : agreesB (fun _ => 4) { (emptyDict : MolDict Rat) with real := some [true, true] } (molDict (189 / 100) toyP.formula (toMS toyRecB)) = true ∧
    singleOkB (molDict (189 / 100) toyP.formula (toMS toyRecB)) = true := by
  constructor <;> decide +kernel
end

def exPh' : Hash.Params Unit :=
  { massOf := fun _ => .val 4, fl := fun x => x, reprF := fun _ _ => [], reprB := fun _ => [], sha1 := fun _ => () }

def exPm : MolDict.Params Rat := { dflt := 2, fg := fun _ => "X2", massOf := fun _ => 4, prep := fun x => x, title := fun s => s }

def exR : Molrec Rat :=
  { units := .bohr, iutau := none, geom := [0, 0, 0, 0, 0, 2], elea := [4, 4], elez := [2, 2], elem := ["X", "X"],
    mass := [4, 4], real := [true, true], elbl := ["", ""], seps := [], fragCharges := [0], fragMults := [1], charge := 0,
    mult := 1, fixCom := false, fixOri := false, fixSym := none, name := some "X2", comment := none, connectivity := none }

/-- the sparse dictionary of the Molecule built from `exR`: masses, real, labels, fragments all dropped -/
def exM : MolDict Rat :=
  { (emptyDict : MolDict Rat) with symbols := some ["X", "X"], geometry := some [0, 0, 0, 0, 0, 2], name := some "X2",
                                   charge := some 0, mult := some 1, fixCom := some false, fixOri := some false,
                                   validated := some true }

/-- test: the hypotheses of `revalidate_same_hash_partial` are satisfiable (a `from_arrays` that re-derives the dropped
defaults) -/
example : ∃ m₂, MolDict.construct exPm (fun _ => .ok exR) none none { exM with validated := some false } = .ok m₂ ∧
    hash exPh' (toHashMol m₂) = hash exPh' (recMol exPm exR) :=
  revalidate_same_hash_partial exPh' exPm (fun _ => .ok exR) none none exR exR exM (by rfl)
    { geom3 := by decide, nonempty := by decide, elea := by decide, elez := by decide, mass := by decide,
      real := by decide, elbl := by decide, sepsSorted := by decide, sepsLe := by decide }
    rfl rfl rfl rfl rfl rfl rfl rfl rfl rfl (by simp [exPm]) (fun _ _ => rfl) (by decide +kernel) (by decide +kernel)
    (fun _ _ => rfl) (fun _ => rfl)

end QcelVerif.C09Hash
