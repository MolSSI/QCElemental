import QcelVerif.Lemmas.RotUnique
import QcelVerif.Lib.Monadic
import QcelVerif.Lib.ListLemmas
import QcelVerif.Props.C12
/-!
# C12 — the uniqueness clause: "for non-collinear molecules the rotation and shift are those that were applied"

Conventions are the code's: a geometry is a list of rows, a rotation acts on the right (`rowMul c U` is one row of
`geom.dot(U)`, models/align.py:83), a recipe is applied as `(c − shift)·rotation` (`alignCoords`,
models/align.py:82-83) and `kabsch_align` returns `shift = c̄ − U·r̄` (align.py:497).  A second geometry made from
the reference by `c = r·A + t` (what `harness/c12.py:make_case` and `Molecule.scramble` do) is therefore mapped back by
`rotation = Aᵀ (= A⁻¹)` and `shift = t`; in the column convention `x ↦ A'x + t` with `A' = Aᵀ` this reads
`rotation = A'` acting on rows, i.e. `A'⁻¹` acting on columns.

Proved here: an EXACTLY superimposing recipe of the model's `alignCoords` on a non-collinear reference is `(Aᵀ, t)`; a
quantitative version for the rotation (residual² ≤ e2 on two atoms ⇒ `|a×b|²·(entry)² ≤ 16·L2·e2`); the qualifier
"non-collinear" is necessary and is the same as a positive exact margin `maxCross2`, the number the driver evaluates.
The quantitative statement for the SHIFT is `Props/C12Shift.lean`, recipes with `mirror = True` are `Props/C12Mirror.lean`.
Not proved: that the floating-point aligner reaches a given ε (`Props/C12Full.lean` bounds its residual by the
certificate slack, 2ε_cert + δ(2+δ)Σ|c̃|², per call).

`section Field` (the first section) is over every field; everything else is over an arbitrary linearly ordered field
(so over ℚ, where the driver runs, and over ℝ).
-/
namespace QcelVerif.Kabsch
variable {K : Type}

/-! ## a proper rotation that fixes two non-parallel vectors is the identity -/

section Field
variable [Field K]

/-- over any field, with the non-degeneracy stated as `|a × b|² ≠ 0` (over a general field a non-zero vector can
    have zero square norm, so this is the right hypothesis there) -/
theorem rotation_unique_of_fixes_two_field (U : M3 K) (ho : U.mul U.transpose = M3.one) (hd : U.det = 1)
    (a b : V3 K) (ha : rowMul a U = a) (hb : rowMul b U = b) (hab : cross2 a b ≠ 0) : U = M3.one := by
  apply eq_one_of_rowMul_id
  intro v
  have h := smul_fixed_of_fixes_two ⟨ho, hd⟩ a b ha hb v
  simp only [V3.smul, V3.ext_iff] at h
  obtain ⟨hx, hy, hz⟩ := h
  ext
  · exact mul_left_cancel₀ hab hx
  · exact mul_left_cancel₀ hab hy
  · exact mul_left_cancel₀ hab hz

/-- **`NonCollinear` is "not all position vectors on one line through the origin"** (any field) -/
theorem nonCollinear_iff_not_onLine (c : List (V3 K)) : NonCollinear c ↔ ¬ OnLine c := by
  constructor
  · rintro ⟨a, ha, b, hb, hab⟩ ⟨d, hd⟩
    obtain ⟨s, rfl⟩ := hd a ha
    obtain ⟨t, rfl⟩ := hd b hb
    apply hab
    ext <;> simp only [V3.cross, V3.smul, V3.zero] <;> ring
  · intro h
    by_contra hnc
    have hall : ∀ a ∈ c, ∀ b ∈ c, V3.cross a b = V3.zero := by
      intro a ha b hb
      by_contra hne
      exact hnc ⟨a, ha, b, hb, hne⟩
    apply h
    by_cases hz : ∀ a ∈ c, a = V3.zero
    · refine ⟨V3.zero, fun a ha => ⟨0, ?_⟩⟩
      rw [hz a ha]; ext <;> simp only [V3.smul, V3.zero] <;> ring
    · obtain ⟨a, ha, ha0⟩ : ∃ a ∈ c, a ≠ V3.zero := by
        by_contra hh
        exact hz (fun a ha => by by_contra h0; exact hh ⟨a, ha, h0⟩)
      refine ⟨a, fun b hb => ?_⟩
      have hc := hall a ha b hb
      simp only [V3.cross, V3.zero, V3.ext_iff] at hc
      obtain ⟨c1, c2, c3⟩ := hc
      by_cases hx : a.x = 0
      · by_cases hy : a.y = 0
        · have hzz : a.z ≠ 0 := by
            intro hz0; apply ha0; ext <;> simp only [V3.zero] <;> assumption
          refine ⟨b.z / a.z, ?_⟩
          ext <;> simp only [V3.smul] <;> field_simp
          · rw [hx] at c2 ⊢; linear_combination c2
          · rw [hy] at c1 ⊢; linear_combination -c1
        · refine ⟨b.y / a.y, ?_⟩
          ext <;> simp only [V3.smul] <;> field_simp
          · linear_combination -c3
          · linear_combination c1
      · refine ⟨b.x / a.x, ?_⟩
        ext <;> simp only [V3.smul] <;> field_simp
        · linear_combination c3
        · linear_combination -c2

/-- for a geometry `g`, the centred geometry is non-collinear iff the atoms are **not all on one line through the
    centroid** -/
theorem nonCollinear_centre_iff (g : List (V3 K)) :
    NonCollinear (centre g) ↔ ¬ OnLineThrough (centroid g) g := by
  rw [nonCollinear_iff_not_onLine]
  simp only [OnLine, OnLineThrough, centre, List.forall_mem_map, V3.sub_eq_iff_eq_add]

theorem ne_nil_of_mem_centre {g : List (V3 K)} {c : V3 K} (h : c ∈ centre g) : g ≠ [] := by
  rintro rfl
  simp [centre] at h

/-- reading an exact superposition of `alignCoords false` atom by atom: if the second geometry holds, at the place
    the recipe pairs with reference atom `k`, the vector `f (Rg[k])`, then `(f r − T)·U = r` for every atom -/
theorem alignCoords_false_pointwise (f : V3 K → V3 K) (T : V3 K) (U : M3 K) (Rg Cg : List (V3 K)) (amap : List Nat)
    (hcopy : ∀ (k : Nat) (r : V3 K), Rg[k]? = some r → ∃ i, amap[k]? = some i ∧ Cg[i]? = some (f r))
    (hal : alignCoords false T U amap Cg = some Rg) : ∀ r ∈ Rg, rowMul ((f r).sub T) U = r := by
  intro r hr
  obtain ⟨k, hk, rfl⟩ := List.mem_iff_getElem.mp hr
  obtain ⟨i, hi, hc⟩ := hcopy k Rg[k] (List.getElem?_eq_getElem hk)
  simp only [alignCoords, Bool.false_eq_true, if_false, mapM_eq_some_iff] at hal
  have h := congrArg (·[k]?) hal
  simpa only [List.getElem?_map, hi, hc, List.getElem?_eq_getElem hk, Option.map_some, Option.some.injEq] using h

theorem alignCoords_false_of_pointwise (f : V3 K → V3 K) (T : V3 K) (U : M3 K) (Rg Cg : List (V3 K))
    (amap : List Nat) (hlen : amap.length = Rg.length)
    (hcopy : ∀ (k : Nat) (r : V3 K), Rg[k]? = some r → ∃ i, amap[k]? = some i ∧ Cg[i]? = some (f r))
    (hpt : ∀ r ∈ Rg, rowMul ((f r).sub T) U = r) : alignCoords false T U amap Cg = some Rg := by
  simp only [alignCoords, Bool.false_eq_true, if_false, mapM_eq_some_iff]
  refine List.ext_getElem (by simp [hlen]) fun k hk hk' => ?_
  rw [List.length_map] at hk hk'
  obtain ⟨i, hi, hc⟩ := hcopy k Rg[k] (List.getElem?_eq_getElem hk')
  rw [List.getElem?_eq_getElem hk, Option.some.injEq] at hi
  rw [List.getElem_map, hi, List.getElem?_map, hc, Option.map_some, hpt _ (List.getElem_mem hk'), List.getElem_map]

end Field

section Ordered
variable [Field K] [LinearOrder K] [IsStrictOrderedRing K]

/-- a 3×3 orthogonal matrix with determinant `+1` that fixes two vectors `a`, `b` with `a × b ≠ 0` is the
    identity: it preserves cross products, so it fixes `a × b` too, and `a, b, a × b` is a basis (Cramer's rule with
    the scalar triple product `[a, b, a×b] = |a×b|²`). -/
theorem rotation_unique_of_fixes_two (U : M3 K) (ho : U.mul U.transpose = M3.one) (hd : U.det = 1)
    (a b : V3 K) (ha : rowMul a U = a) (hb : rowMul b U = b) (hab : V3.cross a b ≠ V3.zero) : U = M3.one :=
  rotation_unique_of_fixes_two_field U ho hd a b ha hb (fun h => hab ((cross2_eq_zero_iff a b).mp h))

/-- the same in the column convention `U a = a`, `U b = b` -/
theorem rotation_unique_of_fixes_two_col (U : M3 K) (ho : U.mul U.transpose = M3.one) (hd : U.det = 1)
    (a b : V3 K) (ha : matVec U a = a) (hb : matVec U b = b) (hab : V3.cross a b ≠ V3.zero) : U = M3.one := by
  have hT : IsRot U.transpose := (IsRot.mk ho hd).transpose
  have h := rotation_unique_of_fixes_two U.transpose hT.orth hT.det a b
    (by rw [rowMul_transpose]; exact ha) (by rw [rowMul_transpose]; exact hb) hab
  have := congrArg M3.transpose h
  rwa [M3.transpose_transpose, M3.transpose_one] at this

-- non-vacuity (test): the identity fixes e₁, e₂ (e₁ × e₂ = e₃ ≠ 0); and the hypothesis `a × b ≠ 0` cannot be dropped:
-- the half-turn about x fixes a = e₁ and b = 2e₁ (a × b = 0) and is not the identity
example : rowMul (⟨1, 0, 0⟩ : V3 ℚ) M3.one = ⟨1, 0, 0⟩ ∧ rowMul (⟨0, 1, 0⟩ : V3 ℚ) M3.one = ⟨0, 1, 0⟩
    ∧ V3.cross (⟨1, 0, 0⟩ : V3 ℚ) ⟨0, 1, 0⟩ ≠ V3.zero := by decide +kernel
example : let U : M3 ℚ := ⟨1, 0, 0, 0, -1, 0, 0, 0, -1⟩
    U.mul U.transpose = M3.one ∧ U.det = 1 ∧ rowMul (⟨1, 0, 0⟩ : V3 ℚ) U = ⟨1, 0, 0⟩
      ∧ rowMul (⟨2, 0, 0⟩ : V3 ℚ) U = ⟨2, 0, 0⟩ ∧ U ≠ M3.one := by decide +kernel

/-! ## two proper rotations that agree on a non-collinear set are equal; the recipe of `alignCoords` -/

/-- if `R₁`, `R₂` are proper rotations and `c·R₁ = c·R₂` for every atom of a geometry `cs` that contains two
    non-parallel position vectors (`NonCollinear cs`; for a centred geometry: the molecule is not collinear,
    `nonCollinear_centre_iff`), then `R₁ = R₂`. -/
theorem recovery_rotation_unique (R₁ R₂ : M3 K) (ho₁ : R₁.mul R₁.transpose = M3.one) (hd₁ : R₁.det = 1)
    (ho₂ : R₂.mul R₂.transpose = M3.one) (hd₂ : R₂.det = 1) (cs : List (V3 K))
    (hagree : ∀ c ∈ cs, rowMul c R₁ = rowMul c R₂) (hnc : NonCollinear cs) : R₁ = R₂ := by
  have h₁ : IsRot R₁ := ⟨ho₁, hd₁⟩
  have h₂ : IsRot R₂ := ⟨ho₂, hd₂⟩
  have hU : IsRot (R₁.mul R₂.transpose) := h₁.mul h₂.transpose
  have hfix : ∀ c ∈ cs, rowMul c (R₁.mul R₂.transpose) = c := by
    intro c hc
    rw [rowMul_mul, hagree c hc, rowMul_rowMul_transpose ho₂]
  obtain ⟨a, ha, b, hb, hab⟩ := hnc
  have h1 := rotation_unique_of_fixes_two _ hU.orth hU.det a b (hfix a ha) (hfix b hb) hab
  calc R₁ = R₁.mul (R₂.transpose.mul R₂) := by rw [h₂.orth', M3.mul_one']
    _ = (R₁.mul R₂.transpose).mul R₂ := (M3.mul_assoc' _ _ _).symm
    _ = R₂ := by rw [h1, M3.one_mul']

-- non-vacuity (test): the set {e₁, e₂} is non-collinear
example : NonCollinear [(⟨1, 0, 0⟩ : V3 ℚ), ⟨0, 1, 0⟩] := by unfold NonCollinear; decide +kernel

/-- "collinear" in the everyday sense (all atoms on SOME line, through any point `p`) is the same as "on one line
    through the centroid": the centroid of points of a line lies on that line.  Hence
    `NonCollinear (centre g) ↔ the atoms of g are not all on one line` (with `nonCollinear_centre_iff`). -/
theorem onLineThrough_centroid (p : V3 K) (g : List (V3 K)) (hne : g ≠ []) (h : OnLineThrough p g) :
    OnLineThrough (centroid g) g := by
  obtain ⟨d, hd⟩ := h
  have hsum : ∀ l : List (V3 K), (∀ a ∈ l, ∃ t : K, a = p.add (V3.smul t d)) →
      ∃ T : K, vsum l = (V3.smul (l.length : K) p).add (V3.smul T d) := by
    intro l
    induction l with
    | nil => intro _; exact ⟨0, by ext <;> simp [vsum, V3.zero, V3.add, V3.smul]⟩
    | cons a l ih =>
      intro h
      obtain ⟨t, rfl⟩ := h a List.mem_cons_self
      obtain ⟨T, hT⟩ := ih (fun b hb => h b (List.mem_cons_of_mem _ hb))
      refine ⟨t + T, ?_⟩
      simp only [vsum, hT, List.length_cons, Nat.cast_succ]
      ext <;> simp only [V3.add, V3.smul] <;> ring
  obtain ⟨T, hT⟩ := hsum g hd
  have hn := cast_length_ne_zero g hne
  have hc : centroid g = p.add (V3.smul (T / (g.length : K)) d) := by
    apply centroid_eq_of_vsum g hne
    rw [hT]
    ext <;> simp only [V3.add, V3.smul] <;> field_simp
  refine ⟨d, fun a ha => ?_⟩
  obtain ⟨t, rfl⟩ := hd a ha
  refine ⟨t - T / (g.length : K), ?_⟩
  rw [hc]
  ext <;> simp only [V3.add, V3.smul] <;> ring

/-- the molecule is non-collinear about its centroid iff its atoms are not all on one line (through any point) -/
theorem nonCollinear_centre_iff_no_line (g : List (V3 K)) (hne : g ≠ []) :
    NonCollinear (centre g) ↔ ¬ ∃ p : V3 K, OnLineThrough p g := by
  rw [nonCollinear_centre_iff]
  constructor
  · rintro h ⟨p, hp⟩; exact h (onLineThrough_centroid p g hne hp)
  · intro h hc; exact h ⟨_, hc⟩

theorem centroid_moved (A : M3 K) (t : V3 K) (Rg : List (V3 K)) (hne : Rg ≠ []) :
    centroid (Rg.map (fun r => (rowMul r A).add t)) = (rowMul (centroid Rg) A).add t := by
  have hsum : ∀ l : List (V3 K), vsum (l.map (fun r => (rowMul r A).add t))
      = (rowMul (vsum l) A).add (V3.smul (l.length : K) t) := by
    intro l
    induction l with
    | nil => ext <;> simp [vsum, rowMul, V3.zero, V3.add, V3.smul]
    | cons a l ih =>
      simp only [List.map_cons, vsum, ih, List.length_cons, Nat.cast_succ]
      ext <;> simp only [V3.add, V3.smul, rowMul] <;> ring
  apply centroid_eq_of_vsum _ (by simpa using hne)
  rw [hsum, List.length_map, ← smul_centroid Rg hne, rowMul_smul]
  ext <;> simp only [V3.add, V3.smul] <;> ring

/-- an affine map `r ↦ r·M + w` that fixes every atom fixes the centroid -/
theorem affine_fixes_centroid (M : M3 K) (w : V3 K) (l : List (V3 K)) (hl : l ≠ [])
    (hfix : ∀ r ∈ l, (rowMul r M).add w = r) : (rowMul (centroid l) M).add w = centroid l := by
  rw [← centroid_moved M w l hl, map_eq_self hfix]

/-- … so its linear part fixes every position vector taken from the centroid -/
theorem linear_part_fixes_centre (M : M3 K) (w : V3 K) (l : List (V3 K)) (hl : l ≠ [])
    (hfix : ∀ r ∈ l, (rowMul r M).add w = r) : ∀ c ∈ centre l, rowMul c M = c := by
  intro c hc
  obtain ⟨r, hr, rfl⟩ := List.mem_map.mp hc
  rw [← rowMul_add_sub M w, hfix r hr, affine_fixes_centroid M w l hl hfix]

/-- **the applied motion is the only one that superimposes exactly** (algebraic core): if every atom `r` of the
    reference, moved to `c = r·A + t` and sent through the recipe `(c − T)·U`, comes back to `r`, and the reference
    is non-collinear about its centroid, then `U = Aᵀ (= A⁻¹)` and `T = t`. -/
theorem motion_unique (A U : M3 K) (hoA : A.mul A.transpose = M3.one) (hdA : A.det = 1)
    (hoU : U.mul U.transpose = M3.one) (hdU : U.det = 1) (t T : V3 K) (Rg : List (V3 K))
    (hback : ∀ r ∈ Rg, rowMul (((rowMul r A).add t).sub T) U = r)
    (hnc : NonCollinear (centre Rg)) : U = A.transpose ∧ T = t := by
  have hA : IsRot A := ⟨hoA, hdA⟩
  have hU : IsRot U := ⟨hoU, hdU⟩
  have hM : IsRot (A.mul U) := hA.mul hU
  obtain ⟨a, ha, b, hb, hab⟩ := hnc
  have hne : Rg ≠ [] := ne_nil_of_mem_centre ha
  -- the recipe composed with the motion is the affine map r ↦ r·(A U) + (t − T)·U
  have haff : ∀ r ∈ Rg, (rowMul r (A.mul U)).add (rowMul (t.sub T) U) = r := fun r hr =>
    (rowMul_moved_sub A U t T r).symm.trans (hback r hr)
  -- hence A U fixes every centred position vector, two of which are not parallel
  have hfix := linear_part_fixes_centre _ _ Rg hne haff
  have hone := rotation_unique_of_fixes_two _ hM.orth hM.det a b (hfix a ha) (hfix b hb) hab
  have hUA : U = A.transpose := by
    calc U = (A.transpose.mul A).mul U := by rw [hA.orth', M3.one_mul']
      _ = A.transpose.mul (A.mul U) := M3.mul_assoc' _ _ _
      _ = A.transpose := by rw [hone, M3.mul_one']
  refine ⟨hUA, ?_⟩
  -- the affine part vanishes, and U is invertible
  obtain ⟨r, hr⟩ := List.exists_mem_of_ne_nil Rg hne
  have hz := haff r hr
  rw [hone, rowMul_one, V3.add_eq_left] at hz
  have h0 := rowMul_rowMul_transpose hoU (t.sub T)
  rw [hz, rowMul_zero] at h0
  exact (V3.sub_eq_zero.mp h0.symm).symm

/-- **on the model's `alignCoords`**: let the reference `Rg` be non-collinear about its centroid, let the
    second geometry `Cg` contain, at the place `amap[k]` the recipe pairs with reference atom `k`, the moved copy
    `Rg[k]·A + t` of that atom (a rotated, translated and — through `amap` — arbitrarily shuffled copy, the atom map
    being the applied one), and let the recipe `(rotation U, shift T, atommap amap, mirror off)` superimpose it
    EXACTLY: `alignCoords false T U amap Cg = some Rg`.  Then `U = Aᵀ = A⁻¹` and `T = t`: rotation and shift are
    those that were applied, in the code's convention `aligned = (c − shift)·rotation`. -/
theorem align_recovers_motion (A U : M3 K) (hoA : A.mul A.transpose = M3.one) (hdA : A.det = 1)
    (hoU : U.mul U.transpose = M3.one) (hdU : U.det = 1) (t T : V3 K) (Rg Cg : List (V3 K)) (amap : List Nat)
    (hcopy : ∀ (k : Nat) (r : V3 K), Rg[k]? = some r →
      ∃ i, amap[k]? = some i ∧ Cg[i]? = some ((rowMul r A).add t))
    (hal : alignCoords false T U amap Cg = some Rg)
    (hnc : NonCollinear (centre Rg)) : U = A.transpose ∧ T = t :=
  motion_unique A U hoA hdA hoU hdU t T Rg
    (alignCoords_false_pointwise (fun r => (rowMul r A).add t) T U Rg Cg amap hcopy hal) hnc

-- non-vacuity (test) of `align_recovers_motion` with a SHUFFLED copy: the triangle (0,0,0), (1,0,0), (0,2,0), quarter-turn A
-- about z, shift t = (1,2,3), second geometry listed as (atom 1, atom 0, atom 2), atom map [1, 0, 2]: the recipe
-- (Aᵀ, t, [1,0,2]) superimposes it exactly
example :
    let A : M3 ℚ := ⟨0, 1, 0, -1, 0, 0, 0, 0, 1⟩
    let t : V3 ℚ := ⟨1, 2, 3⟩
    let Rg : List (V3 ℚ) := [⟨0, 0, 0⟩, ⟨1, 0, 0⟩, ⟨0, 2, 0⟩]
    let Cg : List (V3 ℚ) := [(rowMul ⟨1, 0, 0⟩ A).add t, (rowMul ⟨0, 0, 0⟩ A).add t, (rowMul ⟨0, 2, 0⟩ A).add t]
    alignCoords false t A.transpose [1, 0, 2] Cg = some Rg := by decide +kernel

omit [LinearOrder K] [IsStrictOrderedRing K] in
/-- the model's fancy indexing with the identity atom map is the plain map -/
theorem alignCoords_identity_map (T : V3 K) (U : M3 K) (Cg : List (V3 K)) :
    alignCoords false T U (List.range Cg.length) Cg = some (Cg.map (fun v => rowMul (v.sub T) U)) := by
  simp only [alignCoords, Bool.false_eq_true, if_false, mapM_eq_some_iff]
  refine List.ext_getElem (by simp) fun k _ hk => ?_
  rw [List.length_map, List.length_map] at hk
  simp [hk]

/-- **the applied shift is the one the centroids determine** (`TT = Ccentroid − RR.dot(Rcentroid)`, align.py:497,
    with `RR = Aᵀ`): for a moved copy `c = r·A + t`, `t = c̄ − Aᵀ r̄`. -/
theorem shift_determined_by_centroids (A : M3 K) (t : V3 K) (Rg : List (V3 K)) (hne : Rg ≠ []) :
    t = (centroid (Rg.map (fun r => (rowMul r A).add t))).sub (matVec A.transpose (centroid Rg)) := by
  rw [centroid_moved A t Rg hne, ← rowMul_transpose, M3.transpose_transpose]
  ext <;> simp only [V3.add, V3.sub] <;> ring

/-- **fixed atom map**: the second geometry is `r ↦ r·A + t` applied atom by atom to the reference, the recipe
    `(U, T)` with the identity atom map superimposes it exactly, the reference is non-collinear about its centroid:
    then `rotation = Aᵀ = A⁻¹`, `shift = t`, and that shift is the one `kabsch_align` computes from the centroids,
    `c̄ − U·r̄` (align.py:497). -/
theorem align_recovers_motion_fixed_map (A U : M3 K) (hoA : A.mul A.transpose = M3.one) (hdA : A.det = 1)
    (hoU : U.mul U.transpose = M3.one) (hdU : U.det = 1) (t T : V3 K) (Rg : List (V3 K))
    (hal : alignCoords false T U (List.range Rg.length) (Rg.map (fun r => (rowMul r A).add t)) = some Rg)
    (hnc : NonCollinear (centre Rg)) :
    U = A.transpose ∧ T = t
      ∧ T = (centroid (Rg.map (fun r => (rowMul r A).add t))).sub (matVec U (centroid Rg)) := by
  have hne : Rg ≠ [] := by
    obtain ⟨a, ha, _⟩ := hnc
    exact ne_nil_of_mem_centre ha
  have hid := alignCoords_identity_map T U (Rg.map fun r => (rowMul r A).add t)
  rw [List.length_map, hal, Option.some.injEq, List.map_map] at hid
  have h := motion_unique A U hoA hdA hoU hdU t T Rg
    (fun r hr => (List.map_eq_map_iff.mp ((List.map_id Rg).trans hid) r hr).symm) hnc
  refine ⟨h.1, h.2, ?_⟩
  rw [h.1, h.2]
  exact shift_determined_by_centroids A t Rg hne

omit [IsStrictOrderedRing K] in
/-- for a unit `q` the rotation `kabschAlign` returns — head-off or not — is proper -/
theorem kabschAlign_isRot (R C : List (V3 K)) (q : Q4 K) (hq : q.nrm2 = 1) : IsRot (kabschAlign R C q).U := by
  unfold kabschAlign
  by_cases hg : geomEq R C = true
  · simp only [hg, if_true]; exact IsRot.one
  · simp only [hg]; exact ⟨(quatRot_orthogonal q hq).1, quatRot_det q hq⟩

/-- the same on the output record of the model `kabschAlign` (reference first, as `kabsch_align(rgeom, cgeom)`),
    whatever eigenvector `q` of unit length it was given: if the recipe it returns superimposes the moved copy
    exactly, its rotation is `Aᵀ` and its shift `c̄ − U r̄` is `t`. -/
theorem kabschAlign_recovers_motion (A : M3 K) (hoA : A.mul A.transpose = M3.one) (hdA : A.det = 1) (t : V3 K)
    (Rg : List (V3 K)) (q : Q4 K) (hq : q.nrm2 = 1)
    (hal : alignCoords false (kabschAlign Rg (Rg.map (fun r => (rowMul r A).add t)) q).T
      (kabschAlign Rg (Rg.map (fun r => (rowMul r A).add t)) q).U (List.range Rg.length)
      (Rg.map (fun r => (rowMul r A).add t)) = some Rg)
    (hnc : NonCollinear (centre Rg)) :
    (kabschAlign Rg (Rg.map (fun r => (rowMul r A).add t)) q).U = A.transpose
      ∧ (kabschAlign Rg (Rg.map (fun r => (rowMul r A).add t)) q).T = t := by
  have hrot := kabschAlign_isRot Rg (Rg.map (fun r => (rowMul r A).add t)) q hq
  have h := align_recovers_motion_fixed_map A _ hoA hdA hrot.orth hrot.det t _ Rg hal hnc
  exact ⟨h.1, h.2.1⟩

-- non-vacuity (test) of `align_recovers_motion_fixed_map` / `kabschAlign_recovers_motion`: the right triangle
-- (0,0,0), (1,0,0), (0,2,0) turned by a quarter-turn about z (A) and shifted by t = (1,2,3); the recipe (Aᵀ, t)
-- superimposes it exactly, the centred reference is non-collinear, and q = (1,0,0,1)/√2 is not rational, so the
-- kabschAlign instance is shown with the proper rotation itself
example :
    let A : M3 ℚ := ⟨0, 1, 0, -1, 0, 0, 0, 0, 1⟩
    let t : V3 ℚ := ⟨1, 2, 3⟩
    let Rg : List (V3 ℚ) := [⟨0, 0, 0⟩, ⟨1, 0, 0⟩, ⟨0, 2, 0⟩]
    A.mul A.transpose = M3.one ∧ A.det = 1
      ∧ alignCoords false t A.transpose (List.range Rg.length) (Rg.map (fun r => (rowMul r A).add t)) = some Rg
      ∧ NonCollinear (centre Rg) := by unfold NonCollinear; decide +kernel

end Ordered

/-! ## quantitative version: nearly agreeing on two non-parallel vectors ⇒ nearly equal -/

section Quantitative
variable [Field K] [LinearOrder K] [IsStrictOrderedRing K]

/-- the error on `a × b`: `(a×b)·R₁ − (a×b)·R₂ = (aR₁ − aR₂) × bR₁ + aR₂ × (bR₁ − bR₂)`, so its square norm is
    at most `4·L2·e2` -/
theorem cross_error_le (R₁ R₂ : M3 K) (h₁ : IsRot R₁) (h₂ : IsRot R₂) (a b : V3 K) (L2 e2 : K)
    (haL : a.nrm2 ≤ L2) (hbL : b.nrm2 ≤ L2)
    (hae : ((rowMul a R₁).sub (rowMul a R₂)).nrm2 ≤ e2) (hbe : ((rowMul b R₁).sub (rowMul b R₂)).nrm2 ≤ e2) :
    ((rowMul (V3.cross a b) R₁).sub (rowMul (V3.cross a b) R₂)).nrm2 ≤ 4 * L2 * e2 := by
  have hsplit : (rowMul (V3.cross a b) R₁).sub (rowMul (V3.cross a b) R₂)
      = (V3.cross ((rowMul a R₁).sub (rowMul a R₂)) (rowMul b R₁)).add
          (V3.cross (rowMul a R₂) ((rowMul b R₁).sub (rowMul b R₂))) := by
    rw [rowMul_cross h₁, rowMul_cross h₂]
    ext <;> simp only [V3.cross, V3.sub, V3.add] <;> ring
  have he0 : 0 ≤ e2 := le_trans (V3.nrm2_nonneg _) hae
  have hL0 : 0 ≤ L2 := le_trans (V3.nrm2_nonneg _) haL
  have h1 : cross2 ((rowMul a R₁).sub (rowMul a R₂)) (rowMul b R₁) ≤ e2 * L2 := by
    refine le_trans (cross2_le_mul _ _) ?_
    rw [nrm2_rowMul h₁]
    exact mul_le_mul hae hbL (V3.nrm2_nonneg _) he0
  have h2 : cross2 (rowMul a R₂) ((rowMul b R₁).sub (rowMul b R₂)) ≤ L2 * e2 := by
    refine le_trans (cross2_le_mul _ _) ?_
    rw [nrm2_rowMul h₂]
    exact mul_le_mul haL hbe (V3.nrm2_nonneg _) hL0
  rw [hsplit]
  have := nrm2_add_le_two (V3.cross ((rowMul a R₁).sub (rowMul a R₂)) (rowMul b R₁))
    (V3.cross (rowMul a R₂) ((rowMul b R₁).sub (rowMul b R₂)))
  simp only [cross2] at h1 h2
  linarith

/-- the quantitative core, for a vector `v` of ANY length (Cramer's rule in the basis `a, b, a × b`, every coefficient
    bounded by Cauchy–Schwarz; over ℚ a vector cannot be normalised, so the factor `|v|²` is carried along):
    `|a×b|²·|v·R₁ − v·R₂|² ≤ 16·L2·e2·|v|²` -/
theorem rotation_close_of_close_on_two_any (R₁ R₂ : M3 K) (ho₁ : R₁.mul R₁.transpose = M3.one) (hd₁ : R₁.det = 1)
    (ho₂ : R₂.mul R₂.transpose = M3.one) (hd₂ : R₂.det = 1) (a b : V3 K) (L2 e2 : K)
    (haL : a.nrm2 ≤ L2) (hbL : b.nrm2 ≤ L2)
    (hae : ((rowMul a R₁).sub (rowMul a R₂)).nrm2 ≤ e2) (hbe : ((rowMul b R₁).sub (rowMul b R₂)).nrm2 ≤ e2)
    (hg : 0 < cross2 a b) (v : V3 K) :
    cross2 a b * ((rowMul v R₁).sub (rowMul v R₂)).nrm2 ≤ 16 * L2 * e2 * v.nrm2 := by
  have ht0 := V3.nrm2_nonneg v
  -- g·(vR₁ − vR₂) = α x + β y + γ z with x, y, z the errors on a, b, a × b
  have htot := nrm2_comb3_le (v.dot (V3.cross b (V3.cross a b))) (v.dot (V3.cross (V3.cross a b) a))
    (v.dot (V3.cross a b)) (v.nrm2 * (L2 * cross2 a b)) (v.nrm2 * cross2 a b) e2 (4 * L2 * e2) _ _ _
    (by
      refine le_trans (dot_sq_le v _) ?_
      rw [nrm2_cross_cross_right]
      exact mul_le_mul_of_nonneg_left (mul_le_mul_of_nonneg_right hbL hg.le) ht0)
    (by
      refine le_trans (dot_sq_le v _) ?_
      rw [nrm2_cross_cross_left]
      exact mul_le_mul_of_nonneg_left (mul_le_mul_of_nonneg_right haL hg.le) ht0)
    (dot_sq_le v _) hae hbe (cross_error_le R₁ R₂ ⟨ho₁, hd₁⟩ ⟨ho₂, hd₂⟩ a b L2 e2 haL hbL hae hbe)
  rw [← cramer_rowMul_sub, nrm2_smul] at htot
  refine le_of_mul_le_mul_left ?_ hg
  linarith

/-- if two proper rotations move `a` and `b` to within `ε` of each other (`|aR₁ − aR₂|² ≤ e2 = ε²`, same for
    `b`), `|a|², |b|² ≤ L2 = L²` and `g = |a × b|² > 0`, then for every `v` with `|v|² ≤ 1`
    `g·|vR₁ − vR₂|² ≤ 16·L2·e2`, i.e. `|vR₁ − vR₂| ≤ C(L,g)·ε` with the explicit `C(L,g) = 4L/√g`
    (stated without square roots, so it holds over ℚ too). -/
theorem rotation_close_of_close_on_two (R₁ R₂ : M3 K) (ho₁ : R₁.mul R₁.transpose = M3.one) (hd₁ : R₁.det = 1)
    (ho₂ : R₂.mul R₂.transpose = M3.one) (hd₂ : R₂.det = 1) (a b : V3 K) (L2 e2 : K)
    (haL : a.nrm2 ≤ L2) (hbL : b.nrm2 ≤ L2)
    (hae : ((rowMul a R₁).sub (rowMul a R₂)).nrm2 ≤ e2) (hbe : ((rowMul b R₁).sub (rowMul b R₂)).nrm2 ≤ e2)
    (hg : 0 < cross2 a b) (v : V3 K) (hv : v.nrm2 ≤ 1) :
    cross2 a b * ((rowMul v R₁).sub (rowMul v R₂)).nrm2 ≤ 16 * L2 * e2 := by
  have h := rotation_close_of_close_on_two_any R₁ R₂ ho₁ hd₁ ho₂ hd₂ a b L2 e2 haL hbL hae hbe hg v
  have h0 : 0 ≤ 16 * L2 * e2 :=
    mul_nonneg (mul_nonneg (by norm_num) (le_trans (V3.nrm2_nonneg _) haL)) (le_trans (V3.nrm2_nonneg _) hae)
  exact le_trans h (mul_le_of_le_one_right h0 hv)

/-- entry by entry: every entry `d` of `R₁ − R₂` satisfies `|a×b|²·d² ≤ 16·L2·e2`, i.e. `|d| ≤ (4L/√g)·ε` -/
theorem rotation_entries_close (R₁ R₂ : M3 K) (ho₁ : R₁.mul R₁.transpose = M3.one) (hd₁ : R₁.det = 1)
    (ho₂ : R₂.mul R₂.transpose = M3.one) (hd₂ : R₂.det = 1) (a b : V3 K) (L2 e2 : K)
    (haL : a.nrm2 ≤ L2) (hbL : b.nrm2 ≤ L2)
    (hae : ((rowMul a R₁).sub (rowMul a R₂)).nrm2 ≤ e2) (hbe : ((rowMul b R₁).sub (rowMul b R₂)).nrm2 ≤ e2)
    (hg : 0 < cross2 a b) :
    cross2 a b * (R₁.a00 - R₂.a00) ^ 2 ≤ 16 * L2 * e2 ∧ cross2 a b * (R₁.a01 - R₂.a01) ^ 2 ≤ 16 * L2 * e2
    ∧ cross2 a b * (R₁.a02 - R₂.a02) ^ 2 ≤ 16 * L2 * e2 ∧ cross2 a b * (R₁.a10 - R₂.a10) ^ 2 ≤ 16 * L2 * e2
    ∧ cross2 a b * (R₁.a11 - R₂.a11) ^ 2 ≤ 16 * L2 * e2 ∧ cross2 a b * (R₁.a12 - R₂.a12) ^ 2 ≤ 16 * L2 * e2
    ∧ cross2 a b * (R₁.a20 - R₂.a20) ^ 2 ≤ 16 * L2 * e2 ∧ cross2 a b * (R₁.a21 - R₂.a21) ^ 2 ≤ 16 * L2 * e2
    ∧ cross2 a b * (R₁.a22 - R₂.a22) ^ 2 ≤ 16 * L2 * e2 := by
  -- a row of `R₁ − R₂` is the difference of the images of a unit basis vector
  have key := rotation_close_of_close_on_two R₁ R₂ ho₁ hd₁ ho₂ hd₂ a b L2 e2 haL hbL hae hbe hg
  have row : ∀ (p q r : K), cross2 a b * (p * p + q * q + r * r) ≤ 16 * L2 * e2 →
      cross2 a b * p ^ 2 ≤ 16 * L2 * e2 ∧ cross2 a b * q ^ 2 ≤ 16 * L2 * e2 ∧ cross2 a b * r ^ 2 ≤ 16 * L2 * e2 := by
    intro p q r h
    have := mul_nonneg hg.le (sq_nonneg p)
    have := mul_nonneg hg.le (sq_nonneg q)
    have := mul_nonneg hg.le (sq_nonneg r)
    exact ⟨by linarith, by linarith, by linarith⟩
  have k0 := key ⟨1, 0, 0⟩ (by norm_num [V3.nrm2])
  have k1 := key ⟨0, 1, 0⟩ (by norm_num [V3.nrm2])
  have k2 := key ⟨0, 0, 1⟩ (by norm_num [V3.nrm2])
  simp only [rowMul, V3.sub, V3.nrm2, one_mul, zero_mul, add_zero, zero_add] at k0 k1 k2
  obtain ⟨a0, a1, a2⟩ := row _ _ _ k0
  obtain ⟨b0, b1, b2⟩ := row _ _ _ k1
  obtain ⟨c0, c1, c2⟩ := row _ _ _ k2
  exact ⟨a0, a1, a2, b0, b1, b2, c0, c1, c2⟩

theorem rotation_error_on_vector (R₁ R₂ : M3 K) (ho₁ : R₁.mul R₁.transpose = M3.one) (hd₁ : R₁.det = 1)
    (ho₂ : R₂.mul R₂.transpose = M3.one) (hd₂ : R₂.det = 1) (cs : List (V3 K)) (L2 e2 m : K)
    (hL : ∀ c ∈ cs, c.nrm2 ≤ L2) (he : ∀ c ∈ cs, ((rowMul c R₁).sub (rowMul c R₂)).nrm2 ≤ e2)
    (hnc : NonCollinearBy m cs) (hm : 0 < m) (w : V3 K) :
    m * ((rowMul w R₁).sub (rowMul w R₂)).nrm2 ≤ 16 * L2 * e2 * w.nrm2 := by
  obtain ⟨a, ha, b, hb, hab⟩ := hnc
  have h := rotation_close_of_close_on_two_any R₁ R₂ ho₁ hd₁ ho₂ hd₂ a b L2 e2 (hL a ha) (hL b hb) (he a ha)
    (he b hb) (lt_of_lt_of_le hm hab) w
  exact le_trans (mul_le_mul_of_nonneg_right hab (V3.nrm2_nonneg _)) h

/-- **on a geometry**: if `|c R₁ − c R₂|² ≤ e2` and `|c|² ≤ L2` for every atom of `cs`, and `cs` is non-collinear
    with margin `m > 0` (`NonCollinearBy m cs`: two position vectors with `|a × b|² ≥ m`; the driver's
    `maxCross2 cs` is the best such `m`, `nonCollinearBy_maxCross2`), then for every `|v|² ≤ 1`
    `m·|vR₁ − vR₂|² ≤ 16·L2·e2`. -/
theorem recovery_rotation_close (R₁ R₂ : M3 K) (ho₁ : R₁.mul R₁.transpose = M3.one) (hd₁ : R₁.det = 1)
    (ho₂ : R₂.mul R₂.transpose = M3.one) (hd₂ : R₂.det = 1) (cs : List (V3 K)) (L2 e2 m : K)
    (hL : ∀ c ∈ cs, c.nrm2 ≤ L2) (he : ∀ c ∈ cs, ((rowMul c R₁).sub (rowMul c R₂)).nrm2 ≤ e2)
    (hm : 0 < m) (hnc : NonCollinearBy m cs) (v : V3 K) (hv : v.nrm2 ≤ 1) :
    m * ((rowMul v R₁).sub (rowMul v R₂)).nrm2 ≤ 16 * L2 * e2 := by
  have h := rotation_error_on_vector R₁ R₂ ho₁ hd₁ ho₂ hd₂ cs L2 e2 m hL he hnc hm v
  obtain ⟨a, ha, -⟩ := hnc
  exact h.trans (mul_le_of_le_one_right (mul_nonneg (mul_nonneg (by norm_num) ((V3.nrm2_nonneg a).trans (hL a ha)))
    ((V3.nrm2_nonneg _).trans (he a ha))) hv)

-- non-vacuity (test): R₁ = identity, R₂ = the rational rotation by angle 2·atan(1/100) about z, a = e₁, b = e₂
-- (L2 = 1, g = 1): both are moved by |Δ|² = 4/10001, and the bound 16·L2·e2 is met by the rows (Δ² = 4/10001 each)
example :
    let R₂ : M3 ℚ := ⟨9999 / 10001, -200 / 10001, 0, 200 / 10001, 9999 / 10001, 0, 0, 0, 1⟩
    R₂.mul R₂.transpose = M3.one ∧ R₂.det = 1
      ∧ ((rowMul (⟨1, 0, 0⟩ : V3 ℚ) M3.one).sub (rowMul ⟨1, 0, 0⟩ R₂)).nrm2 ≤ 4 / 10001
      ∧ ((rowMul (⟨0, 1, 0⟩ : V3 ℚ) M3.one).sub (rowMul ⟨0, 1, 0⟩ R₂)).nrm2 ≤ 4 / 10001
      ∧ 0 < cross2 (⟨1, 0, 0⟩ : V3 ℚ) ⟨0, 1, 0⟩ := by decide +kernel

end Quantitative

/-! ## the qualifier is necessary: a collinear set does not determine the rotation -/

section Negative
variable [Field K] [LinearOrder K] [IsStrictOrderedRing K]

/-- the half-turn about the axis `d`: `2 d dᵀ/|d|² − I` -/
def halfTurn (d : V3 K) : M3 K := axial (2 / d.nrm2) (-1) d

omit [LinearOrder K] [IsStrictOrderedRing K] in
theorem halfTurn_isRot (d : V3 K) (hd : d.nrm2 ≠ 0) : IsRot (halfTurn d) :=
  ⟨axial_orth (by field_simp; ring) (by ring), by rw [halfTurn, axial_det]; field_simp; ring⟩

omit [LinearOrder K] [IsStrictOrderedRing K] in
theorem halfTurn_fixes_axis (d : V3 K) (hd : d.nrm2 ≠ 0) (t : K) :
    rowMul (V3.smul t d) (halfTurn d) = V3.smul t d := by
  have e : (V3.smul t d).dot d = t * d.nrm2 := by simp only [V3.dot, V3.smul, V3.nrm2]; ring
  rw [halfTurn, rowMul_axial, e]
  ext <;> simp only [V3.smul, V3.add] <;> field_simp <;> ring

/-- a half-turn is not the identity: its trace is `−1`, not `3` -/
theorem halfTurn_ne_one (d : V3 K) (hd : d.nrm2 ≠ 0) : halfTurn d ≠ M3.one := by
  intro h
  have h0 := congrArg M3.a00 h
  have h1 := congrArg M3.a11 h
  have h2 := congrArg M3.a22 h
  simp only [halfTurn, axial, outer, M3.smul, M3.add, M3.one] at h0 h1 h2
  have : 2 / d.nrm2 * (d.x * d.x + d.y * d.y + d.z * d.z) = 6 := by linear_combination h0 + h1 + h2
  rw [show d.x * d.x + d.y * d.y + d.z * d.z = d.nrm2 from rfl, div_mul_cancel₀ _ hd] at this
  norm_num at this

/-- for a collinear centred set (all position vectors on one line through the origin) there are two
    DIFFERENT proper rotations that agree on every atom — the identity and the half-turn about the line (any
    rotation about the line would do; if all atoms sit at the origin, any two rotations).  So the rotation is not
    determined, and "non-collinear" cannot be dropped from the property. -/
theorem collinear_not_unique (c : List (V3 K)) (h : OnLine c) :
    ∃ R₁ R₂ : M3 K, (R₁.mul R₁.transpose = M3.one ∧ R₁.det = 1) ∧ (R₂.mul R₂.transpose = M3.one ∧ R₂.det = 1)
      ∧ R₁ ≠ R₂ ∧ ∀ a ∈ c, rowMul a R₁ = rowMul a R₂ := by
  obtain ⟨d, hd⟩ := h
  -- an axis of non-zero length through every atom (any axis if every atom is at the origin)
  obtain ⟨d', hn, hd'⟩ : ∃ d' : V3 K, d'.nrm2 ≠ 0 ∧ ∀ a ∈ c, ∃ t : K, a = V3.smul t d' := by
    by_cases hd0 : d = V3.zero
    · refine ⟨⟨1, 0, 0⟩, by simp [V3.nrm2], fun a ha => ⟨0, ?_⟩⟩
      obtain ⟨t, rfl⟩ := hd a ha
      subst hd0
      ext <;> simp [V3.smul, V3.zero]
    · exact ⟨d, fun h0 => hd0 ((nrm2_eq_zero_iff d).mp h0), hd⟩
  refine ⟨halfTurn d', M3.one, ⟨(halfTurn_isRot _ hn).orth, (halfTurn_isRot _ hn).det⟩,
    ⟨IsRot.one.orth, IsRot.one.det⟩, halfTurn_ne_one _ hn, fun a ha => ?_⟩
  obtain ⟨t, rfl⟩ := hd' a ha
  rw [halfTurn_fixes_axis d' hn, rowMul_one]

/-- **the qualifier is exactly right**: the proper rotation is determined by its action on the atoms of `c`
    if and only if `c` is non-collinear -/
theorem rotation_determined_iff_nonCollinear (c : List (V3 K)) :
    (∀ R₁ R₂ : M3 K, R₁.mul R₁.transpose = M3.one → R₁.det = 1 → R₂.mul R₂.transpose = M3.one → R₂.det = 1 →
        (∀ a ∈ c, rowMul a R₁ = rowMul a R₂) → R₁ = R₂) ↔ NonCollinear c := by
  constructor
  · intro h
    rw [nonCollinear_iff_not_onLine]
    intro hl
    obtain ⟨R₁, R₂, ⟨ho₁, hd₁⟩, ⟨ho₂, hd₂⟩, hne, hag⟩ := collinear_not_unique c hl
    exact hne (h R₁ R₂ ho₁ hd₁ ho₂ hd₂ hag)
  · intro hnc R₁ R₂ ho₁ hd₁ ho₂ hd₂ hag
    exact recovery_rotation_unique R₁ R₂ ho₁ hd₁ ho₂ hd₂ c hag hnc

-- the witness, concretely (test): atoms (1,0,0), (-2,0,0), (5,0,0) on the x axis; half-turn about x vs identity
example : OnLine [(⟨1, 0, 0⟩ : V3 ℚ), ⟨-2, 0, 0⟩, ⟨5, 0, 0⟩] := by
  refine ⟨⟨1, 0, 0⟩, ?_⟩
  intro a ha
  simp only [List.mem_cons, List.not_mem_nil, or_false] at ha
  rcases ha with rfl | rfl | rfl
  · exact ⟨1, by ext <;> simp [V3.smul]⟩
  · exact ⟨-2, by ext <;> simp [V3.smul]⟩
  · exact ⟨5, by ext <;> simp [V3.smul]⟩

end Negative

/-! ## the exact margin `maxCross2` the driver evaluates -/

section Margin
variable [Field K] [LinearOrder K] [IsStrictOrderedRing K]

omit [IsStrictOrderedRing K] in
/-- a maximum over atoms is reached by `m` iff some atom reaches it (or `m ≤ 0`, the value for no atom) -/
theorem le_maxCrossWith_iff (m : K) (a : V3 K) (l : List (V3 K)) :
    m ≤ maxCrossWith a l ↔ m ≤ 0 ∨ ∃ b ∈ l, m ≤ cross2 a b := by
  induction l with
  | nil => simp [maxCrossWith]
  | cons c t ih =>
    simp only [maxCrossWith, le_max_iff, ih, List.mem_cons, or_and_right, exists_or, exists_eq_left]
    exact or_left_comm

omit [IsStrictOrderedRing K] in
theorem maxCrossWith_nonneg (a : V3 K) (l : List (V3 K)) : 0 ≤ maxCrossWith a l :=
  (le_maxCrossWith_iff 0 a l).mpr (Or.inl le_rfl)

omit [IsStrictOrderedRing K] in
/-- … and the maximum over pairs by `m` iff some pair of atoms, in either order, reaches it -/
theorem le_maxCross2_iff (m : K) (l : List (V3 K)) :
    m ≤ maxCross2 l ↔ m ≤ 0 ∨ ∃ a ∈ l, ∃ b ∈ l, m ≤ cross2 a b := by
  induction l with
  | nil => simp [maxCross2]
  | cons c t ih =>
    simp only [maxCross2, le_max_iff, le_maxCrossWith_iff, ih]
    constructor
    · rintro ((h | ⟨b, hb, h⟩) | h | ⟨a, ha, b, hb, h⟩)
      · exact Or.inl h
      · exact Or.inr ⟨c, List.mem_cons_self, b, List.mem_cons_of_mem _ hb, h⟩
      · exact Or.inl h
      · exact Or.inr ⟨a, List.mem_cons_of_mem _ ha, b, List.mem_cons_of_mem _ hb, h⟩
    · rintro (h | ⟨a, ha, b, hb, h⟩)
      · exact Or.inl (Or.inl h)
      · rcases List.mem_cons.mp ha with rfl | ha' <;> rcases List.mem_cons.mp hb with rfl | hb'
        · exact Or.inl (Or.inl (by rwa [cross2_self] at h))
        · exact Or.inl (Or.inr ⟨b, hb', h⟩)
        · exact Or.inl (Or.inr ⟨a, ha', by rwa [cross2_comm]⟩)
        · exact Or.inr (Or.inr ⟨a, ha', b, hb', h⟩)

omit [IsStrictOrderedRing K] in
/-- **the driver's number is the margin**: for `0 < m`, `NonCollinearBy m c ↔ m ≤ maxCross2 c` -/
theorem nonCollinearBy_iff_le_maxCross2 (c : List (V3 K)) (m : K) (hm : 0 < m) :
    NonCollinearBy m c ↔ m ≤ maxCross2 c := by
  rw [le_maxCross2_iff]
  exact ⟨Or.inr, fun h => h.resolve_left (not_le.mpr hm)⟩

omit [IsStrictOrderedRing K] in
theorem nonCollinearBy_maxCross2 (c : List (V3 K)) (h : 0 < maxCross2 c) : NonCollinearBy (maxCross2 c) c :=
  (nonCollinearBy_iff_le_maxCross2 c _ h).mpr le_rfl

/-- **`NonCollinear c ↔ 0 < maxCross2 c`**: the class on which recovery of rotation and shift is a theorem is the
    class where the driver's exact margin is positive -/
theorem maxCross2_pos_iff (c : List (V3 K)) : 0 < maxCross2 c ↔ NonCollinear c := by
  constructor
  · intro h
    obtain ⟨a, ha, b, hb, e⟩ := ((le_maxCross2_iff _ c).mp le_rfl).resolve_left (not_le.mpr h)
    exact ⟨a, ha, b, hb, (cross2_pos_iff a b).mp (lt_of_lt_of_le h e)⟩
  · rintro ⟨a, ha, b, hb, h⟩
    exact lt_of_lt_of_le ((cross2_pos_iff a b).mpr h) ((le_maxCross2_iff _ c).mpr (Or.inr ⟨a, ha, b, hb, le_rfl⟩))

omit [IsStrictOrderedRing K] in
/-- the margin is the same for the moved copy: proper rotations preserve `|a × b|²` (so it does not matter that the
    harness evaluates it on the reference while `recovery_rotation_close` speaks of the second geometry) -/
theorem maxCross2_map_rowMul (U : M3 K) (ho : U.mul U.transpose = M3.one) (hd : U.det = 1) (c : List (V3 K)) :
    maxCross2 (c.map (fun v => rowMul v U)) = maxCross2 c := by
  have hU : IsRot U := ⟨ho, hd⟩
  have hw : ∀ (a : V3 K) (l : List (V3 K)),
      maxCrossWith (rowMul a U) (l.map (fun v => rowMul v U)) = maxCrossWith a l := by
    intro a l
    induction l with
    | nil => rfl
    | cons b t ih => simp only [List.map_cons, maxCrossWith, ih, cross2_rowMul hU]
  induction c with
  | nil => rfl
  | cons a t ih => simp only [List.map_cons, maxCross2, ih, hw]

-- tests of the margin on concrete geometries (kernel evaluation at ℚ)
example : maxCross2 [(⟨1, 0, 0⟩ : V3 ℚ), ⟨-2, 0, 0⟩, ⟨5, 0, 0⟩] = 0 := by decide +kernel
example : maxCross2 [(⟨1, 0, 0⟩ : V3 ℚ), ⟨0, 2, 0⟩, ⟨-1, -2, 0⟩] = 4 := by decide +kernel
example : collinearityMargin [(⟨0, 0, 0⟩ : V3 ℚ), ⟨3, 0, 0⟩, ⟨0, 3, 0⟩] = 9 := by decide +kernel

end Margin

end QcelVerif.Kabsch
