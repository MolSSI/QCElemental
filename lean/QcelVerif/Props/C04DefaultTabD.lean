import QcelVerif.Props.C04DefaultNuc
/-! C04 — kernel evaluation of `elementIsoOk` (Props/C04DefaultNuc.lean) over the generated periodic table;
part D of A–E, rows 72–95.  The parts are
put together in `shipped_isotope_rows` (Props/C04Default.lean).  Re-checked whenever `tools/gen_periodic.py`
regenerates `Gen/PT.lean` from a changed data file. -/
namespace QcelVerif.FromArrays
open QcelVerif QcelVerif.Nucleus

theorem iso_rows_D : ((Gen.PT.elements.drop 72).take 24).all elementIsoOk = true := by decide +kernel

end QcelVerif.FromArrays
