import QcelVerif.Model.PeriodicTable
import QcelVerif.Lemmas.PStr
/-!
# C01 — periodic-table lookups: general theorems (any table, any ASCII text)
-/
namespace QcelVerif.PT
open QcelVerif QcelVerif.PStr

/-- **Letter case never matters**: two texts that agree after lower-casing resolve identically
(any table, any ASCII text, strict or not). -/
theorem resolve_case_insensitive (T : Tables) (s s' : Bytes) (h : lower s = lower s') (strict : Bool) :
    T.resolve (.str s) strict = T.resolve (.str s') strict := by
  unfold Tables.resolve Tables.resolveEliso
  simp only [capitalize_congr h, pyInt_congr h]

/-- every accessor inherits case-insensitivity -/
theorem accessors_case_insensitive (T : Tables) (s s' : Bytes) (h : lower s = lower s') (strict : Bool) :
    T.toE (.str s) strict = T.toE (.str s') strict ∧ T.toZ (.str s) strict = T.toZ (.str s') strict ∧
    T.toName (.str s) strict = T.toName (.str s') strict ∧ T.toA (.str s) = T.toA (.str s') ∧
    T.toMass (.str s) = T.toMass (.str s') ∧ T.toPeriod (.str s) = T.toPeriod (.str s') ∧
    T.toGroup (.str s) = T.toGroup (.str s') := by
  simp only [Tables.toE, Tables.toZ, Tables.toName, Tables.toA, Tables.toMass, Tables.toPeriod,
    Tables.toGroup, resolve_case_insensitive T s s' h]
  simp

example : lower [107, 82, 56, 52] = lower [75, 114, 56, 52] := by decide  -- hypothesis satisfiable: "kR84" ~ "Kr84"

/-- `resolve` is `resolveEliso`, kept under `strict` only if it is a bare element symbol -/
theorem resolve_eq_some_iff (T : Tables) (a : PyVal) (strict : Bool) (k : Nat) :
    T.resolve a strict = some k ↔ T.resolveEliso a = some k ∧ (strict = true → T.isElementSymbol k = true) := by
  unfold Tables.resolve
  cases T.resolveEliso a with
  | none => simp
  | some k' =>
    by_cases hk : k' = k
    · subst hk; cases strict <;> simp
    · simp [hk]

/-- **No wrong species**: a successful lookup is always justified by one of the three alias
relations — the capitalised text is itself a nuclide key, or its integer value is an atomic number
of the table, or the capitalised text is an element name — so an unknown name can never return some
other species' data. -/
theorem no_wrong_species (T : Tables) (a : PyVal) (strict : Bool) (k : Nat)
    (h : T.resolve a strict = some k) :
    (∃ s, a = .str s ∧ k = pack (capitalize s) ∧ T.eliso.contains k = true) ∨
    (∃ z, (a = .int z ∨ ∃ s, a = .str s ∧ pyInt s = some z) ∧ T.z2el z = some k) ∨
    (∃ s, a = .str s ∧ T.name2el (pack (capitalize s)) = some k) := by
  have hr := ((resolve_eq_some_iff T a strict k).1 h).1
  cases a with
  | int z => exact Or.inr (Or.inl ⟨z, Or.inl rfl, hr⟩)
  | str s =>
    simp only [Tables.resolveEliso] at hr
    split at hr
    · rename_i hc
      exact Or.inl ⟨s, rfl, (Option.some.inj hr).symm, by rw [← Option.some.inj hr]; exact hc⟩
    · split at hr
      · rename_i e he
        cases hp : pyInt s with
        | none => simp [hp] at he
        | some z =>
          simp only [hp] at he
          exact Or.inr (Or.inl ⟨z, Or.inr ⟨s, rfl, hp⟩, by rw [he, Option.some.inj hr]⟩)
      · exact Or.inr (Or.inr ⟨s, rfl, hr⟩)

/-- **Strict mode** accepts exactly the non-strict answers that are bare element symbols. -/
theorem strict_exact (T : Tables) (a : PyVal) (k : Nat) :
    T.resolve a true = some k ↔ (T.resolve a false = some k ∧ T.isElementSymbol k = true) := by
  simp [resolve_eq_some_iff]

/-- **Period and group are the position in the standard 18-column table**, for every atomic
number: the period ladder and the group membership lists of the code agree with the independent
layout rule (noble gases close the periods; group from the offset in the period; f-block: none). -/
theorem period_group_standard (z : Nat) : periodOfZ z = specPeriod z ∧ groupOfZ z = specGroup z := by
  by_cases h : z < 119
  · have key : ∀ z, z < 119 → (periodOfZ z = specPeriod z ∧ groupOfZ z = specGroup z) := by decide
    exact key z h
  · have hz : 119 ≤ z := by omega
    constructor
    · have e1 : periodOfZ z = 8 := by
        simp only [periodOfZ]
        repeat (first | rfl | (split; omega))
      have e2 : specPeriod z = 8 := by
        simp only [specPeriod, nobleGases, List.filter]
        have : ∀ k, k ≤ 118 → decide (k < z) = true := by intro k hk; simp; omega
        simp [this]
      rw [e1, e2]
    · have e2 : specGroup z = none := by
        simp only [specGroup]; rw [if_pos (Or.inr (by omega))]
      have e1 : groupOfZ z = none := by
        simp only [groupOfZ, List.contains, List.elem]
        have : ∀ k, k ≤ 118 → (z == k) = false := by intro k hk; simp; omega
        simp [this]
      rw [e1, e2]

end QcelVerif.PT
