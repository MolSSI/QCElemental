import QcelVerif.Props.C04
import QcelVerif.Gen.FromArraysSrc
/-!
# C04 — the validation LOGIC of three stage functions, regenerated from the source

`harness/c04_src.py` reads the bodies of `validate_and_fill_geometry`, `validate_and_fill_nuclei` and
`validate_and_fill_fragments` (qcelemental/molparse/from_arrays.py) by `ast` and emits them as terms
(`Gen/FromArraysSrc.lean`: `Gen.geomFn`, `Gen.nucFn`, `Gen.fragFn`) of the small syntax of `Model/FromArraysAst.lean`.
This file proves, for ALL inputs (any number of atoms, any arrays, any separators, any reconciler), that the
evaluator at each generated term equals the hand model of that stage (`validateGeometry`, `validateNuclei`,
`validateFragments`), hence that the pipeline with the three source-derived stages is `fromArrays` / `fromSchema`,
and restates the invariant, fixed-point and refusal theorems of `Props/C04.lean` over that pipeline (`…_src`).

Not derived from the source: `validate_and_fill_units`, `validate_and_fill_frame`, `from_arrays`' own dispatch on
`domain` / `missing_enabled_return` and the chgmult call with `Z·real` are the hand model inside `fromArraysWith`;
numpy's `reshape`, `einsum`, `np.split`, `np.asarray` are given their meaning by the evaluator (`rows3`, `dist2`,
`npSplit`, lists), not derived from numpy.
-/
namespace QcelVerif.FromArrays
open Src

theorem geom_hits (tc : Rat) : ∀ rows : List R3,
    (pairHits Gen.geomFn (tc * tc) rows).isEmpty = !anyTooClose tc rows
  | [] => rfl
  | p :: t => by
    have ih := geom_hits tc t
    by_cases h : t.any (fun q => decide (dist2 p q < tc * tc)) = true
    · have hne : (t.filter (fun q => decide (dist2 p q < tc * tc))) ≠ [] := by
        intro h0
        rw [List.filter_eq_nil_iff] at h0
        obtain ⟨x, hx, hc⟩ := List.any_eq_true.1 h
        exact h0 x hx hc
      simp [pairHits, Gen.geomFn, Cmp.holds, anyTooClose, h, hne]
    · simp only [Bool.not_eq_true] at h
      simp [pairHits, Gen.geomFn, Cmp.holds, anyTooClose, h]
      exact ih

/-- **Source tie, geometry.** -/
theorem evalGeom_eq (tc : Rat) (g : List Rat) : evalGeom Gen.geomFn tc g = validateGeometry tc g := by
  unfold evalGeom validateGeometry
  cases rows3 g with
  | none => simp [Gen.geomFn]
  | some rows =>
    have : powR tc Gen.geomFn.metricPow = tc * tc := rfl
    simp only [this, geom_hits]
    cases anyTooClose tc rows <;> simp [Gen.geomFn]

theorem map_minusOne_id : ∀ l : List (Option Int), l.contains (some (-1)) = false →
    l.map (fun a => if a = some (-1) then none else a) = l
  | [], _ => rfl
  | a :: t, h => by
    simp only [List.contains_cons, Bool.or_eq_false_iff] at h
    have ha : ¬ a = some (-1) := by
      intro h0; subst h0; simp at h
    simp only [List.map_cons, ha, if_false]
    rw [map_minusOne_id t h.2]

theorem normMinusOne_true (l : List (Option Int)) : normMinusOne true l = eleaNorm l := by
  unfold normMinusOne eleaNorm
  cases h : l.contains (some (-1))
  · simp only [Bool.and_false, Bool.false_eq_true, if_false]
    exact (map_minusOne_id l h).symm
  · simp

theorem normMinusOne_false (l : List (Option Int)) : normMinusOne false l = l := by
  simp [normMinusOne]

theorem eleaNorm_replicate (n : Nat) : eleaNorm (List.replicate n none) = List.replicate n none := by
  simp [eleaNorm]

theorem srcArrays_eq (nat : Nat) (i : Inp) : srcArrays Gen.nucFn nat i = nucArrays nat i := by
  have h1 : Gen.nucFn.minusOne .elea = true := by decide
  have h2 : Gen.nucFn.minusOne .elez = false := by decide
  unfold srcArrays nucArrays
  rw [h1, h2]
  congr 1
  · cases i.elea with
    | none => simp [fillInt, fillNone, eleaNorm_replicate]
    | some l => simp [fillInt, fillNone, normMinusOne_true]
  · cases i.elez with
    | none => rfl
    | some l => simp [fillInt, fillNone, normMinusOne_false]

theorem reconLoop_eq (rc : Clue → Except Err Nuc) : ∀ (n : Nat) (a z : List (Option Int)) (e : List (Option String))
    (m : List (Option Rat)) (r : List (Option Bool)) (l : List (Option String)),
    a.length = n → z.length = n → e.length = n → m.length = n → r.length = n → l.length = n →
    reconLoop rc n a z e m r l = mapE rc (clues a z e m r l)
  | 0, a, z, e, m, r, l, ha, hz, he, hm, hr, hl => by
    cases a <;> simp_all [reconLoop, clues, mapE]
  | n + 1, a, z, e, m, r, l, ha, hz, he, hm, hr, hl => by
    cases a with | nil => simp at ha | cons a as =>
    cases z with | nil => simp at hz | cons z zs =>
    cases e with | nil => simp at he | cons e es =>
    cases m with | nil => simp at hm | cons m ms =>
    cases r with | nil => simp at hr | cons r rs =>
    cases l with | nil => simp at hl | cons l ls =>
    simp only [List.length_cons, Nat.add_right_cancel_iff] at ha hz he hm hr hl
    simp only [reconLoop, clues, mapE]
    rw [reconLoop_eq rc n as zs es ms rs ls ha hz he hm hr hl]
    cases rc { A := a, Z := z, E := e, mass := m, real := r, label := l } with
    | error _ => rfl
    | ok b => cases mapE rc (clues as zs es ms rs ls) <;> rfl

theorem evalNBody_eq (rc : Clue → Except Err Nuc) (nat : Nat) (a : NucArrays) :
    evalNBody rc nat a Gen.nucFn.body none =
      if a.elea.length = nat ∧ a.elez.length = nat ∧ a.elem.length = nat ∧
         a.mass.length = nat ∧ a.real.length = nat ∧ a.elbl.length = nat then
        mapE rc (clues a.elea a.elez a.elem a.mass a.real a.elbl)
      else .error .validation := by
  by_cases h : a.elea.length = nat ∧ a.elez.length = nat ∧ a.elem.length = nat ∧
         a.mass.length = nat ∧ a.real.length = nat ∧ a.elbl.length = nat
  · rw [if_pos h]
    obtain ⟨h1, h2, h3, h4, h5, h6⟩ := h
    have hl := reconLoop_eq rc nat a.elea a.elez a.elem a.mass a.real a.elbl h1 h2 h3 h4 h5 h6
    cases hn : nat with
    | zero =>
      subst hn
      rw [List.length_eq_zero_iff] at h1 h2 h3 h4 h5 h6
      simp [Gen.nucFn, evalNBody, termLen, lenOf, chainEq, h1, h2, h3, h4, h5, h6, clues, mapE]
    | succ k =>
      subst hn
      simp only [Gen.nucFn, evalNBody, termLen, lenOf, chainEq, List.map_cons, List.map_nil, h1, h2, h3, h4, h5, h6,
        beq_self_eq_true, Bool.and_self, Bool.false_and, Bool.false_eq_true, if_false, if_true, Bool.true_and]
      rw [hl]
      simp
      cases mapE rc (clues a.elea a.elez a.elem a.mass a.real a.elbl) <;> rfl
  · rw [if_neg h]
    have hc : chainEq [nat, a.elea.length, a.elez.length, a.elem.length, a.mass.length, a.real.length, a.elbl.length] = false := by
      cases hb : chainEq [nat, a.elea.length, a.elez.length, a.elem.length, a.mass.length, a.real.length, a.elbl.length]
      · rfl
      · exfalso
        simp only [chainEq, Bool.and_true, Bool.and_eq_true, beq_iff_eq] at hb
        apply h
        omega
    simp [Gen.nucFn, evalNBody, termLen, lenOf, hc]

/-- **Source tie, nuclei.** -/
theorem evalNuclei_eq (rc : Reconciler) (nat : Nat) (i : Inp) :
    evalNuclei Gen.nucFn rc nat i = validateNuclei rc nat i := by
  unfold evalNuclei validateNuclei
  rw [srcArrays_eq, evalNBody_eq]

/-! The statement evaluator in continuation form: a sequence is evaluated statement by statement, a branch
followed by `r` is the branch between its arms followed by `r`. -/

theorem evalFS_seq_assoc (a : FArgs) (x y r : FS) (s : FState) :
    evalFS a (.seq (.seq x y) r) s = evalFS a (.seq x (.seq y r)) s := by
  simp only [evalFS]
  cases evalFS a x s <;> rfl

theorem evalFS_seq_ite (a : FArgs) (c : FB) (t e r : FS) (s : FState) :
    evalFS a (.seq (.ite c t e) r) s = if evalFB a s c then evalFS a (.seq t r) s else evalFS a (.seq e r) s := by
  simp only [evalFS]
  cases evalFB a s c <;> rfl

theorem evalFragments_eq_map (p : FS) (nat : Nat) (seps : Option (List Int)) (fc fm : Option (List (Option Int))) :
    evalFragments p nat seps fc fm = (evalFS { nat := nat, seps := seps, fc := fc, fm := fm } p {}).map
      (fun s => { seps := s.frs, fc := s.frc, fm := s.frm }) := by
  unfold evalFragments
  cases evalFS _ p {} <;> rfl

/-- Python's `a == b == c` on three lengths -/
theorem chainEq3 (a b c : Nat) : chainEq [a, b, c] = decide (a = c ∧ b = c) := by
  rw [Bool.eq_iff_iff]
  simp only [chainEq, Bool.and_true, Bool.and_eq_true, beq_iff_eq, decide_eq_true_eq]
  omega

theorem ite_and_nested {α} (P Q : Prop) [Decidable P] [Decidable Q] (x y : α) :
    (if P ∧ Q then x else y) = if P then (if Q then x else y) else y := by
  by_cases P <;> by_cases Q <;> simp [*]

/-- **Source tie, fragments.**  Without separators both sides compute; with separators the generated program,
evaluated statement by statement, is the same tree of tests as the hand model, in each of the four ways the
charges and multiplicities can be present. -/
theorem evalFragments_eq (nat : Nat) (seps : Option (List Int)) (fc fm : Option (List (Option Int))) :
    evalFragments Gen.fragFn nat seps fc fm = validateFragments nat seps fc fm := by
  cases seps with
  | none => cases fc <;> cases fm <;> rfl
  | some s =>
    rw [evalFragments_eq_map]
    unfold Gen.fragFn validateFragments
    cases fc <;> cases fm <;>
      simp only [↓evalFS_seq_assoc, ↓evalFS_seq_ite, evalFS, evalFB, evalFI, evalFL, argIsNone, List.map_cons,
        List.map_nil, chainEq3, Option.isNone_none, Option.isNone_some, if_true, if_false, Bool.false_eq_true,
        List.any_map, Function.comp_def, List.length_map, List.length_replicate, Option.getD_none, Option.getD_some,
        bne_iff_ne, Bool.not_eq_true', decide_eq_false_iff_not, apply_ite (Except.map _), ite_and_nested, ite_not] <;>
      simp only [Except.map]

/-- the translator recognised every region of the source (an unrecognised shape leaves `ok := false`) -/
theorem translation_ok : Gen.progs.ok = true := by decide

/-- **Source tie, from_arrays.** -/
theorem fromArraysWith_eq (env : Env) (i : Inp) : fromArraysWith Gen.progs env i = fromArrays env i := by
  unfold fromArraysWith fromArrays
  simp only [Gen.progs, evalGeom_eq, evalNuclei_eq, evalFragments_eq]
  rfl

/-- **Source tie, from_schema.** -/
theorem fromSchemaWith_eq (env : Env) (s : Schema) : fromSchemaWith Gen.progs env s = fromSchema env s := by
  unfold fromSchemaWith fromSchema
  simp only [fromArraysWith_eq]
  rfl

/-- **Invariant** (source-derived stages): a successful build satisfies `Inv`. -/
theorem from_arrays_inv_src (env : Env) (valid : NucSettings → Nuc → Prop) (hs : NucSound env.recon valid)
    (i : Inp) (r : Molrec) (h : fromArraysWith Gen.progs env i = .ok r) :
    Inv valid env.angToAu (nucSettings i) i.tooclose r :=
  from_arrays_inv env valid hs i r (fromArraysWith_eq env i ▸ h)

/-- **Fixed point** (source-derived stages). -/
theorem from_arrays_idempotent_src (env : Env) (hid : NucIdem env.recon)
    (i : Inp) (r : Molrec) (h : fromArraysWith Gen.progs env i = .ok r) :
    fromArraysWith Gen.progs env (asInput i r) = .ok r := by
  rw [fromArraysWith_eq] at h ⊢
  exact from_arrays_idempotent env hid i r h

theorem refuses_geom_not_3n_src (env : Env) (i : Inp) (g : List Rat) (hg : i.geom = some g)
    (h3 : rows3 g = none) : fromArraysWith Gen.progs env i = .error .validation := by
  rw [fromArraysWith_eq]; exact refuses_geom_not_3n env i g hg h3

/-- **Overlapping atoms ⇒ ValidationError** (source-derived pair loop). -/
theorem refuses_too_close_src (env : Env) (i : Inp) (g : List Rat) (rows : List R3) (hg : i.geom = some g)
    (h3 : rows3 g = some rows) (hclose : ¬ rows.Pairwise (fun p q => ¬ dist2 p q < i.tooclose * i.tooclose)) :
    fromArraysWith Gen.progs env i = .error .validation := by
  rw [fromArraysWith_eq]; exact refuses_too_close env i g rows hg h3 hclose

/-- **Mismatched per-atom lengths ⇒ ValidationError** (source-derived shape chain). -/
theorem refuses_length_mismatch_src (env : Env) (i : Inp) (g : List Rat) (hg : i.geom = some g)
    (hm : LengthMismatch i (g.length / 3)) : fromArraysWith Gen.progs env i = .error .validation := by
  rw [fromArraysWith_eq]; exact refuses_length_mismatch env i g hg hm

/-- **Empty / unsorted / out-of-range separators are never accepted** (source-derived checks). -/
theorem refuses_bad_separators_src (env : Env) (i : Inp) (g : List Rat) (s : List Int)
    (hg : i.geom = some g) (hs : i.seps = some s) (hn : g.length / 3 ≠ 0)
    (hempty : ∃ p ∈ npSplit (List.replicate (g.length / 3) ()) s, p = []) :
    ∃ e, fromArraysWith Gen.progs env i = .error e ∧ (e = .validation ∨ ∃ st c, env.recon st c = .error e) := by
  rw [fromArraysWith_eq]; exact refuses_bad_separators env i g s hg hs hn hempty

/-- **Wrong number of fragment charges / multiplicities is never accepted** (source-derived length chain). -/
theorem refuses_fragment_length_mismatch_src (env : Env) (i : Inp) (s : List Int) (hs : i.seps = some s)
    (hbad : (∃ l, i.fc = some l ∧ l.length ≠ s.length + 1) ∨ (∃ l, i.fm = some l ∧ l.length ≠ s.length + 1)) :
    ∃ e, fromArraysWith Gen.progs env i = .error e ∧ (e = .validation ∨ ∃ st c, env.recon st c = .error e) := by
  rw [fromArraysWith_eq]; exact refuses_fragment_length_mismatch env i s hs hbad

/-- **Fragments partition the atoms in order**, stated directly on the source-derived fragment stage: whatever it
accepts for `nat > 0` atoms cuts them into non-empty consecutive blocks whose sizes add up to `nat`, with one charge and
one multiplicity slot per block. -/
theorem src_fragments_partition (nat : Nat) (seps : Option (List Int)) (fc fm : Option (List (Option Int)))
    (fr : FragOut) (h : evalFragments Gen.fragFn nat seps fc fm = .ok fr) :
    (nat = 0 ∨ ∀ p ∈ npSplit (List.replicate nat ()) fr.seps, p ≠ []) ∧
    ((npSplit (List.replicate nat ()) fr.seps).map List.length).sum = nat ∧
    fr.fc.length = fr.seps.length + 1 ∧ fr.fm.length = fr.seps.length + 1 := by
  rw [evalFragments_eq] at h
  obtain ⟨h1, h2, h3, _⟩ := validateFragments_ok h
  refine ⟨h1, ?_, h2, h3⟩
  have := sum_lengths_npSplit (List.replicate nat ()) fr.seps (by simpa using h1)
  simpa using this

/-- **The sum-of-lengths test can never fire** (a finding about the source, from_arrays.py:740-745 "… yields overlapping
fragment(s) …, possibly unsorted"): whenever the empty-fragment test just before it lets the separators through
(no empty block, or zero atoms), the block sizes of the trial split already add up to `nat`.  Unsorted separators always
produce an empty block and are refused by the FIRST test.  The second test is therefore redundant (dead code in the
source): no input reaches its `raise`. -/
theorem src_sum_test_redundant (nat : Nat) (s : List Int)
    (h : ¬ ((npSplit (List.replicate nat ()) s).any (fun f => f.length == 0) = true ∧ nat ≠ 0)) :
    ((npSplit (List.replicate nat ()) s).map List.length).sum = nat := by
  have := sum_lengths_npSplit (List.replicate nat ()) s (by simpa using (trialSplit_ok_iff _ _).1 h)
  simpa using this

/-- non-vacuity (tests): the hypothesis holds for a sorted split, fails for unsorted separators -/
example : ¬ ((npSplit (List.replicate 4 ()) [1, 3]).any (fun f => f.length == 0) = true ∧ 4 ≠ 0) := by decide
example : (npSplit (List.replicate 4 ()) [3, 1]).any (fun f => f.length == 0) = true ∧ 4 ≠ 0 := by decide

/-- non-vacuity (test): the source-derived stage accepts a two-fragment split of three atoms -/
example : evalFragments Gen.fragFn 3 (some [1]) none (some [some 1, none]) =
    .ok { seps := [1], fc := [none, none], fm := [some 1, none] } := by rfl
/-- tests: unsorted / empty / out-of-range separators and wrong slot counts are refused by the source-derived stage -/
example : evalFragments Gen.fragFn 4 (some [3, 1]) none none = .error .validation := by rfl
example : evalFragments Gen.fragFn 4 (some [0]) none none = .error .validation := by rfl
example : evalFragments Gen.fragFn 4 (some [2, 7]) none none = .error .validation := by rfl
example : evalFragments Gen.fragFn 4 (some [2]) (some [none, none, none]) none = .error .validation := by rfl
example : evalFragments Gen.fragFn 4 none (some [none]) none = .error .validation := by rfl

/-- 0 = accepted, 1 = ValidationError, 2 = any other error class -/
def resClass {α} : Except Err α → Nat
  | .ok _ => 0
  | .error .validation => 1
  | .error (.other _) => 2

/-- **The threshold is exclusive**: a geometry whose closest pair lies EXACTLY at `tooclose` passes the source-derived
overlap screen (`dists < metric`, not `<=`) — here two atoms at distance 1/2 with `tooclose = 1/2` — while anything
closer is refused.  (Kernel-evaluated tests of the generated program.) -/
theorem src_exact_threshold_accepted :
    resClass (evalGeom Gen.geomFn (1 / 2) [0, 0, 0, 0, 0, 1 / 2]) = 0 ∧
    resClass (evalGeom Gen.geomFn (1 / 2) [0, 0, 0, 0, 0, 1 / 4]) = 1 ∧
    resClass (evalGeom Gen.geomFn (1 / 2) [0, 0, 0, 0, 0]) = 1 := by decide +kernel

/-- tests: the source-derived nuclei stage checks the lengths even for zero atoms, and maps `-1` to `None` -/
example : evalNuclei Gen.nucFn toyEnv.recon 0 { toyInp with elez := some [some 2] } = .error .validation := by
  rfl
example : (srcArrays Gen.nucFn 2 { toyInp with elea := some [some (-1), some 4] }).elea = [none, some 4] := by
  decide +kernel

/-- test: the toy input of `Props/C04.lean` through the source-derived pipeline -/
example : fromArraysWith Gen.progs toyEnv toyInp = .ok toyRecOut := by
  rw [fromArraysWith_eq]; exact toy_ok
example : fromArraysWith Gen.progs toyEnv (asInput toyInp toyRecOut) = .ok toyRecOut :=
  from_arrays_idempotent_src toyEnv toyRec_idem _ _ (by rw [fromArraysWith_eq]; exact toy_ok)

end QcelVerif.FromArrays
