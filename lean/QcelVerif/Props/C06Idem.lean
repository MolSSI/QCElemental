import QcelVerif.Props.C06Hist
import QcelVerif.Lemmas.PStr
/-!
# C06 — feeding the output back; concrete instances on a three-row toy table (tests / non-vacuity)
-/
namespace QcelVerif.Nucleus
open QcelVerif.PStr

theorem lower_expectedUser (i : Input) : lower (expectedUser i) = expectedUser i := by
  unfold expectedUser
  cases i.label with
  | none => rfl
  | some l =>
    simp only
    split
    · split
      · exact lower_lower _
      · rfl
    · exact lower_lower _

/-- the last steps of `reconcileWith` on a fed-back output, given what the isotope clues produced -/
theorem feedback_finish (N : NTables) (rd : Rat → Rat) (rng : Nat → Option Range) (fb : Input) (o : Output)
    (x0 : ZOffer) (cl : List Clue) (late : List Late)
    (hz : zStage N rd rng fb = .ok ([x0, x0], none)) (hx0 : x0.z = o.Z)
    (hE : N.pt.toE (.int o.Z) false = some o.E)
    (hcl : cluesOf rd fb none = .ok cl)
    (hlate : cl.mapM (offerClue N rd o.E fb.mtol.val) = .ok late)
    (P1 : ∀ L ∈ late, APred.holds L.aPred o.A = true ∧ MPred.holds rd L.mPred o.mass = true)
    (P2 : ∃ L ∈ late, L.m = o.mass ∧ L.a = o.A ∧ L.mPred = .eq o.mass ∧ L.aPred = .eq o.A)
    (P3 : APred.holds x0.aPred o.A = true ∧ MPred.holds rd x0.mPred o.mass = true)
    (hreal : realClues fb none = [o.real]) (huser : userClues fb none = [o.user]) :
    ∃ o', reconcileWith N rd rng fb = .ok o' ∧ Output.pyEq o' o = true := by
  obtain ⟨L0, hL0, hL0m, hL0a, hL0mp, hL0ap⟩ := P2
  have hm : firstPassing (MPred.holds rd) ([x0, x0].map (·.zMass) ++ late.map (·.m))
      ([x0, x0].map (·.mPred) ++ late.map (·.mPred)) = some o.mass := by
    refine firstPassing_eq_of_pinned (q0 := L0.mPred) (List.mem_append_right _ (List.mem_map.mpr ⟨L0, hL0, hL0m⟩)) ?_
      (List.mem_append_right _ (List.mem_map_of_mem hL0)) fun y hy => MPred.holds_eq.mp (hL0mp ▸ hy)
    intro q hq
    rcases List.mem_append.mp hq with hq | hq
    · simp at hq; rw [hq]; exact P3.2
    · obtain ⟨L, hL, rfl⟩ := List.mem_map.mp hq; exact (P1 L hL).2
  have ha : firstPassing APred.holds ([x0, x0].map (·.zA) ++ late.map (·.a))
      ([x0, x0].map (·.aPred) ++ late.map (·.aPred)) = some o.A := by
    refine firstPassing_eq_of_pinned (q0 := L0.aPred) (List.mem_append_right _ (List.mem_map.mpr ⟨L0, hL0, hL0a⟩)) ?_
      (List.mem_append_right _ (List.mem_map_of_mem hL0)) fun y hy => APred.holds_eq.mp (hL0ap ▸ hy)
    intro q hq
    rcases List.mem_append.mp hq with hq | hq
    · simp at hq; rw [hq]; exact P3.1
    · obtain ⟨L, hL, rfl⟩ := List.mem_map.mp hq; exact (P1 L hL).1
  have hr : ∃ y, firstPassing (fun (p c : PyNum) => c.val == p.val) (PyNum.bool true :: realClues fb none) (realClues fb none) = some y ∧ y.val = o.real.val := by
    rw [hreal]
    obtain ⟨y, hy⟩ := firstPassing_of_mem (holds := fun (p c : PyNum) => c.val == p.val)
      (c := [PyNum.bool true, o.real]) (p := [o.real]) (x := o.real) (by simp) (by simp)
    have := (firstPassing_some hy).2 o.real (by simp)
    exact ⟨y, hy, by simpa using this⟩
  have hu : firstPassing (fun (p c : Bytes) => c == p) ([] :: userClues fb none) (userClues fb none) = some o.user := by
    rw [huser]
    exact firstPassing_user_one o.user
  obtain ⟨y, hy, hyv⟩ := hr
  have hzf : firstPassing (fun (p c : Int) => c == p) ([x0, x0].map (·.z)) ([x0, x0].map (·.z)) = some o.Z := by
    simp [firstPassing, hx0]
  exact ⟨{ o with real := y }, reconcileWith_ok.mpr ⟨_, _, _, _, hz, hzf, hE, hcl, hlate, hm, ha, hy, hu⟩,
    by simp [Output.pyEq_iff, hyv]⟩

/-- **Feeding the output back — PARTIAL.**  A successful output `o` whose element round-trips in the table
(`hZrt`; true of the shipped table: `shipped_coherent`), whose mass is a double (`hrd`), and whose mass
re-derives its own mass number (`hre`: the rounded mass names `E+str(A)` within `mtol`, or no nuclide
when `A = −1`) is reproduced (`==`) when fed back, for any rounding function that is odd (`hodd`).
-- FULL: the property claims this for every successful output; without `hre` that is false for wide windows
-- (`feedback_wide_window_counterexample`: A=2, Z=1, mtol=2 returns A=2 with the mass of H1, which re-derives
-- A=1).  `hre` follows from the first call whenever a mass clue was supplied (`reconcile_idem_mass_clue`).
-- Without a mass clue it is proved for the shipped table under `rd64`, `nonphysical = False`, `0 ≤ mtol ≤ 0.9865`
-- in Props/C04Default.lean (`narrow_window_selfconsistent`; fixed point `recon_c06_idem_narrow`).
-- The window edge |fl(mass − tabulated)| = mtol is inside: `offer_mass_number` accepts `abs(x - a_mass) <= mtol`
-- (nucleus.py:230), so such an output feeds back (`feedback_edge_reproduced`). -/
theorem reconcile_idem_partial (N : NTables) (rd : Rat → Rat) (rng : Nat → Option Range) (hcoh : DefaultCoherent N)
    (hodd : ∀ x, rd (-x) = -(rd x))
    (i : Input) (o : Output) (h : reconcileWith N rd rng i = .ok o)
    (hZrt : N.pt.toZ (.str (unpack o.E)) true = some o.Z.toNat ∧ 0 ≤ o.Z)
    (hrd : rd o.mass = o.mass)
    (hre : massToA N rd o.E i.mtol.val o.mass = o.A) :
    ∃ o', reconcileWith N rd rng (feedback i o) = .ok o' ∧ Output.pyEq o' o = true := by
  have hwin : o.A ≠ -1 → ∃ tm, tableMass N rd (.str (unpack o.E ++ intStr o.A)) = .ok tm ∧
      absR (rd (o.mass - tm)) ≤ i.mtol.val := by
    intro hA
    rcases massToA_spec N rd o.E i.mtol.val o.mass with hneg | ⟨tm, htm, hle, _⟩
    · rw [hre] at hneg; exact absurd hneg hA
    · rw [hre] at htm
      refine ⟨tm, htm, ?_⟩
      rw [← Rat.neg_sub, hodd, absR_neg]; exact hle
  -- of the first call only the offer of its element is needed: the fed-back call makes it twice, for `Z` and for `E`
  obtain ⟨x0, hoff0, P3⟩ := (reconcileWith_spec h).offer
  have hE := (reconcileWith_spec h).E
  have hx0z := (offerZ_ok hoff0).1
  have huser : o.user = expectedUser i := (reconcile_sound N rd rng hcoh i o h).2.2.2.2.2.2.2.2
  -- first stage of the fed-back call
  have hoffE : offerE N rd rng i.nonphysical (unpack o.E) = .ok x0 :=
    offerE_ok.mpr ⟨_, hZrt.1, by rw [Int.toNat_of_nonneg hZrt.2]; exact hoff0⟩
  have hzfb : zStage N rd rng (feedback i o) = .ok ([x0, x0], none) := by
    unfold zStage
    have e1 : (feedback i o).Z = some (.int o.Z) := rfl
    have e2 : (feedback i o).E = some (unpack o.E) := rfl
    have e3 : (feedback i o).nonphysical = i.nonphysical := rfl
    have e4 : labelOf (feedback i o) = .ok none := rfl
    have e5 : (PyNum.int o.Z).val = (o.Z : Rat) := rfl
    simp only [e1, e2, e3, e4, e5, optList, List.mapM_cons, List.mapM_nil, truncInt_intCast, hoff0, hoffE,
      bind, Except.bind, pure, Except.pure, Option.bind_none, List.append_nil, List.cons_append, List.nil_append]
  have hrealfb : realClues (feedback i o) none = [o.real] := rfl
  have huserfb : userClues (feedback i o) none = [o.user] := by
    show [lower o.user] = [o.user]
    rw [huser, lower_expectedUser]
  have hmt : (feedback i o).mtol.val = i.mtol.val := rfl
  -- the mass clue of the fed-back call
  let Lm : Late := { a := o.A, aPred := .eq o.A, m := o.mass, mPred := .eq o.mass }
  have hLm : offerClue N rd o.E i.mtol.val (.massValue o.mass) = .ok Lm := by
    rw [offerClue_massValue, hre]
  have hLmP : APred.holds Lm.aPred o.A = true ∧ MPred.holds rd Lm.mPred o.mass = true :=
    ⟨APred.holds_eq.mpr rfl, MPred.holds_eq.mpr rfl⟩
  by_cases hA : o.A = -1
  · have hcl : cluesOf rd (feedback i o) none = .ok [.massValue o.mass] := by
      unfold cluesOf feedback
      simp only [hA, if_true, optList, Option.bind_none, List.mapM_nil, bind, Except.bind, pure, Except.pure,
        List.map_nil, List.map_cons, List.nil_append, List.append_nil, PyNum.val, hrd]
    refine feedback_finish N rd rng (feedback i o) o x0 _ [Lm] hzfb hx0z hE hcl ?_ ?_ ?_ P3 hrealfb huserfb
    · simp only [hmt, List.mapM_cons, List.mapM_nil, hLm, bind, Except.bind, pure, Except.pure]
    · intro L hL; simp at hL; subst hL; exact hLmP
    · exact ⟨Lm, by simp, rfl, rfl, rfl, rfl⟩
  · obtain ⟨tm, htm, hlt⟩ := hwin hA
    let La : Late := { a := o.A, aPred := .eq o.A, m := tm, mPred := .near tm i.mtol.val }
    have hLa : offerClue N rd o.E i.mtol.val (.massNumber o.A) = .ok La := offerClue_massNumber.mpr ⟨tm, htm, rfl⟩
    have hcl : cluesOf rd (feedback i o) none = .ok [.massNumber o.A, .massValue o.mass] := by
      unfold cluesOf feedback
      simp only [hA, if_false, optList, Option.bind_none, List.mapM_nil, bind, Except.bind, pure, Except.pure,
        List.map_nil, List.map_cons, List.nil_append, List.append_nil, List.cons_append, PyNum.val, hrd,
        truncInt_intCast]
    refine feedback_finish N rd rng (feedback i o) o x0 _ [La, Lm] hzfb hx0z hE hcl ?_ ?_ ?_ P3 hrealfb huserfb
    · simp only [hmt, List.mapM_cons, List.mapM_nil, hLa, hLm, bind, Except.bind, pure, Except.pure]
    · intro L hL
      simp at hL
      rcases hL with rfl | rfl
      · exact ⟨APred.holds_eq.mpr rfl, MPred.holds_near.mpr hlt⟩
      · exact hLmP
    · exact ⟨Lm, by simp, rfl, rfl, rfl, rfl⟩


/-- **Feeding the output back — full when a mass was supplied.**  If the call carried a mass clue
(argument or label), then for any idempotent odd rounding function and a table whose element round-trips,
the output fed back is reproduced (`==`) — no further hypothesis: the supplied mass pins both the mass
and, through `massToA`, the mass number of the output. -/
theorem reconcile_idem_mass_clue (N : NTables) (rd : Rat → Rat) (rng : Nat → Option Range) (hcoh : DefaultCoherent N)
    (hodd : ∀ x, rd (-x) = -(rd x)) (hidem : ∀ x, rd (rd x) = rd x)
    (i : Input) (o : Output) (h : reconcileWith N rd rng i = .ok o)
    (hZrt : N.pt.toZ (.str (unpack o.E)) true = some o.Z.toNat ∧ 0 ≤ o.Z)
    (m : Rat) (hM : ClaimsMass rd i m) :
    ∃ o', reconcileWith N rd rng (feedback i o) = .ok o' ∧ Output.pyEq o' o = true := by
  obtain ⟨rfl, hre⟩ := (reconcileWith_spec h).claimM m hM
  exact reconcile_idem_partial N rd rng hcoh hodd i o h hZrt (hM.rounded hidem) hre.symm

/-- toy table: element H (Z = 1) with nuclides H1 (mass "1.0"), H2 ("2.0"); bare H = H1 -/
def toyPT : PT.Tables :=
  { eliso := .node (.node .leaf (pack [72]) (pack [72], 1, pack [49, 46, 48]) .leaf)
                   (pack [72, 49]) (pack [72], 1, pack [49, 46, 48])
                   (.node .leaf (pack [72, 50]) (pack [72], 2, pack [50, 46, 48]) .leaf)
    elements := [(1, pack [72], pack [72, 121, 100, 114, 111, 103, 101, 110])] }

def toyN : NTables :=
  { pt := toyPT
    nuclides := [(pack [72, 49], pack [72], 1, pack [49, 46, 48]), (pack [72, 50], pack [72], 2, pack [50, 46, 48]),
                 (pack [72], pack [72], 1, pack [49, 46, 48])] }

/-- `Z=1, mass = 2 + 1/4, mtol = 1/4` -/
def inEdge : Input :=
  { A := none, Z := some (.int 1), E := none, mass := some (.float (9/4)), real := none, label := none,
    speclabel := true, nonphysical := false, mtol := .float (1/4) }
def outEdge : Output := { A := 2, Z := 1, E := pack [72], mass := 9/4, real := .bool true, user := [] }

/-- **The window edge is reproduced** (test): a mass exactly `mtol` above the tabulated mass of H2 reconciles
to `A = 2` (`offer_mass_value` drops `A` only at a distance `> mtol`), and the output fed back gives the same
output (`offer_mass_number` accepts a distance `<= mtol`, nucleus.py:230). -/
theorem feedback_edge_reproduced :
    reconcile toyN id inEdge = .ok outEdge ∧ reconcile toyN id (feedback inEdge outEdge) = .ok outEdge := by
  constructor <;> decide +kernel

/-- `A=2, Z=1, mtol=2` -/
def inWide : Input :=
  { A := some (.int 2), Z := some (.int 1), E := none, mass := none, real := none, label := none,
    speclabel := true, nonphysical := false, mtol := .int 2 }
def outWide : Output := { A := 2, Z := 1, E := pack [72], mass := 1, real := .bool true, user := [] }

/-- **Why `hre` cannot be dropped: a window wide enough to reach the neighbouring nuclide.**  With
`mtol = 2` the call `A=2, Z=1` returns `A = 2` together with the mass of H1 (the default mass is the first
candidate and lies inside the window of H2); fed back, that mass re-derives `A = 1` and the call is a
ValidationError.  The real code does the same (`reconcile_nucleus(A=2, Z=1, mtol=2)`); such windows are
outside the property's quantifier (ASSUMPTIONS: mtol ≤ 0.25 u). -/
theorem feedback_wide_window_counterexample :
    reconcile toyN id inWide = .ok outWide ∧
    reconcile toyN id (feedback inWide outWide) = .error (.validation .massNumber) := by
  constructor <;> decide +kernel

/-! ### tests / non-vacuity: the hypotheses of the theorems are met by concrete successful calls -/

/-- label `@2h_Tag@2.0` (ghost, A = 2, tag) with A=2.0, Z=True, E="h", mass=2, real=0 -/
def inFull : Input :=
  { A := some (.float 2), Z := some (.bool true), E := some [104], mass := some (.int 2), real := some (.int 0)
    label := some [64, 50, 104, 95, 84, 97, 103, 64, 50, 46, 48], speclabel := true, nonphysical := false
    mtol := .float (1/1000) }

example : reconcile toyN id inFull =
    .ok { A := 2, Z := 1, E := pack [72], mass := 2, real := .int 0, user := [95, 116, 97, 103] } := by
  decide +kernel
-- the same under rd64
example : reconcile toyN rd64 inFull =
    .ok { A := 2, Z := 1, E := pack [72], mass := 2, real := .int 0, user := [95, 116, 97, 103] } := by
  decide +kernel
-- the hypotheses of `reconcile_idem_partial` are met by that output, and the fed-back call reproduces it
example : toyN.pt.toZ (.str (unpack (pack [72]))) true = some (1 : Int).toNat ∧
    massToA toyN id (pack [72]) (1/1000) 2 = 2 := by
  decide +kernel
example : reconcile toyN id (feedback inFull { A := 2, Z := 1, E := pack [72], mass := 2, real := .int 0, user := [95, 116, 97, 103] }) =
    .ok { A := 2, Z := 1, E := pack [72], mass := 2, real := .int 0, user := [95, 116, 97, 103] } := by
  decide +kernel
-- default isotope
example : reconcile toyN id { inFull with A := none, mass := none, label := none } =
    .ok { A := 1, Z := 1, E := pack [72], mass := 1, real := .int 0, user := [] } := by decide +kernel
-- conflicts are errors (instances of the conflict theorems)
example : reconcile toyN id { inFull with A := some (.int 1) } = .error (.validation .mass) := by decide +kernel
example : reconcile toyN id { inFull with real := some (.bool true) } = .error (.validation .realGhost) := by decide +kernel
example : reconcile toyN id { inFull with A := some (.int 3) } = .error .notAnElement := by decide +kernel
example : reconcile toyN id { inFull with label := some [64, 50, 104, 41] } = .error .unparseable := by decide +kernel
-- the parsed label
example : parseLabel [64, 50, 104, 95, 84, 97, 103, 64, 50, 46, 48] =
    some { A := some 2, Z := none, E := some [104], mass := some [50, 46, 48], real := false, user := some [95, 84, 97, 103] } := by
  decide
example : parseLabel [71, 104, 40, 49, 95, 120, 41] =   -- Gh(1_x)
    some { A := none, Z := some 1, E := none, mass := none, real := false, user := some [95, 120] } := by decide
-- the toy table meets `DefaultCoherent`-style facts used as hypotheses
example : toyN.pt.toMass (.str (unpack (pack [72]) ++ intStr 1)) = toyN.pt.toMass (.int 1) := by decide +kernel
-- Python-equal inputs
example : Input.pyEq inFull { inFull with A := some (.int 2), Z := some (.float 1), real := some (.bool false) } = true := by
  decide +kernel
-- a memo table with capacity 1: the second key evicts the first, results stay those of `f`
example : (Lru.run Input.pyEq (reconcile toyN id) { cap := 1, entries := [] }
      [.call inFull, .call inEdge, .call inFull, .clear, .call inEdge]).map (·.2) =
    [reconcile toyN id inFull, reconcile toyN id inEdge, reconcile toyN id inFull, reconcile toyN id inEdge] := by
  decide +kernel

end QcelVerif.Nucleus
