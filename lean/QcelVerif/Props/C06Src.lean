import QcelVerif.Lemmas.NucleusSrc
import QcelVerif.Props.C06Sound

set_option linter.constructorNameAsVariable false
namespace QcelVerif.Nucleus.Ast
open QcelVerif.PStr QcelVerif.Gen.NucleusSrc

/-!
# C06 — the source-derived `reconcile_nucleus` is the hand model

The file proves `reconcileSrc_eq_model` (last theorem): the evaluator of `Model/NucleusAst.lean` run on the statements of
`Gen/NucleusSrc.lean` (`reconcileSrc program`) returns what the hand model `reconcileWith` returns, for every clue tuple.
Everything before it is the simulation machinery: `Sim` (an evaluator run simulates a model computation), one-level unfoldings of
the evaluator, the invariant `Inv`, and one step lemma per source statement.
-/

/-- `r` simulates the model computation `m`: it fails with the same error, or ends in a state that `Q` relates to the
model's result -/
def Sim {α σ : Type} (m : Except Err α) (r : Except Err σ) (Q : α → σ → Prop) : Prop :=
  match m with
  | .error e => r = .error e
  | .ok a => ∃ s, r = .ok s ∧ Q a s

namespace Sim
variable {α β γ σ τ : Type} {m : Except Err α} {r : Except Err σ} {Q : α → σ → Prop}

theorem bind (h : Sim m r Q) {f : α → Except Err β} {k : σ → Except Err τ} {Q' : β → τ → Prop}
    (hk : ∀ a s, Q a s → Sim (f a) (k s) Q') : Sim (m >>= f) (r >>= k) Q' := by
  cases m with
  | error e =>
    have hr : r = .error e := h
    rw [hr]
    exact (rfl : (Except.error e >>= k) = Except.error e)
  | ok a =>
    obtain ⟨s, rfl, hq⟩ := h
    exact hk a s hq

/-- both sides start with the same computation -/
theorem bindSame (x : Except Err γ) {f : γ → Except Err α} {k : γ → Except Err σ} (h : ∀ c, Sim (f c) (k c) Q) :
    Sim (x >>= f) (x >>= k) Q := by
  cases x with
  | error e => exact (rfl : (Except.error e >>= k) = Except.error e)
  | ok c => exact h c

theorem eq {k : σ → Except Err α} (h : Sim m r fun a s => k s = .ok a) : r >>= k = m := by
  cases m with
  | error e =>
    have hr : r = .error e := h
    rw [hr]
    rfl
  | ok a =>
    obtain ⟨s, rfl, hq⟩ := h
    exact hq

end Sim

/-- a statement run simulates `m` and leaves the locals `loc` of the enclosing function alone -/
def SimS {α : Type} (m : Except Err α) (r : Except Err (Env × St)) (loc : Env) (Q : α → St → Prop) : Prop :=
  Sim m r fun a s => s.1 = loc ∧ Q a s.2


/-! ## one-level unfoldings of the evaluator (so that the step lemmas can be applied statement by statement) -/

theorem exec_ite (H : Hooks) (loc st c t e) : Stmt.exec H loc st (.ite c t e) =
    (do let v ← c.eval H.W st.g loc; if v.truthy then t.exec H loc st else e.exec H loc st) := by rw [Stmt.exec]
theorem exec_cons (H : Hooks) (loc st s b) : Block.exec H loc st (.cons s b) =
    (do let r ← s.exec H loc st; b.exec H r.1 r.2) := by rw [Block.exec]
theorem exec_nil (H : Hooks) (loc st) : Block.exec H loc st .nil = .ok (loc, st) := by rw [Block.exec]
theorem exec_single (H : Hooks) (loc st s) : Block.exec H loc st (.cons s .nil) = s.exec H loc st := by
  rw [exec_cons]
  cases s.exec H loc st <;> rfl
theorem exec_call (H : Hooks) (loc st f args) : Stmt.exec H loc st (.call f args) =
    (do let vs ← evalArgs H.W st.g loc args; let st' ← H.callee f vs st; pure (loc, st')) := by rw [Stmt.exec]
theorem exec_unpack (H : Hooks) (loc st ts a) : Stmt.exec H loc st (.unpackParse ts a) =
    (do let v ← a.eval H.W st.g loc; let vs ← H.parse v; let g' ← bindAll ts vs st.g; pure (loc, { st with g := g' })) := by rw [Stmt.exec]
theorem exec_reconcile (H : Hooks) (loc st k l f) : Stmt.exec H loc st (.reconcile k l f) =
    (do let st' ← st.reconcile H.R H.W.rd k f l; pure (loc, st')) := by rw [Stmt.exec]
theorem exec_assignF (H : Hooks) (loc st k e) : Stmt.exec H loc st (.assign false k e) =
    (do let v ← e.eval H.W st.g loc; pure (loc, { st with g := (k, v) :: st.g })) := by rw [Stmt.exec]
theorem exec_cons_initCands (H : Hooks) (loc st l vs b) : Block.exec H loc st (.cons (.initCands l vs) b) =
    (do let st' ← st.setCands l vs; b.exec H loc st') := by
  rw [Block.exec, Stmt.exec]
  cases st.setCands l vs <;> rfl
theorem exec_cons_initTests (H : Hooks) (loc st l b) : Block.exec H loc st (.cons (.initTests l) b) = b.exec H loc (st.clearTests l) := by
  rw [Block.exec, Stmt.exec]
  rfl
theorem exec_cons_assignF (H : Hooks) (loc st k e b) : Block.exec H loc st (.cons (.assign false k e) b) =
    (do let v ← e.eval H.W st.g loc; b.exec H loc { st with g := (k, v) :: st.g }) := by
  rw [Block.exec, Stmt.exec]
  cases e.eval H.W st.g loc <;> rfl

/-- a block simulates statement by statement -/
theorem Sim.cons {α β : Type} {H : Hooks} {loc : Env} {st : St} {s : Stmt} {b : Block} {m : Except Err α} {Q : α → St → Prop}
    (h : SimS m (s.exec H loc st) loc Q) {f : α → Except Err β} {Q' : β → Env × St → Prop}
    (hk : ∀ a st', Q a st' → Sim (f a) (b.exec H loc st') Q') : Sim (m >>= f) (Block.exec H loc st (.cons s b)) Q' := by
  rw [exec_cons]
  refine h.bind fun a r hq => ?_
  obtain ⟨l, st'⟩ := r
  obtain ⟨hl, hq⟩ := hq
  cases hl
  exact hk a st' hq

/-- a statement for which the model has a value `a` and no computation of its own -/
theorem Sim.skip {α γ : Type} {H : Hooks} {loc : Env} {st : St} {s : Stmt} {b : Block} {a : γ} {P : γ → St → Prop}
    (h : SimS (.ok a) (s.exec H loc st) loc P) {m : Except Err α} {Q : α → Env × St → Prop}
    (hk : ∀ st', P a st' → Sim m (b.exec H loc st') Q) : Sim m (Block.exec H loc st (.cons s b)) Q := by
  obtain ⟨⟨l, st'⟩, hs, hl, hp⟩ := h
  cases hl
  rw [exec_cons, hs]
  exact hk st' hp

/-- a call of a nested closure simulates what the closure does to the state -/
theorem Sim.call {α : Type} {H : Hooks} {loc : Env} {st : St} {f : Nat} {args : List Expr} {ws : List Val} {m : Except Err α}
    {Q : α → St → Prop} (hargs : evalArgs H.W st.g loc args = .ok ws) (h : Sim m (H.callee f ws st) Q) :
    SimS m (Stmt.exec H loc st (.call f args)) loc Q := by
  rw [exec_call, hargs, ok_bind, ← bind_pure m]
  exact h.bind fun a st' hq => ⟨(loc, st'), rfl, rfl, hq⟩

theorem evalArgs_glob1 (W : World) (g loc : Env) {k : Nat} {w : Val} (hk : g.lookup k = some w) :
    evalArgs W g loc [.glob k] = .ok [w] := by
  simp only [evalArgs, Expr.eval, hk, ofOpt, ok_bind, pure_eq_ok]

theorem evalArgs_glob2 (W : World) (g loc : Env) {j k : Nat} {v w : Val} (hj : g.lookup j = some v) (hk : g.lookup k = some w) :
    evalArgs W g loc [.glob j, .glob k] = .ok [v, w] := by
  simp only [evalArgs, Expr.eval, hj, hk, ofOpt, ok_bind, pure_eq_ok]

/-- `if <k> is not None: s`, where `<k>` holds the optional clue `v` -/
theorem Sim.ifNotNone {α β : Type} {H : Hooks} {loc : Env} {st : St} {k : Nat} {s : Stmt} {v : Option α} {w : Val}
    (hk : st.g.lookup k = some w) (hw : w = .none ↔ v = none) {f : α → Except Err β} {Q : List β → St → Prop}
    (h0 : Q [] st) (hs : ∀ a, v = some a → SimS (f a) (s.exec H loc st) loc fun b => Q [b]) :
    SimS ((optList v).mapM f) (Stmt.exec H loc st (.ite (.isNotNone (.glob k)) (.cons s .nil) .nil)) loc Q := by
  rw [exec_ite]
  simp only [Expr.eval, hk, ofOpt, ok_bind, pure_eq_ok, truthy_vbool]
  cases v with
  | none =>
    have hn : w = .none := hw.mpr rfl
    simp only [hn, bne_self_eq_false, Bool.false_eq_true, if_false, exec_nil]
    exact ⟨_, rfl, rfl, h0⟩
  | some a =>
    have hn : (w != Val.none) = true := by simpa using fun h => nomatch hw.mp h
    have h := hs a rfl
    simp only [hn, if_true, exec_single, optList, List.mapM_cons, List.mapM_nil]
    rw [← bind_pure (Stmt.exec H loc st s)]
    exact h.bind fun b r hq => ⟨r, rfl, hq⟩

/-- `if <k> is not None: s` for a statement that cannot fail and contributes `g a` -/
theorem Sim.ifNotNone_ok {α β : Type} {H : Hooks} {loc : Env} {st : St} {k : Nat} {s : Stmt} {v : Option α} {w : Val}
    (hk : st.g.lookup k = some w) (hw : w = .none ↔ v = none) {g : α → β} {Q : List β → St → Prop} (h0 : Q [] st)
    (hs : ∀ a, v = some a → SimS (.ok (g a)) (s.exec H loc st) loc fun b => Q [b]) :
    SimS (.ok ((optList v).map g)) (Stmt.exec H loc st (.ite (.isNotNone (.glob k)) (.cons s .nil) .nil)) loc Q := by
  have h := Sim.ifNotNone (f := fun a => pure (g a)) hk hw h0 hs
  rwa [List.mapM_pure] at h

theorem optNum_eq_none {v : Option PyNum} : optNum v = .none ↔ v = none := by cases v <;> simp [optNum]
theorem optStr_eq_none {v : Option Bytes} : optStr v = .none ↔ v = none := by cases v <;> simp [optStr]


section main
variable (N : NTables) (rd : Rat → Rat) (rng : Nat → Option Range)

/-- the hooks `reconcileSrc` runs the body with -/
abbrev H0 : Hooks :=
  { W := W0 N rd rng, R := program.recDef, callee := callee2 program (W0 N rd rng), parse := parseSrc program (W0 N rd rng) }

/-! ## the invariant: the evaluator's evidence lists represent the model's -/

/-- one of the five evidence dimensions: the candidates are the model's `c`, the tests represent its predicates `p` -/
structure Dim {α π : Type} (R : Clo → π → Prop) (cands : List α) (tests : List Clo) (c : List α) (p : List π) : Prop where
  cands : cands = c
  tests : Reps R tests p

theorem Dim.push {α π : Type} {R : Clo → π → Prop} {cands tests c p} (h : Dim R cands tests c p) (x : α) {clo : Clo} {q : π}
    (hr : R clo q) : Dim R (cands ++ [x]) (tests ++ [clo]) (c ++ [x]) (p ++ [q]) :=
  ⟨by rw [h.cands], h.tests.append (.single hr)⟩

/-- the nested `reconcile` on a represented dimension is the model's `firstPassing` -/
theorem Dim.firstPassingSrc {α π : Type} {R : Clo → π → Prop} {cands tests c p} (h : Dim R cands tests c p) (g : Env)
    (inj : α → Val) (holds : π → α → Bool) (hR : ∀ clo q, R clo q → ∀ x, clo.test rd g (inj x) = some (holds q x)) :
    firstPassingSrc ⟨true, true⟩ rd g inj tests cands = .ok (firstPassing holds c p) := by
  rw [h.cands]
  exact firstPassingSrc_eq rd g inj holds tests p
    (fun x => runTests_of_reps rd g R inj holds x (fun clo q hr => hR clo q hr x) _ _ h.tests) c

/-- the evaluator's state represents the model's evidence (Z offers `zo`, isotope clues `late`, real/ghost clues `rc`, user
labels `uc`), and its frame is `G` -/
structure Inv (mtol : PyNum) (st : St) (G : Env) (zo : List ZOffer) (late : List Late) (rc : List PyNum) (uc : List Bytes) : Prop where
  g : st.g = G
  z : Dim (RepZ rd) st.zE st.zR (zo.map (·.z)) (zo.map (·.z))
  a : Dim (RepA rd) st.aE st.aR (zo.map (·.zA) ++ late.map (·.a)) (zo.map (·.aPred) ++ late.map (·.aPred))
  m : Dim (RepM rd mtol) st.mE st.mR (zo.map (·.zMass) ++ late.map (·.m)) (zo.map (·.mPred) ++ late.map (·.mPred))
  r : Dim (RepR rd) st.rE st.rR (PyNum.bool true :: rc) rc
  l : Dim (RepL rd) st.lE st.lR ([] :: uc) uc

/-- what `offer_mass_value(Z_final, m)` appends -/
def massLate (sym : Nat) (mtol m : Rat) : Late := ⟨massToA N rd sym mtol m, .eq (massToA N rd sym mtol m), m, .eq m⟩

theorem inv_init (mtol : PyNum) (g : Env) :
    Inv rd mtol { g := g, zE := [], zR := [], aE := [], aR := [], mE := [], mR := [], rE := [.bool true], rR := [], lE := [[]], lR := [] }
      g [] [] [] [] :=
  ⟨rfl, ⟨rfl, trivial⟩, ⟨rfl, trivial⟩, ⟨rfl, trivial⟩, ⟨rfl, trivial⟩, ⟨rfl, trivial⟩⟩

variable {rd} {mtol : PyNum} {st : St} {G : Env} {zo : List ZOffer} {late : List Late} {rc : List PyNum} {uc : List Bytes}

theorem Inv.frame (h : Inv rd mtol st G zo late rc uc) (G' : Env) : Inv rd mtol { st with g := G' } G' zo late rc uc :=
  { h with g := rfl }

theorem Inv.pushZ (h : Inv rd mtol st G zo [] rc uc) (o : ZOffer) {ac mc : Clo} (ha : RepA rd ac o.aPred)
    (hm : RepM rd mtol mc o.mPred) : Inv rd mtol (st.pushZ o.z o.zA o.zMass ac mc) G (zo ++ [o]) [] rc uc :=
  { h with
    z := by simpa [St.pushZ] using h.z.push o.z (repZ_eqClo rd o.z)
    a := by simpa [St.pushZ] using h.a.push o.zA ha
    m := by simpa [St.pushZ] using h.m.push o.zMass hm }

theorem Inv.pushLate (h : Inv rd mtol st G zo late rc uc) (l : Late) {mc : Clo} (ha : l.aPred = .eq l.a)
    (hm : RepM rd mtol mc l.mPred) : Inv rd mtol (st.pushLate l.a l.m mc) G zo (late ++ [l]) rc uc :=
  { h with
    a := by simpa [St.pushLate] using h.a.push l.a (ha ▸ repA_eqClo rd l.a)
    m := by simpa [St.pushLate] using h.m.push l.m hm }

theorem Inv.pushR (h : Inv rd mtol st G zo late rc uc) (p : PyNum) : Inv rd mtol (st.pushR p) G zo late (rc ++ [p]) uc :=
  { h with r := h.r.push p (repR_eqClo rd p) }

theorem Inv.pushL (h : Inv rd mtol st G zo late rc uc) (s : Bytes) : Inv rd mtol (st.pushL s) G zo late rc (uc ++ [s]) :=
  { h with l := h.l.push s (repL_eqClo rd s) }

/-! ## the nested closures keep the invariant -/

theorem srcOfferZ_sim (np : Bool) (z : Int) (h : Inv rd mtol st G zo [] rc uc) :
    Sim (offerZ N rd rng np z) (srcOfferZ N rd rng np z st) fun o st' => Inv rd mtol st' G (zo ++ [o]) [] rc uc :=
  .bindSame _ fun sym => .bindSame _ fun zm => .bindSame _ fun za => .bindSame _ fun r =>
    ⟨_, rfl, h.pushZ ⟨z, sym, za, zm, _, _⟩ (repA_range rd np r) (repM_range rd mtol np r)⟩

/-- `offer_atomic_number(p)` -/
theorem call_Z (np : Bool) (p : PyNum) (h7 : G.lookup 7 = some (vbool np)) (h : Inv rd mtol st G zo [] rc uc) :
    Sim (offerZ N rd rng np (truncInt p.val)) (callee2 program (W0 N rd rng) 1 [.num p] st)
      fun o st' => Inv rd mtol st' G (zo ++ [o]) [] rc uc := by
  rw [callee2, fn1_exec N rd rng _ p st np (h.g ▸ h7)]
  exact srcOfferZ_sim N rng np _ h

/-- `offer_element_symbol(e)` -/
theorem call_E (np : Bool) (e : Bytes) (h7 : G.lookup 7 = some (vbool np)) (h : Inv rd mtol st G zo [] rc uc) :
    Sim (offerE N rd rng np e) (callee2 program (W0 N rd rng) 0 [.str e] st)
      fun o st' => Inv rd mtol st' G (zo ++ [o]) [] rc uc := by
  rw [fn0_exec N rd rng e st np (h.g ▸ h7)]
  exact .bindSame _ fun z => srcOfferZ_sim N rng np _ h

/-- `offer_mass_number(Z_final, p)` -/
theorem call_A (zf : Int) (sym : Nat) (hsym : N.pt.toE (.int zf) false = some sym) (p : PyNum)
    (h : Inv rd mtol st G zo late rc uc) :
    Sim (offerClue N rd sym mtol.val (.massNumber (truncInt p.val))) (callee2 program (W0 N rd rng) 2 [.num (.int zf), .num p] st)
      fun l st' => Inv rd mtol st' G zo (late ++ [l]) rc uc := by
  rw [callee2, fn2_exec N rd rng _ zf sym hsym p st]
  exact .bindSame _ fun am => ⟨_, rfl, h.pushLate ⟨_, _, am, _⟩ rfl (repM_near rd mtol am)⟩

/-- `offer_mass_value(Z_final, p)` -/
theorem call_M (hTM : ∀ k, tableMass N rd k ≠ .error .other) (zf : Int) (sym : Nat) (hsym : N.pt.toE (.int zf) false = some sym)
    (p : PyNum) (h8 : G.lookup 8 = some (.num mtol)) (h : Inv rd mtol st G zo late rc uc) :
    Sim (offerClue N rd sym mtol.val (.massValue (rd p.val))) (callee2 program (W0 N rd rng) 3 [.num (.int zf), .num p] st)
      fun l st' => Inv rd mtol st' G zo (late ++ [l]) rc uc := by
  rw [callee2, fn3_exec N rd rng _ zf sym hsym p mtol st (h.g ▸ h8) hTM]
  exact ⟨_, rfl, h.pushLate ⟨_, _, _, _⟩ rfl (repM_eqClo rd mtol _)⟩

/-- `offer_reality(p)` -/
theorem call_R (p : PyNum) (h : Inv rd mtol st G zo late rc uc) :
    Sim (.ok p) (callee2 program (W0 N rd rng) 4 [.num p] st) fun p st' => Inv rd mtol st' G zo late (rc ++ [p]) uc := by
  rw [callee2, fn4_exec N rd rng _ p st]
  exact ⟨_, rfl, h.pushR p⟩

/-- `offer_user_label(s)` -/
theorem call_L (s : Bytes) (h : Inv rd mtol st G zo late rc uc) :
    Sim (.ok (lower s)) (callee2 program (W0 N rd rng) 5 [.str s] st) fun s st' => Inv rd mtol st' G zo late rc (uc ++ [s]) := by
  rw [callee2, fn5_exec N rd rng _ s st]
  exact ⟨_, rfl, h.pushL (lower s)⟩

/-! ## the guarded calls of the body -/

/-- `if <k> is not None: offer_atomic_number(<k>)` -/
theorem step_Z (np : Bool) (k : Nat) (v : Option PyNum) (loc : Env) (hk : G.lookup k = some (optNum v))
    (h7 : G.lookup 7 = some (vbool np)) (h : Inv rd mtol st G zo [] rc uc) :
    SimS ((optList v).mapM fun z => offerZ N rd rng np (truncInt z.val))
      (Stmt.exec (H0 N rd rng) loc st (.ite (.isNotNone (.glob k)) (.cons (.call 1 [.glob k]) .nil) .nil))
      loc fun os st' => Inv rd mtol st' G (zo ++ os) [] rc uc :=
  .ifNotNone (h.g ▸ hk) optNum_eq_none (by simpa using h) fun p hp => by
    subst hp
    exact .call (evalArgs_glob1 _ _ _ (h.g ▸ hk)) (call_Z N rng np p h7 h)

/-- `if <k> is not None: offer_element_symbol(<k>)` -/
theorem step_E (np : Bool) (k : Nat) (v : Option Bytes) (loc : Env) (hk : G.lookup k = some (optStr v))
    (h7 : G.lookup 7 = some (vbool np)) (h : Inv rd mtol st G zo [] rc uc) :
    SimS ((optList v).mapM fun e => offerE N rd rng np e)
      (Stmt.exec (H0 N rd rng) loc st (.ite (.isNotNone (.glob k)) (.cons (.call 0 [.glob k]) .nil) .nil))
      loc fun os st' => Inv rd mtol st' G (zo ++ os) [] rc uc :=
  .ifNotNone (h.g ▸ hk) optStr_eq_none (by simpa using h) fun e he => by
    subst he
    exact .call (evalArgs_glob1 _ _ _ (h.g ▸ hk)) (call_E N rng np e h7 h)

/-- `if <k> is not None: offer_mass_number(Z_final, <k>)` -/
theorem step_A (zf : Int) (sym : Nat) (hsym : N.pt.toE (.int zf) false = some sym) (k : Nat) (v : Option PyNum) (loc : Env)
    (hk : G.lookup k = some (optNum v)) (h17 : G.lookup 17 = some (.num (.int zf))) (h : Inv rd mtol st G zo late rc uc) :
    SimS ((optList v).mapM fun a => offerClue N rd sym mtol.val (.massNumber (truncInt a.val)))
      (Stmt.exec (H0 N rd rng) loc st (.ite (.isNotNone (.glob k)) (.cons (.call 2 [.glob 17, .glob k]) .nil) .nil))
      loc fun ls st' => Inv rd mtol st' G zo (late ++ ls) rc uc :=
  .ifNotNone (h.g ▸ hk) optNum_eq_none (by simpa using h) fun p hp => by
    subst hp
    exact .call (evalArgs_glob2 _ _ _ (h.g ▸ h17) (h.g ▸ hk)) (call_A N rng zf sym hsym p h)

/-- `if <k> is not None: offer_mass_value(Z_final, <k>)` -/
theorem step_M (hTM : ∀ k, tableMass N rd k ≠ .error .other) (zf : Int) (sym : Nat) (hsym : N.pt.toE (.int zf) false = some sym)
    (k : Nat) (v : Option PyNum) (loc : Env) (hk : G.lookup k = some (optNum v)) (h17 : G.lookup 17 = some (.num (.int zf)))
    (h8 : G.lookup 8 = some (.num mtol)) (h : Inv rd mtol st G zo late rc uc) :
    SimS (.ok ((optList v).map fun m => massLate N rd sym mtol.val (rd m.val)))
      (Stmt.exec (H0 N rd rng) loc st (.ite (.isNotNone (.glob k)) (.cons (.call 3 [.glob 17, .glob k]) .nil) .nil))
      loc fun ls st' => Inv rd mtol st' G zo (late ++ ls) rc uc :=
  .ifNotNone_ok (h.g ▸ hk) optNum_eq_none (by simpa using h) fun p hp => by
    subst hp
    exact .call (evalArgs_glob2 _ _ _ (h.g ▸ h17) (h.g ▸ hk)) (call_M N rng hTM zf sym hsym p h8 h)

/-- `offer_reality(<k>)` -/
theorem step_R' (k : Nat) (p : PyNum) (loc : Env) (hk : G.lookup k = some (.num p)) (h : Inv rd mtol st G zo late rc uc) :
    SimS (.ok p) (Stmt.exec (H0 N rd rng) loc st (.call 4 [.glob k])) loc fun p st' => Inv rd mtol st' G zo late (rc ++ [p]) uc :=
  .call (evalArgs_glob1 _ _ _ (h.g ▸ hk)) (call_R N rng p h)

/-- `if <k> is not None: offer_reality(<k>)` -/
theorem step_R (k : Nat) (v : Option PyNum) (loc : Env) (hk : G.lookup k = some (optNum v)) (h : Inv rd mtol st G zo late rc uc) :
    SimS (.ok (optList v)) (Stmt.exec (H0 N rd rng) loc st (.ite (.isNotNone (.glob k)) (.cons (.call 4 [.glob k]) .nil) .nil))
      loc fun ps st' => Inv rd mtol st' G zo late (rc ++ ps) uc := by
  simpa using Sim.ifNotNone_ok (g := fun p : PyNum => p) (h.g ▸ hk) optNum_eq_none (by simpa using h) fun p hp => by
    subst hp
    exact step_R' N rng k p loc hk h

/-- `offer_user_label(<k>)` -/
theorem step_L' (k : Nat) (s : Bytes) (loc : Env) (hk : G.lookup k = some (.str s)) (h : Inv rd mtol st G zo late rc uc) :
    SimS (.ok (lower s)) (Stmt.exec (H0 N rd rng) loc st (.call 5 [.glob k])) loc
      fun s st' => Inv rd mtol st' G zo late rc (uc ++ [s]) :=
  .call (evalArgs_glob1 _ _ _ (h.g ▸ hk)) (call_L N rng s h)

/-- `if <k> is not None: offer_user_label(<k>)` -/
theorem step_L (k : Nat) (v : Option Bytes) (loc : Env) (hk : G.lookup k = some (optStr v)) (h : Inv rd mtol st G zo late rc uc) :
    SimS (.ok ((optList v).map lower)) (Stmt.exec (H0 N rd rng) loc st (.ite (.isNotNone (.glob k)) (.cons (.call 5 [.glob k]) .nil) .nil))
      loc fun ss st' => Inv rd mtol st' G zo late rc (uc ++ ss) :=
  .ifNotNone_ok (h.g ▸ hk) optStr_eq_none (by simpa using h) fun s hs => by
    subst hs
    exact step_L' N rng k s loc hk h

/-- `E_final = periodictable.to_E(Z_final)` -/
theorem step_toE (zf : Int) (loc : Env) (h : Inv rd mtol st ((17, .num (.int zf)) :: G) zo late rc uc) :
    SimS (ofOpt .notAnElement (N.pt.toE (.int zf) false))
      (Stmt.exec (H0 N rd rng) loc st (.assign false 18 (.toE (.glob 17) false))) loc
      fun sym st' => N.pt.toE (.int zf) false = some sym ∧
        Inv rd mtol st' ((18, .sym sym) :: (17, .num (.int zf)) :: G) zo late rc uc := by
  rw [exec_assignF]
  simp only [Expr.eval, h.g, List.lookup, beq_self_eq_true, ofOpt, ok_bind, asPyVal]
  cases N.pt.toE (.int zf) false with
  | none => exact rfl
  | some sym => exact ⟨_, rfl, rfl, rfl, h.frame _⟩

/-! ## the nested `reconcile` on the represented evidence -/

theorem Dim.reconcile {α π : Type} {R : Clo → π → Prop} {cands tests c p} (hd : Dim R cands tests c p)
    (inj : α → Val) (holds : π → α → Bool) (hR : ∀ clo q, R clo q → ∀ x, clo.test rd st.g (inj x) = some (holds q x))
    (h : Inv rd mtol st G zo late rc uc) (k : Nat) (f : Feature) (loc : Env) :
    SimS (ofOpt (.validation f) (firstPassing holds c p))
      (do let st' ← (do let r ← Ast.firstPassingSrc ⟨true, true⟩ rd st.g inj tests cands
                        let v ← ofOpt (.validation f) r
                        pure { st with g := (k, inj v) :: st.g })
          pure (loc, st')) loc
      fun v st' => Inv rd mtol st' ((k, inj v) :: G) zo late rc uc := by
  rw [hd.firstPassingSrc rd st.g inj holds hR, h.g]
  cases firstPassing holds c p with
  | none => exact rfl
  | some v => exact ⟨_, rfl, rfl, h.frame _⟩

/-! ## the two label blocks -/

/-- the frame after `lbl_A, …, lbl_user = parse_nucleus_label(label)` -/
def labG (rd : Rat → Rat) (lab : Option Label) (g : Env) : Env :=
  match lab with
  | none => g
  | some L => (16, optStr L.user) :: (15, vbool L.real) :: (14, optMassV rd L.mass) :: (13, optStr L.E) :: (12, optNatV L.Z) ::
      (11, optNatV L.A) :: g

theorem lookup_labG (lab : Option Label) (g : Env) (k : Nat) (hk : k < 11) : (labG rd lab g).lookup k = g.lookup k := by
  cases lab with
  | none => rfl
  | some L =>
    have hne : ∀ j, 11 ≤ j → (k == j) = false := fun j hj => by simp; omega
    simp [labG, List.lookup_cons, hne]

theorem ne_none_str (v : Bytes) : (Val.str v != Val.none) = true := by simp

theorem exec_unpackLabel (l : Bytes) (loc : Env) (hG : ∀ g, matchNucleus l = some g → GroupsOk g) (hg : st.g = G)
    (h5 : G.lookup 5 = some (.str l)) :
    Stmt.exec (H0 N rd rng) loc st (.unpackParse [11, 12, 13, 14, 15, 16] (.glob 5)) =
      (ofOpt .unparseable (parseLabel l)).map fun L => (loc, { st with g := labG rd (some L) G }) := by
  rw [exec_unpack, hg]
  simp only [Expr.eval, h5, ofOpt, ok_bind, parseSrc_eq N rd rng l hG]
  cases parseLabel l <;> rfl

theorem optList_map {α β : Type} (o : Option α) (g : α → β) : optList (o.map g) = (optList o).map g := by cases o <;> rfl

theorem optNatV_eq (o : Option Nat) : optNatV o = optNum (o.map fun (n : Nat) => PyNum.int (n : Int)) := by cases o <;> rfl

theorem optMassV_eq (o : Option Bytes) : optMassV rd o = optNum ((o.bind decVal).map fun q => PyNum.float (rd q)) := by
  cases o with
  | none => rfl
  | some t => simp only [optMassV, Option.bind]; cases decVal t <;> rfl

/-- the label block of the first stage (nucleus.py: `if label is not None and speclabel is True: …`) -/
theorem step_label1 (i : Input) (hG : ∀ l g, i.label = some l → matchNucleus l = some g → GroupsOk g)
    (h5 : G.lookup 5 = some (optStr i.label)) (h6 : G.lookup 6 = some (vbool i.speclabel))
    (h7 : G.lookup 7 = some (vbool i.nonphysical)) (h : Inv rd i.mtol st G zo [] rc uc) :
    SimS (do let lab ← labelOf i
             let o3 ← (optList (lab.bind (·.Z))).mapM fun (z : Nat) => offerZ N rd rng i.nonphysical (z : Int)
             let o4 ← (optList (lab.bind (·.E))).mapM fun e => offerE N rd rng i.nonphysical e
             pure (lab, o3, o4))
      (Stmt.exec (H0 N rd rng) [] st
        (.ite (.andE (.isNotNone (.glob 5)) (.isTrue (.glob 6)))
          (.cons (.unpackParse [11, 12, 13, 14, 15, 16] (.glob 5))
            (.cons (.ite (.isNotNone (.glob 12)) (.cons (.call 1 [.glob 12]) .nil) .nil)
              (.cons (.ite (.isNotNone (.glob 13)) (.cons (.call 0 [.glob 13]) .nil) .nil) .nil))) .nil)) []
      fun x st' => labelOf i = .ok x.1 ∧ Inv rd i.mtol st' (labG rd x.1 G) (zo ++ x.2.1 ++ x.2.2) [] rc uc := by
  rw [exec_ite]
  unfold labelOf SimS
  rw [← h.g] at h5 h6
  cases hl : i.label with
  | none =>
    rw [hl] at h5
    simp only [Expr.eval, ofOpt, h5, optStr, ok_bind, pure_eq_ok, bne_self_eq_false, truthy_vbool, Bool.false_eq_true, if_false, exec_nil]
    exact ⟨_, rfl, rfl, rfl, by simpa [labG] using h⟩
  | some l =>
    rw [hl] at h5
    cases hs : i.speclabel with
    | false =>
      rw [hs] at h6
      have hvb : (vbool false == Val.num (PyNum.bool true)) = false := by decide
      simp only [Expr.eval, ofOpt, h5, h6, optStr, ok_bind, pure_eq_ok, ne_none_str, truthy_vbool, if_true, hvb, Bool.false_eq_true,
        if_false, exec_nil]
      exact ⟨_, rfl, rfl, rfl, by simpa [labG] using h⟩
    | true =>
      rw [hs] at h6
      have hvb : (vbool true == Val.num (PyNum.bool true)) = true := by decide
      simp only [Expr.eval, ofOpt, h5, h6, optStr, ok_bind, pure_eq_ok, ne_none_str, truthy_vbool, if_true, hvb]
      rw [exec_cons, exec_unpackLabel N rng l [] (fun g => hG l g hl) h.g (h.g ▸ h5)]
      cases parseLabel l with
      | none => exact rfl
      | some L =>
        simp only [ofOpt, map_ok', ok_bind, Option.bind]
        have h12 : (labG rd (some L) G).lookup 12 = some (optNum (L.Z.map fun (n : Nat) => PyNum.int (n : Int))) := by
          rw [← optNatV_eq]; rfl
        have h7 := (lookup_labG (rd := rd) (some L) G 7 (by decide)).trans h7
        have hz := step_Z N rng i.nonphysical 12 _ [] h12 h7 (h.frame (labG rd (some L) G))
        rw [optList_map, List.mapM_map] at hz
        simp only [Function.comp_def, val_int, truncInt_intCast] at hz
        refine .cons hz fun o3 st2 h2 => .cons (step_E N rng i.nonphysical 13 L.E [] rfl h7 h2) fun o4 st3 h3 => ?_
        exact ⟨_, exec_nil _ _ _, rfl, rfl, h3⟩

variable (rd) in
/-- what the label's `@mass` contributes (the captured text always parses: `GroupsOk`) -/
def labLate (sym : Nat) (mtol : Rat) (lab : Option Label) : List Late :=
  (optList ((lab.bind (·.mass)).bind decVal)).map fun q => massLate N rd sym mtol (rd q)

/-- the label block of the second stage (nucleus.py: `if label is not None: if speclabel: … else: offer_user_label(label)`) -/
theorem step_label2 (hidem : ∀ q, rd (rd q) = rd q) (hTM : ∀ k, tableMass N rd k ≠ .error .other)
    (i : Input) (lab : Option Label) (hlab : labelOf i = .ok lab) (zf : Int) (sym : Nat)
    (hsym : N.pt.toE (.int zf) false = some sym)
    (h5 : G.lookup 5 = some (optStr i.label)) (h6 : G.lookup 6 = some (vbool i.speclabel))
    (h8 : G.lookup 8 = some (.num i.mtol)) (h17 : G.lookup 17 = some (.num (.int zf)))
    (hL : ∀ L, lab = some L → G.lookup 11 = some (optNatV L.A) ∧ G.lookup 14 = some (optMassV rd L.mass) ∧
      G.lookup 15 = some (vbool L.real) ∧ G.lookup 16 = some (optStr L.user))
    (h : Inv rd i.mtol st G zo late rc uc) :
    SimS ((optList (lab.bind (·.A))).mapM fun (a : Nat) => offerClue N rd sym i.mtol.val (.massNumber (a : Int)))
      (Stmt.exec (H0 N rd rng) [] st
        (.ite (.isNotNone (.glob 5))
          (.cons (.ite (.glob 6)
            (.cons (.call 4 [.glob 15])
              (.cons (.ite (.isNotNone (.glob 11)) (.cons (.call 2 [.glob 17, .glob 11]) .nil) .nil)
                (.cons (.ite (.isNotNone (.glob 14)) (.cons (.call 3 [.glob 17, .glob 14]) .nil) .nil)
                  (.cons (.ite (.isNotNone (.glob 16)) (.cons (.call 5 [.glob 16]) .nil) .nil) .nil))))
            (.cons (.call 5 [.glob 5]) .nil)) .nil) .nil)) []
      fun l3 st' => Inv rd i.mtol st' G zo (late ++ l3 ++ labLate N rd sym i.mtol.val lab)
        (rc ++ (optList lab).map fun l => PyNum.bool l.real) (uc ++ userClues i lab) := by
  rw [exec_ite]
  unfold labelOf at hlab
  unfold userClues SimS
  have h5' := h.g ▸ h5
  have h6' := h.g ▸ h6
  cases hl : i.label with
  | none =>
    rw [hl] at h5' hlab
    cases hlab
    simp only [Expr.eval, ofOpt, h5', optStr, ok_bind, pure_eq_ok, bne_self_eq_false, truthy_vbool, Bool.false_eq_true, if_false, exec_nil]
    exact ⟨_, rfl, rfl, by simpa [labLate, optList] using h⟩
  | some l =>
    rw [hl] at h5 h5' hlab
    simp only [Expr.eval, ofOpt, h5', optStr, ok_bind, pure_eq_ok, ne_none_str, truthy_vbool, if_true]
    rw [exec_single, exec_ite]
    cases hs : i.speclabel with
    | false =>
      rw [hs] at h6' hlab
      cases hlab
      simp only [Expr.eval, ofOpt, h6', ok_bind, truthy_vbool, Bool.false_eq_true, if_false]
      refine .skip (step_L' N rng 5 l [] h5 h) fun st1 h1 => ?_
      exact ⟨_, rfl, rfl, by simpa [labLate, optList] using h1⟩
    | true =>
      rw [hs] at h6' hlab
      simp only at hlab
      cases hp : parseLabel l with
      | none => rw [hp] at hlab; cases hlab
      | some L =>
        rw [hp] at hlab
        cases hlab
        obtain ⟨h11, h14, h15, h16⟩ := hL L rfl
        simp only [Expr.eval, ofOpt, h6', ok_bind, truthy_vbool, if_true, Option.bind]
        -- offer_reality(lbl_real)
        refine .skip (step_R' N rng 15 (.bool L.real) [] h15 h) fun st1 h1 => ?_
        -- if lbl_A is not None: offer_mass_number(Z_final, lbl_A)
        have hA := step_A N rng zf sym hsym 11 (L.A.map fun (n : Nat) => PyNum.int (n : Int)) [] (optNatV_eq L.A ▸ h11) h17 h1
        rw [optList_map, List.mapM_map] at hA
        simp only [Function.comp_def, val_int, truncInt_intCast] at hA
        rw [← bind_pure (List.mapM _ _)]
        refine .cons hA fun l3 st2 h2 => ?_
        -- if lbl_mass is not None: offer_mass_value(Z_final, lbl_mass)
        refine .skip (step_M N rng hTM zf sym hsym 14 _ [] (optMassV_eq L.mass ▸ h14) h17 h8 h2) fun st3 h3 => ?_
        -- if lbl_user is not None: offer_user_label(lbl_user)
        refine .skip (step_L N rng 16 L.user [] h16 h3) fun st4 h4 => ?_
        refine ⟨_, exec_nil _ _ _, rfl, ?_⟩
        have hL1 : optList (some L) = [L] := rfl
        simpa [labLate, optList_map, List.map_map, Function.comp_def, hidem, hL1, -Option.map_bind] using h4


/-! ## the model, re-associated into the source's statement order -/

theorem late_split {β} (i : Input) (lab : Option Label) (sym : Nat) (rest : List Late → Except Err β)
    (hdec : ∀ t, lab.bind (·.mass) = some t → ∃ q, decVal t = some q) :
    (do let clues ← cluesOf rd i lab
        let late ← clues.mapM (offerClue N rd sym i.mtol.val)
        rest late) =
    (do let l1 ← (optList i.A).mapM (fun a => offerClue N rd sym i.mtol.val (.massNumber (truncInt a.val)))
        let l3 ← (optList (lab.bind (·.A))).mapM (fun (a : Nat) => offerClue N rd sym i.mtol.val (.massNumber (a : Int)))
        rest (l1 ++ (optList i.mass).map (fun m => massLate N rd sym i.mtol.val (rd m.val)) ++ l3 ++ labLate N rd sym i.mtol.val lab)) := by
  have hlm : (optList (lab.bind (·.mass))).mapM (labelMass rd) = .ok ((optList ((lab.bind (·.mass)).bind decVal)).map rd) := by
    cases hm : lab.bind (·.mass) with
    | none => rfl
    | some t =>
      obtain ⟨q, hq⟩ := hdec t hm
      simp [optList, labelMass, hq]
  have hmv : ∀ m, offerClue N rd sym i.mtol.val (.massValue m) = pure (massLate N rd sym i.mtol.val m) := fun _ => rfl
  unfold cluesOf labLate
  simp only [hlm, ok_bind, pure_bind, List.mapM_append, List.mapM_map, bind_assoc, Function.comp_def, hmv, List.mapM_pure]

theorem zStage_bind {β} (i : Input) (k : List ZOffer × Option Label → Except Err β) : (zStage N rd rng i >>= k) = (do
    let o1 ← (optList i.Z).mapM fun z => offerZ N rd rng i.nonphysical (truncInt z.val)
    let o2 ← (optList i.E).mapM fun e => offerE N rd rng i.nonphysical e
    let x ← (do let lab ← labelOf i
                let o3 ← (optList (lab.bind (·.Z))).mapM fun (z : Nat) => offerZ N rd rng i.nonphysical (z : Int)
                let o4 ← (optList (lab.bind (·.E))).mapM fun e => offerE N rd rng i.nonphysical e
                pure (lab, o3, o4))
    k (o1 ++ o2 ++ x.2.1 ++ x.2.2, x.1)) := by
  simp only [zStage, bind_assoc, pure_bind]

theorem lab_dec (i : Input) (lab : Option Label) (hlab : labelOf i = .ok lab)
    (hG : ∀ l g, i.label = some l → matchNucleus l = some g → GroupsOk g) :
    ∀ t, lab.bind (·.mass) = some t → ∃ q, decVal t = some q := by
  intro t ht
  cases lab with
  | none => cases ht
  | some L =>
    obtain ⟨_, l, hl, hp⟩ := (labelOf_ok hlab).1 L rfl
    obtain ⟨gr, hm, rfl⟩ := Option.map_eq_some_iff.mp (parseLabel_eq_map l ▸ hp)
    exact ((hG l gr hl hm).2.2.2.2 t ht).2

variable (rd)

/-- **The source-derived procedure is the model.**  For every table, every idempotent rounding function (`float(x)` of a
float is that float), every per-element range table and EVERY clue tuple: the evaluator run on the statements regenerated
from nucleus.py returns exactly what `reconcileWith` returns — the same tuple or the same error (class and feature).
Hypotheses: the table's mass strings parse (`hTM`: `to_mass` never fails with anything but NotAnElementError; the model maps
any failure inside `offer_mass_value`'s `try` to -1, the source only catches NotAnElementError) and the pattern's captures
are well-formed (`hG`, proved of every match: `matchNucleus_groupsOk`, Props/C06SrcGroups.lean). -/
theorem reconcileSrc_eq_model (hidem : ∀ q, rd (rd q) = rd q) (hTM : ∀ k, tableMass N rd k ≠ .error .other) (i : Input)
    (hG : ∀ l g, i.label = some l → matchNucleus l = some g → GroupsOk g) :
    reconcileSrc program N rd rng i = reconcileWith N rd rng i := by
  unfold reconcileSrc
  rw [reconcileWith, zStage_bind]
  refine Sim.eq ?_
  simp only [show program.body = body from rfl, body, exec_cons_initCands, exec_cons_initTests, exec_cons_assignF, St.setCands,
    St.clearTests, List.mapM_cons, List.mapM_nil, ok_bind, pure_eq_ok, Expr.eval]
  -- if Z is not None: offer_atomic_number(Z)
  refine .cons (step_Z N rng i.nonphysical 1 i.Z [] rfl rfl (inv_init rd i.mtol _)) fun o1 st1 h1 => ?_
  -- if E is not None: offer_element_symbol(E)
  refine .cons (step_E N rng i.nonphysical 2 i.E [] rfl rfl h1) fun o2 st2 h2 => ?_
  -- if label is not None and speclabel is True: …
  refine .cons (step_label1 N rng i hG rfl rfl rfl h2) fun x st3 h3 => ?_
  obtain ⟨lab, o3, o4⟩ := x
  obtain ⟨hlab, h3⟩ := h3
  simp only [List.nil_append] at h3
  dsimp only
  -- Z_final = reconcile(Z_exact, Z_range, "atomic number")
  refine .cons (by rw [exec_reconcile]; exact h3.z.reconcile _ _ (fun _ _ hr => hr _) h3 17 .atomicNumber []) fun zf st4 h4 => ?_
  -- E_final = periodictable.to_E(Z_final)
  refine .cons (step_toE N rng zf [] h4) fun sym st5 h5 => ?_
  obtain ⟨hsym, h5⟩ := h5
  rw [late_split N i lab sym _ (lab_dec i lab hlab hG)]
  -- if A is not None: offer_mass_number(Z_final, A)
  refine .cons (step_A N rng zf sym hsym 0 i.A [] (by cases lab <;> rfl) rfl h5) fun l1 st6 h6 => ?_
  -- if mass is not None: offer_mass_value(Z_final, mass)
  refine .skip (step_M N rng hTM zf sym hsym 3 i.mass [] (by cases lab <;> rfl) rfl (by cases lab <;> rfl) h6) fun st7 h7 => ?_
  -- if real is not None: offer_reality(real)
  refine .skip (step_R N rng 4 i.real [] (by cases lab <;> rfl) h7) fun st8 h8 => ?_
  -- if label is not None: …
  refine .cons (step_label2 N rng hidem hTM i lab hlab zf sym hsym (by cases lab <;> rfl) (by cases lab <;> rfl)
    (by cases lab <;> rfl) rfl (fun L hL => by subst hL; exact ⟨rfl, rfl, rfl, rfl⟩) h8) fun l3 st9 h9 => ?_
  simp only [List.nil_append] at h9
  unfold realClues
  -- mass_final = reconcile(m_exact, m_range, "mass")
  have hg : GOk i.mtol st9.g := h9.g ▸ ⟨by cases lab <;> rfl, by cases lab <;> rfl⟩
  refine .cons (by rw [exec_reconcile]; exact h9.m.reconcile _ _ (fun _ _ hr => hr _ hg) h9 19 .mass []) fun mf st10 h10 => ?_
  -- A_final = reconcile(A_exact, A_range, "mass number")
  refine .cons (by rw [exec_reconcile]; exact h10.a.reconcile _ _ (fun _ _ hr => hr _) h10 20 .massNumber []) fun af st11 h11 => ?_
  -- real_final = reconcile(r_exact, r_range, "real/ghost")
  refine .cons (by rw [exec_reconcile]; exact h11.r.reconcile _ _ (fun _ _ hr => hr _) h11 21 .realGhost []) fun rf st12 h12 => ?_
  -- user_final = reconcile(l_exact, l_range, "user label")
  refine .cons (by rw [exec_reconcile]; exact h12.l.reconcile _ _ (fun _ _ hr => hr _) h12 22 .userLabel []) fun uf st13 h13 => ?_
  -- return (A_final, Z_final, E_final, mass_final, real_final, user_final)
  refine ⟨_, exec_nil _ _ _, ?_⟩
  simp only [h13.g, show program.ret = ret from rfl, ret, evalArgs, Expr.eval, ofOpt, List.lookup, beq_self_eq_true, Nat.reduceBEq,
    ok_bind, pure_eq_ok, toOutput]

end main
end QcelVerif.Nucleus.Ast
