import QcelVerif.Lemmas.MunkresInv2.Basic
import QcelVerif.Model.MunkresFloat
/-!
C14 — Munkres step invariants: `_step1` establishes the invariant of `_step3`.
-/
namespace QcelVerif.Munkres
open QcelVerif.Assign

theorem step1_next (s : State) : (step1 s).2 = some .s3 := rfl

/-- invariant of the two nested loops of `_step1` over `(marked, row_uncovered, col_uncovered)` -/
structure S1Loop (C : Mat Rat) (n m : Nat) (mk : Mat Nat) (ru cu : Array Bool) : Prop where
  msz : mk.size = n
  mrow : ∀ i, i < n → (mk.getD i #[]).size = m
  rsz : ru.size = n
  csz : cu.size = m
  bin : ∀ i j, get2 mk i j = 0 ∨ get2 mk i j = 1
  star : ∀ i j, get2 mk i j = 1 →
    get2 C i j = 0 ∧ ru.getD i false = false ∧ cu.getD j false = false
  srow : ∀ i j j', get2 mk i j = 1 → get2 mk i j' = 1 → j = j'
  scol : ∀ i i' j, get2 mk i j = 1 → get2 mk i' j = 1 → i = i'

/-- covering `i` leaves `i` and every covered index covered -/
theorem getD_set!_false (a : Array Bool) (i k : Nat) (h : k = i ∨ a.getD k false = false) :
    (a.set! i false).getD k false = false := by
  rw [getD_set!]
  split
  · rfl
  · rename_i hn
    rcases h with rfl | h
    · exact getD_of_size_le (Nat.le_of_not_lt fun hk => hn ⟨rfl, hk⟩) false
    · exact h

/-- a star of the updated mask is the new one or an old one -/
theorem star_set2 (mk : Mat Nat) (i j i' j' : Nat) (h : get2 (set2 mk i j 1) i' j' = 1) :
    (i = i' ∧ j = j') ∨ get2 mk i' j' = 1 := by
  rw [get2_set2] at h
  split at h
  · rename_i hc
    exact Or.inl ⟨hc.1, hc.2.1⟩
  · exact Or.inr h

/-- starring an uncovered zero and covering its row and column preserves the loop invariant -/
theorem S1Loop.step {C : Mat Rat} {n m : Nat} {mk : Mat Nat} {ru cu : Array Bool}
    (h : S1Loop C n m mk ru cu) (i j : Nat) (hz : get2 C i j = 0)
    (hc : cu.getD j false = true) (hr : ru.getD i false = true) :
    S1Loop C n m (set2 mk i j 1) (ru.set! i false) (cu.set! j false) := by
  have noRow : ∀ j', get2 mk i j' ≠ 1 := by
    intro j' hs
    have := (h.star i j' hs).2.1
    rw [hr] at this
    exact Bool.noConfusion this
  have noCol : ∀ i', get2 mk i' j ≠ 1 := by
    intro i' hs
    have := (h.star i' j hs).2.2
    rw [hc] at this
    exact Bool.noConfusion this
  refine ⟨?_, ?_, ?_, ?_, ?_, ?_, ?_, ?_⟩
  · rw [set2_size]; exact h.msz
  · intro k hk; rw [set2_row_size]; exact h.mrow k hk
  · simp [h.rsz]
  · simp [h.csz]
  · intro i' j'
    rw [get2_set2]
    split
    · exact Or.inr rfl
    · exact h.bin i' j'
  · intro i' j' hs
    rcases star_set2 mk i j i' j' hs with ⟨rfl, rfl⟩ | ho
    · exact ⟨hz, getD_set!_false ru i i (Or.inl rfl), getD_set!_false cu j j (Or.inl rfl)⟩
    · obtain ⟨h1, h2, h3⟩ := h.star i' j' ho
      exact ⟨h1, getD_set!_false ru i i' (Or.inr h2), getD_set!_false cu j j' (Or.inr h3)⟩
  · intro i' j1 j2 h1 h2
    rcases star_set2 mk i j i' j1 h1 with ⟨rfl, rfl⟩ | ho1
    · rcases star_set2 mk i j i j2 h2 with ⟨_, rfl⟩ | ho2
      · rfl
      · exact absurd ho2 (noRow j2)
    · rcases star_set2 mk i j i' j2 h2 with ⟨rfl, rfl⟩ | ho2
      · exact absurd ho1 (noRow j1)
      · exact h.srow i' j1 j2 ho1 ho2
  · intro i1 i2 j' h1 h2
    rcases star_set2 mk i j i1 j' h1 with ⟨rfl, rfl⟩ | ho1
    · rcases star_set2 mk i j i2 j h2 with ⟨rfl, _⟩ | ho2
      · rfl
      · exact absurd ho2 (noCol i2)
    · rcases star_set2 mk i j i2 j' h2 with ⟨rfl, rfl⟩ | ho2
      · exact absurd ho1 (noCol i1)
      · exact h.scol i1 i2 j' ho1 ho2

/-- the row-reduced matrix of `_step1` -/
def redC (s : State) : Mat Rat := s.C.map fun r => r.map (fun x => x - rowMin r)

theorem step1_eq_with (s : State) : step1 s = step1With (redC s) s := rfl

/-- one cell visit of the starring loop of `_step1`, on `(marked, row_uncovered, col_uncovered)` -/
def star1 (C : Mat Rat) (i j : Nat) (t : Mat Nat × Array Bool × Array Bool) : Mat Nat × Array Bool × Array Bool :=
  if get2 C i j == 0 && t.2.2.getD j false && t.2.1.getD i false then
    (set2 t.1 i j 1, t.2.1.set! i false, t.2.2.set! j false)
  else t

theorem step1With_eq (C : Mat Rat) (s : State) :
    step1With C s =
      let t := (cells C).foldl (fun t p => star1 C p.1 p.2 t) (s.marked, s.rowUnc, s.colUnc)
      (clearCovers { s with C := C, marked := t.1, rowUnc := t.2.1, colUnc := t.2.2 }, some .s3) := by
  unfold step1With
  simp only [Id.run, bind, pure, yield_ite, Prod.mk.eta]
  rw [← forIn_cells C (star1 C)]
  rfl

/-- `_step1` is `clearCovers` of a state whose mask and covers satisfy the loop invariant -/
theorem step1_loops (n m : Nat) (s : State)
    (h0 : S1Loop (redC s) n m s.marked s.rowUnc s.colUnc) :
    ∃ t : Mat Nat × Array Bool × Array Bool,
      (step1 s).1 = clearCovers { s with C := redC s, marked := t.1, rowUnc := t.2.1, colUnc := t.2.2 }
      ∧ S1Loop (redC s) n m t.1 t.2.1 t.2.2 := by
  refine ⟨_, congrArg Prod.fst (step1With_eq (redC s) s), ?_⟩
  refine foldl_inv (fun (t : Mat Nat × Array Bool × Array Bool) => S1Loop (redC s) n m t.1 t.2.1 t.2.2) _
    (fun t p ht => ?_) _ _ h0
  unfold star1
  split
  · rename_i hc
    simp only [Bool.and_eq_true, beq_iff_eq] at hc
    exact ht.step p.1 p.2 hc.1.1 hc.1.2 hc.2
  · exact ht

theorem get2_redC {n m : Nat} {s : State} (hs : Shape n m s) (i j : Nat) (hi : i < n) (hj : j < m) :
    get2 (redC s) i j = get2 s.C i j - rowMin (s.C.getD i #[]) := by
  have hi' : i < s.C.size := by rw [hs.Csz]; exact hi
  have hj' : j < (s.C.getD i #[]).size := by rw [hs.Crow i hi]; exact hj
  exact get2_map_rows s.C (fun r x => x - rowMin r) i j hi' hj'

theorem S1Loop.init {n m : Nat} {cost : Nat → Nat → Rat} {s : State} (h : Inv1 n m cost s) :
    S1Loop (redC s) n m s.marked s.rowUnc s.colUnc := by
  have no1 : ∀ i j, get2 s.marked i j ≠ 1 := by
    intro i j hs
    rw [h.unmarked i j] at hs
    exact Nat.noConfusion hs
  exact ⟨h.shape.Msz, h.shape.Mrow, h.shape.rsz, h.shape.csz, fun i j => Or.inl (h.unmarked i j),
    fun i j hs => absurd hs (no1 i j), fun i j _ hs _ => absurd hs (no1 i j),
    fun i _ j hs _ => absurd hs (no1 i j)⟩

theorem step1_inv {n m : Nat} {cost : Nat → Nat → Rat} {s : State} (h : Inv1 n m cost s) :
    Inv3 n m cost (step1 s).1 := by
  obtain ⟨t, ht, hl⟩ := step1_loops n m s (S1Loop.init h)
  rw [ht]
  have hs := h.shape
  refine Inv3.of_clearCovers ⟨⟨?_, ?_, hl.msz, hl.mrow, hl.rsz, hl.csz⟩, ?_, ?_, fun i j hst => (hl.star i j hst).1,
    hl.srow, hl.scol⟩ ?_
  · show (redC s).size = n
    unfold redC
    rw [Array.size_map]
    exact hs.Csz
  · intro i hi
    show ((redC s).getD i #[]).size = m
    unfold redC
    rw [getD_map_size (g := fun r x => x - rowMin r)]
    exact hs.Crow i hi
  · intro i hi j hj
    show 0 ≤ get2 (redC s) i j
    rw [get2_redC hs i j hi hj]
    have hj' : j < (s.C.getD i #[]).size := by rw [hs.Crow i hi]; exact hj
    have := rowMin_le (s.C.getD i #[]) j hj'
    have e : get2 s.C i j = (s.C.getD i #[]).getD j 0 := rfl
    rw [e]
    linarith
  · refine ⟨fun i => rowMin (s.C.getD i #[]), fun _ => 0, 0, ?_, fun _ _ => le_refl _, fun _ _ _ => rfl⟩
    intro i hi j hj
    show get2 (redC s) i j = _
    rw [get2_redC hs i j hi hj, h.C_eq i hi j hj]
    ring
  · intro i j hp
    have hp' : get2 t.1 i j = 2 := hp
    rcases hl.bin i j with h0 | h1
    · rw [h0] at hp'; exact Nat.noConfusion hp'
    · rw [h1] at hp'; exact absurd hp' (by decide)

end QcelVerif.Munkres
