import QcelVerif.Lemmas.MunkresInv2.Basic
/-!
C14 — Munkres step invariants: `_step6` preserves the loop invariant and hands over to step 4;
`_step3` turns `Inv3` into the loop invariant, and when it stops every row has a star.
-/
namespace QcelVerif.Munkres
open QcelVerif.Assign

/-! ### step 6 -/

def vals6 (s : State) : Array Rat := Id.run do
  let mut acc : Array Rat := #[]
  for i in [0:s.C.size] do
    if s.rowUnc.getD i false then
      let r := s.C.getD i #[]
      for j in [0:r.size] do
        if s.colUnc.getD j false then acc := acc.push (r.getD j 0)
  return acc

def C6 (s : State) (mv : Rat) : Mat Rat :=
  s.C.mapIdx fun i r => r.mapIdx fun j x =>
      let x1 := if s.rowUnc.getD i false then x else x + mv
      if s.colUnc.getD j false then x1 - mv else x1

theorem step6_eq (s : State) : step6 s =
    if s.rowUnc.any id && s.colUnc.any id then ({ s with C := C6 s (rowMin (vals6 s)) }, some .s4)
    else (s, some .s4) := rfl

theorem get2_rat (M : Mat Rat) (i j : Nat) : get2 M i j = (M.getD i #[]).getD j 0 := rfl

/-- the values `_step6` takes the minimum of: the entries in uncovered rows and columns, in row-major order -/
theorem vals6_eq (s : State) : vals6 s =
    (((cells s.C).filter fun p => s.rowUnc.getD p.1 false && s.colUnc.getD p.2 false).map
      fun p => get2 s.C p.1 p.2).toArray := by
  unfold vals6
  simp only [Id.run, bind, pure, yield_ite, forIn_guard]
  rw [forIn_cells s.C (fun i j (a : Array Rat) => if s.rowUnc.getD i false = true then
      (if s.colUnc.getD j false = true then a.push ((s.C.getD i #[]).getD j 0) else a) else a)]
  simp only [← ite_and, ← Bool.and_eq_true]
  rw [foldl_push_if (fun p : Nat × Nat => s.rowUnc.getD p.1 false && s.colUnc.getD p.2 false)
    (fun p => (s.C.getD p.1 #[]).getD p.2 0)]
  simp [get2_rat]

section minval
variable {n m : Nat} {s : State}

/-- in a well-shaped state, `_step6` takes the minimum over the entries in uncovered rows and columns -/
theorem vals6_mem' (hs : Shape n m s) (x : Rat) :
    x ∈ vals6 s ↔ ∃ i j, RU s i ∧ CU s j ∧ x = get2 s.C i j := by
  simp only [vals6_eq, List.mem_toArray, List.mem_map, List.mem_filter, mem_cells, Bool.and_eq_true, Prod.exists]
  constructor
  · rintro ⟨i, j, ⟨_, hr, hc⟩, rfl⟩; exact ⟨i, j, hr, hc, rfl⟩
  · rintro ⟨i, j, hr, hc, rfl⟩
    have hi := RU.lt hs hr
    exact ⟨i, j, ⟨⟨hs.Csz ▸ hi, by rw [hs.Crow i hi]; exact CU.lt hs hc⟩, hr, hc⟩, rfl⟩

/-- the smallest uncovered value is below every uncovered entry -/
theorem minval6_le (hs : Shape n m s) {i j : Nat} (hr : RU s i) (hc : CU s j) :
    rowMin (vals6 s) ≤ get2 s.C i j :=
  rowMin_le_mem _ _ ((vals6_mem' hs _).2 ⟨i, j, hr, hc, rfl⟩)

/-- with an uncovered row and an uncovered column, the smallest uncovered value is an uncovered entry -/
theorem minval6_mem (hs : Shape n m s) {i j : Nat} (hr : RU s i) (hc : CU s j) :
    ∃ i0 j0, RU s i0 ∧ CU s j0 ∧ rowMin (vals6 s) = get2 s.C i0 j0 := by
  have hmem : get2 s.C i j ∈ vals6 s := (vals6_mem' hs _).2 ⟨i, j, hr, hc, rfl⟩
  obtain ⟨k, hk, _⟩ := Array.mem_iff_getElem.1 hmem
  exact (vals6_mem' hs _).1 (rowMin_mem (vals6 s) (Nat.zero_lt_of_lt hk))

theorem get2_C6' (hs : Shape n m s) (mv : Rat) {i j : Nat} (hi : i < n) (hj : j < m) :
    get2 (C6 s mv) i j = get2 s.C i j + (if s.rowUnc.getD i false = true then 0 else mv)
      - (if s.colUnc.getD j false = true then mv else 0) := by
  unfold C6
  rw [get2_mapIdx s.C _ i j (hs.Csz ▸ hi) (by rw [hs.Crow i hi]; exact hj)]
  by_cases hr : s.rowUnc.getD i false = true <;> by_cases hc : s.colUnc.getD j false = true <;>
    simp [hr, hc]

end minval

theorem step6_inv_aux {n m : Nat} {cost : Nat → Nat → Rat} {s : State} (h : Loop n m cost s)
    (mv : Rat) (h0 : 0 ≤ mv)
    (hle : ∀ i j, i < n → j < m → RU s i → CU s j → mv ≤ get2 s.C i j) :
    Loop n m cost { s with C := C6 s mv } := by
  have hsh := h.base.shape
  refine { base := { shape := ?_, nonneg := ?_, pot := ?_, starZero := ?_,
                     starRow := h.base.starRow, starCol := h.base.starCol },
           l1 := h.l1, l2 := h.l2, l3 := h.l3, l4 := h.l4, primeZero := ?_, rank := h.rank }
  · refine ⟨?_, ?_, hsh.Msz, hsh.Mrow, hsh.rsz, hsh.csz⟩
    · show (C6 s mv).size = n
      simp [C6, hsh.Csz]
    · intro i hi
      show ((C6 s mv).getD i #[]).size = m
      unfold C6
      rw [getD_mapIdx_size]
      exact hsh.Crow i hi
  · intro i hi j hj
    show 0 ≤ get2 (C6 s mv) i j
    rw [get2_C6' hsh mv hi hj]
    have hnn := h.base.nonneg i hi j hj
    by_cases hr : s.rowUnc.getD i false = true <;> by_cases hc : s.colUnc.getD j false = true
    · have := hle i j hi hj hr hc
      rw [if_pos hr, if_pos hc]
      linarith only [this]
    · rw [if_pos hr, if_neg hc]
      linarith only [hnn]
    · rw [if_neg hr, if_pos hc]
      linarith only [hnn]
    · rw [if_neg hr, if_neg hc]
      linarith only [hnn, h0]
  · obtain ⟨u, v, V, h1, h2, h3⟩ := h.base.pot
    refine ⟨fun i => u i - (if s.rowUnc.getD i false = true then 0 else mv),
      fun j => v j + (if s.colUnc.getD j false = true then mv else 0), V + mv, ?_, ?_, ?_⟩
    · intro i hi j hj
      show get2 (C6 s mv) i j = _
      rw [get2_C6' hsh mv hi hj, h1 i hi j hj]
      ring
    · intro j hj
      have := h2 j hj
      by_cases hc : s.colUnc.getD j false = true
      · simp only [if_pos hc]; linarith only [this]
      · simp only [if_neg hc]; linarith only [this, h0]
    · intro j hj hns
      have hc : s.colUnc.getD j false = true := by
        by_contra hc
        obtain ⟨i, hi⟩ := h.l3 j hj hc
        exact hns i hi
      simp only [if_pos hc]
      rw [h3 j hj hns]
  · intro i j hst
    obtain ⟨hi, hj⟩ := Star.lt hsh hst
    show get2 (C6 s mv) i j = 0
    rw [get2_C6' hsh mv hi hj, h.base.starZero i j hst]
    have hl := h.l1 i j hst
    by_cases hr : s.rowUnc.getD i false = true
    · have hc : ¬ s.colUnc.getD j false = true := fun hc => (hl.1 hc) hr
      rw [if_pos hr, if_neg hc]; ring
    · have hc : s.colUnc.getD j false = true := hl.2 hr
      rw [if_neg hr, if_pos hc]; ring
  · intro i j hp
    obtain ⟨hi, hj⟩ := Prime.lt hsh hp
    show get2 (C6 s mv) i j = 0
    obtain ⟨hc, hr⟩ := h.l4 i j hp
    have hc : s.colUnc.getD j false = true := hc
    have hr : ¬ s.rowUnc.getD i false = true := hr
    rw [get2_C6' hsh mv hi hj, h.primeZero i j hp]
    rw [if_neg hr, if_pos hc]; ring

theorem step6_next (s : State) : (step6 s).2 = some .s4 := by
  rw [step6_eq]; split <;> rfl

theorem step6_inv {n m : Nat} {cost : Nat → Nat → Rat} {s : State} (h : Loop n m cost s) :
    Loop n m cost (step6 s).1 := by
  rw [step6_eq]
  split
  · have hsh := h.base.shape
    apply step6_inv_aux h
    · apply rowMin_nonneg
      intro x hx
      obtain ⟨i, j, hr, hc, rfl⟩ := (vals6_mem' hsh x).1 hx
      exact h.base.nonneg i (RU.lt hsh hr) j (CU.lt hsh hc)
    · exact fun i j _ _ hr hc => minval6_le hsh hr hc
  · exact h

/-! ### step 3 -/

theorem step3_state (s : State) :
    (step3 s).1.marked = s.marked ∧ (step3 s).1.C = s.C ∧ (step3 s).1.rowUnc = s.rowUnc :=
  ⟨rfl, rfl, rfl⟩

theorem step3_next (s : State) : (step3 s).2 = some .s4 ∨ (step3 s).2 = none := by
  unfold step3
  simp only
  split
  · exact Or.inl rfl
  · exact Or.inr rfl

theorem star_iff (M : Mat Nat) (i j : Nat) :
    Star M i j ↔ ∃ h : i < M.size, M[i].getD j 0 = 1 := by
  unfold Star get2
  by_cases hi : i < M.size
  · simp [Array.getD, hi]
  · simp [Array.getD, hi]

theorem any_star (M : Mat Nat) (j : Nat) :
    M.any (fun r => r.getD j 0 == 1) = true ↔ ∃ i, Star M i j := by
  rw [Array.any_eq_true]
  constructor
  · rintro ⟨i, hi, h⟩
    exact ⟨i, (star_iff M i j).2 ⟨hi, by simpa using h⟩⟩
  · rintro ⟨i, h⟩
    obtain ⟨hi, h⟩ := (star_iff M i j).1 h
    exact ⟨i, hi, by simpa using h⟩

theorem step3_CU (s : State) (j : Nat) :
    CU (step3 s).1 j ↔ CU s j ∧ ¬ ∃ i, Star s.marked i j := by
  unfold CU
  show (s.colUnc.mapIdx fun j b => if s.marked.any (fun r => r.getD j 0 == 1) then false else b).getD j false = true ↔ _
  rw [← any_star, Array.getD_eq_getD_getElem?, Array.getD_eq_getD_getElem?, Array.getElem?_mapIdx]
  cases s.colUnc[j]? with
  | none => simp
  | some b => cases s.marked.any (fun r => r.getD j 0 == 1) <;> simp

theorem step3_inv {n m : Nat} {cost : Nat → Nat → Rat} {s : State} (h : Inv3 n m cost s) :
    Loop n m cost (step3 s).1 := by
  have hb := h.base
  have hsh := hb.shape
  have hRU : ∀ i, RU (step3 s).1 i ↔ RU s i := fun i => Iff.rfl
  refine { base := hb.congr rfl rfl rfl Array.size_mapIdx,
           l1 := ?_, l2 := ?_, l3 := ?_, l4 := ?_, primeZero := ?_, rank := ?_ }
  · intro i j hst
    have hst' : Star s.marked i j := hst
    obtain ⟨hi, hj⟩ := Star.lt hsh hst'
    rw [step3_CU, hRU]
    constructor
    · rintro ⟨_, hn⟩
      exact absurd ⟨i, hst'⟩ hn
    · intro hn
      exact absurd (h.rowU i hi) hn
  · intro i hi hn
    exact absurd (h.rowU i hi) hn
  · intro j hj hn
    rw [step3_CU] at hn
    by_contra hne
    exact hn ⟨h.colU j hj, hne⟩
  · intro i j hp
    exact absurd hp (h.noPrime i j)
  · intro i j hp
    exact absurd hp (h.noPrime i j)
  · exact ⟨fun _ => 0, 1, fun _ => Nat.zero_lt_one, fun i j i' hp _ => absurd hp (h.noPrime i j)⟩


/-- a sum of 0/1 values and the number of zeros among them make up the length -/
theorem foldl_add_zeros {α : Type} (f : α → Nat) (l : List α) (h1 : ∀ r ∈ l, f r ≤ 1) (a : Nat) :
    l.foldl (fun a r => a + f r) a + l.countP (fun r => f r == 0) = a + l.length := by
  induction l generalizing a with
  | nil => rfl
  | cons x l ih =>
    have hx := h1 x (List.mem_cons_self ..)
    rw [List.foldl_cons, List.countP_cons, ← Nat.add_assoc, ih (fun r hr => h1 r (List.mem_cons_of_mem _ hr)),
      List.length_cons]
    by_cases h0 : f x = 0
    · rw [h0]; rfl
    · rw [show f x = 1 by omega]
      exact Nat.add_right_comm a 1 l.length

theorem list_countP_le_one (l : List Nat)
    (h : ∀ j j' : Nat, l[j]? = some 1 → l[j']? = some 1 → j = j') : l.countP (· == 1) ≤ 1 := by
  induction l with
  | nil => simp
  | cons x l ih =>
    rw [List.countP_cons]
    by_cases hx : x = 1
    · subst hx
      have : l.countP (· == 1) = 0 := by
        rw [List.countP_eq_zero]
        intro a ha
        obtain ⟨j, hj, rfl⟩ := List.mem_iff_getElem.1 ha
        intro h1
        have h1 : l[j] = 1 := by simpa using h1
        have := h 0 (j + 1) (by simp) (by simp [hj, h1])
        omega
      simp [this]
    · have := ih (fun j j' h1 h2 => by
        have := h (j + 1) (j' + 1) (by simpa using h1) (by simpa using h2)
        omega)
      simp [hx]
      exact this

/-- a row's entry `1` at position `j`, in the two ways of reading it -/
theorem star_iff_getElem? (M : Mat Nat) (i j : Nat) (hi : i < M.size) :
    Star M i j ↔ M[i][j]? = some 1 := by
  rw [star_iff]
  by_cases hj : j < M[i].size <;> simp [Array.getD_eq_getD_getElem?, hi, hj]

/-- the count of step 3, `(marked == 1).sum()`, falls short of the number of rows exactly when some
row holds no star — given that no row holds two -/
theorem starCount_lt_iff (M : Mat Nat) (hrow : ∀ i j j', Star M i j → Star M i j' → j = j') :
    M.foldl (fun a r => a + r.countP (· == 1)) 0 < M.size ↔ ∃ i, i < M.size ∧ ∀ j, ¬ Star M i j := by
  have hle1 : ∀ r ∈ M.toList, r.countP (· == 1) ≤ 1 := by
    intro r hr
    obtain ⟨i, hi, rfl⟩ := List.mem_iff_getElem.1 hr
    have hi' : i < M.size := by simpa using hi
    rw [← Array.countP_toList]
    apply list_countP_le_one
    intro j j' h1 h2
    exact hrow i j j' ((star_iff_getElem? M i j hi').2 (by simpa using h1))
      ((star_iff_getElem? M i j' hi').2 (by simpa using h2))
  have hzero : ∀ i (hi : i < M.size), M[i].countP (· == 1) = 0 ↔ ∀ j, ¬ Star M i j := by
    intro i hi
    rw [Array.countP_eq_zero]
    constructor
    · intro h j hj
      obtain ⟨hjlt, e⟩ := Array.getElem?_eq_some_iff.1 ((star_iff_getElem? M i j hi).1 hj)
      exact h _ (Array.getElem_mem hjlt) (by simp [e])
    · intro h a ha h1
      obtain ⟨j, hj, rfl⟩ := Array.mem_iff_getElem.1 ha
      exact h j ((star_iff_getElem? M i j hi).2 (by simpa [hj] using h1))
  have := foldl_add_zeros (fun r : Array Nat => r.countP (· == 1)) M.toList hle1 0
  rw [Nat.zero_add, Array.foldl_toList, Array.length_toList] at this
  rw [show M.foldl (fun a r => a + r.countP (· == 1)) 0 < M.size ↔
    0 < M.toList.countP (fun r => r.countP (· == 1) == 0) by omega, List.countP_pos_iff]
  constructor
  · rintro ⟨r, hr, h0⟩
    obtain ⟨i, hi, rfl⟩ := List.mem_iff_getElem.1 hr
    have hi' : i < M.size := by simpa using hi
    exact ⟨i, hi', (hzero i hi').1 (by simpa using h0)⟩
  · rintro ⟨i, hi, hno⟩
    exact ⟨M[i], by simp, beq_iff_eq.2 ((hzero i hi).2 hno)⟩

/-- under its invariant, step 3 goes on to step 4 exactly when some row holds no star -/
theorem step3_s4_iff {n m : Nat} {cost : Nat → Nat → Rat} {s : State} (h : Inv3 n m cost s) :
    (step3 s).2 = some .s4 ↔ ∃ i, i < n ∧ ∀ j, ¬ Star s.marked i j := by
  have hsh := h.base.shape
  have h1 : (step3 s).2 = some .s4 ↔ s.marked.foldl (fun a r => a + r.countP (· == 1)) 0 < s.C.size := by
    unfold step3
    simp only
    split <;> simp [*]
  have hsz : s.C.size = s.marked.size := hsh.Csz.trans hsh.Msz.symm
  rw [h1, ← hsh.Msz, ← starCount_lt_iff s.marked h.base.starRow]
  exact ⟨fun h => Nat.lt_of_lt_of_eq h hsz, fun h => Nat.lt_of_lt_of_eq h hsz.symm⟩

/-- when step 3 reports "done" every row holds a star -/
theorem step3_done {n m : Nat} {cost : Nat → Nat → Rat} {s : State} (h : Inv3 n m cost s)
    (hd : (step3 s).2 = none) : ∀ i, i < n → ∃ j, Star s.marked i j := by
  intro i hi
  by_contra hno
  have h4 := (step3_s4_iff h).2 ⟨i, hi, fun j hj => hno ⟨j, hj⟩⟩
  rw [hd] at h4
  cases h4

end QcelVerif.Munkres
