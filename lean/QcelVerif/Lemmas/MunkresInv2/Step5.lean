import QcelVerif.Lemmas.MunkresInv2.Basic
/-!
C14 — Munkres step invariants: `_step5` (augment along the alternating path of primes and
stars that starts at `Z0`).

The path is handled as the list of its cells in *reverse* order (newest first):
`[p_k, s_k, p_{k-1}, …, s_1, p_0]` with `p_a = (r_a, c_a)` primed, `s_a = (r_a, c_{a-1})` starred.
Following the path strictly decreases the priming order `rk` of the rows (invariant `Inv5.rank`),
so no cell repeats and flipping every cell keeps the stars independent.
-/
namespace QcelVerif.Munkres

/-- alternating path, newest cell first -/
inductive Chain (M : Mat Nat) (rk : Nat → Nat) : List (Nat × Nat) → Prop
  | base (p : Nat × Nat) : Prime M p.1 p.2 → (∀ j, ¬ Star M p.1 j) → Chain M rk [p]
  | step (q p : Nat × Nat) (rest : List (Nat × Nat)) : Chain M rk (p :: rest) → Prime M q.1 q.2 →
      Star M q.1 p.2 → rk q.1 < rk p.1 → Chain M rk (q :: (q.1, p.2) :: p :: rest)

section chain
variable {M : Mat Nat} {rk : Nat → Nat}

theorem star_not_prime {i j : Nat} (h : Star M i j) : ¬ Prime M i j := by
  unfold Star at h; unfold Prime; rw [h]; decide

theorem Chain.ne_nil {l : List (Nat × Nat)} (h : Chain M rk l) : l ≠ [] := by
  cases h <;> simp

/-- the newest cell is a prime -/
theorem Chain.head_prime {p : Nat × Nat} {rest : List (Nat × Nat)} (h : Chain M rk (p :: rest)) :
    Prime M p.1 p.2 := by
  cases h with
  | base _ h1 _ => exact h1
  | step _ _ _ _ h1 _ _ => exact h1

theorem mem_step {α : Type} {x q c : α} {l : List α} (h : x ∈ l) : x ∈ q :: c :: l :=
  List.mem_cons_of_mem _ (List.mem_cons_of_mem _ h)

/-- every row on the path was primed no earlier than the newest one -/
theorem Chain.rank_ge {p : Nat × Nat} {rest : List (Nat × Nat)} (h : Chain M rk (p :: rest)) :
    ∀ x ∈ p :: rest, rk p.1 ≤ rk x.1 := by
  generalize hl : p :: rest = l at h
  induction h generalizing p rest with
  | base p0 _ _ =>
    injection hl with h1 h2
    subst h1 h2
    exact List.forall_mem_singleton.2 (Nat.le_refl _)
  | step q p0 rest0 hc _ _ hlt ih =>
    injection hl with h1 h2
    subst h1 h2
    exact List.forall_mem_cons.2 ⟨Nat.le_refl _, List.forall_mem_cons.2 ⟨Nat.le_refl _,
      fun x hx => Nat.le_trans (Nat.le_of_lt hlt) (ih rfl x hx)⟩⟩

/-- every cell of the path is a prime or a star -/
theorem Chain.cells {l : List (Nat × Nat)} (h : Chain M rk l) :
    ∀ x ∈ l, Prime M x.1 x.2 ∨ Star M x.1 x.2 := by
  induction h with
  | base p h1 _ => exact List.forall_mem_singleton.2 (Or.inl h1)
  | step q p rest _ h1 h2 _ ih =>
    exact List.forall_mem_cons.2 ⟨Or.inl h1, List.forall_mem_cons.2 ⟨Or.inr h2, ih⟩⟩

/-- the star (if any) in the row of a prime of the path is on the path -/
theorem Chain.row_star {l : List (Nat × Nat)} (h : Chain M rk l) :
    ∀ x ∈ l, Prime M x.1 x.2 → (∀ j, ¬ Star M x.1 j) ∨ ∃ j', Star M x.1 j' ∧ (x.1, j') ∈ l := by
  induction h with
  | base p _ h2 => exact List.forall_mem_singleton.2 (fun _ => Or.inl h2)
  | step q p rest _ h1 h2 _ ih =>
    refine List.forall_mem_cons.2 ⟨fun _ => Or.inr ⟨p.2, h2, by simp⟩,
      List.forall_mem_cons.2 ⟨fun hp => absurd hp (star_not_prime h2), fun x hx hp => ?_⟩⟩
    exact (ih x hx hp).imp id (fun ⟨j', h3, h4⟩ => ⟨j', h3, mem_step h4⟩)

/-- the star in the column of a prime of the path, other than the newest, is on the path -/
theorem Chain.col_star {p : Nat × Nat} {rest : List (Nat × Nat)} (h : Chain M rk (p :: rest)) :
    ∀ x ∈ p :: rest, Prime M x.1 x.2 → x = p ∨ ∃ i', Star M i' x.2 ∧ (i', x.2) ∈ p :: rest := by
  generalize hl : p :: rest = l at h
  induction h generalizing p rest with
  | base p0 _ _ =>
    injection hl with h1 h2
    subst h1 h2
    exact List.forall_mem_singleton.2 (fun _ => Or.inl rfl)
  | step q p0 rest0 hc h1 h2 _ ih =>
    injection hl with h3 h4
    subst h3 h4
    refine List.forall_mem_cons.2 ⟨fun _ => Or.inl rfl,
      List.forall_mem_cons.2 ⟨fun hp => absurd hp (star_not_prime h2), fun x hx hp => Or.inr ?_⟩⟩
    rcases ih rfl x hx hp with rfl | ⟨i', h5, h6⟩
    · exact ⟨_, h2, by simp⟩
    · exact ⟨i', h5, mem_step h6⟩

/-- the column and the row of a star of the path each hold a prime of the path -/
theorem Chain.star_primes {l : List (Nat × Nat)} (h : Chain M rk l) :
    ∀ x ∈ l, Star M x.1 x.2 →
      (∃ i', Prime M i' x.2 ∧ (i', x.2) ∈ l) ∧ ∃ j', Prime M x.1 j' ∧ (x.1, j') ∈ l := by
  induction h with
  | base p h1 _ => exact List.forall_mem_singleton.2 (fun hs => absurd h1 (star_not_prime hs))
  | step q p rest hc h1 h2 _ ih =>
    refine List.forall_mem_cons.2 ⟨fun hs => absurd h1 (star_not_prime hs),
      List.forall_mem_cons.2 ⟨fun _ => ⟨⟨p.1, hc.head_prime, by simp⟩, ⟨q.2, h1, by simp⟩⟩, fun x hx hs => ?_⟩⟩
    obtain ⟨⟨i', h3, h4⟩, ⟨j', h5, h6⟩⟩ := ih x hx hs
    exact ⟨⟨i', h3, mem_step h4⟩, ⟨j', h5, mem_step h6⟩⟩

/-- a function of the cells is injective on the primes of a path as soon as the newest prime never shares
its value with a prime of the older part -/
theorem Chain.prime_inj {l : List (Nat × Nat)} (h : Chain M rk l) (key : Nat × Nat → Nat)
    (hnew : ∀ q p rest, Chain M rk (p :: rest) → Prime M q.1 q.2 → Star M q.1 p.2 → rk q.1 < rk p.1 →
      ∀ y ∈ p :: rest, Prime M y.1 y.2 → key q ≠ key y) :
    ∀ x ∈ l, ∀ y ∈ l, Prime M x.1 x.2 → Prime M y.1 y.2 → key x = key y → x = y := by
  induction h with
  | base p _ _ =>
    intro x hx y hy _ _ _
    rw [List.mem_singleton.1 hx, List.mem_singleton.1 hy]
  | step q p rest hc h1 h2 hlt ih =>
    have hq := hnew q p rest hc h1 h2 hlt
    intro x hx y hy hpx hpy hxy
    rcases List.mem_cons.1 hx with rfl | hx
    · rcases List.mem_cons.1 hy with rfl | hy
      · rfl
      rcases List.mem_cons.1 hy with rfl | hy
      · exact absurd hpy (star_not_prime h2)
      · exact absurd hxy (hq y hy hpy)
    rcases List.mem_cons.1 hx with rfl | hx'
    · exact absurd hpx (star_not_prime h2)
    rcases List.mem_cons.1 hy with rfl | hy
    · exact absurd hxy.symm (hq x hx' hpx)
    rcases List.mem_cons.1 hy with rfl | hy'
    · exact absurd hpy (star_not_prime h2)
    · exact ih x hx' y hy' hpx hpy hxy

/-- two primes of the path in the same row are the same cell: the priming order strictly decreases
along the path -/
theorem Chain.prime_row_inj {l : List (Nat × Nat)} (h : Chain M rk l) :
    ∀ x ∈ l, ∀ y ∈ l, Prime M x.1 x.2 → Prime M y.1 y.2 → x.1 = y.1 → x = y := by
  refine h.prime_inj Prod.fst (fun q p rest hc _ _ hlt y hy _ e => ?_)
  have := hc.rank_ge y hy
  rw [← e] at this
  omega

/-- no cell repeats -/
theorem Chain.nodup {l : List (Nat × Nat)} (h : Chain M rk l) : l.Nodup := by
  induction h with
  | base p _ _ => simp
  | step q p rest hc h1 h2 hlt ih =>
    have hge := hc.rank_ge
    rw [List.nodup_cons, List.nodup_cons]
    refine ⟨?_, ?_, ih⟩
    · intro hq
      rcases List.mem_cons.1 hq with e | hq
      · rw [e] at h1
        exact star_not_prime h2 h1
      · have := hge q hq
        omega
    · intro hq
      have := hge _ hq
      simp only at this
      omega

/-- two primes of the path in the same column are the same cell (uses the global priming order:
a star in the column of a prime belongs to an earlier-primed row) -/
theorem Chain.prime_col_inj {l : List (Nat × Nat)} (h : Chain M rk l)
    (hrk : ∀ i j i', Prime M i j → Star M i' j → rk i' < rk i) :
    ∀ x ∈ l, ∀ y ∈ l, Prime M x.1 x.2 → Prime M y.1 y.2 → x.2 = y.2 → x = y := by
  refine h.prime_inj Prod.snd (fun q p rest hc h1 h2 hlt y hy hpy hqy => ?_)
  rcases hc.col_star y hy hpy with rfl | ⟨i', h5, h6⟩
  · -- then the star `(q.1, p.2)` is the prime `q`
    have hqy' : q.2 = y.2 := hqy
    rw [← hqy'] at h2
    exact star_not_prime h2 h1
  · have hqy' : q.2 = y.2 := hqy
    have h7 := hrk q.1 q.2 i' h1 (hqy' ▸ h5)
    have h8 := hc.rank_ge _ h6
    simp only at h8
    omega

end chain

/-! ### flipping the cells of the path -/

/-- the `# Convert paths` loop of `_step5` on one cell: a star becomes plain, anything else becomes a star -/
def flipCell (M : Mat Nat) (c : Nat × Nat) : Mat Nat :=
  if get2 M c.1 c.2 == 1 then set2 M c.1 c.2 0 else set2 M c.1 c.2 1

/-- flip the cells of a (reversed) path, oldest first -/
def flips (M : Mat Nat) (l : List (Nat × Nat)) : Mat Nat := l.foldr (fun c M => flipCell M c) M

theorem flips_cons (M : Mat Nat) (c : Nat × Nat) (l : List (Nat × Nat)) :
    flips M (c :: l) = flipCell (flips M l) c := by
  unfold flips
  exact List.foldr_cons ..

theorem flipCell_eq (M : Mat Nat) (c : Nat × Nat) :
    flipCell M c = set2 M c.1 c.2 (if get2 M c.1 c.2 = 1 then 0 else 1) := by
  unfold flipCell
  by_cases h : get2 M c.1 c.2 = 1
  · rw [if_pos (beq_iff_eq.2 h), if_pos h]
  · rw [if_neg (fun hh => h (beq_iff_eq.1 hh)), if_neg h]

theorem flipCell_size (M : Mat Nat) (c : Nat × Nat) : (flipCell M c).size = M.size := by
  rw [flipCell_eq, set2_size]

theorem flipCell_row_size (M : Mat Nat) (c : Nat × Nat) (k : Nat) :
    ((flipCell M c).getD k #[]).size = (M.getD k #[]).size := by
  rw [flipCell_eq, set2_row_size]

theorem flips_size (M : Mat Nat) (l : List (Nat × Nat)) : (flips M l).size = M.size := by
  induction l with
  | nil => rfl
  | cons c l ih => rw [flips_cons, flipCell_size]; exact ih

theorem flips_row_size (M : Mat Nat) (l : List (Nat × Nat)) (k : Nat) :
    ((flips M l).getD k #[]).size = (M.getD k #[]).size := by
  induction l with
  | nil => rfl
  | cons c l ih => rw [flips_cons, flipCell_row_size]; exact ih

theorem get2_flipCell (M : Mat Nat) (c : Nat × Nat) (i j : Nat)
    (hc : c.1 < M.size ∧ c.2 < (M.getD c.1 #[]).size) :
    get2 (flipCell M c) i j =
      if c = (i, j) then (if get2 M i j = 1 then 0 else 1) else get2 M i j := by
  rw [flipCell_eq, get2_set2_of_lt M hc.1 hc.2]
  by_cases hc' : c = (i, j)
  · subst hc'
    rw [if_pos ⟨rfl, rfl⟩, if_pos rfl]
  · rw [if_neg (fun hh => hc' (Prod.ext hh.1 hh.2)), if_neg hc']

/-- closed form of the marks after flipping a duplicate-free list of cells -/
theorem get2_flips (M : Mat Nat) (l : List (Nat × Nat)) (hnd : l.Nodup)
    (hin : ∀ c ∈ l, c.1 < M.size ∧ c.2 < (M.getD c.1 #[]).size) (i j : Nat) :
    get2 (flips M l) i j = if (i, j) ∈ l then (if get2 M i j = 1 then 0 else 1) else get2 M i j := by
  induction l with
  | nil => simp [flips]
  | cons c l ih =>
    have hnd' := List.nodup_cons.1 hnd
    have ih' := ih hnd'.2 (fun c hc => hin c (List.mem_cons_of_mem _ hc))
    have hc := hin c (List.mem_cons_self ..)
    have hc' : c.1 < (flips M l).size ∧ c.2 < ((flips M l).getD c.1 #[]).size := by
      rw [flips_size, flips_row_size]; exact hc
    rw [flips_cons, get2_flipCell _ c i j hc', ih']
    by_cases hcij : c = (i, j)
    · subst hcij
      rw [if_pos rfl, if_neg hnd'.1, if_pos (List.mem_cons_self ..)]
    · rw [if_neg hcij]
      by_cases hm : (i, j) ∈ l
      · rw [if_pos hm, if_pos (List.mem_cons_of_mem _ hm)]
      · rw [if_neg hm, if_neg (fun hh => (List.mem_cons.1 hh).elim (fun e => hcij e.symm) hm)]

/-- `state.marked[state.marked == 2] = 0` (`_step5`) -/
def erasePrimes (M : Mat Nat) : Mat Nat := M.map fun r => r.map fun x => if x == 2 then 0 else x

theorem get2_erasePrimes (M : Mat Nat) (i j : Nat) :
    get2 (erasePrimes M) i j = if get2 M i j = 2 then 0 else get2 M i j := by
  unfold erasePrimes
  rw [get2_map M _ rfl]
  simp only [beq_iff_eq]

theorem erasePrimes_size (M : Mat Nat) : (erasePrimes M).size = M.size := by simp [erasePrimes]

theorem erasePrimes_row_size (M : Mat Nat) (k : Nat) :
    ((erasePrimes M).getD k #[]).size = (M.getD k #[]).size :=
  getD_map_size M (fun _ x => if x == 2 then 0 else x) k

section augment
variable {M : Mat Nat} {rk : Nat → Nat} {p : Nat × Nat} {rest : List (Nat × Nat)}

/-- the marks after step 5 -/
def augment (M : Mat Nat) (l : List (Nat × Nat)) : Mat Nat := erasePrimes (flips M l)

theorem Chain.inM (h : Chain M rk (p :: rest)) :
    ∀ c ∈ p :: rest, c.1 < M.size ∧ c.2 < (M.getD c.1 #[]).size := by
  intro c hc
  rcases h.cells c hc with h1 | h1
  · exact get2_ne_default M c.1 c.2 (by unfold Prime at h1; rw [h1]; decide)
  · exact get2_ne_default M c.1 c.2 (by unfold Star at h1; rw [h1]; decide)

/-- the new stars: the primes of the path, and the old stars off the path -/
theorem augment_star_iff (h : Chain M rk (p :: rest)) (i j : Nat) :
    Star (augment M (p :: rest)) i j ↔
      (((i, j) ∈ p :: rest ∧ Prime M i j) ∨ (Star M i j ∧ (i, j) ∉ p :: rest)) := by
  unfold Star augment
  rw [get2_erasePrimes, get2_flips M _ h.nodup h.inM]
  by_cases hm : (i, j) ∈ p :: rest
  · rw [if_pos hm]
    rcases h.cells _ hm with h1 | h1
    · have h1' : get2 M i j = 2 := h1
      simp [h1', hm, Prime]
    · have h1' : get2 M i j = 1 := h1
      simp [h1', hm, Prime]
  · rw [if_neg hm]
    by_cases h2 : get2 M i j = 2
    · simp [h2, hm]
    · simp [h2, hm]

theorem augment_no_prime (l : List (Nat × Nat)) (i j : Nat) : ¬ Prime (augment M l) i j := by
  unfold Prime augment
  rw [get2_erasePrimes]
  split <;> simp_all

end augment

/-- flipping a complete alternating path (it ends in a column without star) and erasing the primes
keeps the base invariant: the stars are again independent zeros, and a column that had a star keeps one -/
theorem augment_base {n m : Nat} {cost : Nat → Nat → Rat} {s : State} {rk : Nat → Nat}
    {p : Nat × Nat} {rest : List (Nat × Nat)} (h5 : Inv5 n m cost s)
    (hrk : ∀ i j i', Prime s.marked i j → Star s.marked i' j → rk i' < rk i)
    (hch : Chain s.marked rk (p :: rest)) (hend : ∀ i, ¬ Star s.marked i p.2) (pth : Array (Nat × Int)) :
    Base n m cost { s with marked := augment s.marked (p :: rest), path := pth } := by
  have hb := h5.base
  have hs := hb.shape
  have hiff := augment_star_iff hch
  -- a column that had a star still has one
  have hcolkeep : ∀ i j, Star s.marked i j → ∃ i', Star (augment s.marked (p :: rest)) i' j := by
    intro i j hst
    by_cases hm : (i, j) ∈ p :: rest
    · obtain ⟨i', h1, h2⟩ := (hch.star_primes (i, j) hm hst).1
      exact ⟨i', (hiff i' j).2 (Or.inl ⟨h2, h1⟩)⟩
    · exact ⟨i, (hiff i j).2 (Or.inr ⟨hst, hm⟩)⟩
  refine ⟨⟨hs.Csz, hs.Crow, (erasePrimes_size _).trans ((flips_size ..).trans hs.Msz),
    fun i hi => (erasePrimes_row_size ..).trans ((flips_row_size ..).trans (hs.Mrow i hi)), hs.rsz, hs.csz⟩,
    hb.nonneg, ?_, ?_, ?_, ?_⟩
  · obtain ⟨u, v, V, h1, h2, h3⟩ := hb.pot
    refine ⟨u, v, V, h1, h2, fun j hj hno => h3 j hj (fun i hi => ?_)⟩
    obtain ⟨i', hi'⟩ := hcolkeep i j hi
    exact hno i' hi'
  · intro i j hst
    rcases (hiff i j).1 hst with ⟨_, h1⟩ | ⟨h1, _⟩
    · exact h5.primeZero i j h1
    · exact hb.starZero i j h1
  · -- one star per row
    intro i j j' h1 h2
    rcases (hiff i j).1 h1 with ⟨a1, a2⟩ | ⟨a1, a2⟩ <;> rcases (hiff i j').1 h2 with ⟨b1, b2⟩ | ⟨b1, b2⟩
    · have := hch.prime_row_inj (i, j) a1 (i, j') b1 a2 b2 rfl
      exact (Prod.ext_iff.1 this).2
    · rcases hch.row_star (i, j) a1 a2 with h3 | ⟨j'', h3, h4⟩
      · exact absurd b1 (h3 j')
      · have : j' = j'' := hb.starRow i j' j'' b1 h3
        exact absurd (this ▸ h4) b2
    · rcases hch.row_star (i, j') b1 b2 with h3 | ⟨j'', h3, h4⟩
      · exact absurd a1 (h3 j)
      · have : j = j'' := hb.starRow i j j'' a1 h3
        exact absurd (this ▸ h4) a2
    · exact hb.starRow i j j' a1 b1
  · -- one star per column
    intro i i' j h1 h2
    rcases (hiff i j).1 h1 with ⟨a1, a2⟩ | ⟨a1, a2⟩ <;> rcases (hiff i' j).1 h2 with ⟨b1, b2⟩ | ⟨b1, b2⟩
    · have := hch.prime_col_inj hrk (i, j) a1 (i', j) b1 a2 b2 rfl
      exact (Prod.ext_iff.1 this).1
    · rcases hch.col_star (i, j) a1 a2 with h3 | ⟨i'', h3, h4⟩
      · have : j = p.2 := (Prod.ext_iff.1 h3).2
        exact absurd (this ▸ b1) (hend i')
      · have : i' = i'' := hb.starCol i' i'' j b1 h3
        exact absurd (this ▸ h4) b2
    · rcases hch.col_star (i', j) b1 b2 with h3 | ⟨i'', h3, h4⟩
      · have : j = p.2 := (Prod.ext_iff.1 h3).2
        exact absurd (this ▸ a1) (hend i)
      · have : i = i'' := hb.starCol i i'' j a1 h3
        exact absurd (this ▸ h4) a2
    · exact hb.starCol i i' j a1 b1

/-! ### the path array and the two loops of `_step5` -/

def cellOf (m : Nat) (p : Nat × Int) : Nat × Nat := (p.1, wrapIdx m p.2)
def enc (c : Nat × Nat) : Nat × Int := (c.1, Int.ofNat c.2)

theorem cellOf_enc (m : Nat) (c : Nat × Nat) : cellOf m (enc c) = c := by
  unfold cellOf enc
  rw [wrapIdx_ofNat]

/-- scanning a column for its first star -/
theorem colScan_none (M : Mat Nat) (pc : Nat)
    (h : get2 M (firstIdx (fun x => x == 1) (M.map fun r => r.getD pc 0)) pc ≠ 1) :
    ∀ i, ¬ Star M i pc := by
  intro i hst
  have hlt := get2_ne_default M i pc (by unfold Star at hst; rw [hst]; decide)
  have e : ∀ k, k < M.size → (M.map fun r => r.getD pc 0).getD k 0 = get2 M k pc := by
    intro k hk
    simp [get2, Array.getD_eq_getD_getElem?, hk]
  have := firstIdx_spec (fun x => x == 1) (M.map fun r => r.getD pc 0) 0 i (by simpa using hlt.1)
    (by rw [e i hlt.1]; simpa [Star] using hst)
  rw [e _ (by simpa using this.1)] at this
  exact h (by simpa using this.2)

/-- `path[0..count]`, read as cells, is the reversed list; the last entry is stored with a
non-negative column -/
def PathRel (m count : Nat) (path : Array (Nat × Int)) (p : Nat × Nat) (rest : List (Nat × Nat)) : Prop :=
  (p :: rest).reverse = (List.range (count + 1)).map (fun k => cellOf m (path.getD k (0, 0)))
  ∧ path.getD count (0, 0) = enc p

theorem PathRel.length {m count : Nat} {path : Array (Nat × Int)} {p : Nat × Nat}
    {rest : List (Nat × Nat)} (h : PathRel m count path p rest) : (p :: rest).length = count + 1 := by
  have := congrArg List.length h.1
  simpa using this

/-- `path[0] = Z0` -/
theorem PathRel.init (m : Nat) {path : Array (Nat × Int)} (h0 : 0 < path.size) (r c : Nat) :
    PathRel m 0 (path.set! 0 (r, Int.ofNat c)) (r, c) [] := by
  have e0 : (path.set! 0 (r, Int.ofNat c)).getD 0 (0, 0) = enc (r, c) := by
    rw [getD_set!, if_pos ⟨rfl, h0⟩]; rfl
  refine ⟨?_, e0⟩
  simp only [List.range_succ, List.range_zero, List.nil_append, List.map_cons, List.map_nil, e0, cellOf_enc]
  rfl

/-- the two `path[count, …]` assignments of one pass of the `while` of `_step5`: append the star `(row, c)` and the prime `(row, col)` to the path -/
def pathPush (path : Array (Nat × Int)) (count row c col : Nat) : Array (Nat × Int) :=
  (path.set! (count + 1) (row, Int.ofNat c)).set! (count + 1 + 1) (row, Int.ofNat col)

theorem pathPush_size (path : Array (Nat × Int)) (count row c col : Nat) :
    (pathPush path count row c col).size = path.size := by
  simp [pathPush]

theorem PathRel.push {m count : Nat} {path : Array (Nat × Int)} {p : Nat × Nat} {rest : List (Nat × Nat)}
    (h : PathRel m count path p rest) (hsz : count + 1 + 1 < path.size) (row col : Nat) :
    PathRel m (count + 1 + 1) (pathPush path count row p.2 col) (row, col) ((row, p.2) :: p :: rest) := by
  have hsz1 : (path.set! (count + 1) (row, Int.ofNat p.2)).size = path.size := by simp
  have e4 : (pathPush path count row p.2 col).getD (count + 1 + 1) (0, 0) = enc (row, col) := by
    unfold pathPush
    rw [getD_set!, if_pos ⟨rfl, by rw [hsz1]; exact hsz⟩]
    rfl
  refine ⟨?_, e4⟩
  rw [List.range_succ, List.range_succ, List.map_append, List.map_append]
  simp only [List.map_cons, List.map_nil]
  have e2 : (List.range (count + 1)).map (fun k => cellOf m ((pathPush path count row p.2 col).getD k (0, 0)))
      = (List.range (count + 1)).map (fun k => cellOf m (path.getD k (0, 0))) := by
    apply List.map_congr_left
    intro k hk
    have hk' : k < count + 1 := List.mem_range.1 hk
    unfold pathPush
    rw [getD_set!, if_neg (fun hh => by omega), getD_set!, if_neg (fun hh => by omega)]
  have e3 : (pathPush path count row p.2 col).getD (count + 1) (0, 0) = enc (row, p.2) := by
    unfold pathPush
    rw [getD_set!, if_neg (fun hh => by omega), getD_set!, if_pos ⟨rfl, by omega⟩]
    rfl
  rw [e2, ← h.1, e3, e4, cellOf_enc, cellOf_enc]
  simp

/-- **One pass of the `while` of `_step5`** on a path that is an alternating chain.  Either the column of
the newest prime holds no star and the loop stops; or the path grows by the star of that column and the
prime of the star's row — provided `path` has room for them. -/
theorem step5Loop_pass {M : Mat Nat} {m : Nat} {rk : Nat → Nat}
    (hlink : ∀ i j i', Prime M i j → Star M i' j → (∃ j', Prime M i' j') ∧ rk i' < rk i)
    (f : Nat) {count : Nat} {path : Array (Nat × Int)} {p : Nat × Nat} {rest : List (Nat × Nat)}
    (hch : Chain M rk (p :: rest)) (hrel : PathRel m count path p rest) :
    ((∀ i, ¬ Star M i p.2) ∧ step5Loop M m (f + 1) count path = .ok (count, path))
    ∨ ∃ row col, Chain M rk ((row, col) :: (row, p.2) :: p :: rest) ∧
        step5Loop M m (f + 1) count path =
          if count + 1 + 1 < path.size then step5Loop M m f (count + 1 + 1) (pathPush path count row p.2 col)
          else .error .index := by
  simp only [step5Loop, bind, Except.bind, pathSet, Nat.add_sub_cancel]
  rw [hrel.2]
  simp only [enc, wrapIdx_ofNat]
  generalize hrow : firstIdx (fun x => x == 1) (M.map fun r => r.getD p.2 0) = row
  by_cases hex : (get2 M row p.2 != 1) = true
  · rw [if_pos hex]
    refine Or.inl ⟨colScan_none M p.2 ?_, rfl⟩
    rw [hrow]
    simpa using hex
  · rw [if_neg hex]
    have hstar : Star M row p.2 := by unfold Star; simpa using hex
    obtain ⟨⟨j', hj'⟩, hlt⟩ := hlink p.1 p.2 row hch.head_prime hstar
    have hcol : get2 M row (firstIdx (· == 2) (M.getD row #[])) = 2 := rowScan_eq M (by decide) hj'
    refine Or.inr ⟨row, _, Chain.step (row, _) p rest hch hcol hstar hlt, ?_⟩
    have hne : ¬ ((get2 M row (firstIdx (· == 2) (M.getD row #[])) != 2) = true) := by
      rw [hcol]; decide
    by_cases hs1 : count + 1 < path.size
    · have e1 : (path.set! (count + 1) (row, Int.ofNat p.2)).getD (count + 1) (0, 0) = (row, Int.ofNat p.2) := by
        rw [getD_set!, if_pos ⟨rfl, hs1⟩]
      have hsz : (path.set! (count + 1) (row, Int.ofNat p.2)).size = path.size := by simp
      simp only [if_pos hs1, e1, if_neg hne, hsz]
      by_cases hs2 : count + 1 + 1 < path.size
      · simp only [if_pos hs2]
        rfl
      · simp only [if_neg hs2]
    · rw [if_neg hs1, if_neg (fun hh => hs1 (Nat.lt_of_succ_lt hh))]

/-- what the `while` of `_step5` returns: a complete alternating path ending in a star-free column; the
size of `path` and the oldest cell are kept -/
theorem step5Loop_inv {M : Mat Nat} {m : Nat} {rk : Nat → Nat}
    (hlink : ∀ i j i', Prime M i j → Star M i' j → (∃ j', Prime M i' j') ∧ rk i' < rk i) :
    ∀ (f count : Nat) (path : Array (Nat × Int)) (r : Nat × Array (Nat × Int)),
    step5Loop M m f count path = .ok r → ∀ (p : Nat × Nat) (rest : List (Nat × Nat)),
    Chain M rk (p :: rest) → PathRel m count path p rest →
    ∃ p' rest', Chain M rk (p' :: rest') ∧ PathRel m r.1 r.2 p' rest' ∧ (∀ i, ¬ Star M i p'.2)
      ∧ r.2.size = path.size ∧ (p' :: rest').getLast? = (p :: rest).getLast?
  | 0, _, _, _, h => by simp [step5Loop] at h
  | f + 1, count, path, r, h => by
    intro p rest hch hrel
    rcases step5Loop_pass hlink f hch hrel with ⟨hend, e⟩ | ⟨row, col, hch', e⟩
    · rw [e] at h
      cases h
      exact ⟨p, rest, hch, hrel, hend, rfl, rfl⟩
    · rw [e] at h
      by_cases hsz : count + 1 + 1 < path.size
      · rw [if_pos hsz] at h
        obtain ⟨p', rest', a1, a2, a3, a4, a5⟩ :=
          step5Loop_inv hlink f _ _ r h _ _ hch' (hrel.push hsz row col)
        refine ⟨p', rest', a1, a2, a3, ?_, ?_⟩
        · rw [a4, pathPush_size]
        · rw [a5, List.getLast?_cons_cons, List.getLast?_cons_cons]
      · rw [if_neg hsz] at h
        cases h

/-- the `# Convert paths` loop of `_step5`: flip the cells `path[0..count]`, oldest first -/
def flipPath (M : Mat Nat) (m count : Nat) (path : Array (Nat × Int)) : Mat Nat :=
  (List.range (count + 1)).foldl (fun mk k => flipCell mk (cellOf m (path.getD k (0, 0)))) M

/-- what `_step5` returns once its `while` has returned `(count, path)` -/
def finish5 (s : State) (v : Nat × Array (Nat × Int)) : State × Option Step :=
  (clearCovers { s with marked := erasePrimes (flipPath s.marked s.colUnc.size v.1 v.2), path := v.2 }, some .s3)

theorem step5_eq (s : State) : step5 s =
    match pathSet s.path 0 (s.z0r, Int.ofNat s.z0c) with
    | .error e => .error e
    | .ok path0 =>
      match step5Loop s.marked s.colUnc.size (s.rowUnc.size + s.colUnc.size + 1) 0 path0 with
      | .error e => .error e
      | .ok v => .ok (finish5 s v) := by
  unfold step5
  simp only [bind, pure, Id.run, yield_ite, forIn_range_yield]
  rcases pathSet s.path 0 (s.z0r, Int.ofNat s.z0c) with e | p0
  · rfl
  · simp only [Except.bind]
    rcases step5Loop s.marked s.colUnc.size (s.rowUnc.size + s.colUnc.size + 1) 0 p0 with e | v <;> rfl

theorem step5_ok_iff {s : State} {r : State × Option Step} : step5 s = .ok r ↔
    0 < s.path.size ∧ ∃ v, step5Loop s.marked s.colUnc.size (s.rowUnc.size + s.colUnc.size + 1) 0
      (s.path.set! 0 (s.z0r, Int.ofNat s.z0c)) = .ok v ∧ r = finish5 s v := by
  rw [step5_eq, pathSet]
  by_cases h0 : 0 < s.path.size
  · rw [if_pos h0]
    dsimp only
    rcases step5Loop s.marked s.colUnc.size (s.rowUnc.size + s.colUnc.size + 1) 0
      (s.path.set! 0 (s.z0r, Int.ofNat s.z0c)) with e | v
    · simp [h0]
    · simp [h0, eq_comm]
  · simp [h0]

theorem step5_C (s s' : State) (nx : Option Step) (h : step5 s = .ok (s', nx)) : s'.C = s.C := by
  obtain ⟨_, v, _, hr⟩ := step5_ok_iff.1 h
  cases hr
  rfl

theorem flipPath_eq {M : Mat Nat} {m count : Nat} {path : Array (Nat × Int)} {p : Nat × Nat} {rest : List (Nat × Nat)}
    (hrel : PathRel m count path p rest) : flipPath M m count path = flips M (p :: rest) := by
  unfold flipPath
  rw [← List.foldl_map (g := fun mk c => flipCell mk c), ← hrel.1, List.foldl_reverse]
  rfl

/-- **What `_step5` does**: it follows a complete alternating path from `Z0` to a star-free column and
returns the state with the marks augmented along it, nothing covered, `C` and the size of `path`
unchanged. -/
theorem step5_ok {n m : Nat} {cost : Nat → Nat → Rat} {s s' : State} {nx : Option Step} {rk : Nat → Nat}
    (h : step5 s = .ok (s', nx)) (h5 : Inv5 n m cost s)
    (hlink : ∀ i j i', Prime s.marked i j → Star s.marked i' j → (∃ j', Prime s.marked i' j') ∧ rk i' < rk i) :
    nx = some .s3 ∧ ∃ p rest, Chain s.marked rk (p :: rest) ∧ (∀ i, ¬ Star s.marked i p.2)
      ∧ (p :: rest).getLast? = some (s.z0r, s.z0c)
      ∧ s' = clearCovers { s with marked := augment s.marked (p :: rest), path := s'.path }
      ∧ s'.path.size = s.path.size := by
  obtain ⟨h0, v, hv, hr⟩ := step5_ok_iff.1 h
  obtain ⟨p', rest', hch, hrel, hend, hsize, hlast⟩ := step5Loop_inv hlink _ _ _ _ hv
    (s.z0r, s.z0c) [] (Chain.base _ h5.z0 h5.z0row) (PathRel.init _ h0 _ _)
  cases hr
  refine ⟨rfl, p', rest', hch, hend, hlast, ?_, ?_⟩
  · rw [flipPath_eq hrel]; rfl
  · show v.2.size = s.path.size
    rw [hsize]; simp

/-- `_step5` re-establishes the invariant of step 3 -/
theorem step5_inv {n m : Nat} {cost : Nat → Nat → Rat} {s s' : State} {nx : Option Step}
    (h : step5 s = .ok (s', nx)) (h5 : Inv5 n m cost s) : nx = some .s3 ∧ Inv3 n m cost s' := by
  obtain ⟨rk, hlink⟩ := h5.rank
  obtain ⟨hnx, p, rest, hch, hend, _, hs', _⟩ := step5_ok h h5 hlink
  rw [hs']
  exact ⟨hnx, Inv3.of_clearCovers (augment_base h5 (fun i j i' h1 h2 => (hlink i j i' h1 h2).2) hch hend _)
    (augment_no_prime _)⟩

end QcelVerif.Munkres
