import QcelVerif.Lemmas.MunkresInv
import Mathlib.Tactic.Linarith
import Mathlib.Tactic.Ring
import Mathlib.Algebra.Order.Ring.Rat
/-!
C14 — Munkres step invariants: loop rules, array lemmas and the invariant itself.

`InvAt n m cost st s` is what holds of the `_Hungary` state `s` just before step `st` runs
(`n × m` with the matrix in the wide orientation).  The other files of this directory prove that
every step establishes the invariant of the step it hands over to.
-/
namespace QcelVerif.Munkres

/-! ### `for` loops in `Id` -/

theorem range_size (n : Nat) : ([:n] : Std.Legacy.Range).size = n := by
  simp [Std.Legacy.Range.size]

/-- a `for i in [0:n]` loop whose body always continues is a left fold over `0 … n-1` -/
theorem forIn_range_yield {β : Type} (n : Nat) (init : β) (g : Nat → β → β) :
    (forIn (m := Id) [:n] init fun i b => ForInStep.yield (g i b)) =
      (List.range n).foldl (fun b i => g i b) init := by
  rw [Std.Legacy.Range.forIn_eq_forIn_range', range_size, List.range_eq_range']
  exact List.forIn_pure_yield_eq_foldl (m := Id) g init

theorem yield_ite {β : Type} (c : Prop) [Decidable c] (a b : β) :
    @ite (Id (ForInStep β)) c _ (ForInStep.yield a) (ForInStep.yield b) = ForInStep.yield (if c then a else b) := by
  split <;> rfl

theorem forIn_guard {β : Type} (c : Prop) [Decidable c] (k : Nat) (g : Nat → β → β) (b : β) :
    @ite β c _ (forIn (m := Id) [:k] b (fun j b => ForInStep.yield (g j b))) b
      = forIn (m := Id) [:k] b (fun j b => ForInStep.yield (if c then g j b else b)) := by
  split
  · rfl
  · rw [forIn_range_yield]
    induction List.range k generalizing b with
    | nil => rfl
    | cons x l ih => exact ih b

theorem foldl_inv {β γ : Type} (P : β → Prop) (f : β → γ → β) (h : ∀ b x, P b → P (f b x)) (l : List γ) (b : β)
    (hb : P b) : P (l.foldl f b) := by
  induction l generalizing b with
  | nil => exact hb
  | cons x l ih => exact ih _ (h b x hb)

theorem foldl_push_if {γ δ : Type} (c : γ → Bool) (f : γ → δ) (l : List γ) (acc : Array δ) :
    l.foldl (fun a x => if c x = true then a.push (f x) else a) acc = acc ++ ((l.filter c).map f).toArray := by
  induction l generalizing acc with
  | nil => simp
  | cons x l ih =>
    rw [List.foldl_cons, ih]
    cases h : c x <;> simp [h]

/-! ### row-major traversal

The `for i … for j …` loops of the model (`np.nonzero`, `np.argmax` of the flattened matrix, the starring loop of
`_step1`, the minimum of `_step6`) all visit `cells M` in order; each is first rewritten as a fold over that list. -/

/-- the index pairs of a matrix in row-major order -/
def cells {α} (M : Mat α) : List (Nat × Nat) :=
  (List.range M.size).flatMap fun i => (List.range (M.getD i #[]).size).map fun j => (i, j)

theorem mem_cells {α} {M : Mat α} {p : Nat × Nat} :
    p ∈ cells M ↔ p.1 < M.size ∧ p.2 < (M.getD p.1 #[]).size := by
  obtain ⟨i, j⟩ := p
  simp only [cells, List.mem_flatMap, List.mem_map, List.mem_range, Prod.mk.injEq]
  constructor
  · rintro ⟨i', hi, j', hj, rfl, rfl⟩; exact ⟨hi, hj⟩
  · rintro ⟨hi, hj⟩; exact ⟨i, hi, j, hj, rfl, rfl⟩

theorem foldl_cells {α β : Type} (M : Mat α) (g : Nat → Nat → β → β) (init : β) :
    (cells M).foldl (fun b p => g p.1 p.2 b) init =
      (List.range M.size).foldl (fun b i => (List.range (M.getD i #[]).size).foldl (fun b j => g i j b) b) init := by
  simp only [cells, List.foldl_flatMap, List.foldl_map]

theorem forIn_cells {α β : Type} (M : Mat α) (g : Nat → Nat → β → β) (init : β) :
    (forIn (m := Id) [:M.size] init fun i b =>
      ForInStep.yield (forIn (m := Id) [:(M.getD i #[]).size] b fun j b => ForInStep.yield (g i j b)))
    = (cells M).foldl (fun b p => g p.1 p.2 b) init := by
  simp only [forIn_range_yield, foldl_cells]

/-! ### arrays -/

theorem getD_of_size_le {α} {a : Array α} {i : Nat} (h : a.size ≤ i) (d : α) : a.getD i d = d := by
  simp [Array.getD_eq_getD_getElem?, Array.getElem?_eq_none h]

/-- an entry different from the default lies inside the array -/
theorem lt_size_of_getD_ne {α} {a : Array α} {i : Nat} {d : α} (h : a.getD i d ≠ d) : i < a.size :=
  Nat.lt_of_not_le fun hle => h (getD_of_size_le hle d)

theorem getD_set! {α} (a : Array α) (i k : Nat) (x d : α) :
    (a.set! i x).getD k d = if i = k ∧ k < a.size then x else a.getD k d := by
  simp only [Array.set!_eq_setIfInBounds, Array.getD_eq_getD_getElem?, Array.getElem?_setIfInBounds]
  split <;> rename_i h
  · subst h
    by_cases hk : i < a.size <;> simp [hk]
  · simp [h]

theorem get2_set2 {α} [Inhabited α] (M : Mat α) (i j i' j' : Nat) (x : α) :
    get2 (set2 M i j x) i' j' =
      if i = i' ∧ j = j' ∧ i < M.size ∧ j < (M.getD i #[]).size then x else get2 M i' j' := by
  unfold get2 set2
  simp only [Array.getD_eq_getD_getElem?, Array.getElem?_modify, Array.set!_eq_setIfInBounds]
  by_cases hi : i = i'
  · subst hi
    by_cases h1 : i < M.size
    · simp [h1, Array.getElem?_setIfInBounds]
      by_cases hj : j = j'
      · subst hj
        by_cases h2 : j < M[i].size <;> simp [h2]
      · simp [hj]
    · simp [h1]
  · simp [hi]

theorem get2_set2_of_lt {α} [Inhabited α] (M : Mat α) {i j : Nat} (hi : i < M.size) (hj : j < (M.getD i #[]).size)
    (i' j' : Nat) (x : α) : get2 (set2 M i j x) i' j' = if i = i' ∧ j = j' then x else get2 M i' j' := by
  rw [get2_set2]
  exact if_congr ⟨fun h => ⟨h.1, h.2.1⟩, fun h => ⟨h.1, h.2, hi, hj⟩⟩ rfl rfl

theorem set2_size {α} (M : Mat α) (i j : Nat) (x : α) : (set2 M i j x).size = M.size := by
  simp [set2]

theorem set2_row_size {α} (M : Mat α) (i j k : Nat) (x : α) :
    ((set2 M i j x).getD k #[]).size = (M.getD k #[]).size := by
  unfold set2
  simp only [Array.getD_eq_getD_getElem?, Array.getElem?_modify]
  by_cases hi : i = k
  · subst hi
    by_cases h1 : i < M.size <;> simp [h1]
  · simp [hi]

/-- an entry different from the default lies inside the matrix -/
theorem get2_ne_default {α} [Inhabited α] (M : Mat α) (i j : Nat) (h : get2 M i j ≠ default) :
    i < M.size ∧ j < (M.getD i #[]).size := by
  refine ⟨Nat.lt_of_not_le fun hle => h ?_, lt_size_of_getD_ne h⟩
  unfold get2
  rw [getD_of_size_le hle, getD_of_size_le (Nat.zero_le j)]

theorem getD_true_lt (a : Array Bool) (i : Nat) (h : a.getD i false = true) : i < a.size :=
  lt_size_of_getD_ne (d := false) (by rw [h]; decide)

theorem getD_replicate_true {k i : Nat} (h : i < k) : (Array.replicate k true).getD i false = true := by
  simp [Array.getD_eq_getD_getElem?, h]

/-- `np.argmax(a == x)` finds an element with the property whenever there is one -/
theorem firstIdx_spec {α} (p : α → Bool) (a : Array α) (d : α) (k : Nat) (hk : k < a.size)
    (hp : p (a.getD k d) = true) :
    firstIdx p a < a.size ∧ p (a.getD (firstIdx p a) d) = true := by
  unfold firstIdx
  have hk' : p a[k] = true := by simpa [Array.getD_eq_getD_getElem?, hk] using hp
  have hex : ∃ x ∈ a, p x = true := ⟨a[k], Array.getElem_mem hk, hk'⟩
  cases hf : a.findIdx? p with
  | none =>
    rw [Array.findIdx?_eq_none_iff] at hf
    have := hf a[k] (Array.getElem_mem hk)
    simp [hk'] at this
  | some i =>
    rw [Array.findIdx?_eq_some_iff_getElem] at hf
    obtain ⟨hi, hpi, _⟩ := hf
    simp only [Option.getD_some]
    exact ⟨hi, by simpa [Array.getD_eq_getD_getElem?, hi] using hpi⟩

/-- scanning a row for its first entry equal to `v ≠ 0` finds one whenever there is one -/
theorem rowScan_eq (M : Mat Nat) {v : Nat} (hv : v ≠ 0) {row j : Nat} (h : get2 M row j = v) :
    get2 M row (firstIdx (· == v) (M.getD row #[])) = v := by
  have hlt := get2_ne_default M row j (by rw [h]; exact hv)
  have := (firstIdx_spec (· == v) (M.getD row #[]) default j hlt.2 (beq_iff_eq.2 h)).2
  exact beq_iff_eq.1 this

theorem wrapIdx_ofNat (m k : Nat) : wrapIdx m (Int.ofNat k) = k := by
  unfold wrapIdx
  have : ¬ (Int.ofNat k < 0) := by simp
  rw [if_neg this]
  simp

/-! ### `rowMin` -/

theorem minR_eq_min : minR = min := by
  funext a b
  unfold minR
  split
  · exact (min_eq_right (le_of_lt ‹b < a›)).symm
  · exact (min_eq_left (not_lt.1 ‹¬ b < a›)).symm

theorem foldl_min_le_acc (l : List Rat) (a : Rat) : l.foldl min a ≤ a := by
  induction l generalizing a with
  | nil => exact le_refl a
  | cons x l ih => exact (ih _).trans (min_le_left a x)

theorem foldl_min_le_mem (l : List Rat) (a : Rat) {x : Rat} (hx : x ∈ l) : l.foldl min a ≤ x := by
  induction l generalizing a with
  | nil => simp at hx
  | cons y l ih =>
    rcases List.mem_cons.1 hx with rfl | hx
    · exact (foldl_min_le_acc l _).trans (min_le_right a x)
    · exact ih _ hx

theorem foldl_min_mem (l : List Rat) (a : Rat) : l.foldl min a = a ∨ l.foldl min a ∈ l := by
  induction l generalizing a with
  | nil => exact Or.inl rfl
  | cons x l ih =>
    rcases ih (min a x) with h | h
    · rw [List.foldl_cons, h]
      exact (min_choice a x).imp id fun e => by rw [e]; exact List.mem_cons_self ..
    · exact Or.inr (List.mem_cons_of_mem _ h)

theorem rowMin_le_mem (r : Array Rat) (x : Rat) (hx : x ∈ r) : rowMin r ≤ x := by
  unfold rowMin
  rw [← Array.foldl_toList, minR_eq_min]
  exact foldl_min_le_mem _ _ (by simpa using hx)

/-- `r.min()` is below every element -/
theorem rowMin_le (r : Array Rat) (j : Nat) (hj : j < r.size) : rowMin r ≤ r.getD j 0 := by
  rw [Array.getD_eq_getD_getElem?, Array.getElem?_eq_getElem hj]
  exact rowMin_le_mem r _ (Array.getElem_mem hj)

/-- `r.min()` of a non-empty row is one of its elements -/
theorem rowMin_mem (r : Array Rat) (h : 0 < r.size) : rowMin r ∈ r := by
  have h0 : r.getD 0 0 = r[0] := by simp [Array.getD_eq_getD_getElem?, h]
  unfold rowMin
  rw [← Array.foldl_toList, h0, minR_eq_min]
  rcases foldl_min_mem r.toList r[0] with e | e
  · rw [e]; exact Array.getElem_mem h
  · exact Array.mem_def.2 e

/-- `r.min()` of non-negative numbers is non-negative (the empty minimum is 0 in the model) -/
theorem rowMin_nonneg (r : Array Rat) (h : ∀ x ∈ r, 0 ≤ x) : 0 ≤ rowMin r := by
  by_cases h0 : 0 < r.size
  · exact h _ (rowMin_mem r h0)
  · obtain rfl : r = #[] := Array.eq_empty_of_size_eq_zero (Nat.eq_zero_of_not_pos h0)
    exact le_refl 0

/-! ### stored matrices -/

/-- the array `M` stores the `n × m` matrix `c` -/
structure Stores (n m : Nat) (M : Mat Rat) (c : Nat → Nat → Rat) : Prop where
  size : M.size = n
  row : ∀ i, i < n → (M.getD i #[]).size = m
  get : ∀ i, i < n → ∀ j, j < m → get2 M i j = c i j

theorem Stores.transpose {n m : Nat} {M : Mat Rat} {c : Nat → Nat → Rat} (h : Stores n m M c) :
    Stores m n (transpose n m M) (Assign.tr c) :=
  ⟨transpose_size _ _ _, fun j hj => transpose_row_size _ _ _ j hj,
    fun j hj i hi => by rw [get2_transpose n m M i j hi hj, h.get i hi j hj]; rfl⟩

/-- the input really is an `n × m` array (the driver only builds such inputs) -/
def Input.WellShaped (inp : Input) : Prop :=
  inp.ent.size = inp.n ∧ ∀ i, i < inp.n → (inp.ent.getD i #[]).size = inp.m

theorem get2_cost (inp : Input) (i j : Nat) :
    get2 (inp.ent.map fun r => r.map Entry.val) i j = inp.costFn i j :=
  get2_map inp.ent Entry.val rfl i j

/-- the matrix `solve` works on stores the cost function of a well-shaped input -/
theorem Input.stores (inp : Input) (hw : inp.WellShaped) :
    Stores inp.n inp.m (inp.ent.map fun r => r.map Entry.val) inp.costFn := by
  refine ⟨by simpa using hw.1, fun i hi => ?_, fun i _ j _ => get2_cost inp i j⟩
  have := hw.2 i hi
  have hi' : i < inp.ent.size := by rw [hw.1]; exact hi
  simp [Array.getD, hi'] at this ⊢
  exact this

theorem Input.wide_stores (inp : Input) (hw : inp.WellShaped) :
    Stores inp.wideN inp.wideM inp.wideMat inp.wideCost := by
  unfold Input.wideN Input.wideM Input.wideMat Input.wideCost
  split
  · exact (inp.stores hw).transpose
  · exact inp.stores hw

/-! ### the invariant -/

def Star (M : Mat Nat) (i j : Nat) : Prop := get2 M i j = 1
def Prime (M : Mat Nat) (i j : Nat) : Prop := get2 M i j = 2
/-- row `i` is uncovered -/
def RU (s : State) (i : Nat) : Prop := s.rowUnc.getD i false = true
/-- column `j` is uncovered -/
def CU (s : State) (j : Nat) : Prop := s.colUnc.getD j false = true

/-- every array of the state has the shape of an `n × m` problem -/
structure Shape (n m : Nat) (s : State) : Prop where
  Csz : s.C.size = n
  Crow : ∀ i, i < n → (s.C.getD i #[]).size = m
  Msz : s.marked.size = n
  Mrow : ∀ i, i < n → (s.marked.getD i #[]).size = m
  rsz : s.rowUnc.size = n
  csz : s.colUnc.size = m

/-- `C = cost − u − v`, with the column potentials bounded by `V`, and equal to `V` on every
column that has no star (this is what the rectangular certificate needs: a column that never got
a star was never covered, so it received every `− minval` of step 6). -/
def Pot (n m : Nat) (cost : Nat → Nat → Rat) (C : Mat Rat) (M : Mat Nat) : Prop :=
  ∃ (u v : Nat → Rat) (V : Rat),
    (∀ i, i < n → ∀ j, j < m → get2 C i j = cost i j - u i - v j)
    ∧ (∀ j, j < m → v j ≤ V)
    ∧ (∀ j, j < m → (∀ i, ¬ Star M i j) → v j = V)

/-- the part of the invariant that holds before every step -/
structure Base (n m : Nat) (cost : Nat → Nat → Rat) (s : State) : Prop where
  shape : Shape n m s
  nonneg : ∀ i, i < n → ∀ j, j < m → 0 ≤ get2 s.C i j
  pot : Pot n m cost s.C s.marked
  starZero : ∀ i j, Star s.marked i j → get2 s.C i j = 0
  starRow : ∀ i j j', Star s.marked i j → Star s.marked i j' → j = j'
  starCol : ∀ i i' j, Star s.marked i j → Star s.marked i' j → i = i'

/-- before `_step1`: the freshly built state -/
structure Inv1 (n m : Nat) (cost : Nat → Nat → Rat) (s : State) : Prop where
  shape : Shape n m s
  C_eq : ∀ i, i < n → ∀ j, j < m → get2 s.C i j = cost i j
  unmarked : ∀ i j, get2 s.marked i j = 0
  rowU : ∀ i, i < n → RU s i
  colU : ∀ j, j < m → CU s j

/-- before `_step3`: no primes, nothing covered -/
structure Inv3 (n m : Nat) (cost : Nat → Nat → Rat) (s : State) : Prop where
  base : Base n m cost s
  noPrime : ∀ i j, ¬ Prime s.marked i j
  rowU : ∀ i, i < n → RU s i
  colU : ∀ j, j < m → CU s j

/-- the loop invariant of steps 4 and 6 (also what holds at every pass of the `while` of step 4) -/
structure Loop (n m : Nat) (cost : Nat → Nat → Rat) (s : State) : Prop where
  base : Base n m cost s
  /-- a star's column is covered exactly when its row is not -/
  l1 : ∀ i j, Star s.marked i j → (CU s j ↔ ¬ RU s i)
  /-- a covered row has a star and a prime -/
  l2 : ∀ i, i < n → ¬ RU s i → (∃ j, Star s.marked i j) ∧ (∃ j, Prime s.marked i j)
  /-- a covered column has a star -/
  l3 : ∀ j, j < m → ¬ CU s j → ∃ i, Star s.marked i j
  /-- a prime sits in an uncovered column of a covered row -/
  l4 : ∀ i j, Prime s.marked i j → CU s j ∧ ¬ RU s i
  primeZero : ∀ i j, Prime s.marked i j → get2 s.C i j = 0
  /-- the order in which rows were primed: a star in the column of a prime belongs to a row that was
  primed earlier -/
  rank : ∃ (rk : Nat → Nat) (B : Nat), (∀ i, rk i < B) ∧
    ∀ i j i', Prime s.marked i j → Star s.marked i' j → rk i' < rk i

/-- before `_step5`: `Z0` is a prime in a row without star; following star-in-column /
prime-in-row links strictly decreases the priming order -/
structure Inv5 (n m : Nat) (cost : Nat → Nat → Rat) (s : State) : Prop where
  base : Base n m cost s
  z0 : Prime s.marked s.z0r s.z0c
  z0row : ∀ j, ¬ Star s.marked s.z0r j
  primeZero : ∀ i j, Prime s.marked i j → get2 s.C i j = 0
  rank : ∃ rk : Nat → Nat, ∀ i j i', Prime s.marked i j → Star s.marked i' j →
    (∃ j', Prime s.marked i' j') ∧ rk i' < rk i

/-- what holds just before step `st` runs -/
def InvAt (n m : Nat) (cost : Nat → Nat → Rat) : Step → State → Prop
  | .s1 => Inv1 n m cost
  | .s3 => Inv3 n m cost
  | .s4 => Loop n m cost
  | .s5 => Inv5 n m cost
  | .s6 => Loop n m cost

theorem RU.lt {n m : Nat} {s : State} (hs : Shape n m s) {i : Nat} (h : RU s i) : i < n :=
  hs.rsz ▸ getD_true_lt _ _ h

theorem CU.lt {n m : Nat} {s : State} (hs : Shape n m s) {j : Nat} (h : CU s j) : j < m :=
  hs.csz ▸ getD_true_lt _ _ h

/-- a marked cell lies inside the matrix -/
theorem Shape.mark_lt {n m : Nat} {s : State} (hs : Shape n m s) {i j : Nat} (h : get2 s.marked i j ≠ 0) :
    i < n ∧ j < m := by
  obtain ⟨hi, hj⟩ := get2_ne_default s.marked i j h
  rw [hs.Msz] at hi
  rw [hs.Mrow i hi] at hj
  exact ⟨hi, hj⟩

theorem Star.lt {n m : Nat} {s : State} (hs : Shape n m s) {i j : Nat} (h : Star s.marked i j) :
    i < n ∧ j < m :=
  hs.mark_lt (by rw [h]; decide)

theorem Prime.lt {n m : Nat} {s : State} (hs : Shape n m s) {i j : Nat} (h : Prime s.marked i j) :
    i < n ∧ j < m :=
  hs.mark_lt (by rw [h]; decide)

theorem Base.congr {n m : Nat} {cost : Nat → Nat → Rat} {s s' : State} (hb : Base n m cost s) (hC : s'.C = s.C)
    (hM : s'.marked = s.marked) (hr : s'.rowUnc.size = s.rowUnc.size) (hc : s'.colUnc.size = s.colUnc.size) :
    Base n m cost s' := by
  have hs := hb.shape
  obtain ⟨C', ru', cu', mk', _, _, _⟩ := s'
  dsimp only at hC hM
  subst hC hM
  exact ⟨⟨hs.Csz, hs.Crow, hs.Msz, hs.Mrow, hr.trans hs.rsz, hc.trans hs.csz⟩, hb.nonneg, hb.pot, hb.starZero,
    hb.starRow, hb.starCol⟩

/-- `_step1` and `_step5` end by clearing the covers -/
theorem Inv3.of_clearCovers {n m : Nat} {cost : Nat → Nat → Rat} {s : State} (hb : Base n m cost s)
    (hp : ∀ i j, ¬ Prime s.marked i j) : Inv3 n m cost (clearCovers s) :=
  have hs := hb.shape
  ⟨hb.congr rfl rfl Array.size_replicate Array.size_replicate, hp,
    fun _ hi => getD_replicate_true (hs.rsz.symm ▸ hi), fun _ hj => getD_replicate_true (hs.csz.symm ▸ hj)⟩

end QcelVerif.Munkres
