import QcelVerif.Lemmas.MunkresInv2.Basic
import QcelVerif.Lemmas.AssignCert
/-!
C14 — Munkres step invariants: the read-out.  `starPairs` enumerates exactly the entries equal to 1
in row-major order, and any duplicate-free enumeration of the stars of a finished state passes the
wide certificate check.
-/
namespace QcelVerif.Munkres
open QcelVerif.Assign

/-! ### `starPairs` -/

/-- row-major (lexicographic) order on index pairs -/
def Lex (p q : Nat × Nat) : Prop := p.1 < q.1 ∨ (p.1 = q.1 ∧ p.2 < q.2)

/-- the accumulator of `starPairs` when the loops stand at entry `(i, j)` -/
structure InvIn (M : Mat Nat) (i j : Nat) (acc : Array (Nat × Nat)) : Prop where
  mem : ∀ p, p ∈ acc.toList ↔
    (p.1 < i ∧ get2 M p.1 p.2 = 1) ∨ (p.1 = i ∧ p.2 < j ∧ get2 M p.1 p.2 = 1)
  sorted : acc.toList.Pairwise Lex

theorem cells_sorted {α} (M : Mat α) : (cells M).Pairwise Lex := by
  unfold cells
  rw [List.pairwise_flatMap]
  refine ⟨fun i _ => ?_, ?_⟩
  · rw [List.pairwise_map]
    exact (List.pairwise_lt_range).imp fun h => Or.inr ⟨rfl, h⟩
  · refine (List.pairwise_lt_range).imp fun {i i'} h p hp q hq => ?_
    obtain ⟨_, _, rfl⟩ := List.mem_map.1 hp
    obtain ⟨_, _, rfl⟩ := List.mem_map.1 hq
    exact Or.inl h

/-- `np.nonzero(M == 1)` zipped: the cells holding a 1, in row-major order -/
theorem starPairs_eq (M : Mat Nat) : starPairs M = (cells M).filter fun p => get2 M p.1 p.2 == 1 := by
  unfold starPairs
  simp only [Id.run, bind, pure, yield_ite]
  rw [forIn_cells M (fun i j (a : Array (Nat × Nat)) => if ((M.getD i #[]).getD j 0 == 1) = true then a.push (i, j) else a),
    foldl_push_if (fun p : Nat × Nat => (M.getD p.1 #[]).getD p.2 0 == 1) (fun p => (p.1, p.2))]
  simp [get2]

/-- membership: exactly the entries equal to 1 -/
theorem starPairs_mem (M : Mat Nat) (p : Nat × Nat) : p ∈ starPairs M ↔ get2 M p.1 p.2 = 1 := by
  rw [starPairs_eq, List.mem_filter, mem_cells, beq_iff_eq]
  exact ⟨fun h => h.2, fun h => ⟨get2_ne_default M p.1 p.2 (by rw [h]; decide), h⟩⟩

/-- row-major order -/
theorem starPairs_sorted (M : Mat Nat) :
    (starPairs M).Pairwise (fun p q => p.1 < q.1 ∨ (p.1 = q.1 ∧ p.2 < q.2)) := by
  rw [starPairs_eq]
  exact (cells_sorted M).filter _

/-- rows strictly increasing when no row holds two 1-entries -/
theorem starPairs_incB (M : Mat Nat) (h : ∀ i j j', get2 M i j = 1 → get2 M i j' = 1 → j = j') :
    incB ((starPairs M).map Prod.fst) = true := by
  apply (incB_iff _).2
  rw [List.pairwise_map]
  refine (starPairs_sorted M).imp_of_mem ?_
  intro p q hp hq hpq
  rcases hpq with h1 | ⟨h1, h2⟩
  · exact h1
  · exfalso
    have hp' := (starPairs_mem M p).1 hp
    have hq' := (starPairs_mem M q).1 hq
    rw [← h1] at hq'
    have := h p.1 p.2 q.2 hp' hq'
    omega

/-! ### transposition of the marks -/

/-- the 1-entries of the transposed marks are those of the marks: outside the matrix there are none -/
theorem get2_transpose_nat_iff (n m : Nat) (M : Mat Nat) (i j : Nat) (hM : M.size = n)
    (hrow : ∀ i, i < n → (M.getD i #[]).size = m) :
    get2 (transpose n m M) j i = 1 ↔ get2 M i j = 1 := by
  constructor
  · intro h
    have hlt := get2_ne_default _ j i (by rw [h]; decide)
    have hj : j < m := by rw [transpose_size] at hlt; exact hlt.1
    have hi : i < n := by rw [transpose_row_size n m M j hj] at hlt; exact hlt.2
    rwa [get2_transpose n m M i j hi hj] at h
  · intro h
    have hlt := get2_ne_default _ i j (by rw [h]; decide)
    have hi : i < n := hM ▸ hlt.1
    have hj : j < m := by rw [hrow i hi] at hlt; exact hlt.2
    rwa [get2_transpose n m M i j hi hj]

/-! ### the stars of a finished state are a certificate -/

/-- any duplicate-free enumeration of the stars of a finished state is a wide certificate -/
theorem wideOK_of_stars' {n m : Nat} (hn : 0 < n) (hnm : n ≤ m) {cost : Nat → Nat → Rat} {s : State}
    (hb : Base n m cost s) (hall : ∀ i, i < n → ∃ j, Star s.marked i j)
    (red : Nat → Nat → Rat) (hred : ∀ i, i < n → ∀ j, j < m → red i j = get2 s.C i j)
    (σ : Pairs) (hmem : ∀ p, p ∈ σ ↔ Star s.marked p.1 p.2) (hnd : σ.Nodup) :
    wideOK n m cost red σ = true := by
  obtain ⟨u, v, V, hC, hvV, hvE⟩ := hb.pot
  have hm : 0 < m := by omega
  have hlt : ∀ p ∈ σ, p.1 < n ∧ p.2 < m := fun p hp => Star.lt hb.shape ((hmem p).1 hp)
  have hrows : (σ.map Prod.fst).Nodup := by
    refine List.Nodup.map_on ?_ hnd
    intro p hp q hq hpq
    have h1 := (hmem p).1 hp
    have h2 := (hmem q).1 hq
    rw [← hpq] at h2
    exact Prod.ext hpq (hb.starRow _ _ _ h1 h2)
  have hcols : (σ.map Prod.snd).Nodup := by
    refine List.Nodup.map_on ?_ hnd
    intro p hp q hq hpq
    have h1 := (hmem p).1 hp
    have h2 := (hmem q).1 hq
    rw [← hpq] at h2
    exact Prod.ext (hb.starCol _ _ _ h1 h2) hpq
  have hperm : (σ.map Prod.fst).Perm (List.range n) := by
    rw [List.perm_ext_iff_of_nodup hrows List.nodup_range]
    intro a
    rw [List.mem_range, List.mem_map]
    constructor
    · rintro ⟨p, hp, rfl⟩
      exact (hlt p hp).1
    · intro ha
      obtain ⟨j, hj⟩ := hall a ha
      exact ⟨(a, j), (hmem (a, j)).2 hj, rfl⟩
  have hlen : σ.length = min n m := by
    have := hperm.length_eq
    rw [List.length_map, List.length_range] at this
    rw [this, Nat.min_eq_left hnm]
  have hass : IsAssign n m σ := ⟨hlen, hlt, hrows, hcols⟩
  have hu : ∀ i, i < n → uPot cost red i = u i + v 0 := by
    intro i hi
    unfold uPot
    rw [hred i hi 0 hm, hC i hi 0 hm]
    ring
  have hv : ∀ j, j < m → vPot cost red j = v j - v 0 := by
    intro j hj
    unfold vPot
    rw [hred 0 hn j hj, hred 0 hn 0 hm, hC 0 hn j hj, hC 0 hn 0 hm]
    ring
  unfold wideOK
  simp only [Bool.and_eq_true, allIdx_iff, List.all_eq_true, decide_eq_true_eq, beq_iff_eq,
    Bool.or_eq_true, List.mem_range, List.contains_iff_mem]
  refine ⟨⟨⟨⟨isAssign_iff.2 hass, ?_⟩, ?_⟩, ?_⟩, ?_⟩
  · intro i hi j hj
    unfold resid
    rw [hu i hi, hv j hj, hred i hi j hj, hC i hi j hj]
    ring
  · intro i hi j hj
    rw [hred i hi j hj]
    exact hb.nonneg i hi j hj
  · intro p hp
    rw [hred _ (hlt p hp).1 _ (hlt p hp).2]
    exact hb.starZero _ _ ((hmem p).1 hp)
  · intro k hk
    by_cases hk' : k ∈ σ.map Prod.snd
    · exact Or.inl hk'
    · right
      intro p hp
      have hnos : ∀ i, ¬ Star s.marked i k := by
        intro i hi
        exact hk' (List.mem_map.2 ⟨(i, k), (hmem (i, k)).2 hi, rfl⟩)
      rw [hv p.2 (hlt p hp).2, hv k hk, hvE k hk hnos]
      have := hvV p.2 (hlt p hp).2
      linarith

theorem wideOK_of_stars {n m : Nat} (hn : 0 < n) (hnm : n ≤ m) {cost : Nat → Nat → Rat} {s : State}
    (hb : Base n m cost s) (hall : ∀ i, i < n → ∃ j, Star s.marked i j)
    (σ : Pairs) (hmem : ∀ p, p ∈ σ ↔ Star s.marked p.1 p.2) (hnd : σ.Nodup) :
    wideOK n m cost (matFn s.C) σ = true :=
  wideOK_of_stars' hn hnm hb hall (matFn s.C) (fun _ _ _ _ => rfl) σ hmem hnd

end QcelVerif.Munkres
