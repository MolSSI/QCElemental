import QcelVerif.Lemmas.MunkresInv2.Basic
/-!
C14 — Munkres step invariants: `_step4` (prime an uncovered zero; cover its row and uncover
the column of its star, or hand over to step 5 / step 6).
-/
namespace QcelVerif.Munkres

theorem foldl_argmax (v : Nat → Nat → Nat) (l : List (Nat × Nat)) (b : Nat × Nat × Nat) (hb : b.2.2 = v b.1 b.2.1)
    {r : Nat × Nat × Nat} (hr : l.foldl (fun b p => if b.2.2 < v p.1 p.2 then (p.1, p.2, v p.1 p.2) else b) b = r) :
    r.2.2 = v r.1 r.2.1 ∧ b.2.2 ≤ r.2.2 ∧ ∀ p ∈ l, v p.1 p.2 ≤ r.2.2 := by
  induction l generalizing b with
  | nil => subst hr; exact ⟨hb, Nat.le_refl _, fun _ h => absurd h List.not_mem_nil⟩
  | cons q l ih =>
    rw [List.foldl_cons] at hr
    by_cases h : b.2.2 < v q.1 q.2
    · rw [if_pos h] at hr
      obtain ⟨h1, h2, h3⟩ := ih (q.1, q.2, v q.1 q.2) rfl hr
      exact ⟨h1, Nat.le_trans (Nat.le_of_lt h) h2, List.forall_mem_cons.2 ⟨h2, h3⟩⟩
    · rw [if_neg h] at hr
      obtain ⟨h1, h2, h3⟩ := ih b hb hr
      exact ⟨h1, h2, List.forall_mem_cons.2 ⟨Nat.le_trans (Nat.le_of_not_lt h) h2, h3⟩⟩

theorem argmaxFlat_eq (M : Mat Nat) : (cells M).foldl
    (fun b p => if b.2.2 < get2 M p.1 p.2 then (p.1, p.2, get2 M p.1 p.2) else b) (0, 0, get2 M 0 0) = argmaxFlat M := by
  unfold argmaxFlat
  simp only [Id.run, bind, pure, yield_ite]
  exact (forIn_cells M (fun i j (b : Nat × Nat × Nat) => if b.2.2 < get2 M i j then (i, j, get2 M i j) else b) _).symm

/-- `np.argmax` returns the value it found together with its position -/
theorem argmaxFlat_spec (M : Mat Nat) :
    (argmaxFlat M).2.2 = get2 M (argmaxFlat M).1 (argmaxFlat M).2.1 :=
  (foldl_argmax (get2 M) _ _ rfl (argmaxFlat_eq M)).1

theorem argmaxFlat_ge (M : Mat Nat) (i j : Nat) (hi : i < M.size) (hj : j < (M.getD i #[]).size) :
    get2 M i j ≤ (argmaxFlat M).2.2 :=
  (foldl_argmax (get2 M) _ _ rfl (argmaxFlat_eq M)).2.2 (i, j) (mem_cells.2 ⟨hi, hj⟩)

section prime
variable {n m : Nat} {cost : Nat → Nat → Rat} {s : State} {row col : Nat}

theorem prime_marks (hs : Shape n m s) (hr : RU s row) (hc : CU s col) (i j : Nat) :
    get2 (set2 s.marked row col 2) i j = if row = i ∧ col = j then 2 else get2 s.marked i j :=
  get2_set2_of_lt s.marked (hs.Msz ▸ RU.lt hs hr) ((hs.Mrow row (RU.lt hs hr)).symm ▸ CU.lt hs hc) i j 2

theorem prime_star_iff (h : Loop n m cost s) (hr : RU s row) (hc : CU s col) (i j : Nat) :
    Star (set2 s.marked row col 2) i j ↔ Star s.marked i j := by
  unfold Star
  rw [prime_marks h.base.shape hr hc]
  by_cases hij : row = i ∧ col = j
  · rw [if_pos hij]
    obtain ⟨rfl, rfl⟩ := hij
    constructor
    · intro h2; exact absurd h2 (by decide)
    · intro hst
      exact absurd hr ((h.l1 row col hst).1 hc)
  · rw [if_neg hij]

theorem prime_prime_iff (h : Loop n m cost s) (hr : RU s row) (hc : CU s col) (i j : Nat) :
    Prime (set2 s.marked row col 2) i j ↔ (Prime s.marked i j ∨ (i = row ∧ j = col)) := by
  unfold Prime
  rw [prime_marks h.base.shape hr hc]
  by_cases hij : row = i ∧ col = j
  · rw [if_pos hij]
    obtain ⟨rfl, rfl⟩ := hij
    simp
  · rw [if_neg hij]
    constructor
    · exact Or.inl
    · rintro (h1 | ⟨rfl, rfl⟩)
      · exact h1
      · exact absurd ⟨rfl, rfl⟩ hij

theorem prime_base (h : Loop n m cost s) (hr : RU s row) (hc : CU s col) :
    Base n m cost { s with marked := set2 s.marked row col 2 } := by
  have hb := h.base
  have hs := hb.shape
  have hst := prime_star_iff h hr hc
  refine ⟨⟨hs.Csz, hs.Crow, (set2_size s.marked row col 2).trans hs.Msz,
    fun i hi => (set2_row_size s.marked row col i 2).trans (hs.Mrow i hi), hs.rsz, hs.csz⟩, hb.nonneg, ?_, ?_, ?_, ?_⟩
  · obtain ⟨u, v, V, h1, h2, h3⟩ := hb.pot
    exact ⟨u, v, V, h1, h2, fun j hj hno => h3 j hj (fun i hi => hno i ((hst i j).2 hi))⟩
  · intro i j hij
    exact hb.starZero i j ((hst i j).1 hij)
  · intro i j j' h1 h2
    exact hb.starRow i j j' ((hst _ _).1 h1) ((hst _ _).1 h2)
  · intro i i' j h1 h2
    exact hb.starCol i i' j ((hst _ _).1 h1) ((hst _ _).1 h2)

/-- the column of a prime of the new marks was uncovered -/
theorem prime_col_unc (h : Loop n m cost s) (hr : RU s row) (hc : CU s col) {i j : Nat}
    (hp : Prime (set2 s.marked row col 2) i j) : CU s j := by
  rcases (prime_prime_iff h hr hc i j).1 hp with hp | ⟨_, rfl⟩
  · exact (h.l4 i j hp).1
  · exact hc

/-- the new prime is a zero like the old ones -/
theorem prime_zero (h : Loop n m cost s) (hz : get2 s.C row col = 0) (hr : RU s row) (hc : CU s col)
    {i j : Nat} (hp : Prime (set2 s.marked row col 2) i j) : get2 s.C i j = 0 := by
  rcases (prime_prime_iff h hr hc i j).1 hp with hp | ⟨rfl, rfl⟩
  · exact h.primeZero i j hp
  · exact hz

/-- the priming order extends to the new prime: its row comes last -/
theorem prime_rank (h : Loop n m cost s) (hr : RU s row) (hc : CU s col) :
    ∃ (rk : Nat → Nat) (B : Nat), (∀ i, rk i < B) ∧ ∀ i j i', Prime (set2 s.marked row col 2) i j →
      Star (set2 s.marked row col 2) i' j → rk i' < rk i := by
  obtain ⟨rk, B, hB, hrk⟩ := h.rank
  refine ⟨fun i => if i = row then B else rk i, B + 1, fun i => ?_, fun i j i' hp hs' => ?_⟩
  · by_cases hi : i = row
    · simp [hi]
    · simp only [if_neg hi]
      exact Nat.lt_succ_of_lt (hB i)
  · have hs0 : Star s.marked i' j := (prime_star_iff h hr hc i' j).1 hs'
    -- the star's row is covered, because the column of a prime is uncovered
    have hi'row : i' ≠ row := fun e => (h.l1 i' j hs0).1 (prime_col_unc h hr hc hp) (e ▸ hr)
    simp only [if_neg hi'row]
    rcases (prime_prime_iff h hr hc i j).1 hp with hp | ⟨rfl, _⟩
    · have : i ≠ row := fun e => (h.l4 i j hp).2 (e ▸ hr)
      rw [if_neg this]
      exact hrk i j i' hp hs0
    · rw [if_pos rfl]
      exact hB i'

/-- the state handed to step 5: `(row, col)` primed and recorded as `Z0` -/
def toStep5 (s : State) (row col : Nat) : State :=
  { s with marked := set2 s.marked row col 2, z0r := row, z0c := col }

/-- the primed zero has no star in its row: hand over to step 5 -/
theorem prime_to_s5 (h : Loop n m cost s) (hz : get2 s.C row col = 0) (hr : RU s row) (hc : CU s col)
    (hno : ∀ j, ¬ Star (set2 s.marked row col 2) row j) :
    Inv5 n m cost (toStep5 s row col) := by
  obtain ⟨rk, _, _, hrk⟩ := prime_rank h hr hc
  refine ⟨(prime_base h hr hc).congr rfl rfl rfl rfl, (prime_prime_iff h hr hc row col).2 (Or.inr ⟨rfl, rfl⟩), hno,
    fun i j => prime_zero h hz hr hc, rk, fun i j i' hp hs' => ⟨?_, hrk i j i' hp hs'⟩⟩
  -- the column of a prime is uncovered, so the star's row is covered, so it holds a prime
  have hs0 : Star s.marked i' j := (prime_star_iff h hr hc i' j).1 hs'
  have hcov : ¬ RU s i' := (h.l1 i' j hs0).1 (prime_col_unc h hr hc hp)
  obtain ⟨j', hj'⟩ := (h.l2 i' (Star.lt h.base.shape hs0).1 hcov).2
  exact ⟨j', (prime_prime_iff h hr hc i' j').2 (Or.inl hj')⟩

/-- the state after a pass that primed `(row, col)`, covered `row` and uncovered the column `sc` -/
def passState (s : State) (row col sc : Nat) : State :=
  { s with marked := set2 s.marked row col 2, rowUnc := s.rowUnc.set! row false,
           colUnc := s.colUnc.set! sc true }

theorem pass_RU (hs : Shape n m s) (hr : RU s row) (col sc i : Nat) :
    RU (passState s row col sc) i ↔ (RU s i ∧ i ≠ row) := by
  have hr' : row < n := RU.lt hs hr
  unfold RU passState
  simp only [getD_set!]
  by_cases hi : row = i
  · subst hi
    simp [hs.rsz, hr']
  · rw [if_neg (fun hh => hi hh.1)]
    exact ⟨fun hh => ⟨hh, fun e => hi e.symm⟩, fun hh => hh.1⟩

theorem pass_CU (hs : Shape n m s) {sc : Nat} (hsc : sc < m) (row col j : Nat) :
    CU (passState s row col sc) j ↔ (CU s j ∨ j = sc) := by
  unfold CU passState
  simp only [getD_set!]
  by_cases hj : sc = j
  · subst hj
    simp [hs.csz, hsc]
  · rw [if_neg (fun hh => hj hh.1)]
    exact ⟨Or.inl, fun hh => hh.elim id (fun e => absurd e.symm hj)⟩

/-- the primed zero has a star in its row at column `sc`: cover the row, uncover `sc`, go on -/
theorem prime_continue (h : Loop n m cost s) (hz : get2 s.C row col = 0) (hr : RU s row) (hc : CU s col)
    {sc : Nat} (hsc : Star (set2 s.marked row col 2) row sc) : Loop n m cost (passState s row col sc) := by
  have hst : ∀ i j, Star (passState s row col sc).marked i j ↔ Star s.marked i j := prime_star_iff h hr hc
  have hpr : ∀ i j, Prime (passState s row col sc).marked i j ↔ (Prime s.marked i j ∨ (i = row ∧ j = col)) :=
    prime_prime_iff h hr hc
  have hs := h.base.shape
  have hsc0 : Star s.marked row sc := (hst row sc).1 hsc
  have hRU := pass_RU hs hr col sc
  have hCU := pass_CU hs (Star.lt hs hsc0).2 row col
  refine ⟨(prime_base h hr hc).congr rfl rfl (by simp [passState]) (by simp [passState]), ?_, ?_, ?_, ?_,
    fun i j => prime_zero h hz hr hc, prime_rank h hr hc⟩
  · intro i j hij
    have hij0 := (hst i j).1 hij
    rw [hCU, hRU]
    by_cases hi : i = row
    · subst hi
      have : j = sc := h.base.starRow _ _ _ hij0 hsc0
      exact ⟨fun _ hh => hh.2 rfl, fun _ => Or.inr this⟩
    · have hj : j ≠ sc := fun e => hi (h.base.starCol _ _ _ (e ▸ hij0) hsc0)
      constructor
      · rintro (hcu | e) hh
        · exact (h.l1 i j hij0).1 hcu hh.1
        · exact hj e
      · exact fun hh => Or.inl ((h.l1 i j hij0).2 (fun hru => hh ⟨hru, hi⟩))
  · intro i hi hcov
    rw [hRU] at hcov
    by_cases hir : i = row
    · subst hir
      exact ⟨⟨sc, hsc⟩, ⟨col, (hpr _ _).2 (Or.inr ⟨rfl, rfl⟩)⟩⟩
    · obtain ⟨⟨j, hj⟩, ⟨j', hj'⟩⟩ := h.l2 i hi (fun hh => hcov ⟨hh, hir⟩)
      exact ⟨⟨j, (hst _ _).2 hj⟩, ⟨j', (hpr _ _).2 (Or.inl hj')⟩⟩
  · intro j hj hcov
    rw [hCU] at hcov
    obtain ⟨i, hi⟩ := h.l3 j hj (fun hh => hcov (Or.inl hh))
    exact ⟨i, (hst _ _).2 hi⟩
  · intro i j hp
    rw [hCU, hRU]
    refine ⟨Or.inl (prime_col_unc h hr hc hp), ?_⟩
    rcases (hpr i j).1 hp with hp | ⟨rfl, rfl⟩
    · exact fun hh => (h.l4 i j hp).2 hh.1
    · exact fun hh => hh.2 rfl

end prime

/-! ### `covered_C` -/

theorem getD_mapIdx_row (cov : Mat Nat) (F : Nat → Array Nat → Array Nat) (i : Nat) :
    (cov.mapIdx F).getD i #[] = if i < cov.size then F i (cov.getD i #[]) else #[] := by
  by_cases hi : i < cov.size <;> simp [Array.getD_eq_getD_getElem?, hi]

theorem getD_replicate_zero (k j : Nat) : (Array.replicate k (0 : Nat)).getD j 0 = 0 := by
  by_cases hj : j < k <;> simp [Array.getD_eq_getD_getElem?, hj]

theorem get2_covUpdate (cov : Mat Nat) (g : Nat → Nat) (row sc k i j : Nat)
    (h : get2 ((cov.mapIdx fun i r => r.set! sc (g i)).set! row (Array.replicate k 0)) i j ≠ 0) :
    i ≠ row ∧ ((j = sc ∧ g i ≠ 0) ∨ (j ≠ sc ∧ get2 cov i j ≠ 0)) := by
  unfold get2 at h
  rw [getD_set!] at h
  by_cases hr : row = i ∧ i < (cov.mapIdx fun i r => r.set! sc (g i)).size
  · rw [if_pos hr] at h
    exact absurd (getD_replicate_zero k j) h
  · rw [if_neg hr, getD_mapIdx_row] at h
    by_cases hi : i < cov.size
    · rw [if_pos hi, getD_set!] at h
      refine ⟨fun e => hr ⟨e.symm, by simpa using hi⟩, ?_⟩
      by_cases hj : sc = j ∧ j < (cov.getD i #[]).size
      · rw [if_pos hj] at h
        exact Or.inl ⟨hj.1.symm, h⟩
      · rw [if_neg hj] at h
        exact Or.inr ⟨fun hjs => hj ⟨hjs.symm, (get2_ne_default cov i j h).2⟩, h⟩
    · rw [if_neg hi] at h
      exact absurd (by simp) h

/-- `Cz` marks zeros of `C`; a non-zero entry of `covered_C` is an uncovered zero -/
structure CovOK (s : State) (Cz cov : Mat Nat) : Prop where
  cz : ∀ i j, get2 Cz i j ≠ 0 → get2 s.C i j = 0
  cov : ∀ i j, get2 cov i j ≠ 0 → get2 Cz i j ≠ 0 ∧ RU s i ∧ CU s j

/-- a product with the 0/1 value of a flag is non-zero only if the flag is set -/
theorem flag_of_mul_ne_zero {z : Nat} {b : Bool} (h : z * (if b = true then 1 else 0) ≠ 0) : z ≠ 0 ∧ b = true := by
  cases b
  · exact absurd (Nat.mul_zero z) h
  · exact ⟨fun e => h (by rw [e, Nat.zero_mul]), rfl⟩

/-- `covered_C` after a pass that primed a zero in `row` whose star is in column `sc` -/
def passCov (s : State) (Cz cov : Mat Nat) (row sc : Nat) : Mat Nat :=
  let rowU := s.rowUnc.set! row false
  let cov := cov.mapIdx fun i r => r.set! sc (get2 Cz i sc * (if rowU.getD i false then 1 else 0))
  cov.set! row (Array.replicate (cov.getD row #[]).size 0)

section pass
variable {n m : Nat} {cost : Nat → Nat → Rat} {s : State} {row col sc : Nat} {Cz cov : Mat Nat}

/-- `covered_C` stays sound across the pass -/
theorem pass_covOK (hL : Loop n m cost s) (hcov : CovOK s Cz cov) (hr : RU s row)
    (hc : CU s col) (hstar : Star (set2 s.marked row col 2) row sc) :
    CovOK (passState s row col sc) Cz (passCov s Cz cov row sc) := by
  have hs := hL.base.shape
  have hscm : sc < m := (Star.lt hs ((prime_star_iff hL hr hc row sc).1 hstar)).2
  refine ⟨hcov.cz, fun i j hij => ?_⟩
  obtain ⟨hirow, hcases⟩ := get2_covUpdate cov _ row sc _ i j hij
  rw [pass_RU hs hr, pass_CU hs hscm]
  rcases hcases with ⟨rfl, hg⟩ | ⟨hjs, hold⟩
  · obtain ⟨hg1, hg2⟩ := flag_of_mul_ne_zero hg
    exact ⟨hg1, ((pass_RU hs hr col j i).1 hg2), Or.inr rfl⟩
  · obtain ⟨h1, h2, h3⟩ := hcov.cov i j hold
    exact ⟨h1, ⟨h2, hirow⟩, Or.inl h3⟩

end pass

theorem get2_Cz (C : Mat Rat) (i j : Nat)
    (h : get2 (C.map fun r => r.map fun x => if x == 0 then (1 : Nat) else 0) i j ≠ 0) : get2 C i j = 0 := by
  have hlt := get2_ne_default _ i j h
  rw [getD_map_size C (fun _ x => if x == 0 then (1 : Nat) else 0)] at hlt
  rw [get2_map_rows C (fun _ x => if x == 0 then (1 : Nat) else 0) i j (by simpa using hlt.1) hlt.2] at h
  by_contra h0
  exact h (by simp [h0])

theorem get2_mapIdx_nat (M : Mat Nat) (F : Nat → Nat → Nat → Nat) (i j : Nat)
    (h : get2 (M.mapIdx fun i r => r.mapIdx fun j x => F i j x) i j ≠ 0) :
    get2 (M.mapIdx fun i r => r.mapIdx fun j x => F i j x) i j = F i j (get2 M i j) := by
  have hlt := get2_ne_default _ i j h
  rw [getD_mapIdx_size] at hlt
  exact get2_mapIdx M F i j (by simpa using hlt.1) hlt.2

/-- the initial `covered_C` of step 4 is sound -/
theorem step4_covOK (s : State) :
    CovOK s (s.C.map fun r => r.map fun x => if x == 0 then (1 : Nat) else 0)
      ((s.C.map fun r => r.map fun x => if x == 0 then (1 : Nat) else 0).mapIdx fun i r =>
        r.mapIdx fun j z => z * (if s.rowUnc.getD i false then 1 else 0)
          * (if s.colUnc.getD j false then 1 else 0)) := by
  refine ⟨fun i j hij => get2_Cz s.C i j hij, fun i j hij => ?_⟩
  rw [get2_mapIdx_nat _ (fun i j z => z * (if s.rowUnc.getD i false then 1 else 0)
    * (if s.colUnc.getD j false then 1 else 0)) i j hij] at hij
  obtain ⟨h1, hc⟩ := flag_of_mul_ne_zero hij
  obtain ⟨hz, hr⟩ := flag_of_mul_ne_zero h1
  exact ⟨hz, hr, hc⟩

/-! ### the `while True` of `_step4` -/

/-- **One pass of the `while` under its invariant.**  Either nothing is left uncovered and the loop stops
for step 6; or it primes an uncovered zero `(row, col)` and then stops for step 5 (no star in the row) or
goes on with `row` covered and the column of the row's star uncovered.  The invariant, termination and
progress facts about the loop are all inductions over this case distinction. -/
theorem step4Loop_pass {n m : Nat} {cost : Nat → Nat → Rat} {s : State} {Cz cov : Mat Nat} (f : Nat)
    (hL : Loop n m cost s) (hcov : CovOK s Cz cov) :
    ((argmaxFlat cov).2.2 = 0 ∧ step4Loop (f + 1) Cz cov s = .ok (s, some .s6))
    ∨ ∃ row col, (argmaxFlat cov).2.2 ≠ 0 ∧ RU s row ∧ CU s col ∧
        ((step4Loop (f + 1) Cz cov s = .ok (toStep5 s row col, some .s5) ∧ Inv5 n m cost (toStep5 s row col))
        ∨ ∃ sc, step4Loop (f + 1) Cz cov s = step4Loop f Cz (passCov s Cz cov row sc) (passState s row col sc)
            ∧ Loop n m cost (passState s row col sc)
            ∧ CovOK (passState s row col sc) Cz (passCov s Cz cov row sc)) := by
  simp only [step4Loop]
  have hspec := argmaxFlat_spec cov
  generalize argmaxFlat cov = amx at hspec ⊢
  obtain ⟨row, col, val⟩ := amx
  simp only at hspec ⊢
  by_cases hv : (val == 0) = true
  · rw [if_pos hv]
    exact Or.inl ⟨beq_iff_eq.1 hv, rfl⟩
  · rw [if_neg hv]
    obtain ⟨hcz, hr, hc⟩ := hcov.cov row col (by rw [← hspec]; simpa using hv)
    have hz := hcov.cz _ _ hcz
    refine Or.inr ⟨row, col, by simpa using hv, hr, hc, ?_⟩
    generalize hsc : firstIdx (· == 1) ((set2 s.marked row col 2).getD row #[]) = sc
    by_cases hns : (get2 (set2 s.marked row col 2) row sc != 1) = true
    · rw [if_pos hns]
      refine Or.inl ⟨rfl, prime_to_s5 hL hz hr hc (fun j hj => ?_)⟩
      -- a star in the row would have been found by `argmax`
      have := rowScan_eq _ Nat.one_ne_zero hj
      rw [hsc] at this
      simp [this] at hns
    · rw [if_neg hns]
      have hstar : Star (set2 s.marked row col 2) row sc := by
        unfold Star; simpa using hns
      exact Or.inr ⟨sc, rfl, prime_continue hL hz hr hc hstar, pass_covOK hL hcov hr hc hstar⟩

/-- the `while True` of `_step4`: whatever it hands over to, the invariant of that step holds -/
theorem step4Loop_inv {n m : Nat} {cost : Nat → Nat → Rat} : ∀ (f : Nat) (Cz cov : Mat Nat) (s s' : State)
    (nx : Option Step), step4Loop f Cz cov s = .ok (s', nx) → Loop n m cost s → CovOK s Cz cov →
    (nx = some .s6 ∧ Loop n m cost s') ∨ (nx = some .s5 ∧ Inv5 n m cost s')
  | 0, _, _, _, _, _, h, _, _ => by simp [step4Loop] at h
  | f + 1, Cz, cov, s, s', nx, h, hL, hcov => by
    rcases step4Loop_pass f hL hcov with ⟨_, e⟩ | ⟨row, col, _, _, _, ⟨e, h5⟩ | ⟨sc, e, hL', hcov'⟩⟩
    · rw [e] at h
      cases h
      exact Or.inl ⟨rfl, hL⟩
    · rw [e] at h
      cases h
      exact Or.inr ⟨rfl, h5⟩
    · rw [e] at h
      exact step4Loop_inv f _ _ _ _ _ h hL' hcov'

/-- `_step4` establishes the invariant of the step it hands over to (step 5 or step 6) -/
theorem step4_inv {n m : Nat} {cost : Nat → Nat → Rat} {s s' : State} {nx : Option Step}
    (h : step4 s = .ok (s', nx)) (hL : Loop n m cost s) :
    (nx = some .s6 ∧ Loop n m cost s') ∨ (nx = some .s5 ∧ Inv5 n m cost s') :=
  step4Loop_inv _ _ _ _ _ _ h hL (step4_covOK s)

end QcelVerif.Munkres
