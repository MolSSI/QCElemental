import QcelVerif.Gen.UnitNames
/-!
C03, text level: the check that is kernel-evaluated for every listed spelling of every table unit over the regenerated
name set of the registry (`Gen/UnitNames.lean`), and the explicit table of collisions.  Core Lean only.
-/
namespace QcelVerif.Units.Text
open QcelVerif.PStr (Bytes)

/-- the spellings (of `allSpellings`) that pint's rule resolves to *another* registry unit, with the canonical key the rule picks:
    `fm` fermi (exact name before femto+`m`), `nmi` nautical_mile, `au` astronomical_unit, `dau` deci+`au` (prefix `d` comes before
    `da` in the registry), `amps` atto+`mps` (the plural suffix is tried after all prefixes), `damps` deca+`mps`,
    `hbar` / `hbars` dirac_constant -/
def collisionTable : List (Spelling × Bytes) :=
  [(⟨-15, .meter, [102,109]⟩, [102,101,114,109,105]),
   (⟨-9, .mile, [110,109,105]⟩, [110,97,117,116,105,99,97,108,95,109,105,108,101]),
   (⟨-18, .amu, [97,117]⟩, [97,115,116,114,111,110,111,109,105,99,97,108,95,117,110,105,116]),
   (⟨1, .amu, [100,97,117]⟩, [100,101,99,105,97,115,116,114,111,110,111,109,105,99,97,108,95,117,110,105,116]),
   (⟨0, .ampere, [97,109,112,115]⟩, [97,116,116,111,109,101,116,101,114,95,112,101,114,95,115,101,99,111,110,100]),
   (⟨-1, .ampere, [100,97,109,112,115]⟩, [100,101,99,97,109,101,116,101,114,95,112,101,114,95,115,101,99,111,110,100]),
   (⟨2, .bar, [104,98,97,114]⟩, [100,105,114,97,99,95,99,111,110,115,116,97,110,116]),
   (⟨2, .bar, [104,98,97,114,115]⟩, [100,105,114,97,99,95,99,111,110,115,116,97,110,116])]

def isCollision (s : Spelling) : Bool := collisionTable.any (fun c => beqB c.1.name s.name)

/-- the spelling resolves, by pint's rule over the registry's name set, to exactly the (power of ten, table unit) it was written for -/
def okS (s : Spelling) : Bool :=
  match resolveUnit Gen.nameReg s.name with
  | .ok (p, x) => decide (p = s.p) && decide (x = s.x)
  | .error _ => false

/-- the registry with only the prefixes a name starting with `c` can carry: the empty one and those starting with `c` -/
def NameReg.bucket (reg : NameReg) (c : Nat) : NameReg :=
  ⟨reg.units, reg.prefixes.filter fun pk => match pk.1 with
    | [] => true
    | a :: _ => Nat.beq a c⟩

/-- a prefix with another first byte is stripped from no name, so resolution sees only the name's bucket -/
theorem tripletsFor_bucket (reg : NameReg) (c : Nat) (t : Bytes) (plural : Bool) :
    tripletsFor (reg.bucket c) (c :: t) plural = tripletsFor reg (c :: t) plural := by
  unfold tripletsFor NameReg.bucket
  rw [List.filterMap_filter]
  congr 1; funext pk
  obtain ⟨k, pc⟩ := pk
  cases k with
  | nil => rfl
  | cons a k =>
    cases hg : Nat.beq a c
    · simp only [stripPrefix?, hg, Bool.false_eq_true, if_false]
    · simp only [hg, if_true]; rfl

theorem resolveUnit_bucket (reg : NameReg) (c : Nat) (t : Bytes) :
    resolveUnit (reg.bucket c) (c :: t) = resolveUnit reg (c :: t) := by
  simp only [resolveUnit, resolveKey, candidates, tripletsFor_bucket]
  rfl

/-- `resolveUnit` over the bucket of the name's first byte: of the registry's prefixes only a handful start like any one name.
The byte is matched out of the name so that the kernel sees the same closed term `reg.bucket c` for all names that start alike,
and reduces it once. -/
def resolveUnitB (reg : NameReg) : Bytes → Except TErr (Int × Base)
  | [] => resolveUnit reg []
  | c :: t => resolveUnit (reg.bucket c) (c :: t)

theorem resolveUnitB_eq (reg : NameReg) (name : Bytes) : resolveUnitB reg name = resolveUnit reg name := by
  cases name with
  | nil => rfl
  | cons c t => exact resolveUnit_bucket reg c t

/-- `okS`, as it is evaluated -/
def okB (s : Spelling) : Bool :=
  match resolveUnitB Gen.nameReg s.name with
  | .ok (p, x) => decide (p = s.p) && decide (x = s.x)
  | .error _ => false

def chk (s : Spelling) : Bool := isCollision s || okB s

/-- a collision row: it is one of the listed spellings, the rule picks the stated key, and that key is not the table unit -/
def chkCollision (c : Spelling × Bytes) : Bool :=
  (match resolveKey Gen.nameReg c.1.name with
   | .ok k => beqB k c.2
   | .error _ => false) && !okS c.1 && (spellingsOf c.1.x).any (fun s => decide (s = c.1))

theorem okB_eq (s : Spelling) : okB s = okS s := by
  unfold okB okS; rw [resolveUnitB_eq]

theorem okS_iff (s : Spelling) : okS s = true ↔ resolveUnit Gen.nameReg s.name = .ok (s.p, s.x) := by
  unfold okS
  cases h : resolveUnit Gen.nameReg s.name with
  | error e => simp
  | ok v =>
    obtain ⟨p, x⟩ := v
    simp only [Bool.and_eq_true, decide_eq_true_eq, Except.ok.injEq, Prod.mk.injEq]

end QcelVerif.Units.Text
