import QcelVerif.Model.MolText
import QcelVerif.Lib.ListLemmas
/-!
Facts about the text model M1 (Model/MolText.lean) shared by Props/C07*.lean, Lemmas/MolTextJoin.lean and the regex tie
Lemmas/C07Re*.lean.
-/
namespace QcelVerif.MolText

/-! ## generic list helpers -/

theorem tw_all {p : Char → Bool} (l : Str) (h : ∀ c ∈ l, p c = true) : l.takeWhile p = l := (takeWhile_all p l h).1

theorem dw_all {p : Char → Bool} (l : Str) (h : ∀ c ∈ l, p c = true) : l.dropWhile p = [] := (takeWhile_all p l h).2

theorem map_map_congr {α β γ} (f : α → β) (g : β → γ) (k : α → γ) (l : List α) (h : ∀ a ∈ l, g (f a) = k a) :
    (l.map f).map g = l.map k := by
  rw [List.map_map]; exact List.map_congr_left h

theorem map_ite_nil {α β} (f : α → β) (c : Bool) (l : List α) :
    (if c then l else []).map f = if c then l.map f else [] := by
  cases c <;> rfl

theorem sep_cases {c : Char} (h : isSep c = true) : c = ' ' ∨ c = '\t' ∨ c = ',' := by
  simp [isSep] at h; rcases h with (h | h) | h <;> simp [h]

theorem beq_false_of_class {p : Char → Bool} {c : Char} (hc : p c = true) (x : Char) (hx : p x = false) :
    (c == x) = false := by
  cases h : (c == x) with
  | false => rfl
  | true => rw [beq_iff_eq] at h; subst h; rw [hc] at hx; cases hx

/-! ## the alphabet of the written tokens

Every token the writers print consists of `plain` characters: no blank, no `,`, no backslash, no `#`.  That one fact is why
the reader's field split finds the tokens again (`classify_atomLine`, `classify_cgmpLine`), and why a written line holds no
comment or newline and begins and ends with a non-blank character (Props/C07Text.lean). -/

def plain (c : Char) : Bool := !(isWs c || c == '\\' || c == ',' || c == '#')

theorem not_plain_mem {c : Char} (h : plain c = false) :
    c ∈ [' ', '\t', '\n', '\r', '\x0b', '\x0c', '\x1c', '\x1d', '\x1e', '\x1f', '\\', ',', '#'] := by
  simp only [plain, Bool.not_eq_false'] at h
  simpa [isWs, or_assoc] using h

theorem plain_of_pred (p : Char → Bool)
    (h : ∀ x ∈ [' ', '\t', '\n', '\r', '\x0b', '\x0c', '\x1c', '\x1d', '\x1e', '\x1f', '\\', ',', '#'], p x = false)
    {c : Char} (hc : p c = true) : plain c = true := by
  cases hp : plain c with
  | true => rfl
  | false => rw [h c (not_plain_mem hp)] at hc; cases hc

theorem word_plain {c : Char} (h : isWord c = true) : plain c = true := plain_of_pred isWord (by decide) h
theorem mant_plain {c : Char} (h : isMantChar c = true) : plain c = true := plain_of_pred isMantChar (by decide) h

theorem plain_not_sep {c : Char} (h : plain c = true) : isSep c = false := by
  cases hs : isSep c with
  | false => rfl
  | true => rcases sep_cases hs with rfl | rfl | rfl <;> exact absurd h (by decide)

theorem mant_not_sep {c : Char} (h : isMantChar c = true) : isSep c = false := plain_not_sep (mant_plain h)
theorem word_not_sep {c : Char} (h : isWord c = true) : isSep c = false := plain_not_sep (word_plain h)

/-! ## tokens -/

theorem splitSep_ne_nil (s : Str) : splitSep s ≠ [] := by
  cases s with
  | nil => simp [splitSep]
  | cons c t =>
    simp only [splitSep]
    split
    · simp
    · split
      · split
        · split <;> simp
        · simp
      · simp

theorem splitSep_exists (s : Str) : ∃ h r, splitSep s = h :: r := by
  cases hs : splitSep s with
  | nil => exact absurd hs (splitSep_ne_nil s)
  | cons h r => exact ⟨h, r, rfl⟩

/-- a separator-free prefix extends the first field -/
theorem splitSep_tok_append (t rest h : Str) (r : List Str) (ht : ∀ c ∈ t, isSep c = false)
    (hr : splitSep rest = h :: r) : splitSep (t ++ rest) = (t ++ h) :: r := by
  induction t with
  | nil => simpa using hr
  | cons c t ih =>
    have hc : isSep c = false := ht c (by simp)
    have ih' := ih (fun x hx => ht x (by simp [hx]))
    simp [splitSep, ih', hc]

theorem splitSep_sep_sep {c d : Char} (t : Str) (hc : isSep c = true) (hd : isSep d = true) :
    splitSep (c :: d :: t) = splitSep (d :: t) := by
  obtain ⟨h, r, hr⟩ := splitSep_exists (d :: t)
  rw [splitSep, hr]
  simp [hc, hd]

theorem splitSep_sep_tok {c d : Char} (t : Str) (hc : isSep c = true) (hd : isSep d = false) :
    splitSep (c :: d :: t) = [] :: splitSep (d :: t) := by
  obtain ⟨h, r, hr⟩ := splitSep_exists (d :: t)
  rw [splitSep, hr]
  simp [hc, hd]

theorem splitSep_sep : ∀ (t : Str) (c : Char), isSep c = true → splitSep (c :: t) = [] :: splitSep (t.dropWhile isSep)
  | [], c, hc => by simp [splitSep, hc]
  | d :: t', c, hc => by
    by_cases hd : isSep d = true
    · rw [splitSep_sep_sep t' hc hd, splitSep_sep t' d hd, List.dropWhile_cons_of_pos hd]
    · rw [splitSep_sep_tok t' hc (by simpa using hd), List.dropWhile_cons_of_neg hd]

/-- a non-empty separator run in front of a non-separator character opens a new (so far empty) field -/
theorem splitSep_sep_run (s : Str) (d : Char) (t : Str) (hs : s ≠ []) (hall : ∀ c ∈ s, isSep c = true)
    (hd : isSep d = false) : splitSep (s ++ d :: t) = [] :: splitSep (d :: t) := by
  obtain ⟨c, s', rfl⟩ := List.exists_cons_of_ne_nil hs
  rw [List.cons_append, splitSep_sep _ c (hall c (by simp)),
    (span_append (fun x hx => hall x (by simp [hx])) (stop_cons hd t)).2]

def joinToks : Str → List (Str × Str) → Str
  | t, [] => t
  | t, (s, u) :: r => t ++ s ++ joinToks u r

def TokOk (t : Str) : Prop := t ≠ [] ∧ ∀ c ∈ t, isSep c = false
def SepOk (s : Str) : Prop := s ≠ [] ∧ ∀ c ∈ s, isSep c = true

theorem joinToks_head (u : Str) (r : List (Str × Str)) (hu : TokOk u) :
    ∃ d t, joinToks u r = d :: t ∧ isSep d = false := by
  obtain ⟨d, u', rfl⟩ := List.exists_cons_of_ne_nil hu.1
  have hd := hu.2 d (by simp)
  cases r with
  | nil => exact ⟨d, u', rfl, hd⟩
  | cons p r' => exact ⟨d, u' ++ p.1 ++ joinToks p.2 r', by simp [joinToks], hd⟩

/-- (separator run, token) pairs, then `r` -/
def joinR : List (Str × Str) → Str → Str
  | [], r => r
  | (sp, t) :: ps, r => sp ++ (t ++ joinR ps r)

theorem splitSep_sepOnly (tl : Str) (h0 : tl ≠ []) (h : ∀ c ∈ tl, isSep c = true) : splitSep tl = [[], []] := by
  cases tl with
  | nil => exact absurd rfl h0
  | cons c t =>
    rw [splitSep_sep t c (h c (by simp)), dw_all t fun d hd => h d (by simp [hd])]
    rfl

/-- fields joined by separator runs, then a (possibly empty) trailing separator run: the fields, and an empty one for the run -/
theorem splitSep_joinR (tl : Str) (htl : ∀ c ∈ tl, isSep c = true) : ∀ (ps : List (Str × Str)) (t : Str),
    (∀ c ∈ t, isSep c = false) → (∀ p ∈ ps, SepOk p.1 ∧ TokOk p.2) →
    splitSep (t ++ joinR ps tl) = t :: ps.map (·.2) ++ (if tl = [] then [] else [[]])
  | [], t, ht, _ => by
    simp only [joinR, List.map_nil]
    by_cases h0 : tl = []
    · subst h0
      have := splitSep_tok_append t [] [] [] ht (by simp [splitSep])
      simpa using this
    · have := splitSep_tok_append t tl [] [[]] ht (splitSep_sepOnly tl h0 htl)
      simpa [h0] using this
  | (sp, u) :: ps, t, ht, hps => by
    have hp := hps (sp, u) (by simp)
    have ih := splitSep_joinR tl htl ps u hp.2.2 (fun q hq => hps q (by simp [hq]))
    obtain ⟨d, u', rfl⟩ : ∃ d u', u = d :: u' := by
      cases u with
      | nil => exact absurd rfl hp.2.1
      | cons a b => exact ⟨a, b, rfl⟩
    have hd : isSep d = false := hp.2.2 d (by simp)
    have h1 : splitSep (sp ++ (d :: u' ++ joinR ps tl)) = [] :: splitSep (d :: u' ++ joinR ps tl) :=
      splitSep_sep_run sp d (u' ++ joinR ps tl) hp.1.1 hp.1.2 hd
    have := splitSep_tok_append t (sp ++ (d :: u' ++ joinR ps tl)) [] _ ht h1
    simp only [joinR, List.map_cons, List.append_nil] at this ⊢
    rw [this, ih]
    simp

theorem joinToks_eq_joinR : ∀ (ps : List (Str × Str)) (t : Str), joinToks t ps = t ++ joinR ps []
  | [], t => by simp [joinToks, joinR]
  | (s, u) :: ps, t => by simp [joinToks, joinR, joinToks_eq_joinR ps u, List.append_assoc]

/-- fields joined by arbitrary non-empty `[\t ,]+` runs split back into the same fields. -/
theorem tokens_roundtrip (t : Str) (ps : List (Str × Str)) (ht : TokOk t)
    (hps : ∀ p ∈ ps, SepOk p.1 ∧ TokOk p.2) : splitSep (joinToks t ps) = t :: ps.map (·.2) := by
  rw [joinToks_eq_joinR]
  simpa using splitSep_joinR [] (by simp) ps t ht.2 hps

example : splitSep "He_a ,\t 1.0,,-2.5  3".toList = ["He_a".toList, "1.0".toList, "-2.5".toList, "3".toList] := by decide

/-! ## strip -/

theorem stripL_ws_prefix (p s : Str) (hp : ∀ c ∈ p, isWs c = true) : stripL (p ++ s) = stripL s := by
  unfold stripL; rw [List.dropWhile_append_of_pos hp]

theorem stripR_ws_suffix (s q : Str) (hq : ∀ c ∈ q, isWs c = true) : stripR (s ++ q) = stripR s := by
  unfold stripR
  rw [List.reverse_append, List.dropWhile_append_of_pos (by simpa using hq)]

theorem stripL_blank (l : Str) (h : ∀ c ∈ l, isWs c = true) : stripL l = [] := dw_all l h
theorem stripR_blank (l : Str) (h : ∀ c ∈ l, isWs c = true) : stripR l = [] := by
  unfold stripR; rw [dw_all l.reverse (by simpa using h)]; rfl

theorem strip_of_ws (w : Str) (hw : ∀ c ∈ w, isWs c = true) : strip w = [] := by
  unfold strip; rw [stripL_blank w hw]; rfl

theorem stripL_head (c : Char) (l : Str) (hc : isWs c = false) : stripL (c :: l) = c :: l := by
  simp [stripL, List.dropWhile, hc]

theorem stripL_headOk {l : Str} (h : l.head?.map isWs = some false) : stripL l = l := by
  cases l with
  | nil => simp at h
  | cons c t => exact stripL_head c t (by simpa using h)

theorem stripR_concat (l : Str) (b : Char) (hb : isWs b = false) : stripR (l ++ [b]) = l ++ [b] := by
  simp [stripR, hb]

theorem headOk_append_left {a : Str} (b : Str) (h : a.head?.map isWs = some false) :
    (a ++ b).head?.map isWs = some false := by
  cases a with
  | nil => simp at h
  | cons c t => simpa using h

/-- blanks around a text that begins with a non-blank character and that `rstrip` leaves alone disappear -/
theorem strip_padded (p s q : Str) (hp : ∀ c ∈ p, isWs c = true) (hq : ∀ c ∈ q, isWs c = true)
    (hh : s.head?.map isWs = some false) (hr : stripR s = s) : strip (p ++ s ++ q) = s := by
  unfold strip
  rw [List.append_assoc, stripL_ws_prefix p _ hp, stripL_headOk (headOk_append_left q hh), stripR_ws_suffix _ q hq, hr]

/-- blanks around a text whose first and last characters are not blank disappear. -/
theorem strip_join (p q : Str) (a b : Char) (mid : Str) (hp : ∀ c ∈ p, isWs c = true) (hq : ∀ c ∈ q, isWs c = true)
    (ha : isWs a = false) (hb : isWs b = false) :
    strip (p ++ (a :: mid ++ [b]) ++ q) = a :: mid ++ [b] :=
  strip_padded p _ q hp hq (by simpa using ha) (stripR_concat _ b hb)

/-- the same for a one-character text -/
theorem strip_single (p q : Str) (a : Char) (hp : ∀ c ∈ p, isWs c = true) (hq : ∀ c ∈ q, isWs c = true)
    (ha : isWs a = false) : strip (p ++ [a] ++ q) = [a] :=
  strip_padded p [a] q hp hq (by simpa using ha) (stripR_concat [] a ha)

example : strip " \t He 0 0 0 \r\n".toList = "He 0 0 0".toList := by decide

/-! ## NUMBER and NUCLEUS: character classes -/

def DigitsOk (s : Str) : Prop := s ≠ [] ∧ ∀ c ∈ s, c.isDigit = true

instance (s : Str) : Decidable (DigitsOk s) := by unfold DigitsOk; infer_instance

theorem digit_mant {c : Char} (h : c.isDigit = true) : isMantChar c = true := by simp [isMantChar, h]

theorem digit_ne_minus {c : Char} (h : c.isDigit = true) : (c == '-') = false ∧ (c == '+') = false ∧ (c == '.') = false :=
  ⟨beq_false_of_class h _ (by decide), beq_false_of_class h _ (by decide), beq_false_of_class h _ (by decide)⟩

theorem allDigits_of {s : Str} (h : ∀ c ∈ s, c.isDigit = true) : allDigits s = true := by
  simpa [allDigits, List.all_eq_true] using h

theorem parseMantU_fixed (ip fp : Str) (hi : DigitsOk ip) (hf : DigitsOk fp) :
    parseMantU (ip ++ '.' :: fp) = some (ip, fp, true) := by
  have hdot : Char.isDigit '.' = false := by decide
  obtain ⟨h1, h2⟩ := span_append hi.2 (stop_cons hdot fp)
  have hne : ip.isEmpty = false := List.isEmpty_eq_false_iff.mpr hi.1
  simp [parseMantU, h1, h2, allDigits_of hf.2, hne]

theorem parseMantU_int (ip : Str) (hi : DigitsOk ip) : parseMantU ip = some (ip, [], false) := by
  have hne : ip.isEmpty = false := List.isEmpty_eq_false_iff.mpr hi.1
  simp [parseMantU, tw_all ip hi.2, dw_all ip hi.2, hne]

theorem exp_not_mant {a : Char} (h : isExpChar a = true) : isMantChar a = false := by
  simp [isExpChar] at h
  rcases h with ((h | h) | h) | h <;> subst h <;> decide

theorem alpha_not_digit {c : Char} (h : c.isAlpha = true) : c.isDigit = false := by
  simp [Char.isAlpha, Char.isUpper, Char.isLower, Char.isDigit, UInt32.le_iff_toNat_le] at *
  omega

theorem digit_not_alpha {c : Char} (h : c.isDigit = true) : c.isAlpha = false := by
  simp [Char.isAlpha, Char.isUpper, Char.isLower, Char.isDigit, UInt32.le_iff_toNat_le] at *
  omega

theorem alpha_word {c : Char} (h : c.isAlpha = true) : isWord c = true := by simp [isWord, Char.isAlphanum, h]
theorem digit_word {c : Char} (h : c.isDigit = true) : isWord c = true := by simp [isWord, Char.isAlphanum, h]

/-- a word character is none of the punctuation the grammars use -/
theorem word_ne {c : Char} (h : isWord c = true) (x : Char) (hx : isWord x = false) : (c == x) = false :=
  beq_false_of_class h x hx

/-! ## `fcGo`, the pass under `filterComments` -/

def lastOr : Option Char → Str → Option Char
  | p, [] => p
  | _, x :: s => lastOr (some x) s

theorem fcGo_comment_body (prev : Option Char) (c r : Str) (hc : ∀ x ∈ c, (x == '\n') = false) :
    fcGo true prev (c ++ r) = fcGo true prev r := by
  induction c with
  | nil => rfl
  | cons x c ih =>
    have hx := hc x (by simp)
    simp [fcGo, hx, ih (fun y hy => hc y (by simp [hy]))]

theorem fcGo_plain (prev : Option Char) (s rest : Str) (hs : ∀ x ∈ s, (x == '#') = false) :
    fcGo false prev (s ++ rest) = s ++ fcGo false (lastOr prev s) rest := by
  induction s generalizing prev with
  | nil => rfl
  | cons x s ih =>
    have hx := hs x (by simp)
    simp [fcGo, hx, lastOr, ih (some x) (fun y hy => hs y (by simp [hy]))]

theorem fcGo_nl (b : Bool) (pv : Option Char) (y : Str) : fcGo b pv ('\n' :: y) = '\n' :: fcGo false (some '\n') y := by
  cases b <;> simp [fcGo]

theorem fcGo_comment (prev : Option Char) (s c t : Str) (hs : ∀ x ∈ s, (x == '#') = false)
    (hl : lastOr prev s ≠ some '\\') (hc : ∀ x ∈ c, (x == '\n') = false) :
    fcGo false prev (s ++ '#' :: c ++ t) = s ++ fcGo true (lastOr prev s) t := by
  have hp : (lastOr prev s != some '\\') = true := by simpa [bne_iff_ne] using hl
  rw [List.append_assoc, fcGo_plain prev s _ hs, List.cons_append, ← fcGo_comment_body (lastOr prev s) c t hc]
  simp [fcGo, hp]

end QcelVerif.MolText
