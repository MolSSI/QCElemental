import QcelVerif.Lemmas.C07ReLines
import QcelVerif.Lemmas.MolTextJoin
/-!
C07 — the fragment marker of psi4 molecule texts

    fragment_marker = re.compile(r'^\s*--\s*$', re.MULTILINE)        used as   re.split(fragment_marker, text)

computed by the generic regex engine on the generated AST (`FromStringRegex.fragmentMarker`), each field then cut into its
non-empty stripped lines (what the callers do next), equals M1's line view — the non-empty stripped lines of the text, cut at
the lines that are `--` — for every text: `frags_eq_regex`.

One match attempt at a cursor (`fm_…`): there is a match iff the cursor is at a line start (start of text / after a newline) and
the text is  W ++ "--" ++ W2 ++ rest  with W, W2 whitespace (`\s` also eats newlines: blank lines before and after the marker line
are swallowed) and `rest` empty or starting with a newline (`MarkerAt`); the match ends in front of such a `rest`.  WHICH such end the greedy
`\s*` backtracks to is immaterial (every choice leaves the same non-empty stripped lines), so only the first way's shape is used,
never its exact position.  On the text side such a text has the lines `--` :: lines of `rest`, and a line that strips to `--` has
that form.  The scan (`scan_fm`) is an induction on the length of the text from a cursor at a line start: a match gives an empty
first field; no match skips the line (inside a line `^` fails), which is then not a marker line.

The lemmas about `splitLines` / `strip` (`strip_frame`, `splitLines_…`, `nl_is_ws`) are those of `Lemmas/MolTextJoin.lean`, which
`Props/C07Text.lean` imports.
-/
namespace QcelVerif.MolText
open QcelVerif.Regex QcelVerif.Gen

namespace FragMarker

def ws0 : Re := .rep 0 none true (.cls false [.space])
def dash : Re := .cls false [.ch 45]
def fmRe : Re := .seq .bolMulti (.seq ws0 (.seq dash (.seq dash (.seq ws0 .eolMulti))))

def lineStart (p : Option Nat) : Bool := p.isNone || p == some 10

theorem mem_ms_bolMulti {st x : St} : x ∈ Re.bolMulti.ms st ↔ lineStart st.prev = true ∧ x = st := by
  by_cases h : lineStart st.prev = true
  · have h' := h
    unfold lineStart at h'
    simp [Re.ms, holdsAt, h, h']
  · have h' := h
    unfold lineStart at h'
    simp [Re.ms, holdsAt, h, h']

theorem mem_ms_eolMulti {st x : St} {r : Str} (hr : st.rest = toBytes r) :
    x ∈ Re.eolMulti.ms st ↔ (r = [] ∨ ∃ t, r = '\n' :: t) ∧ x = st := by
  cases r with
  | nil => simp [Re.ms, holdsAt, hr]
  | cons c t =>
    have hc : c.toNat = 10 ↔ c = '\n' := ⟨fun h => Char.toNat_inj.mp h, fun h => by rw [h]; rfl⟩
    by_cases h : c = '\n' <;> simp [Re.ms, holdsAt, hr, hc, h]

/-- the text at the cursor begins a marker line that ends in front of `rest` -/
def MarkerAt (s rest : Str) : Prop :=
  ∃ W W2 : Str, s = W ++ '-' :: '-' :: (W2 ++ rest) ∧ (∀ c ∈ W, isWs c = true) ∧ (∀ c ∈ W2, isWs c = true) ∧
    (rest = [] ∨ ∃ t, rest = '\n' :: t)

/-- every way to match the marker at a cursor: shape of the text and of the end state -/
theorem fm_mem {p : Option Nat} {s : Str} {caps : Caps} {x : St} (hx : x ∈ fmRe.ms ⟨p, toBytes s, caps⟩) :
    lineStart p = true ∧ ∃ rest, MarkerAt s rest ∧ x.rest = toBytes rest := by
  unfold fmRe at hx
  obtain ⟨m1, h1, hx⟩ := mem_ms_seq.mp hx
  obtain ⟨hls, rfl⟩ := mem_ms_bolMulti.mp h1
  obtain ⟨W, _, rfl, hW, hx⟩ := ((Ext.star cls_space).mem_seq _ rfl).mp hx
  obtain ⟨_, _, rfl, rfl, hx⟩ := ((Ext.lit '-').mem_seq _ rfl).mp hx
  obtain ⟨_, _, rfl, rfl, hx⟩ := ((Ext.lit '-').mem_seq _ rfl).mp hx
  obtain ⟨W2, rest, rfl, hW2, hx⟩ := ((Ext.star cls_space).mem_seq _ rfl).mp hx
  obtain ⟨hend, rfl⟩ := (mem_ms_eolMulti rfl).mp hx
  exact ⟨hls, rest, ⟨W, W2, rfl, hW, hW2, hend⟩, rfl⟩

theorem fm_mem_exists {p : Option Nat} {caps : Caps} (hls : lineStart p = true) {s rest : Str} (h : MarkerAt s rest) :
    ∃ x, x ∈ fmRe.ms ⟨p, toBytes s, caps⟩ := by
  obtain ⟨W, W2, rfl, hW, hW2, hend⟩ := h
  unfold fmRe
  exact ⟨_, mem_ms_seq.mpr ⟨_, mem_ms_bolMulti.mpr ⟨hls, rfl⟩,
    ((Ext.star cls_space).mem_seq _ rfl).mpr ⟨W, _, rfl, hW,
    ((Ext.lit '-').mem_seq _ rfl).mpr ⟨_, _, rfl, rfl,
    ((Ext.lit '-').mem_seq _ rfl).mpr ⟨_, _, rfl, rfl,
    ((Ext.star cls_space).mem_seq _ rfl).mpr ⟨W2, rest, rfl, hW2,
    (mem_ms_eolMulti rfl).mpr ⟨hend, rfl⟩⟩⟩⟩⟩⟩⟩

/-! ## text lemmas -/

theorem classify_marker (s : Str) (h : classify s = .marker) : s = "--".toList := by
  cases classifyRest_case (classify_kw h (by simp) (by simp) (by simp))
  assumption

theorem isMarker_iff (s : Str) : (classify s == .marker) = (s == "--".toList) := by
  rw [Bool.eq_iff_iff]
  simp only [beq_iff_eq]
  constructor
  · exact classify_marker s
  · intro h; subst h; decide

theorem linesOf_nil : linesOf [] = [] := by decide

theorem linesOf_ws_cons (w : Char) (x : Str) (hw : isWs w = true) : linesOf (w :: x) = linesOf x := by
  obtain ⟨h, r, hr⟩ := splitLines_exists x
  unfold linesOf
  by_cases hn : w = '\n'
  · subst hn
    have hs : strip ([] : Str) = [] := by decide
    simp [splitLines, hr, hs]
  · have : (w == '\n') = false := by simpa using hn
    simp only [splitLines, hr, this, Bool.false_eq_true, if_false, List.map_cons]
    have : strip (w :: h) = strip h := by
      have := strip_frame [w] h [] (by intro c hc; simp at hc; subst hc; exact hw) (by intro c hc; cases hc)
      simpa using this
    rw [this]

theorem linesOf_ws_prefix (W x : Str) (hW : ∀ c ∈ W, isWs c = true) : linesOf (W ++ x) = linesOf x := by
  induction W with
  | nil => rfl
  | cons w W ih =>
    rw [List.cons_append, linesOf_ws_cons w _ (hW w (by simp)), ih (fun c hc => hW c (by simp [hc]))]

def lineL (l : Str) : List Str := if (strip l).isEmpty then [] else [strip l]

theorem linesOf_line (l : Str) (hl : ∀ c ∈ l, (c == '\n') = false) : linesOf l = lineL l := by
  unfold linesOf lineL
  rw [splitLines_line l hl]
  by_cases h : (strip l).isEmpty = true <;> simp [h]

theorem linesOf_line_nl (l t : Str) (hl : ∀ c ∈ l, (c == '\n') = false) : linesOf (l ++ '\n' :: t) = lineL l ++ linesOf t := by
  unfold linesOf lineL
  rw [splitLines_append_nl l t hl]
  by_cases h : (strip l).isEmpty = true <;> simp [h]


/-! ## a marker line in the text -/

theorem dropWhile_nl (s : Str) :
    s.dropWhile notNl = [] ∨ ∃ t, s.dropWhile notNl = '\n' :: t := by
  rcases dropWhile_stop notNl s with h | ⟨c, t, h, hc⟩
  · exact Or.inl h
  · simp only [notNl, Bool.not_eq_false', beq_iff_eq] at hc
    subst hc
    exact Or.inr ⟨t, h⟩

theorem takeWhile_nl (s : Str) : ∀ c ∈ s.takeWhile notNl, (c == '\n') = false := by
  intro c hc
  simpa [notNl] using all_tw _ _ _ hc

/-- a whitespace run in front of a line end or the end of the text: its part on the current line, and the rest, which begins
blank lines only -/
theorem ws_split (W rest : Str) (hW : ∀ c ∈ W, isWs c = true) (hr : rest = [] ∨ ∃ t, rest = '\n' :: t) :
    ∃ u t', W ++ rest = u ++ t' ∧ (∀ c ∈ u, isWs c = true) ∧ (∀ c ∈ u, (c == '\n') = false) ∧
      (t' = [] ∨ ∃ t, t' = '\n' :: t) ∧ linesOf t' = linesOf rest := by
  refine ⟨W.takeWhile notNl, W.dropWhile notNl ++ rest,
    by rw [← List.append_assoc, List.takeWhile_append_dropWhile],
    fun c hc => hW c ((List.takeWhile_sublist _).subset hc), takeWhile_nl W, ?_,
    linesOf_ws_prefix _ _ fun c hc => hW c ((List.dropWhile_sublist _).subset hc)⟩
  rcases dropWhile_nl W with h | ⟨t, h⟩
  · rw [h]; exact hr
  · rw [h]; exact Or.inr ⟨t ++ rest, rfl⟩

theorem lineL_marker (u : Str) (hu : ∀ c ∈ u, isWs c = true) : lineL ('-' :: '-' :: u) = ["--".toList] := by
  have h := strip_frame [] "--".toList u (by intro c hc; cases hc) hu
  have h2 : strip "--".toList = "--".toList := by decide
  rw [h2] at h
  have h3 : ([] : Str) ++ "--".toList ++ u = '-' :: '-' :: u := rfl
  rw [h3] at h
  unfold lineL
  rw [h]
  rfl

/-- a marker line is the line `--`; the lines of the text go on behind it -/
theorem linesOf_marker {s rest : Str} (h : MarkerAt s rest) : linesOf s = "--".toList :: linesOf rest := by
  obtain ⟨W, W2, rfl, hW, hW2, hr⟩ := h
  rw [linesOf_ws_prefix _ _ hW]
  obtain ⟨u, t', h1, h2, h3, h4, h5⟩ := ws_split W2 rest hW2 hr
  rw [h1, ← h5]
  have hnf : ∀ c ∈ '-' :: '-' :: u, (c == '\n') = false := by
    intro c hc
    simp only [List.mem_cons] at hc
    rcases hc with rfl | rfl | hc
    · decide
    · decide
    · exact h3 c hc
  rcases h4 with rfl | ⟨t, rfl⟩
  · rw [List.append_nil, linesOf_line _ hnf, lineL_marker u h2, linesOf_nil]
  · have : '-' :: '-' :: (u ++ '\n' :: t) = ('-' :: '-' :: u) ++ '\n' :: t := rfl
    rw [this, linesOf_line_nl _ _ hnf, lineL_marker u h2, linesOf_ws_cons _ _ nl_is_ws]
    rfl

/-- a text is what `strip` leaves of it, between the whitespace that `strip` removes -/
theorem strip_decomp (l : Str) : ∃ W W2, l = W ++ (strip l ++ W2) ∧ (∀ c ∈ W, isWs c = true) ∧ (∀ c ∈ W2, isWs c = true) := by
  unfold strip stripR stripL
  refine ⟨l.takeWhile isWs, ((l.dropWhile isWs).reverse.takeWhile isWs).reverse, ?_, all_tw _ _,
    fun c hc => all_tw _ _ c (List.mem_reverse.mp hc)⟩
  rw [← List.reverse_append, List.takeWhile_append_dropWhile, List.reverse_reverse, List.takeWhile_append_dropWhile]

/-! ## one match attempt -/

theorem fm_bt_some {p : Option Nat} {s : Str} {st : St} (h : fmRe.bt some ⟨p, toBytes s, []⟩ = some st) :
    lineStart p = true ∧ ∃ rest, MarkerAt s rest ∧ st.rest = toBytes rest := by
  rw [bt_eq_findSome, findSome?_some_eq_head?] at h
  exact fm_mem (List.mem_of_head? h)

theorem fm_bt_ne_none {p : Option Nat} (hls : lineStart p = true) {s rest : Str} (h : MarkerAt s rest) :
    fmRe.bt some ⟨p, toBytes s, []⟩ ≠ none := by
  intro h0
  rw [bt_eq_findSome, findSome?_some_eq_head?, List.head?_eq_none_iff] at h0
  obtain ⟨x, hx⟩ := fm_mem_exists (p := p) (caps := []) hls h
  rw [h0] at hx
  cases hx

theorem fm_bt_mid {p : Option Nat} (hp : lineStart p = false) (s : Str) : fmRe.bt some ⟨p, toBytes s, []⟩ = none := by
  cases h : fmRe.bt some ⟨p, toBytes s, []⟩ with
  | none => rfl
  | some st => have := (fm_bt_some h).1; rw [hp] at this; cases this

/-! ## the hand splitter on lines -/

theorem splitOnMarker_ne_nil : ∀ ls : List Str, splitOnMarker ls ≠ []
  | [] => by simp [splitOnMarker]
  | l :: ls => by
    unfold splitOnMarker
    cases h : splitOnMarker ls with
    | nil => simp
    | cons a r => simp only; split <;> simp

theorem splitOnMarker_marker (ls : List Str) : splitOnMarker ("--".toList :: ls) = [] :: splitOnMarker ls := by
  rw [splitOnMarker]
  cases h : splitOnMarker ls with
  | nil => exact absurd h (splitOnMarker_ne_nil _)
  | cons a r =>
    have : (classify "--".toList == Line.marker) = true := by rw [isMarker_iff]; rfl
    simp only [this, if_true]

theorem splitOnMarker_prefix (A : List Str) (hA : ∀ x ∈ A, x ≠ "--".toList) (B : List Str) (h : List Str) (r : List (List Str))
    (hB : splitOnMarker B = h :: r) : splitOnMarker (A ++ B) = (A ++ h) :: r := by
  induction A with
  | nil => exact hB
  | cons a A ih =>
    have := ih (fun x hx => hA x (by simp [hx]))
    rw [List.cons_append, splitOnMarker, this]
    have hm : (classify a == Line.marker) = false := by
      rw [isMarker_iff]
      simpa using hA a (by simp)
    simp [hm]

/-! ## the scan of `re.split` -/

theorem lineStart_char (c : Char) (hc : (c == '\n') = false) : lineStart (some c.toNat) = false := by
  have : c.toNat ≠ 10 := by
    intro h
    have : c = '\n' := Char.toNat_inj.mp h
    subst this
    simp at hc
  simp [lineStart, this]

/-- no match inside a line: the rest `l` of the line joins the first field of what follows (`d`: nothing, or the newline and the
following lines) -/
theorem skip_line (f : Nat) (d : Str) (a : List Nat) (r : List (List Nat))
    (hd : ∀ p, fmRe.bt some ⟨p, toBytes d, []⟩ = none → ∃ y, scanFuel fmRe (f + 1) p (toBytes d) = some y ∧ pieces y = a :: r) :
    ∀ (l : Str), (∀ c ∈ l, (c == '\n') = false) → ∀ (p : Option Nat), fmRe.bt some ⟨p, toBytes (l ++ d), []⟩ = none →
      ∃ y', scanFuel fmRe (f + 1) p (toBytes (l ++ d)) = some y' ∧ pieces y' = (toBytes l ++ a) :: r
  | [], _, p, hbt => hd p hbt
  | c :: l, hl, p, hbt => by
    obtain ⟨y', hy', hp'⟩ := skip_line f d a r hd l (fun x hx => hl x (by simp [hx])) (some c.toNat)
      (fm_bt_mid (lineStart_char c (hl c (by simp))) _)
    refine ⟨prep c.toNat y', ?_, pieces_prep c.toNat y' _ r hp'⟩
    have := scanFuel_skip fmRe f p c.toNat (toBytes (l ++ d)) hbt
    rw [hy'] at this
    exact this

/-- no match at the start of a line (or just behind a match, where the rest is empty or starts with a newline): the line up to its
end is no marker line -/
theorem not_marker_of_bt_none {p : Option Nat} {l d : Str} (hl : ∀ c ∈ l, (c == '\n') = false) (hd : d = [] ∨ ∃ t, d = '\n' :: t)
    (hcur : lineStart p = true ∨ (l ++ d = [] ∨ ∃ t, l ++ d = '\n' :: t)) (hbt : fmRe.bt some ⟨p, toBytes (l ++ d), []⟩ = none) :
    ∀ x ∈ lineL l, x ≠ "--".toList := by
  intro x hx hxe
  subst hxe
  have hstrip : strip l = "--".toList := by
    unfold lineL at hx
    split at hx
    · cases hx
    · rw [List.mem_singleton] at hx; exact hx.symm
  rcases hcur with hls | hcur
  · obtain ⟨W, W2, hl', hW, hW2⟩ := strip_decomp l
    rw [hstrip] at hl'
    exact fm_bt_ne_none hls ⟨W, W2, by rw [hl']; simp, hW, hW2, hd⟩ hbt
  · have hl0 : l = [] := by
      cases l with
      | nil => rfl
      | cons c l' =>
        rcases hcur with h | ⟨t, h⟩
        · cases h
        · injection h with h _
          have hc := hl c (by simp)
          rw [h] at hc
          cases hc
    subst hl0
    revert hstrip
    decide

/-- **the scan**: from a cursor that is at a line start (or just after a match, where the rest is empty or starts with a newline) -/
theorem scan_fm : ∀ (n : Nat) (s : Str), s.length < n → ∀ (f : Nat) (p : Option Nat), s.length < f →
    (lineStart p = true ∨ (s = [] ∨ ∃ t, s = '\n' :: t)) →
    ∃ y, scanFuel fmRe f p (toBytes s) = some y ∧ (pieces y).map (fun b => linesOf (ofBytes b)) = splitOnMarker (linesOf s) := by
  intro n
  induction n with
  | zero => intro s hn; exact absurd hn (Nat.not_lt_zero _)
  | succ n ih =>
    intro s hn f p hf hcur
    obtain ⟨f, rfl⟩ : ∃ f', f = f' + 1 := ⟨f - 1, by omega⟩
    cases hbt : fmRe.bt some ⟨p, toBytes s, []⟩ with
    | some st =>
      -- a marker: an empty field, then on from behind the match
      obtain ⟨_, rest, hmk, hrest⟩ := fm_bt_some hbt
      have ⟨W, W2, hs, _, _, hr⟩ := hmk
      have hlen : rest.length + 2 ≤ s.length := by
        have := congrArg List.length hs
        simp at this
        omega
      obtain ⟨y, hy, hyp⟩ := ih rest (by omega) f st.prev (by omega) (Or.inr hr)
      obtain ⟨c, t, hct⟩ : ∃ c t, s = c :: t := by
        cases s with
        | nil => simp at hlen
        | cons c t => exact ⟨c, t, rfl⟩
      have hhit := scanFuel_hit fmRe f p c.toNat (toBytes t) st (by rw [← toBytes_cons, ← hct]; exact hbt)
        (by rw [hrest, ← toBytes_cons, ← hct]; simp; omega)
      rw [hrest, hy] at hhit
      refine ⟨(([], st) :: y.1, y.2), by rw [hct]; exact hhit, ?_⟩
      rw [linesOf_marker hmk, splitOnMarker_marker, ← hyp]
      simp [pieces, ofBytes, linesOf_nil]
    | none =>
      -- no marker: the line `l` up to the next newline joins the first field of what follows
      have hsplit : s = s.takeWhile notNl ++ s.dropWhile notNl :=
        (List.takeWhile_append_dropWhile).symm
      have hl := takeWhile_nl s
      have hdn := dropWhile_nl s
      generalize s.takeWhile notNl = l at hsplit hl
      generalize s.dropWhile notNl = d at hsplit hdn
      subst hsplit
      have hnm := not_marker_of_bt_none hl hdn hcur hbt
      rcases hdn with rfl | ⟨t, rfl⟩
      · obtain ⟨y', hy', hp'⟩ := skip_line f [] [] [] (fun p h => ⟨([], []), scanFuel_nil fmRe f p h, rfl⟩) l hl p hbt
        refine ⟨y', hy', ?_⟩
        rw [hp', List.append_nil, List.append_nil]
        simp only [List.map_cons, List.map_nil, ofBytes_toBytes]
        rw [linesOf_line l hl]
        have := splitOnMarker_prefix (lineL l) hnm [] [] [] rfl
        simpa using this.symm
      · obtain ⟨y, hy, hyp⟩ := ih t (by simp at hn; omega) (f + 1) (some 10) (by simp at hf; omega) (Or.inl rfl)
        obtain ⟨a, r, hp⟩ := pieces_exists y
        obtain ⟨y', hy', hp'⟩ := skip_line f ('\n' :: t) (10 :: a) r (fun p h => ⟨prep 10 y, by
          have := scanFuel_skip fmRe f p 10 (toBytes t) h
          rw [hy] at this
          exact this, pieces_prep 10 y a r hp⟩) l hl p hbt
        refine ⟨y', hy', ?_⟩
        rw [hp] at hyp
        simp only [List.map_cons] at hyp
        rw [hp', linesOf_line_nl l t hl]
        simp only [List.map_cons]
        have e : ofBytes (toBytes l ++ 10 :: a) = l ++ '\n' :: ofBytes a := by
          rw [ofBytes_append, ofBytes_toBytes]; rfl
        rw [e, linesOf_line_nl l _ hl]
        exact (splitOnMarker_prefix (lineL l) hnm (linesOf t) _ _ hyp.symm).symm

end FragMarker
open FragMarker

/-- `fragment_marker`, stage by stage: `^` `\s*` `-` `-` `\s*` `$` -/
theorem fragmentMarker_shape : FromStringRegex.fragmentMarker = fmRe := rfl

/-- **fragment_marker**: `re.split(r'^\s*--\s*$', text)` (MULTILINE) by the generic engine on the generated AST, each field then
cut into its non-empty stripped lines, is the list of non-empty stripped lines of the text cut at the lines that are `--` -/
theorem frags_eq_regex (s : Str) : fragsRe s = fragsHand s := by
  unfold fragsRe fragsHand split scan
  rw [fragmentMarker_shape]
  obtain ⟨y, hy, hyp⟩ := scan_fm (s.length + 1) s (Nat.lt_succ_self _) ((toBytes s).length + 1) none (by simp) (Or.inl rfl)
  rw [hy]
  simp only [Option.map_some]
  exact congrArg some hyp

end QcelVerif.MolText
