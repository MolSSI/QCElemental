import QcelVerif.Model.JsonText
import QcelVerif.Lemmas.Serialize
import QcelVerif.Lemmas.Decimal
import QcelVerif.Lib.ListLemmas
/-! Helper lemmas for the JSON text layer of C10 (`Props/C10Text.lean`). -/
namespace QcelVerif.Ser

/-! ### whitespace, literals -/

theorem skipWs_of_head {c : Char} {r : List Char} (h : isJWs c = false) : skipWs (c :: r) = c :: r := by
  simp [skipWs, h]

theorem skipWs_space (r : List Char) : skipWs (' ' :: r) = skipWs r := by
  simp [skipWs, isJWs]

theorem skipWs_all_ws : ∀ (w r : List Char), (∀ c ∈ w, isJWs c = true) → skipWs (w ++ r) = skipWs r
  | [], _, _ => rfl
  | c :: t, r, h => by
    have hc : isJWs c = true := h c (List.mem_cons_self ..)
    have ht : ∀ c' ∈ t, isJWs c' = true := fun c' hc' => h c' (List.mem_cons_of_mem _ hc')
    simp only [List.cons_append, skipWs, hc, if_true]
    exact skipWs_all_ws t r ht

theorem stripPrefix_append : ∀ (p r : List Char), stripPrefix p (p ++ r) = some r
  | [], r => by simp [stripPrefix]
  | a :: p, r => by simp [stripPrefix, stripPrefix_append p r]

/-! ### `\uXXXX` -/

theorem hex4?_hex4 (n : Nat) (h : n < 65536) (r : List Char) : hex4? (hex4 n ++ r) = some (n, r) := by
  have h1 := unhex_hex_digit (n / 4096 % 16) (by omega)
  have h2 := unhex_hex_digit (n / 256 % 16) (by omega)
  have h3 := unhex_hex_digit (n / 16 % 16) (by omega)
  have h4 := unhex_hex_digit (n % 16) (by omega)
  have hn : ((n / 4096 % 16 * 16 + n / 256 % 16) * 16 + n / 16 % 16) * 16 + n % 16 = n := by omega
  show hex4? (hexDigit (n / 4096 % 16) :: hexDigit (n / 256 % 16) :: hexDigit (n / 16 % 16) :: hexDigit (n % 16) :: r) = _
  rw [hex4?, h1, h2, h3, h4]
  simp only [hn]

theorem char_toNat_valid (c : Char) : c.toNat < 0xd800 ∨ (0xdfff < c.toNat ∧ c.toNat < 0x110000) := c.valid

theorem unescape_u (r : List Char) : unescape ('u' :: r) = unescapeU r := rfl

/-- a BMP character written as `\uXXXX` is read back -/
theorem unescape_bmp (c : Char) (h : c.toNat < 0x10000) (r : List Char) :
    unescape ('u' :: hex4 c.toNat ++ r) = .ok (c, r) := by
  have hv := char_toNat_valid c
  have h1 : ¬ (0xd800 ≤ c.toNat ∧ c.toNat < 0xdc00) := by omega
  have h2 : ¬ (0xdc00 ≤ c.toNat ∧ c.toNat < 0xe000) := by omega
  rw [List.cons_append, unescape_u, unescapeU, hex4?_hex4 _ h]
  simp only [if_neg h1, if_neg h2, Char.ofNat_toNat]

theorem unescapeU_pair (H L : Nat) (c : Char) (r : List Char) (hhi : H < 65536) (hlo : L < 65536)
    (h1 : 0xd800 ≤ H ∧ H < 0xdc00) (h2 : 0xdc00 ≤ L ∧ L < 0xe000)
    (hsum : 0x10000 + (H - 0xd800) * 1024 + (L - 0xdc00) = c.toNat) :
    unescapeU (hex4 H ++ (uEsc L ++ r)) = .ok (c, r) := by
  have hsp : stripPrefix ['\\', 'u'] (uEsc L ++ r) = some (hex4 L ++ r) := stripPrefix_append ['\\', 'u'] _
  rw [unescapeU, hex4?_hex4 _ hhi]
  simp only [if_pos h1, hsp, hex4?_hex4 _ hlo, if_pos h2, hsum, Char.ofNat_toNat]

/-- a character beyond the BMP written as a surrogate pair is read back -/
theorem unescape_pair (c : Char) (h : 0x10000 ≤ c.toNat) (r : List Char) :
    unescape ('u' :: hex4 (0xd800 + (c.toNat - 0x10000) / 1024) ++ uEsc (0xdc00 + (c.toNat - 0x10000) % 1024) ++ r) =
      .ok (c, r) := by
  have hv := char_toNat_valid c
  rw [List.append_assoc, List.cons_append, unescape_u]
  exact unescapeU_pair _ _ c r (by omega) (by omega) (by omega) (by omega) (by omega)

/-! ### strings -/

/-- `x`, written inside a JSON string, is read back by `parseStr` as the one character `c`: `c` itself where it needs
no escape, or a backslash and an escape sequence that `unescape` resolves to `c` -/
def Escapes (c : Char) (x : List Char) : Prop :=
  (x = [c] ∧ c ≠ '"' ∧ c ≠ '\\' ∧ ¬ c.toNat < 0x20) ∨ ∃ e, x = '\\' :: e ∧ ∀ r, unescape (e ++ r) = .ok (c, r)

theorem Escapes.length_pos {c : Char} {x : List Char} (h : Escapes c x) : 0 < x.length := by
  obtain ⟨rfl, _⟩ | ⟨e, rfl, _⟩ := h <;> exact Nat.succ_pos _

theorem Escapes.parseStr {c : Char} {x : List Char} (h : Escapes c x) (f : Nat) (r : List Char) :
    parseStr (f + 1) (x ++ r) =
      match parseStr f r with
      | .error e => .error e
      | .ok (cs, r2) => .ok (c :: cs, r2) := by
  obtain ⟨rfl, h1, h2, h3⟩ | ⟨e, rfl, he⟩ := h
  · rw [List.singleton_append, Ser.parseStr, if_neg h1, if_neg h2, if_neg h3]
    rfl
  · rw [List.cons_append, Ser.parseStr, if_neg (by decide), if_pos rfl, he]
    rfl

/-- one arm of `escChar`'s table of two-character escapes -/
theorem Escapes.short {c k e : Char} {x : List Char} (hk : ∀ r, unescape (e :: r) = .ok (k, r))
    (hx : c ≠ k → Escapes c x) : Escapes c (if c = k then ['\\', e] else x) := by
  by_cases h : c = k
  · rw [if_pos h, h]
    exact .inr ⟨[e], rfl, hk⟩
  · rw [if_neg h]
    exact hx h

/-- whatever `escChar` writes for a character is read back as that character -/
theorem escChar_escapes (c : Char) : Escapes c (escChar c) := by
  unfold escChar
  refine .short (fun _ => rfl) fun h1 => .short (fun _ => rfl) fun h2 => .short (fun _ => rfl) fun _ =>
    .short (fun _ => rfl) fun _ => .short (fun _ => rfl) fun _ => .short (fun _ => rfl) fun _ =>
    .short (fun _ => rfl) fun _ => ?_
  by_cases hp : 0x20 ≤ c.toNat ∧ c.toNat ≤ 0x7e
  · rw [if_pos hp]
    exact .inl ⟨rfl, h1, h2, by omega⟩
  rw [if_neg hp]
  by_cases hb : c.toNat < 0x10000
  · rw [if_pos hb]
    exact .inr ⟨_, rfl, unescape_bmp c hb⟩
  · rw [if_neg hb]
    exact .inr ⟨_, rfl, unescape_pair c (by omega)⟩

theorem length_le_escStr : ∀ s : List Char, s.length ≤ (escStr s).length
  | [] => Nat.le_refl _
  | c :: t => by
    have := (escChar_escapes c).length_pos
    have := length_le_escStr t
    simp only [escStr, List.length_append, List.length_cons]
    omega

theorem parseStr_escStr : ∀ (cs : List Char) (fuel : Nat) (rest : List Char), cs.length < fuel →
    parseStr fuel (escStr cs ++ '"' :: rest) = .ok (cs, rest)
  | [], f + 1, rest, _ => by
    rw [escStr, List.nil_append, parseStr, if_pos rfl]
  | c :: t, f + 1, rest, h => by
    rw [escStr, List.append_assoc, (escChar_escapes c).parseStr, parseStr_escStr t f rest (Nat.lt_of_succ_lt_succ h)]

/-- a whole quoted string followed by anything -/
theorem parseStr_printStr (s rest : List Char) :
    parseStr ((escStr s ++ '"' :: rest).length + 1) (escStr s ++ '"' :: rest) = .ok (s, rest) := by
  apply parseStr_escStr
  have := length_le_escStr s
  simp only [List.length_append, List.length_cons]
  omega

/-! ### number tokens -/

/-- what may follow a number: the end of the text or a character that cannot continue a number token (the side
condition on `rest` in `json_text_prefix`, `Props/C10Text.lean`) -/
def stopOK : List Char → Bool
  | [] => true
  | c :: _ => !isNumChar c

theorem span_tok (tok rest : List Char) (h : ∀ c ∈ tok, isNumChar c = true) (hs : stopOK rest = true) :
    (tok ++ rest).takeWhile isNumChar = tok ∧ (tok ++ rest).dropWhile isNumChar = rest :=
  span_append h (by
    cases rest with
    | nil => simp
    | cons c r => simpa [stopOK] using hs)

theorem isNumChar_of_isDigit {c : Char} (h : c.isDigit = true) : isNumChar c = true := by
  simp [isNumChar, h]

theorem isJWs_of_numStart {c : Char} (h : c = '-' ∨ c.isDigit = true) : isJWs c = false := by
  rcases h with rfl | h
  · decide
  · have h' : 48 ≤ c.val ∧ c.val ≤ 57 := by simpa [Char.isDigit] using h
    have h1 : 48 ≤ c.val.toNat := by simpa using (UInt32.le_iff_toNat_le.mp h'.1)
    have e1 : c ≠ ' ' := by intro hc; subst hc; simp at h1
    have e2 : c ≠ '\t' := by intro hc; subst hc; simp at h1
    have e3 : c ≠ '\n' := by intro hc; subst hc; simp at h1
    have e4 : c ≠ '\r' := by intro hc; subst hc; simp at h1
    simp [isJWs, e1, e2, e3, e4]

/-! ### integers -/

/-- a non-empty run of digits without a superfluous leading zero is an `int` token, with or without a minus sign -/
theorem numKind_digits (ds : List Char) (hne : ds ≠ []) (hall : ∀ c ∈ ds, c.isDigit = true)
    (hz : (ds.head? == some '0' && decide (1 < ds.length)) = false) :
    numKind ds = some .int ∧ numKind ('-' :: ds) = some .int := by
  obtain ⟨a, t, rfl⟩ : ∃ a t, ds = a :: t := by
    cases ds with
    | nil => exact absurd rfl hne
    | cons a t => exact ⟨a, t, rfl⟩
  have ha : a ≠ '-' := Decimal.isDigit_ne_minus (hall a (List.mem_cons_self ..))
  have hsp := takeWhile_all Char.isDigit (a :: t) hall
  have hd1 : dropMinus (a :: t) = a :: t := by simp [dropMinus, ha]
  have hd2 : dropMinus ('-' :: a :: t) = a :: t := by simp [dropMinus]
  constructor
  · simp only [numKind, hd1, hsp.1, hsp.2, hz]
    simp
  · simp only [numKind, hd2, hsp.1, hsp.2, hz]
    simp

theorem printInt_spec (i : Int) :
    (∀ c ∈ printInt i, isNumChar c = true) ∧ startsNum (printInt i) = true ∧ numKind (printInt i) = some .int ∧
      intOfTok (printInt i) = i := by
  cases i with
  | ofNat n =>
    have hall := Decimal.toDigits_isDigit n
    have hne : Nat.toDigits 10 n ≠ [] := Nat.toDigits_ne_nil
    have hk := numKind_digits _ hne hall (Decimal.toDigits_no_leading_zero n)
    obtain ⟨a, t, hd⟩ : ∃ a t, Nat.toDigits 10 n = a :: t := by
      cases h : Nat.toDigits 10 n with
      | nil => exact absurd h hne
      | cons a t => exact ⟨a, t, rfl⟩
    have ha : a.isDigit = true := hall a (by rw [hd]; exact List.mem_cons_self ..)
    have ham : a ≠ '-' := Decimal.isDigit_ne_minus ha
    refine ⟨fun c hc => isNumChar_of_isDigit (hall c hc), ?_, hk.1, ?_⟩
    · simp [printInt, hd, startsNum, ha]
    · have h10 := @Nat.ofDigitChars_ten_toDigits n
      simp only [printInt]
      rw [hd] at h10 ⊢
      simp [intOfTok, ham, h10]
  | negSucc n =>
    have hall := Decimal.toDigits_isDigit (n + 1)
    have hne : Nat.toDigits 10 (n + 1) ≠ [] := Nat.toDigits_ne_nil
    have hk := numKind_digits _ hne hall (Decimal.toDigits_no_leading_zero (n + 1))
    refine ⟨?_, ?_, hk.2, ?_⟩
    · intro c hc
      simp only [printInt, List.mem_cons] at hc
      rcases hc with rfl | hc
      · decide
      · exact isNumChar_of_isDigit (hall c hc)
    · simp [printInt, startsNum]
    · have h10 := @Nat.ofDigitChars_ten_toDigits (n + 1)
      simp only [printInt, intOfTok, if_true, h10]
      rfl

/-! ### float tokens -/

theorem tokOk_spec {t : List Char} (h : tokOk t = true) :
    (∀ c ∈ t, isNumChar c = true) ∧ startsNum t = true ∧ numKind t = some .float := by
  simp only [tokOk, Bool.and_eq_true, List.all_eq_true, beq_iff_eq] at h
  exact ⟨h.1.1, h.1.2, h.2⟩

end QcelVerif.Ser
