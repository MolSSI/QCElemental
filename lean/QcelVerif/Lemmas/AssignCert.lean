import QcelVerif.Model.AssignCert
import Mathlib.Algebra.Order.BigOperators.Group.Finset
import Mathlib.Algebra.Order.Ring.Rat
import Mathlib.Data.List.Perm.Subperm
import Mathlib.Data.Finset.Max
import Mathlib.Algebra.BigOperators.Group.Finset.Piecewise
import Mathlib.Tactic.Linarith
import Mathlib.Tactic.Ring
/-!
Helper lemmas for C14 (property theorems are in `Props/C14.lean`): list sums over assignments,
weak duality with slack for wide matrices, and the Bool ↔ Prop bridges of the checker.
-/
namespace QcelVerif.Assign

/-- A complete assignment of an `n × m` matrix (propositional form of `isAssign`). -/
structure IsAssign (n m : Nat) (l : Pairs) : Prop where
  len : l.length = min n m
  inb : ∀ p ∈ l, p.1 < n ∧ p.2 < m
  rows : (l.map Prod.fst).Nodup
  cols : (l.map Prod.snd).Nodup

/-- what holds of every cell holds along an assignment -/
theorem IsAssign.forall_mem {n m : Nat} {l : Pairs} (h : IsAssign n m l) {P : Nat → Nat → Prop}
    (hP : ∀ i < n, ∀ j < m, P i j) : ∀ p ∈ l, P p.1 p.2 :=
  fun p hp => hP p.1 (h.inb p hp).1 p.2 (h.inb p hp).2

theorem nodupB_iff : ∀ l : List Nat, nodupB l = true ↔ l.Nodup
  | [] => by simp [nodupB]
  | a :: l => by simp [nodupB, nodupB_iff l]

theorem isAssign_iff {n m : Nat} {l : Pairs} : isAssign n m l = true ↔ IsAssign n m l := by
  constructor
  · intro h
    simp only [isAssign, Bool.and_eq_true, beq_iff_eq, List.all_eq_true, decide_eq_true_eq, nodupB_iff] at h
    exact ⟨h.1.1.1, h.1.1.2, h.1.2, h.2⟩
  · intro h
    simp only [isAssign, Bool.and_eq_true, beq_iff_eq, List.all_eq_true, decide_eq_true_eq, nodupB_iff]
    exact ⟨⟨⟨h.len, h.inb⟩, h.rows⟩, h.cols⟩

theorem allIdx_iff {n m : Nat} {p : Nat → Nat → Bool} :
    allIdx n m p = true ↔ ∀ i < n, ∀ j < m, p i j = true := by
  simp [allIdx, List.all_eq_true, List.mem_range]

theorem incB_iff : ∀ l : List Nat, incB l = true ↔ l.Pairwise (· < ·)
  | [] => by simp [incB]
  | [_] => by simp [incB]
  | a :: b :: l => by
    rw [incB, Bool.and_eq_true, decide_eq_true_eq, incB_iff (b :: l), List.pairwise_cons (a := a)]
    constructor
    · rintro ⟨hab, hbl⟩
      refine ⟨fun x hx => ?_, hbl⟩
      rcases List.mem_cons.1 hx with rfl | hx
      · exact hab
      · exact lt_trans hab (List.rel_of_pairwise_cons hbl hx)
    · rintro ⟨ha, hbl⟩
      exact ⟨ha b (List.mem_cons_self ..), hbl⟩

/-! ### sums over lists of pairs -/

theorem total_nil (c : Nat → Nat → Rat) : total c [] = 0 := by simp [total]

theorem total_cons (c : Nat → Nat → Rat) (p : Nat × Nat) (l : Pairs) :
    total c (p :: l) = c p.1 p.2 + total c l := by simp [total]

/-- `Σ c = Σ uᵢ + Σ vⱼ + Σ (c − u − v)` along any list of pairs -/
theorem total_split (c : Nat → Nat → Rat) (u v : Nat → Rat) (l : Pairs) :
    total c l = ((l.map Prod.fst).map u).sum + ((l.map Prod.snd).map v).sum
      + total (fun i j => c i j - u i - v j) l := by
  induction l with
  | nil => simp [total]
  | cons p l ih =>
    simp only [total_cons, List.map_cons, List.sum_cons, ih]
    ring

theorem total_congr {r r' : Nat → Nat → Rat} {l : Pairs} (h : ∀ p ∈ l, r p.1 p.2 = r' p.1 p.2) :
    total r l = total r' l :=
  congrArg List.sum (List.map_congr_left h)

theorem total_ge (r : Nat → Nat → Rat) (ε : Rat) (l : Pairs) (h : ∀ p ∈ l, -ε ≤ r p.1 p.2) :
    -((l.length : Rat) * ε) ≤ total r l := by
  have := List.card_nsmul_le_sum (l.map fun p => r p.1 p.2) (-ε) (List.forall_mem_map.2 h)
  rwa [List.length_map, nsmul_eq_mul, mul_neg] at this

theorem total_nonneg (r : Nat → Nat → Rat) (l : Pairs) (h : ∀ p ∈ l, 0 ≤ r p.1 p.2) : 0 ≤ total r l :=
  List.sum_nonneg (List.forall_mem_map.2 h)

theorem total_zero_of_nonneg (r : Nat → Nat → Rat) (l : Pairs) (h0 : ∀ p ∈ l, 0 ≤ r p.1 p.2)
    (hs : total r l ≤ 0) : ∀ p ∈ l, r p.1 p.2 = 0 :=
  fun _ hp => List.all_zero_of_le_zero_le_of_sum_eq_zero (List.forall_mem_map.2 h0)
    (le_antisymm hs (total_nonneg r l h0)) (List.mem_map_of_mem hp)

theorem le_total_of_nonneg (r : Nat → Nat → Rat) (l : Pairs) (h0 : ∀ q ∈ l, 0 ≤ r q.1 q.2) :
    ∀ p ∈ l, r p.1 p.2 ≤ total r l :=
  fun _ hp => List.single_le_sum (List.forall_mem_map.2 h0) _ (List.mem_map_of_mem hp)

theorem total_eq_zero (r : Nat → Nat → Rat) (l : Pairs) (h : ∀ p ∈ l, r p.1 p.2 = 0) : total r l = 0 := by
  have : total r l = total (fun _ _ => 0) l := total_congr h
  rw [this]; simp [total]

/-- a duplicate-free list of `n` numbers below `n` is a permutation of `0 … n-1` -/
theorem perm_range_of {l : List Nat} {n : Nat} (hnd : l.Nodup) (hlen : l.length = n)
    (hlt : ∀ x ∈ l, x < n) : l.Perm (List.range n) := by
  apply List.Subperm.perm_of_length_le
  · exact List.subperm_of_subset hnd (fun x hx => List.mem_range.2 (hlt x hx))
  · simp [hlen]

/-- the rows of a complete assignment of a wide matrix are all the rows -/
theorem rows_sum_eq {n m : Nat} (hnm : n ≤ m) (u : Nat → Rat) {l : Pairs} (h : IsAssign n m l) :
    ((l.map Prod.fst).map u).sum = ((List.range n).map u).sum := by
  have hp : (l.map Prod.fst).Perm (List.range n) :=
    perm_range_of h.rows (by simp [h.len, Nat.min_eq_left hnm])
      (fun x hx => by
        obtain ⟨p, hp, rfl⟩ := List.mem_map.1 hx
        exact (h.inb p hp).1)
  exact (hp.map u).sum_eq

/-! ### exchanging the column sets -/

theorem finset_sum_swap_le {A B : Finset Nat} (v : Nat → Rat) (δ : Rat) (hδ : 0 ≤ δ)
    (hcard : A.card = B.card) (h : ∀ j ∈ A, ∀ k ∈ B, k ∉ A → v j ≤ v k + δ) :
    ∑ x ∈ A, v x ≤ ∑ x ∈ B, v x + (A.card : Rat) * δ := by
  have hA : ∑ x ∈ A ∩ B, v x + ∑ x ∈ A \ B, v x = ∑ x ∈ A, v x := Finset.sum_inter_add_sum_sdiff A B v
  have hB : ∑ x ∈ B ∩ A, v x + ∑ x ∈ B \ A, v x = ∑ x ∈ B, v x := Finset.sum_inter_add_sum_sdiff B A v
  rw [Finset.inter_comm B A] at hB
  have c1 := Finset.card_sdiff_add_card_inter A B
  have c2 := Finset.card_sdiff_add_card_inter B A
  rw [Finset.inter_comm B A] at c2
  have hc : (A \ B).card = (B \ A).card := by omega
  have hle : ((A \ B).card : Rat) * δ ≤ (A.card : Rat) * δ :=
    mul_le_mul_of_nonneg_right (Nat.cast_le.2 (Finset.card_le_card Finset.sdiff_subset)) hδ
  by_cases hne : (B \ A).Nonempty
  · obtain ⟨k0, hk0, hmin⟩ := Finset.exists_min_image (B \ A) v hne
    have hk0' := Finset.mem_sdiff.1 hk0
    have h1 : ∑ x ∈ A \ B, v x ≤ (A \ B).card • (v k0 + δ) :=
      Finset.sum_le_card_nsmul _ _ _ (fun x hx => h x (Finset.mem_sdiff.1 hx).1 k0 hk0'.1 hk0'.2)
    have h2 : (B \ A).card • v k0 ≤ ∑ x ∈ B \ A, v x :=
      Finset.card_nsmul_le_sum _ _ _ (fun x hx => hmin x hx)
    rw [nsmul_eq_mul, hc, mul_add] at h1
    rw [nsmul_eq_mul] at h2
    rw [hc] at hle
    linarith only [hA, hB, h1, h2, hle]
  · rw [Finset.not_nonempty_iff_eq_empty] at hne
    have hz : (A \ B).card = 0 := by rw [hc, hne]; simp
    have hz' : A \ B = ∅ := Finset.card_eq_zero.1 hz
    rw [hne] at hB
    rw [hz'] at hA
    simp only [Finset.sum_empty, add_zero] at hA hB
    have : 0 ≤ (A.card : Rat) * δ := mul_nonneg (Nat.cast_nonneg _) hδ
    linarith only [hA, hB, this]

theorem cols_sum_le (v : Nat → Rat) (δ : Rat) (hδ : 0 ≤ δ) {S T : List Nat}
    (hS : S.Nodup) (hT : T.Nodup) (hlen : S.length = T.length)
    (h : ∀ j ∈ S, ∀ k ∈ T, k ∉ S → v j ≤ v k + δ) :
    (S.map v).sum ≤ (T.map v).sum + (S.length : Rat) * δ := by
  have := finset_sum_swap_le (A := S.toFinset) (B := T.toFinset) v δ hδ
    (by rw [List.toFinset_card_of_nodup hS, List.toFinset_card_of_nodup hT, hlen])
    (by simpa using h)
  rw [List.sum_toFinset v hS, List.sum_toFinset v hT, List.toFinset_card_of_nodup hS] at this
  exact this

/-! ### weak duality with slack, wide orientation -/

/-- For any potentials `u, v` and complete assignments `σ, τ` of a wide matrix: the row potentials sum to
the same on both, so the costs differ by the residuals and the column potentials, and the latter differ
by at most `n δ` when every matched column's potential exceeds no unmatched column's by more than `δ`. -/
theorem duality_wide {n m : Nat} (hnm : n ≤ m) (c : Nat → Nat → Rat) (u v : Nat → Rat)
    (δ : Rat) (hδ : 0 ≤ δ) {σ τ : Pairs} (hσ : IsAssign n m σ) (hτ : IsAssign n m τ)
    (hv : ∀ p ∈ σ, ∀ k < m, k ∉ σ.map Prod.snd → v p.2 ≤ v k + δ) :
    total c σ + total (fun i j => c i j - u i - v j) τ
      ≤ total c τ + total (fun i j => c i j - u i - v j) σ + (n : Rat) * δ := by
  have e1 := total_split c u v σ
  have e2 := total_split c u v τ
  have r1 := rows_sum_eq hnm u hσ
  have r2 := rows_sum_eq hnm u hτ
  have lσ : σ.length = n := by rw [hσ.len, Nat.min_eq_left hnm]
  have lτ : τ.length = n := by rw [hτ.len, Nat.min_eq_left hnm]
  have hc := cols_sum_le v δ hδ hσ.cols hτ.cols (by simp [lσ, lτ])
    (fun j hj k hk hkn => by
      obtain ⟨p, hp, rfl⟩ := List.mem_map.1 hj
      obtain ⟨q, hq, rfl⟩ := List.mem_map.1 hk
      exact hv p hp q.2 (hτ.inb q hq).2 hkn)
  simp only [List.length_map, lσ] at hc
  linarith

/-- Weak duality with slack: if moreover the residual `c − u − v` is `≥ −ε` everywhere, then the chosen
assignment is within `Σ_σ residual + n ε + n δ` of *every* complete assignment. -/
theorem weak_duality_wide {n m : Nat} (hnm : n ≤ m) (c : Nat → Nat → Rat) (u v : Nat → Rat)
    (ε δ : Rat) (hδ : 0 ≤ δ) {σ τ : Pairs} (hσ : IsAssign n m σ) (hτ : IsAssign n m τ)
    (hr : ∀ i < n, ∀ j < m, -ε ≤ c i j - u i - v j)
    (hv : ∀ p ∈ σ, ∀ k < m, k ∉ σ.map Prod.snd → v p.2 ≤ v k + δ) :
    total c σ ≤ total c τ + total (fun i j => c i j - u i - v j) σ + (n : Rat) * ε + (n : Rat) * δ := by
  have hd := duality_wide hnm c u v δ hδ hσ hτ hv
  have hg := total_ge (fun i j => c i j - u i - v j) ε τ (hτ.forall_mem hr)
  rw [hτ.len, Nat.min_eq_left hnm] at hg
  linarith

/-! ### transposition -/

theorem map_fst_swap (l : Pairs) : (l.map swap).map Prod.fst = l.map Prod.snd := by
  simp [List.map_map, Function.comp_def, swap]

theorem map_snd_swap (l : Pairs) : (l.map swap).map Prod.snd = l.map Prod.fst := by
  simp [List.map_map, Function.comp_def, swap]

theorem IsAssign.swap {n m : Nat} {l : Pairs} (h : IsAssign n m l) : IsAssign m n (l.map swap) := by
  refine ⟨by simp [h.len, Nat.min_comm], ?_, by rw [map_fst_swap]; exact h.cols, by rw [map_snd_swap]; exact h.rows⟩
  intro p hp
  obtain ⟨q, hq, rfl⟩ := List.mem_map.1 hp
  exact ⟨(h.inb q hq).2, (h.inb q hq).1⟩

theorem total_tr_swap (c : Nat → Nat → Rat) (l : Pairs) : total (tr c) (l.map swap) = total c l := by
  simp [total, List.map_map, Function.comp_def, swap, tr]

/-! ### `maxL` -/

theorem foldl_max_ge_acc (l : List Rat) (a : Rat) : a ≤ l.foldl (fun a x => if a < x then x else a) a := by
  induction l generalizing a with
  | nil => simp
  | cons x l ih =>
    simp only [List.foldl_cons]
    split
    · exact le_trans (le_of_lt ‹a < x›) (ih x)
    · exact ih a

theorem foldl_max_ge_mem (l : List Rat) (a : Rat) {x : Rat} (hx : x ∈ l) :
    x ≤ l.foldl (fun a x => if a < x then x else a) a := by
  induction l generalizing a with
  | nil => simp at hx
  | cons y l ih =>
    simp only [List.foldl_cons]
    rcases List.mem_cons.1 hx with rfl | hx
    · split
      · exact foldl_max_ge_acc l x
      · exact le_trans (not_lt.1 ‹¬ a < x›) (foldl_max_ge_acc l a)
    · exact ih _ hx

theorem maxL_nonneg (l : List Rat) : 0 ≤ maxL l := foldl_max_ge_acc l 0
theorem le_maxL {l : List Rat} {x : Rat} (hx : x ∈ l) : x ≤ maxL l := foldl_max_ge_mem l 0 hx

theorem neg_le_of_negPart_le {x e : Rat} (h : negPart x ≤ e) (he : 0 ≤ e) : -e ≤ x := by
  unfold negPart at h
  split at h <;> linarith

theorem le_of_posPart_le {x d : Rat} (h : posPart x ≤ d) (hd : 0 ≤ d) : x ≤ d := by
  unfold posPart at h
  split at h <;> linarith

theorem epsOf_spec (n m : Nat) (c red : Nat → Nat → Rat) :
    ∀ i < n, ∀ j < m, -epsOf n m c red ≤ resid c red i j := by
  intro i hi j hj
  have h0 : 0 ≤ epsOf n m c red := maxL_nonneg _
  apply neg_le_of_negPart_le _ h0
  have h1 : negPart (resid c red i j) ≤ maxL ((List.range m).map fun j => negPart (resid c red i j)) :=
    le_maxL (List.mem_map.2 ⟨j, List.mem_range.2 hj, rfl⟩)
  have h2 : maxL ((List.range m).map fun j => negPart (resid c red i j)) ≤ epsOf n m c red :=
    le_maxL (List.mem_map.2 ⟨i, List.mem_range.2 hi, rfl⟩)
  exact le_trans h1 h2

theorem deltaOf_spec (m : Nat) (c red : Nat → Nat → Rat) (σ : Pairs) :
    ∀ p ∈ σ, ∀ k < m, k ∉ σ.map Prod.snd → vPot c red p.2 ≤ vPot c red k + deltaOf m c red σ := by
  intro p hp k hk hkn
  have h0 : 0 ≤ deltaOf m c red σ := maxL_nonneg _
  have hcont : (σ.map Prod.snd).contains k = false := by
    simpa using hkn
  have h1 : posPart (vPot c red p.2 - vPot c red k)
      ≤ maxL (σ.map fun p => posPart (vPot c red p.2 - vPot c red k)) :=
    le_maxL (List.mem_map.2 ⟨p, hp, rfl⟩)
  have h2 : maxL (σ.map fun p => posPart (vPot c red p.2 - vPot c red k)) ≤ deltaOf m c red σ := by
    apply le_maxL
    refine List.mem_map.2 ⟨k, List.mem_range.2 hk, ?_⟩
    simp only [hcont]
    simp
  have := le_of_posPart_le (le_trans h1 h2) h0
  linarith

end QcelVerif.Assign
