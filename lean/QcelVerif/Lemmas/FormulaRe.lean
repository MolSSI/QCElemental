import QcelVerif.Model.FormulaRe
import QcelVerif.Lemmas.RegexFindall
import QcelVerif.Lemmas.FormulaStr
/-!
Lemmas tying the hand-written regex cuts of `Model/Formula.lean` (`cutUpper`, `splitCount`) to the generic regex engine
run on the two ASTs of `Gen/FormulaRegex.lean` (C15).  Nothing here is a property statement
(those are in `Props/C15Regex.lean`).  The ASTs appear here as the literal terms `cutShape` / `splitShape`;
`Props/C15Regex.lean` proves by `rfl` that the generated terms are these.
-/
namespace QcelVerif.Formula
open QcelVerif.Regex

/-- CPython's parse tree of `[A-Z][^A-Z]*` -/
def cutShape : Re := .seq (.cls false [.range 65 90]) (.rep 0 none true (.cls true [.range 65 90]))
/-- CPython's parse tree of `(\D+)(\d*)` -/
def splitShape : Re :=
  .seq (.group 1 (.rep 1 none true (.cls false [.notDigit]))) (.group 2 (.rep 0 none true (.cls false [.digit])))

/-! ### the engine's classes on code points are the hand model's character tests -/

theorem cls_upper (c : Char) : clsMem false [.range 65 90] c.toNat = isAsciiUpper c := by
  rw [Bool.eq_iff_iff, upper_iff]; simp [clsMem, Item.mem]

theorem cls_notUpper (c : Char) : clsMem true [.range 65 90] c.toNat = !isAsciiUpper c := by
  rw [← cls_upper]
  simp [clsMem]

theorem cls_digit (c : Char) : clsMem false [.digit] c.toNat = isAsciiDigit c := by
  rw [Bool.eq_iff_iff, digit_iff]; simp [clsMem, Item.mem, isDigitC]

theorem cls_notDigit (c : Char) : clsMem false [.notDigit] c.toNat = !isAsciiDigit c := by
  rw [← cls_digit]
  simp [clsMem, Item.mem]

theorem takeWhile_codes (p : Nat → Bool) (q : Char → Bool) (h : ∀ c, p c.toNat = q c) (l : List Char) :
    (toCodes l).takeWhile p = toCodes (l.takeWhile q) :=
  takeWhile_map_of h l

theorem dropWhile_codes (p : Nat → Bool) (q : Char → Bool) (h : ∀ c, p c.toNat = q c) (l : List Char) :
    (toCodes l).dropWhile p = toCodes (l.dropWhile q) :=
  dropWhile_map_of h l

theorem ofCodes_toCodes (l : List Char) : ofCodes (toCodes l) = l := by
  simp [ofCodes, toCodes, Function.comp_def]

theorem toCodes_append (a b : List Char) : toCodes (a ++ b) = toCodes a ++ toCodes b := by simp [toCodes]

theorem toCodes_injective {a b : List Char} (h : toCodes a = toCodes b) : a = b := by
  rw [← ofCodes_toCodes a, ← ofCodes_toCodes b, h]

/-! ### `[A-Z][^A-Z]*`: one attempt, then the whole scan -/

abbrev upN : Nat → Bool := clsMem false [.range 65 90]
abbrev nupN : Nat → Bool := clsMem true [.range 65 90]

theorem ms_cut_head (prev : Option Nat) (c : Nat) (t : List Nat) (caps : Caps) :
    (cutShape.ms ⟨prev, c :: t, caps⟩).head? =
      if upN c then some ⟨lastOr (some c) (t.takeWhile nupN), t.dropWhile nupN, caps⟩ else none := by
  rw [cutShape, ms_seq_cls]
  split
  · rw [ms_rep_cls_head, if_pos (Nat.zero_le _)]
    rfl
  · rfl

theorem ms_cut_nil (prev : Option Nat) (caps : Caps) : cutShape.ms ⟨prev, [], caps⟩ = [] := rfl

theorem scan_cut_nil (prev : Option Nat) : scan cutShape 0 prev [] = [] := by
  rw [scan_zero_nil]
  unfold atPos
  rw [matchAt_false, ms_cut_nil]
  rfl

theorem scan_cut_other (prev : Option Nat) (c : Nat) (t : List Nat) (hc : upN c = false) :
    scan cutShape 0 prev (c :: t) = scan cutShape 0 (some c) t := by
  have hap : atPos cutShape prev (c :: t) = ([], 1) := by
    unfold atPos
    rw [matchAt_false, ms_cut_head]
    simp [hc]
  rw [scan_zero_cons, hap]
  rfl

theorem scan_cut_upper (prev : Option Nat) (c : Nat) (t : List Nat) (hc : upN c = true) :
    scan cutShape 0 prev (c :: t) =
      ⟨c :: t.takeWhile nupN, []⟩ :: scan cutShape 0 (lastOr (some c) (t.takeWhile nupN)) (t.dropWhile nupN) := by
  have hsplit : t = t.takeWhile nupN ++ t.dropWhile nupN := (List.takeWhile_append_dropWhile).symm
  have hlen : t.length = (t.takeWhile nupN).length + (t.dropWhile nupN).length := by
    rw [← List.length_append, ← hsplit]
  have hap : atPos cutShape prev (c :: t) = ([⟨c :: t.takeWhile nupN, []⟩], (t.takeWhile nupN).length + 1) := by
    unfold atPos
    rw [matchAt_false, ms_cut_head]
    simp only [hc, if_true, List.length_cons]
    rw [if_pos (by omega)]
    have htd : takeDiff (c :: t) (t.dropWhile nupN) = c :: t.takeWhile nupN :=
      takeDiff_of_append (congrArg (c :: ·) hsplit)
    simp only [foundOf, htd]
    congr 1
    omega
  rw [scan_zero_cons, hap]
  simp only [List.singleton_append, Nat.add_sub_cancel]
  congr 1
  conv => lhs; arg 4; rw [hsplit]
  exact scan_skip cutShape _ _ _

/-! ### the hand cut, by the same recursion -/

theorem cutUpper_fst (l : List Char) : (cutUpper l).1 = l.takeWhile (fun c => !isAsciiUpper c) := by
  induction l with
  | nil => rfl
  | cons c t ih =>
    by_cases hc : isAsciiUpper c = true
    · simp [cutUpper, hc]
    · simp [cutUpper, hc, ih]

theorem cutUpper_other (c : Char) (t : List Char) (hc : isAsciiUpper c = false) :
    (cutUpper (c :: t)).2 = (cutUpper t).2 := by
  simp [cutUpper, hc]

/-- the text in front of the first upper-case letter belongs to no chunk -/
theorem cutUpper_snd_dropWhile (l : List Char) : (cutUpper (l.dropWhile fun c => !isAsciiUpper c)).2 = (cutUpper l).2 := by
  induction l with
  | nil => rfl
  | cons c t ih =>
    by_cases hc : isAsciiUpper c = true
    · simp [hc]
    · simp [hc, cutUpper, ih]

theorem cutUpper_upper (c : Char) (t : List Char) (hc : isAsciiUpper c = true) :
    (cutUpper (c :: t)).2 = (c :: t.takeWhile (fun c => !isAsciiUpper c)) :: (cutUpper (t.dropWhile (fun c => !isAsciiUpper c))).2 := by
  rw [cutUpper_snd_dropWhile, ← cutUpper_fst]
  simp [cutUpper, hc]

/-- the chunks concatenated, after the unmatched prefix, are the text -/
theorem cutUpper_join (l : List Char) : (cutUpper l).1 ++ (cutUpper l).2.flatten = l := by
  induction l with
  | nil => rfl
  | cons c t ih =>
    by_cases hc : isAsciiUpper c = true
    · simp only [cutUpper, hc, if_true, List.nil_append, List.flatten_cons, List.cons_append]
      rw [ih]
    · simp only [cutUpper, hc, Bool.false_eq_true, if_false, List.cons_append]
      rw [ih]

/-- every chunk starts with an upper-case letter -/
theorem cutUpper_chunk_head (l : List Char) : ∀ m ∈ (cutUpper l).2, ∃ c body, m = c :: body ∧ isAsciiUpper c = true := by
  induction l with
  | nil => intro m hm; simp [cutUpper] at hm
  | cons c t ih =>
    intro m hm
    by_cases hc : isAsciiUpper c = true
    · simp only [cutUpper, hc, if_true, List.mem_cons] at hm
      rcases hm with rfl | hm
      · exact ⟨c, _, rfl, hc⟩
      · exact ih m hm
    · simp only [cutUpper, hc, Bool.false_eq_true, if_false] at hm
      exact ih m hm

/-! ### `(\D+)(\d*)`: the first way to match -/

abbrev ndN : Nat → Bool := clsMem false [.notDigit]
abbrev dN : Nat → Bool := clsMem false [.digit]

theorem matchPrefix_split (s : List Nat) :
    splitShape.matchPrefix s =
      if 1 ≤ (s.takeWhile ndN).length then
        some ⟨lastOr (lastOr none (s.takeWhile ndN)) ((s.dropWhile ndN).takeWhile dN), (s.dropWhile ndN).dropWhile dN,
              [(2, (s.dropWhile ndN).takeWhile dN), (1, s.takeWhile ndN)]⟩
      else none := by
  rw [matchPrefix_eq_head, splitShape, ms_seq,
    head?_flatMap_of_isSome _ _ (fun st => by rw [ms_group_rep_cls_head]; simp), ms_group_rep_cls_head]
  simp only [St.init]
  by_cases h : 1 ≤ (s.takeWhile ndN).length <;> simp [h, ms_group_rep_cls_head]

end QcelVerif.Formula
