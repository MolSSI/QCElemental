import QcelVerif.Model.ReconC06
import QcelVerif.Lemmas.NucleusMatch
import QcelVerif.Props.C06Idem
import QcelVerif.Props.C04
/-!
Helper lemmas for `Props/C04C06.lean`: the adapter between C04's `Clue`/`Nuc` and C06's
`Input`/`Output` (strings ↔ byte lists, what the parser can put in a user tag, `real` stays a
`bool`, the returned mass is a rounded number) and the atoms of a record.
The file sits above two Props files because its lemmas are about their objects: `Inv`, `clueOf`, `fromArrays_ok`,
`from_arrays_idempotent_on` of `Props/C04.lean`; `reconcileWith_spec` of `Props/C06Sound.lean` and
`Output.pyEq_iff` of `Props/C06Hist.lean` (both reached through `Props/C06Idem.lean`, which `Props/C04C06.lean` uses).
-/
namespace QcelVerif.FromArrays
open QcelVerif.PStr QcelVerif.Nucleus

theorem toNat_ofNat_valid (n : Nat) (h : n.isValidChar) : (Char.ofNat n).toNat = n := by
  unfold Char.ofNat
  rw [dif_pos h]
  rfl

/-- a byte list of code points survives the trip through `String` -/
theorem ofString_toStr (b : Bytes) (h : ∀ x ∈ b, Nat.isValidChar x) : ofString (toStr b) = b := by
  unfold ofString toStr
  rw [String.toList_ofList, List.map_map]
  exact map_eq_self fun x hx => toNat_ofNat_valid x (h x hx)

theorem ofString_valid (s : String) : ∀ x ∈ ofString s, Nat.isValidChar x := by
  intro x hx
  unfold ofString at hx
  obtain ⟨c, _, rfl⟩ := List.mem_map.mp hx
  exact c.valid

theorem unpackAux_lt : ∀ (f n : Nat) (acc : Bytes), (∀ x ∈ acc, x < 256) → ∀ x ∈ unpackAux f n acc, x < 256
  | 0, _, acc, h => by simpa [unpackAux] using h
  | f + 1, n, acc, h => by
      unfold unpackAux
      split
      · exact h
      · apply unpackAux_lt f
        intro x hx
        rcases List.mem_cons.mp hx with rfl | hx
        · exact Nat.mod_lt _ (by omega)
        · exact h x hx

theorem unpack_valid (n : Nat) : ∀ x ∈ unpack n, Nat.isValidChar x := by
  intro x hx
  have := unpackAux_lt 96 n [] (by simp) x hx
  exact Or.inl (by omega)

theorem toLower_valid (x : Nat) (h : Nat.isValidChar x) : Nat.isValidChar (toLower x) := by
  unfold toLower isUpper
  split
  · rename_i hu
    simp only [Bool.and_eq_true, decide_eq_true_eq] at hu
    exact Or.inl (by omega)
  · exact h

theorem lower_valid (b : Bytes) (h : ∀ x ∈ b, Nat.isValidChar x) : ∀ x ∈ PStr.lower b, Nat.isValidChar x := by
  intro x hx
  unfold PStr.lower at hx
  obtain ⟨y, hy, rfl⟩ := List.mem_map.mp hx
  exact toLower_valid y (h y hy)

theorem wordByte_valid {x : Nat} (h : isWord x = true) : Nat.isValidChar x := by
  unfold isWord isAlpha isUpper isLower isDigit at h
  simp only [Bool.or_eq_true, Bool.and_eq_true, decide_eq_true_eq, beq_iff_eq] at h
  exact Or.inl (by omega)

theorem parseLabel_user_valid {s : Bytes} {L : Label} (h : parseLabel s = some L) :
    ∀ u, L.user = some u → ∀ x ∈ u, Nat.isValidChar x := by
  unfold parseLabel matchNucleus at h
  cases hm : (allMatches s).head? with
  | none => rw [hm] at h; cases h
  | some g =>
    rw [hm] at h
    simp only [Option.map_some, Option.some.injEq] at h
    subst h
    obtain ⟨_, _, h1, h2, _⟩ := mem_allMatches_classes (List.mem_of_head? hm)
    intro u hu x hx
    simp only at hu
    cases hu1 : g.user1 with
    | some u1 => rw [hu1] at hu; cases hu; exact wordByte_valid (List.all_eq_true.1 (h1 u hu1).2 x hx)
    | none => rw [hu1] at hu; exact wordByte_valid (List.all_eq_true.1 (h2 u hu).2 x hx)

/-- the user tag returned for an adapter input consists of code points -/
theorem expectedUser_valid (st : NucSettings) (c : Clue) :
    ∀ x ∈ expectedUser (toInput st c), Nat.isValidChar x := by
  unfold expectedUser
  cases hl : (toInput st c).label with
  | none => intro x hx; cases hx
  | some l =>
    have hlv : ∀ x ∈ l, Nat.isValidChar x := by
      unfold toInput at hl
      simp only at hl
      cases hc : c.label with
      | none => rw [hc] at hl; cases hl
      | some s => rw [hc] at hl; cases hl; exact ofString_valid s
    simp only
    split
    · cases hp : parseLabel l with
      | none => intro x hx; cases hx
      | some L =>
        simp only
        cases hu : L.user with
        | none => intro x hx; simp [PStr.lower] at hx
        | some u =>
          simp only [Option.getD_some]
          exact lower_valid u (parseLabel_user_valid hp u hu)
    · exact lower_valid l hlv

/-- with a `bool` (or no) real clue the model returns a `bool` -/
theorem real_is_bool {N : NTables} {rd rng} {st : NucSettings} {c : Clue} {o : Output}
    (h : reconcileWith N rd rng (toInput st c) = .ok o) : ∃ b, o.real = .bool b := by
  rcases (reconcileWith_spec h).realFrom with h | h | ⟨L, _, h⟩
  · exact ⟨true, h⟩
  · cases hc : c.real with
    | none => simp [toInput, hc] at h
    | some b => simp [toInput, hc] at h; exact ⟨b, h.symm⟩
  · exact ⟨L.real, h⟩

theorem realOf_bool (b : Bool) : realOf (.bool b) = b := by
  cases b <;> decide

/-- `toNuc` only sees an output up to Python `==` -/
theorem toNuc_congr {o o' : Output} (h : Output.pyEq o' o = true) : toNuc o' = toNuc o := by
  obtain ⟨h1, h2, h3, h4, h5, h6⟩ := (Output.pyEq_iff o' o).mp h
  unfold toNuc realOf
  rw [h1, h2, h3, h4, h5, h6]

theorem tableMass_rounded {N : NTables} {rd : Rat → Rat} (hidem : ∀ x, rd (rd x) = rd x) {k : PT.PyVal} {m : Rat}
    (h : tableMass N rd k = .ok m) : rd m = m := by
  obtain ⟨_, _, _, _, rfl⟩ := tableMass_ok.mp h
  exact hidem _

/-- the returned mass is a rounded number (a table mass or a mass clue, both `float(...)`) -/
theorem mass_rounded {N : NTables} {rd : Rat → Rat} {rng} (hidem : ∀ x, rd (rd x) = rd x)
    {i : Input} {o : Output} (h : reconcileWith N rd rng i = .ok o) : rd o.mass = o.mass := by
  rcases (reconcileWith_spec h).massFrom with h | ⟨_, _, h⟩ | h
  · exact tableMass_rounded hidem h
  · exact tableMass_rounded hidem h
  · exact h.rounded hidem

theorem massToAStr_toNuc (N : NTables) (rd : Rat → Rat) (o : Output) (mtol : Rat) :
    massToAStr N rd (toNuc o).E mtol (toNuc o).mass = massToA N rd o.E mtol o.mass := by
  unfold massToAStr massToA toNuc
  simp only [ofString_toStr _ (unpack_valid o.E)]
  rfl

/-- the user tag of an answer to an adapter input survives the trip through `String` -/
theorem ofString_toStr_user {N : NTables} {rd rng} {st : NucSettings} {c : Clue} {o : Output}
    (h : reconcileWith N rd rng (toInput st c) = .ok o) : ofString (toStr o.user) = o.user :=
  ofString_toStr _ ((reconcileWith_spec h).user ▸ expectedUser_valid st c)

/-- the clues of the second call, through the adapter, are C06's `feedback` -/
theorem toInput_clueOf {N : NTables} {rd rng} {st : NucSettings} {c : Clue} {o : Output}
    (h : reconcileWith N rd rng (toInput st c) = .ok o) :
    toInput { st with speclabel := false } (clueOf (toNuc o)) = feedback (toInput st c) o := by
  obtain ⟨b, hb⟩ := real_is_bool h
  have he : ofString (toStr (unpack o.E)) = unpack o.E := ofString_toStr _ (unpack_valid o.E)
  unfold toInput clueOf feedback toNuc
  simp only [hb, realOf_bool, Option.map_some, ofString_toStr_user h, he]
  by_cases hA : o.A = -1 <;> simp [hA]

theorem nucsOf_maps : ∀ nucs : List Nuc,
    nucsOf (nucs.map (·.A)) (nucs.map (·.Z)) (nucs.map (·.E)) (nucs.map (·.mass)) (nucs.map (·.real))
      (nucs.map (·.label)) = nucs
  | [] => rfl
  | u :: t => by
      simp only [List.map_cons, nucsOf]
      rw [nucsOf_maps t]

/-- the atoms of a returned record are the reconciler's answers, in order -/
theorem recNucs_of_ok {env : Env} {i : Inp} {r : Molrec} (h : fromArrays env i = .ok r) :
    validateNuclei env.recon (r.geom.length / 3) i = .ok (recNucs r) := by
  obtain ⟨g, u, nucs, fr, cm, com, orient, _, _, _, hn, _, _, _, _, rfl⟩ := fromArrays_ok h
  simp only [recNucs, nucsOf_maps]
  exact hn

/-- the six per-atom arrays of a record that satisfies the invariant are the columns of its atoms -/
theorem Inv.cols_recNucs {valid a st tc} {r : Molrec} (I : Inv valid a st tc r) :
    r.elea = (recNucs r).map (·.A) ∧ r.elez = (recNucs r).map (·.Z) ∧ r.elem = (recNucs r).map (·.E) ∧
    r.mass = (recNucs r).map (·.mass) ∧ r.real = (recNucs r).map (·.real) ∧ r.elbl = (recNucs r).map (·.label) := by
  obtain ⟨nucs, e1, e2, e3, e4, e5, e6, _⟩ := I.cols
  have : recNucs r = nucs := by simp only [recNucs, e1, e2, e3, e4, e5, e6, nucsOf_maps]
  rw [this]
  exact ⟨e1, e2, e3, e4, e5, e6⟩

/-- **Fixed point, hypothesis on the record's own atoms only.**  As `from_arrays_idempotent`, but the
reconciler need only reproduce the atoms that are in the record.  This is `from_arrays_idempotent_on`
(`Props/C04.lean`) with its hypothesis, there about whatever list `validateNuclei` returns, stated on `recNucs r`. -/
theorem from_arrays_idempotent_of (env : Env) (i : Inp) (r : Molrec) (h : fromArrays env i = .ok r)
    (hid : ∀ u ∈ recNucs r, env.recon { nucSettings i with speclabel := false } (clueOf u) = .ok u) :
    fromArrays env (asInput i r) = .ok r := by
  refine from_arrays_idempotent_on env i r h fun nucs hn => ?_
  rw [recNucs_of_ok h] at hn
  cases hn
  exact hid

end QcelVerif.FromArrays
