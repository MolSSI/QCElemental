import QcelVerif.Lemmas.FragmentsAst
/-!
# A program logic for the statement evaluator of `Model/FragmentsAst.lean`

`exec_frame`: a run of `s` is a `Frame (writes s)`, `writes s` read off the syntax.  So a lemma about a statement says what it leaves
in the slots it writes, given what it finds in the slots it reads; everything else follows from `wp_frame`.  `wp_forIn` / `wp_forEnum`:
a loop keeps an invariant indexed by the items already walked; the body starts from a `Frame` of the state before the loop.
`step_*`: the equations of `exec` one statement at a time, for `simp only`.

With `st.v.length = 33` among the simp lemmas, core's `getElem?_pos` turns `v[k]?` into `some v[k]` before `getElem?_setSlot` or a
look-up hypothesis can fire: calls of plain `simp` on look-ups say `-getElem?_pos`.
-/
namespace QcelVerif.FragAst

/-- the run `o` does not raise and ends in a state satisfying `Q` -/
def wp {σ} (o : Option σ) (Q : σ → Prop) : Prop := ∃ s, o = some s ∧ Q s

@[simp] theorem wp_some {σ} (s : σ) (Q : σ → Prop) : wp (some s) Q ↔ Q s := by simp [wp]

theorem wp_bind {σ τ} (o : Option σ) (f : σ → Option τ) (Q : τ → Prop) : wp (o.bind f) Q ↔ wp o (fun s => wp (f s) Q) := by
  cases o <;> simp [wp]

theorem wp.mono {σ} {o : Option σ} {P Q : σ → Prop} (h : wp o P) (hPQ : ∀ s, P s → Q s) : wp o Q :=
  let ⟨s, e, hs⟩ := h; ⟨s, e, hPQ s hs⟩

theorem wp.and {σ} {o : Option σ} {P Q : σ → Prop} (h : wp o P) (h' : ∀ s, o = some s → Q s) : wp o (fun s => P s ∧ Q s) :=
  let ⟨s, e, hs⟩ := h; ⟨s, e, hs, h' s e⟩

theorem getElem?_setSlot (v : List Val) (k j : Nat) (a : Val) :
    (setSlot v k a)[j]? = if k = j then (if k < v.length then some a else none) else v[j]? := by
  simp only [setSlot, List.getElem?_set]

@[simp] theorem length_setSlot (v : List Val) (k : Nat) (a : Val) : (setSlot v k a).length = v.length := by simp [setSlot]

/-- the value slots a statement may assign -/
def writes : Stmt → List Nat
  | .skip => []
  | .seq a b => writes a ++ writes b
  | .set k _ => [k]
  | .append k _ => [k]
  | .addAssign k _ => [k]
  | .setIdx k _ _ => [k]
  | .forIn x _ b => x :: writes b
  | .forEnum i x _ b => i :: x :: writes b
  | .ite _ t e => writes t ++ writes e
  | .raise _ => []
  | .assert_ _ => []
  | .kset _ _ => []
  | .kadd _ _ => []

/-- `st'` has the value slots of `st` except possibly those in `W` (and as many float slots) -/
structure Frame {K} (W : List Nat) (st st' : St K) : Prop where
  length : st'.v.length = st.v.length
  klength : st'.k.length = st.k.length
  get : ∀ j, j ∉ W → st'.v[j]? = st.v[j]?

theorem Frame.lookup {K} {W : List Nat} {st st' : St K} {j : Nat} {a : Option Val} (h : Frame W st st') (hj : j ∉ W)
    (e : st.v[j]? = a) : st'.v[j]? = a := (h.get j hj).trans e

theorem Frame.refl {K} (W : List Nat) (st : St K) : Frame W st st := ⟨rfl, rfl, fun _ _ => rfl⟩

theorem Frame.trans {K} {W : List Nat} {a b c : St K} (h : Frame W a b) (h' : Frame W b c) : Frame W a c :=
  ⟨h'.length.trans h.length, h'.klength.trans h.klength, fun j hj => (h'.get j hj).trans (h.get j hj)⟩

theorem Frame.mono {K} {W W' : List Nat} {a b : St K} (h : Frame W a b) (hW : W ⊆ W') : Frame W' a b :=
  ⟨h.length, h.klength, fun j hj => h.get j (fun hm => hj (hW hm))⟩

theorem Frame.setSlot {K} (st : St K) (k : Nat) (a : Val) : Frame [k] st { st with v := setSlot st.v k a } :=
  ⟨length_setSlot .., rfl, fun j hj => by
    have : k ≠ j := fun e => hj (by simp [e])
    simp [getElem?_setSlot, this]⟩

theorem foldO_map {σ α β} (f : σ → α → Option σ) (g : β → α) : ∀ (l : List β) (s : σ),
    foldO f s (l.map g) = foldO (fun s b => f s (g b)) s l
  | [], _ => rfl
  | b :: t, s => by
    simp only [List.map_cons, foldO]
    cases f s (g b) with
    | none => rfl
    | some s' => exact foldO_map f g t s'

theorem enumFrom'_map {α β} (g : β → α) : ∀ (l : List β) (k : Nat),
    enumFrom' k (l.map g) = (enumFrom' k l).map (fun p => (p.1, g p.2))
  | [], _ => rfl
  | b :: t, k => by simp [enumFrom', enumFrom'_map g t]

theorem foldO_enum {σ α} (f : σ → α → Option σ) : ∀ (l : List α) (k : Nat) (s : σ),
    foldO (fun s (p : Nat × α) => f s p.2) s (enumFrom' k l) = foldO f s l
  | [], _, _ => rfl
  | a :: t, k, s => by
    simp only [enumFrom', foldO]
    cases f s a with
    | none => rfl
    | some s' => exact foldO_enum f t (k + 1) s'

theorem foldO_enum_inv {σ α} {f : σ → Nat × α → Option σ} (I : List α → σ → Prop) (l : List α)
    (step : ∀ pre a post s, l = pre ++ a :: post → I pre s → wp (f s (pre.length, a)) (I (pre ++ [a]))) :
    ∀ (post pre : List α) (s : σ), l = pre ++ post → I pre s → wp (foldO f s (enumFrom' pre.length post)) (I l)
  | [], pre, s, hl, h => by simpa [foldO, enumFrom', hl] using h
  | a :: t, pre, s, hl, h => by
    obtain ⟨s', e, h'⟩ := step pre a t s hl h
    simp only [foldO, enumFrom', e]
    have := foldO_enum_inv I l step t (pre ++ [a]) s' (by simp [hl]) h'
    simpa using this

theorem foldO_frame {K α} {W : List Nat} {f : St K → α → Option (St K)} (hf : ∀ s a s', f s a = some s' → Frame W s s') :
    ∀ (l : List α) (s s' : St K), foldO f s l = some s' → Frame W s s'
  | [], s, s', h => by cases h; exact Frame.refl W s
  | a :: t, s, s', h => by
    simp only [foldO] at h
    cases e : f s a with
    | none => simp [e] at h
    | some s1 => rw [e] at h; exact (hf s a s1 e).trans (foldO_frame hf t s1 s' h)

section exec
variable {K : Type} [Add K] [Mul K] [Div K] [Zero K] [IntCast K] {inp : List Val} {dist : Nat → Nat → K}

/-- `o` followed by `b`, for `step_seq` to keep the rest of a sequence as a STATEMENT: written as `(exec a st).bind (exec b)`, `simp`
opens `exec b` under the binder before the state is known and simplifies the whole rest again after every statement (four times the
cost on a body of seven statements) -/
def andThen (inp : List Val) (dist : Nat → Nat → K) (o : Option (St K)) (b : Stmt) : Option (St K) := o.bind (exec inp dist b)

@[simp] theorem andThen_some (st : St K) (b : Stmt) : andThen inp dist (some st) b = exec inp dist b st := rfl
@[simp] theorem andThen_none (b : Stmt) : andThen inp dist none b = none := rfl

theorem wp_andThen (o : Option (St K)) (b : Stmt) (Q : St K → Prop) :
    wp (andThen inp dist o b) Q ↔ wp o (fun st => wp (exec inp dist b st) Q) := wp_bind ..

theorem step_seq (a b : Stmt) (st : St K) : exec inp dist (.seq a b) st = andThen inp dist (exec inp dist a st) b := by
  simp only [exec, andThen]; cases exec inp dist a st <;> rfl

theorem step_skip (st : St K) : exec inp dist .skip st = some st := by simp only [exec]

theorem step_set (k : Nat) (e : Expr) (st : St K) : exec inp dist (.set k e) st =
    (match evalE inp st.v e with
      | some a => if k < st.v.length then some { st with v := setSlot st.v k a } else none
      | none => none) := rfl

theorem step_append (k : Nat) (e : Expr) (st : St K) : exec inp dist (.append k e) st =
    (match st.v[k]?, evalE inp st.v e with
      | some t, some a => (appendVal t a).map (fun r => { st with v := setSlot st.v k r })
      | _, _ => none) := rfl

theorem step_addAssign (k : Nat) (e : Expr) (st : St K) : exec inp dist (.addAssign k e) st =
    (match st.v[k]?, evalE inp st.v e with
      | some (.s (some x)), some (.s (some y)) => some { st with v := setSlot st.v k (.s (some (x + y))) }
      | _, _ => none) := rfl

theorem step_setIdx (k : Nat) (i e : Expr) (st : St K) : exec inp dist (.setIdx k i e) st =
    (match st.v[k]?, evalE inp st.v i, evalE inp st.v e with
      | some (.l xs), some (.s (some j)), some (.s a) =>
          if 0 ≤ j ∧ j.toNat < xs.length then some { st with v := setSlot st.v k (.l (xs.set j.toNat a)) } else none
      | _, _, _ => none) := rfl

theorem step_ite (c : Expr) (t e : Stmt) (st : St K) : exec inp dist (.ite c t e) st =
    (match evalE inp st.v c with
      | some x => if x.truthy then exec inp dist t st else exec inp dist e st
      | none => none) := rfl

theorem step_assert (c : Expr) (st : St K) : exec inp dist (.assert_ c) st =
    (match evalE inp st.v c with
      | some x => if x.truthy then some st else none
      | none => none) := rfl

theorem exec_frame : ∀ (s : Stmt) (st st' : St K), exec inp dist s st = some st' → Frame (writes s) st st' := by
  intro s
  induction s with
  | skip => intro st st' h; cases h; exact Frame.refl _ _
  | seq a b iha ihb =>
    intro st st' h
    simp only [exec] at h
    cases e : exec inp dist a st with
    | none => simp [e] at h
    | some s1 =>
      rw [e] at h
      exact ((iha st s1 e).mono (List.subset_append_left _ _)).trans ((ihb s1 st' h).mono (List.subset_append_right _ _))
  | set k e =>
    intro st st' h
    simp only [exec] at h
    split at h
    · split at h
      · cases h; exact Frame.setSlot st k _
      · cases h
    · cases h
  | append k e =>
    intro st st' h
    simp only [exec] at h
    split at h
    · rename_i t a _ _
      cases e : appendVal t a with
      | none => simp [e] at h
      | some r => simp [e] at h; cases h; exact Frame.setSlot st k _
    · cases h
  | addAssign k e =>
    intro st st' h
    simp only [exec] at h
    split at h
    · cases h; exact Frame.setSlot st k _
    · cases h
  | setIdx k i e =>
    intro st st' h
    simp only [exec] at h
    split at h
    · split at h
      · cases h; exact Frame.setSlot st k _
      · cases h
    · cases h
  | forIn x src body ih =>
    intro st st' h
    simp only [exec] at h
    split at h
    · split at h
      · refine foldO_frame (fun s a s' hs => ?_) _ _ _ h
        exact ((Frame.setSlot s x a).mono (by simp [writes])).trans ((ih _ _ hs).mono (List.subset_cons_self _ _))
      · cases h
    · cases h
  | forEnum i x src body ih =>
    intro st st' h
    simp only [exec] at h
    split at h
    · split at h
      · refine foldO_frame (fun s a s' hs => ?_) _ _ _ h
        exact ((Frame.setSlot s i _).mono (by simp [writes])).trans
          (((Frame.setSlot _ x _).mono (by simp [writes])).trans
            ((ih _ _ hs).mono (List.Subset.trans (List.subset_cons_self _ _) (List.subset_cons_self _ _))))
      · cases h
    · cases h
  | ite c t e iht ihe =>
    intro st st' h
    simp only [exec] at h
    split at h
    · split at h
      · exact (iht _ _ h).mono (List.subset_append_left _ _)
      · exact (ihe _ _ h).mono (List.subset_append_right _ _)
    · cases h
  | raise t => intro st st' h; cases h
  | assert_ c =>
    intro st st' h
    simp only [exec] at h
    split at h
    · split at h
      · cases h; exact Frame.refl _ _
      · cases h
    · cases h
  | kset k e =>
    intro st st' h
    simp only [exec] at h
    split at h
    · split at h
      · cases h; exact ⟨rfl, List.length_set, fun _ _ => rfl⟩
      · cases h
    · cases h
  | kadd k e =>
    intro st st' h
    simp only [exec] at h
    split at h
    · cases h; exact ⟨rfl, List.length_set, fun _ _ => rfl⟩
    · cases h

theorem wp_frame {s : Stmt} {st : St K} {Q : St K → Prop} (h : wp (exec inp dist s st) Q) :
    wp (exec inp dist s st) (fun st' => Q st' ∧ Frame (writes s) st st') :=
  h.and (fun st' e => exec_frame s st st' e)

theorem wp_forIn {β} (g : β → Val) (l : List β) (I : List β → St K → Prop) {x : Nat} {src : Expr} {body : Stmt} {st : St K}
    (hsrc : (evalE inp st.v src).bind Val.items = some (l.map g)) (hx : x < st.v.length) (h0 : I [] st)
    (step : ∀ pre b post s, l = pre ++ b :: post → Frame (x :: writes body) st s → I pre s →
      wp (exec inp dist body { s with v := setSlot s.v x (g b) }) (I (pre ++ [b]))) :
    wp (exec inp dist (.forIn x src body) st) (I l) := by
  simp only [exec, hsrc, if_pos hx, foldO_map]
  rw [← foldO_enum _ l 0]
  refine (foldO_enum_inv (fun pre s => Frame (x :: writes body) st s ∧ I pre s) l ?_ l [] st rfl ⟨Frame.refl _ _, h0⟩).mono
    (fun s h => h.2)
  intro pre b post s hl ⟨hF, hI⟩
  refine ((step pre b post s hl hF hI).and (fun s' e => ?_)).mono (fun s' h => ⟨h.2, h.1⟩)
  exact hF.trans (((Frame.setSlot s x _).mono (by simp)).trans ((exec_frame _ _ _ e).mono (List.subset_cons_self _ _)))

theorem wp_forEnum {β} (g : β → Val) (l : List β) (I : List β → St K → Prop) {i x : Nat} {src : Expr} {body : Stmt} {st : St K}
    (hsrc : (evalE inp st.v src).bind Val.items = some (l.map g)) (hi : i < st.v.length) (hx : x < st.v.length) (h0 : I [] st)
    (step : ∀ pre b post s, l = pre ++ b :: post → Frame (i :: x :: writes body) st s → I pre s →
      wp (exec inp dist body { s with v := setSlot (setSlot s.v i (.s (some (pre.length : Nat)))) x (g b) }) (I (pre ++ [b]))) :
    wp (exec inp dist (.forEnum i x src body) st) (I l) := by
  simp only [exec, hsrc, if_pos (And.intro hi hx), enumFrom'_map, foldO_map]
  refine (foldO_enum_inv (fun pre s => Frame (i :: x :: writes body) st s ∧ I pre s) l ?_ l [] st rfl ⟨Frame.refl _ _, h0⟩).mono
    (fun s h => h.2)
  intro pre b post s hl ⟨hF, hI⟩
  refine ((step pre b post s hl hF hI).and (fun s' e => ?_)).mono (fun s' h => ⟨h.2, h.1⟩)
  exact hF.trans (((Frame.setSlot s i _).mono (by simp)).trans
    (((Frame.setSlot _ x _).mono (by simp)).trans
      ((exec_frame _ _ _ e).mono (List.Subset.trans (List.subset_cons_self _ _) (List.subset_cons_self _ _)))))

end exec

theorem getElem?_overwrite (f : Nat → Val) (j : Nat) : ∀ (W : List Nat) (v : List Val),
    (W.foldl (fun v k => setSlot v k (f k)) v)[j]? = if j ∈ W ∧ j < v.length then some (f j) else v[j]?
  | [], v => by simp
  | k :: W, v => by
    rw [List.foldl_cons, getElem?_overwrite f j W, length_setSlot, getElem?_setSlot]
    by_cases hk : k = j
    · subst hk; by_cases hl : k < v.length <;> simp [hl]
    · by_cases hW : j ∈ W <;> simp [hk, hW, Ne.symm hk]

/-- from look-ups in `st'` back to the whole state -/
theorem Frame.eq_overwrite {K} {W : List Nat} {st st' : St K} (h : Frame W st st') :
    st'.v = W.foldl (fun v k => FragAst.setSlot v k (st'.v[k]?.getD (.s none))) st.v := by
  refine List.ext_getElem? fun j => ?_
  rw [getElem?_overwrite]
  by_cases hW : j ∈ W
  · by_cases hl : j < st.v.length
    · have : j < st'.v.length := h.length ▸ hl
      simp [hW, hl, this]
    · have : ¬ j < st'.v.length := h.length ▸ hl
      simp [hl, List.getElem?_eq_none (Nat.le_of_not_lt this)]
  · simp [hW, h.get j hW]

end QcelVerif.FragAst
