import QcelVerif.Lemmas.Measure
import Mathlib.Analysis.SpecialFunctions.Sqrt
import Mathlib.Analysis.SpecialFunctions.Trigonometric.Inverse
import Mathlib.Analysis.SpecialFunctions.Complex.Arg
import Mathlib.Analysis.SpecialFunctions.Trigonometric.Arctan
/-!
Helper definitions and lemmas for the real-number part of C18 (`Props/C18Real.lean`).
Nothing here is a property statement.

* `atan2 y x` — the two-argument arctangent over ℝ, defined as `Complex.arg (x + y i)`.
  Value in `(-π, π]`; `atan2 0 0 = 0` (numpy: `arctan2(0, 0) = 0` as well).
  ℝ has no signed zero: `atan2 0 x = π` for every `x < 0`, whereas IEEE/numpy distinguishes
  `arctan2(+0.0, -1) = +π` from `arctan2(-0.0, -1) = -π`.  That one edge (and NaN / ±∞ inputs)
  is outside the real-number model.
* `normR a = √(a·a)` — `_norm` of `util/misc.py`.
* positive scaling, conjugation (`y ↦ −y`), `cos`/`sin`, the `arccos` form for `y ≥ 0`, and the
  uniqueness characterisation of `atan2`.
* the polynomial identity behind the textbook form of the dihedral.
-/
namespace QcelVerif.Measure
open V3

/-! ### atan2 -/

/-- two-argument arctangent over ℝ: the argument of `x + y i`, in `(-π, π]` -/
noncomputable def atan2 (y x : ℝ) : ℝ := Complex.arg ⟨x, y⟩

theorem atan2_mem (y x : ℝ) : -Real.pi < atan2 y x ∧ atan2 y x ≤ Real.pi :=
  ⟨Complex.neg_pi_lt_arg _, Complex.arg_le_pi _⟩

theorem atan2_zero_zero : atan2 0 0 = 0 := by
  unfold atan2
  have : (⟨0, 0⟩ : ℂ) = 0 := rfl
  rw [this, Complex.arg_zero]

/-- `atan2` depends only on the direction of `(x, y)` -/
theorem atan2_pos_mul {c : ℝ} (hc : 0 < c) (y x : ℝ) : atan2 (c * y) (c * x) = atan2 y x := by
  unfold atan2
  have : (⟨c * x, c * y⟩ : ℂ) = (c : ℂ) * ⟨x, y⟩ := by
    apply Complex.ext <;> simp
  rw [this, Complex.arg_real_mul _ hc]

theorem atan2_eq_pi_iff {y x : ℝ} : atan2 y x = Real.pi ↔ x < 0 ∧ y = 0 := by
  unfold atan2
  rw [Complex.arg_eq_pi_iff]

/-- `y ↦ −y` negates `atan2 y x`, except on the branch cut `y = 0, x < 0` where both are `π` -/
theorem atan2_neg (y x : ℝ) :
    atan2 (-y) x = if atan2 y x = Real.pi then Real.pi else -atan2 y x := by
  unfold atan2
  have : (⟨x, -y⟩ : ℂ) = (starRingEnd ℂ) ⟨x, y⟩ := by
    apply Complex.ext <;> simp
  rw [this, Complex.arg_conj]

theorem norm_mk {x y D : ℝ} (hD : 0 < D) (h : x * x + y * y = D * D) : ‖(⟨x, y⟩ : ℂ)‖ = D := by
  rw [Complex.norm_def, Complex.normSq_mk, h, Real.sqrt_mul_self hD.le]

theorem mk_ne_zero {x y D : ℝ} (hD : 0 < D) (h : x * x + y * y = D * D) : (⟨x, y⟩ : ℂ) ≠ 0 :=
  norm_pos_iff.mp ((norm_mk hD h).symm ▸ hD)

theorem cos_atan2 {y x D : ℝ} (hD : 0 < D) (h : x * x + y * y = D * D) :
    Real.cos (atan2 y x) = x / D := by
  unfold atan2
  rw [Complex.cos_arg (mk_ne_zero hD h), norm_mk hD h]

theorem sin_atan2 {y x D : ℝ} (hD : 0 < D) (h : x * x + y * y = D * D) :
    Real.sin (atan2 y x) = y / D := by
  unfold atan2
  rw [Complex.sin_arg, norm_mk hD h]

/-- upper half plane: `atan2 y x = arccos (x / D)` -/
theorem atan2_of_nonneg {y x D : ℝ} (hy : 0 ≤ y) (hD : 0 < D) (h : x * x + y * y = D * D) :
    atan2 y x = Real.arccos (x / D) := by
  unfold atan2
  rw [Complex.arg_of_im_nonneg_of_ne_zero (by exact hy) (mk_ne_zero hD h), norm_mk hD h]

/-- characterisation: the only `θ ∈ (-π, π]` with `(x, y) = r (cos θ, sin θ)`, `r > 0` -/
theorem atan2_unique {r θ x y : ℝ} (hr : 0 < r) (h1 : -Real.pi < θ) (h2 : θ ≤ Real.pi)
    (hx : x = r * Real.cos θ) (hy : y = r * Real.sin θ) : atan2 y x = θ := by
  unfold atan2
  have : (⟨x, y⟩ : ℂ) = (r : ℂ) * (Complex.cos θ + Complex.sin θ * Complex.I) := by
    apply Complex.ext
    · simp [hx, ← Complex.ofReal_cos, ← Complex.ofReal_sin]
    · simp [hy, ← Complex.ofReal_cos, ← Complex.ofReal_sin]
  rw [this, Complex.arg_mul_cos_add_sin_mul_I hr ⟨h1, h2⟩]

/-! ### the usual case split of the two-argument arctangent (what C's / numpy's `atan2` computes on
finite non-zero reals): shows that `Complex.arg (x + y i)` *is* that function -/

/-- `arctan (y / x)` as the `arcsin` in which Mathlib states the case table of `Complex.arg`
(`|x| / x` is the sign of `x`) -/
theorem arctan_div {x : ℝ} (hx : x ≠ 0) (y : ℝ) :
    Real.arctan (y / x) = Real.arcsin (y * (|x| / x) / ‖(⟨x, y⟩ : ℂ)‖) := by
  have h : 1 + (y / x) ^ 2 = (x * x + y * y) / (x * x) := by
    field_simp
  rw [Real.arctan_eq_arcsin, h, Real.sqrt_div (add_nonneg (mul_self_nonneg x) (mul_self_nonneg y)),
    Real.sqrt_mul_self_eq_abs, div_div_eq_mul_div, div_mul_eq_mul_div, mul_div_assoc,
    Complex.norm_def, Complex.normSq_mk]

/-- right half plane -/
theorem atan2_of_pos {x : ℝ} (hx : 0 < x) (y : ℝ) : atan2 y x = Real.arctan (y / x) := by
  rw [atan2, Complex.arg_of_re_nonneg hx.le, arctan_div hx.ne', abs_of_pos hx, div_self hx.ne', mul_one]

/-- second quadrant (and the negative real axis: `y = 0` gives `π`) -/
theorem atan2_of_neg_of_nonneg {x y : ℝ} (hx : x < 0) (hy : 0 ≤ y) :
    atan2 y x = Real.arctan (y / x) + Real.pi := by
  rw [atan2, Complex.arg_of_re_neg_of_im_nonneg hx hy, arctan_div hx.ne, abs_of_neg hx, neg_div,
    div_self hx.ne, mul_neg_one]
  -- Mathlib's numerator `(-(x + y i)).im` unfolds to `-y`
  rfl

/-- third quadrant -/
theorem atan2_of_neg_of_neg {x y : ℝ} (hx : x < 0) (hy : y < 0) :
    atan2 y x = Real.arctan (y / x) - Real.pi := by
  rw [atan2, Complex.arg_of_re_neg_of_im_neg hx hy, arctan_div hx.ne, abs_of_neg hx, neg_div,
    div_self hx.ne, mul_neg_one]
  rfl

theorem atan2_zero_of_pos {y : ℝ} (hy : 0 < y) : atan2 y 0 = Real.pi / 2 :=
  Complex.arg_eq_pi_div_two_iff.mpr ⟨rfl, hy⟩

theorem atan2_zero_of_neg {y : ℝ} (hy : y < 0) : atan2 y 0 = -(Real.pi / 2) :=
  Complex.arg_eq_neg_pi_div_two_iff.mpr ⟨rfl, hy⟩

/-! ### the run-time norm `_norm` over ℝ -/

/-- `_norm(a) = np.sqrt(np.einsum("ij,ij->i", a, a))` for one row (misc.py:137-143) -/
noncomputable def normR (a : V3 ℝ) : ℝ := Real.sqrt (nsq a)

theorem normR_nonneg (a : V3 ℝ) : 0 ≤ normR a := Real.sqrt_nonneg _

theorem normR_mul_self (a : V3 ℝ) : normR a * normR a = nsq a :=
  Real.mul_self_sqrt (nsq_nonneg a)

theorem nsq_sub_pos {p q : V3 ℝ} (h : p ≠ q) : 0 < nsq (p - q) :=
  lt_of_le_of_ne (nsq_nonneg _) (fun e => h (nsq_sub_eq_zero.mp e.symm))

theorem normR_sub_pos {p q : V3 ℝ} (h : p ≠ q) : 0 < normR (p - q) :=
  Real.sqrt_pos.mpr (nsq_sub_pos h)

/-! `normR (p - q)` is the root of `distSq p q`. -/

theorem normR_sub_comm (p q : V3 ℝ) : normR (p - q) = normR (q - p) :=
  congrArg Real.sqrt (distSq_comm p q)

theorem normR_motion {T : Motion ℝ} (h : T.R.IsOrthogonal) (p q : V3 ℝ) :
    normR (T.apply p - T.apply q) = normR (p - q) :=
  congrArg Real.sqrt (dist_rigid_invariant _ h p q)

theorem normR_pos {a : V3 ℝ} (h : a ≠ ⟨0, 0, 0⟩) : 0 < normR a := by
  refine Real.sqrt_pos.mpr (lt_of_le_of_ne (nsq_nonneg _) (fun e => h ?_))
  obtain ⟨hx, hy, hz⟩ := nsq_eq_zero (a := a) e.symm
  exact V3.ext hx hy hz

/-! ### `angleCos` under motions and reversal -/

theorem angleCos_motion {T : Motion ℝ} (h : T.R.IsOrthogonal) (n12 n23 : ℝ) (p1 p2 p3 : V3 ℝ) :
    angleCos n12 n23 (T.apply p1) (T.apply p2) (T.apply p3) = angleCos n12 n23 p1 p2 p3 := by
  unfold angleCos
  simp only [apply_sub, dot_mulVec h]

theorem angleCos_reversal (n12 n23 : ℝ) (p1 p2 p3 : V3 ℝ) :
    angleCos n23 n12 p3 p2 p1 = angleCos n12 n23 p1 p2 p3 := by
  unfold angleCos
  simp only
  have : dot (p3 - p2) (p2 - p1) = dot (p1 - p2) (p2 - p3) := by
    v3_unfold
    ring
  rw [this, mul_comm n23 n12]

theorem clip_mem (x : ℝ) : -1 ≤ clip x (-1) 1 ∧ clip x (-1) 1 ≤ 1 := by
  unfold clip
  refine ⟨le_min (le_max_right _ _) (by norm_num), min_le_right _ _⟩

/-! ### polynomial identity behind the textbook dihedral -/

/-- `(b1×b2)×(b2×b3) = (b1·(b2×b3)) b2`, hence with Lagrange:
`((b1×b2)·(b2×b3))² + |b2|² (b1·(b2×b3))² = |b1×b2|² |b2×b3|²` -/
theorem dihedral_norm_identity {K : Type} [CommRing K] (b1 b2 b3 : V3 K) :
    dot (cross b1 b2) (cross b2 b3) * dot (cross b1 b2) (cross b2 b3)
      + nsq b2 * (dot b1 (cross b2 b3) * dot b1 (cross b2 b3))
      = nsq (cross b1 b2) * nsq (cross b2 b3) := by
  v3_unfold
  ring

end QcelVerif.Measure
