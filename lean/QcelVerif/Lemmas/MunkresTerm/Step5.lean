import QcelVerif.Lemmas.MunkresTerm.Basic
/-!
C14 — termination of the Munkres model: `_step5`.

* `step5_total` — `_step5` never fails: the alternating path has at most `2 n − 1` cells (its primes
  sit in pairwise different rows), so it fits into the `n + m` rows of `path` and the loop's fuel
  `n + m + 1` is never exhausted;
* `step5_progress` — `_step5` keeps the size of `path` and adds exactly one starred row (the row
  of `Z0`).
-/
namespace QcelVerif.Munkres
open QcelVerif.Assign

section chain
variable {M : Mat Nat} {rk : Nat → Nat}

/-- the rows of the primes of a path are pairwise different; a path of `k` primes has `2 k − 1`
cells -/
theorem Chain.rows {l : List (Nat × Nat)} (h : Chain M rk l) :
    ∃ rows : List Nat, rows.Nodup ∧ (∀ r ∈ rows, ∃ c, (r, c) ∈ l ∧ Prime M r c) ∧
      l.length + 1 = 2 * rows.length := by
  induction h with
  | base p h1 _ =>
    refine ⟨[p.1], by simp, ?_, by simp⟩
    intro r hr
    simp at hr
    subst hr
    exact ⟨p.2, by simp, h1⟩
  | step q p rest hc h1 h2 hlt ih =>
    obtain ⟨rows, hnd, hmem, hlen⟩ := ih
    have hge := hc.rank_ge
    refine ⟨q.1 :: rows, ?_, ?_, ?_⟩
    · rw [List.nodup_cons]
      refine ⟨?_, hnd⟩
      intro hq
      obtain ⟨c, hc1, _⟩ := hmem q.1 hq
      have := hge (q.1, c) hc1
      simp only at this
      omega
    · intro r hr
      rcases List.mem_cons.1 hr with rfl | hr
      · exact ⟨q.2, by simp, h1⟩
      · obtain ⟨c, hc1, hc2⟩ := hmem r hr
        exact ⟨c, List.mem_cons_of_mem _ (List.mem_cons_of_mem _ hc1), hc2⟩
    · simp only [List.length_cons] at hlen ⊢
      omega

/-- a path whose primes all lie in rows `< n` has at most `2 n − 1` cells -/
theorem Chain.length_le {l : List (Nat × Nat)} (h : Chain M rk l) (n : Nat)
    (hn : ∀ i j, Prime M i j → i < n) : l.length + 1 ≤ 2 * n := by
  obtain ⟨rows, hnd, hmem, hlen⟩ := h.rows
  have := hnd.length_le_of_subset (l₂ := List.range n) (fun r hr => by
    obtain ⟨c, _, hc⟩ := hmem r hr
    exact List.mem_range.2 (hn r c hc))
  rw [List.length_range] at this
  omega

/-- the oldest cell of the path is a prime -/
theorem Chain.last_prime {l : List (Nat × Nat)} (h : Chain M rk l) :
    ∀ z, l.getLast? = some z → Prime M z.1 z.2 := by
  induction h with
  | base p h1 _ =>
    intro z hz
    simp at hz
    rw [← hz]
    exact h1
  | step q p rest hc h1 h2 _ ih =>
    intro z hz
    rw [List.getLast?_cons_cons, List.getLast?_cons_cons] at hz
    exact ih z hz

/-- every prime of the path other than the oldest has a star in its row -/
theorem Chain.prime_row_last {l : List (Nat × Nat)} (h : Chain M rk l) :
    ∀ z, l.getLast? = some z → ∀ x ∈ l, Prime M x.1 x.2 → x.1 = z.1 ∨ ∃ j', Star M x.1 j' := by
  induction h with
  | base p h1 _ =>
    intro z hz
    simp at hz
    exact List.forall_mem_singleton.2 (fun _ => Or.inl (hz ▸ rfl))
  | step q p rest hc h1 h2 _ ih =>
    intro z hz
    rw [List.getLast?_cons_cons, List.getLast?_cons_cons] at hz
    exact List.forall_mem_cons.2 ⟨fun _ => Or.inr ⟨p.2, h2⟩,
      List.forall_mem_cons.2 ⟨fun hp => absurd hp (star_not_prime h2), ih z hz⟩⟩

end chain

/-! ### the loop never fails -/

theorem step5Loop_total {M : Mat Nat} {m : Nat} (n : Nat) {rk : Nat → Nat}
    (hlink : ∀ i j i', Prime M i j → Star M i' j → (∃ j', Prime M i' j') ∧ rk i' < rk i)
    (hn : ∀ i j, Prime M i j → i < n) :
    ∀ (f count : Nat) (path : Array (Nat × Int)) (p : Nat × Nat) (rest : List (Nat × Nat)),
    Chain M rk (p :: rest) → PathRel m count path p rest → 2 * n ≤ path.size →
    2 * n + 1 ≤ count + 2 * f → ∃ r, step5Loop M m f count path = .ok r
  | 0, count, path, p, rest, hch, hrel, _, hf => by
    have h1 := hch.length_le n hn
    have h2 := hrel.length
    omega
  | f + 1, count, path, p, rest, hch, hrel, hsz, hf => by
    rcases step5Loop_pass hlink f hch hrel with ⟨_, e⟩ | ⟨row, col, hch', e⟩
    · exact ⟨_, e⟩
    · -- the longer path still has at most `2 n − 1` cells, so it fits
      have hlen' := hch'.length_le n hn
      have hlen := hrel.length
      simp only [List.length_cons] at hlen' hlen
      have hfit : count + 1 + 1 < path.size := by omega
      rw [e, if_pos hfit]
      exact step5Loop_total n hlink hn f _ _ _ _ hch' (hrel.push hfit row col)
        (by rw [pathPush_size]; exact hsz) (by omega)

/-! ### `_step5` -/

/-- step 5 never fails: the path never overruns its `n + m` rows and the loop never runs out of fuel -/
theorem step5_total {n m : Nat} {cost : Nat → Nat → Rat} {s : State} (h : Inv5 n m cost s) (hnm : n ≤ m)
    (hp : s.path.size = n + m) : ∃ r, step5 s = .ok r := by
  obtain ⟨rk, hlink⟩ := h.rank
  have hs := h.base.shape
  have hn : ∀ i j, Prime s.marked i j → i < n := fun i j hij => (Prime.lt hs hij).1
  have hn0 : 0 < n := Nat.zero_lt_of_lt (hn _ _ h.z0)
  have h0 : 0 < s.path.size := by omega
  obtain ⟨v, hv⟩ := step5Loop_total n hlink hn
    (s.rowUnc.size + s.colUnc.size + 1) 0 (s.path.set! 0 (s.z0r, Int.ofNat s.z0c)) (s.z0r, s.z0c) []
    (Chain.base _ h.z0 h.z0row) (PathRel.init s.colUnc.size h0 _ _)
    (by simp only [Array.set!_eq_setIfInBounds, Array.size_setIfInBounds]; omega)
    (by rw [hs.rsz, hs.csz]; omega)
  exact ⟨_, step5_ok_iff.2 ⟨h0, v, hv, rfl⟩⟩

/-- step 5 keeps the size of `path` and adds exactly one starred row -/
theorem step5_progress {n m : Nat} {cost : Nat → Nat → Rat} {s s' : State} {nx : Option Step}
    (hrun : step5 s = .ok (s', nx)) (h : Inv5 n m cost s) :
    s'.path.size = s.path.size ∧ (starRows n s'.marked).card = (starRows n s.marked).card + 1 := by
  have h5 := h
  obtain ⟨rk, hlink⟩ := h5.rank
  have hshape := h5.base.shape
  obtain ⟨_, p', rest', hch, _, hlast', hs', hsize⟩ := step5_ok hrun h5 hlink
  have hM : s'.marked = augment s.marked (p' :: rest') := by rw [hs']; rfl
  refine ⟨hsize, ?_⟩
  have hzmem : (s.z0r, s.z0c) ∈ p' :: rest' := List.mem_of_getLast? hlast'
  have hiff : ∀ i j, Star s'.marked i j ↔
      (((i, j) ∈ p' :: rest' ∧ Prime s.marked i j) ∨ (Star s.marked i j ∧ (i, j) ∉ p' :: rest')) := by
    intro i j; rw [hM]; exact augment_star_iff hch i j
  have hrows : ∀ i, (∃ j, Star s'.marked i j) ↔ ((∃ j, Star s.marked i j) ∨ i = s.z0r) := by
    intro i
    constructor
    · rintro ⟨j, hj⟩
      rcases (hiff i j).1 hj with ⟨a1, a2⟩ | ⟨a1, _⟩
      · rcases hch.prime_row_last _ hlast' (i, j) a1 a2 with e | e
        · exact Or.inr e
        · exact Or.inl e
      · exact Or.inl ⟨j, a1⟩
    · rintro (⟨j, hj⟩ | rfl)
      · by_cases hm : (i, j) ∈ p' :: rest'
        · obtain ⟨j', b1, b2⟩ := (hch.star_primes (i, j) hm hj).2
          exact ⟨j', (hiff i j').2 (Or.inl ⟨b2, b1⟩)⟩
        · exact ⟨j, (hiff i j).2 (Or.inr ⟨hj, hm⟩)⟩
      · exact ⟨s.z0c, (hiff _ _).2 (Or.inl ⟨hzmem, h5.z0⟩)⟩
  have hz0n : s.z0r < n := (Prime.lt hshape h5.z0).1
  have hins : starRows n s'.marked = insert s.z0r (starRows n s.marked) := by
    ext i
    rw [Finset.mem_insert, mem_starRows, mem_starRows, hrows i]
    constructor
    · rintro ⟨hi, hj | rfl⟩
      · exact Or.inr ⟨hi, hj⟩
      · exact Or.inl rfl
    · rintro (rfl | ⟨hi, hj⟩)
      · exact ⟨hz0n, Or.inr rfl⟩
      · exact ⟨hi, Or.inl hj⟩
  have hnot : s.z0r ∉ starRows n s.marked := by
    rw [mem_starRows]
    rintro ⟨_, j, hj⟩
    exact h5.z0row j hj
  rw [hins, Finset.card_insert_of_notMem hnot]

end QcelVerif.Munkres
