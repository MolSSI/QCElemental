import QcelVerif.Lemmas.MunkresTerm.Basic
/-!
C14 — termination of the Munkres model: `_step4`.

* `step4_spec` — the `while` of step 4 never exhausts its fuel `n + 1`: every pass that goes on covers a
  row that was uncovered; stars and `path` are untouched, covered rows only grow, and when step 4 starts with an
  uncovered zero and hands over to step 6 it covered at least one more row;
* `step4_total`, `step4_progress` — the two halves, as `doStep_total` and `doStep_decreases` use them.
-/
namespace QcelVerif.Munkres
open QcelVerif.Assign

/-! ### `np.argmax` returns a maximum -/

/-- `np.argmax` finds a non-zero value whenever the matrix has a non-zero entry -/
theorem argmaxFlat_ne_zero (M : Mat Nat) (i j : Nat) (h : get2 M i j ≠ 0) : (argmaxFlat M).2.2 ≠ 0 := by
  have hlt := get2_ne_default M i j h
  have := argmaxFlat_ge M i j hlt.1 hlt.2
  omega

/-! ### one pass of the `while` that goes on -/

section pass
variable {n m : Nat} {s : State} {row col sc : Nat}

/-- the pass covers exactly one more row -/
theorem pass_covRows (hs : Shape n m s) (hr : RU s row) :
    row ∉ covRows n s ∧ covRows n (passState s row col sc) = insert row (covRows n s) := by
  have hr' : row < n := RU.lt hs hr
  refine ⟨fun hmem => (mem_covRows.1 hmem).2 hr, ?_⟩
  ext i
  rw [Finset.mem_insert, mem_covRows, mem_covRows, pass_RU hs hr]
  constructor
  · rintro ⟨hi, hno⟩
    by_cases hir : i = row
    · exact Or.inl hir
    · exact Or.inr ⟨hi, fun hh => hno ⟨hh, hir⟩⟩
  · rintro (rfl | ⟨hi, hno⟩)
    · exact ⟨hr', fun hh => hh.2 rfl⟩
    · exact ⟨hi, fun hh => hno hh.1⟩

theorem pass_card (hs : Shape n m s) (hr : RU s row) :
    (covRows n (passState s row col sc)).card = (covRows n s).card + 1 := by
  obtain ⟨hno, he⟩ := pass_covRows (col := col) (sc := sc) hs hr
  rw [he, Finset.card_insert_of_notMem hno]

end pass

/-- the initial `covered_C` of step 4 is complete: an uncovered zero has entry 1 -/
theorem step4_cov_complete {n m : Nat} {s : State} (hs : Shape n m s) {i j : Nat}
    (hz : get2 s.C i j = 0) (hr : RU s i) (hc : CU s j) :
    get2 ((s.C.map fun r => r.map fun x => if x == 0 then (1 : Nat) else 0).mapIdx fun i r =>
        r.mapIdx fun j z => z * (if s.rowUnc.getD i false then 1 else 0)
          * (if s.colUnc.getD j false then 1 else 0)) i j = 1 := by
  have hi : i < s.C.size := hs.Csz ▸ RU.lt hs hr
  have hj : j < (s.C.getD i #[]).size := by rw [hs.Crow i (RU.lt hs hr)]; exact CU.lt hs hc
  have hr' : s.rowUnc.getD i false = true := hr
  have hc' : s.colUnc.getD j false = true := hc
  rw [get2_mapIdx _ (fun i j z => z * (if s.rowUnc.getD i false then 1 else 0)
      * (if s.colUnc.getD j false then 1 else 0)) i j (by simpa using hi)
      (by rw [getD_map_size s.C (fun _ x => if x == 0 then (1 : Nat) else 0)]; exact hj),
    get2_map_rows s.C (fun _ x => if x == 0 then (1 : Nat) else 0) i j hi hj, hz, hr', hc']
  rfl

/-! ### the loop -/

/-- the `while` of step 4 on more fuel than there are uncovered rows: it returns; stars and `path` are untouched,
covered rows only grow, and strictly so when the first `argmax` finds a non-zero value and the loop ends in step 6 -/
theorem step4Loop_spec {n m : Nat} {cost : Nat → Nat → Rat} : ∀ (f : Nat) (Cz cov : Mat Nat) (s : State),
    Loop n m cost s → CovOK s Cz cov → n - (covRows n s).card < f →
    ∃ s' nx, step4Loop f Cz cov s = .ok (s', nx)
      ∧ (∀ i j, Star s'.marked i j ↔ Star s.marked i j) ∧ covRows n s ⊆ covRows n s' ∧ s'.path = s.path
      ∧ (nx = some .s6 → (argmaxFlat cov).2.2 ≠ 0 → (covRows n s).card < (covRows n s').card)
  | 0, _, _, _, _, _, hf => absurd hf (Nat.not_lt_zero _)
  | f + 1, Cz, cov, s, hL, hcov, hf => by
    rcases step4Loop_pass f hL hcov with ⟨h0, e⟩ | ⟨row, col, _, hr, hc, ⟨e, _⟩ | ⟨sc, e, hL', hcov'⟩⟩
    · exact ⟨_, _, e, fun _ _ => Iff.rfl, Finset.Subset.refl _, rfl, fun _ hne => absurd h0 hne⟩
    · exact ⟨_, _, e, prime_star_iff hL hr hc, Finset.Subset.refl _, rfl, fun h6 => absurd h6 (by decide)⟩
    · -- the pass covers `row`, which was uncovered
      obtain ⟨_, hins⟩ := pass_covRows (col := col) (sc := sc) hL.base.shape hr
      have hcard := pass_card (col := col) (sc := sc) hL.base.shape hr
      have hle := covRows_card_le n (passState s row col sc)
      obtain ⟨s', nx, e', hst, hsub, hpath, _⟩ := step4Loop_spec f Cz _ _ hL' hcov' (by omega)
      refine ⟨s', nx, e.trans e', fun i j => (hst i j).trans (prime_star_iff hL hr hc i j), ?_, hpath, fun _ _ => ?_⟩
      · refine Finset.Subset.trans ?_ hsub
        rw [hins]
        exact Finset.subset_insert _ _
      · have := Finset.card_le_card hsub
        omega

/-- step 4 returns (its fuel is `n + 1`); if it started with an uncovered zero and hands over to step 6 it
covered at least one more row -/
theorem step4_spec {n m : Nat} {cost : Nat → Nat → Rat} {s : State} (h : Loop n m cost s) :
    ∃ s' nx, step4 s = .ok (s', nx)
      ∧ (∀ i j, Star s'.marked i j ↔ Star s.marked i j) ∧ covRows n s ⊆ covRows n s' ∧ s'.path = s.path
      ∧ (UncZero s → nx = some .s6 → (covRows n s).card < (covRows n s').card) := by
  unfold step4
  obtain ⟨s', nx, e, hst, hsub, hpath, hcard⟩ := step4Loop_spec (n := n) (s.C.size + 1) _ _ s h (step4_covOK s)
    (by rw [h.base.shape.Csz]; omega)
  refine ⟨s', nx, e, hst, hsub, hpath, ?_⟩
  rintro ⟨i, j, hz, hr, hc⟩ h6
  refine hcard h6 (argmaxFlat_ne_zero _ i j ?_)
  rw [step4_cov_complete h.base.shape hz hr hc]
  decide

theorem step4_total {n m : Nat} {cost : Nat → Nat → Rat} {s : State} (h : Loop n m cost s) :
    ∃ r, step4 s = .ok r :=
  let ⟨_, _, e, _⟩ := step4_spec h
  ⟨_, e⟩

theorem step4_progress {n m : Nat} {cost : Nat → Nat → Rat} {s s' : State} {nx : Option Step}
    (hrun : step4 s = .ok (s', nx)) (h : Loop n m cost s) :
    (∀ i j, Star s'.marked i j ↔ Star s.marked i j) ∧ covRows n s ⊆ covRows n s' ∧ s'.path = s.path
    ∧ (UncZero s → nx = some .s6 → (covRows n s).card < (covRows n s').card) := by
  obtain ⟨_, _, e, hp⟩ := step4_spec h
  cases hrun.symm.trans e
  exact hp

end QcelVerif.Munkres
