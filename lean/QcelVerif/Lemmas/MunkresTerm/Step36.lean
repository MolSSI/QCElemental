import QcelVerif.Lemmas.MunkresTerm.Basic
/-!
C14 — termination of the Munkres model: steps 3 and 6.

* `step3_more` — when `_step3` hands over to `_step4`, fewer than `n` rows hold a star;
* `step6_flag` — `_step6` changes only `C`, and afterwards there is an uncovered zero, so the
  next `_step4` makes progress.
-/
namespace QcelVerif.Munkres
open QcelVerif.Assign

/-! ### step 3 -/

/-- a row without star makes `starRows` smaller than all the rows -/
theorem starRows_card_lt {n : Nat} {M : Mat Nat} {i : Nat} (hi : i < n) (hno : ∀ j, ¬ Star M i j) :
    (starRows n M).card < n := by
  have hsub : starRows n M ⊆ (Finset.range n).erase i := by
    intro k hk
    rw [Finset.mem_erase]
    refine ⟨?_, Finset.mem_range.2 (mem_starRows.1 hk).1⟩
    rintro rfl
    obtain ⟨j, hj⟩ := (mem_starRows.1 hk).2
    exact hno j hj
  have := Finset.card_le_card hsub
  rw [Finset.card_erase_of_mem (Finset.mem_range.2 hi), Finset.card_range] at this
  omega

/-- when step 3 goes on to step 4, fewer than `n` rows hold a star -/
theorem step3_more {n m : Nat} {cost : Nat → Nat → Rat} {s : State} (h : Inv3 n m cost s)
    (h4 : (step3 s).2 = some .s4) : (starRows n s.marked).card < n := by
  obtain ⟨i, hi, hno⟩ := (step3_s4_iff h).1 h4
  exact starRows_card_lt hi hno

/-! ### step 6 -/

/-- `mask.any()` of a Boolean mask -/
theorem any_id_iff (a : Array Bool) : a.any id = true ↔ ∃ i, a.getD i false = true := by
  rw [Array.any_eq_true]
  constructor
  · rintro ⟨i, hi, hp⟩
    exact ⟨i, by simpa [Array.getD_eq_getD_getElem?, hi] using hp⟩
  · rintro ⟨i, h⟩
    have hi := getD_true_lt a i h
    exact ⟨i, hi, by simpa [Array.getD_eq_getD_getElem?, hi] using h⟩

/-- with fewer than `n` starred rows some row is uncovered -/
theorem exists_RU {n m : Nat} {cost : Nat → Nat → Rat} {s : State} (h : Loop n m cost s)
    (hS : (starRows n s.marked).card < n) : ∃ i, i < n ∧ RU s i := by
  classical
  have hlt : (starRows n s.marked).card < (Finset.range n).card := by
    rw [Finset.card_range]; exact hS
  obtain ⟨i, hi, hni⟩ := Finset.exists_mem_notMem_of_card_lt_card hlt
  have hi' : i < n := Finset.mem_range.1 hi
  refine ⟨i, hi', ?_⟩
  by_contra hru
  exact hni (mem_starRows.2 ⟨hi', (h.l2 i hi' hru).1⟩)

/-- with fewer than `n ≤ m` starred rows some column is uncovered -/
theorem exists_CU {n m : Nat} {cost : Nat → Nat → Rat} {s : State} (h : Loop n m cost s)
    (hnm : n ≤ m) (hS : (starRows n s.marked).card < n) : ∃ j, j < m ∧ CU s j := by
  classical
  have hsh := h.base.shape
  let cc : Finset Nat := (Finset.range m).filter (fun j => ¬ CU s j)
  have hcc : ∀ j, j ∈ cc ↔ j < m ∧ ¬ CU s j := by
    intro j; simp [cc]
  let f : Nat → Nat := fun j =>
    if hj : j < m ∧ ¬ CU s j then Classical.choose (h.l3 j hj.1 hj.2) else 0
  have hf : ∀ j, j < m ∧ ¬ CU s j → Star s.marked (f j) j := by
    intro j hj
    simp only [f, dif_pos hj]
    exact Classical.choose_spec (h.l3 j hj.1 hj.2)
  have hle : cc.card ≤ (starRows n s.marked).card := by
    apply Finset.card_le_card_of_injOn f
    · intro j hj
      have hj' := (hcc j).1 (by simpa using hj)
      have hst := hf j hj'
      have : f j ∈ starRows n s.marked := mem_starRows.2 ⟨(Star.lt hsh hst).1, j, hst⟩
      simpa using this
    · intro j hj j' hj' e
      have h1 := hf j ((hcc j).1 (by simpa using hj))
      have h2 := hf j' ((hcc j').1 (by simpa using hj'))
      rw [← e] at h2
      exact h.base.starRow (f j) j j' h1 h2
  have hlt : cc.card < (Finset.range m).card := by
    rw [Finset.card_range]; omega
  obtain ⟨j, hj, hnj⟩ := Finset.exists_mem_notMem_of_card_lt_card hlt
  have hj' : j < m := Finset.mem_range.1 hj
  refine ⟨j, hj', ?_⟩
  by_contra hcu
  exact hnj ((hcc j).2 ⟨hj', hcu⟩)

/-- step 6 changes only `C`, and afterwards there is an uncovered zero (so the next step 4 makes
progress) -/
theorem step6_flag {n m : Nat} {cost : Nat → Nat → Rat} {s : State} (h : Loop n m cost s)
    (hnm : n ≤ m) (hS : (starRows n s.marked).card < n) :
    UncZero (step6 s).1 ∧ (step6 s).1.marked = s.marked ∧ (step6 s).1.rowUnc = s.rowUnc
    ∧ (step6 s).1.colUnc = s.colUnc ∧ (step6 s).1.path = s.path := by
  have hsh := h.base.shape
  obtain ⟨i, hi, hru⟩ := exists_RU h hS
  obtain ⟨j, hj, hcu⟩ := exists_CU h hnm hS
  have hany : (s.rowUnc.any id && s.colUnc.any id) = true := by
    rw [(any_id_iff _).2 ⟨i, hru⟩, (any_id_iff _).2 ⟨j, hcu⟩]
    rfl
  rw [step6_eq, if_pos hany]
  refine ⟨?_, rfl, rfl, rfl, rfl⟩
  obtain ⟨i0, j0, hr0, hc0, hmv⟩ := minval6_mem hsh hru hcu
  refine ⟨i0, j0, ?_, hr0, hc0⟩
  show get2 (C6 s (rowMin (vals6 s))) i0 j0 = 0
  have hr0' : s.rowUnc.getD i0 false = true := hr0
  have hc0' : s.colUnc.getD j0 false = true := hc0
  rw [get2_C6' hsh _ (RU.lt hsh hr0) (CU.lt hsh hc0), if_pos hr0', if_pos hc0', hmv]
  simp

end QcelVerif.Munkres
