import QcelVerif.Lemmas.MunkresInv2
import Mathlib.Data.Finset.Card
import Mathlib.Data.Finset.Range
import Mathlib.Tactic.Linarith
/-!
C14 — termination of the Munkres model: the quantities that make progress.

* `starRows n M` — the rows (below `n`) that hold a star; `_step5` adds exactly one;
* `covRows n s` — the covered rows; every continuing pass of the `while` of `_step4` adds one;
* `UncZero s` — there is an uncovered zero (holds after `_step6`, so the next `_step4` makes progress).
-/
namespace QcelVerif.Munkres
open QcelVerif.Assign

open Classical in
/-- the rows `i < n` that hold a star -/
noncomputable def starRows (n : Nat) (M : Mat Nat) : Finset Nat :=
  (Finset.range n).filter (fun i => ∃ j, Star M i j)

open Classical in
/-- the covered rows `i < n` -/
noncomputable def covRows (n : Nat) (s : State) : Finset Nat :=
  (Finset.range n).filter (fun i => ¬ RU s i)

/-- some zero of `C` lies in an uncovered row and an uncovered column -/
def UncZero (s : State) : Prop := ∃ i j, get2 s.C i j = 0 ∧ RU s i ∧ CU s j

theorem mem_starRows {n : Nat} {M : Mat Nat} {i : Nat} :
    i ∈ starRows n M ↔ i < n ∧ ∃ j, Star M i j := by
  classical
  simp [starRows]

theorem mem_covRows {n : Nat} {s : State} {i : Nat} : i ∈ covRows n s ↔ i < n ∧ ¬ RU s i := by
  classical
  simp [covRows]

theorem covRows_card_le (n : Nat) (s : State) : (covRows n s).card ≤ n := by
  classical
  have := Finset.card_filter_le (Finset.range n) (fun i => ¬ RU s i)
  simpa [covRows] using this

theorem starRows_congr {n : Nat} {M M' : Mat Nat} (h : ∀ i j, Star M' i j ↔ Star M i j) :
    starRows n M' = starRows n M := by
  ext i
  simp only [mem_starRows]
  constructor
  · rintro ⟨hi, j, hj⟩; exact ⟨hi, j, (h i j).1 hj⟩
  · rintro ⟨hi, j, hj⟩; exact ⟨hi, j, (h i j).2 hj⟩

end QcelVerif.Munkres
