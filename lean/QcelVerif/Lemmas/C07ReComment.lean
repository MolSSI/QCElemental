import QcelVerif.Lemmas.C07ReShapes
/-!
C07 — `filter_comments`: `re.sub(r"(^|[^\\])#.*", r"\1", s)` computed by the generic regex engine on the generated AST
(`FromStringRegex.comment`) equals the hand-written one-pass stripper `filterComments` of M1, for every string.

One match attempt at the cursor has a closed form (`comment_bt_…`); the scan of `re.sub` is followed at the level of the output
text (`subOut`); `subOut_eq_fcGo` is an induction on the length of the text, with the invariant that the cursor is never on a `#`
that follows a non-backslash character except at the very start (such a `#` belongs to the match that starts one character earlier).
-/
namespace QcelVerif.MolText
open QcelVerif.Regex QcelVerif.Gen

theorem lastOr_some (l : List Nat) : ∀ x, Regex.lastOr (some x) l ≠ none := by
  induction l with
  | nil => intro x; exact Option.some_ne_none x
  | cons c t ih => intro x; exact ih c

/-- on a `#`: the first way to match runs to the end of the line and touches no group -/
theorem commentTail_hash (m : St) (t : List Nat) (h : m.rest = 35 :: t) :
    ∃ st, (commentTail.ms m).head? = some st ∧ st.rest = t.dropWhile (clsMem true [.ch 10]) ∧ st.prev ≠ none ∧ st.caps = m.caps := by
  have h1 : (Re.cls false [.ch 35]).ms m = [⟨some 35, t, m.caps⟩] := by
    simp [Re.ms, stepCls, h, clsMem, Item.mem]
  unfold commentTail
  rw [ms_seq, h1]
  simp only [List.flatMap_cons, List.flatMap_nil, List.append_nil]
  exact ⟨_, ms_star_head _ _ _, rfl, lastOr_some _ 35, rfl⟩

theorem commentTail_none (m : St) (h : ∀ t, m.rest ≠ 35 :: t) : commentTail.ms m = [] := by
  have h1 : (Re.cls false [.ch 35]).ms m = [] := by
    cases hr : m.rest with
    | nil => simp [Re.ms, stepCls, hr]
    | cons c t =>
      have : c ≠ 35 := fun hc => h t (by rw [hr, hc])
      simp [Re.ms, stepCls, hr, clsMem, Item.mem, this]
  unfold commentTail
  rw [ms_seq, h1]
  rfl

theorem commentHead_ms (st : St) : commentHead.ms st =
    ((if st.prev.isNone then [st] else []) ++ (stepCls true [.ch 92] st).toList).map (fun st' => St.capture 1 st st') := rfl

theorem comment_bt (st : St) : FromStringRegex.comment.bt some st = ((commentHead.ms st).flatMap fun m => commentTail.ms m).head? := by
  rw [bt_eq_findSome, findSome?_some_eq_head?, comment_shape, ms_seq]

theorem comment_hit (a b : St) (l : List St) (t g : List Nat) (hb : b.rest = 35 :: t) (hg : takeDiff a.rest b.rest = g) :
    ∃ st, ((St.capture 1 a b :: l).flatMap fun m => commentTail.ms m).head? = some st ∧
      st.rest = t.dropWhile (clsMem true [.ch 10]) ∧ st.prev ≠ none ∧ groupText st 1 = g := by
  obtain ⟨st, hst, hr, hp, hc⟩ := commentTail_hash (St.capture 1 a b) t hb
  rw [head?_flatMap_cons, hst]
  exact ⟨st, rfl, hr, hp, by simp [groupText, St.group, hc, hg]⟩

/-- at the very start, on a `#`: the `^` alternative -/
theorem comment_bt_start (t : List Nat) :
    ∃ st, FromStringRegex.comment.bt some ⟨none, 35 :: t, []⟩ = some st ∧ st.rest = t.dropWhile (clsMem true [.ch 10]) ∧
      st.prev ≠ none ∧ groupText st 1 = [] := by
  rw [comment_bt, commentHead_ms]
  exact comment_hit _ _ _ t [] rfl (by simp [takeDiff])

theorem stepCls_bs (ep : Option Nat) (c : Nat) (t : List Nat) (caps : Caps) :
    stepCls true [.ch 92] ⟨ep, c :: t, caps⟩ = if c ≠ 92 then some ⟨some c, t, caps⟩ else none := by
  by_cases h : c = 92 <;> simp [stepCls, clsMem, Item.mem, h]

/-- `[^\\]#…`: a character other than a backslash, then `#`; at the very start the `^` alternative comes first and fails on `c` -/
theorem comment_bt_mid (ep : Option Nat) (c : Nat) (t : List Nat) (hc : c ≠ 92) (h : ep = none → c ≠ 35) :
    ∃ st, FromStringRegex.comment.bt some ⟨ep, c :: 35 :: t, []⟩ = some st ∧ st.rest = t.dropWhile (clsMem true [.ch 10]) ∧
      st.prev ≠ none ∧ groupText st 1 = [c] := by
  rw [comment_bt, commentHead_ms, stepCls_bs]
  simp only [hc, ne_eq, not_false_eq_true, if_true, Option.toList_some]
  have hit := comment_hit ⟨ep, c :: 35 :: t, []⟩ ⟨some c, 35 :: t, []⟩ [] t [c] rfl (takeDiff_append' [c] (35 :: t))
  cases ep with
  | none =>
    simp only [Option.isNone_none, if_true, List.cons_append, List.nil_append]
    rw [List.map_cons, head?_flatMap_cons, commentTail_none _ (by intro t'; simp [h rfl])]
    simpa using hit
  | some p =>
    simpa using hit

theorem comment_bt_nil (ep : Option Nat) : FromStringRegex.comment.bt some ⟨ep, [], []⟩ = none := by
  rw [comment_bt, List.flatMap_eq_nil_iff.mpr]; · rfl
  intro m hm
  apply commentTail_none
  rw [commentHead_ms] at hm
  cases ep <;> simp [stepCls] at hm <;> simp [hm]

theorem comment_bt_no (ep : Option Nat) (c : Nat) (t : List Nat) (h1 : ep = none → c ≠ 35) (h2 : c ≠ 92 → ∀ t', t ≠ 35 :: t') :
    FromStringRegex.comment.bt some ⟨ep, c :: t, []⟩ = none := by
  rw [comment_bt, List.flatMap_eq_nil_iff.mpr]; · rfl
  intro m hm
  apply commentTail_none
  rw [commentHead_ms, stepCls_bs] at hm
  simp only [List.mem_map, List.mem_append] at hm
  obtain ⟨m', hm', rfl⟩ := hm
  rcases hm' with hm' | hm'
  · cases ep with
    | none => 
      simp at hm'
      subst hm'
      intro t'
      simp [h1 rfl]
    | some p => simp at hm'
  · by_cases hc : c = 92
    · simp [hc] at hm'
    · simp [hc] at hm'
      subst hm'
      exact h2 hc

/-! ## the scan, at the level of the output text -/

def cmRender (x : List Hit × List Nat) : List Nat := x.1.flatMap (fun h => h.1 ++ groupText h.2 1) ++ x.2

def subOut (fuel : Nat) (ep : Option Nat) (s : List Nat) : Option (List Nat) :=
  (scanFuel FromStringRegex.comment fuel ep s).map cmRender

theorem subGroup_eq_subOut (s : List Nat) : subGroup FromStringRegex.comment 1 s = subOut (s.length + 1) none s := rfl

theorem subOut_nil (f : Nat) (ep : Option Nat) : subOut (f + 1) ep [] = some [] := by
  unfold subOut; rw [scanFuel_nil _ _ _ (comment_bt_nil ep)]; rfl

theorem subOut_hit (f : Nat) (ep : Option Nat) (c : Nat) (t : List Nat) (st : St)
    (h : FromStringRegex.comment.bt some ⟨ep, c :: t, []⟩ = some st) (hlt : st.rest.length < (c :: t).length) :
    subOut (f + 1) ep (c :: t) = (subOut f st.prev st.rest).map fun o => groupText st 1 ++ o := by
  unfold subOut; rw [scanFuel_hit _ _ _ _ _ _ h hlt]
  cases scanFuel FromStringRegex.comment f st.prev st.rest with
  | none => rfl
  | some x => simp [cmRender]

theorem subOut_skip (f : Nat) (ep : Option Nat) (c : Nat) (t : List Nat)
    (h : FromStringRegex.comment.bt some ⟨ep, c :: t, []⟩ = none) :
    subOut (f + 1) ep (c :: t) = (subOut (f + 1) (some c) t).map fun o => c :: o := by
  unfold subOut; rw [scanFuel_skip _ _ _ _ _ h]
  cases scanFuel FromStringRegex.comment (f + 1) (some c) t with
  | none => rfl
  | some x =>
    obtain ⟨hits, tail⟩ := x
    cases hits <;> simp [cmRender, prep]

/-! ## the hand function -/

theorem fcGo_keep (hp : Option Char) (c : Char) (t : Str) (h : c = '#' → hp = some '\\') :
    fcGo false hp (c :: t) = c :: fcGo false (some c) t := by
  by_cases hc : c = '#'
  · subst hc; simp [fcGo, h rfl]
  · simp [fcGo, hc]

theorem fcGo_open (hp : Option Char) (t : Str) (h : hp ≠ some '\\') : fcGo false hp ('#' :: t) = fcGo true hp t := by
  simp [fcGo, h]

/-- inside a comment: on from the next newline (any `prev` there: a newline opens no comment) -/
theorem fcGo_true (p q : Option Char) (t : Str) : fcGo true p t = fcGo false q (t.dropWhile notNl) := by
  induction t with
  | nil => rfl
  | cons c t ih =>
    by_cases hc : c = '\n'
    · subst hc
      simp [fcGo, notNl]
    · have hn : notNl c = true := by simp [notNl, hc]
      simp [fcGo, hc, hn, ih]

/-! ## the scan against the hand function -/

theorem subOut_eq_fcGo : ∀ (n : Nat) (s : Str), s.length < n → ∀ fuel, s.length < fuel → ∀ (ep : Option Nat) (hp : Option Char),
    (ep = none → hp = none) → (ep ≠ none → ∀ t, s = '#' :: t → hp = some '\\') →
    subOut fuel ep (toBytes s) = some (toBytes (fcGo false hp s)) := by
  intro n
  induction n with
  | zero => intro s hn; exact absurd hn (Nat.not_lt_zero _)
  | succ n ih =>
    intro s hn fuel hf ep hp h0 h1
    obtain ⟨f, rfl⟩ : ∃ f, fuel = f + 1 := ⟨fuel - 1, by omega⟩
    cases s with
    | nil => exact subOut_nil f ep
    | cons c t =>
      simp only [List.length_cons] at hn hf
      -- a hit at the cursor whose match ends at the first newline of `t'`: the captured character, then on from that newline
      have hit : ∀ (st : St) (t' : Str) (q : Option Char), t'.length ≤ t.length →
          FromStringRegex.comment.bt some ⟨ep, toBytes (c :: t), []⟩ = some st →
          st.rest = (toBytes t').dropWhile (clsMem true [.ch 10]) → st.prev ≠ none →
          subOut (f + 1) ep (toBytes (c :: t)) = some (groupText st 1 ++ toBytes (fcGo true q t')) := by
        intro st t' q hl hbt hr hpv
        have hle : (t'.dropWhile notNl).length ≤ t'.length := (List.dropWhile_sublist _).length_le
        rw [dropWhile_toBytes _ notNl cls_notNl] at hr
        rw [toBytes_cons, subOut_hit f ep c.toNat (toBytes t) st hbt (by rw [hr]; simp; omega), hr, fcGo_true q q,
          ih _ (by omega) f (by omega) st.prev q (fun h => absurd h hpv)]
        · rfl
        · intro _ r hr'
          have := dropWhile_head_not hr'
          simp [notNl] at this
      by_cases hB : ep = none ∧ c = '#'
      · obtain ⟨rfl, rfl⟩ := hB
        obtain ⟨st, hbt, hrest, hprev, hg⟩ := comment_bt_start (toBytes t)
        obtain rfl := h0 rfl
        rw [hit st t none (Nat.le_refl _) hbt hrest hprev, hg, fcGo_open none t (by simp)]
        rfl
      · have hkeep : c = '#' → hp = some '\\' := by
          intro hc'
          apply h1 _ _ (by rw [hc'])
          intro he; exact hB ⟨he, hc'⟩
        by_cases hC : c ≠ '\\' ∧ ∃ t', t = '#' :: t'
        · obtain ⟨hc, t', rfl⟩ := hC
          obtain ⟨st, hbt, hrest, hprev, hg⟩ := comment_bt_mid ep c.toNat (toBytes t') (toNat_ne hc)
            (fun he => toNat_ne (fun hc' => hB ⟨he, hc'⟩))
          rw [hit st t' (some c) (by simp) hbt hrest hprev, hg, fcGo_keep hp c _ hkeep, fcGo_open (some c) t' (by simpa using hc)]
          rfl
        · have hbt : FromStringRegex.comment.bt some ⟨ep, c.toNat :: toBytes t, []⟩ = none := by
            apply comment_bt_no
            · intro he hc'
              exact hB ⟨he, Char.toNat_inj.mp hc'⟩
            · intro hc' t' ht
              apply hC
              refine ⟨fun e => hc' (by rw [e]; rfl), ?_⟩
              cases t with
              | nil => simp at ht
              | cons d r =>
                simp only [toBytes_cons, List.cons.injEq] at ht
                exact ⟨r, by rw [show d = '#' from Char.toNat_inj.mp ht.1]⟩
          rw [toBytes_cons, subOut_skip f ep _ _ hbt, fcGo_keep hp c t hkeep,
            ih t (by omega) (f + 1) (by omega) (some c.toNat) (some c) (by simp)]
          · rfl
          · intro _ t' ht
            by_cases hc' : c = '\\'
            · rw [hc']
            · exact absurd ⟨hc', t', ht⟩ hC

theorem comment_eq_regex (s : Str) : filterCommentsRe s = filterCommentsHand s := by
  unfold filterCommentsRe filterCommentsHand filterComments
  rw [subGroup_eq_subOut, toBytes_length,
    subOut_eq_fcGo (s.length + 1) s (Nat.lt_succ_self _) (s.length + 1) (Nat.lt_succ_self _) none none (fun _ => rfl) (fun h => absurd rfl h)]
  simp [ofBytes_toBytes]

example : filterCommentsRe "a #b\n#c\nd\\#e".toList = some "a \n\nd\\#e".toList := by decide
example : filterCommentsRe "##x\n\\##y".toList = some "\n\\#".toList := by decide
example : filterCommentsRe "#".toList = some [] := by decide
example : filterCommentsRe "".toList = some [] := by decide

end QcelVerif.MolText
