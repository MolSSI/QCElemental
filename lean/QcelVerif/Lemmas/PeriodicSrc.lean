import QcelVerif.Model.PeriodicSrcEval
import QcelVerif.Lib.ListLemmas
/-!
Helper lemmas for C01's source-derived dictionaries: Python's `dict(zip(keys, values))` (`Src.buildDict`:
insert in order, later duplicate overwrites) looked up = `Tables.lastAssoc` of the rows; `lastAssoc` of the rows =
lookup in any tree in which every row is found and every key is a row's (`lastAssoc_eq_lookup`, no order hypothesis).
`Props/C01SrcKeys.lean` states that second hypothesis for the generated tree with the merge sort `msort` of `Lemmas/Msort.lean`.
-/
namespace QcelVerif.PT.Src
open QcelVerif

theorem insert_lookup {β : Type} (t : Bst β) (k : Nat) (v : β) (x : Nat) :
    (insert t k v).lookup x = if x = k then some v else t.lookup x := by
  induction t with
  | leaf =>
    simp only [insert, Bst.lookup]
    by_cases h : x = k
    · subst h; simp
    · simp only [h, if_false]
      by_cases h1 : x < k
      · simp [h1]
      · have : k < x := by omega
        simp [h1, this]
  | node l k0 v0 r ihl ihr =>
    simp only [insert]
    by_cases h1 : k < k0
    · simp only [h1, if_true, Bst.lookup]
      by_cases hx : x < k0
      · simp only [hx, if_true, ihl]
      · simp only [hx, if_false]
        have : x ≠ k := by omega
        simp [this]
    · simp only [h1, if_false]
      by_cases h2 : k0 < k
      · simp only [h2, if_true, Bst.lookup]
        by_cases hx : x < k0
        · have : x ≠ k := by omega
          simp [hx, this]
        · simp only [hx, if_false]
          by_cases hx2 : k0 < x
          · simp only [hx2, if_true, ihr]
          · have : x ≠ k := by omega
            simp [hx2, this]
      · have hk : k = k0 := by omega
        subst hk
        simp only [h2, if_false, Bst.lookup]
        by_cases hx : x < k
        · have : x ≠ k := by omega
          simp [hx, this]
        · by_cases hx2 : k < x
          · have : x ≠ k := by omega
            simp [hx, hx2, this]
          · have : x = k := by omega
            simp [this]

theorem foldl_insert_lookup {β : Type} (rows : List (Nat × β)) (t : Bst β) (x : Nat) :
    (rows.foldl (fun t r => insert t r.1 r.2) t).lookup x
      = rows.foldl (fun acc p => if p.1 == x then some p.2 else acc) (t.lookup x) := by
  induction rows generalizing t with
  | nil => rfl
  | cons r rest ih =>
    simp only [List.foldl_cons]
    rw [ih, insert_lookup]
    congr 1
    by_cases h : x = r.1
    · subst h; simp
    · have : (r.1 == x) = false := by simp; omega
      simp [h, this]

/-- **`dict(zip(k, v))[x]`**: the tree built by inserting the rows in order answers like "last row with that key" -/
theorem buildDict_lookup {β : Type} (rows : List (Nat × β)) (x : Nat) :
    (buildDict rows).lookup x = Tables.lastAssoc rows x := by
  unfold buildDict Tables.lastAssoc
  rw [foldl_insert_lookup]; rfl

theorem foldl_lastAssoc_map {β γ : Type} (f : β → γ) (rows : List (Nat × β)) (x : Nat) (acc : Option β) :
    (rows.map (fun r => (r.1, f r.2))).foldl (fun acc p => if p.1 == x then some p.2 else acc) (acc.map f)
      = (rows.foldl (fun acc p => if p.1 == x then some p.2 else acc) acc).map f := by
  induction rows generalizing acc with
  | nil => rfl
  | cons r rest ih =>
    simp only [List.map_cons, List.foldl_cons]
    by_cases h : (r.1 == x) = true
    · simp only [h, if_true]; exact ih (some r.2)
    · simp only [h]; exact ih acc

theorem lastAssoc_map_val {β γ : Type} (f : β → γ) (rows : List (Nat × β)) (x : Nat) :
    Tables.lastAssoc (rows.map (fun r => (r.1, f r.2))) x = (Tables.lastAssoc rows x).map f := by
  unfold Tables.lastAssoc
  exact foldl_lastAssoc_map f rows x none

theorem foldl_last_none {β : Type} (rows : List (Nat × β)) (k : Nat) (acc : Option β)
    (h : rows.foldl (fun acc p => if p.1 == k then some p.2 else acc) acc = none) :
    acc = none ∧ ∀ r ∈ rows, r.1 ≠ k := by
  induction rows generalizing acc with
  | nil => exact ⟨h, by simp⟩
  | cons r rest ih =>
    simp only [List.foldl_cons] at h
    have := ih _ h
    by_cases hk : (r.1 == k) = true
    · simp [hk] at this
    · simp only [hk] at this
      refine ⟨this.1, ?_⟩
      intro q hq
      simp only [List.mem_cons] at hq
      rcases hq with hq | hq
      · subst hq; simpa using hk
      · exact this.2 q hq

theorem lookup_some_mem_toList {β : Type} (t : Bst β) (k : Nat) (v : β) (h : t.lookup k = some v) :
    (k, v) ∈ t.toList := by
  induction t with
  | leaf => simp [Bst.lookup] at h
  | node l k0 v0 r ihl ihr =>
    simp only [Bst.lookup] at h
    simp only [Bst.toList, List.mem_append, List.mem_cons]
    by_cases h1 : k < k0
    · simp only [h1, if_true] at h; exact Or.inl (ihl h)
    · simp only [h1, if_false] at h
      by_cases h2 : k0 < k
      · simp only [h2, if_true] at h; exact Or.inr (Or.inr (ihr h))
      · simp only [h2, if_false] at h
        have : k = k0 := by omega
        subst this
        exact Or.inr (Or.inl (by rw [Option.some.inj h]))

/-- **rows vs tree**: if every row is found in the tree with its own value and every key of the tree is
a key of some row, then "last row with key `k`" and the tree answer alike for EVERY `k` (in particular rows
with the same key carry the same value, and the tree has no key of its own). -/
theorem lastAssoc_eq_lookup {β : Type} (rows : List (Nat × β)) (t : Bst β)
    (hrows : ∀ r ∈ rows, t.lookup r.1 = some r.2)
    (hkeys : ∀ x ∈ t.toList.map (·.1), x ∈ rows.map (·.1)) (k : Nat) :
    Tables.lastAssoc rows k = t.lookup k := by
  unfold Tables.lastAssoc
  cases hL : rows.foldl (fun acc p => if p.1 == k then some p.2 else acc) none with
  | none =>
    have hne := (foldl_last_none rows k none hL).2
    cases ht : t.lookup k with
    | none => rfl
    | some v =>
      have hm := lookup_some_mem_toList t k v ht
      have : k ∈ rows.map (·.1) := hkeys k (List.mem_map.mpr ⟨(k, v), hm, rfl⟩)
      obtain ⟨r, hr, hrk⟩ := List.mem_map.mp this
      exact absurd hrk (hne r hr)
  | some v =>
    rcases foldl_lastAssoc_mem k rows none v hL with h | ⟨⟨k', v'⟩, hp, hk, rfl⟩
    · cases h
    · have hkk : k' = k := by simpa using hk
      subst hkk
      exact (hrows (k', v') hp).symm

end QcelVerif.PT.Src
