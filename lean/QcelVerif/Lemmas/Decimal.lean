/-!
Decimal digits.  The models print naturals with printers of their own (`Hash.showNat`, `FixedFmt.natDigits`); digit
strings are read back by left folds (`Hash.numOf`, `FixedFmt.digitsVal`); each is core's `Nat.toDigits 10` resp.
`Nat.ofDigitChars 10`, so what is needed of them (round trip, injectivity, digits only, non-empty) is core's;
that the digits carry no leading zero (the JSON number grammar asks it) is proved here.
-/
namespace QcelVerif.Decimal

theorem foldl_eq_ofDigitChars (l : List Char) (a : Nat) :
    l.foldl (fun a c => a * 10 + (c.toNat - 48)) a = Nat.ofDigitChars 10 l a := by
  unfold Nat.ofDigitChars
  congr 1
  funext a c
  rw [Nat.mul_comm]
  rfl

theorem foldl_toDigits (n : Nat) : (Nat.toDigits 10 n).foldl (fun a c => a * 10 + (c.toNat - 48)) 0 = n :=
  (foldl_eq_ofDigitChars _ 0).trans Nat.ofDigitChars_ten_toDigits

theorem toDigits_inj {n m : Nat} (h : Nat.toDigits 10 n = Nat.toDigits 10 m) : n = m := by
  rw [← @Nat.ofDigitChars_ten_toDigits n, h, Nat.ofDigitChars_ten_toDigits]

theorem toDigits_isDigit (n : Nat) : ∀ c ∈ Nat.toDigits 10 n, c.isDigit = true :=
  fun _ => Nat.isDigit_of_mem_toDigits (by decide) (by decide)

theorem isDigit_ne_minus {c : Char} (h : c.isDigit = true) : c ≠ '-' := by
  intro hc; subst hc; simp [Char.isDigit] at h

theorem toDigits_head_ne_zero : ∀ n : Nat, 0 < n → (Nat.toDigits 10 n).head? ≠ some '0' := by
  intro n
  induction n using Nat.strongRecOn with
  | _ n ih =>
    intro hn
    rw [Nat.toDigits_eq_if (by decide)]
    split
    · rename_i hlt
      have : n = 1 ∨ n = 2 ∨ n = 3 ∨ n = 4 ∨ n = 5 ∨ n = 6 ∨ n = 7 ∨ n = 8 ∨ n = 9 := by omega
      rcases this with h | h | h | h | h | h | h | h | h <;> subst h <;> decide
    · rename_i hge
      have hpos : 0 < n / 10 := by omega
      have hne : Nat.toDigits 10 (n / 10) ≠ [] := Nat.toDigits_ne_nil
      have := ih (n / 10) (by omega) hpos
      cases hd : Nat.toDigits 10 (n / 10) with
      | nil => exact absurd hd hne
      | cons a t => rw [hd] at this; simpa using this

theorem toDigits_no_leading_zero (n : Nat) :
    ((Nat.toDigits 10 n).head? == some '0' && decide (1 < (Nat.toDigits 10 n).length)) = false := by
  by_cases hn : n < 10
  · rw [Nat.toDigits_of_lt_base hn]; simp
  · have := toDigits_head_ne_zero n (by omega)
    cases hd : Nat.toDigits 10 n with
    | nil => simp
    | cons a t =>
      rw [hd] at this
      have : a ≠ '0' := by simpa using this
      simp [this]

end QcelVerif.Decimal
