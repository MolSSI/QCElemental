import QcelVerif.Model.Serialize
/-! Helper lemmas for C10: hex digits, big-endian bytes, `chunk` / `flatten`, shape arithmetic of the array envelope. -/
namespace QcelVerif.Ser

/-! ### hex -/

theorem unhex_hex_digit : ∀ n, n < 16 → unhexDigit (hexDigit n) = some n := by decide

theorem ofNat_div_mod (b : UInt8) : UInt8.ofNat (16 * (b.toNat / 16) + b.toNat % 16) = b := by
  have : 16 * (b.toNat / 16) + b.toNat % 16 = b.toNat := by omega
  rw [this]; simp

/-! ### big-endian fields -/

theorem beBytes_length (k n : Nat) : (beBytes k n).length = k := by
  induction k with
  | zero => simp [beBytes]
  | succ k ih => simp [beBytes, ih]

theorem toNat_ofNat_mod (n : Nat) : (UInt8.ofNat (n % 256)).toNat = n % 256 := by
  simp [UInt8.toNat_ofNat']

theorem beNat_beBytes_mod (k n : Nat) : beNat (beBytes k n) = n % 256 ^ k := by
  induction k with
  | zero => simp [beBytes, beNat, Nat.mod_one]
  | succ k ih =>
    simp only [beBytes, beNat, beBytes_length, ih, toNat_ofNat_mod]
    rw [Nat.pow_succ, Nat.mod_mul, Nat.mul_comm (256 ^ k) (n / 256 ^ k % 256), Nat.add_comm]

/-! ### chunk / flatten -/

theorem chunk_flatten {α : Type} (m : Nat) : ∀ (rows : List (List α)), (∀ r ∈ rows, r.length = m) →
    chunk m rows.length rows.flatten = rows
  | [], _ => by simp [chunk]
  | r :: t, h => by
    have hr : r.length = m := h r (List.mem_cons_self ..)
    have ht : ∀ r' ∈ t, r'.length = m := fun r' hr' => h r' (List.mem_cons_of_mem _ hr')
    simp only [List.length_cons, List.flatten_cons, chunk]
    rw [← hr, List.take_left', List.drop_left']
    · rw [hr, chunk_flatten m t ht]
    · rfl
    · rfl

theorem length_flatten_rows {α : Type} (m : Nat) : ∀ (rows : List (List α)), (∀ r ∈ rows, r.length = m) →
    rows.flatten.length = rows.length * m
  | [], _ => by simp
  | r :: t, h => by
    have hr : r.length = m := h r (List.mem_cons_self ..)
    have ht : ∀ r' ∈ t, r'.length = m := fun r' hr' => h r' (List.mem_cons_of_mem _ hr')
    simp only [List.flatten_cons, List.length_append, List.length_cons, hr, length_flatten_rows m t ht]
    rw [Nat.add_mul, Nat.one_mul, Nat.add_comm]

/-- cutting a list of `n·m` elements into `n` rows of `m` and flattening gives the list back; the converse of
`chunk_flatten` -/
theorem flatten_chunk {α : Type} (m : Nat) : ∀ (n : Nat) (l : List α), l.length = n * m →
    (chunk m n l).flatten = l ∧ (chunk m n l).length = n ∧ ∀ r ∈ chunk m n l, r.length = m
  | 0, l, h => by
    have : l = [] := by simpa using h
    subst this
    simp [chunk]
  | n + 1, l, h => by
    have hl : (l.drop m).length = n * m := by
      rw [List.length_drop, h, Nat.add_mul, Nat.one_mul, Nat.add_sub_cancel]
    obtain ⟨h1, h2, h3⟩ := flatten_chunk m n (l.drop m) hl
    have hm : m ≤ l.length := by rw [h, Nat.add_mul, Nat.one_mul]; omega
    refine ⟨by simp [chunk, h1], by simp [chunk, h2], ?_⟩
    intro r hr
    simp only [chunk, List.mem_cons] at hr
    rcases hr with rfl | hr
    · simp [List.length_take, Nat.min_eq_left hm]
    · exact h3 r hr

/-! ### hex text as UTF-8 bytes and back (the json-ext `data` string) -/

theorem hexDigit_byte_char : ∀ n, n < 16 → Char.ofNat (UInt8.ofNat (hexDigit n).toNat).toNat = hexDigit n := by
  decide

theorem bytesToChars_hexBytes : ∀ data : Bytes, bytesToChars (hexBytes data) = hex data
  | [] => by simp [bytesToChars, hexBytes, hex]
  | b :: t => by
    have hb : b.toNat < 256 := b.toNat_lt
    have h1 : b.toNat / 16 < 16 := by omega
    have h2 : b.toNat % 16 < 16 := by omega
    have ih := bytesToChars_hexBytes t
    simp only [bytesToChars, hexBytes, hex, List.map_cons, List.map_map] at ih ⊢
    rw [hexDigit_byte_char _ h1, hexDigit_byte_char _ h2, ih]

/-! ### envelope hooks -/

theorem shapeOfVals_map : ∀ shape : List Nat, shapeOfVals (shape.map fun (n : Nat) => Val.int (n : Int)) = some shape
  | [] => by simp [shapeOfVals]
  | n :: t => by
    simp only [List.map_cons, shapeOfVals, shapeOfVals_map t]
    simp

theorem prodL_singleton (n : Nat) : prodL [n] = n := by simp [prodL]

/-- what the size test of `np.frombuffer` + `arr.shape = …` needs from well-formedness -/
theorem wf_arith {isz len p : Nat} (hpos : 0 < isz) (hlen : len = isz * p) : len % isz = 0 ∧ len / isz = p := by
  subst hlen
  exact ⟨Nat.mul_mod_right isz p, Nat.mul_div_cancel_left p hpos⟩

/-- a shape of rank ≥ 1 for which `len(obj.shape) > 1` fails is `[n]` (its envelope has no `shape` entry) -/
theorem singleton_of_length {α : Type} (l : List α) (h1 : 1 ≤ l.length) (h2 : ¬ l.length > 1) : ∃ a, l = [a] := by
  match l, h1, h2 with
  | [a], _, _ => exact ⟨a, rfl⟩
  | _ :: _ :: _, _, h2 => simp at h2

end QcelVerif.Ser
