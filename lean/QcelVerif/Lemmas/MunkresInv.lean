import QcelVerif.Model.Munkres
/-!
Helper lemmas for C14 that need no invariant: entries of mapped and transposed matrices, the fact that
`_step4` never writes to the working matrix `C`, and `solveVia`, the wrapper of
`linear_sum_assignment` around any solver for wide matrices (`solve = solveVia solveWide`).
The step invariants themselves are in `Lemmas/MunkresInv2/`.
-/
namespace QcelVerif.Munkres

theorem get2_map_rows {α β : Type} [Inhabited α] [Inhabited β] (M : Mat α) (g : Array α → α → β) (i j : Nat) (hi : i < M.size)
    (hj : j < (M.getD i #[]).size) :
    get2 (M.map fun r => r.map (g r)) i j = g (M.getD i #[]) (get2 M i j) := by
  simp [Array.getD, hi] at hj
  simp [get2, Array.getD, hi, hj]

theorem get2_mapIdx {α β : Type} [Inhabited α] [Inhabited β] (M : Mat α) (F : Nat → Nat → α → β) (i j : Nat) (hi : i < M.size)
    (hj : j < (M.getD i #[]).size) :
    get2 (M.mapIdx fun i r => r.mapIdx fun j x => F i j x) i j = F i j (get2 M i j) := by
  simp [Array.getD, hi] at hj
  simp [get2, Array.getD, hi, hj]

/-- entries of a matrix mapped by a function that keeps the default value, inside the matrix or not -/
theorem get2_map {α β : Type} [Inhabited α] [Inhabited β] (M : Mat α) (f : α → β) (hf : f default = default)
    (i j : Nat) : get2 (M.map fun r => r.map f) i j = f (get2 M i j) := by
  unfold get2
  by_cases hi : i < M.size
  · by_cases hj : j < M[i].size <;> simp [Array.getD, hi, hj, hf]
  · simp [Array.getD, hi, hf]

theorem getD_map_size {α β : Type} (M : Mat α) (g : Array α → α → β) (i : Nat) :
    ((M.map fun r => r.map (g r)).getD i #[]).size = (M.getD i #[]).size := by
  by_cases hi : i < M.size <;> simp [Array.getD, hi]

theorem getD_mapIdx_size {α β : Type} (M : Mat α) (F : Nat → Nat → α → β) (i : Nat) :
    ((M.mapIdx fun i r => r.mapIdx fun j x => F i j x).getD i #[]).size = (M.getD i #[]).size := by
  by_cases hi : i < M.size <;> simp [Array.getD, hi]

/-- the `while` of `_step4` never writes to `C`, and fails only by exhausting its fuel -/
theorem step4Loop_res : ∀ (f : Nat) (Cz cov : Mat Nat) (s : State) (r : Except Err (State × Option Step)),
    step4Loop f Cz cov s = r → match r with | .ok (s', _) => s'.C = s.C | .error e => e = .fuel
  | 0, _, _, _, r, h => by subst h; rfl
  | f + 1, Cz, cov, s, r, h => by
    unfold step4Loop at h
    simp only at h
    split at h
    · subst h; rfl
    · split at h
      · subst h; rfl
      · have := step4Loop_res f _ _ _ r h
        exact this

theorem step4_C (s s' : State) (nx : Option Step) (h : step4 s = .ok (s', nx)) : s'.C = s.C :=
  step4Loop_res _ _ _ _ _ h

/-- entry `[j][i]` of `transpose n m M` is entry `[i][j]` of `M` -/
theorem get2_transpose {α : Type} [Inhabited α] (n m : Nat) (M : Mat α) (i j : Nat) (hi : i < n) (hj : j < m) :
    get2 (transpose n m M) j i = get2 M i j := by
  simp [transpose, get2, Array.getD, hi, hj]

theorem transpose_size {α : Type} [Inhabited α] (n m : Nat) (M : Mat α) : (transpose n m M).size = m := by
  simp [transpose]

theorem transpose_row_size {α : Type} [Inhabited α] (n m : Nat) (M : Mat α) (j : Nat) (hj : j < m) :
    ((transpose n m M).getD j #[]).size = n := by
  simp [transpose, Array.getD, hj]

/-! ### the wrapper around the solver for wide matrices -/

/-- `linear_sum_assignment` around a solver `wide` for matrices in the wide orientation: validation
and dtype widening, transposition of tall matrices, read-out (`qcelemental/util/scipy_hungarian.py`).  `solve` is
`solveVia solveWide`; the run in a work dtype and the source-derived solver are `solveVia` of their own
`wide`. -/
def solveVia (wide : Nat → Nat → Mat Rat → Except Err (State × Array (Step × State))) (inp : Input) :
    Except Err Output :=
  if inp.ndim != 2 then .error .ndim
  else if inp.dt = .other then .error .dtype
  else if !inp.allFinite then .error .nonfinite
  else
    let cost : Mat Rat := inp.ent.map fun r => r.map Entry.val
    if inp.m < inp.n then
      match wide inp.m inp.n (transpose inp.n inp.m cost) with
      | .error e => .error e
      | .ok (s, tr) =>
        .ok { n := inp.n, m := inp.m, pairs := starPairs (transpose inp.m inp.n s.marked),
              red := transpose inp.m inp.n s.C, trace := tr }
    else
      match wide inp.n inp.m cost with
      | .error e => .error e
      | .ok (s, tr) => .ok { n := inp.n, m := inp.m, pairs := starPairs s.marked, red := s.C, trace := tr }

theorem solve_eq_via (inp : Input) : solve inp = solveVia solveWide inp := rfl

/-- the problem `solve` hands to `_Hungary`: the wide orientation (the `cost_matrix.T` test of
`linear_sum_assignment`) -/
def Input.wideN (inp : Input) : Nat := if inp.m < inp.n then inp.m else inp.n
def Input.wideM (inp : Input) : Nat := if inp.m < inp.n then inp.n else inp.m
def Input.wideCost (inp : Input) : Nat → Nat → Rat := if inp.m < inp.n then Assign.tr inp.costFn else inp.costFn
def Input.wideMat (inp : Input) : Mat Rat :=
  if inp.m < inp.n then transpose inp.n inp.m (inp.ent.map fun r => r.map Entry.val)
  else inp.ent.map fun r => r.map Entry.val

theorem Input.wide_le (inp : Input) : inp.wideN ≤ inp.wideM := by
  unfold Input.wideN Input.wideM
  split <;> omega

/-- the read-out of `linear_sum_assignment` (scipy_hungarian.py:127-137): through the transpose when the run was on
the transpose -/
def Input.readout (inp : Input) (r : State × Array (Step × State)) : Output :=
  if inp.m < inp.n then
    { n := inp.n, m := inp.m, pairs := starPairs (transpose inp.m inp.n r.1.marked),
      red := transpose inp.m inp.n r.1.C, trace := r.2 }
  else { n := inp.n, m := inp.m, pairs := starPairs r.1.marked, red := r.1.C, trace := r.2 }

theorem Input.readout_trace (inp : Input) (r : State × Array (Step × State)) : (inp.readout r).trace = r.2 := by
  unfold Input.readout
  split <;> rfl

/-- tall and wide inputs are told apart in `Input.wideN` … `Input.wideMat` and in `Input.readout`, nowhere else -/
theorem solveVia_eq (wide : Nat → Nat → Mat Rat → Except Err (State × Array (Step × State))) (inp : Input) :
    solveVia wide inp =
      if inp.ndim != 2 then .error .ndim
      else if inp.dt = .other then .error .dtype
      else if !inp.allFinite then .error .nonfinite
      else match wide inp.wideN inp.wideM inp.wideMat with
        | .error e => .error e
        | .ok r => .ok (inp.readout r) := by
  unfold solveVia Input.wideN Input.wideM Input.wideMat Input.readout
  by_cases h : inp.m < inp.n
  · simp only [if_pos h]
    generalize wide inp.m inp.n _ = w
    rcases w with e | ⟨s, tr⟩ <;> rfl
  · simp only [if_neg h]
    generalize wide inp.n inp.m _ = w
    rcases w with e | ⟨s, tr⟩ <;> rfl

section via
variable {wide : Nat → Nat → Mat Rat → Except Err (State × Array (Step × State))} {inp : Input} {o : Output}

/-- an answer is the read-out of a finished run of `wide` on the wide orientation -/
theorem solveVia_ok (h : solveVia wide inp = .ok o) :
    ∃ r, wide inp.wideN inp.wideM inp.wideMat = .ok r ∧ o = inp.readout r := by
  rw [solveVia_eq] at h
  split at h
  · cases h
  split at h
  · cases h
  split at h
  · cases h
  split at h
  · cases h
  · rename_i r hr
    cases h
    exact ⟨r, hr, rfl⟩

theorem solveVia_congr {wide' : Nat → Nat → Mat Rat → Except Err (State × Array (Step × State))}
    (h : wide inp.wideN inp.wideM inp.wideMat = wide' inp.wideN inp.wideM inp.wideMat) :
    solveVia wide inp = solveVia wide' inp := by
  rw [solveVia_eq, solveVia_eq, h]

/-- a solver for wide matrices that answers whenever `wide` does, with the same answer, gives the same
answers through the wrapper -/
theorem solveVia_mono {wide' : Nat → Nat → Mat Rat → Except Err (State × Array (Step × State))}
    (hw : ∀ n m c r, wide n m c = .ok r → wide' n m c = .ok r) (h : solveVia wide inp = .ok o) :
    solveVia wide' inp = .ok o := by
  obtain ⟨r, hr, _⟩ := solveVia_ok h
  rwa [← solveVia_congr (hr.trans (hw _ _ _ _ hr).symm)]

end via

end QcelVerif.Munkres
