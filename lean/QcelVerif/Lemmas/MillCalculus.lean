import QcelVerif.Lemmas.Mill
import Mathlib.Analysis.Calculus.FDeriv.Comp
import Mathlib.Analysis.Calculus.FDeriv.Add
import Mathlib.Analysis.Calculus.FDeriv.Linear
import Mathlib.Analysis.Calculus.FDeriv.Congr
import Mathlib.Topology.Algebra.Module.FiniteDimension
import Mathlib.Analysis.Calculus.ContDiff.Operations
import Mathlib.Analysis.SpecialFunctions.Sqrt
import Mathlib.Analysis.Calculus.LineDeriv.Basic
import Mathlib.Analysis.Calculus.Deriv.Pow
/-!
Helper definitions and lemmas for `Props/C13Calculus.lean`: the model's coordinate map
`alignCoords` (Model/Mill.lean) at `K = ℝ` as an affine map of the finite-dimensional normed space
`Geom ℝ n = Fin n → Fin 3 → ℝ` (Pi instances, sup norm — every norm is equivalent here and the
Fréchet derivative does not depend on the choice), its linear part `J` as a continuous linear map,
and the coordinate arrays (`grad`, `hess`) of first and second Fréchet derivatives.
-/
namespace QcelVerif.Mill
open Topology

noncomputable section

variable {n m : Nat}

/-- coordinate unit vector `e_{i,a}` of the `(n,3)` array space -/
def basisG (i : Fin n) (a : Fin 3) : Geom ℝ n := fun j b => if j = i ∧ b = a then 1 else 0

/-- `J` (Lemmas/Mill.lean: reflect `y` if mirror, rotate, permute atoms) as a linear map over ℝ -/
def Jlin (r : Recipe ℝ n m) : Geom ℝ n →ₗ[ℝ] Geom ℝ m where
  toFun := J r
  map_add' d e := by funext i a; simp only [J, sum3, Pi.add_apply]; ring
  map_smul' c d := by funext i a; simp only [J, sum3, Pi.smul_apply, smul_eq_mul, RingHom.id_apply]; ring

/-- `J` as a continuous linear map (automatic in finite dimension) -/
def Jclm (r : Recipe ℝ n m) : Geom ℝ n →L[ℝ] Geom ℝ m := LinearMap.toContinuousLinearMap (Jlin r)

@[simp] theorem Jclm_apply (r : Recipe ℝ n m) (d : Geom ℝ n) : Jclm r d = J r d := rfl

/-- `g x = J x + b` with `b = g 0` -/
theorem alignCoords_eq_affine (r : Recipe ℝ n m) (x : Geom ℝ n) :
    alignCoords r x = Jclm r x + alignCoords r 0 := by
  funext i a
  simp only [alignCoords_apply, Pi.add_apply, Jclm_apply, pointMap, J, frame, sum3, Pi.zero_apply]
  ring

/-- the Fréchet derivative of the model's coordinate map is `J`, at every point, for every recipe -/
theorem hasFDerivAt_alignCoords (r : Recipe ℝ n m) (x : Geom ℝ n) :
    HasFDerivAt (alignCoords r) (Jclm r) x := by
  have e : alignCoords r = fun y => Jclm r y + alignCoords r 0 := funext (alignCoords_eq_affine r)
  rw [e]
  exact (Jclm r).hasFDerivAt.add_const _

/-- chain rule through the coordinate map: an energy `E` that agrees near `x` with `E' ∘ alignCoords r` has the
derivative `DE'(g x) ∘ J` at `x` -/
theorem hasFDerivAt_of_invariant (r : Recipe ℝ n m) (E : Geom ℝ n → ℝ) (E' : Geom ℝ m → ℝ) (x : Geom ℝ n)
    (hinv : ∀ᶠ y in 𝓝 x, E' (alignCoords r y) = E y) (hE' : DifferentiableAt ℝ E' (alignCoords r x)) :
    HasFDerivAt E ((fderiv ℝ E' (alignCoords r x)).comp (Jclm r)) x :=
  (hE'.hasFDerivAt.comp x (hasFDerivAt_alignCoords r x)).congr_of_eventuallyEq (hinv.mono fun _ hy => hy.symm)

/-- the dot product with a unit vector picks a component -/
theorem sum3_basisG (j : Fin n) (c : Fin 3) (i : Fin n) (v : Vec3 ℝ) :
    sum3 (fun c' => basisG j c i c' * v c') = if i = j then v c else 0 := by
  by_cases h : i = j
  · simp only [basisG, sum3, h, true_and, if_true]
    fin_cases c <;> simp
  · simp [basisG, sum3, h]

theorem J_basis (r : Recipe ℝ n m) (j : Fin n) (c : Fin 3) (i : Fin m) (a : Fin 3) :
    J r (basisG j c) i a = if r.map i = j then frame r c a else 0 :=
  sum3_basisG j c (r.map i) fun c' => frame r c' a

/-- `Σ_c F[c,a] · J e_{map i, c} = e_{i,a}` : columns of the frame are orthonormal and the atom map is
injective, so `J` maps the `F`-combination of the unit vectors of atom `map i` onto `e_{i,a}` -/
theorem frame_J_basis (r : Recipe ℝ n m) (hR : IsOrtho r.rot) (hinj : Function.Injective r.map)
    (i : Fin m) (a : Fin 3) :
    frame r 0 a • J r (basisG (r.map i) 0) + frame r 1 a • J r (basisG (r.map i) 1)
      + frame r 2 a • J r (basisG (r.map i) 2) = basisG i a := by
  funext i' a'
  simp only [Pi.add_apply, Pi.smul_apply, smul_eq_mul, J_basis, hinj.eq_iff]
  have hc := ortho_cols (frame_ortho r hR) a a'
  simp only [sum3] at hc
  by_cases h : i' = i
  · simp only [h, if_true, basisG, true_and]
    rw [hc]
    by_cases h2 : a = a'
    · simp [h2]
    · have : ¬ a' = a := fun e => h2 e.symm
      simp [h2, this]
  · simp [h, basisG]

/-- pulling a linear functional back through `J`, reading off its coordinate array and pushing the
array forward with `J` gives the coordinate array of the functional itself -/
theorem J_pullback (r : Recipe ℝ n m) (hR : IsOrtho r.rot) (hinj : Function.Injective r.map)
    (L : Geom ℝ m →L[ℝ] ℝ) (i : Fin m) (a : Fin 3) :
    J r (fun j c => L (J r (basisG j c))) i a = L (basisG i a) := by
  have h := congrArg L (frame_J_basis r hR hinj i a)
  rw [map_add, map_add, map_smul, map_smul, map_smul] at h
  rw [← h]
  show sum3 (fun c => L (J r (basisG (r.map i) c)) * frame r c a) = _
  simp only [sum3, smul_eq_mul]
  ring

/-- the same for a bilinear form (both slots) -/
theorem J_pullback₂ (r : Recipe ℝ n m) (hR : IsOrtho r.rot) (hinj : Function.Injective r.map)
    (B : Geom ℝ m →L[ℝ] Geom ℝ m →L[ℝ] ℝ) (i j : Fin m) (a b : Fin 3) :
    (sum3 fun c => sum3 fun d =>
        frame r c a * B (J r (basisG (r.map i) c)) (J r (basisG (r.map j) d)) * frame r d b)
      = B (basisG i a) (basisG j b) := by
  have h1 := congrArg B (frame_J_basis r hR hinj i a)
  rw [map_add, map_add, map_smul, map_smul, map_smul] at h1
  have h2 := fun u : Geom ℝ m => congrArg (B u) (frame_J_basis r hR hinj j b)
  simp only [map_add, map_smul, smul_eq_mul] at h2
  rw [← h1]
  simp only [_root_.add_apply, _root_.smul_apply, smul_eq_mul, ← h2, sum3]
  ring

/-! ### coordinate arrays of the first and second Fréchet derivative -/

/-- the `(n,3)` gradient array of `E` at `x`: entry `(i,a)` is the Fréchet derivative of `E` at `x`
applied to the unit vector `e_{i,a}` (= ∂E/∂x_{ia}) -/
def grad (E : Geom ℝ n → ℝ) (x : Geom ℝ n) : Geom ℝ n := fun i a => fderiv ℝ E x (basisG i a)

/-- the `(3n,3n)` Hessian array of `E` at `x` in the model's flat index convention (row `3i+a`):
entry `(3i+a, 3j+b)` is the derivative in direction `e_{i,a}` of `y ↦ ∂E/∂x_{jb}(y)` -/
def hess (E : Geom ℝ n → ℝ) (x : Geom ℝ n) : Hess ℝ n :=
  fun s t => fderiv ℝ (fun y => fderiv ℝ E y (basisG (blk t) (off t))) x (basisG (blk s) (off s))

/-- the Hessian array is the array of first derivatives of the gradient array (by definition) -/
theorem hess_eq_fderiv_grad (E : Geom ℝ n → ℝ) (x : Geom ℝ n) (s t : Fin (n * 3)) :
    hess E x s t = fderiv ℝ (fun y => grad E y (blk t) (off t)) x (basisG (blk s) (off s)) := rfl

/-- for a twice differentiable function the Hessian array is the array of the second Fréchet
derivative `D²E(x) : V →L V →L ℝ` -/
theorem hess_eq_second (E : Geom ℝ n → ℝ) (x : Geom ℝ n) (h2 : DifferentiableAt ℝ (fderiv ℝ E) x)
    (s t : Fin (n * 3)) :
    hess E x s t = fderiv ℝ (fderiv ℝ E) x (basisG (blk s) (off s)) (basisG (blk t) (off t)) := by
  unfold hess
  rw [fderiv_clm_apply h2 (differentiableAt_const _)]
  simp

/-! ### pair potentials: energies `Σ_{i≠j} f_ij(|x_i − x_j|²)` with arbitrary pair functions -/

/-- `E_f(x) = Σ_{i ≠ j} f_ij(|x_i − x_j|²)` over ordered pairs (each unordered pair twice; put the
factor ½ into `f`).  `f_ij` is a function of the SQUARED distance, so `f_ij s = k_ij/√s` is the
Coulomb term and `f_ij s = h_ij (√s − ρ_ij)²` the harmonic one. -/
def pairEnergy (f : Fin n → Fin n → ℝ → ℝ) (x : Geom ℝ n) : ℝ :=
  ∑ i, ∑ j, if i = j then 0 else f i j (dist2 x i j)

theorem dist2_contDiff (i j : Fin n) (k : WithTop ℕ∞) :
    ContDiff ℝ k (fun x : Geom ℝ n => dist2 x i j) := by
  have h : ∀ a : Fin 3, ContDiff ℝ k (fun x : Geom ℝ n => (x i a - x j a) * (x i a - x j a)) :=
    fun a => ((contDiff_apply_apply ℝ ℝ i a).sub (contDiff_apply_apply ℝ ℝ j a)).mul
      ((contDiff_apply_apply ℝ ℝ i a).sub (contDiff_apply_apply ℝ ℝ j a))
  exact ((h 0).add (h 1)).add (h 2)

theorem dist2_nonneg (x : Geom ℝ n) (i j : Fin n) : 0 ≤ dist2 x i j :=
  add_nonneg (add_nonneg (mul_self_nonneg _) (mul_self_nonneg _)) (mul_self_nonneg _)

/-- a pair potential is `C^k` wherever every pair function is `C^k` at the pair's squared distance -/
theorem pairEnergy_contDiffAt (f : Fin n → Fin n → ℝ → ℝ) (x : Geom ℝ n) (k : WithTop ℕ∞)
    (hf : ∀ i j, i ≠ j → ContDiffAt ℝ k (f i j) (dist2 x i j)) : ContDiffAt ℝ k (pairEnergy f) x := by
  unfold pairEnergy
  apply ContDiffAt.sum; intro i _
  apply ContDiffAt.sum; intro j _
  by_cases h : i = j
  · simp only [h, if_true]; exact contDiffAt_const
  · simp only [h, if_false]
    exact ContDiffAt.comp x (hf i j h) (dist2_contDiff i j k).contDiffAt

/-- Coulomb + harmonic pair function of the squared distance `s`: `k/√s + h (√s − ρ)²` -/
def coulombHarmonic (k h ρ : ℝ) (s : ℝ) : ℝ := k / Real.sqrt s + h * ((Real.sqrt s - ρ) * (Real.sqrt s - ρ))

theorem coulombHarmonic_contDiffAt (k h ρ : ℝ) (s : ℝ) (hs : 0 < s) (d : WithTop ℕ∞) :
    ContDiffAt ℝ d (coulombHarmonic k h ρ) s := by
  have hsq : ContDiffAt ℝ d Real.sqrt s := contDiffAt_id.sqrt (ne_of_gt hs)
  have hne : Real.sqrt s ≠ 0 := Real.sqrt_ne_zero'.mpr hs
  unfold coulombHarmonic
  exact (contDiffAt_const.div hsq hne).add
    (contDiffAt_const.mul ((hsq.sub contDiffAt_const).mul (hsq.sub contDiffAt_const)))

/-! ### the polynomial pair energies of `Lemmas/Mill.lean` as differentiable functions -/

theorem inner_basisG (d : Geom ℝ n) (j : Fin n) (c : Fin 3) :
    ∑ i, sum3 (fun a => d i a * basisG j c i a) = d j c := by
  simp only [mul_comm (d _ _), sum3_basisG, Finset.sum_ite_eq', Finset.mem_univ, if_true]

theorem flat_basisG (i : Fin n) (a : Fin 3) (s : Fin (n * 3)) :
    flat (basisG i a) s = if s = idx i a then 1 else 0 := by
  unfold flat basisG
  by_cases h : s = idx i a
  · subst h; simp [blk_idx, off_idx]
  · have : ¬ (blk s = i ∧ off s = a) := by
      rintro ⟨h1, h2⟩; apply h; rw [← idx_blk_off s, h1, h2]
    simp [h, this]

/-- a function differentiable at `x` whose restriction to the line `x + t d` is the polynomial
`F x + t G + t² q₂ + t³ q₃ + t⁴ q₄` has Fréchet derivative `G` in direction `d` -/
theorem fderiv_of_line_expansion (F : Geom ℝ n → ℝ) (x d : Geom ℝ n) (hF : DifferentiableAt ℝ F x)
    (G q2 q3 q4 : ℝ)
    (h : ∀ t : ℝ, F (fun i a => x i a + t * d i a) = F x + t * G + t ^ 2 * q2 + t ^ 3 * q3 + t ^ 4 * q4) :
    fderiv ℝ F x d = G := by
  have h1 := hF.hasFDerivAt.hasLineDerivAt d
  unfold HasLineDerivAt at h1
  have e : (fun t : ℝ => F (x + t • d))
      = fun t : ℝ => F x + t * G + t ^ 2 * q2 + t ^ 3 * q3 + t ^ 4 * q4 := funext fun t => h t
  rw [e] at h1
  have h2 : HasDerivAt (fun t : ℝ => F x + t * G + t ^ 2 * q2 + t ^ 3 * q3 + t ^ 4 * q4) G 0 := by
    have := ((((hasDerivAt_const (0 : ℝ) (F x)).add ((hasDerivAt_id (0 : ℝ)).mul_const G)).add
      (((hasDerivAt_id (0 : ℝ)).pow 2).mul_const q2)).add
      (((hasDerivAt_id (0 : ℝ)).pow 3).mul_const q3)).add
      (((hasDerivAt_id (0 : ℝ)).pow 4).mul_const q4)
    exact this.congr_deriv (by simp)
  exact h1.unique h2

theorem energy_contDiff (k c : Fin n → Fin n → ℝ) (d : WithTop ℕ∞) : ContDiff ℝ d (energy k c) := by
  unfold energy
  apply ContDiff.sum; intro i _
  apply ContDiff.sum; intro j _
  by_cases h : i < j
  · simp only [h, if_true]
    unfold pairE
    exact contDiff_const.mul (((dist2_contDiff i j d).sub contDiff_const).mul
      ((dist2_contDiff i j d).sub contDiff_const))
  · simp only [h, if_false]; exact contDiff_const

theorem gradE_contDiff (k c : Fin n → Fin n → ℝ) (i : Fin n) (a : Fin 3) (d : WithTop ℕ∞) :
    ContDiff ℝ d (fun y : Geom ℝ n => gradE k c y i a) := by
  unfold gradE
  apply ContDiff.sum; intro j _
  exact (contDiff_const.mul ((dist2_contDiff i j d).sub contDiff_const)).mul
    ((contDiff_apply_apply ℝ ℝ i a).sub (contDiff_apply_apply ℝ ℝ j a))

/-- the explicit Hessian of a polynomial pair energy with symmetric couplings is a symmetric array -/
theorem hessE_symm (k c : Fin n → Fin n → ℝ) (hk : ∀ i j, k i j = k j i) (hc : ∀ i j, c i j = c j i)
    (x : Geom ℝ n) (s t : Fin (n * 3)) : hessE k c x s t = hessE k c x t s := by
  unfold hessE
  by_cases h : blk s = blk t
  · have h' : blk t = blk s := h.symm
    simp only [h, if_true]
    apply Finset.sum_congr rfl; intro l _
    rw [Tblk_symm' k c x (blk t) l (off s) (off t)]
  · have h' : ¬ blk t = blk s := fun e => h e.symm
    simp only [h, h', if_false]
    rw [Tblk_symm k c hk hc x (blk s) (blk t) (off s) (off t)]

theorem fieldMu_contDiff (w : Fin n → Fin n → ℝ) (d : WithTop ℕ∞) :
    ContDiff ℝ d (fun x : Geom ℝ n => fieldMu w x) := by
  rw [contDiff_pi]
  intro a
  unfold fieldMu
  apply ContDiff.sum; intro i _
  apply ContDiff.sum; intro j _
  exact (contDiff_const.mul (dist2_contDiff i j d)).mul
    ((contDiff_apply_apply ℝ ℝ i a).sub (contDiff_apply_apply ℝ ℝ j a))

/-! ### `J` is an orthogonal isomorphism; the inverse of the coordinate map -/

/-- `J` preserves the standard inner product `⟨d,e⟩ = Σ_{i,a} d_ia e_ia` of coordinate arrays -/
theorem Jclm_inner (r : Recipe ℝ n m) (hR : IsOrtho r.rot) (hmap : Function.Bijective r.map)
    (d e : Geom ℝ n) :
    ∑ i, sum3 (fun a => Jclm r d i a * Jclm r e i a) = ∑ i, sum3 (fun a => d i a * e i a) :=
  J_inner r hR hmap d e

theorem Jclm_injective (r : Recipe ℝ n m) (hR : IsOrtho r.rot) (hmap : Function.Bijective r.map) :
    Function.Injective (Jclm r) := by
  rw [injective_iff_map_eq_zero]
  intro d hd
  funext j c
  have h := Jclm_inner r hR hmap d (basisG j c)
  rw [inner_basisG, hd] at h
  simp only [Pi.zero_apply, zero_mul, sum3, add_zero, Finset.sum_const_zero] at h
  exact h.symm

/-- `J` is invertible (a linear isomorphism of the coordinate-array spaces) -/
theorem Jclm_bijective (r : Recipe ℝ n m) (hR : IsOrtho r.rot) (hmap : Function.Bijective r.map) :
    Function.Bijective (Jclm r) := by
  have hmn : m = n := by simpa using Fintype.card_of_bijective hmap
  subst hmn
  have hi := Jclm_injective r hR hmap
  exact ⟨hi, (LinearMap.injective_iff_surjective (f := Jlin r)).mp hi⟩

/-- `J` as a continuous linear equivalence -/
def Jequiv (r : Recipe ℝ n m) (hR : IsOrtho r.rot) (hmap : Function.Bijective r.map) :
    Geom ℝ n ≃L[ℝ] Geom ℝ m :=
  (LinearEquiv.ofBijective (Jlin r) (Jclm_bijective r hR hmap)).toContinuousLinearEquiv

theorem Jequiv_apply (r : Recipe ℝ n m) (hR : IsOrtho r.rot) (hmap : Function.Bijective r.map)
    (d : Geom ℝ n) : Jequiv r hR hmap d = Jclm r d := rfl

/-- the inverse of the forward coordinate map -/
def alignInv (r : Recipe ℝ n m) (hR : IsOrtho r.rot) (hmap : Function.Bijective r.map)
    (z : Geom ℝ m) : Geom ℝ n := (Jequiv r hR hmap).symm (z - alignCoords r 0)

theorem alignCoords_alignInv (r : Recipe ℝ n m) (hR : IsOrtho r.rot) (hmap : Function.Bijective r.map)
    (z : Geom ℝ m) : alignCoords r (alignInv r hR hmap z) = z := by
  rw [alignCoords_eq_affine, alignInv, ← Jequiv_apply r hR hmap, ContinuousLinearEquiv.apply_symm_apply]
  abel

theorem alignInv_alignCoords (r : Recipe ℝ n m) (hR : IsOrtho r.rot) (hmap : Function.Bijective r.map)
    (x : Geom ℝ n) : alignInv r hR hmap (alignCoords r x) = x := by
  rw [alignInv, alignCoords_eq_affine r x, add_sub_cancel_right, ← Jequiv_apply r hR hmap,
    ContinuousLinearEquiv.symm_apply_apply]

theorem alignInv_contDiff (r : Recipe ℝ n m) (hR : IsOrtho r.rot) (hmap : Function.Bijective r.map)
    (k : WithTop ℕ∞) : ContDiff ℝ k (alignInv r hR hmap) :=
  ((Jequiv r hR hmap).symm.contDiff).comp (contDiff_id.sub contDiff_const)


/-- `C²` at a point gives the two differentiability hypotheses of `hessian_covariance` -/
theorem twice_differentiable_of_contDiffAt {F : Geom ℝ m → ℝ} {z : Geom ℝ m} (hF : ContDiffAt ℝ 2 F z) :
    (∀ᶠ w in 𝓝 z, DifferentiableAt ℝ F w) ∧ DifferentiableAt ℝ (fderiv ℝ F) z := by
  constructor
  · exact (hF.eventually (by simp)).mono fun w hw => hw.differentiableAt (by simp)
  · have h : ContDiffAt ℝ 1 (fderiv ℝ F) z := hF.fderiv_right (m := 1) (by rw [one_add_one_eq_two])
    exact h.differentiableAt (by simp)


/-! ### attached vectors -/

/-- the `(3,3n)` array `∂μ_a/∂x_{jb}` (column `3j+b`) that `align_vector_gradient` takes -/
def vecGrad (μ : Geom ℝ n → Vec3 ℝ) (x : Geom ℝ n) : Fin 3 → Fin (n * 3) → ℝ :=
  fun a s => fderiv ℝ μ x (basisG (blk s) (off s)) a

/-- `v ↦ v · Rᵀ` as a linear map (inverse of `align_vector` for an orthogonal rotation) -/
def rotBackLin (R : Mat3 ℝ) : Vec3 ℝ →ₗ[ℝ] Vec3 ℝ where
  toFun v := rowDot v (transpose R)
  map_add' u v := by funext a; simp only [rowDot, transpose, sum3, Pi.add_apply]; ring
  map_smul' c v := by
    funext a; simp only [rowDot, transpose, sum3, Pi.smul_apply, smul_eq_mul, RingHom.id_apply]; ring

theorem rotBack_alignVector (r : Recipe ℝ n n) (hR : IsOrtho r.rot) (v : Vec3 ℝ) :
    rotBackLin r.rot (alignVector r v) = v := by
  funext c
  have h := rowDot_back hR v c
  simp only [rotBackLin, alignVector, LinearMap.coe_mk, AddHom.coe_mk, rowDot, transpose, sum3] at h ⊢
  linarith

end

end QcelVerif.Mill
