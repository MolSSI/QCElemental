import QcelVerif.Model.ChgMult
/-!
Helper lemmas for C05 about the hand model's list functions (`isum`, `dedup`, `prod`, `candidates`, `irange`,
`applyDefault`, `keepsAll`); the property theorems, and the helpers specific to them, are in `Props/C05.lean`.
-/
namespace QcelVerif.ChgMult

@[simp] theorem isum_nil : isum [] = 0 := rfl
@[simp] theorem isum_cons (x : Int) (l : List Int) : isum (x :: l) = x + isum l := rfl

theorem isum_const {α} (d : Int) (l : List α) : isum (l.map (fun _ => d)) = d * l.length := by
  induction l with
  | nil => simp
  | cons _ t ih =>
    simp only [List.map_cons, isum_cons, ih, List.length_cons]; push_cast
    rw [Int.mul_add]; omega

theorem isum_append (a b : List Int) : isum (a ++ b) = isum a + isum b := List.sum_append_int

theorem isum_zeros {α} (l : List α) : isum (l.map (fun _ => (0:Int))) = 0 := by
  simpa using isum_const 0 l

theorem isGhost_isum (f : List Int) (h : isGhost f = true) : isum f = 0 := by
  induction f with
  | nil => rfl
  | cons x t ih =>
    simp only [isGhost, List.all_cons, Bool.and_eq_true, beq_iff_eq] at h
    simp only [isum_cons, h.1]
    have := ih (by simpa [isGhost] using h.2)
    omega

theorem mem_dedup : ∀ (l : List Int) (x : Int), x ∈ dedup l ↔ x ∈ l
  | [], x => by simp [dedup]
  | y :: t, x => by
      simp only [dedup, List.mem_cons, List.mem_filter, mem_dedup t x]
      by_cases h : x = y
      · simp [h]
      · simp [h]

@[simp] theorem dedup_single (x : Int) : dedup [x] = [x] := rfl

theorem prod_singletons : ∀ (l : List Int), prod ((l.map (fun x => [x])).map dedup) = [l]
  | [] => rfl
  | x :: t => by
      have ih := prod_singletons t
      simp only [List.map_cons, prod, dedup_single, ih]
      simp

/-- pointwise membership: `x` picks one element from each list -/
def MemAll : List Int → List (List Int) → Prop
  | [], [] => True
  | a :: x, l :: ls => a ∈ l ∧ MemAll x ls
  | [], _ :: _ => False
  | _ :: _, [] => False

theorem mem_prod : ∀ (ls : List (List Int)) (x : List Int), x ∈ prod ls ↔ MemAll x ls
  | [], [] => by simp [prod, MemAll]
  | [], _ :: _ => by simp [prod, MemAll]
  | l :: ls, x => by
      simp only [prod, List.mem_flatMap, List.mem_map]
      constructor
      · rintro ⟨a, ha, t, ht, rfl⟩
        exact ⟨ha, (mem_prod ls t).1 ht⟩
      · intro h
        cases x with
        | nil => simp [MemAll] at h
        | cons a t => exact ⟨a, h.1, t, (mem_prod ls t).2 h.2, rfl⟩

theorem MemAll.length : ∀ {x : List Int} {ls : List (List Int)}, MemAll x ls → x.length = ls.length
  | [], [], _ => rfl
  | _ :: _, _ :: _, h => congrArg (· + 1) (MemAll.length h.2)
  | [], _ :: _, h => h.elim
  | _ :: _, [], h => h.elim

theorem MemAll_map_dedup : ∀ (x : List Int) (ls : List (List Int)), MemAll x (ls.map dedup) ↔ MemAll x ls
  | [], [] => Iff.rfl
  | a :: x, l :: ls => by simp only [List.map_cons, MemAll, mem_dedup, MemAll_map_dedup x ls]
  | [], _ :: _ => Iff.rfl
  | _ :: _, [] => Iff.rfl

theorem mem_candidates (e : Inp) (o : Out) : o ∈ candidates e ↔
    o.c ∈ candC e ∧ MemAll o.fc (candFc e) ∧ o.m ∈ candM e ∧ MemAll o.fm (candFm e) := by
  simp only [candidates, List.mem_flatMap, List.mem_map, mem_dedup, mem_prod, MemAll_map_dedup]
  constructor
  · rintro ⟨c, hc, fc, hfc, m, hm, fm, hfm, rfl⟩; exact ⟨hc, hfc, hm, hfm⟩
  · rintro ⟨hc, hfc, hm, hfm⟩; exact ⟨o.c, hc, o.fc, hfc, o.m, hm, o.fm, hfm, rfl⟩

/-- the same choice `K` at every position -/
theorem MemAll_map_const {α} (K : List Int) : ∀ (l : List α) (v : List Int),
    MemAll v (l.map fun _ => K) ↔ v.length = l.length ∧ ∀ x ∈ v, x ∈ K
  | [], [] => by simp [MemAll]
  | _ :: _, [] => by simp [MemAll]
  | [], _ :: _ => by simp [MemAll]
  | _ :: t, x :: xs => by
      simp only [List.map_cons, MemAll, MemAll_map_const K t xs, List.length_cons, List.forall_mem_cons,
        Nat.add_right_cancel_iff]
      exact and_left_comm

theorem sumKnown_map_some (l : List Int) : sumKnown (l.map some) = isum l := by
  induction l with
  | nil => rfl
  | cons x t ih =>
    simp only [sumKnown, List.map_cons, isum_cons, Option.getD_some] at ih ⊢
    rw [ih]

theorem applyDefault_map_some (l : List Int) (d : Int) : applyDefault (l.map some) d = l := by
  induction l with
  | nil => rfl
  | cons x t ih =>
    simp only [applyDefault, List.map_cons, Option.getD_some] at ih ⊢
    rw [ih]

theorem sumKnown_nones (l : List (List Int)) : sumKnown (l.map (fun _ => (none : Option Int))) = 0 := by
  simp only [sumKnown, List.map_map, Function.comp_def, Option.getD_none]
  exact isum_zeros l

theorem highSpin_applyDefault_nones (l : List (List Int)) (d : Int) :
    highSpin (applyDefault (l.map (fun _ => (none : Option Int))) d) = 1 + (d - 1) * l.length := by
  simp only [highSpin, applyDefault, List.map_map, Function.comp_def, Option.getD_none]
  rw [isum_const]

theorem irange_self (x : Int) : irange x x = [x] := by
  have : (x + 1 - x).toNat = 1 := by omega
  simp [irange, this, List.range_succ]

theorem mem_irange (lo hi x : Int) : x ∈ irange lo hi ↔ lo ≤ x ∧ x ≤ hi := by
  simp only [irange, List.mem_map, List.mem_range]
  constructor
  · rintro ⟨k, hk, rfl⟩; omega
  · intro h
    refine ⟨(x - lo).toNat, ?_, ?_⟩ <;> omega

theorem keepsAll_map_some (l : List Int) : keepsAll (l.map some) l = true := by
  induction l with
  | nil => rfl
  | cons x t ih => simp [keepsAll, keeps, ih]

/-- a fully specified list that is kept by `v` *is* `v` -/
theorem eq_of_keepsAll_all_some : ∀ (s : List (Option Int)) (v : List Int),
    s.length = v.length → (∀ o ∈ s, o ≠ none) → keepsAll s v = true → s = v.map some
  | [], [], _, _, _ => rfl
  | [], _ :: _, h, _, _ => by simp at h
  | _ :: _, [], h, _, _ => by simp at h
  | o :: ss, x :: vs, hl, hs, hk => by
      simp only [keepsAll, Bool.and_eq_true] at hk
      have h1 := eq_of_keepsAll_all_some ss vs (by simpa using hl)
        (fun o ho => hs o (List.mem_cons_of_mem _ ho)) hk.2
      cases o with
      | none => exact absurd rfl (hs none (List.mem_cons_self ..))
      | some y =>
        simp [keeps] at hk
        simp [h1, hk.1]

/-- an entry of a list as long as another one sits beside an entry of that one -/
theorem exists_getElem?_of_length {α β} {a : List α} {b : List β} (h : a.length = b.length) {k : Nat} {x : α}
    (hx : a[k]? = some x) : ∃ y, b[k]? = some y :=
  ⟨b[k]'(h ▸ (List.getElem?_eq_some_iff.1 hx).1), List.getElem?_eq_getElem _⟩

end QcelVerif.ChgMult
