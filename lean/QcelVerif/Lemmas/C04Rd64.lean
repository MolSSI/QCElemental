import QcelVerif.Lemmas.Float64
import QcelVerif.Lemmas.Nucleus
/-!
# `rd64` (round-to-nearest-even onto binary64, `Model/Nucleus.lean`) is a projection

`rd64 (rd64 x) = rd64 x` for EVERY rational `x` — a rounded number rounds to itself.  This discharges the
hypothesis `hidem : ∀ x, rd (rd x) = rd x` that the feedback theorems of C06 / C04 carry, for the rounding
function the drivers run (used in `Props/C04Default.lean` and `Props/C06SrcHead.lean`; `Lemmas/NucleusSrc.lean`
imports it too), and it does not cross a binary64 number: `x ≤ y = rd64 y → rd64 x ≤ y` (`rd64_le_of_le_fixed`, used for the
half-unit window in `Props/C06Elements.lean`).  On a positive number `rd64` is `F64.rnd (-1022)` (`Lemmas/Float64.lean`, where the argument is);
Mathlib is used there for `zpow` / floor arithmetic (no driver imports this file).
-/
namespace QcelVerif.Nucleus
open F64

/-- `rd64` on a positive number: 53 bits, exponent not below −1022 -/
theorem rd64_of_pos {a : ℚ} (ha : 0 < a) : rd64 a = rnd (-1022) a := by
  have e : (if ilog2 a < -1022 then (-1022 : ℤ) else ilog2 a) = max (Radii.ilog2 a) (-1022) := by
    rw [ilog2_eq ha]; split <;> omega
  unfold rd64
  simp only [ne_of_gt ha, not_lt.mpr ha.le, if_false, pow2_eq_zpow, e]
  rfl

/-- **`rd64` is a projection.** -/
theorem rd64_idem (x : ℚ) : rd64 (rd64 x) = rd64 x := by
  have pos : ∀ a : ℚ, 0 < a → rd64 (rd64 a) = rd64 a := by
    intro a ha
    rw [rd64_of_pos ha]
    rcases (rnd_nonneg (-1022) ha).eq_or_lt with h | h
    · rw [← h]; simp [rd64]
    · rw [rd64_of_pos h, rnd_idem _ ha h]
  rcases lt_trichotomy x 0 with h | h | h
  · have hx : x = -(-x) := by ring
    have := pos (-x) (by linarith)
    rw [hx, rd64_neg, rd64_neg, this]
  · subst h; simp [rd64]
  · exact pos x h

/-! ## `rd64` does not cross a binary64 number -/

theorem rd64_nonpos {x : ℚ} (h : x ≤ 0) : rd64 x ≤ 0 := by
  rcases lt_or_eq_of_le h with h | rfl
  · have hpos : 0 < -x := by linarith
    have h2 : 0 ≤ rd64 (-x) := rd64_of_pos hpos ▸ rnd_nonneg (-1022) hpos
    rw [rd64_neg] at h2; linarith
  · simp [rd64]

/-- **rounding does not cross a binary64 number** (any signs) -/
theorem rd64_le_of_le_fixed {x y : ℚ} (h : x ≤ y) (hy : rd64 y = y) : rd64 x ≤ y := by
  rcases lt_trichotomy 0 y with hy0 | rfl | hy0
  · rcases lt_or_ge 0 x with hx | hx
    · rw [rd64_of_pos hy0] at hy
      rw [rd64_of_pos hx]; exact rnd_le_of_le_fix hx h hy
    · exact (rd64_nonpos hx).trans hy0.le
  · exact rd64_nonpos h
  · have hy' : rnd (-1022) (-y) = -y := by rw [← rd64_of_pos (by linarith), rd64_neg, hy]
    have := le_rnd_of_fix_le (x := -x) (by linarith) (by linarith) hy'
    rw [← rd64_of_pos (by linarith), rd64_neg] at this; linarith

theorem le_rd64_of_fixed_le {x y : ℚ} (h : y ≤ x) (hy : rd64 y = y) : y ≤ rd64 x := by
  have := rd64_le_of_le_fixed (x := -x) (y := -y) (by linarith) (by rw [rd64_neg, hy])
  rw [rd64_neg] at this; linarith

end QcelVerif.Nucleus
