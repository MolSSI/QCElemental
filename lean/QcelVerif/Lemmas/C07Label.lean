import QcelVerif.Lemmas.NucleusMatch
/-!
Helper lemmas for `Props/C07Label.lean`: C06's backtracking NUCLEUS matcher (`Nucleus.allMatches`, greedy first, alternatives
in source order) on the tokens the xyz / psi4 writers print — byte level.

A written token is `[ghost opener] ++ sym ++ lbl ++ [ghost closer]` with `sym` 1-3 letters (`SymOkB`) and `lbl` a
grammar-conformant user label (`LblOkB`: empty, `_\w+` or `\d+`).  The FIRST complete match of the backtracking matcher is
computed alternative by alternative: no leading digit run (`A` absent), the letter run is exactly `sym` (greedy `[A-Z]{1,3}`,
the label starts with a non-letter), the user group is the whole label (greedy `\w+` / `\d+`, the closer is not a word
character), no `@mass`, and the closer `)` is demanded exactly when `Gh(` was taken.
-/
namespace QcelVerif.Nucleus
open QcelVerif.PStr

/-! ## the writers' token grammar on bytes -/

/-- element symbol as the writers print it: 1-3 ASCII letters -/
def SymOkB (s : Bytes) : Prop := s ≠ [] ∧ s.length ≤ 3 ∧ ∀ c ∈ s, isAlpha c = true

/-- grammar-conformant user label: empty, `_` followed by word characters, or digits -/
def LblOkB (l : Bytes) : Prop :=
  l = [] ∨ (∃ w, l = 95 :: w ∧ w ≠ [] ∧ ∀ c ∈ w, isWord c = true) ∨ (l ≠ [] ∧ ∀ c ∈ l, isDigit c = true)

/-- the `user1` group of a written token: absent for the empty label -/
def userOf (l : Bytes) : Option Bytes := if l = [] then none else some l

/-- what follows the label: `)` after `Gh(`, nothing otherwise -/
def closeOf (gh2 : Bool) : Bytes := if gh2 then [41] else []

theorem alpha_not_digit {c : Nat} (h : isAlpha c = true) : isDigit c = false := by
  simp only [isAlpha, isUpper, isLower, isDigit] at *; grind
theorem digit_not_alpha {c : Nat} (h : isDigit c = true) : isAlpha c = false := by
  simp only [isAlpha, isUpper, isLower, isDigit] at *; grind
theorem alpha_isWord {c : Nat} (h : isAlpha c = true) : isWord c = true := by simp [isWord, h]
theorem digit_isWord {c : Nat} (h : isDigit c = true) : isWord c = true := by simp [isWord, h]

theorem lbl_isWord {l : Bytes} (h : LblOkB l) : ∀ c ∈ l, isWord c = true := by
  rcases h with rfl | ⟨w, rfl, _, hw⟩ | ⟨_, hd⟩
  · simp
  · intro c hc
    rcases List.mem_cons.mp hc with rfl | hc
    · decide
    · exact hw c hc
  · intro c hc; exact digit_isWord (hd c hc)

/-- the head of `lbl ++ closer` is not a letter -/
theorem lbl_close_head_not_alpha {l : Bytes} (h : LblOkB l) (b : Bool) :
    ∀ x ∈ (l ++ closeOf b).head?, isAlpha x = false := by
  intro x hx
  rcases h with rfl | ⟨w, rfl, _, _⟩ | ⟨hne, hd⟩
  · cases b
    · simp [closeOf] at hx
    · simp [closeOf] at hx; subst hx; decide
  · simp at hx; subst hx; decide
  · cases l with
    | nil => exact absurd rfl hne
    | cons d t => simp at hx; subst hx; exact digit_not_alpha (hd _ (by simp))

/-- the closer begins with `)` if with anything: it stops every run of a class that excludes `)` -/
theorem close_head {p : Nat → Bool} (hp : p 41 = false) (b : Bool) : ∀ x ∈ (closeOf b).head?, p x = false := by
  cases b
  · simp [closeOf]
  · exact stop_cons hp []

/-! ## the user group -/

/-- `(?P<user1>(_\w+)|(\d+))?` on `lbl ++ closer`: the first alternative is the whole label (absent if empty) -/
theorem user_alts (l : Bytes) (hl : LblOkB l) (b : Bool) :
    ∃ tl, optG (userUnderscore (l ++ closeOf b) ++ runs isDigit (l ++ closeOf b).length (l ++ closeOf b)) (l ++ closeOf b)
      = (userOf l, closeOf b) :: tl := by
  rcases hl with rfl | ⟨w, rfl, hne, hw⟩ | ⟨hne, hd⟩
  · -- empty label: neither alternative starts, the optional group is skipped
    have h1 : userUnderscore (closeOf b) = [] := by cases b <;> rfl
    have h2 : runs isDigit (closeOf b).length (closeOf b) = [] := runs_nil _ _ _ (close_head (p := isDigit) rfl b)
    simp only [List.nil_append, h1, h2, optG, List.map_nil, userOf, if_true]
    exact ⟨[], rfl⟩
  · -- `_\w+`: greedy `\w+` takes the whole word run
    obtain ⟨tl, htl⟩ := runs_cons isWord (w ++ closeOf b).length w (closeOf b) hne hw (close_head (p := isWord) rfl b)
      (by simp)
    have hu : userUnderscore (95 :: (w ++ closeOf b)) = (95 :: w, closeOf b) :: tl.map fun x => (95 :: x.1, x.2) := by
      simp only [userUnderscore, htl, List.map_cons]
    have hne' : (95 :: w) ≠ [] := by simp
    rw [List.cons_append, hu]
    simp only [optG, userOf, if_neg hne', List.cons_append, List.map_cons]
    exact ⟨_, rfl⟩
  · -- `\d+`
    obtain ⟨d, t, rfl⟩ := List.exists_cons_of_ne_nil hne
    have hd0 : isDigit d = true := hd d (by simp)
    have h95 : d ≠ 95 := by
      intro h; subst h; revert hd0; decide
    have hu : userUnderscore (d :: t ++ closeOf b) = [] := by
      rw [List.cons_append]
      unfold userUnderscore
      split
      · rename_i heq; injection heq with h1 _; exact absurd h1 h95
      · rfl
    obtain ⟨tl, htl⟩ := runs_cons isDigit (d :: t ++ closeOf b).length (d :: t) (closeOf b) hne hd
      (close_head (p := isDigit) rfl b) (by simp)
    simp only [hu, htl, List.nil_append, optG, userOf, if_neg hne, List.map_cons]
    exact ⟨_, rfl⟩

/-! ## `label1` on a written core -/

/-- `(?P<A>\d+)?(?P<E>[A-Z]{1,3})(?P<user1>…)?` on `sym ++ lbl ++ closer`: first alternative = no `A`, `E = sym`, the whole
label as user group, the closer left over -/
theorem label1_alts (sym l : Bytes) (hs : SymOkB sym) (hl : LblOkB l) (b : Bool) :
    ∃ tl, label1Alts (sym ++ (l ++ closeOf b)) = (none, sym, userOf l, closeOf b) :: tl := by
  obtain ⟨hne, hlen, halpha⟩ := hs
  obtain ⟨d, t, rfl⟩ := List.exists_cons_of_ne_nil hne
  have hd : isDigit d = false := alpha_not_digit (halpha d (by simp))
  have hA : runs isDigit (d :: t ++ (l ++ closeOf b)).length (d :: t ++ (l ++ closeOf b)) = [] :=
    runs_nil _ _ _ (stop_cons hd _)
  obtain ⟨tlE, hE⟩ := runs_cons isAlpha 3 (d :: t) (l ++ closeOf b) hne halpha (lbl_close_head_not_alpha hl b) hlen
  obtain ⟨tlU, hU⟩ := user_alts l hl b
  unfold label1Alts
  rw [hA]
  simp only [optG, List.map_nil, List.nil_append, List.flatMap_cons, List.flatMap_nil, List.append_nil]
  rw [hE]
  simp only [List.flatMap_cons]
  have hU' := hU
  simp only [optG] at hU'
  rw [hU']
  simp only [List.map_cons, List.cons_append]
  exact ⟨_, rfl⟩

theorem massAlts_close (b : Bool) : massAlts (closeOf b) = [(none, closeOf b)] := by cases b <;> rfl

theorem closes_close (b : Bool) : closes b (closeOf b) = true := by cases b <;> rfl

/-- the expected capture groups -/
def writtenGroups (gh1 gh2 : Bool) (sym l : Bytes) : Groups :=
  { gh1 := gh1, gh2 := gh2, A := none, E := some sym, user1 := userOf l, Z := none, user2 := none, mass := none }

/-- whenever the first ghost alternative leaves a written core, the first complete match has the expected groups -/
theorem matchNucleus_of_ghost (s : Bytes) (gh1 gh2 : Bool) (tl : List (Bool × Bool × Bytes)) (sym l : Bytes)
    (hg : ghostAlts s = (gh1, gh2, sym ++ (l ++ closeOf gh2)) :: tl) (hs : SymOkB sym) (hl : LblOkB l) :
    matchNucleus s = some (writtenGroups gh1 gh2 sym l) := by
  obtain ⟨tl1, h1⟩ := label1_alts sym l hs hl gh2
  unfold matchNucleus allMatches
  rw [hg]
  simp only [List.flatMap_cons, h1, massAlts_close, List.filter_cons, closes_close, if_true, List.filter_nil,
    List.map_cons, List.map_nil, List.cons_append, List.nil_append, List.head?_cons, writtenGroups]

/-! ## the ghost opener -/

theorem ghostAlts_at (t : Bytes) : ∃ tl, ghostAlts (64 :: t) = (true, false, t) :: tl := by
  unfold ghostAlts
  exact ⟨_, rfl⟩

theorem ghostAlts_gh (t : Bytes) : ∃ tl, ghostAlts (71 :: 104 :: 40 :: t) = (false, true, t) :: tl := by
  unfold ghostAlts
  exact ⟨_, rfl⟩

/-- a token of word characters has no ghost opener -/
theorem ghostAlts_word (s : Bytes) (hw : ∀ c ∈ s, isWord c = true) : ghostAlts s = [(false, false, s)] := by
  have h64 : isWord 64 = false := by decide
  have h40 : isWord 40 = false := by decide
  unfold ghostAlts
  split
  · have := hw 64 (by simp)
    rw [h64] at this; cases this
  · split
    · have := hw 40 (by simp)
      rw [h40] at this; cases this
    · rfl

/-! ## the three written token shapes -/

theorem sym_lbl_word {sym l : Bytes} (hs : SymOkB sym) (hl : LblOkB l) : ∀ c ∈ sym ++ l, isWord c = true := by
  intro c hc
  rcases List.mem_append.mp hc with hc | hc
  · exact alpha_isWord (hs.2.2 c hc)
  · exact lbl_isWord hl c hc

/-- `{elem}{elbl}` -/
theorem matchNucleus_real (sym l : Bytes) (hs : SymOkB sym) (hl : LblOkB l) :
    matchNucleus (sym ++ l) = some (writtenGroups false false sym l) := by
  have hg := ghostAlts_word (sym ++ l) (sym_lbl_word hs hl)
  apply matchNucleus_of_ghost (sym ++ l) false false [] sym l _ hs hl
  rw [hg]; simp [closeOf]

/-- `@{elem}{elbl}` (the xyz writer prints it without a label) -/
theorem matchNucleus_at (sym l : Bytes) (hs : SymOkB sym) (hl : LblOkB l) :
    matchNucleus (64 :: (sym ++ l)) = some (writtenGroups true false sym l) := by
  obtain ⟨tl, hg⟩ := ghostAlts_at (sym ++ l)
  apply matchNucleus_of_ghost _ true false tl sym l _ hs hl
  rw [hg]; simp [closeOf]

/-- `Gh({elem}{elbl})` -/
theorem matchNucleus_gh (sym l : Bytes) (hs : SymOkB sym) (hl : LblOkB l) :
    matchNucleus (71 :: 104 :: 40 :: (sym ++ (l ++ [41]))) = some (writtenGroups false true sym l) := by
  obtain ⟨tl, hg⟩ := ghostAlts_gh (sym ++ (l ++ [41]))
  apply matchNucleus_of_ghost _ false true tl sym l _ hs hl
  rw [hg]; simp [closeOf]

end QcelVerif.Nucleus
