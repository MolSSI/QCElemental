import QcelVerif.Model.Nucleus
import QcelVerif.Lib.ListLemmas
/-!
The hand-written NUCLEUS recogniser (`Model/Nucleus.lean`) on every byte string.  `runs`, the alternatives of a greedy
`p{1,max}`: its first alternative and when it has none (`Lemmas/C07Label.lean`), its recursion on the string
(`Lemmas/NucleusRegex.lean`).  What a candidate match of `allMatches` captures: one walk over its alternatives
(`mem_allMatches_classes`), used by `Props/C06SrcGroups.lean` (captures are non-empty, the mass parses) and by
`Lemmas/ReconC06.lean` (a user tag consists of word characters).  Core Lean only.
-/
namespace QcelVerif.Nucleus
open QcelVerif.PStr

/-! ## `runs`: the alternatives of a greedy `p{1,max}`, longest first -/

/-- the longest alternative of a greedy `p{1,max}` comes first: the whole run -/
theorem runs_cons (p : Nat → Bool) (max : Nat) (a b : Bytes) (hne : a ≠ []) (ha : ∀ x ∈ a, p x = true)
    (hb : ∀ x ∈ b.head?, p x = false) (hmax : a.length ≤ max) :
    ∃ tl, runs p max (a ++ b) = (a, b) :: tl := by
  obtain ⟨k, hk⟩ : ∃ k, a.length = k + 1 := by
    cases a with
    | nil => exact absurd rfl hne
    | cons x t => exact ⟨t.length, rfl⟩
  have hmin : min a.length max = k + 1 := by omega
  have h1 : (a ++ b).take (k + 1) = a := by rw [← hk]; simp
  have h2 : (a ++ b).drop (k + 1) = b := by rw [← hk]; simp
  refine ⟨(List.range k).reverse.map fun j => ((a ++ b).take (j + 1), (a ++ b).drop (j + 1)), ?_⟩
  show (List.range (min ((a ++ b).takeWhile p).length max)).reverse.map
      (fun j => ((a ++ b).take (j + 1), (a ++ b).drop (j + 1))) = _
  rw [(span_append ha hb).1, hmin, List.range_succ, List.reverse_append]
  simp only [List.reverse_cons, List.reverse_nil, List.nil_append, List.singleton_append, List.map_cons, h1, h2]

/-- a greedy `p{1,max}` has no alternative at all when the text does not start with a `p` character -/
theorem runs_nil (p : Nat → Bool) (max : Nat) (s : Bytes) (hs : ∀ x ∈ s.head?, p x = false) :
    runs p max s = [] := by
  have : s.takeWhile p = [] := (span_append (List.forall_mem_nil _) hs).1
  unfold runs
  simp [this]

theorem runs_zero (p : Nat → Bool) (s : Bytes) : runs p 0 s = [] := by simp [runs]

theorem range_succ_reverse (n : Nat) : (List.range (n + 1)).reverse = ((List.range n).reverse.map (· + 1)) ++ [0] := by
  rw [List.range_succ_eq_map, List.reverse_cons, List.map_reverse]

theorem runs_cons_pos (p : Nat → Bool) (m c : Nat) (t : Bytes) (h : p c = true) :
    runs p (m + 1) (c :: t) = (runs p m t).map (fun x => (c :: x.1, x.2)) ++ [([c], t)] := by
  simp only [runs, List.takeWhile_cons, h, if_true, List.length_cons, Nat.succ_min_succ, range_succ_reverse,
    List.map_append, List.map_map, List.map_cons, List.map_nil]
  simp [Function.comp_def]

theorem mem_runs_append (p : Nat → Bool) (max : Nat) (s : Bytes) (x : Bytes × Bytes) (h : x ∈ runs p max s) :
    s = x.1 ++ x.2 := by
  simp only [runs, List.mem_map] at h
  obtain ⟨k, _, rfl⟩ := h
  simp

theorem take_all_of_le_takeWhile (p : Nat → Bool) : ∀ (s : Bytes) (m : Nat), m ≤ (s.takeWhile p).length → (s.take m).all p = true
  | [], m, _ => by simp
  | a :: t, 0, _ => by simp
  | a :: t, m + 1, h => by
      by_cases ha : p a = true
      · simp only [List.takeWhile_cons, ha, if_true, List.length_cons] at h
        simp only [List.take_succ_cons, List.all_cons, ha, Bool.true_and]
        exact take_all_of_le_takeWhile p t m (by omega)
      · simp [ha] at h

/-- a capture is a non-empty run of one character class -/
def RunOf (p : Nat → Bool) (t : Bytes) : Prop := t ≠ [] ∧ t.all p = true

theorem mem_runs {p : Nat → Bool} {mx : Nat} {s : Bytes} {x : Bytes × Bytes} (h : x ∈ runs p mx s) : RunOf p x.1 := by
  unfold runs at h
  simp only [List.mem_map, List.mem_reverse, List.mem_range] at h
  obtain ⟨k, hk, rfl⟩ := h
  have hk' : k + 1 ≤ (s.takeWhile p).length := by omega
  refine ⟨?_, take_all_of_le_takeWhile p s (k + 1) hk'⟩
  cases s with
  | nil => simp at hk'
  | cons a t => simp

theorem RunOf.word_of_digit {t : Bytes} (h : RunOf isDigit t) : RunOf isWord t :=
  ⟨h.1, List.all_eq_true.2 fun c hc => by simp [isWord, List.all_eq_true.1 h.2 c hc]⟩

theorem mem_userUnderscore {s : Bytes} {x : Bytes × Bytes} (h : x ∈ userUnderscore s) : RunOf isWord x.1 := by
  unfold userUnderscore at h
  split at h
  · simp only [List.mem_map] at h
    obtain ⟨y, hy, rfl⟩ := h
    exact ⟨by simp, by simpa [isWord, isAlpha, isDigit] using (mem_runs hy).2⟩
  · cases h

theorem mem_optG {α} {alts : List (α × Bytes)} {s : Bytes} {y : Option α × Bytes} (h : y ∈ optG alts s) {t : α}
    (ht : y.1 = some t) : ∃ x ∈ alts, x.1 = t := by
  unfold optG at h
  simp only [List.mem_append, List.mem_map, List.mem_singleton] at h
  rcases h with ⟨x, hx, rfl⟩ | rfl
  · exact ⟨x, hx, Option.some.inj ht⟩
  · cases ht

theorem decVal_digits_dot_digits {ip fp : Bytes} (hi : RunOf isDigit ip) (hf : RunOf isDigit fp) :
    ∃ q, decVal (ip ++ 46 :: fp) = some q := by
  obtain ⟨hi, hia⟩ := hi
  obtain ⟨hf, hfa⟩ := hf
  have h46 : isDigit 46 = false := by decide
  obtain ⟨htw, hdw⟩ := span_append (List.all_eq_true.mp hia) (stop_cons h46 fp)
  unfold decVal
  simp only [htw, hdw]
  have h1 : ip.isEmpty = false := by cases ip <;> simp_all
  have h2 : fp.isEmpty = false := by cases fp <;> simp_all
  simp [h1, h2, hfa]

theorem mem_massAlts {s : Bytes} {y : Option Bytes × Bytes} (h : y ∈ massAlts s) :
    ∀ t, y.1 = some t → t ≠ [] ∧ ∃ q, decVal t = some q := by
  intro t ht
  unfold massAlts at h
  obtain ⟨x, hx, rfl⟩ := mem_optG h ht
  split at hx
  · simp only [List.mem_flatMap] at hx
    obtain ⟨ip, hip, hx⟩ := hx
    split at hx
    · simp only [List.mem_map] at hx
      obtain ⟨fp, hfp, rfl⟩ := hx
      exact ⟨by simp, decVal_digits_dot_digits (mem_runs hip) (mem_runs hfp)⟩
    · cases hx
  · cases hx

/-- **What a candidate match captures**, for every byte string: `A` and `Z` are digit runs, the user groups runs of word
characters (`_\w+` or `\d+`), the mass is `digits.digits`. -/
theorem mem_allMatches_classes {s : Bytes} {g : Groups} (h : g ∈ allMatches s) :
    (∀ t, g.A = some t → RunOf isDigit t) ∧ (∀ t, g.Z = some t → RunOf isDigit t) ∧
    (∀ t, g.user1 = some t → RunOf isWord t) ∧ (∀ t, g.user2 = some t → RunOf isWord t) ∧
    (∀ t, g.mass = some t → t ≠ [] ∧ ∃ q, decVal t = some q) := by
  unfold allMatches at h
  simp only [List.mem_flatMap, List.mem_append, List.mem_map, List.mem_filter] at h
  obtain ⟨gh, _, h⟩ := h
  rcases h with ⟨l, hl, m, ⟨hm, _⟩, rfl⟩ | ⟨l, hl, m, ⟨hm, _⟩, rfl⟩
  · -- label1: A? E user1?
    unfold label1Alts at hl
    simp only [List.mem_flatMap, List.mem_map] at hl
    obtain ⟨a, ha, e, he, u, hu, rfl⟩ := hl
    refine ⟨fun t ht => ?_, nofun, fun t ht => ?_, nofun, mem_massAlts hm⟩
    · obtain ⟨x, hx, rfl⟩ := mem_optG ha ht
      exact mem_runs hx
    · obtain ⟨x, hx, rfl⟩ := mem_optG hu ht
      rcases List.mem_append.mp hx with hx | hx
      · exact mem_userUnderscore hx
      · exact (mem_runs hx).word_of_digit
  · -- label2: Z user2?
    unfold label2Alts at hl
    simp only [List.mem_flatMap, List.mem_map] at hl
    obtain ⟨z, hz, u, hu, rfl⟩ := hl
    refine ⟨nofun, fun t ht => ?_, nofun, fun t ht => ?_, mem_massAlts hm⟩
    · cases ht; exact mem_runs hz
    · obtain ⟨x, hx, rfl⟩ := mem_optG hu ht
      exact mem_userUnderscore hx

end QcelVerif.Nucleus
