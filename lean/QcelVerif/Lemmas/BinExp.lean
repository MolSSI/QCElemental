import Mathlib.Data.Rat.Floor
import Mathlib.Algebra.Order.Field.Power
import Mathlib.Tactic.Linarith
import Mathlib.Tactic.Positivity
/-!
# Binary exponents of positive rationals

Every model of binary64 rounding in the development (`Nucleus.rd64`, `Radii.rnd64`, `Hash.rndDouble`) starts from
`l = log2 (numerator) − log2 (denominator)`; `log2_quot` says what that is: the binary exponent of the quotient, give or
take one.  No model is imported here.
-/
namespace QcelVerif.F64

theorem zpow2_pos (e : Int) : (0 : ℚ) < (2 : ℚ) ^ e := by positivity

theorem zpow2_lt {a b : Int} : (2 : ℚ) ^ a < (2 : ℚ) ^ b ↔ a < b :=
  zpow_lt_zpow_iff_right₀ (by norm_num)

theorem zpow2_le {a b : Int} : (2 : ℚ) ^ a ≤ (2 : ℚ) ^ b ↔ a ≤ b :=
  zpow_le_zpow_iff_right₀ (by norm_num)

theorem zpow2_mul {x y z : Int} (h : x + y = z) : (2 : ℚ) ^ x * (2 : ℚ) ^ y = (2 : ℚ) ^ z := by
  rw [← h, zpow_add₀ (by norm_num : (2 : ℚ) ≠ 0)]

theorem cast_two_pow52 : (((2 : ℤ) ^ 52 : ℤ) : ℚ) = (2 : ℚ) ^ (52 : ℤ) := by norm_num

theorem cast_two_pow53 : (((2 : ℤ) ^ 53 : ℤ) : ℚ) = (2 : ℚ) ^ (53 : ℤ) := by norm_num

theorem binexp_unique {a : ℚ} {j k : ℤ} (hj : (2 : ℚ) ^ j ≤ a) (hj' : a < (2 : ℚ) ^ (j + 1))
    (hk : (2 : ℚ) ^ k ≤ a) (hk' : a < (2 : ℚ) ^ (k + 1)) : j = k := by
  have a1 : j < k + 1 := zpow2_lt.mp (lt_of_le_of_lt hj hk')
  have a2 : k < j + 1 := zpow2_lt.mp (lt_of_le_of_lt hk hj')
  omega

theorem log2_bounds (n : ℕ) (hn : n ≠ 0) :
    (2 : ℚ) ^ ((Nat.log2 n : ℕ) : ℤ) ≤ (n : ℚ) ∧ (n : ℚ) < (2 : ℚ) ^ (((Nat.log2 n : ℕ) : ℤ) + 1) := by
  constructor
  · rw [zpow_natCast]; exact_mod_cast Nat.log2_self_le hn
  · have : (n : ℚ) < (2 : ℚ) ^ (Nat.log2 n + 1) := by exact_mod_cast @Nat.lt_log2_self n
    rw [← zpow_natCast] at this; push_cast at this; exact this

theorem log2_quot (a : ℚ) (ha : 0 < a) :
    (2 : ℚ) ^ ((Nat.log2 a.num.toNat : ℤ) - (Nat.log2 a.den : ℤ) - 1) < a ∧
    a < (2 : ℚ) ^ ((Nat.log2 a.num.toNat : ℤ) - (Nat.log2 a.den : ℤ) + 1) := by
  have hnum : 0 < a.num := Rat.num_pos.mpr ha
  have hdpos : (0 : ℚ) < (a.den : ℚ) := by exact_mod_cast a.den_pos
  have had : a * (a.den : ℚ) = (a.num.toNat : ℚ) := by
    rw [Rat.mul_den_eq_num a]
    have : ((a.num.toNat : ℕ) : ℤ) = a.num := Int.toNat_of_nonneg hnum.le
    exact_mod_cast this.symm
  obtain ⟨c1, c2⟩ := log2_bounds a.num.toNat (by omega)
  obtain ⟨c3, c4⟩ := log2_bounds a.den a.den_nz
  set ln : ℤ := ((Nat.log2 a.num.toNat : ℕ) : ℤ)
  set ld : ℤ := ((Nat.log2 a.den : ℕ) : ℤ)
  constructor
  · refine lt_of_mul_lt_mul_right ?_ hdpos.le
    calc (2 : ℚ) ^ (ln - ld - 1) * (a.den : ℚ) < (2 : ℚ) ^ (ln - ld - 1) * (2 : ℚ) ^ (ld + 1) :=
          mul_lt_mul_of_pos_left c4 (zpow2_pos _)
      _ = (2 : ℚ) ^ ln := zpow2_mul (by ring)
      _ ≤ a * (a.den : ℚ) := had ▸ c1
  · refine lt_of_mul_lt_mul_right ?_ hdpos.le
    calc a * (a.den : ℚ) < (2 : ℚ) ^ (ln + 1) := had ▸ c2
      _ = (2 : ℚ) ^ (ln - ld + 1) * (2 : ℚ) ^ ld := (zpow2_mul (by ring)).symm
      _ ≤ (2 : ℚ) ^ (ln - ld + 1) * (a.den : ℚ) := mul_le_mul_of_nonneg_left c3 (zpow2_pos _).le

end QcelVerif.F64
