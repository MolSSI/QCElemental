import QcelVerif.Model.Serialize
import QcelVerif.Lemmas.Serialize
/-!
Helper lemmas for the msgpack byte-stream round trip (C10, `Props/C10Msgpack.lean`).

`mpDec` is one long `if` chain over the head byte with four local helpers.  The helpers are copied to top level
(`withLen`/`rawOf`/`arrOf`/`mapOf`) so that the branch taken for a head byte can be named, and there is one `mpDec_<head>`
lemma per head form that unfolds `mpDec` once and walks down the chain test by test (`ite_neg'` with `omega` for every
test that fails, `ite_pos'` for the one that holds), with no `simp` over the chain.
-/
namespace QcelVerif.Ser

theorem ite_neg' {α : Type} {c : Prop} [Decidable c] {a b x : α} (hc : ¬ c) (h : b = x) :
    (if c then a else b) = x := by rw [if_neg hc]; exact h

theorem ite_pos' {α : Type} {c : Prop} [Decidable c] {a b x : α} (hc : c) (h : a = x) :
    (if c then a else b) = x := by rw [if_pos hc]; exact h

/-! ### reading fixed-width fields back from the stream -/

theorem takeN_append (a b : Bytes) (k : Nat) (h : a.length = k) : takeN k (a ++ b) = some (a, b) := by
  subst h
  simp [takeN]

theorem toNat_ofNat_lt {n : Nat} (h : n < 256) : (UInt8.ofNat n).toNat = n := UInt8.toNat_ofNat_of_lt' h

/-- decoding a `k`-byte big-endian field written by the encoder -/
theorem takeN_be (k n : Nat) (rest : Bytes) : takeN k (beBytes k n ++ rest) = some (beBytes k n, rest) :=
  takeN_append _ _ _ (beBytes_length k n)

/-- result type of one decoding step -/
abbrev DR := Except DecErr (Val × Bytes)

/-- the local `withLen` of `mpDec` -/
def withLen (r : Bytes) (k : Nat) (f : Nat → Bytes → DR) : DR :=
  match takeN k r with
  | some (lb, r') => f (beNat lb) r'
  | none => .error .truncated

/-- the local `raw` of `mpDec` -/
def rawOf (mk : Bytes → Val) (len : Nat) (r' : Bytes) : DR :=
  match takeN len r' with
  | some (b, r'') => .ok (mk b, r'')
  | none => .error .truncated

/-- the local `arrOf` of `mpDec` -/
def arrOf (fuel len : Nat) (r' : Bytes) : DR :=
  (mpDecL fuel len r').map fun (l, r'') => (.arr l, r'')

/-- the local `mapOf` of `mpDec` -/
def mapOf (fuel len : Nat) (r' : Bytes) : DR :=
  match mpDecP fuel len r' with
  | .error e => .error e
  | .ok (l, r'') =>
    match mpHook l with
    | .ok v => .ok (v, r'')
    | .error e => .error (.hook e)

/-! ### one lemma per head form -/

/-- `mpDec` is an `if`-chain over ranges of the head byte: skip the arms below the range at hand (`omega` refutes each test), take the
next one -/
local macro "dec_head" : tactic =>
  `(tactic| (rw [mpDec]; (repeat (refine ite_neg' (by omega) ?_)); refine ite_pos' (by omega) ?_; rfl))

section heads
variable (f : Nat) (h : UInt8) (r : Bytes)

theorem mpDec_posfix' (hn : h.toNat < 0x80) : mpDec (f + 1) (h :: r) = .ok (.int h.toNat, r) := by dec_head
theorem mpDec_fixmap (h1 : 0x80 ≤ h.toNat) (h2 : h.toNat < 0x90) :
    mpDec (f + 1) (h :: r) = mapOf f (h.toNat - 0x80) r := by dec_head
theorem mpDec_fixarr (h1 : 0x90 ≤ h.toNat) (h2 : h.toNat < 0xa0) :
    mpDec (f + 1) (h :: r) = arrOf f (h.toNat - 0x90) r := by dec_head
theorem mpDec_fixstr (h1 : 0xa0 ≤ h.toNat) (h2 : h.toNat < 0xc0) :
    mpDec (f + 1) (h :: r) = rawOf .str (h.toNat - 0xa0) r := by
  rw [mpDec]
  refine ite_neg' (by omega) ?_
  refine ite_neg' (by omega) ?_
  refine ite_neg' (by omega) ?_
  refine ite_pos' h2 ?_
  generalize h.toNat - 0xa0 = len   -- keep `rfl` from evaluating the subtraction
  rfl
theorem mpDec_c0 (hn : h.toNat = 0xc0) : mpDec (f + 1) (h :: r) = .ok (.nil, r) := by dec_head
theorem mpDec_c2 (hn : h.toNat = 0xc2) : mpDec (f + 1) (h :: r) = .ok (.bool false, r) := by dec_head
theorem mpDec_c3 (hn : h.toNat = 0xc3) : mpDec (f + 1) (h :: r) = .ok (.bool true, r) := by dec_head
theorem mpDec_c4 (hn : h.toNat = 0xc4) : mpDec (f + 1) (h :: r) = withLen r 1 (rawOf .bin) := by dec_head
theorem mpDec_c5 (hn : h.toNat = 0xc5) : mpDec (f + 1) (h :: r) = withLen r 2 (rawOf .bin) := by dec_head
theorem mpDec_c6 (hn : h.toNat = 0xc6) : mpDec (f + 1) (h :: r) = withLen r 4 (rawOf .bin) := by dec_head
theorem mpDec_cb (hn : h.toNat = 0xcb) : mpDec (f + 1) (h :: r) = rawOf .f64 8 r := by dec_head
theorem mpDec_cc (hn : h.toNat = 0xcc) :
    mpDec (f + 1) (h :: r) = withLen r 1 (fun v r' => .ok (.int v, r')) := by dec_head
theorem mpDec_cd (hn : h.toNat = 0xcd) :
    mpDec (f + 1) (h :: r) = withLen r 2 (fun v r' => .ok (.int v, r')) := by dec_head
theorem mpDec_ce (hn : h.toNat = 0xce) :
    mpDec (f + 1) (h :: r) = withLen r 4 (fun v r' => .ok (.int v, r')) := by dec_head
theorem mpDec_cf (hn : h.toNat = 0xcf) :
    mpDec (f + 1) (h :: r) = withLen r 8 (fun v r' => .ok (.int v, r')) := by dec_head
theorem mpDec_d0 (hn : h.toNat = 0xd0) :
    mpDec (f + 1) (h :: r) = withLen r 1 (fun v r' =>
      .ok (.int (if v < 128 then (v : Int) else (v : Int) - 256), r')) := by dec_head
theorem mpDec_d1 (hn : h.toNat = 0xd1) :
    mpDec (f + 1) (h :: r) = withLen r 2 (fun v r' =>
      .ok (.int (if v < 32768 then (v : Int) else (v : Int) - 65536), r')) := by dec_head
theorem mpDec_d2 (hn : h.toNat = 0xd2) :
    mpDec (f + 1) (h :: r) = withLen r 4 (fun v r' =>
      .ok (.int (if v < 2147483648 then (v : Int) else (v : Int) - 4294967296), r')) := by dec_head
theorem mpDec_d3 (hn : h.toNat = 0xd3) :
    mpDec (f + 1) (h :: r) = withLen r 8 (fun v r' =>
      .ok (.int (if v < 9223372036854775808 then (v : Int) else (v : Int) - 18446744073709551616), r')) := by
  dec_head
theorem mpDec_d9 (hn : h.toNat = 0xd9) : mpDec (f + 1) (h :: r) = withLen r 1 (rawOf .str) := by dec_head
theorem mpDec_da (hn : h.toNat = 0xda) : mpDec (f + 1) (h :: r) = withLen r 2 (rawOf .str) := by dec_head
theorem mpDec_db (hn : h.toNat = 0xdb) : mpDec (f + 1) (h :: r) = withLen r 4 (rawOf .str) := by dec_head
theorem mpDec_dc (hn : h.toNat = 0xdc) : mpDec (f + 1) (h :: r) = withLen r 2 (arrOf f) := by dec_head
theorem mpDec_dd (hn : h.toNat = 0xdd) : mpDec (f + 1) (h :: r) = withLen r 4 (arrOf f) := by dec_head
theorem mpDec_de (hn : h.toNat = 0xde) : mpDec (f + 1) (h :: r) = withLen r 2 (mapOf f) := by dec_head
theorem mpDec_df (hn : h.toNat = 0xdf) : mpDec (f + 1) (h :: r) = withLen r 4 (mapOf f) := by dec_head
theorem mpDec_negfix (hn : 0xe0 ≤ h.toNat) :
    mpDec (f + 1) (h :: r) = .ok (.int ((h.toNat : Int) - 256), r) := by dec_head

end heads

/-! ### length fields and raw payloads -/

theorem withLen_be (k n : Nat) (rest : Bytes) (F : Nat → Bytes → DR) (hn : n < 256 ^ k) :
    withLen (beBytes k n ++ rest) k F = F n rest := by
  unfold withLen
  rw [takeN_be]
  show F (beNat (beBytes k n)) rest = F n rest
  rw [beNat_beBytes_mod, Nat.mod_eq_of_lt hn]

theorem rawOf_append (mk : Bytes → Val) (n : Nat) (b rest : Bytes) (hb : b.length = n) :
    rawOf mk n (b ++ rest) = .ok (mk b, rest) := by
  unfold rawOf
  rw [takeN_append b rest n hb]

/-! ### integers: all ten forms of `mpInt` -/

/-- positive fixint, as the encoder writes it -/
theorem mpDec_posfix (f n : Nat) (rest : Bytes) (h : n < 128) :
    mpDec (f + 1) (UInt8.ofNat n :: rest) = .ok (.int n, rest) := by
  have ht : (UInt8.ofNat n).toNat = n := toNat_ofNat_lt (by omega)
  rw [mpDec_posfix' f _ rest (by omega), ht]

theorem dec_nat (f n : Nat) (rest : Bytes) (hn : n < 18446744073709551616) :
    mpDec (f + 1) (mpInt (n : Int) ++ rest) = .ok (.int n, rest) := by
  have h0 : (0 : Int) ≤ (n : Int) := Int.natCast_nonneg n
  unfold mpInt
  rw [if_pos h0]
  simp only [Int.toNat_natCast]
  by_cases c1 : n < 128
  · rw [if_pos c1]
    exact mpDec_posfix f n rest c1
  rw [if_neg c1]
  by_cases c2 : n < 256
  · rw [if_pos c2]
    exact (mpDec_cc f _ _ (by decide)).trans (withLen_be 1 n rest _ (by omega))
  rw [if_neg c2]
  by_cases c3 : n < 65536
  · rw [if_pos c3]
    exact (mpDec_cd f _ _ (by decide)).trans (withLen_be 2 n rest _ (by omega))
  rw [if_neg c3]
  by_cases c4 : n < 4294967296
  · rw [if_pos c4]
    exact (mpDec_ce f _ _ (by decide)).trans (withLen_be 4 n rest _ (by omega))
  rw [if_neg c4]
  exact (mpDec_cf f _ _ (by decide)).trans (withLen_be 8 n rest _ (by omega))

/-- a signed `k`-byte field: `-m` is written as `256^k - m` and read back from the upper half of the range -/
theorem withLen_neg (k M H m : Nat) (rest : Bytes) (hM : M = 256 ^ k) (hH : 2 * H = M) (h1 : 1 ≤ m) (h2 : m ≤ H) :
    withLen (beBytes k (M - m) ++ rest) k (fun v r' => .ok (.int (if v < H then (v : Int) else (v : Int) - M), r'))
      = .ok (.int (-(m : Int)), rest) := by
  rw [withLen_be k _ rest _ (by omega)]
  show Except.ok (Val.int (if M - m < H then ((M - m : Nat) : Int) else ((M - m : Nat) : Int) - M), rest) = _
  rw [if_neg (by omega)]
  have : ((M - m : Nat) : Int) - M = -(m : Int) := by omega
  rw [this]

theorem dec_negnat (f m : Nat) (rest : Bytes) (h1 : 1 ≤ m) (h2 : m ≤ 9223372036854775808) :
    mpDec (f + 1) (mpInt (-(m : Int)) ++ rest) = .ok (.int (-(m : Int)), rest) := by
  have h0 : ¬ (0 : Int) ≤ -(m : Int) := by omega
  unfold mpInt
  rw [if_neg h0]
  simp only [Int.neg_neg, Int.toNat_natCast]
  by_cases c1 : m ≤ 32
  · rw [if_pos c1]
    have ht : (UInt8.ofNat (256 - m)).toNat = 256 - m := toNat_ofNat_lt (by omega)
    show mpDec (f + 1) (UInt8.ofNat (256 - m) :: rest) = _
    rw [mpDec_negfix f _ _ (by omega), ht]
    have : ((256 - m : Nat) : Int) - 256 = -(m : Int) := by omega
    rw [this]
  rw [if_neg c1]
  by_cases c2 : m ≤ 128
  · rw [if_pos c2]
    exact (mpDec_d0 f _ _ (by decide)).trans (withLen_neg 1 256 128 m rest (by decide) (by decide) h1 c2)
  rw [if_neg c2]
  by_cases c3 : m ≤ 32768
  · rw [if_pos c3]
    exact (mpDec_d1 f _ _ (by decide)).trans (withLen_neg 2 65536 32768 m rest (by decide) (by decide) h1 c3)
  rw [if_neg c3]
  by_cases c4 : m ≤ 2147483648
  · rw [if_pos c4]
    exact (mpDec_d2 f _ _ (by decide)).trans (withLen_neg 4 4294967296 2147483648 m rest (by decide) (by decide) h1 c4)
  rw [if_neg c4]
  exact (mpDec_d3 f _ _ (by decide)).trans
    (withLen_neg 8 18446744073709551616 9223372036854775808 m rest (by decide) (by decide) h1 h2)

/-- every integer msgpack can hold (−2^63 … 2^64−1) decodes to itself -/
theorem dec_int (f : Nat) (i : Int) (rest : Bytes)
    (h1 : -9223372036854775808 ≤ i) (h2 : i < 18446744073709551616) :
    mpDec (f + 1) (mpInt i ++ rest) = .ok (.int i, rest) := by
  by_cases h0 : 0 ≤ i
  · obtain ⟨n, rfl⟩ := Int.eq_ofNat_of_zero_le h0
    exact dec_nat f n rest (by omega)
  · obtain ⟨m, rfl⟩ : ∃ m : Nat, i = -(m : Int) := ⟨(-i).toNat, by omega⟩
    exact dec_negnat f m rest (by omega) (by omega)

/-! ### heads carrying a length: str (4 forms), bin (3), array (3), map (3) -/

theorem dec_strHead (f n : Nat) (r : Bytes) (hn : n < 4294967296) :
    mpDec (f + 1) (mpStrHead n ++ r) = rawOf .str n r := by
  unfold mpStrHead
  by_cases c1 : n < 32
  · rw [if_pos c1]
    have ht : (UInt8.ofNat (0xa0 + n)).toNat = 0xa0 + n := toNat_ofNat_lt (by omega)
    show mpDec (f + 1) (UInt8.ofNat (0xa0 + n) :: r) = _
    rw [mpDec_fixstr f _ _ (by omega) (by omega), ht, Nat.add_sub_cancel_left]
  rw [if_neg c1]
  by_cases c2 : n < 256
  · rw [if_pos c2]
    exact (mpDec_d9 f _ _ (by decide)).trans (withLen_be 1 n r _ (by omega))
  rw [if_neg c2]
  by_cases c3 : n < 65536
  · rw [if_pos c3]
    exact (mpDec_da f _ _ (by decide)).trans (withLen_be 2 n r _ (by omega))
  rw [if_neg c3]
  exact (mpDec_db f _ _ (by decide)).trans (withLen_be 4 n r _ (by omega))

theorem dec_binHead (f n : Nat) (r : Bytes) (hn : n < 4294967296) :
    mpDec (f + 1) (mpBinHead n ++ r) = rawOf .bin n r := by
  unfold mpBinHead
  by_cases c2 : n < 256
  · rw [if_pos c2]
    exact (mpDec_c4 f _ _ (by decide)).trans (withLen_be 1 n r _ (by omega))
  rw [if_neg c2]
  by_cases c3 : n < 65536
  · rw [if_pos c3]
    exact (mpDec_c5 f _ _ (by decide)).trans (withLen_be 2 n r _ (by omega))
  rw [if_neg c3]
  exact (mpDec_c6 f _ _ (by decide)).trans (withLen_be 4 n r _ (by omega))

theorem dec_arrHead (f n : Nat) (r : Bytes) (hn : n < 4294967296) :
    mpDec (f + 1) (mpArrHead n ++ r) = arrOf f n r := by
  unfold mpArrHead
  by_cases c1 : n < 16
  · rw [if_pos c1]
    have ht : (UInt8.ofNat (0x90 + n)).toNat = 0x90 + n := toNat_ofNat_lt (by omega)
    show mpDec (f + 1) (UInt8.ofNat (0x90 + n) :: r) = _
    rw [mpDec_fixarr f _ _ (by omega) (by omega), ht, Nat.add_sub_cancel_left]
  rw [if_neg c1]
  by_cases c3 : n < 65536
  · rw [if_pos c3]
    exact (mpDec_dc f _ _ (by decide)).trans (withLen_be 2 n r _ (by omega))
  rw [if_neg c3]
  exact (mpDec_dd f _ _ (by decide)).trans (withLen_be 4 n r _ (by omega))

theorem dec_mapHead (f n : Nat) (r : Bytes) (hn : n < 4294967296) :
    mpDec (f + 1) (mpMapHead n ++ r) = mapOf f n r := by
  unfold mpMapHead
  by_cases c1 : n < 16
  · rw [if_pos c1]
    have ht : (UInt8.ofNat (0x80 + n)).toNat = 0x80 + n := toNat_ofNat_lt (by omega)
    show mpDec (f + 1) (UInt8.ofNat (0x80 + n) :: r) = _
    rw [mpDec_fixmap f _ _ (by omega) (by omega), ht, Nat.add_sub_cancel_left]
  rw [if_neg c1]
  by_cases c3 : n < 65536
  · rw [if_pos c3]
    exact (mpDec_de f _ _ (by decide)).trans (withLen_be 2 n r _ (by omega))
  rw [if_neg c3]
  exact (mpDec_df f _ _ (by decide)).trans (withLen_be 4 n r _ (by omega))

/-! ### leaves -/

theorem dec_nil (f : Nat) (rest : Bytes) : mpDec (f + 1) (0xc0 :: rest) = .ok (.nil, rest) :=
  mpDec_c0 f _ _ (by decide)
theorem dec_false (f : Nat) (rest : Bytes) : mpDec (f + 1) (0xc2 :: rest) = .ok (.bool false, rest) :=
  mpDec_c2 f _ _ (by decide)
theorem dec_true (f : Nat) (rest : Bytes) : mpDec (f + 1) (0xc3 :: rest) = .ok (.bool true, rest) :=
  mpDec_c3 f _ _ (by decide)

theorem dec_f64 (f : Nat) (b rest : Bytes) (hb : b.length = 8) :
    mpDec (f + 1) (0xcb :: (b ++ rest)) = .ok (.f64 b, rest) := by
  rw [mpDec_cb f _ _ (by decide), rawOf_append _ _ _ _ hb]

theorem dec_str (f n : Nat) (s rest : Bytes) (hs : s.length = n) (hn : n < 4294967296) :
    mpDec (f + 1) (mpStrHead n ++ (s ++ rest)) = .ok (.str s, rest) := by
  rw [dec_strHead f n _ hn, rawOf_append _ _ _ _ hs]

theorem dec_bin (f n : Nat) (b rest : Bytes) (hb : b.length = n) (hn : n < 4294967296) :
    mpDec (f + 1) (mpBinHead n ++ (b ++ rest)) = .ok (.bin b, rest) := by
  rw [dec_binHead f n _ hn, rawOf_append _ _ _ _ hb]

/-! ### stepping through element and pair lists -/

theorem mpDecL_zero (fuel : Nat) (bs : Bytes) : mpDecL fuel 0 bs = .ok ([], bs) := by rw [mpDecL]

theorem mpDecP_zero (fuel : Nat) (bs : Bytes) : mpDecP fuel 0 bs = .ok ([], bs) := by rw [mpDecP]

theorem mpDecL_cons_ok {fuel k : Nat} {bs r r' : Bytes} {v : Val} {l : List Val}
    (h1 : mpDec fuel bs = .ok (v, r)) (h2 : mpDecL fuel k r = .ok (l, r')) :
    mpDecL fuel (k + 1) bs = .ok (v :: l, r') := by
  rw [mpDecL, h1]
  simp only [h2]

theorem mpDecP_cons_ok {fuel k : Nat} {bs r r' r'' : Bytes} {key v : Val} {l : List (Val × Val)}
    (h1 : mpDec fuel bs = .ok (key, r)) (h2 : mpDec fuel r = .ok (v, r'))
    (h3 : mpDecP fuel k r' = .ok (l, r'')) :
    mpDecP fuel (k + 1) bs = .ok ((key, v) :: l, r'') := by
  rw [mpDecP, h1]
  simp only [h2, h3]

theorem arrOf_ok {fuel n : Nat} {bs r : Bytes} {l : List Val} (h : mpDecL fuel n bs = .ok (l, r)) :
    arrOf fuel n bs = .ok (.arr l, r) := by
  unfold arrOf
  rw [h]
  rfl

theorem mapOf_ok {fuel n : Nat} {bs r : Bytes} {l : List (Val × Val)} {v : Val}
    (h : mpDecP fuel n bs = .ok (l, r)) (hk : mpHook l = .ok v) :
    mapOf fuel n bs = .ok (v, r) := by
  unfold mapOf
  rw [h]
  simp only [hk]

/-- if every element decodes at fuel `f` (whatever follows), so does the list -/
theorem decL_all {f : Nat} : ∀ (l : List Val) (rest : Bytes),
    (∀ x ∈ l, ∀ r, mpDec f (mpEnc x ++ r) = .ok (x, r)) → mpDecL f l.length (mpEncL l ++ rest) = .ok (l, rest)
  | [], rest, _ => by rw [mpEncL]; exact mpDecL_zero _ _
  | v :: t, rest, h => by
    rw [mpEncL, List.append_assoc]
    exact mpDecL_cons_ok (h v (List.mem_cons_self ..) _) (decL_all t rest fun x hx => h x (List.mem_cons_of_mem _ hx))

theorem decP_all {f : Nat} : ∀ (l : List (Val × Val)) (rest : Bytes),
    (∀ p ∈ l, ∀ r, mpDec f (mpEnc p.1 ++ r) = .ok (p.1, r) ∧ mpDec f (mpEnc p.2 ++ r) = .ok (p.2, r)) →
      mpDecP f l.length (mpEncP l ++ rest) = .ok (l, rest)
  | [], rest, _ => by rw [mpEncP]; exact mpDecP_zero _ _
  | (k, v) :: t, rest, h => by
    rw [mpEncP, List.append_assoc, List.append_assoc]
    have hp := h (k, v) (List.mem_cons_self ..)
    exact mpDecP_cons_ok (hp _).1 (hp _).2 (decP_all t rest fun p hp => h p (List.mem_cons_of_mem _ hp))

/-! ### every encoded value occupies at least one byte (fuel accounting) -/

theorem mpInt_length_pos (i : Int) : 1 ≤ (mpInt i).length := by
  unfold mpInt
  split
  · simp only []
    repeat' split
    all_goals simp
  · simp only []
    repeat' split
    all_goals simp

theorem mpStrHead_length_pos (n : Nat) : 1 ≤ (mpStrHead n).length := by
  unfold mpStrHead
  repeat' split
  all_goals simp

theorem mpBinHead_length_pos (n : Nat) : 1 ≤ (mpBinHead n).length := by
  unfold mpBinHead
  repeat' split
  all_goals simp

theorem mpArrHead_length_pos (n : Nat) : 1 ≤ (mpArrHead n).length := by
  unfold mpArrHead
  repeat' split
  all_goals simp

theorem mpMapHead_length_pos (n : Nat) : 1 ≤ (mpMapHead n).length := by
  unfold mpMapHead
  repeat' split
  all_goals simp

/-! ### the array envelope, byte level -/

/-- the key/value list of the envelope (`ndEnvelope … = .map (ndList …)`) -/
def ndList (dt : Bytes) (shape : List Nat) (data : Bytes) : List (Val × Val) :=
  [(.bin (asciiBytes "_nd_"), .bool true),
   (.bin (asciiBytes "dtype"), .str dt),
   (.bin (asciiBytes "data"), .bin data)]
  ++ (if shape.length > 1 then
        [(.bin (asciiBytes "shape"), .arr (shape.map fun (n : Nat) => Val.int (n : Int)))] else [])

theorem ndEnvelope_eq (dt : Bytes) (shape : List Nat) (data : Bytes) :
    ndEnvelope dt shape data = .map (ndList dt shape data) := rfl

theorem len_key_nd : (asciiBytes "_nd_").length = 4 := by decide
theorem len_key_dtype : (asciiBytes "dtype").length = 5 := by decide
theorem len_key_data : (asciiBytes "data").length = 4 := by decide
theorem len_key_shape : (asciiBytes "shape").length = 5 := by decide

theorem mpEncL_shape : ∀ shape : List Nat,
    mpEncL (shape.map fun (n : Nat) => Val.int (n : Int)) = mpEncShape shape
  | [] => by rw [List.map_nil, mpEncL, mpEncShape]
  | n :: t => by rw [List.map_cons, mpEncL, mpEncShape, mpEnc, mpEncL_shape t]

/-- the bytes of an ndarray leaf are the bytes of its envelope map -/
theorem mpEnc_nd_eq (dt : Bytes) (shape : List Nat) (data : Bytes) :
    mpEnc (.nd dt shape data)
      = mpMapHead (ndList dt shape data).length ++ mpEncP (ndList dt shape data) := by
  by_cases hr : shape.length > 1
  · simp only [ndList, hr, if_true, List.cons_append, List.nil_append, mpEnc, mpEncP, List.length_cons,
      List.length_nil, List.append_assoc, len_key_nd, len_key_dtype, len_key_data, len_key_shape, mpEncL_shape,
      List.length_map, List.append_nil, Nat.reduceAdd]
  · simp only [ndList, hr, if_false, List.cons_append, List.nil_append, mpEnc, mpEncP, List.length_cons,
      List.length_nil, List.append_assoc, len_key_nd, len_key_dtype, len_key_data,
      List.append_nil, Nat.reduceAdd]

theorem ndList_length_lt (dt : Bytes) (shape : List Nat) (data : Bytes) :
    (ndList dt shape data).length < 4294967296 := by
  unfold ndList
  split <;> simp

end QcelVerif.Ser
