import QcelVerif.Props.C02Pred
import QcelVerif.Model.ConstantsSrc
import QcelVerif.Lemmas.PStr
/-!
# C02 — helper definitions and lemmas for the source-derived context (`Props/C02Src.lean`)

The Bool predicates `decBeq`, `allAliases`, `aliasOk`, `aliasClose`, `ratClose`, `withPC` are those of `Props/C02Pred.lean`.
**Normalisation** of alias expression trees (`normExpr`): lower-case the constant names, inline other aliases,
replace a constant that the context itself computes (calorie-joule relationship → its literal, a 2014 legacy name →
the 2018 name it copies, a derived legacy constant → its own formula); it is sound for EVERY table of constants that
is consistent with that environment (`norm_sound`).  `commNorm` orders the two operands of every product (`Dec.mul`
is commutative digit for digit), so `10*cal` and `cal*10` are the same definition.
-/
namespace QcelVerif.Constants
open QcelVerif QcelVerif.PStr QcelVerif.Codata
open Gen.ContextSrc

theorem filterMap_cons_append {α β} (f : α → Option β) (c : α) (t : List α) :
    (c :: t).filterMap f = [c].filterMap f ++ t.filterMap f := by
  simp only [List.filterMap_cons, List.filterMap_nil]; cases f c <;> simp

theorem mangle_char_ascii : ∀ c, c < 128 → transChar transTable c = mangle [c] := by decide +kernel

def keysBelow (n : Nat) : List (Nat × List Nat) → Bool
  | [] => true
  | (k, _) :: t => Nat.blt k n && keysBelow n t

theorem transFind_none_of_keysBelow (n c : Nat) (hc : n ≤ c) :
    ∀ tbl, keysBelow n tbl = true → transFind tbl c = none := by
  intro tbl
  induction tbl with
  | nil => intro _; rfl
  | cons kv t ih =>
    obtain ⟨k, r⟩ := kv
    intro h
    simp only [keysBelow, Bool.and_eq_true] at h
    have hk : k < n := Nat.blt_eq ▸ h.1
    cases hkc : Nat.beq k c with
    | true => have := Nat.eq_of_beq_eq_true hkc; omega
    | false => simp only [transFind, hkc]; exact ih h.2

theorem mangle_char_high (c : Nat) (hc : 128 ≤ c) : mangle [c] = [c] := by
  have h : ∀ k, k < 128 → c ≠ k := fun k hk => by omega
  simp [mangle, h]

theorem mangle_src_char (c : Nat) : transChar transTable c = mangle [c] := by
  by_cases hc : c < 128
  · exact mangle_char_ascii c hc
  · have hc' : 128 ≤ c := by omega
    rw [mangle_char_high c hc']
    unfold transChar
    rw [transFind_none_of_keysBelow 128 c hc' transTable (by decide)]


theorem mangleWith_eq (s : Bytes) : mangleWith transTable s = mangle s := by
  induction s with
  | nil => rfl
  | cons c t ih =>
    have : mangle (c :: t) = mangle [c] ++ mangle t := filterMap_cons_append _ c t
    rw [this, ← ih, ← mangle_src_char]; rfl

deriving instance DecidableEq for Expr
deriving instance DecidableEq for AliasDef

def lowerPc : Expr → Expr
  | .pc n => .pc (lower n)
  | .lit t => .lit t
  | .alias n => .alias n
  | .mul a b => .mul (lowerPc a) (lowerPc b)
  | .div a b => .div (lowerPc a) (lowerPc b)
def lowerDef (a : AliasDef) : AliasDef := { a with expr := lowerPc a.expr }

theorem evalDec_succ (pc : PC) (tbl : List AliasDef) :
    ∀ f e v, Expr.evalDec pc tbl f e = some v → Expr.evalDec pc tbl (f + 1) e = some v :=
  evalDec_induct (P := fun f e v => Expr.evalDec pc tbl (f + 1) e = some v)
    (fun _ _ _ hd => by simp only [Expr.evalDec, hd, Option.map_some])
    (fun _ _ _ h => h)
    (fun _ _ _ _ hfa h => by simp only [Expr.evalDec, hfa]; exact h)
    (fun _ _ _ _ _ hx hy => by simp only [Expr.evalDec, hx, hy])
    (fun _ _ _ _ _ _ hx hy hv => by simp only [Expr.evalDec, hx, hy]; exact hv)

theorem evalDec_mono (pc : PC) (tbl : List AliasDef) (e : Expr) (v : Dec) (f g : Nat)
    (h : Expr.evalDec pc tbl f e = some v) (hfg : f ≤ g) : Expr.evalDec pc tbl g e = some v := by
  induction hfg with
  | refl => exact h
  | step _ ih => exact evalDec_succ pc tbl _ e v ih


abbrev Env := List (Bytes × Expr)

def envFind : Env → Bytes → Option Expr
  | [], _ => none
  | (k, e) :: t, n => if k = n then some e else envFind t n

def normExpr (env : Env) (tbl : List AliasDef) : Nat → Expr → Expr
  | 0, e => e
  | _ + 1, .pc n => match envFind env (lower n) with | some e' => e' | none => .pc (lower n)
  | _ + 1, .lit t => .lit t
  | f + 1, .alias n => match findAlias tbl n with
      | some a => normExpr env tbl f a.expr
      | none => .alias n
  | f + 1, .mul a b => .mul (normExpr env tbl f a) (normExpr env tbl f b)
  | f + 1, .div a b => .div (normExpr env tbl f a) (normExpr env tbl f b)

def envOf (extras : List (Bytes × AliasDef)) (renames : List (Bytes × Bytes)) (initial : List AliasDef) : Env :=
  let e1 : Env := extras.map (fun ka => (ka.1, normExpr [] [] evalFuel ka.2.expr))
  let e2 : Env := renames.map (fun p => (lower p.2, Expr.pc (lower p.1)))
  let e3 : Env := initial.map (fun a => (lower a.name, normExpr (e1 ++ e2) [] evalFuel a.expr))
  e1 ++ e2 ++ e3

def EnvOk (pc : PC) (env : Env) : Prop :=
  ∀ k e', envFind env k = some e' → ∀ d, pcFind pc (pack k) = some d → e'.evalDec pc [] evalFuel = some d.data

theorem norm_sound (pc : PC) (env : Env) (tbl : List AliasDef) (hE : EnvOk pc env) :
    ∀ f e v, Expr.evalDec pc tbl f e = some v → ∃ g, (normExpr env tbl f e).evalDec pc [] g = some v := by
  refine evalDec_induct ?_ ?_ ?_ ?_ ?_
  · intro f n d hd
    simp only [normExpr]
    cases hf : envFind env (lower n) with
    | some e' => exact ⟨evalFuel, hE _ _ hf d hd⟩
    | none => exact ⟨1, by simp only [Expr.evalDec, lower_lower, hd, Option.map_some]⟩
  · intro f t v h
    exact ⟨1, h⟩
  · rintro f n a v hfa ⟨g, hg⟩
    exact ⟨g, by simp only [normExpr, hfa]; exact hg⟩
  · rintro f a b x y ⟨ga, hga⟩ ⟨gb, hgb⟩
    refine ⟨max ga gb + 1, ?_⟩
    simp only [normExpr, Expr.evalDec, evalDec_mono _ _ _ _ _ _ hga (Nat.le_max_left ..),
      evalDec_mono _ _ _ _ _ _ hgb (Nat.le_max_right ..)]
  · rintro f a b x y v ⟨ga, hga⟩ ⟨gb, hgb⟩ hv
    refine ⟨max ga gb + 1, ?_⟩
    simp only [normExpr, Expr.evalDec, evalDec_mono _ _ _ _ _ _ hga (Nat.le_max_left ..),
      evalDec_mono _ _ _ _ _ _ hgb (Nat.le_max_right ..)]
    exact hv

/-- Decimal multiplication is commutative digit for digit (sign xor, coefficient product, exponent sum, one rounding) -/
theorem _root_.QcelVerif.Dec.mul_comm' (a b : Dec) : Dec.mul a b = Dec.mul b a := by
  unfold Dec.mul
  rw [Nat.mul_comm a.coeff b.coeff, Int.add_comm a.exp b.exp]
  congr 2
  cases a.neg <;> cases b.neg <;> rfl

/-- serialisation used only to pick an operand order -/
def exprKey : Expr → List Nat
  | .pc n => 0 :: n.length :: n
  | .lit t => 1 :: t.length :: t
  | .alias n => 2 :: n.length :: n
  | .mul a b => 3 :: (exprKey a ++ exprKey b)
  | .div a b => 4 :: (exprKey a ++ exprKey b)

def listLe : List Nat → List Nat → Bool
  | [], _ => true
  | _ :: _, [] => false
  | a :: t, b :: t' => if a < b then true else if b < a then false else listLe t t'

/-- the two operands of every product put in a fixed order (`x*y` and `y*x` are the same Decimal; products of three
factors are NOT re-associated — that changes the roundings) -/
def commNorm : Expr → Expr
  | .mul a b =>
    let a' := commNorm a
    let b' := commNorm b
    if listLe (exprKey a') (exprKey b') then .mul a' b' else .mul b' a'
  | .div a b => .div (commNorm a) (commNorm b)
  | e => e

theorem evalDec_commNorm (pc : PC) : ∀ f e, (commNorm e).evalDec pc [] f = e.evalDec pc [] f := by
  intro f
  induction f with
  | zero => intro e; cases e <;> simp [Expr.evalDec]
  | succ f ih =>
    intro e
    cases e with
    | pc n => rfl
    | lit t => rfl
    | «alias» n => rfl
    | mul a b =>
      simp only [commNorm]
      split
      · simp only [Expr.evalDec, ih]
      · simp only [Expr.evalDec, ih]
        cases Expr.evalDec pc [] f a <;> cases Expr.evalDec pc [] f b <;> simp [Dec.mul_comm']
    | div a b => simp only [commNorm, Expr.evalDec, ih]

def allPairs2 (p : AliasDef → AliasDef → Bool) : List AliasDef → List AliasDef → Bool
  | [], [] => true
  | a :: t, b :: t' => (match p a b with | true => allPairs2 p t t' | false => false)
  | _, _ => false

theorem allPairs2_eq_all2 (p : AliasDef → AliasDef → Bool) : ∀ l l', allPairs2 p l l' = all2 p l l'
  | [], [] => rfl
  | [], _ :: _ => rfl
  | _ :: _, [] => rfl
  | a :: t, b :: t' => by
    show (match p a b with | true => allPairs2 p t t' | false => false) = (p a b && all2 p t t')
    rw [allPairs2_eq_all2 p t t']; cases p a b <;> rfl

theorem allPairs2_iff (Q : AliasDef → AliasDef → Bool) (l l' : List AliasDef) :
    allPairs2 Q l l' = true ↔ l.length = l'.length ∧ ∀ sp ∈ l.zip l', Q sp.1 sp.2 = true := by
  rw [allPairs2_eq_all2, all2_eq_zip, Bool.and_eq_true, beq_iff_eq, List.all_eq_true]

theorem allPairs2_of (P : AliasDef → Bool) (Q R : AliasDef → AliasDef → Bool)
    (hPQR : ∀ s p, P s = true → Q s p = true → R s p = true) (l l' : List AliasDef)
    (hP : allAliases P l = true) (hQ : allPairs2 Q l l' = true) : allPairs2 R l l' = true := by
  rw [allPairs2_iff] at hQ ⊢
  exact ⟨hQ.1, fun sp h => hPQR _ _ ((allAliases_iff _ _).1 hP _ (List.of_mem_zip h).1) (hQ.2 sp h)⟩

/-- aliases whose source expression groups the arithmetic differently from the documentation: only value equality -/
def regrouped : List Bytes := [b!"dipmom_au2debye"]

/-- name, units and comment of the tuple are the documented ones -/
def metaEq (s p : AliasDef) : Bool := decide (s.name = p.name) && decide (s.units = p.units) && decide (s.comment = p.comment)

/-- normalised source tree = normalised specification tree (operands of each product in canonical order) -/
def symEq (env : Env) (s p : AliasDef) : Bool :=
  decide (commNorm (normExpr env [] evalFuel s.expr) = commNorm (normExpr env aliasSpec evalFuel p.expr))

def symOk (env : Env) (s p : AliasDef) : Bool := metaEq s p && (regrouped.contains s.name || symEq env s p)

/-- the regrouped ones really differ as trees (the exclusion list is not wider than necessary) -/
def symDiffers (env : Env) (s p : AliasDef) : Bool := !regrouped.contains s.name || !symEq env s p

def env2014 : Env := envOf extras2014 renames2014 initial2014
def env2018 : Env := envOf extras2018 renames2018 initial2018

/-- Boolean form of `EnvOk` -/
def envOkB (pc : PC) : Env → Bool
  | [] => true
  | (k, e') :: t =>
    (match pcFind pc (pack k) with
      | some d => (match e'.evalDec pc [] evalFuel with | some v => decBeq v d.data | none => false)
      | none => true) && envOkB pc t

theorem envOk_of_B (pc : PC) : ∀ env, envOkB pc env = true → EnvOk pc env := by
  intro env
  induction env with
  | nil => intro _ k e' h; simp [envFind] at h
  | cons ke t ih =>
    obtain ⟨k0, e0⟩ := ke
    intro h k e' hf d hd
    simp only [envOkB, Bool.and_eq_true] at h
    simp only [envFind] at hf
    by_cases hk : k0 = k
    · rw [if_pos hk, Option.some.injEq] at hf
      subst hk; subst hf
      have h1 := h.1
      rw [hd] at h1
      cases hv : e0.evalDec pc [] evalFuel with
      | none => simp [hv] at h1
      | some v => simp only [hv] at h1; rw [decBeq_eq h1]
    · rw [if_neg hk] at hf
      exact ih h.2 k e' hf d hd

def withPC2 (o1 o2 : Option PC) (p : PC → PC → Bool) : Bool :=
  match o1, o2 with | some a, some b => p a b | _, _ => false

/-- the source expression evaluated on the table the code evaluates it on (`pre`) gives, digit for digit, the Decimal
the documented formula gives on the finished context (`fin`) -/
def valEq (tbl : List AliasDef) (pre fin : PC) (s p : AliasDef) : Bool :=
  match s.expr.evalDec pre [] evalFuel, p.expr.evalDec fin tbl evalFuel with
  | some x, some y => decBeq x y
  | _, _ => false

/-- exact rational value of the source formula = exact rational value of the documented formula -/
def sameQ (tbl : List AliasDef) (fin : PC) (s p : AliasDef) : Bool :=
  match s.expr.evalQ fin [] evalFuel, p.expr.evalQ fin tbl evalFuel with
  | some x, some y => decide (x = y)
  | _, _ => false

/-- the stored entry named by the source tuple is within 2·10⁻²⁷ of the exact rational value of the DOCUMENTED formula -/
def closeTo (tbl : List AliasDef) (fin : PC) (s p : AliasDef) : Bool :=
  match p.expr.evalQ fin tbl evalFuel, pcFind fin (pack (lower s.name)) with
  | some q, some e => ratClose e.data.val q
  | _, _ => false

theorem closeTo_of (tbl : List AliasDef) (fin : PC) (s p : AliasDef)
    (h1 : aliasClose [] fin s = true) (h2 : sameQ tbl fin s p = true) : closeTo tbl fin s p = true := by
  unfold aliasClose at h1
  unfold sameQ at h2
  unfold closeTo
  cases hs : s.expr.evalQ fin [] evalFuel with
  | none => simp [hs] at h1
  | some x =>
    cases hp : p.expr.evalQ fin tbl evalFuel with
    | none => simp [hs, hp] at h2
    | some y =>
      simp only [hs, hp, decide_eq_true_eq] at h2
      simp only [hs] at h1
      rw [← h2]; exact h1

/-- everything that is kernel-evaluated about one source-derived context in one go -/
def srcChecks (env : Env) (initial extended derivedSpec : List AliasDef) (pre fin : PC) : Bool :=
  (allPairs2 (valEq aliasSpec pre fin) extended aliasSpec && allPairs2 (valEq [] pre fin) initial derivedSpec) &&
  (allAliases (aliasOk [] fin) (initial ++ extended) &&
   (allPairs2 (sameQ aliasSpec fin) extended aliasSpec && allPairs2 (sameQ [] fin) initial derivedSpec)) &&
  envOkB fin env

theorem withPC2_right {o1 o2 : Option PC} {p : PC → PC → Bool} {q : PC → Bool}
    (hpq : ∀ a b, p a b = true → q b = true) (h : withPC2 o1 o2 p = true) : withPC o2 q = true := by
  cases o1 with
  | none => cases o2 <;> simp [withPC2] at h
  | some a => cases o2 with
    | none => simp [withPC2] at h
    | some b => exact hpq a b h

theorem withPC2_imp {o1 o2 : Option PC} {p q : PC → PC → Bool}
    (hpq : ∀ a b, p a b = true → q a b = true) (h : withPC2 o1 o2 p = true) : withPC2 o1 o2 q = true := by
  cases o1 with
  | none => cases o2 <;> simp [withPC2] at h
  | some a => cases o2 with
    | none => simp [withPC2] at h
    | some b => exact hpq a b h

theorem buildAttrsWith_eq (pc : PC) : ∀ acc, buildAttrsWith transTable pc acc = buildAttrs pc acc := by
  induction pc with
  | nil => intro acc; rfl
  | cons e t ih =>
    intro acc
    obtain ⟨k, d⟩ := e
    have hm : mangleWith transTable (unpack d.label) = mangle (unpack d.label) := mangleWith_eq _
    simp only [buildAttrsWith, buildAttrs, hm, ih]

/-! ### the code's staging of the alias list against the model's -/

/-- the keys of the table that the evaluation of an expression looks up -/
def Expr.reads (tbl : List AliasDef) : Nat → Expr → List Nat
  | 0, _ => []
  | _ + 1, .pc n => [pack (lower n)]
  | _ + 1, .lit _ => []
  | f + 1, .alias n => match findAlias tbl n with
      | some a => Expr.reads tbl f a.expr
      | none => []
  | f + 1, .mul a b => Expr.reads tbl f a ++ Expr.reads tbl f b
  | f + 1, .div a b => Expr.reads tbl f a ++ Expr.reads tbl f b

theorem evalDec_congr {pc pc' : PC} (tbl : List AliasDef) : ∀ (f : Nat) (e : Expr),
    (∀ k ∈ e.reads tbl f, pcFind pc k = pcFind pc' k) → e.evalDec pc tbl f = e.evalDec pc' tbl f
  | 0, _, _ => rfl
  | _ + 1, .pc n, h => by simp only [Expr.evalDec, h _ (List.mem_singleton_self _)]
  | _ + 1, .lit _, _ => rfl
  | f + 1, .alias n, h => by
    simp only [Expr.evalDec, Expr.reads] at h ⊢
    cases hf : findAlias tbl n with
    | none => rfl
    | some a => rw [hf] at h; exact evalDec_congr tbl f a.expr h
  | f + 1, .mul a b, h => by
    simp only [Expr.reads, List.mem_append] at h
    simp only [Expr.evalDec, evalDec_congr tbl f a fun k hk => h k (.inl hk), evalDec_congr tbl f b fun k hk => h k (.inr hk)]
  | f + 1, .div a b, h => by
    simp only [Expr.reads, List.mem_append] at h
    simp only [Expr.evalDec, evalDec_congr tbl f a fun k hk => h k (.inl hk), evalDec_congr tbl f b fun k hk => h k (.inr hk)]

theorem insertAliases_append : ∀ (l l' : List (AliasDef × Dec)) (pc : PC),
    insertAliases (l ++ l') pc = insertAliases l' (insertAliases l pc)
  | [], _, _ => rfl
  | (_, _) :: t, l', pc => by simp only [List.cons_append, insertAliases, insertAliases_append t l']

theorem evalAll_append {pc : PC} {tbl : List AliasDef} : ∀ {l l' : List AliasDef} {r : List (AliasDef × Dec)},
    evalAll pc tbl (l ++ l') = some r → ∃ r1 r2, evalAll pc tbl l = some r1 ∧ evalAll pc tbl l' = some r2 ∧ r = r1 ++ r2
  | [], _, r, h => ⟨[], r, rfl, h, rfl⟩
  | a :: t, l', r, h => by
    rw [List.cons_append, evalAll] at h
    cases hv : a.expr.evalDec pc tbl evalFuel with
    | none => simp [hv] at h
    | some v =>
      cases ht : evalAll pc tbl (t ++ l') with
      | none => simp [hv, ht] at h
      | some r' =>
        obtain ⟨r1, r2, h1, h2, rfl⟩ := evalAll_append ht
        simp only [hv, ht, Option.some.injEq] at h
        exact ⟨(a, v) :: r1, r2, by simp [evalAll, hv, h1], h2, by simp [← h]⟩


/-- `src` are the source's definitions, evaluated on `pcS`; `spec` the documented ones, on `pcP` -/
theorem evalAll_of_pairs {pcS pcP fin : PC} {tblP : List AliasDef} : ∀ {src spec : List AliasDef} {avS : List (AliasDef × Dec)},
    evalAll pcS [] src = some avS → allPairs2 metaEq src spec = true → allPairs2 (valEq tblP pcS fin) src spec = true →
    (∀ p ∈ spec, p.expr.evalDec fin tblP evalFuel = p.expr.evalDec pcP tblP evalFuel) →
    ∃ avP, evalAll pcP tblP spec = some avP ∧ ∀ pc, insertAliases avP pc = insertAliases avS pc
  | [], [], _, hs, _, _, _ => by cases hs; exact ⟨[], rfl, fun _ => rfl⟩
  | [], _ :: _, _, _, hm, _, _ => by cases hm
  | _ :: _, [], _, _, hm, _, _ => by cases hm
  | s :: t, p :: t', avS, hs, hm, hv, hc => by
    unfold allPairs2 at hm hv
    cases hm1 : metaEq s p <;> simp only [hm1] at hm; · cases hm
    cases hv1 : valEq tblP pcS fin s p <;> simp only [hv1] at hv; · cases hv
    rw [evalAll] at hs
    simp only [valEq, hc p (List.mem_cons_self ..)] at hv1
    cases hx : s.expr.evalDec pcS [] evalFuel with
    | none => simp [hx] at hs
    | some x =>
      cases ht : evalAll pcS [] t with
      | none => simp [hx, ht] at hs
      | some r =>
        simp only [hx, ht, Option.some.injEq] at hs
        subst hs
        obtain ⟨avP, hP, hins⟩ := evalAll_of_pairs ht hm hv fun q hq => hc q (List.mem_cons_of_mem _ hq)
        cases hy : p.expr.evalDec pcP tblP evalFuel with
        | none => simp [hx, hy] at hv1
        | some y =>
          simp only [hx, hy] at hv1
          simp only [metaEq, Bool.and_eq_true, decide_eq_true_eq] at hm1
          refine ⟨(p, y) :: avP, by simp [evalAll, hy, hP], fun pc => ?_⟩
          simp only [insertAliases, hins, decBeq_eq hv1, hm1.1.1, hm1.1.2, hm1.2]

/-- the evaluation of `p` looks up no key under which one of `l` is inserted -/
def readsApart (tbl l : List AliasDef) (p : AliasDef) : Bool :=
  (p.expr.reads tbl evalFuel).all fun k => l.all fun a => !Nat.beq (pack (lower a.name)) k

theorem evalDec_insertAliases {tbl l : List AliasDef} {p : AliasDef} {av : List (AliasDef × Dec)} (pc : PC)
    (hl : av.map (·.1) = l) (h : readsApart tbl l p = true) :
    p.expr.evalDec (insertAliases av pc) tbl evalFuel = p.expr.evalDec pc tbl evalFuel :=
  evalDec_congr tbl _ _ fun k hk => pcFind_insertAliases av pc fun v hv e => by
    have := List.all_eq_true.1 (List.all_eq_true.1 h k hk) v.1 (hl ▸ List.mem_map_of_mem hv)
    simp [e] at this

/-- **The code's staging gives the model's context**: the code evaluates all its tuples on the table `pc3` before any is inserted;
the model evaluates the derived constants `D` on `pc3`, inserts them, and evaluates the documented formulas on that table.  If the
tuples agree with `D` and `aliasSpec` pair by pair (name, units, comment; value of the documented formula on the FINISHED table, as
`valEq` states it) and no documented formula reads a key that the insertions write, both end with the same table. -/
theorem staging_eq {pc3 : PC} {initial extended D : List AliasDef} {avs : List (AliasDef × Dec)}
    (hs : evalAll pc3 [] (initial ++ extended) = some avs)
    (hmD : allPairs2 metaEq initial D = true) (hmA : allPairs2 metaEq extended aliasSpec = true)
    (hvD : allPairs2 (valEq [] pc3 (insertAliases avs pc3)) initial D = true)
    (hvA : allPairs2 (valEq aliasSpec pc3 (insertAliases avs pc3)) extended aliasSpec = true)
    (hrD : allAliases (readsApart [] (initial ++ extended)) D = true)
    (hrA : allAliases (readsApart aliasSpec extended) aliasSpec = true) :
    ∃ dv av, evalAll pc3 [] D = some dv ∧ evalAll (insertAliases dv pc3) aliasSpec aliasSpec = some av ∧
      insertAliases (dv ++ av) pc3 = insertAliases avs pc3 := by
  obtain ⟨a1, a2, h1, h2, rfl⟩ := evalAll_append hs
  obtain ⟨dv, hdv, hi1⟩ := evalAll_of_pairs (pcP := pc3) h1 hmD hvD fun p hp =>
    evalDec_insertAliases pc3 (evalAll_fst hs) ((allAliases_iff _ _).1 hrD p hp)
  obtain ⟨av, hav, hi2⟩ := evalAll_of_pairs (pcP := insertAliases dv pc3) h2 hmA hvA fun p hp => by
    rw [insertAliases_append, ← hi1]
    exact evalDec_insertAliases _ (evalAll_fst h2) ((allAliases_iff _ _).1 hrA p hp)
  exact ⟨dv, av, hdv, hav, by rw [insertAliases_append, hi2, hi1, ← insertAliases_append]⟩
end QcelVerif.Constants
