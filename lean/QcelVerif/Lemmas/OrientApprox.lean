import QcelVerif.Model.OrientApprox
import QcelVerif.Lemmas.Orient
import QcelVerif.Lib.ListLemmas

/-!
# C16 — helper lemmas for the quantitative (approximate-certificate) theorems

Nothing here is a property statement; the property statements are in `Props/C16Approx.lean`.
-/

namespace QcelVerif.Orient

/-! ## 1. ring identities -/
section Ring
variable {K : Type} [CommRing K]

/-- `D A D` for a diagonal `D`, entry by entry -/
theorem sandwich_diag_get (d : V3 K) (A : M3 K) (i j : Ix) :
    (sandwich (M3.diag d.x d.y d.z) A).get i j = d.get i * d.get j * A.get i j := by
  cases i <;> cases j <;> simp only [sandwich, M3.get, M3.row, V3.get, M3.mul, M3.tr, M3.diag] <;> ring

/-- linearity of the atom sum -/
theorem wsumF_add (f h : V3 K → K) : ∀ (ms : List K) (g : List (V3 K)),
    wsumF (fun p => f p + h p) ms g = wsumF f ms g + wsumF h ms g
  | [], _ => by simp [wsumF]
  | _ :: _, [] => by simp [wsumF]
  | m :: ms, p :: g => by simp only [wsumF]; rw [wsumF_add f h ms g]; ring

/-- `tr I = 2 Σ m |p|²` -/
theorem inertia_trace (ms : List K) (g : List (V3 K)) :
    (inertia ms g).xx + (inertia ms g).yy + (inertia ms g).zz = 2 * wsumF V3.normSq ms g := by
  simp only [inertia]
  rw [← wsumF_add, ← wsumF_add]
  have e2 : (2 : K) * wsumF V3.normSq ms g = wsumF (fun p => V3.normSq p + V3.normSq p) ms g := by
    rw [wsumF_add]; ring
  rw [e2]
  apply wsumF_congr
  intro p; simp only [V3.normSq]; ring

/-! matrix–vector product (used for eigen-equations `T u = μ u`) -/

/-- `A w` for a column vector `w` -/
def M3.mulVec (A : M3 K) (w : V3 K) : V3 K :=
  ⟨A.xx * w.x + A.xy * w.y + A.xz * w.z, A.yx * w.x + A.yy * w.y + A.yz * w.z, A.zx * w.x + A.zy * w.y + A.zz * w.z⟩

theorem mulVec_mulVec (A B : M3 K) (w : V3 K) : M3.mulVec A (M3.mulVec B w) = M3.mulVec (M3.mul A B) w := by
  apply V3.ext' <;> simp only [M3.mulVec, M3.mul] <;> ring

theorem mulVec_smul (A : M3 K) (a : K) (w : V3 K) : M3.mulVec A (V3.smul a w) = V3.smul a (M3.mulVec A w) := by
  apply V3.ext' <;> simp only [M3.mulVec, V3.smul] <;> ring

/-- row `i` of a perturbed eigen-equation `A w = μ G w` with `A ≈ diag l`, `G ≈ 1`: the residual matrices carry
everything but `(lᵢ - μ) wᵢ` -/
theorem pert_row {A G : M3 K} {l w : V3 K} {μ : K} (h : M3.mulVec A w = V3.smul μ (M3.mulVec G w)) (i : Ix) :
    (l.get i - μ) * w.get i =
      (μ * (M3.sub G M3.one).get i .x - (M3.sub A (M3.diag l.x l.y l.z)).get i .x) * w.x
      + (μ * (M3.sub G M3.one).get i .y - (M3.sub A (M3.diag l.x l.y l.z)).get i .y) * w.y
      + (μ * (M3.sub G M3.one).get i .z - (M3.sub A (M3.diag l.x l.y l.z)).get i .z) * w.z := by
  have hx := congrArg V3.x h; have hy := congrArg V3.y h; have hz := congrArg V3.z h
  simp only [M3.mulVec, V3.smul] at hx hy hz
  cases i <;> simp only [M3.get, M3.row, V3.get, M3.sub, M3.one, M3.diag]
  · linear_combination hx
  · linear_combination hy
  · linear_combination hz

/-- **Intertwining with its defect** (exact frames give `frame_intertwine`):
`L M - M L' = M E' - E M + Vᵀ(T-T')V' + Vᵀ T (VVᵀ-1) V' - Vᵀ (V'V'ᵀ-1) T' V'`,
`M = VᵀV'`, `E = VᵀTV - L`, `E' = V'ᵀT'V' - L'`.  After distributing, both sides are sums of the same
products of `V, V', T, T', L, L'`. -/
theorem intertwine_defect (T T' V V' : M3 K) (a b c a' b' c' : K) :
    M3.sub (M3.mul (M3.diag a b c) (M3.mul (M3.tr V) V')) (M3.mul (M3.mul (M3.tr V) V') (M3.diag a' b' c')) =
      M3.add (M3.sub (M3.mul (M3.mul (M3.tr V) V') (M3.sub (sandwich V' T') (M3.diag a' b' c')))
                     (M3.mul (M3.sub (sandwich V T) (M3.diag a b c)) (M3.mul (M3.tr V) V')))
        (M3.add (M3.mul (M3.mul (M3.tr V) (M3.sub T T')) V')
          (M3.sub (M3.mul (M3.mul (M3.tr V) (M3.mul T (E1 V))) V') (M3.mul (M3.mul (M3.tr V) (M3.mul (E1 V') T')) V'))) := by
  simp only [sandwich, E1, mul_sub3, sub_mul3, one_mul3, mul_one3, mul_assoc3]
  refine M3.ext_get fun i j => ?_
  simp only [sub_get, add_get]; ring

/-- `(VᵀV')ᵀ(VᵀV') = V'ᵀV' + V'ᵀ(VVᵀ-1)V'` -/
theorem overlap_gram (V V' : M3 K) :
    M3.mul (M3.tr (M3.mul (M3.tr V) V')) (M3.mul (M3.tr V) V') =
      M3.add (M3.mul (M3.tr V') V') (M3.mul (M3.mul (M3.tr V') (E1 V)) V') := by
  simp only [E1, tr_mul, tr_tr, mul_sub3, sub_mul3, mul_one3, mul_assoc3]
  refine M3.ext_get fun i j => ?_
  simp only [sub_get, add_get]; ring

/-- `V' - V D = V (VᵀV' - D) - (VVᵀ-1) V'` -/
theorem frame_diff (V V' D : M3 K) :
    M3.sub V' (M3.mul V D) = M3.sub (M3.mul V (M3.sub (M3.mul (M3.tr V) V') D)) (M3.mul (E1 V) V') := by
  simp only [E1, mul_sub3, sub_mul3, one_mul3, mul_assoc3]
  refine M3.ext_get fun i j => ?_
  simp only [sub_get]; ring

/-- the entries of `Vᵀ W V'` are the bilinear form of `W` on the columns of `V` and `V'` -/
theorem sandwich2_get (V W V' : M3 K) (i j : Ix) :
    (M3.mul (M3.mul (M3.tr V) W) V').get i j = V3.dot (V3.mulMat (V.col i) W) (V'.col j) := by
  cases i <;> cases j <;> simp only [M3.get, M3.row, V3.get, M3.col, M3.mul, M3.tr, V3.dot, V3.mulMat]

theorem overlap_get (V V' : M3 K) (i j : Ix) : (M3.mul (M3.tr V) V').get i j = V3.dot (V.col i) (V'.col j) := by
  cases i <;> cases j <;> rfl

end Ring

/-! ## 2. entrywise bounds -/
section Ordered
variable {K : Type} [Field K] [LinearOrder K] [IsStrictOrderedRing K]

theorem maxAbs_nonneg (A : M3 K) : 0 ≤ M3.maxAbs A := by
  unfold M3.maxAbs
  exact le_trans (abs_nonneg A.xx) (le_max_left _ _)

theorem normSq_nonneg (p : V3 K) : 0 ≤ V3.normSq p :=
  add_nonneg (add_nonneg (mul_self_nonneg _) (mul_self_nonneg _)) (mul_self_nonneg _)

/-- `|p E pᵀ| ≤ 3 ε |p|²` -/
theorem quad_bound {E : M3 K} {ε : K} (h : M3.maxAbs E ≤ ε) (p : V3 K) : |quadE E p| ≤ 3 * ε * V3.normSq p := by
  have := bilin_bound h p p
  unfold quadE
  linarith

/-- bilinear form between vectors of squared length `≤ c`: `|u W vᵀ| ≤ 3 ω c` -/
theorem bilin_bound_c {W : M3 K} {ω c : K} (h : M3.maxAbs W ≤ ω) {u v : V3 K}
    (hu : V3.normSq u ≤ c) (hv : V3.normSq v ≤ c) : |V3.dot (V3.mulMat u W) v| ≤ 3 * ω * c := by
  have hω : 0 ≤ ω := le_trans (maxAbs_nonneg W) h
  calc |V3.dot (V3.mulMat u W) v| ≤ ω * (3 * (V3.normSq u + V3.normSq v) / 2) := bilin_bound h u v
    _ ≤ ω * (3 * (c + c) / 2) := mul_le_mul_of_nonneg_left (by linarith) hω
    _ = 3 * ω * c := by ring

/-- `|u · v| ≤ (|u|² + |v|²)/2` -/
theorem dot_bound (u v : V3 K) : |V3.dot u v| ≤ (V3.normSq u + V3.normSq v) / 2 := by
  refine (abs_add3_le (abs_mul_le_half u.x v.x) (abs_mul_le_half u.y v.y) (abs_mul_le_half u.z v.z)).trans_eq ?_
  simp only [V3.normSq]; ring

/-- sum over atoms of a pointwise bounded quantity, with `|mᵢ|` as weights on the right -/
theorem wsumF_abs_le {f h : V3 K → K} {c : K} (hf : ∀ p, |f p| ≤ c * h p) : ∀ (ms : List K) (g : List (V3 K)),
    |wsumF f ms g| ≤ c * wsumF h (ms.map (fun m => |m|)) g
  | [], _ => by simp [wsumF]
  | _ :: _, [] => by simp [wsumF]
  | m :: ms, p :: g => by
    have ih := wsumF_abs_le hf ms g
    simp only [List.map_cons, wsumF]
    have h1 : |m * f p| ≤ |m| * (c * h p) := by
      rw [abs_mul]; exact mul_le_mul_of_nonneg_left (hf p) (abs_nonneg m)
    calc |m * f p + wsumF f ms g| ≤ |m * f p| + |wsumF f ms g| := abs_add_le _ _
      _ ≤ |m| * (c * h p) + c * wsumF h (ms.map (fun m => |m|)) g := add_le_add h1 ih
      _ = c * (|m| * h p + wsumF h (ms.map (fun m => |m|)) g) := by ring

theorem wsumF_normSq_le_absS (ms : List K) (g : List (V3 K)) : |wsumF V3.normSq ms g| ≤ absS ms g := by
  have := wsumF_abs_le (f := V3.normSq) (h := V3.normSq) (c := 1)
    (fun p => by rw [abs_of_nonneg (normSq_nonneg p), one_mul]) ms g
  rwa [one_mul] at this

theorem absS_nonneg (ms : List K) (g : List (V3 K)) : 0 ≤ absS ms g :=
  (abs_nonneg _).trans (wsumF_normSq_le_absS ms g)

/-- non-negative masses: `absS` is half the trace of the inertia tensor -/
theorem absS_eq_half_trace {ms : List K} (hm : ∀ m ∈ ms, 0 ≤ m) (g : List (V3 K)) :
    2 * absS ms g = (inertia ms g).xx + (inertia ms g).yy + (inertia ms g).zz := by
  have : ms.map (fun m => |m|) = ms := map_eq_self fun m hmm => abs_of_nonneg (hm m hmm)
  rw [inertia_trace, absS, this]

/-- entries of the defect term: diagonal `≤ (3 εb + εa) S`, off-diagonal `≤ εa S` -/
theorem inertiaDefect_bound {V : M3 K} {εa εb : K} (ha : M3.maxAbs (E2 V) ≤ εa) (hb : M3.maxAbs (E1 V) ≤ εb)
    (ms : List K) (g : List (V3 K)) :
    (∀ i, |(inertiaDefect ms g V).get i i| ≤ (3 * εb + εa) * absS ms g) ∧
    ∀ i j, i ≠ j → |(inertiaDefect ms g V).get i j| ≤ εa * absS ms g := by
  have hq : |wsumF (quadE (E1 V)) ms g| ≤ 3 * εb * absS ms g := wsumF_abs_le (quad_bound hb) ms g
  have hs := wsumF_normSq_le_absS ms g
  have ha' := maxAbs_le_iff_get.mp ha
  have e : ∀ i j, (inertiaDefect ms g V).get i j
      = wsumF (quadE (E1 V)) ms g * (M3.one : M3 K).get i j - wsumF V3.normSq ms g * (E2 V).get i j := by
    intro i j; cases i <;> cases j <;> rfl
  refine ⟨fun i => ?_, fun i j hij => ?_⟩
  · rw [e, one_get_self, mul_one]
    exact (abs_sub _ _).trans ((add_le_add hq (abs_mul_le hs (ha' i i))).trans_eq (by ring))
  · rw [e, one_get_ne hij, mul_zero, zero_sub, abs_neg, mul_comm εa]
    exact abs_mul_le hs (ha' i j)

/-! ## 3. one row of a perturbed eigen-equation -/

/-- `(lᵢ - μ) wᵢ = Σ eₖ wₖ`, `|eₖ| ≤ β`, `|wₖ| ≤ |wᵢ| ≠ 0`  ⇒  `|lᵢ - μ| ≤ 3β` -/
theorem row_bound {li μ wi w1 w2 w3 e1 e2 e3 β : K}
    (hrow : (li - μ) * wi = e1 * w1 + e2 * w2 + e3 * w3)
    (h1 : |e1| ≤ β) (h2 : |e2| ≤ β) (h3 : |e3| ≤ β)
    (m1 : |w1| ≤ |wi|) (m2 : |w2| ≤ |wi|) (m3 : |w3| ≤ |wi|) (hpos : 0 < |wi|) : |li - μ| ≤ 3 * β := by
  have key : |li - μ| * |wi| ≤ 3 * β * |wi| := by
    rw [← abs_mul, hrow]
    exact (abs_add3_le (abs_mul_le h1 m1) (abs_mul_le h2 m2) (abs_mul_le h3 m3)).trans_eq (by ring)
  exact le_of_mul_le_mul_right key hpos

theorem pert_entry_bound {μ g a εa ε₂ : K} (hg : |g| ≤ εa) (ha : |a| ≤ ε₂) : |μ * g - a| ≤ ε₂ + |μ| * εa :=
  (abs_sub _ _).trans ((add_le_add (abs_mul_le le_rfl hg) ha).trans_eq (add_comm _ _))

/-- a non-zero vector has a component of maximal, positive absolute value -/
theorem exists_max_comp {w : V3 K} (hw : w ≠ V3.zero) : ∃ i, (∀ j, |w.get j| ≤ |w.get i|) ∧ 0 < |w.get i| := by
  have hmax : ∃ i, ∀ j, |w.get j| ≤ |w.get i| := by
    obtain ⟨i, hx, hy⟩ : ∃ i, |w.x| ≤ |w.get i| ∧ |w.y| ≤ |w.get i| := by
      rcases le_total |w.x| |w.y| with h | h
      · exact ⟨.y, h, le_rfl⟩
      · exact ⟨.x, le_rfl, h⟩
    rcases le_total |w.get i| |w.z| with h | h
    · exact ⟨.z, fun j => by cases j; exacts [hx.trans h, hy.trans h, le_rfl]⟩
    · exact ⟨i, fun j => by cases j; exacts [hx, hy, h]⟩
  obtain ⟨i, hi⟩ := hmax
  refine ⟨i, hi, lt_of_le_of_ne (abs_nonneg _) fun h0 => hw ?_⟩
  have hz : ∀ j, w.get j = 0 := fun j => abs_eq_zero.mp (le_antisymm (h0 ▸ hi j) (abs_nonneg _))
  exact V3.ext' (hz .x) (hz .y) (hz .z)

/-! ## 4. two approximate eigen-frames -/

theorem three_prod_bound3 {a1 a2 a3 b1 b2 b3 α β1 β2 β3 : K} (ha1 : |a1| ≤ α) (ha2 : |a2| ≤ α) (ha3 : |a3| ≤ α)
    (hb1 : |b1| ≤ β1) (hb2 : |b2| ≤ β2) (hb3 : |b3| ≤ β3) : |a1 * b1 + a2 * b2 + a3 * b3| ≤ α * (β1 + β2 + β3) :=
  (abs_add3_le (abs_mul_le ha1 hb1) (abs_mul_le ha2 hb2) (abs_mul_le ha3 hb3)).trans_eq (by ring)

/-- max-entry norm of a product: `‖AB‖ ≤ 3‖A‖‖B‖` -/
theorem maxAbs_mul_le {A B : M3 K} {α β : K} (hA : M3.maxAbs A ≤ α) (hB : M3.maxAbs B ≤ β) :
    M3.maxAbs (M3.mul A B) ≤ 3 * α * β := by
  rw [maxAbs_le_iff_get] at hA hB ⊢
  intro i j
  rw [mul_get]
  exact (three_prod_bound3 (hA i .x) (hA i .y) (hA i .z) (hB .x j) (hB .y j) (hB .z j)).trans_eq (by ring)

theorem maxAbs_add_le {A B : M3 K} {α β : K} (hA : M3.maxAbs A ≤ α) (hB : M3.maxAbs B ≤ β) :
    M3.maxAbs (M3.add A B) ≤ α + β := by
  rw [maxAbs_le_iff_get] at hA hB ⊢
  intro i j
  rw [add_get]
  exact (abs_add_le _ _).trans (add_le_add (hA i j) (hB i j))

theorem maxAbs_sub_le {A B : M3 K} {α β : K} (hA : M3.maxAbs A ≤ α) (hB : M3.maxAbs B ≤ β) :
    M3.maxAbs (M3.sub A B) ≤ α + β := by
  rw [maxAbs_le_iff_get] at hA hB ⊢
  intro i j
  rw [sub_get]
  exact (abs_sub _ _).trans (add_le_add (hA i j) (hB i j))

/-- the columns of `V` have squared length at most `c` -/
def ColsLe (V : M3 K) (c : K) : Prop := ∀ i, V3.normSq (V.col i) ≤ c

/-- squared lengths of the columns of an approximately orthogonal matrix: `|v_i|² - 1` is a diagonal entry of `VᵀV - 1` -/
theorem col_normSq_le {V : M3 K} {ε : K} (h : M3.maxAbs (E2 V) ≤ ε) : ColsLe V (1 + ε) := by
  intro i
  have e : (E2 V).get i i = V3.normSq (V.col i) - 1 := by rw [E2, sub_one_get_self, overlap_get]; rfl
  have := (abs_le.mp (maxAbs_le_iff_get.mp h i i)).2
  linarith

/-- `|x|² ≤ c`, `1 ≤ c` ⇒ `|x| ≤ c` -/
theorem abs_le_of_mul_self_le {x c : K} (h : x * x ≤ c) (hc : 1 ≤ c) : |x| ≤ c := by
  have h0 : 0 ≤ c := zero_le_one.trans hc
  exact (abs_le_iff_mul_self_le.mpr (h.trans (le_mul_of_one_le_left h0 hc))).trans_eq (abs_of_nonneg h0)

theorem abs_get_le_of_normSq_le {p : V3 K} {c : K} (hc : 1 ≤ c) (h : V3.normSq p ≤ c) (i : Ix) : |p.get i| ≤ c := by
  unfold V3.normSq at h
  have hx := mul_self_nonneg p.x; have hy := mul_self_nonneg p.y; have hz := mul_self_nonneg p.z
  cases i <;> simp only [V3.get] <;> exact abs_le_of_mul_self_le (by linarith) hc

/-- columns of squared length `≤ c` (`1 ≤ c`): every entry is `≤ c` in absolute value -/
theorem maxAbs_le_of_cols {V : M3 K} {c : K} (hc : 1 ≤ c) (hV : ColsLe V c) : M3.maxAbs V ≤ c :=
  maxAbs_le_iff_get.mpr fun i j => col_get V i j ▸ abs_get_le_of_normSq_le hc (hV j) i

/-- `‖Vᵀ W V'‖ ≤ 3 ω c` when the columns of `V`, `V'` have squared length `≤ c` and `‖W‖ ≤ ω` -/
theorem sandwich2_bound {V V' W : M3 K} {ω c : K} (hW : M3.maxAbs W ≤ ω) (hV : ColsLe V c) (hV' : ColsLe V' c) :
    M3.maxAbs (M3.mul (M3.mul (M3.tr V) W) V') ≤ 3 * ω * c :=
  maxAbs_le_iff_get.mpr fun i j => sandwich2_get V W V' i j ▸ bilin_bound_c hW (hV i) (hV' j)

/-- the overlap matrix `VᵀV'` of two approximately orthogonal matrices has entries `≤ c` -/
theorem overlap_maxAbs {V V' : M3 K} {c : K} (hV : ColsLe V c) (hV' : ColsLe V' c) :
    M3.maxAbs (M3.mul (M3.tr V) V') ≤ c := by
  refine maxAbs_le_iff_get.mpr fun i j => ?_
  have := dot_bound (V.col i) (V'.col j)
  rw [overlap_get]
  linarith [hV i, hV' j]

/-- the sign of a number close to `±1`: `|m - sgn m| ≤ |m² - 1|`, because `m² - 1 = (m - 1)(m + 1)` and the
factor with the other sign is at least `1` in absolute value -/
theorem abs_sub_sign_le (m : K) : |m - (if 0 ≤ m then 1 else -1)| ≤ |m * m - 1| := by
  have f : m * m - 1 = (m - 1) * (m + 1) := by ring
  rw [f, abs_mul]
  split_ifs with h
  · exact le_mul_of_one_le_right (abs_nonneg _) (by rw [abs_of_nonneg (by linarith)]; linarith)
  · rw [sub_neg_eq_add]
    exact le_mul_of_one_le_left (abs_nonneg _) (by rw [abs_of_neg (by linarith)]; linarith)

/-- `|a·m| ≤ δ`, `0 < γ ≤ |a|`  ⇒  `|m| ≤ δ/γ` -/
theorem div_bound {a m δ γ : K} (h : |a * m| ≤ δ) (hg : γ ≤ |a|) (hγ : 0 < γ) : |m| ≤ δ / γ := by
  rw [le_div_iff₀ hγ]
  rw [abs_mul] at h
  calc |m| * γ ≤ |m| * |a| := mul_le_mul_of_nonneg_left hg (abs_nonneg m)
    _ = |a| * |m| := mul_comm _ _
    _ ≤ δ := h

/-- product with a nearly diagonal-free matrix: diagonal entries of `N` at most `κ`, the others at most `η` -/
theorem mul_near_diag_bound {V N : M3 K} {c κ η : K} (hV : M3.maxAbs V ≤ c)
    (hd : ∀ i, |N.get i i| ≤ κ) (ho : ∀ i j, i ≠ j → |N.get i j| ≤ η) : M3.maxAbs (M3.mul V N) ≤ c * (κ + 2 * η) := by
  rw [maxAbs_le_iff_get] at hV ⊢
  intro i j
  rw [mul_get]
  cases j
  · exact (three_prod_bound3 (hV i .x) (hV i .y) (hV i .z) (hd .x) (ho .y .x nofun) (ho .z .x nofun)).trans_eq (by ring)
  · exact (three_prod_bound3 (hV i .x) (hV i .y) (hV i .z) (ho .x .y nofun) (hd .y) (ho .z .y nofun)).trans_eq (by ring)
  · exact (three_prod_bound3 (hV i .x) (hV i .y) (hV i .z) (ho .x .z nofun) (ho .y .z nofun) (hd .z)).trans_eq (by ring)

/-- a diagonal entry of `M` from the Gram identity: `m² = 1 + g + s - p² - q²` with `|g| ≤ ε`, `|s| ≤ σ`, `|p|,|q| ≤ η` -/
theorem diag_from_gram {m p q g s ε σ η : K} (h : m * m + p * p + q * q = (1 + g) + s)
    (hg : |g| ≤ ε) (hs : |s| ≤ σ) (hp : |p| ≤ η) (hq : |q| ≤ η) :
    |m - (if 0 ≤ m then 1 else -1)| ≤ ε + σ + 2 * (η * η) := by
  refine le_trans (abs_sub_sign_le m) ?_
  have hp2 : p * p ≤ η * η := abs_mul_abs_self p ▸ mul_self_le_mul_self (abs_nonneg p) hp
  have hq2 : q * q ≤ η * η := abs_mul_abs_self q ▸ mul_self_le_mul_self (abs_nonneg q) hq
  have pg := abs_le.mp hg; have ps := abs_le.mp hs
  rw [abs_le]; constructor <;> linarith [mul_self_nonneg p, mul_self_nonneg q]

end Ordered

end QcelVerif.Orient
