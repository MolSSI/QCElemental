import QcelVerif.Model.ConstantsShipped
import QcelVerif.Lemmas.Msort
/-!
Stage 1 of the context construction on a table without duplicate keys: `pcSet` never finds the key it is given, so the
constant loop appends one entry per row, in order.  The shipped tables have no duplicate keys (evaluated once per table),
and the contexts are then built without the quadratic search for a key that is not there.  At the end: induction along a successful
`Expr.evalDec` (`operands_of_some`, `evalDec_induct`), for Lemmas/ConstantsSrc.lean and Props/C02Dec.lean.
-/
namespace QcelVerif.Constants
open QcelVerif.PStr QcelVerif.Codata

theorem beq_false_of_not_mem {α : Type} {f : α → Nat} {k : Nat} {l : List α} (h : k ∉ l.map f) {a : α} (ha : a ∈ l) :
    Nat.beq k (f a) = false :=
  Bool.eq_false_iff.2 fun e => h (List.mem_map.2 ⟨a, ha, (Nat.eq_of_beq_eq_true e).symm⟩)

theorem pcSet_of_pcFind_none {pc : PC} {k : Nat} (d : Datum) (h : pcFind pc k = none) : pcSet pc k d = pc ++ [(k, d)] := by
  induction pc with
  | nil => rfl
  | cons e t ih =>
    obtain ⟨k', d'⟩ := e
    cases hk : Nat.beq k' k <;> simp_all [pcFind, pcSet]

theorem pcFind_append_singleton {pc : PC} {k x : Nat} (d : Datum) (h : pcFind pc x = none) (hk : Nat.beq k x = false) :
    pcFind (pc ++ [(k, d)]) x = none := by
  induction pc with
  | nil => simp [pcFind, hk]
  | cons e t ih =>
    obtain ⟨k', d'⟩ := e
    cases hk' : Nat.beq k' x <;> simp_all [pcFind]

/-- the entry the constant loop stores for a row (context.py:89-97) -/
def entryOf (doi : Nat) (r : ShippedRow) : Option (Nat × Datum) :=
  (Dec.parse (unpack r.2.2.2.1)).map fun d => (r.1, ⟨r.2.1, r.2.2.1, d, pack (uncPrefix ++ unpack r.2.2.2.2), some doi⟩)

def entriesOf (doi : Nat) : List ShippedRow → Option PC
  | [] => some []
  | r :: t => match entryOf doi r, entriesOf doi t with
    | some e, some es => some (e :: es)
    | _, _ => none

theorem loadRows_eq_entriesOf (doi : Nat) (rows : List ShippedRow) (pc : PC) (hd : (rows.map (·.1)).Nodup)
    (hf : ∀ r ∈ rows, pcFind pc r.1 = none) : loadRows doi rows pc = (entriesOf doi rows).map (pc ++ ·) := by
  induction rows generalizing pc with
  | nil => simp [loadRows, entriesOf]
  | cons r t ih =>
    obtain ⟨k, q, u, v, unc⟩ := r
    rw [List.map_cons, List.nodup_cons] at hd
    cases hp : Dec.parse (unpack v) with
    | none => simp [loadRows, entriesOf, entryOf, hp]
    | some d =>
      have hk := hf _ (List.mem_cons_self ..)
      simp only [loadRows, hp, pcSet_of_pcFind_none _ hk]
      rw [ih _ hd.2 fun r' hr' => pcFind_append_singleton _ (hf r' (List.mem_cons_of_mem _ hr'))
        (beq_false_of_not_mem hd.1 hr')]
      cases he : entriesOf doi t <;> simp [entriesOf, entryOf, hp, he]

theorem loadRows_nil_eq_entriesOf {doi : Nat} {rows : List ShippedRow} (hd : PT.Src.ascending (PT.Src.msort (rows.map (·.1))) = true) :
    loadRows doi rows [] = entriesOf doi rows := by
  rw [loadRows_eq_entriesOf doi rows [] (PT.Src.nodup_of_msort hd) (fun _ _ => rfl)]
  cases entriesOf doi rows <;> rfl

theorem keys_ascending_2014 : PT.Src.ascending (PT.Src.msort (Gen.Codata2014.shipped.map (·.1))) = true := by decide +kernel
theorem keys_ascending_2018 : PT.Src.ascending (PT.Src.msort (Gen.Codata2018.shipped.map (·.1))) = true := by decide +kernel

theorem loadRows_2014 : loadRows Gen.Codata2014.doi Gen.Codata2014.shipped [] = entriesOf Gen.Codata2014.doi Gen.Codata2014.shipped :=
  loadRows_nil_eq_entriesOf keys_ascending_2014

theorem loadRows_2018 : loadRows Gen.Codata2018.doi Gen.Codata2018.shipped [] = entriesOf Gen.Codata2018.doi Gen.Codata2018.shipped :=
  loadRows_nil_eq_entriesOf keys_ascending_2018

/-! Stages 2–5 write a handful of keys (`lateKeys`); under every other key the finished context holds what the constant loop
stored, and on a table without duplicate keys that is the row's own entry.  So what `get` returns for a published constant is known
without building the context. -/

theorem pcFind_pcSet_ne {pc : PC} {k x : Nat} (d : Datum) (h : k ≠ x) : pcFind (pcSet pc k d) x = pcFind pc x := by
  have hk : Nat.beq k x = false := Bool.eq_false_iff.2 fun e => h (Nat.eq_of_beq_eq_true e)
  induction pc with
  | nil => simp [pcSet, pcFind, hk]
  | cons e t ih =>
    obtain ⟨k', d'⟩ := e
    cases hk' : Nat.beq k' k
    · cases hx : Nat.beq k' x <;> simp [pcSet, pcFind, hk', hx, ih]
    · have : Nat.beq k' x = false := by rw [Nat.eq_of_beq_eq_true hk']; exact hk
      simp [pcSet, pcFind, hk', hk, this]

theorem pcFind_insertAliases {x : Nat} : ∀ (l : List (AliasDef × Dec)) (pc : PC),
    (∀ av ∈ l, pack (lower av.1.name) ≠ x) → pcFind (insertAliases l pc) x = pcFind pc x
  | [], _, _ => rfl
  | (a, v) :: t, pc, h => by
    rw [insertAliases, pcFind_insertAliases t _ fun av hav => h av (List.mem_cons_of_mem _ hav),
      pcFind_pcSet_ne _ (h (a, v) (List.mem_cons_self ..))]

theorem pcFind_addRenames {x : Nat} : ∀ (m : List (Bytes × Bytes)) (pc pc' : PC), addRenames m pc = some pc' →
    (∀ p ∈ m, pack (lower p.2) ≠ x) → pcFind pc' x = pcFind pc x
  | [], _, _, h, _ => by cases h; rfl
  | (new, old) :: t, pc, pc', h, hx => by
    rw [addRenames] at h
    cases hf : pcFind pc (pack (lower new)) with
    | none => simp [hf] at h
    | some dm =>
      simp only [hf] at h
      rw [pcFind_addRenames t _ _ h fun p hp => hx p (List.mem_cons_of_mem _ hp),
        pcFind_pcSet_ne _ (hx (new, old) (List.mem_cons_self ..))]

theorem evalAll_fst {pc : PC} {tbl : List AliasDef} : ∀ {l : List AliasDef} {r : List (AliasDef × Dec)},
    evalAll pc tbl l = some r → r.map (·.1) = l
  | [], _, h => by cases h; rfl
  | a :: t, r, h => by
    rw [evalAll] at h
    cases hv : a.expr.evalDec pc tbl evalFuel with
    | none => simp [hv] at h
    | some v =>
      cases ht : evalAll pc tbl t with
      | none => simp [hv, ht] at h
      | some r' =>
        simp only [hv, ht, Option.some.injEq] at h
        subst h; simp [evalAll_fst ht]

theorem pcFind_entriesOf {doi : Nat} : ∀ {rows : List ShippedRow} {pc : PC}, (rows.map (·.1)).Nodup →
    entriesOf doi rows = some pc → ∀ r ∈ rows, (entryOf doi r).map (·.2) = pcFind pc r.1
  | [], _, _, _, r, hr => by cases hr
  | r0 :: t, pc, hd, h, r, hr => by
    rw [List.map_cons, List.nodup_cons] at hd
    rw [entriesOf] at h
    cases he : entryOf doi r0 with
    | none => simp [he] at h
    | some e =>
      cases ht : entriesOf doi t with
      | none => simp [he, ht] at h
      | some es =>
        simp only [he, ht, Option.some.injEq] at h
        subst h
        have hk : e.1 = r0.1 := by
          simp only [entryOf, Option.map_eq_some_iff] at he
          obtain ⟨d, _, rfl⟩ := he; rfl
        obtain ⟨k, d⟩ := e
        simp only at hk; subst hk
        rcases List.mem_cons.1 hr with rfl | hr
        · simp [he, pcFind]
        · simp only [pcFind, beq_false_of_not_mem hd.1 hr]
          exact pcFind_entriesOf hd.2 ht r hr

/-- the keys that the stages after the constant loop write -/
def lateKeys (year : Nat) : List Nat :=
  pack b!"calorie-joule relationship" ::
    ((if year == 2018 then renameMap.map (fun p => pack (lower p.2)) ++ derived2018.map (fun a => pack (lower a.name)) else []) ++
      aliasSpec.map fun a => pack (lower a.name))

theorem pcFind_buildPC {year doi : Nat} {rows : List ShippedRow} {pc1 pc : PC} (h1 : loadRows doi rows [] = some pc1)
    (h : buildPC year doi rows = some pc) {x : Nat} (hx : x ∉ lateKeys year) : pcFind pc x = pcFind pc1 x := by
  simp only [lateKeys, List.mem_cons, List.mem_append, List.mem_map, not_or, not_exists, not_and] at hx
  obtain ⟨hcal, hlate, hal⟩ := hx
  have hcal' : pcFind (addCalorie pc1) x = pcFind pc1 x := pcFind_pcSet_ne _ (Ne.symm hcal)
  simp only [buildPC, h1, Option.bind_eq_bind, Option.bind_some] at h
  obtain ⟨pc4, h4, h⟩ := Option.bind_eq_some_iff.1 h
  obtain ⟨av, hav, h⟩ := Option.bind_eq_some_iff.1 h
  cases h
  have hnames {tbl l} {pc' : PC} {r : List (AliasDef × Dec)} (hr : evalAll pc' tbl l = some r)
      (hl : ∀ a ∈ l, ¬pack (lower a.name) = x) : ∀ v ∈ r, pack (lower v.1.name) ≠ x := fun v hv =>
    hl v.1 (evalAll_fst hr ▸ List.mem_map_of_mem hv)
  have h4' : pcFind pc4.1 x = pcFind pc1 x ∧ ∀ v ∈ pc4.2, pack (lower v.1.name) ≠ x := by
    split at h4
    · obtain ⟨pc3, h3, h4⟩ := Option.bind_eq_some_iff.1 h4
      obtain ⟨dv, hdv, h4⟩ := Option.bind_eq_some_iff.1 h4
      cases h4
      simp only [*, if_true, List.mem_append, List.mem_map, not_or, not_exists, not_and] at hlate
      exact ⟨(pcFind_addRenames _ _ _ h3 fun p hp e => hlate.1 p hp e).trans hcal',
        hnames hdv fun a ha e => hlate.2 a ha e⟩
    · cases h4; exact ⟨hcal', fun _ h => nomatch h⟩
  rw [pcFind_insertAliases _ _ fun v hv => (List.mem_append.1 hv).elim (h4'.2 v) (hnames hav hal v), h4'.1]

/-! Stage 6 likewise: when no two labels share a mangled name, `attrSet` never finds the name it is given, and the
attribute list is the entry list mapped. -/

/-- the attribute stage 6 sets for an entry -/
def attrOf (e : Nat × Datum) : Nat × Nat := (pack (mangle (unpack e.2.label)), e.2.data.toF64)

theorem attrSet_of_attrFind_none {acc : List (Nat × Nat)} {k : Nat} (v : Nat) (h : attrFind acc k = none) :
    attrSet acc k v = acc ++ [(k, v)] := by
  induction acc with
  | nil => rfl
  | cons e t ih =>
    obtain ⟨k', v'⟩ := e
    cases hk : Nat.beq k' k <;> simp_all [attrFind, attrSet]

theorem attrFind_append_singleton {acc : List (Nat × Nat)} {k x : Nat} (v : Nat) (h : attrFind acc x = none)
    (hk : Nat.beq k x = false) : attrFind (acc ++ [(k, v)]) x = none := by
  induction acc with
  | nil => simp [attrFind, hk]
  | cons e t ih =>
    obtain ⟨k', v'⟩ := e
    cases hk' : Nat.beq k' x <;> simp_all [attrFind]

theorem buildAttrs_eq_map (pc : PC) (acc : List (Nat × Nat)) (hd : (pc.map fun e => (attrOf e).1).Nodup)
    (hf : ∀ e ∈ pc, attrFind acc (attrOf e).1 = none) : buildAttrs pc acc = acc ++ pc.map attrOf := by
  induction pc generalizing acc with
  | nil => simp [buildAttrs]
  | cons e t ih =>
    obtain ⟨k, d⟩ := e
    rw [List.map_cons, List.nodup_cons] at hd
    have hk : attrFind acc (pack (mangle (unpack d.label))) = none := hf _ (List.mem_cons_self ..)
    rw [buildAttrs, attrSet_of_attrFind_none _ hk]
    show buildAttrs t (acc ++ [attrOf (k, d)]) = _
    rw [ih _ hd.2 fun e' he' => attrFind_append_singleton _ (hf e' (List.mem_cons_of_mem _ he'))
      (beq_false_of_not_mem hd.1 he')]
    simp

theorem attrFind_of_mem {l : List (Nat × Nat)} (hd : (l.map (·.1)).Nodup) {a : Nat × Nat} (ha : a ∈ l) :
    attrFind l a.1 = some a.2 := by
  induction l with
  | nil => cases ha
  | cons b t ih =>
    obtain ⟨k, v⟩ := b
    rw [List.map_cons, List.nodup_cons] at hd
    rcases List.mem_cons.1 ha with rfl | ha
    · simp [attrFind]
    · simp [attrFind, beq_false_of_not_mem hd.1 ha, ih hd.2 ha]

theorem operands_of_some {oa ob : Option Dec} {g : Dec → Dec → Option Dec} {v : Dec}
    (h : (match oa, ob with | some x, some y => g x y | _, _ => none) = some v) :
    ∃ x y, oa = some x ∧ ob = some y ∧ g x y = some v := by
  cases oa with
  | none => cases h
  | some x =>
    cases ob with
    | none => cases h
    | some y => exact ⟨x, y, rfl, rfl, h⟩

theorem evalDec_induct {pc : PC} {tbl : List AliasDef} {P : Nat → Expr → Dec → Prop}
    (hpc : ∀ f n d, pcFind pc (pack (lower n)) = some d → P (f + 1) (.pc n) d.data)
    (hlit : ∀ f t v, Dec.parse t = some v → P (f + 1) (.lit t) v)
    (halias : ∀ f n a v, findAlias tbl n = some a → P f a.expr v → P (f + 1) (.alias n) v)
    (hmul : ∀ f a b x y, P f a x → P f b y → P (f + 1) (.mul a b) (Dec.mul x y))
    (hdiv : ∀ f a b x y v, P f a x → P f b y → Dec.div x y = some v → P (f + 1) (.div a b) v) :
    ∀ f e v, e.evalDec pc tbl f = some v → P f e v := by
  intro f
  induction f with
  | zero => intro e v h; simp [Expr.evalDec] at h
  | succ f ih =>
    intro e v h
    cases e with
    | pc n =>
      simp only [Expr.evalDec, Option.map_eq_some_iff] at h
      obtain ⟨d, hd, rfl⟩ := h
      exact hpc f n d hd
    | lit t => exact hlit f t v h
    | «alias» n =>
      simp only [Expr.evalDec] at h
      cases hfa : findAlias tbl n with
      | none => simp [hfa] at h
      | some a => rw [hfa] at h; exact halias f n a v hfa (ih _ _ h)
    | mul a b =>
      obtain ⟨x, y, hx, hy, hv⟩ := operands_of_some (g := fun x y => some (Dec.mul x y)) h
      cases hv
      exact hmul f a b x y (ih a x hx) (ih b y hy)
    | div a b =>
      obtain ⟨x, y, hx, hy, hv⟩ := operands_of_some (g := Dec.div) h
      exact hdiv f a b x y v (ih a x hx) (ih b y hy) hv

end QcelVerif.Constants
