import QcelVerif.Model.Measure
import Mathlib.LinearAlgebra.Matrix.NonsingularInverse
import Mathlib.LinearAlgebra.Matrix.Notation
import Mathlib.Tactic.Ring
import Mathlib.Tactic.LinearCombination
import Mathlib.Tactic.Linarith
/-!
Helper lemmas for C18 (`dist_rigid_invariant` is audited as a property statement by `harness/c18.py`):
component lemmas, `R Rᵀ = I → Rᵀ R = I` (through Mathlib matrices),
preservation of dot / triple products by orthogonal maps, the general closed form of the
coded dihedral `(x, y)`, membership characterisation of the bond list.
-/
set_option linter.unusedSectionVars false
namespace QcelVerif.Measure
open V3

section ring
variable {K : Type} [CommRing K]

/-! ### components -/
@[simp] theorem V3.add_x (a b : V3 K) : (a + b).x = a.x + b.x := rfl
@[simp] theorem V3.add_y (a b : V3 K) : (a + b).y = a.y + b.y := rfl
@[simp] theorem V3.add_z (a b : V3 K) : (a + b).z = a.z + b.z := rfl
@[simp] theorem V3.sub_x (a b : V3 K) : (a - b).x = a.x - b.x := rfl
@[simp] theorem V3.sub_y (a b : V3 K) : (a - b).y = a.y - b.y := rfl
@[simp] theorem V3.sub_z (a b : V3 K) : (a - b).z = a.z - b.z := rfl
@[simp] theorem V3.neg_x (a : V3 K) : (-a).x = -a.x := rfl
@[simp] theorem V3.neg_y (a : V3 K) : (-a).y = -a.y := rfl
@[simp] theorem V3.neg_z (a : V3 K) : (-a).z = -a.z := rfl
@[simp] theorem V3.smul_x (c : K) (a : V3 K) : (c • a).x = c * a.x := rfl
@[simp] theorem V3.smul_y (c : K) (a : V3 K) : (c • a).y = c * a.y := rfl
@[simp] theorem V3.smul_z (c : K) (a : V3 K) : (c • a).z = c * a.z := rfl

/-- unfold every vector operation to components -/
macro "v3_unfold" : tactic =>
  `(tactic| simp only [V3.dot, V3.cross, V3.nsq, M3.mulVec, M3.det, M3.row1, M3.row2, M3.row3,
      Motion.apply, distSq, V3.add_x, V3.add_y, V3.add_z, V3.sub_x, V3.sub_y, V3.sub_z,
      V3.neg_x, V3.neg_y, V3.neg_z, V3.smul_x, V3.smul_y, V3.smul_z])

theorem mulVec_sub (R : M3 K) (a b : V3 K) : R.mulVec (a - b) = R.mulVec a - R.mulVec b := by
  ext <;> v3_unfold <;> ring

theorem mulVec_smul (R : M3 K) (c : K) (a : V3 K) : R.mulVec (c • a) = c • R.mulVec a := by
  ext <;> v3_unfold <;> ring

theorem apply_sub (T : Motion K) (p q : V3 K) : T.apply p - T.apply q = T.R.mulVec (p - q) := by
  ext <;> v3_unfold <;> ring

theorem dot_comm (a b : V3 K) : dot a b = dot b a := by v3_unfold; ring

theorem distSq_comm (p q : V3 K) : distSq p q = distSq q p := by v3_unfold; ring

/-- Lagrange's identity: `|a|²|b|² − (a·b)² = |a×b|²` -/
theorem lagrange (a b : V3 K) : nsq a * nsq b - dot a b * dot a b = nsq (cross a b) := by
  v3_unfold; ring

/-- the triple product picks up `det R` under ANY linear map -/
theorem triple_mulVec (R : M3 K) (a b c : V3 K) :
    dot (cross (R.mulVec a) (R.mulVec b)) (R.mulVec c) = R.det * dot (cross a b) c := by
  v3_unfold; ring

/-! ### `R Rᵀ = I → Rᵀ R = I` -/
def toMat (R : M3 K) : Matrix (Fin 3) (Fin 3) K :=
  !![R.a11, R.a12, R.a13; R.a21, R.a22, R.a23; R.a31, R.a32, R.a33]

theorem toMat_mul (A B : M3 K) : toMat (A.mul B) = toMat A * toMat B :=
  (Matrix.mul_fin_three ..).symm

theorem toMat_one : toMat (M3.one : M3 K) = 1 := Matrix.one_fin_three.symm

/-- the entries back in a record: a left inverse of `toMat` by unfolding alone -/
def ofMat (M : Matrix (Fin 3) (Fin 3) K) : M3 K :=
  ⟨M 0 0, M 0 1, M 0 2, M 1 0, M 1 1, M 1 2, M 2 0, M 2 1, M 2 2⟩

omit [CommRing K] in
theorem toMat_inj {A B : M3 K} (h : toMat A = toMat B) : A = B := congrArg ofMat h

theorem orth_cols {R : M3 K} (h : R.IsOrthogonal) : R.transpose.mul R = M3.one := by
  apply toMat_inj
  rw [toMat_mul, toMat_one]
  have := congrArg toMat h
  rw [toMat_mul, toMat_one] at this
  exact mul_eq_one_comm.mp this

/-- orthogonal maps preserve the dot product -/
theorem dot_mulVec {R : M3 K} (h : R.IsOrthogonal) (a b : V3 K) :
    dot (R.mulVec a) (R.mulVec b) = dot a b := by
  have hc := M3.ext_iff.mp (orth_cols h)
  simp only [M3.mul, M3.transpose, M3.one] at hc
  obtain ⟨h11, h12, h13, h21, h22, h23, h31, h32, h33⟩ := hc
  v3_unfold
  linear_combination (a.x * b.x) * h11 + (a.x * b.y) * h12 + (a.x * b.z) * h13
    + (a.y * b.x) * h21 + (a.y * b.y) * h22 + (a.y * b.z) * h23
    + (a.z * b.x) * h31 + (a.z * b.y) * h32 + (a.z * b.z) * h33

/-- squared distance is unchanged by `p ↦ R p + t`, `R Rᵀ = I` (rotation or reflection) -/
theorem dist_rigid_invariant (T : Motion K) (h : T.R.IsOrthogonal) (p q : V3 K) :
    distSq (T.apply p) (T.apply q) = distSq p q := by
  unfold distSq nsq
  rw [apply_sub, dot_mulVec h]

/-! ### dihedral arguments: ring identities -/

theorem dihedralArgs_reversal (p1 p2 p3 p4 : V3 K) :
    dihedralArgs p4 p3 p2 p1 = dihedralArgs p1 p2 p3 p4 := by
  unfold dihedralArgs
  refine Prod.ext ?_ (Prod.ext ?_ ?_) <;> v3_unfold <;> ring

/-- `(XN, Y)` are the IUPAC numerators `((b1×b2)·(b2×b3), b1·(b2×b3))` -/
theorem dihedralArgs_textbook (p1 p2 p3 p4 : V3 K) :
    (dihedralArgs p1 p2 p3 p4).1 = dot (cross (p2 - p1) (p3 - p2)) (cross (p3 - p2) (p4 - p3)) ∧
    (dihedralArgs p1 p2 p3 p4).2.1 = dot (p2 - p1) (cross (p3 - p2) (p4 - p3)) ∧
    (dihedralArgs p1 p2 p3 p4).2.2 = nsq (p3 - p2) := by
  unfold dihedralArgs
  refine ⟨?_, ?_, ?_⟩ <;> v3_unfold <;> ring

end ring

section field
variable {K : Type} [Field K]

/-- closed form of the coded recipe with ANY multiple `c` of `v̂2` removed from `v1` and ANY
non-zero `n` (no hypothesis `n² = N` yet): the only trace of `c` is multiplied by `N − n²`. -/
theorem dihedralXYGen_formula (c n : K) (hn : n ≠ 0) (p1 p2 p3 p4 : V3 K) :
    dihedralXYGen c n p1 p2 p3 p4 =
      (((n * n) * dot ((-1 : K) • (p2 - p1)) (p4 - p3)
          - dot (p4 - p3) (p3 - p2) * dot ((-1 : K) • (p2 - p1)) (p3 - p2)) / (n * n)
        + c * dot (p4 - p3) (p3 - p2) * (nsq (p3 - p2) - n * n) / (n * n * n),
       dot (cross (p3 - p2) ((-1 : K) • (p2 - p1))) (p4 - p3) / n) := by
  -- `t` stands for `1/n`: the first component differs from its closed form by a multiple of `n t - 1`
  have ht := mul_inv_cancel₀ hn
  unfold dihedralXYGen
  refine Prod.ext ?_ ?_ <;> v3_unfold <;> simp only [div_eq_mul_inv, mul_inv] <;> generalize n⁻¹ = t at ht ⊢
  · linear_combination (-(1 + n * t) * ((-1 * (p2.x - p1.x)) * (p4.x - p3.x) + (-1 * (p2.y - p1.y)) * (p4.y - p3.y)
      + (-1 * (p2.z - p1.z)) * (p4.z - p3.z)
      - c * t * ((p4.x - p3.x) * (p3.x - p2.x) + (p4.y - p3.y) * (p3.y - p2.y) + (p4.z - p3.z) * (p3.z - p2.z)))) * ht
  · ring

theorem dihedralXY_eq_gen (n : K) (p1 p2 p3 p4 : V3 K) :
    dihedralXY n p1 p2 p3 p4
      = dihedralXYGen (dot ((-1 : K) • (p2 - p1)) ((-1 : K) • (p2 - p1))) n p1 p2 p3 p4 := rfl

theorem dihedralXYTextbook_eq_gen (n : K) (p1 p2 p3 p4 : V3 K) :
    dihedralXYTextbook n p1 p2 p3 p4
      = dihedralXYGen (dot ((-1 : K) • (p2 - p1)) ((1 / n) • (p3 - p2))) n p1 p2 p3 p4 := rfl

/-- with `n² = N` the coefficient `c` disappears -/
theorem dihedralXYGen_eq_args (c n : K) (p1 p2 p3 p4 : V3 K)
    (hn : n * n = nsq (p3 - p2)) (h0 : n ≠ 0) :
    dihedralXYGen c n p1 p2 p3 p4 =
      ((dihedralArgs p1 p2 p3 p4).1 / (dihedralArgs p1 p2 p3 p4).2.2,
       (dihedralArgs p1 p2 p3 p4).2.1 / n) := by
  rw [dihedralXYGen_formula c n h0]
  unfold dihedralArgs
  simp only [← hn, sub_self, mul_zero, zero_div, add_zero]

/-- the coded `(x, y)` under any linear map that preserves dot products -/
theorem dihedralXY_motion {T : Motion K} (h : T.R.IsOrthogonal) (n : K) (p1 p2 p3 p4 : V3 K) :
    dihedralXY n (T.apply p1) (T.apply p2) (T.apply p3) (T.apply p4)
      = ((dihedralXY n p1 p2 p3 p4).1, T.R.det * (dihedralXY n p1 p2 p3 p4).2) := by
  unfold dihedralXY
  simp only [apply_sub, ← mulVec_smul, dot_mulVec h, ← mulVec_sub, triple_mulVec]

end field

section ordered
variable {K : Type} [Field K] [LinearOrder K] [IsStrictOrderedRing K]

theorem nsq_nonneg (a : V3 K) : 0 ≤ nsq a :=
  add_nonneg (add_nonneg (mul_self_nonneg a.x) (mul_self_nonneg a.y)) (mul_self_nonneg a.z)

theorem nsq_eq_zero {a : V3 K} (h : nsq a = 0) : a.x = 0 ∧ a.y = 0 ∧ a.z = 0 := by
  have h' : a.x * a.x + a.y * a.y + a.z * a.z = 0 := h
  have hx := mul_self_nonneg a.x; have hy := mul_self_nonneg a.y; have hz := mul_self_nonneg a.z
  exact ⟨mul_self_eq_zero.mp (le_antisymm (by linarith) hx), mul_self_eq_zero.mp (le_antisymm (by linarith) hy),
    mul_self_eq_zero.mp (le_antisymm (by linarith) hz)⟩

theorem nsq_sub_eq_zero {p q : V3 K} : nsq (p - q) = 0 ↔ p = q := by
  constructor
  · intro h
    obtain ⟨hx, hy, hz⟩ := nsq_eq_zero (a := p - q) h
    simp only [V3.sub_x, V3.sub_y, V3.sub_z, sub_eq_zero] at hx hy hz
    exact V3.ext hx hy hz
  · intro h
    subst h
    v3_unfold
    ring

/-- Cauchy–Schwarz in the form used by `compute_angle` -/
theorem cauchy_schwarz (a b : V3 K) : dot a b * dot a b ≤ nsq a * nsq b := by
  have := lagrange a b
  have := nsq_nonneg (cross a b)
  linarith

/-! ### the bond list -/

theorem bonded_iff (thr : K) (a b : Atom K) :
    bonded thr a b = true ↔
      0 < (a.r + b.r) * thr ∧ distSq a.p b.p < ((a.r + b.r) * thr) * ((a.r + b.r) * thr) := by
  simp [bonded]

theorem bonded_symm (thr : K) (a b : Atom K) : bonded thr a b = bonded thr b a := by
  unfold bonded
  rw [distSq_comm, add_comm]

theorem connRow_eq (thr : K) (x : Nat) (a : Atom K) : ∀ (l : List (Atom K)) (j0 : Nat),
    connRow thr x a j0 l = ((l.zipIdx j0).filter fun q => bonded thr a q.1).map fun q => (x, q.2)
  | [], _ => rfl
  | b :: rest, j0 => by
      rw [connRow, connRow_eq thr x a rest (j0 + 1), List.zipIdx_cons, List.filter_cons]
      split <;> rfl

theorem mem_connRow (thr : K) (x : Nat) (a : Atom K) (l : List (Atom K)) (j0 i j : Nat) :
    (i, j) ∈ connRow thr x a j0 l ↔ i = x ∧ ∃ b, (b, j) ∈ l.zipIdx j0 ∧ bonded thr a b = true := by
  simp only [connRow_eq, List.mem_map, List.mem_filter, Prod.exists, Prod.mk.injEq]
  constructor
  · rintro ⟨b, _, ⟨hm, hb⟩, rfl, rfl⟩
    exact ⟨rfl, b, hm, hb⟩
  · rintro ⟨rfl, b, hm, hb⟩
    exact ⟨b, j, ⟨hm, hb⟩, rfl, rfl⟩

theorem mem_connFrom (thr : K) : ∀ (l : List (Atom K)) (x0 i j : Nat),
    (i, j) ∈ connFrom thr x0 l ↔
      i < j ∧ ∃ a b, (a, i) ∈ l.zipIdx x0 ∧ (b, j) ∈ l.zipIdx x0 ∧ bonded thr a b = true
  | [], x0, i, j => by simp [connFrom]
  | a :: rest, x0, i, j => by
      simp only [connFrom, List.mem_append, mem_connRow, mem_connFrom thr rest (x0 + 1), List.zipIdx_cons,
        List.mem_cons, Prod.mk.injEq]
      constructor
      · rintro (⟨rfl, b, hm, hb⟩ | ⟨hij, a', b, ha, hm, hb⟩)
        · exact ⟨List.le_snd_of_mem_zipIdx hm, a, b, .inl ⟨rfl, rfl⟩, .inr hm, hb⟩
        · exact ⟨hij, a', b, .inr ha, .inr hm, hb⟩
      · rintro ⟨hij, a', b, (⟨rfl, rfl⟩ | ha), (⟨rfl, rfl⟩ | hm), hb⟩
        · omega
        · exact .inl ⟨rfl, b, hm, hb⟩
        · -- an atom of the tail is not numbered before the head
          have := List.le_snd_of_mem_zipIdx ha
          simp only at this
          omega
        · exact .inr ⟨hij, a', b, ha, hm, hb⟩

/-- strict lexicographic order on index pairs -/
def lexLt (p q : Nat × Nat) : Prop := p.1 < q.1 ∨ (p.1 = q.1 ∧ p.2 < q.2)

theorem pairwise_zipIdx {α : Type} : ∀ (l : List α) (k : Nat), (l.zipIdx k).Pairwise fun p q => p.2 < q.2
  | [], _ => List.Pairwise.nil
  | _ :: l, k => List.Pairwise.cons (fun _ h => List.le_snd_of_mem_zipIdx h) (pairwise_zipIdx l (k + 1))

theorem connRow_sorted (thr : K) (x : Nat) (a : Atom K) (l : List (Atom K)) (j0 : Nat) :
    (connRow thr x a j0 l).Pairwise lexLt := by
  rw [connRow_eq]
  exact ((pairwise_zipIdx l j0).filter _).map _ fun _ _ h => .inr ⟨rfl, h⟩

theorem connFrom_sorted (thr : K) : ∀ (l : List (Atom K)) (x0 : Nat),
    (connFrom thr x0 l).Pairwise lexLt
  | [], _ => by simp [connFrom]
  | a :: rest, x0 => by
      simp only [connFrom]
      rw [List.pairwise_append]
      refine ⟨connRow_sorted thr x0 a rest (x0 + 1), connFrom_sorted thr rest (x0 + 1), ?_⟩
      intro p hp q hq
      obtain ⟨pi, pj⟩ := p
      obtain ⟨qi, qj⟩ := q
      rw [mem_connRow] at hp
      rw [mem_connFrom] at hq
      obtain ⟨_, _, _, ha, _⟩ := hq
      have hqi := List.le_snd_of_mem_zipIdx ha
      left
      simp only
      omega

/-- move an atom by a motion (radius unchanged) -/
def Atom.move (T : Motion K) (a : Atom K) : Atom K := ⟨a.r, T.apply a.p⟩

theorem bonded_move {T : Motion K} (h : T.R.IsOrthogonal) (thr : K) (a b : Atom K) :
    bonded thr (a.move T) (b.move T) = bonded thr a b := by
  unfold bonded Atom.move
  simp only [dist_rigid_invariant _ h]

theorem connRow_move {T : Motion K} (h : T.R.IsOrthogonal) (thr : K) (x : Nat) (a : Atom K)
    (l : List (Atom K)) (j0 : Nat) :
    connRow thr x (a.move T) j0 (l.map (Atom.move T)) = connRow thr x a j0 l := by
  simp only [connRow_eq, List.zipIdx_map, List.filter_map, List.map_map, Function.comp_def, Prod.map,
    bonded_move h, id]

theorem connFrom_move {T : Motion K} (h : T.R.IsOrthogonal) (thr : K) :
    ∀ (l : List (Atom K)) (x0 : Nat),
      connFrom thr x0 (l.map (Atom.move T)) = connFrom thr x0 l
  | [], _ => by simp [connFrom]
  | a :: rest, x0 => by
      simp only [List.map_cons, connFrom, connRow_move h, connFrom_move h thr rest (x0 + 1)]

end ordered

end QcelVerif.Measure
