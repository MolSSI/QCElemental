import QcelVerif.Lemmas.Kabsch
import Mathlib.Analysis.Real.Sqrt
import Mathlib.Tactic.FieldSimp
/-!
# Surjectivity of unit quaternions onto SO(3)

Every proper rotation `R` (`R·Rᵀ = I`, `det R = +1`) over ℝ — more generally over every linearly ordered
field in which positive elements have square roots — is `quatRot q` for a unit quaternion `q`, where
`quatRot` is *exactly* the matrix the implementation writes at align.py:545-553 (`Model/Kabsch.lean`).
`Props/C12Full.lean` uses the surjectivity.

Why the proof has this shape (Shepperd's construction, with the four branches handled by one lemma):
from `(cof R)ᵀ·R = det R·I` a proper rotation is its own cofactor matrix, hence `Rᵀ·R = I` (`cof_eq_of_rot`,
`transpose_mul_of_rot` in `Lemmas/Kabsch.lean`);
`rot_facts` lists these three matrix equations entry by entry (21 quadratic equations).  `Nmat R` is the symmetric
4×4 matrix that equals `4·q qᵀ` when `R = quatRot q`, `|q|² = 1`;
`Nmat_rank1` shows its eighteen rank-one relations `N_ab·N_ac = N_aa·N_bc`, each a constant-coefficient combination of
the 21 equations.  `outer_of_column` scales any column `v` of `N` with `N_aa > 0` by `t = 1/(2√N_aa)` to a `q` with
`N = 4·q qᵀ` (`IsOuter N q`), and `quatRot_of_outer` reads `|q|² = 1` and `quatRot q = R` off those ten equations.
Since `tr (Nmat R) = 4`, some diagonal entry is positive (`quatRot_surjective_of_sqrt`).
-/
namespace QcelVerif.Kabsch
variable {K : Type}

section Ring
variable [CommRing K]

/-- the 21 quadratic relations satisfied by the entries of a proper rotation -/
structure RotFacts (R : M3 K) : Prop where
  r00 : R.a00 * R.a00 + R.a01 * R.a01 + R.a02 * R.a02 = 1
  r11 : R.a10 * R.a10 + R.a11 * R.a11 + R.a12 * R.a12 = 1
  r22 : R.a20 * R.a20 + R.a21 * R.a21 + R.a22 * R.a22 = 1
  r01 : R.a00 * R.a10 + R.a01 * R.a11 + R.a02 * R.a12 = 0
  r02 : R.a00 * R.a20 + R.a01 * R.a21 + R.a02 * R.a22 = 0
  r12 : R.a10 * R.a20 + R.a11 * R.a21 + R.a12 * R.a22 = 0
  c00 : R.a00 * R.a00 + R.a10 * R.a10 + R.a20 * R.a20 = 1
  c11 : R.a01 * R.a01 + R.a11 * R.a11 + R.a21 * R.a21 = 1
  c22 : R.a02 * R.a02 + R.a12 * R.a12 + R.a22 * R.a22 = 1
  c01 : R.a00 * R.a01 + R.a10 * R.a11 + R.a20 * R.a21 = 0
  c02 : R.a00 * R.a02 + R.a10 * R.a12 + R.a20 * R.a22 = 0
  c12 : R.a01 * R.a02 + R.a11 * R.a12 + R.a21 * R.a22 = 0
  k00 : R.a00 = R.a11 * R.a22 - R.a12 * R.a21
  k01 : R.a01 = R.a12 * R.a20 - R.a10 * R.a22
  k02 : R.a02 = R.a10 * R.a21 - R.a11 * R.a20
  k10 : R.a10 = R.a02 * R.a21 - R.a01 * R.a22
  k11 : R.a11 = R.a00 * R.a22 - R.a02 * R.a20
  k12 : R.a12 = R.a01 * R.a20 - R.a00 * R.a21
  k20 : R.a20 = R.a01 * R.a12 - R.a02 * R.a11
  k21 : R.a21 = R.a02 * R.a10 - R.a00 * R.a12
  k22 : R.a22 = R.a00 * R.a11 - R.a01 * R.a10

/-- all 21 relations, entry by entry: `R·Rᵀ = I`, `Rᵀ·R = I`, `R = cof R` -/
theorem rot_facts (R : M3 K) (ho : R.mul R.transpose = M3.one) (hd : R.det = 1) : RotFacts R := by
  have hc := transpose_mul_of_rot R ho hd
  have hk := (cof_eq_of_rot R ho hd).symm
  simp only [M3.ext_iff, M3.mul, M3.transpose, M3.one, M3.cof] at ho hc hk
  obtain ⟨r00, r01, r02, -, r11, r12, -, -, r22⟩ := ho
  obtain ⟨c00, c01, c02, -, c11, c12, -, -, c22⟩ := hc
  obtain ⟨k00, k01, k02, k10, k11, k12, k20, k21, k22⟩ := hk
  exact ⟨r00, r11, r22, r01, r02, r12, c00, c11, c22, c01, c02, c12, k00, k01, k02, k10, k11, k12, k20, k21, k22⟩

/-- the symmetric 4×4 matrix that equals `4·q qᵀ` when `R = quatRot q`, `|q|² = 1` (Shepperd's table) -/
def Nmat (R : M3 K) : S4 K where
  f00 := 1 + R.a00 + R.a11 + R.a22
  f11 := 1 + R.a00 - R.a11 - R.a22
  f22 := 1 - R.a00 + R.a11 - R.a22
  f33 := 1 - R.a00 - R.a11 + R.a22
  f01 := R.a21 - R.a12
  f02 := R.a02 - R.a20
  f03 := R.a10 - R.a01
  f12 := R.a01 + R.a10
  f13 := R.a02 + R.a20
  f23 := R.a12 + R.a21

/-- sanity: for `R = quatRot q` the table is `4·q qᵀ + (|q|²-1)`-corrections; with `|q|² = 1` exactly `4 q qᵀ` -/
theorem Nmat_quatRot (q : Q4 K) (h : q.nrm2 = 1) :
    Nmat (quatRot q) = ⟨4 * q.q0 ^ 2, 4 * (q.q0 * q.q1), 4 * (q.q0 * q.q2), 4 * (q.q0 * q.q3), 4 * q.q1 ^ 2,
      4 * (q.q1 * q.q2), 4 * (q.q1 * q.q3), 4 * q.q2 ^ 2, 4 * (q.q2 * q.q3), 4 * q.q3 ^ 2⟩ := by
  simp only [Q4.nrm2] at h
  ext <;> simp only [Nmat, quatRot]
  · linear_combination (-1 : K) * h
  · ring
  · ring
  · ring
  · linear_combination (-1 : K) * h
  · ring
  · ring
  · linear_combination (-1 : K) * h
  · ring
  · linear_combination (-1 : K) * h

/-- the eighteen rank-one relations `N_ab·N_ac = N_aa·N_bc` of a symmetric 4×4 matrix -/
structure Rank1 (N : S4 K) : Prop where
  s01 : N.f01 * N.f01 = N.f00 * N.f11
  s02 : N.f02 * N.f02 = N.f00 * N.f22
  s03 : N.f03 * N.f03 = N.f00 * N.f33
  s12 : N.f12 * N.f12 = N.f11 * N.f22
  s13 : N.f13 * N.f13 = N.f11 * N.f33
  s23 : N.f23 * N.f23 = N.f22 * N.f33
  t0_12 : N.f01 * N.f02 = N.f00 * N.f12
  t0_13 : N.f01 * N.f03 = N.f00 * N.f13
  t0_23 : N.f02 * N.f03 = N.f00 * N.f23
  t1_02 : N.f01 * N.f12 = N.f11 * N.f02
  t1_03 : N.f01 * N.f13 = N.f11 * N.f03
  t1_23 : N.f12 * N.f13 = N.f11 * N.f23
  t2_01 : N.f02 * N.f12 = N.f22 * N.f01
  t2_03 : N.f02 * N.f23 = N.f22 * N.f03
  t2_13 : N.f12 * N.f23 = N.f22 * N.f13
  t3_01 : N.f03 * N.f13 = N.f33 * N.f01
  t3_02 : N.f03 * N.f23 = N.f33 * N.f02
  t3_12 : N.f13 * N.f23 = N.f33 * N.f12

/-- `4·q_b·q_c = N_bc` for all ten entries: `N = 4·q qᵀ` -/
def IsOuter (N : S4 K) (q : Q4 K) : Prop :=
  4 * (q.q0 * q.q0) = N.f00 ∧ 4 * (q.q0 * q.q1) = N.f01 ∧ 4 * (q.q0 * q.q2) = N.f02
  ∧ 4 * (q.q0 * q.q3) = N.f03 ∧ 4 * (q.q1 * q.q1) = N.f11 ∧ 4 * (q.q1 * q.q2) = N.f12
  ∧ 4 * (q.q1 * q.q3) = N.f13 ∧ 4 * (q.q2 * q.q2) = N.f22 ∧ 4 * (q.q2 * q.q3) = N.f23
  ∧ 4 * (q.q3 * q.q3) = N.f33

/-- scaling a "column" `v` with `v_b·v_c = n·N_bc` by `t`, `4t²n = 1`, gives `q` with `N = 4 q qᵀ` -/
theorem outer_of_column (N : S4 K) (v : Q4 K) (n t : K) (ht : 4 * t ^ 2 * n = 1)
    (c00 : v.q0 * v.q0 = n * N.f00) (c01 : v.q0 * v.q1 = n * N.f01) (c02 : v.q0 * v.q2 = n * N.f02)
    (c03 : v.q0 * v.q3 = n * N.f03) (c11 : v.q1 * v.q1 = n * N.f11) (c12 : v.q1 * v.q2 = n * N.f12)
    (c13 : v.q1 * v.q3 = n * N.f13) (c22 : v.q2 * v.q2 = n * N.f22) (c23 : v.q2 * v.q3 = n * N.f23)
    (c33 : v.q3 * v.q3 = n * N.f33) :
    IsOuter N ⟨t * v.q0, t * v.q1, t * v.q2, t * v.q3⟩ := by
  refine ⟨?_, ?_, ?_, ?_, ?_, ?_, ?_, ?_, ?_, ?_⟩
  · linear_combination 4 * t ^ 2 * c00 + N.f00 * ht
  · linear_combination 4 * t ^ 2 * c01 + N.f01 * ht
  · linear_combination 4 * t ^ 2 * c02 + N.f02 * ht
  · linear_combination 4 * t ^ 2 * c03 + N.f03 * ht
  · linear_combination 4 * t ^ 2 * c11 + N.f11 * ht
  · linear_combination 4 * t ^ 2 * c12 + N.f12 * ht
  · linear_combination 4 * t ^ 2 * c13 + N.f13 * ht
  · linear_combination 4 * t ^ 2 * c22 + N.f22 * ht
  · linear_combination 4 * t ^ 2 * c23 + N.f23 * ht
  · linear_combination 4 * t ^ 2 * c33 + N.f33 * ht

/-- the four choices of column (Shepperd's four branches), once and for all for a rank-one `N` -/
theorem outer_col0 (N : S4 K) (h : Rank1 N) (t : K) (ht : 4 * t ^ 2 * N.f00 = 1) :
    IsOuter N ⟨t * N.f00, t * N.f01, t * N.f02, t * N.f03⟩ :=
  outer_of_column N ⟨N.f00, N.f01, N.f02, N.f03⟩ N.f00 t ht rfl rfl rfl rfl h.s01 h.t0_12 h.t0_13 h.s02
    h.t0_23 h.s03

theorem outer_col1 (N : S4 K) (h : Rank1 N) (t : K) (ht : 4 * t ^ 2 * N.f11 = 1) :
    IsOuter N ⟨t * N.f01, t * N.f11, t * N.f12, t * N.f13⟩ :=
  outer_of_column N ⟨N.f01, N.f11, N.f12, N.f13⟩ N.f11 t ht (by rw [h.s01]; ring) (by ring) h.t1_02 h.t1_03
    rfl rfl rfl h.s12 h.t1_23 h.s13

theorem outer_col2 (N : S4 K) (h : Rank1 N) (t : K) (ht : 4 * t ^ 2 * N.f22 = 1) :
    IsOuter N ⟨t * N.f02, t * N.f12, t * N.f22, t * N.f23⟩ :=
  outer_of_column N ⟨N.f02, N.f12, N.f22, N.f23⟩ N.f22 t ht (by rw [h.s02]; ring) h.t2_01 (by ring) h.t2_03
    (by rw [h.s12]; ring) (by ring) h.t2_13 rfl rfl h.s23

theorem outer_col3 (N : S4 K) (h : Rank1 N) (t : K) (ht : 4 * t ^ 2 * N.f33 = 1) :
    IsOuter N ⟨t * N.f03, t * N.f13, t * N.f23, t * N.f33⟩ :=
  outer_of_column N ⟨N.f03, N.f13, N.f23, N.f33⟩ N.f33 t ht (by rw [h.s03]; ring) h.t3_01 h.t3_02 (by ring)
    (by rw [h.s13]; ring) h.t3_12 (by ring) (by rw [h.s23]; ring) (by ring) rfl

/-- **the table of a proper rotation has rank one**: all eighteen relations, each a constant-coefficient
    combination of the 21 relations of `rot_facts` -/
theorem Nmat_rank1 (R : M3 K) (ho : R.mul R.transpose = M3.one) (hd : R.det = 1) : Rank1 (Nmat R) := by
  have F := rot_facts R ho hd
  constructor <;> simp only [Nmat]
  · linear_combination F.r11 + F.r22 - F.c00 - 2 * F.k00
  · linear_combination F.r00 + F.r22 - F.c11 - 2 * F.k11
  · linear_combination -F.r22 + F.c00 + F.c11 - 2 * F.k22
  · linear_combination -F.r22 + F.c00 + F.c11 + 2 * F.k22
  · linear_combination F.r00 + F.r22 - F.c11 + 2 * F.k11
  · linear_combination F.r11 + F.r22 - F.c00 + 2 * F.k00
  · linear_combination -F.r01 - F.c01 - F.k01 - F.k10
  · linear_combination -F.r02 - F.c02 - F.k02 - F.k20
  · linear_combination -F.r12 - F.c12 - F.k12 - F.k21
  · linear_combination F.r02 - F.c02 - F.k02 + F.k20
  · linear_combination -F.r01 + F.c01 + F.k01 - F.k10
  · linear_combination F.r12 + F.c12 - F.k12 - F.k21
  · linear_combination -F.r12 + F.c12 + F.k12 - F.k21
  · linear_combination F.r01 - F.c01 + F.k01 - F.k10
  · linear_combination F.r02 + F.c02 - F.k02 - F.k20
  · linear_combination F.r12 - F.c12 + F.k12 - F.k21
  · linear_combination -F.r02 + F.c02 - F.k02 + F.k20
  · linear_combination F.r01 + F.c01 - F.k01 - F.k10

end Ring

section Ordered
variable [Field K] [LinearOrder K] [IsStrictOrderedRing K]

/-- `N = 4 q qᵀ` for the table of `R` gives back `|q|² = 1` and `quatRot q = R` (nine entries) -/
theorem quatRot_of_outer (R : M3 K) (q : Q4 K) (h : IsOuter (Nmat R) q) : q.nrm2 = 1 ∧ quatRot q = R := by
  obtain ⟨h00, h01, h02, h03, h11, h12, h13, h22, h23, h33⟩ := h
  simp only [Nmat] at h00 h01 h02 h03 h11 h12 h13 h22 h23 h33
  refine ⟨?_, ?_⟩
  · simp only [Q4.nrm2]; linear_combination (h00 + h11 + h22 + h33) / 4
  · ext <;> simp only [quatRot]
    · linear_combination (h00 + h11 - h22 - h33) / 4
    · linear_combination (h12 - h03) / 2
    · linear_combination (h13 + h02) / 2
    · linear_combination (h12 + h03) / 2
    · linear_combination (h00 - h11 + h22 - h33) / 4
    · linear_combination (h23 - h01) / 2
    · linear_combination (h13 - h02) / 2
    · linear_combination (h23 + h01) / 2
    · linear_combination (h00 - h11 - h22 + h33) / 4

theorem exists_scale (hsqrt : ∀ x : K, 0 < x → ∃ s : K, s * s = x) (n : K) (hn : 0 < n) :
    ∃ t : K, 4 * t ^ 2 * n = 1 := by
  obtain ⟨s, hs⟩ := hsqrt n hn
  have hs0 : s ≠ 0 := by
    rintro rfl
    rw [mul_zero] at hs
    exact (ne_of_gt hn) hs.symm
  refine ⟨1 / (2 * s), ?_⟩
  rw [← hs]
  field_simp
  ring

/-- **surjectivity of unit quaternions onto the proper rotations**, over every linearly ordered field in
    which positive elements have square roots -/
theorem quatRot_surjective_of_sqrt (hsqrt : ∀ x : K, 0 < x → ∃ s : K, s * s = x) (R : M3 K)
    (ho : R.mul R.transpose = M3.one) (hd : R.det = 1) : ∃ q : Q4 K, q.nrm2 = 1 ∧ quatRot q = R := by
  have hr := Nmat_rank1 R ho hd
  have hsum : (Nmat R).f00 + (Nmat R).f11 + (Nmat R).f22 + (Nmat R).f33 = 4 := by
    simp only [Nmat]; ring
  by_cases h0 : 0 < (Nmat R).f00
  · obtain ⟨t, ht⟩ := exists_scale hsqrt _ h0
    exact ⟨_, quatRot_of_outer R _ (outer_col0 _ hr t ht)⟩
  by_cases h1 : 0 < (Nmat R).f11
  · obtain ⟨t, ht⟩ := exists_scale hsqrt _ h1
    exact ⟨_, quatRot_of_outer R _ (outer_col1 _ hr t ht)⟩
  by_cases h2 : 0 < (Nmat R).f22
  · obtain ⟨t, ht⟩ := exists_scale hsqrt _ h2
    exact ⟨_, quatRot_of_outer R _ (outer_col2 _ hr t ht)⟩
  by_cases h3 : 0 < (Nmat R).f33
  · obtain ⟨t, ht⟩ := exists_scale hsqrt _ h3
    exact ⟨_, quatRot_of_outer R _ (outer_col3 _ hr t ht)⟩
  exfalso
  have := not_lt.mp h0; have := not_lt.mp h1; have := not_lt.mp h2; have := not_lt.mp h3
  linarith

end Ordered

/-- **every proper rotation over ℝ is `quatRot q` for a unit quaternion `q`** -/
theorem quatRot_surjective (R : M3 ℝ) (ho : R.mul R.transpose = M3.one) (hd : R.det = 1) :
    ∃ q : Q4 ℝ, q.nrm2 = 1 ∧ quatRot q = R :=
  quatRot_surjective_of_sqrt (fun x hx => ⟨Real.sqrt x, Real.mul_self_sqrt hx.le⟩) R ho hd

end QcelVerif.Kabsch
