import QcelVerif.Model.Schema
import QcelVerif.Lib.ListLemmas
/-! Helper lemmas for C09 (a): association lists, monotonicity of the fuelled validator, the mutual list helpers
(`emitList`, `emitKvs`, `schemaOfList`) as `List.map`, keyword checks that hold when the keyword is absent, one
validation step at the schema shapes `schemaOf` produces (`validateStep_*`), rejection at every fuel (`Rejects`), and typing
of values and of a model instance from its entries (`ht_*`, `obj_hasType`). -/
namespace QcelVerif.Schema

theorem assoc_map {α β : Type} (key : α → String) (val : α → β) (k : String) :
    ∀ l : List α, assoc k (l.map fun a => (key a, val a)) = (l.find? (fun a => k = key a)).map val
  | [] => rfl
  | a :: t => by
    simp only [List.map_cons, assoc, List.find?_cons]
    by_cases h : k = key a
    · simp [h]
    · simp [h, assoc_map key val k t]

theorem assoc_defsOf (Δ : Env) (name : String) :
    assoc name (defsOf Δ) = (lookupDecl Δ name).map declSchema := by
  unfold defsOf lookupDecl
  exact assoc_map Decl.name declSchema name Δ

section mono
variable {rec rec' : Schema → Json → Bool} (hrec : ∀ s j, rec s j = true → rec' s j = true)
include hrec

theorem allZip_mono : ∀ (ts : List Schema) (xs : List Json),
    allZip rec ts xs = true → allZip rec' ts xs = true
  | [], _ => by intro _; simp [allZip]
  | _ :: _, [] => by intro _; simp [allZip]
  | t :: ts, x :: xs => by
    simp only [allZip, Bool.and_eq_true]
    exact fun ⟨h1, h2⟩ => ⟨hrec _ _ h1, allZip_mono ts xs h2⟩

theorem chkItems_mono (s : Schema) (j : Json) : chkItems rec s j = true → chkItems rec' s j = true := by
  unfold chkItems
  cases j <;> try exact id
  rename_i xs
  simp only [Bool.and_eq_true]
  rintro ⟨h1, h2⟩
  refine ⟨?_, ?_⟩
  · cases hi : s.items with
    | none => rfl
    | some it => rw [hi] at h1; exact all_mono xs (fun a => hrec it a) h1
  · cases ht : s.itemsTuple with
    | none => rfl
    | some ts => rw [ht] at h2; exact allZip_mono hrec ts xs h2

theorem chkProp_mono (s : Schema) (kv : String × Json) : chkProp rec s kv = true → chkProp rec' s kv = true := by
  unfold chkProp
  cases assoc kv.1 s.props with
  | some p => exact hrec p kv.2
  | none =>
    simp only [Bool.and_eq_true]
    rintro ⟨h1, h2⟩
    refine ⟨h1, ?_⟩
    cases ha : s.addlSchema with
    | none => rfl
    | some a => rw [ha] at h2; exact hrec a kv.2 h2

theorem chkProps_mono (s : Schema) (j : Json) : chkProps rec s j = true → chkProps rec' s j = true := by
  unfold chkProps
  cases j <;> try exact id
  rename_i kvs
  exact all_mono kvs (chkProp_mono hrec s)

theorem validateStep_mono (defs : List (String × Schema)) (s : Schema) (j : Json) :
    validateStep defs rec s j = true → validateStep defs rec' s j = true := by
  unfold validateStep
  cases s.ref with
  | some r =>
    dsimp only
    cases assoc r defs with
    | none => exact id
    | some d => exact hrec d j
  | none =>
    dsimp only
    simp only [Bool.and_eq_true, Bool.or_eq_true]
    rintro ⟨⟨⟨⟨h1, h2⟩, h3⟩, h4⟩, h5⟩
    refine ⟨⟨⟨⟨h1, ?_⟩, ?_⟩, chkItems_mono hrec s j h4⟩, chkProps_mono hrec s j h5⟩
    · exact all_mono _ (fun a => hrec a j) h2
    · cases h3 with
      | inl h => exact Or.inl h
      | inr h => exact Or.inr (any_mono _ (fun a => hrec a j) h)

end mono

theorem validate_succ (defs : List (String × Schema)) :
    ∀ (n : Nat) (s : Schema) (j : Json), validate defs n s j = true → validate defs (n + 1) s j = true
  | 0, _, _ => by intro h; simp [validate] at h
  | n + 1, s, j => by
    intro h
    show validateStep defs (validate defs (n + 1)) s j = true
    exact validateStep_mono (validate_succ defs n) defs s j h

/-- more fuel never turns an accepted instance into a rejected one -/
theorem validate_mono (defs : List (String × Schema)) {n m : Nat} (h : n ≤ m) (s : Schema) (j : Json) :
    validate defs n s j = true → validate defs m s j = true := by
  induction h with
  | refl => exact id
  | step _ ih => exact fun hv => validate_succ defs _ s j (ih hv)

/-! ### list forms of the mutual helper functions -/

theorem emitList_eq_map (Δ : Env) : ∀ xs : List Val, emitList Δ xs = xs.map (emit Δ)
  | [] => by simp [emitList]
  | x :: xs => by simp [emitList, emitList_eq_map Δ xs]

theorem emitList_map {α : Type} (Δ : Env) (c : α → Val) (l : List α) :
    emitList Δ (l.map c) = l.map fun a => emit Δ (c a) := by
  rw [emitList_eq_map, List.map_map]
  rfl

theorem emitKvs_eq_map (Δ : Env) : ∀ kvs : List (String × Val),
    emitKvs Δ kvs = kvs.map (fun kv => (kv.1, emit Δ kv.2))
  | [] => by simp [emitKvs]
  | (k, v) :: t => by simp [emitKvs, emitKvs_eq_map Δ t]

theorem emitFields_eq (Δ : Env) (m : String) : ∀ fs : List (String × Val),
    emitFields Δ m fs = (fs.filter fun kv => !dropped kv.2).map fun kv => (aliasOf Δ m kv.1, emit Δ kv.2)
  | [] => by simp [emitFields]
  | (k, v) :: t => by cases h : dropped v <;> simp [emitFields, h, emitFields_eq Δ m t]

theorem schemaOfList_eq_map : ∀ ts : List Ty, schemaOfList ts = ts.map schemaOf
  | [] => by simp [schemaOfList]
  | t :: ts => by simp [schemaOfList, schemaOfList_eq_map ts]

/-! ### keyword checks that are vacuous when the keyword is absent -/

theorem chkNum_absent (s : Schema) (j : Json) (h1 : s.minimum = none) (h2 : s.maximum = none)
    (h3 : s.multipleOf1 = false) : chkNum s j = true := by
  cases j <;> simp [chkNum, h1, h2, h3, optLe, optGe, optLeQ, optGeQ]

theorem chkArr_absent (s : Schema) (j : Json) (h1 : s.minItems = none) (h2 : s.maxItems = none)
    (h3 : s.uniqueItems = false) : chkArr s j = true := by
  cases j <;> simp [chkArr, h1, h2, h3, optMinLen, optMaxLen]

theorem chkRequired_absent (s : Schema) (j : Json) (h : s.required = []) : chkRequired s j = true := by
  cases j <;> simp [chkRequired, h]

theorem chkItems_absent (rec : Schema → Json → Bool) (s : Schema) (j : Json) (h1 : s.items = none)
    (h2 : s.itemsTuple = none) : chkItems rec s j = true := by
  cases j <;> simp [chkItems, h1, h2]

theorem chkProps_absent (rec : Schema → Json → Bool) (s : Schema) (j : Json) (h1 : s.props = [])
    (h2 : s.addlForbidden = false) (h3 : s.addlSchema = none) : chkProps rec s j = true := by
  cases j <;> simp [chkProps, chkProp, h1, h2, h3, assoc]

theorem chkPattern_absent (s : Schema) (j : Json) (h : s.pattern = none) : chkPattern s j = true := by
  simp [chkPattern, h]

theorem validateStep_empty (defs : List (String × Schema)) (rec : Schema → Json → Bool) (j : Json) :
    validateStep defs rec {} j = true := by
  simp [validateStep, chkType, chkEnum, chkPattern_absent, chkNum_absent, chkArr_absent,
    chkRequired_absent, chkItems_absent, chkProps_absent]

theorem validateStep_allOf1 (defs : List (String × Schema)) (rec : Schema → Json → Bool) (s : Schema) (j : Json)
    (h : rec s j = true) : validateStep defs rec { allOf := [s] } j = true := by
  simp [validateStep, chkType, chkEnum, chkPattern_absent, chkNum_absent, chkArr_absent,
    chkRequired_absent, chkItems_absent, chkProps_absent, h]

theorem validateStep_anyOf (defs : List (String × Schema)) (rec : Schema → Json → Bool) (ss : List Schema) (j : Json)
    (h : ss.any (fun a => rec a j) = true) : validateStep defs rec { anyOf := ss } j = true := by
  simp only [validateStep, chkType, chkEnum, chkPattern_absent, chkNum_absent, chkArr_absent,
    chkRequired_absent, chkItems_absent, chkProps_absent, h, List.all_nil, Bool.and_self, Bool.or_true]

theorem validateStep_ref (defs : List (String × Schema)) (rec : Schema → Json → Bool) (r : String) (d : Schema)
    (j : Json) (hd : assoc r defs = some d) (h : rec d j = true) :
    validateStep defs rec { ref := some r } j = true := by
  simp [validateStep, hd, h]

theorem beq_str_self (s : String) : Json.beq (.str s) (.str s) = true := by
  simp [Json.beq]

theorem enum_contains (vals : List String) (s : String) (h : vals.contains s = true) :
    (vals.map Json.str).any (Json.beq (.str s)) = true := by
  rw [List.any_eq_true]
  refine ⟨.str s, ?_, beq_str_self s⟩
  rw [List.mem_map]
  exact ⟨s, by simpa using h, rfl⟩

theorem validateStep_strEnum (defs : List (String × Schema)) (rec : Schema → Json → Bool)
    (vals : List String) (s : String) (h : vals.contains s = true) :
    validateStep defs rec { type := some .string, enum := some (vals.map Json.str) } (.str s) = true := by
  simp [validateStep, chkType, typeOk, chkEnum, enum_contains vals s h, chkPattern, chkNum, chkArr,
    chkRequired, chkItems, chkProps]

theorem validateStep_dt (defs : List (String × Schema)) (rec : Schema → Json → Bool) (Δ : Env)
    (dt : DT) (x : Val) (h : isDT dt x = true) : validateStep defs rec (dtSchema dt) (emit Δ x) = true := by
  cases dt <;> cases x <;> simp [isDT] at h <;>
    simp [dtSchema, emit, validateStep, chkType, typeOk, chkEnum, chkPattern, chkNum, chkArr,
      chkRequired, chkItems, chkProps, optLe, optGe, optLeQ, optGeQ]

/-- A reason why `validate` rejects whatever the fuel: the step fails by itself (`here`), or a `$ref` target, a property,
an additional property or an array item that is certainly visited is rejected in turn.  (Counter-examples are paths.) -/
inductive Rejects (defs : List (String × Schema)) : Schema → Json → Prop
  | here {s j} (h : ∀ rec, validateStep defs rec s j = false) : Rejects defs s j
  | ref {r d j} (hd : assoc r defs = some d) (h : Rejects defs d j) : Rejects defs { ref := some r } j
  | prop {s : Schema} {kvs k v p} (href : s.ref = none) (hmem : (k, v) ∈ kvs) (hp : assoc k s.props = some p)
      (h : Rejects defs p v) : Rejects defs s (.obj kvs)
  | addl {s : Schema} {kvs k v a} (href : s.ref = none) (hmem : (k, v) ∈ kvs) (hp : s.props = [])
      (ha : s.addlSchema = some a) (h : Rejects defs a v) : Rejects defs s (.obj kvs)
  | item {s : Schema} {xs x it} (href : s.ref = none) (hmem : x ∈ xs) (hi : s.items = some it)
      (h : Rejects defs it x) : Rejects defs s (.arr xs)

theorem Rejects.sound {defs s j} (h : Rejects defs s j) : ∀ k, validate defs k s j = false := by
  induction h with
  | here h => intro k; cases k with | zero => rfl | succ k => exact h _
  | ref hd _ ih => intro k; cases k with | zero => rfl | succ k => simp [validate, validateStep, hd, ih k]
  | @prop s kvs _ _ _ href hmem hp _ ih =>
    intro k; cases k with
    | zero => rfl
    | succ k =>
      have : chkProps (validate defs k) s (.obj kvs) = false :=
        List.all_eq_false.2 ⟨_, hmem, by simp [chkProp, hp, ih k]⟩
      simp [validate, validateStep, href, this]
  | @addl s kvs _ _ _ href hmem hp ha _ ih =>
    intro k; cases k with
    | zero => rfl
    | succ k =>
      have : chkProps (validate defs k) s (.obj kvs) = false :=
        List.all_eq_false.2 ⟨_, hmem, by simp [chkProp, hp, ha, ih k, assoc]⟩
      simp [validate, validateStep, href, this]
  | @item s xs _ it href hmem hi _ ih =>
    intro k; cases k with
    | zero => rfl
    | succ k =>
      have : chkItems (validate defs k) s (.arr xs) = false := by
        have : xs.all (validate defs k it) = false := List.all_eq_false.2 ⟨_, hmem, by simp [ih k]⟩
        simp [chkItems, hi, this]
      simp [validate, validateStep, href, this]

/-! ### typing: values; a model instance from its entries -/

section typing
variable {Δ : Env} {n : Nat}

theorem ht_any (v : Val) : hasType Δ (n + 1) v .any = true := by
  cases v <;> rfl
theorem ht_str (s : String) : hasType Δ (n + 1) (.str s) .str = true := rfl
theorem ht_strPat {p s : String} (h : matchPat p s = true) : hasType Δ (n + 1) (.str s) (.strPat p) = true := h
theorem ht_lit {vals : List String} {s : String} (h : vals.contains s = true) :
    hasType Δ (n + 1) (.str s) (.lit vals) = true := h
theorem ht_bool (b : Bool) : hasType Δ (n + 1) (.bool b) .bool = true := rfl
theorem ht_int (i : Int) : hasType Δ (n + 1) (.int i) (.int none) = true := rfl
theorem ht_nat (k : Nat) : hasType Δ (n + 1) (.int k) (.int (some 0)) = true := by
  show optLe (some 0) (k : Int) = true
  simp [optLe]
theorem ht_num (q : Rat) : hasType Δ (n + 1) (.num q) (.float none none) = true := rfl

theorem ht_enum {e nm : String} {vals : List String} {s : String} (hΔ : lookupDecl Δ e = some (.enum nm vals))
    (h : vals.contains s = true) : hasType Δ (n + 1) (.str s) (.enumRef e) = true := by
  show (match lookupDecl Δ e with
    | some (.enum _ vals) => vals.contains s
    | _ => false) = true
  rw [hΔ]
  exact h

/-- an ndarray of rank >= 1 whose entries are of the element type -/
theorem ht_arr {α : Type} {dt : DT} {shape : List Nat} {c : α → Val} (l : List α) (hs : shape ≠ [])
    (hc : ∀ a, isDT dt (c a) = true) : hasType Δ (n + 1) (.arr shape (l.map c)) (.array dt) = true := by
  show (!shape.isEmpty && (l.map c).all (isDT dt)) = true
  cases shape with
  | nil => exact absurd rfl hs
  | cons a t => simp [List.all_map, hc]

theorem optMinLen_one {α : Type} {l : List α} (h : l.isEmpty = false) : optMinLen (some 1) l.length = true := by
  cases l with
  | nil => simp at h
  | cons a t => simp [optMinLen]

theorem ht_list {α : Type} {t : Ty} {mn : Option Nat} {c : α → Val} (l : List α)
    (h1 : ∀ a ∈ l, hasType Δ n (c a) t = true) (h2 : optMinLen mn l.length = true) :
    hasType Δ (n + 1) (.list (l.map c)) (.list t mn false) = true := by
  show ((l.map c).all (fun x => hasType Δ n x t) && optMinLen mn (l.map c).length &&
    (!false || uniqueJ (emitList Δ (l.map c)))) = true
  simpa [List.all_map, h2] using h1

/-- the same under `uniqueItems`: the emitted elements are pairwise distinct -/
theorem ht_listU {α : Type} {t : Ty} {mn : Option Nat} {c : α → Val} (l : List α)
    (h1 : ∀ a ∈ l, hasType Δ n (c a) t = true) (h2 : optMinLen mn l.length = true)
    (h3 : uniqueJ (l.map fun a => emit Δ (c a)) = true) :
    hasType Δ (n + 1) (.list (l.map c)) (.list t mn true) = true := by
  show ((l.map c).all (fun x => hasType Δ n x t) && optMinLen mn (l.map c).length &&
    (!true || uniqueJ (emitList Δ (l.map c)))) = true
  rw [emitList_map]
  simpa [List.all_map, h2, h3] using h1

theorem ht_dict {t : Ty} {kvs : List (String × Val)} (h : ∀ kv ∈ kvs, hasType Δ n kv.2 t = true) :
    hasType Δ (n + 1) (.dict kvs) (.dict t) = true := by
  show kvs.all (fun kv => hasType Δ n kv.2 t) = true
  rw [List.all_eq_true]
  exact h

theorem ht_dictAny (kvs : List (String × Val)) : hasType Δ (n + 2) (.dict kvs) (.dict .any) = true :=
  ht_dict fun kv _ => ht_any kv.2

theorem ht_union {ts : List Ty} {v : Val} (t : Ty) (hmem : t ∈ ts) (h : hasType Δ n v t = true) :
    hasType Δ (n + 1) v (.union ts) = true := by
  have : ts.any (fun t => hasType Δ n v t) = true := List.any_eq_true.2 ⟨t, hmem, h⟩
  cases v <;> exact this

end typing

section entries
variable {fields : List Field}

theorem all_map_entries {α : Type} {P : String × Val → Bool} {g : α → String × Val} {l : List α}
    (h : ∀ e ∈ l, P (g e) = true) : (l.map g).all P = true := by
  rw [List.all_map, List.all_eq_true]
  exact h

/-- the required fields are found among entries `req` that are certainly there -/
theorem requiredOk_of_subset {fs : List (String × Val)} (req : List (String × Val)) (hsub : req ⊆ fs)
    (hreq : requiredOk fields req = true) : requiredOk fields fs = true := by
  unfold requiredOk at hreq ⊢
  rw [List.all_eq_true] at hreq ⊢
  intro f hf
  obtain ⟨kv, hkv, h⟩ := List.any_eq_true.1 (hreq f hf)
  exact List.any_eq_true.2 ⟨kv, hsub hkv, h⟩

theorem obj_hasType {Δ : Env} {n : Nat} {m nm : String} {extra : Bool} {fs : List (String × Val)}
    (hΔ : lookupDecl Δ m = some (.model nm fields extra))
    (hall : fs.all (fieldOk (hasType Δ n) fields extra) = true) (hreq : requiredOk fields fs = true) :
    hasType Δ (n + 1) (.obj m fs) (.model m) = true := by
  show ((m == m) && (match lookupDecl Δ m with
    | some (.model _ fields extra) => fs.all (fieldOk (hasType Δ n) fields extra) && requiredOk fields fs
    | _ => false)) = true
  rw [hΔ]
  simp [hall, hreq]

end entries

end QcelVerif.Schema
