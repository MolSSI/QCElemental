import QcelVerif.Lemmas.C07ReShapes
import QcelVerif.Lemmas.MolText
/-! SEP = `[\t ,]+` as a splitter: `re.split(SEP, s)` by the generic engine = the hand splitter `splitSep`, for every string.
From `Lemmas/MolText.lean`: `splitSep_exists`, `splitSep_tok_append`, `splitSep_sep`. -/
namespace QcelVerif.MolText
open QcelVerif.Regex QcelVerif.Gen

theorem sep_bt_nil (p : Option Nat) : sepPlus.bt some ⟨p, [], []⟩ = none := by
  rw [bt_eq_findSome, findSome?_some_eq_head?, sepPlus, ms_plus_head]
  rfl

/-- the state after the maximal separator run -/
def sepAfter (p : Option Nat) (s : Str) : St :=
  (⟨p, toBytes s, []⟩ : St).adv (toBytes (s.takeWhile isSep)) (toBytes (s.dropWhile isSep))

theorem sep_bt_cons (p : Option Nat) (c : Char) (t : Str) :
    sepPlus.bt some ⟨p, toBytes (c :: t), []⟩ = if isSep c then some (sepAfter p (c :: t)) else none := by
  rw [bt_eq_findSome, findSome?_some_eq_head?, sepPlus, ms_plus_head]
  simp only [takeWhile_toBytes _ isSep cls_sep, dropWhile_toBytes _ isSep cls_sep]
  by_cases hc : isSep c = true
  · simp only [hc, if_true, List.takeWhile_cons, toBytes_cons, List.isEmpty_cons, Bool.false_eq_true, if_false]
    simp only [sepAfter, List.takeWhile_cons, hc, if_true, toBytes_cons]
  · simp [hc]

theorem scan_sep : ∀ (s : Str) (fuel : Nat) (prev : Option Nat), s.length < fuel →
    ∃ y, scanFuel sepPlus fuel prev (toBytes s) = some y ∧ pieces y = (splitSep s).map toBytes
  | [], fuel, prev, hf => by
    obtain ⟨f, rfl⟩ : ∃ f, fuel = f + 1 := ⟨fuel - 1, by omega⟩
    exact ⟨([], []), scanFuel_nil _ _ _ (sep_bt_nil prev), by simp [pieces, splitSep]⟩
  | c :: t, fuel, prev, hf => by
    obtain ⟨f, rfl⟩ : ∃ f, fuel = f + 1 := ⟨fuel - 1, by omega⟩
    have hft : t.length < f := by simp at hf; omega
    by_cases hc : isSep c = true
    · have hbt := sep_bt_cons prev c t
      rw [if_pos hc] at hbt
      have hrest : (sepAfter prev (c :: t)).rest = toBytes (t.dropWhile isSep) := by
        simp [sepAfter, hc]
      have hlen : (t.dropWhile isSep).length ≤ t.length := (List.dropWhile_sublist _).length_le
      have hlt : (sepAfter prev (c :: t)).rest.length < (c.toNat :: toBytes t).length := by
        rw [hrest]; simp; omega
      obtain ⟨y, hsc, heq⟩ := scan_sep (t.dropWhile isSep) f (sepAfter prev (c :: t)).prev (by omega)
      have := scanFuel_hit sepPlus f prev c.toNat (toBytes t) _ hbt hlt
      rw [hrest, hsc] at this
      refine ⟨_, this, ?_⟩
      rw [splitSep_sep t c hc]
      simp only [pieces, List.map_cons, List.cons_append, toBytes_nil] at heq ⊢
      rw [heq]
    · have hbt := sep_bt_cons prev c t
      rw [if_neg hc] at hbt
      obtain ⟨y, hsc, heq⟩ := scan_sep t (f + 1) (some c.toNat) (by omega)
      have := scanFuel_skip sepPlus f prev c.toNat (toBytes t) hbt
      rw [hsc] at this
      obtain ⟨h, r, hs⟩ := splitSep_exists t
      rw [hs] at heq
      rw [show splitSep (c :: t) = (c :: h) :: r from splitSep_tok_append [c] t h r (by simpa using hc) hs]
      exact ⟨prep c.toNat y, this, pieces_prep c.toNat y _ _ heq⟩
termination_by s => s.length
decreasing_by
  all_goals simp_wf
  · omega

/-- **SEP**: `re.split(r"[\t ,]+", s)` computed by the generic engine on the generated AST is the hand splitter -/
theorem sep_eq_regex (s : Str) : splitSepRe s = splitSepHand s := by
  unfold splitSepRe splitSepHand
  rw [split_eq, scan, sep_shape]
  obtain ⟨y, hsc, heq⟩ := scan_sep s ((toBytes s).length + 1) none (by simp)
  rw [hsc]
  simp only [Option.map_some, heq, map_ofBytes_toBytes]

end QcelVerif.MolText
