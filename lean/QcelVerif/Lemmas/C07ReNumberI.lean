import QcelVerif.Lemmas.C07ReNumber
/-!
NUMBER as it appears inside the IGNORECASE patterns (atom_cartesian, atom_cartesian_strict, efpxyzabc): the translator folds
`[DdEe]` into `[D d d D E e e E]` — another AST, the same language.  Same extent as `numberBody_lang`.
-/
namespace QcelVerif.MolText
open QcelVerif.Regex QcelVerif.Gen

def expOptI : Re :=
  .rep 0 (some 1) true (.seq (.cls false [.ch 68, .ch 100, .ch 100, .ch 68, .ch 69, .ch 101, .ch 101, .ch 69]) (.seq signOpt digits1))
def numA1I : Re := .seq signOpt (.seq digits0 (.seq dot (.seq digits1 expOptI)))
def numA2I : Re := .seq signOpt (.seq digits1 (.seq dot (.seq digits0 expOptI)))
def numA3I : Re := .seq signOpt (.seq digits1 expOptI)
def numberBodyI : Re := .alt numA1I (.alt numA2I numA3I)

theorem cls_expI (c : Char) :
    clsMem false [.ch 68, .ch 100, .ch 100, .ch 68, .ch 69, .ch 101, .ch 101, .ch 69] c.toNat = isExpChar c := by
  rw [← cls_exp]
  simp only [clsMem, Item.mem, List.any_cons, List.any_nil, Bool.or_false]
  generalize (c.toNat == 68) = a
  generalize (c.toNat == 100) = b
  generalize (c.toNat == 69) = d
  generalize (c.toNat == 101) = e
  cases a <;> cases b <;> cases d <;> cases e <;> rfl

theorem ext_expOptI : Ext expOptI LExp := Ext.opt (Ext.seq (Ext.cls cls_expI) (Ext.seq ext_signOpt ext_digits1))
/-- extent of NUMBER under IGNORECASE: the same splits as without -/
theorem numberBodyI_lang : Ext numberBodyI (fun t => isNumber t = true) := number_lang ext_expOptI

end QcelVerif.MolText
