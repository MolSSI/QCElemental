import QcelVerif.Lib.InsertionSort
import QcelVerif.Lemmas.Float64
import Mathlib.Data.Prod.Lex
/-!
Lemmas for C11: round-half-even on rationals and `FlOk` (what is assumed of the rounding of the product inside
`np.around`), the total order on bonds (the insertion sort itself: `Lib/InsertionSort.lean`).
-/
namespace QcelVerif.Hash

/-! ### round half even -/

theorem rint_err (q : Rat) : |(rintHE q : Rat) - q| ≤ 1 / 2 := F64.roundHalfEven_err q

theorem rint_near (q : Rat) (n : Int) (h : |q - n| < 1 / 2) : rintHE q = n := by
  have : |((rintHE q - n : Int) : Rat)| < 1 := by
    push_cast
    calc |(rintHE q : Rat) - n| ≤ |(rintHE q : Rat) - q| + |q - n| := abs_sub_le _ _ _
      _ < 1 := by linarith [rint_err q]
  have := Int.abs_lt_one_iff.mp (by exact_mod_cast this)
  omega

/-- IEEE round-to-nearest for the product inside `np.around`: for `|y| ≤ 2^45` half an ulp is at most `2^-8`. -/
def FlOk (fl : Rat → Rat) : Prop := ∀ y : Rat, |y| ≤ 2 ^ 45 → |fl y - y| ≤ 1 / 256

theorem flOk_id : FlOk id := by
  intro y _; simp

theorem rint_fl_near {fl : Rat → Rat} (hfl : FlOk fl) (y : Rat) (n : Int) (hy : |y| ≤ 2 ^ 45)
    (h : |y - n| < 1/2 - 1/256) : rintHE (fl y) = n := by
  refine rint_near _ n ?_
  calc |fl y - n| ≤ |fl y - y| + |y - n| := abs_sub_le _ _ _
    _ < 1 / 2 := by linarith [hfl y hy]

theorem rint_fl_err {fl : Rat → Rat} (hfl : FlOk fl) (y : Rat) (hy : |y| ≤ 2 ^ 45) :
    |(rintHE (fl y) : Rat) - y| ≤ 1/2 + 1/256 :=
  (abs_sub_le _ (fl y) _).trans (add_le_add (rint_err _) (hfl y hy))

/-! ### the order on bonds -/

theorem bondLe_iff (x y : Bond) : bondLe x y = true ↔
    x.a < y.a ∨ (x.a = y.a ∧ (x.b < y.b ∨ (x.b = y.b ∧ x.order ≤ y.order))) := by
  simp [bondLe]

/-- a bond as the tuple Python compares, in the lexicographic order -/
def Bond.key (x : Bond) : ℕ ×ₗ ℕ ×ₗ ℚ := toLex (x.a, toLex (x.b, x.order))

theorem bondLe_iff_key (x y : Bond) : bondLe x y = true ↔ x.key ≤ y.key := by
  simp [bondLe_iff, Bond.key, Prod.Lex.toLex_le_toLex]

/-- Python's tuple order on bonds is total, transitive and antisymmetric: it is the lexicographic order of the keys,
a linear order, and the key determines the bond -/
theorem bondLe_total : TotalOrder bondLe where
  total x y := by simp only [bondLe_iff_key]; exact le_total _ _
  trans x y z := by simp only [bondLe_iff_key]; exact le_trans
  antisymm x y h1 h2 := by
    have := le_antisymm ((bondLe_iff_key x y).mp h1) ((bondLe_iff_key y x).mp h2)
    cases x; cases y
    simpa [Bond.key] using this

end QcelVerif.Hash
