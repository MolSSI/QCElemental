import QcelVerif.Model.Hash
import QcelVerif.Lemmas.Decimal
import QcelVerif.Lib.ListLemmas
/-!
Lemmas for C11: the `json.dumps` layout of `Model/Hash.lean` is uniquely decodable — tokens,
self-delimiting renderers (`SD`, `Atomic`), lists of them, and the atomic renderers of integers, booleans and symbols.
-/
namespace QcelVerif.Hash

/-- characters that can occur inside an atomic token (number, `true`/`false`, quoted symbol) -/
def tokCh (c : Char) : Bool := !(c == ',' || c == ']' || c == '[')

theorem tok_split {p : Char → Bool} {u u' s s' : List Char}
    (hu : ∀ c ∈ u, p c = true) (hu' : ∀ c ∈ u', p c = true)
    (hs : ∀ c ∈ s.head?, p c = false) (hs' : ∀ c ∈ s'.head?, p c = false)
    (h : u ++ s = u' ++ s') : u = u' ∧ s = s' := by
  have e : u = u' := by rw [← (span_append hu hs).1, h, (span_append hu' hs').1]
  subst e
  exact ⟨rfl, List.append_cancel_left h⟩

/-- the next character is `,` or `]` -/
def DelimHead (s : List Char) : Prop := ∃ r, s = ',' :: r ∨ s = ']' :: r

theorem delimHead_not_tok {s : List Char} (h : DelimHead s) : ∀ c ∈ s.head?, tokCh c = false := by
  obtain ⟨r, rfl | rfl⟩ := h <;> exact stop_cons (by decide) r

/-- `f` is self-delimiting inside a JSON list, on the elements satisfying `S` -/
structure SD {α} (S : α → Prop) (f : α → List Char) : Prop where
  split : ∀ a b s t, S a → S b → f a ++ s = f b ++ t → DelimHead s → DelimHead t → a = b ∧ s = t
  head : ∀ a, S a → ∃ c r, f a = c :: r ∧ c ≠ ']'

/-- an injective renderer into non-empty delimiter-free tokens -/
structure Atomic {α} (S : α → Prop) (f : α → List Char) : Prop where
  inj : ∀ a b, S a → S b → f a = f b → a = b
  tok : ∀ a, S a → ∀ c ∈ f a, tokCh c = true
  ne : ∀ a, S a → f a ≠ []

theorem Atomic.sd {α} {S : α → Prop} {f : α → List Char} (h : Atomic S f) : SD S f where
  split a b s t ha hb e hs ht := by
    obtain ⟨h1, h2⟩ := tok_split (h.tok a ha) (h.tok b hb) (delimHead_not_tok hs) (delimHead_not_tok ht) e
    exact ⟨h.inj a b ha hb h1, h2⟩
  head a ha := by
    cases hfa : f a with
    | nil => exact absurd hfa (h.ne a ha)
    | cons c r =>
      refine ⟨c, r, rfl, ?_⟩
      intro hc
      have := h.tok a ha c (by simp [hfa])
      subst hc
      exact absurd this (by decide)

theorem renderElems_inj {α} {S : α → Prop} {f : α → List Char} (hf : SD S f) :
    ∀ (xs ys : List α) (s t : List Char), (∀ x ∈ xs, S x) → (∀ y ∈ ys, S y) →
      renderElems f xs ++ s = renderElems f ys ++ t → xs = ys ∧ s = t
  | [], [], s, t, _, _, h => by simpa [renderElems] using h
  | [], b :: ys, s, t, _, hy, h => by
      obtain ⟨c, r, hc, hne⟩ := hf.head b (hy b (by simp))
      have : ']' = c := by cases ys <;> simpa [renderElems, hc] using congrArg List.head? h
      exact absurd this.symm hne
  | a :: xs, [], s, t, hx, _, h => by
      obtain ⟨c, r, hc, hne⟩ := hf.head a (hx a (by simp))
      have : c = ']' := by cases xs <;> simpa [renderElems, hc] using congrArg List.head? h
      exact absurd this hne
  | [a], [b], s, t, hx, hy, h => by
      simp only [renderElems, List.append_assoc, List.cons_append, List.nil_append] at h
      obtain ⟨rfl, h'⟩ := hf.split a b _ _ (hx a (by simp)) (hy b (by simp)) h ⟨_, Or.inr rfl⟩ ⟨_, Or.inr rfl⟩
      have : s = t := by simpa using h'
      simp [this]
  | [a], b :: b' :: ys, s, t, hx, hy, h => by
      simp only [renderElems, List.append_assoc, List.cons_append, List.nil_append] at h
      have := (hf.split a b _ _ (hx a (by simp)) (hy b (by simp)) h ⟨_, Or.inr rfl⟩ ⟨_, Or.inl rfl⟩).2
      simp at this
  | a :: a' :: xs, [b], s, t, hx, hy, h => by
      simp only [renderElems, List.append_assoc, List.cons_append, List.nil_append] at h
      have := (hf.split a b _ _ (hx a (by simp)) (hy b (by simp)) h ⟨_, Or.inl rfl⟩ ⟨_, Or.inr rfl⟩).2
      simp at this
  | a :: a' :: xs, b :: b' :: ys, s, t, hx, hy, h => by
      simp only [renderElems, List.append_assoc, List.cons_append] at h
      obtain ⟨rfl, h'⟩ := hf.split a b _ _ (hx a (by simp)) (hy b (by simp)) h ⟨_, Or.inl rfl⟩ ⟨_, Or.inl rfl⟩
      have h2 : renderElems f (a' :: xs) ++ s = renderElems f (b' :: ys) ++ t := by simpa using h'
      obtain ⟨h3, h4⟩ := renderElems_inj hf (a' :: xs) (b' :: ys) s t
        (fun x hx' => hx x (List.mem_cons_of_mem _ hx')) (fun y hy' => hy y (List.mem_cons_of_mem _ hy')) h2
      simp [h3, h4]

/-- `json.dumps(list)` is prefix-free: it can be cut off the front of any string in one way only -/
theorem renderList_inj {α} {S : α → Prop} {f : α → List Char} (hf : SD S f) (xs ys : List α) (s t : List Char)
    (hx : ∀ x ∈ xs, S x) (hy : ∀ y ∈ ys, S y)
    (h : renderList f xs ++ s = renderList f ys ++ t) : xs = ys ∧ s = t := by
  simp only [renderList, List.cons_append, List.cons.injEq, true_and] at h
  exact renderElems_inj hf xs ys s t hx hy h

/-- nested lists -/
theorem renderList_sd {α} {S : α → Prop} {f : α → List Char} (hf : SD S f) :
    SD (fun l : List α => ∀ x ∈ l, S x) (renderList f) where
  split a b s t ha hb e _ _ := renderList_inj hf a b s t ha hb e
  head a _ := ⟨'[', renderElems f a, rfl, by decide⟩

theorem renderElems_map {α β} (f : β → List Char) (g : α → β) : ∀ l : List α,
    renderElems f (l.map g) = renderElems (fun a => f (g a)) l
  | [] => rfl
  | [_] => rfl
  | a :: b :: t => by
    have ih := renderElems_map f g (b :: t)
    simp only [List.map_cons] at ih ⊢
    simp only [renderElems, ih]

theorem renderList_map {α β} (f : β → List Char) (g : α → β) (l : List α) :
    renderList f (l.map g) = renderList (fun a => f (g a)) l := by
  simp only [renderList, renderElems_map]

/-! ### the atomic renderers: integers, booleans, letter-only strings -/

theorem showNat_eq (n : Nat) : showNat n = Nat.toDigits 10 n := by
  have hd : ∀ d, d < 10 → digitChar d = Nat.digitChar d := by decide
  induction n using Nat.strongRecOn with
  | _ n ih =>
    rw [showNat, natDigitsRev, Nat.toDigits_eq_if (by decide)]
    split
    · rename_i h; rw [List.reverse_singleton, hd n h]
    · rw [List.reverse_cons, ← showNat, ih (n / 10) (by omega), hd _ (Nat.mod_lt _ (by decide))]

theorem showNat_inj {n m : Nat} (h : showNat n = showNat m) : n = m :=
  Decimal.toDigits_inj (by rwa [showNat_eq, showNat_eq] at h)

theorem showNat_digits (n : Nat) : ∀ c ∈ showNat n, c.isDigit = true := by
  rw [showNat_eq]; exact Decimal.toDigits_isDigit n

theorem showNat_ne_nil (n : Nat) : showNat n ≠ [] := by
  rw [showNat_eq]; exact Nat.toDigits_ne_nil

theorem isDigit_tokCh {c : Char} (h : c.isDigit = true) : tokCh c = true := by
  simp only [tokCh, Bool.not_eq_true', Bool.or_eq_false_iff, beq_eq_false_iff_ne, ne_eq]
  refine ⟨⟨?_, ?_⟩, ?_⟩ <;> (intro hc; subst hc; revert h; decide)

theorem isDigit_ne {c d : Char} (h : c.isDigit = true) (hd : d.isDigit = false) : c ≠ d := by
  rintro rfl; rw [h] at hd; cases hd

theorem showNat_ne_minus_cons (n : Nat) (r : List Char) : showNat n ≠ '-' :: r := by
  intro h
  exact isDigit_ne (showNat_digits n '-' (by simp [h])) (by decide) rfl

theorem showInt_inj : ∀ a b : Int, showInt a = showInt b → a = b
  | .ofNat n, .ofNat m, h => by simp only [showInt] at h; rw [showNat_inj h]
  | .negSucc n, .negSucc m, h => by
      simp only [showInt, List.cons.injEq, true_and] at h
      have := showNat_inj h
      have : n = m := by omega
      rw [this]
  | .ofNat n, .negSucc m, h => absurd h (showNat_ne_minus_cons n _)
  | .negSucc n, .ofNat m, h => absurd h.symm (showNat_ne_minus_cons m _)

theorem showInt_chars (a : Int) : ∀ c ∈ showInt a, c = '-' ∨ c.isDigit = true := by
  cases a with
  | ofNat n => exact fun c hc => Or.inr (showNat_digits n c hc)
  | negSucc n => exact fun c hc => (List.mem_cons.mp hc).imp_right (showNat_digits _ c)

theorem showInt_tok (a : Int) : ∀ c ∈ showInt a, tokCh c = true := by
  intro c hc
  rcases showInt_chars a c hc with rfl | h
  · decide
  · exact isDigit_tokCh h

theorem showInt_ne_nil (a : Int) : showInt a ≠ [] := by
  cases a <;> simp [showInt, showNat_ne_nil]

theorem showInt_atomic : Atomic (fun _ : Int => True) showInt :=
  ⟨fun a b _ _ h => showInt_inj a b h, fun a _ => showInt_tok a, fun a _ => showInt_ne_nil a⟩

theorem showNat_atomic : Atomic (fun _ : Nat => True) showNat :=
  ⟨fun _ _ _ _ h => showNat_inj h, fun a _ c hc => isDigit_tokCh (showNat_digits a c hc), fun a _ => showNat_ne_nil a⟩

theorem showBool_atomic : Atomic (fun _ : Bool => True) showBool where
  inj a b _ _ h := by cases a <;> cases b <;> simp_all [showBool]
  tok a _ := by cases a <;> decide
  ne a _ := by cases a <;> simp [showBool]

/-- letter-only symbols (every element symbol of a validated molecule) -/
def Letters (s : List Char) : Prop := ∀ c ∈ s, c.isAlpha = true

instance (s : List Char) : Decidable (Letters s) := inferInstanceAs (Decidable (∀ c ∈ s, c.isAlpha = true))

theorem isAlpha_tokCh {c : Char} (h : c.isAlpha = true) : tokCh c = true := by
  simp only [tokCh, Bool.not_eq_true', Bool.or_eq_false_iff, beq_eq_false_iff_ne, ne_eq]
  refine ⟨⟨?_, ?_⟩, ?_⟩ <;> (intro hc; subst hc; revert h; decide)

theorem showStr_atomic : Atomic Letters showStr where
  inj a b _ _ h := by
    simp only [showStr, List.cons.injEq, true_and] at h
    exact List.append_cancel_right h
  tok a ha c hc := by
    simp only [showStr, List.mem_cons, List.mem_append, List.not_mem_nil, or_false] at hc
    rcases hc with rfl | hc | rfl
    · decide
    · exact isAlpha_tokCh (ha c hc)
    · decide
  ne a _ := by simp [showStr]

end QcelVerif.Hash
