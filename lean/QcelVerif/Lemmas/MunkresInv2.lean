import QcelVerif.Lemmas.MunkresInv2.Basic
import QcelVerif.Lemmas.MunkresInv2.Step1
import QcelVerif.Lemmas.MunkresInv2.Step36
import QcelVerif.Lemmas.MunkresInv2.Step4
import QcelVerif.Lemmas.MunkresInv2.Step5
import QcelVerif.Lemmas.MunkresInv2.Cert
/-!
C14 — Munkres step invariants, assembled: every step of the state machine establishes the
invariant of the step it hands over to (`doStep_inv`), hence a run that finishes, on whatever fuel,
ends in a state whose stars are a complete independent set of zeros of a non-negative
`C = cost − u − v` (`runSteps_final`), and such a state reads out as a certificate
(`final_wideOK`).  Termination within the fuel is the hypothesis `= .ok …` here; it is proved in
`Lemmas/MunkresTerm.lean` (`solveWide_total`) and `Props/C14Term.lean` (`solve_total`).
-/
namespace QcelVerif.Munkres
open QcelVerif.Assign

/-- the state in which `_step3` reports "done": the base invariant, and a star in every row -/
structure Final (n m : Nat) (cost : Nat → Nat → Rat) (s : State) : Prop where
  base : Base n m cost s
  full : ∀ i, i < n → ∃ j, Star s.marked i j

/-- what holds after a step, depending on where it hands over to -/
def Post (n m : Nat) (cost : Nat → Nat → Rat) : Option Step → State → Prop
  | some st => InvAt n m cost st
  | none => Final n m cost

/-- **One step.**  Each of `_step1`, `_step3`, `_step4`, `_step5`, `_step6`, started in a state that
satisfies its invariant, ends (if it ends) in a state satisfying the invariant of its successor. -/
theorem doStep_inv {n m : Nat} {cost : Nat → Nat → Rat} {st : Step} {s s' : State} {nx : Option Step}
    (h : doStep st s = .ok (s', nx)) (hi : InvAt n m cost st s) : Post n m cost nx s' := by
  cases st <;> simp only [doStep, Except.ok.injEq, Prod.ext_iff] at h
  · obtain ⟨rfl, rfl⟩ := h
    exact step1_inv hi
  · obtain ⟨rfl, rfl⟩ := h
    have hL := step3_inv hi
    rcases step3_next s with h4 | hd
    · rw [h4]; exact hL
    · rw [hd]
      exact ⟨hL.base, fun i hlt => step3_done hi hd i hlt⟩
  · rcases step4_inv h hi with ⟨rfl, hL⟩ | ⟨rfl, h5⟩
    · exact hL
    · exact h5
  · obtain ⟨rfl, h3⟩ := step5_inv h hi
    exact h3
  · obtain ⟨rfl, rfl⟩ := h
    rw [step6_next]
    exact step6_inv hi

/-- **Induction over a run.**  A predicate on (next step, state) that every step preserves holds of the
final state of a finished run (on any fuel) and of every state the run appends to the trace. -/
theorem runSteps_ind {P : Option Step → State → Prop}
    (hstep : ∀ st s s' nx, doStep st s = .ok (s', nx) → P (some st) s → P nx s') :
    ∀ (f : Nat) (st : Step) (s : State) (tr : Array (Step × State)) (s' : State) (tr' : Array (Step × State)),
    runSteps f st s tr = .ok (s', tr') → P (some st) s →
    P none s' ∧ ∀ p ∈ tr', p ∈ tr ∨ ∃ nx, P nx p.2
  | 0, _, _, _, _, _, h, _ => by simp [runSteps] at h
  | f + 1, st, s, tr, s', tr', h, hp => by
    unfold runSteps at h
    split at h
    · simp at h
    · rename_i s1 nx hd
      have hp1 := hstep st s s1 nx hd hp
      have hpush : ∀ p ∈ tr.push (st, s1), p ∈ tr ∨ ∃ nx, P nx p.2 := by
        intro p hp
        rcases Array.mem_push.1 hp with hp | rfl
        · exact Or.inl hp
        · exact Or.inr ⟨nx, hp1⟩
      simp only at h
      split at h
      · simp only [Except.ok.injEq, Prod.mk.injEq] at h
        rw [← h.1, ← h.2]
        exact ⟨hp1, hpush⟩
      · obtain ⟨hfin, htr⟩ := runSteps_ind hstep f _ _ _ _ _ h hp1
        exact ⟨hfin, fun p hp => (htr p hp).elim (hpush p) Or.inr⟩

/-- **Any number of steps.**  A run of the state machine that finishes (`= .ok`, on any fuel) from a
state satisfying the invariant of its first step ends in a `Final` state. -/
theorem runSteps_final {n m : Nat} {cost : Nat → Nat → Rat} (f : Nat) (st : Step) (s : State)
    (tr : Array (Step × State)) (s' : State) (tr' : Array (Step × State))
    (h : runSteps f st s tr = .ok (s', tr')) (hi : InvAt n m cost st s) : Final n m cost s' :=
  (runSteps_ind (P := Post n m cost) (fun _ _ _ _ => doStep_inv) f st s tr s' tr' h hi).1

theorem initState_unmarked (n m : Nat) (costM : Mat Rat) (i j : Nat) :
    get2 (initState n m costM).marked i j = 0 := by
  unfold initState get2
  by_cases hi : i < n
  · by_cases hj : j < m
    · simp [Array.getD_eq_getD_getElem?, hi, hj]
    · simp [Array.getD_eq_getD_getElem?, hi, hj]
  · simp [Array.getD_eq_getD_getElem?, hi]

/-- the freshly built state satisfies the invariant of step 1 -/
theorem initState_inv1 {n m : Nat} {costM : Mat Rat} {cost : Nat → Nat → Rat} (h : Stores n m costM cost) :
    Inv1 n m cost (initState n m costM) := by
  refine ⟨⟨h.size, h.row, Array.size_replicate, ?_, Array.size_replicate, Array.size_replicate⟩, h.get,
    initState_unmarked n m costM, fun _ hi => getD_replicate_true hi, fun _ hj => getD_replicate_true hj⟩
  intro i hi
  simp [initState, Array.getD_eq_getD_getElem?, hi]

/-- `solveWide` on a problem with an empty axis returns the fresh state; otherwise it is the state machine -/
theorem solveWide_cases {n m : Nat} {costM : Mat Rat} {s : State} {tr : Array (Step × State)}
    (h : solveWide n m costM = .ok (s, tr)) :
    ((n = 0 ∨ m = 0) ∧ s = initState n m costM ∧ tr = #[])
    ∨ (0 < n ∧ 0 < m ∧ runSteps (stepFuel n m) .s1 (initState n m costM) #[] = .ok (s, tr)) := by
  unfold solveWide at h
  simp only at h
  split at h
  · rename_i h0
    simp only [Except.ok.injEq, Prod.mk.injEq] at h
    exact Or.inl ⟨by simpa using h0, h.1.symm, h.2.symm⟩
  · rename_i h0
    exact Or.inr ⟨by simp at h0; omega, by simp at h0; omega, h⟩

/-- **A finished run of the solver on a non-empty wide matrix ends in a `Final` state.** -/
theorem solveWide_final {n m : Nat} {costM : Mat Rat} {cost : Nat → Nat → Rat} (hM : Stores n m costM cost)
    (hn : 0 < n) (hm : 0 < m) {s : State} {tr : Array (Step × State)}
    (h : solveWide n m costM = .ok (s, tr)) : Final n m cost s := by
  rcases solveWide_cases h with ⟨h0, _⟩ | ⟨_, _, hrun⟩
  · omega
  · exact runSteps_final _ _ _ _ _ _ hrun (initState_inv1 hM)

/-- with an empty axis nothing runs and nothing is starred -/
theorem solveWide_empty {n m : Nat} {costM : Mat Rat} (h0 : n = 0 ∨ m = 0)
    {s : State} {tr : Array (Step × State)} (h : solveWide n m costM = .ok (s, tr)) :
    ∀ i j, get2 s.marked i j = 0 := by
  rcases solveWide_cases h with ⟨_, rfl, _⟩ | ⟨_, _, _⟩
  · exact initState_unmarked n m costM
  · omega

theorem starPairs_nodup (M : Mat Nat) : (starPairs M).Nodup := by
  refine (starPairs_sorted M).imp ?_
  intro p q h e
  subst e
  rcases h with h | ⟨_, h⟩ <;> exact Nat.lt_irrefl _ h

/-- **Read-out of a `Final` state is a certificate** (wide orientation, `0 < n ≤ m`):
stated for the read-out of `step3` as `step3_done_cert` in `Props/C14Inv.lean` — `red` is any function that agrees with `C` on the matrix. -/
theorem final_wideOK {n m : Nat} (hn : 0 < n) (hnm : n ≤ m) {cost : Nat → Nat → Rat} {s : State}
    (hf : Final n m cost s) (red : Nat → Nat → Rat)
    (hred : ∀ i, i < n → ∀ j, j < m → red i j = get2 s.C i j) :
    wideOK n m cost red (starPairs s.marked) = true
    ∧ incB ((starPairs s.marked).map Prod.fst) = true :=
  ⟨wideOK_of_stars' hn hnm hf.base hf.full red hred _ (fun p => starPairs_mem s.marked p) (starPairs_nodup _),
   starPairs_incB s.marked hf.base.starRow⟩

/-! ### the only errors of the state machine are the two resource errors -/

theorem pathSet_err {path : Array (Nat × Int)} {k : Nat} {v : Nat × Int} {e : Err}
    (h : pathSet path k v = .error e) : e = .index := by
  unfold pathSet at h
  split at h
  · cases h
  · cases h
    rfl

theorem step5Loop_err (M : Mat Nat) (m : Nat) : ∀ (f count : Nat) (path : Array (Nat × Int)) (e : Err),
    step5Loop M m f count path = .error e → e = .fuel ∨ e = .index
  | 0, _, _, e, h => by
    simp only [step5Loop, Except.error.injEq] at h
    exact Or.inl h.symm
  | f + 1, count, path, e, h => by
    unfold step5Loop at h
    simp only [bind, Except.bind] at h
    split at h
    · cases h
    · split at h
      · rename_i e' he'
        cases h
        exact Or.inr (pathSet_err he')
      · split at h
        · rename_i e' he'
          cases h
          exact Or.inr (pathSet_err he')
        · exact step5Loop_err M m f _ _ e h

theorem doStep_err (st : Step) (s : State) (e : Err) (h : doStep st s = .error e) :
    e = .fuel ∨ e = .index := by
  cases st <;> simp only [doStep] at h
  · cases h
  · cases h
  · exact Or.inl (step4Loop_res _ _ _ _ _ h)
  · rw [step5_eq] at h
    split at h
    · rename_i e' he'
      cases h
      exact Or.inr (pathSet_err he')
    · split at h
      · rename_i e' he'
        cases h
        exact step5Loop_err _ _ _ _ _ e he'
      · cases h
  · cases h

theorem runSteps_err : ∀ (f : Nat) (st : Step) (s : State) (tr : Array (Step × State)) (e : Err),
    runSteps f st s tr = .error e → e = .fuel ∨ e = .index
  | 0, _, _, _, e, h => by
    simp only [runSteps, Except.error.injEq] at h
    exact Or.inl h.symm
  | f + 1, st, s, tr, e, h => by
    unfold runSteps at h
    split at h
    · rename_i e' he'
      simp only [Except.error.injEq] at h
      exact h ▸ doStep_err st s e' he'
    · simp only at h
      split at h
      · simp at h
      · exact runSteps_err f _ _ _ e h

theorem solveWide_err (n m : Nat) (costM : Mat Rat) (e : Err) (h : solveWide n m costM = .error e) :
    e = .fuel ∨ e = .index := by
  unfold solveWide at h
  simp only at h
  split at h
  · simp at h
  · exact runSteps_err _ _ _ _ e h

end QcelVerif.Munkres
