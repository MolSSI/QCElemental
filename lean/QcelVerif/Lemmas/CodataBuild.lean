import QcelVerif.Model.CodataBuild
/-!
What the two table comparisons of `Model/CodataBuild.lean` compute, in the form in which the kernel evaluates them.
-/
namespace QcelVerif.Codata
open QcelVerif.PStr

/-- the two lists have the same length and `p` holds of every pair of rows in the same position -/
def all2 {α β : Type} (p : α → β → Bool) : List α → List β → Bool
  | a :: as, b :: bs => p a b && all2 p as bs
  | [], [] => true
  | _, _ => false

theorem all2_eq_zip {α β : Type} (p : α → β → Bool) (as : List α) (bs : List β) :
    all2 p as bs = (as.length == bs.length && (as.zip bs).all (fun x => p x.1 x.2)) := by
  induction as generalizing bs with
  | nil => cases bs <;> simp [all2]
  | cons a as ih => cases bs <;> simp [all2, ih, Bool.and_left_comm]

theorem all2_left {α β : Type} {p : α → β → Bool} : ∀ {as : List α} {bs : List β}, all2 p as bs = true →
    ∀ a ∈ as, ∃ b, p a b = true
  | a :: as, b :: bs, h, x, hx => by
    simp only [all2, Bool.and_eq_true] at h
    rcases List.mem_cons.1 hx with rfl | hx
    · exact ⟨b, h.1⟩
    · exact all2_left h.2 x hx
  | [], _, _, _, hx => by cases hx
  | _ :: _, [], h, _, _ => by cases h

theorem tableMatchesJson_eq_all2 (ss : List ShippedRow) (rs : List RawRow) :
    tableMatchesJson ss rs = all2 rowMatchesJson ss rs := by
  induction ss generalizing rs with
  | nil => cases rs <;> rfl
  | cons s ss ih =>
    cases rs with
    | nil => rfl
    | cons r rs => cases h : rowMatchesJson s r <;> simp [tableMatchesJson, all2, h, ih]

/-- blank lines of the raw table are skipped; what is left matches the shipped table row for row -/
theorem tableMatchesTxt_eq_all2 (ss : List ShippedRow) (rs : List RawRow) :
    tableMatchesTxt ss rs = all2 rowMatchesTxt ss (rs.filter (fun r => !isBlankRow r)) := by
  induction rs generalizing ss with
  | nil => cases ss <;> rfl
  | cons r rs ih =>
    cases hb : isBlankRow r
    · cases ss with
      | nil => simp [tableMatchesTxt, all2, hb]
      | cons s ss => cases h : rowMatchesTxt s r <;> simp [tableMatchesTxt, all2, hb, h, ih]
    · simp [tableMatchesTxt, hb, ih]

/-! The row predicates on one pair `x = (shipped row, raw row)`, fields by projection.  Evaluated over the zipped
tables this is some thirty times cheaper for the kernel than `tableMatchesTxt` itself: the kernel caches every
reduction under a hash that sees only the low-order bits of a numeral, and the blank-padded columns of the raw table all
end alike, so that terms over a raw column alone collide across rows and the cost grows with the square of the table.
A term over `x` carries the whole pair, shipped name included, and is hashed apart. -/

def pairTxt (x : ShippedRow × RawRow) : Bool :=
  Nat.beq x.1.1 (pack (lower (unpack x.1.2.1))) &&
  colIs 60 x.1.2.1 x.2.1 &&
  colIs 25 x.1.2.2.2.2 x.2.2.2.1 &&
  Nat.beq x.1.2.2.2.1 (pack (normValue (unpack x.2.2.1) (Nat.beq x.1.2.2.2.2 packedExact))) &&
  (Dec.parse (unpack x.1.2.2.2.1)).isSome &&
  unitCore (unpack x.1.2.2.1) == unitCore (strip (unpack x.2.2.2.2))

def pairJson (x : ShippedRow × RawRow) : Bool :=
  Nat.beq x.1.1 (pack (lower (unpack x.1.2.1))) &&
  Nat.beq x.1.2.1 x.2.1 && Nat.beq x.1.2.2.2.2 x.2.2.2.1 && Nat.beq x.1.2.2.1 x.2.2.2.2 &&
  Nat.beq x.1.2.2.2.1 (pack (normValue (unpack x.2.2.1) (Nat.beq x.2.2.2.1 packedExact)))

theorem rowMatchesTxt_eq_pairTxt : (fun x : ShippedRow × RawRow => rowMatchesTxt x.1 x.2) = pairTxt := by
  funext ⟨⟨_, _, _, _, _⟩, _, _, _, _⟩; rfl

theorem rowMatchesJson_eq_pairJson : (fun x : ShippedRow × RawRow => rowMatchesJson x.1 x.2) = pairJson := by
  funext ⟨⟨_, _, _, _, _⟩, _, _, _, _⟩; rfl

theorem tableMatchesTxt_of_pairs {ss : List ShippedRow} {rs : List RawRow}
    (h : (let rs' := rs.filter (fun r => !isBlankRow r); ss.length == rs'.length && (ss.zip rs').all pairTxt) = true) :
    tableMatchesTxt ss rs = true := by
  rw [tableMatchesTxt_eq_all2, all2_eq_zip, rowMatchesTxt_eq_pairTxt]; exact h

theorem tableMatchesJson_of_pairs {ss : List ShippedRow} {rs : List RawRow}
    (h : (ss.length == rs.length && (ss.zip rs).all pairJson) = true) : tableMatchesJson ss rs = true := by
  rw [tableMatchesJson_eq_all2, all2_eq_zip, rowMatchesJson_eq_pairJson]; exact h

end QcelVerif.Codata
