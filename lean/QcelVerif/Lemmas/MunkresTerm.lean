import QcelVerif.Lemmas.MunkresTerm.Basic
import QcelVerif.Lemmas.MunkresTerm.Step36
import QcelVerif.Lemmas.MunkresTerm.Step4
import QcelVerif.Lemmas.MunkresTerm.Step5
/-!
C14 — termination of the Munkres model, assembled: a lexicographic measure
(`n −` starred rows, then the position in the 3 → 4 → (6 → 4)* → 5 cycle, then `n −` covered rows)
strictly decreases with every step, every single step terminates under its invariant, and the
measure of the initial state is below the model's fuel `stepFuel n m`.
-/
namespace QcelVerif.Munkres
open QcelVerif.Assign

/-- the invariant of a step plus what termination needs: wide orientation, the size of `path`,
and — inside the 4/5/6 cycle — that some row still has no star -/
structure TInv (n m : Nat) (cost : Nat → Nat → Rat) (st : Step) (s : State) : Prop where
  inv : InvAt n m cost st s
  hnm : n ≤ m
  psz : s.path.size = n + m
  few : st = .s4 ∨ st = .s5 ∨ st = .s6 → (starRows n s.marked).card < n

open Classical in
/-- the termination measure -/
noncomputable def mu (n : Nat) (st : Step) (s : State) : Nat :=
  (n - (starRows n s.marked).card) * (2 * n + 5) +
  match st with
  | .s1 => 2 * n + 5
  | .s3 => 2 * n + 4
  | .s4 => 2 * (n - (covRows n s).card) + (if UncZero s then 1 else 3)
  | .s6 => 2 * (n - (covRows n s).card) + 2
  | .s5 => 0

theorem covRows_congr {n : Nat} {s s' : State} (h : s'.rowUnc = s.rowUnc) : covRows n s' = covRows n s := by
  ext i
  simp only [mem_covRows, RU, h]

theorem starRows_unmarked {n : Nat} {M : Mat Nat} (h : ∀ i j, get2 M i j = 0) : starRows n M = ∅ := by
  ext i
  simp only [mem_starRows, Finset.notMem_empty, iff_false, not_and, not_exists]
  intro _ j hj
  unfold Star at hj
  rw [h] at hj
  exact absurd hj (by decide)

/-- **Every single step terminates** under its invariant (the inner `while` loops of steps 4 and 5
never exhaust their fuel, `path` is never overrun). -/
theorem doStep_total {n m : Nat} {cost : Nat → Nat → Rat} {st : Step} {s : State}
    (h : TInv n m cost st s) : ∃ r, doStep st s = .ok r := by
  cases st
  · exact ⟨_, rfl⟩
  · exact ⟨_, rfl⟩
  · exact step4_total h.inv
  · exact step5_total h.inv h.hnm h.psz
  · exact ⟨_, rfl⟩

/-- **Every step that hands over to another step decreases the measure** (and re-establishes the
termination invariant). -/
theorem doStep_decreases {n m : Nat} {cost : Nat → Nat → Rat} {st st' : Step} {s s' : State}
    (hrun : doStep st s = .ok (s', some st')) (h : TInv n m cost st s) :
    TInv n m cost st' s' ∧ mu n st' s' < mu n st s := by
  have hpost := doStep_inv hrun h.inv
  cases st <;> simp only [doStep, Except.ok.injEq, Prod.ext_iff] at hrun
  · -- step 1
    obtain ⟨rfl, e2⟩ := hrun
    obtain rfl : Step.s3 = st' := Option.some.inj e2
    refine ⟨⟨hpost, h.hnm, h.psz, fun hh => by simp at hh⟩, ?_⟩
    have h0 : starRows n s.marked = ∅ := starRows_unmarked h.inv.unmarked
    simp only [mu, h0, Finset.card_empty, Nat.sub_zero]
    have := Nat.mul_le_mul_right (2 * n + 5) (Nat.sub_le n (starRows n (step1 s).1.marked).card)
    omega
  · -- step 3
    obtain ⟨rfl, e2⟩ := hrun
    rcases step3_next s with h4 | hd
    · obtain rfl : Step.s4 = st' := Option.some.inj (h4.symm.trans e2)
      have hm : (step3 s).1.marked = s.marked := rfl
      have hmore : (starRows n s.marked).card < n := step3_more h.inv h4
      refine ⟨⟨hpost, h.hnm, h.psz, fun _ => hmore⟩, ?_⟩
      simp only [mu, hm]
      split <;> omega
    · rw [hd] at e2
      cases e2
  · -- step 4
    obtain ⟨hst, hsub, hpath, hflag⟩ := step4_progress hrun h.inv
    have hS : starRows n s'.marked = starRows n s.marked := starRows_congr hst
    have hle : (covRows n s).card ≤ (covRows n s').card := Finset.card_le_card hsub
    have hR' := covRows_card_le n s'
    have hfew := h.few (Or.inl rfl)
    rcases step4_inv hrun h.inv with ⟨e, _⟩ | ⟨e, _⟩
    · simp only [Option.some.injEq] at e
      subst e
      refine ⟨⟨hpost, h.hnm, by rw [hpath]; exact h.psz, fun _ => by rw [hS]; exact hfew⟩, ?_⟩
      simp only [mu, hS]
      by_cases hz : UncZero s
      · have := hflag hz rfl
        rw [if_pos hz]
        omega
      · rw [if_neg hz]
        omega
    · simp only [Option.some.injEq] at e
      subst e
      refine ⟨⟨hpost, h.hnm, by rw [hpath]; exact h.psz, fun _ => by rw [hS]; exact hfew⟩, ?_⟩
      simp only [mu, hS]
      split <;> omega
  · -- step 5
    obtain ⟨e, _⟩ := step5_inv hrun h.inv
    simp only [Option.some.injEq] at e
    subst e
    obtain ⟨hp, hcard⟩ := step5_progress (n := n) hrun h.inv
    have hfew := h.few (Or.inr (Or.inl rfl))
    refine ⟨⟨hpost, h.hnm, by rw [hp]; exact h.psz, fun hh => by simp at hh⟩, ?_⟩
    simp only [mu, hcard]
    have e1 : n - (starRows n s.marked).card = (n - ((starRows n s.marked).card + 1)) + 1 := by omega
    rw [e1, Nat.add_mul]
    omega
  · -- step 6
    obtain ⟨rfl, e2⟩ := hrun
    obtain rfl : Step.s4 = st' := Option.some.inj ((step6_next s).symm.trans e2)
    have hfew := h.few (Or.inr (Or.inr rfl))
    obtain ⟨hz, hm, hr, _, hp⟩ := step6_flag h.inv h.hnm hfew
    refine ⟨⟨hpost, h.hnm, by rw [hp]; exact h.psz, fun _ => by rw [hm]; exact hfew⟩, ?_⟩
    simp only [mu, hm, covRows_congr hr, if_pos hz]
    omega

/-- **The state machine terminates**: with more fuel than the measure, the run finishes. -/
theorem runSteps_total {n m : Nat} {cost : Nat → Nat → Rat} (f : Nat) : ∀ (st : Step) (s : State)
    (tr : Array (Step × State)), TInv n m cost st s → mu n st s < f → ∃ r, runSteps f st s tr = .ok r := by
  induction f with
  | zero => exact fun _ _ _ _ hf => absurd hf (Nat.not_lt_zero _)
  | succ f ih =>
    intro st s tr h hf
    obtain ⟨⟨s', nx⟩, hd⟩ := doStep_total h
    unfold runSteps
    rw [hd]
    simp only
    cases nx with
    | none => exact ⟨_, rfl⟩
    | some st' =>
      obtain ⟨h', hlt⟩ := doStep_decreases hd h
      exact ih st' s' _ h' (by omega)

theorem mu_init_lt_fuel (n m : Nat) (s : State) : mu n .s1 s < stepFuel n m := by
  have h1 : (n - (starRows n s.marked).card) * (2 * n + 5) ≤ n * (2 * n + 5) :=
    Nat.mul_le_mul_right _ (Nat.sub_le _ _)
  simp only [mu, stepFuel]
  have h2 : n * (2 * n + 5) + (2 * n + 5) ≤ 4 * (n + m) * (n + m) * (n + m) + 15 := by
    have hk : n ≤ n + m := Nat.le_add_right n m
    generalize n + m = k at hk
    have h3 : n * (2 * n + 5) + (2 * n + 5) ≤ k * (2 * k + 5) + (2 * k + 5) := by
      have := Nat.mul_le_mul hk (show 2 * n + 5 ≤ 2 * k + 5 by omega)
      omega
    refine Nat.le_trans h3 ?_
    rcases Nat.eq_zero_or_pos k with rfl | hk0
    · simp
    · have h4 : k * k ≤ k * k * k := Nat.le_mul_of_pos_right _ hk0
      have h5 : k ≤ k * k := Nat.le_mul_of_pos_right _ hk0
      have e1 : 4 * k * k * k = 4 * (k * k * k) := by ring
      have e2 : k * (2 * k + 5) = 2 * (k * k) + 5 * k := by ring
      rw [e1, e2]
      by_cases hk1 : k = 1
      · subst hk1; simp
      · have hk2 : 2 ≤ k := by omega
        have h6 : 2 * (k * k) ≤ k * k * k :=
          calc 2 * (k * k) ≤ k * (k * k) := Nat.mul_le_mul_right _ hk2
            _ = k * k * k := (Nat.mul_assoc k k k).symm
        have h7 : 2 * k ≤ k * k := Nat.mul_le_mul_right k hk2
        omega
  omega

/-- **The solver terminates on every wide matrix** within the model's fuel. -/
theorem solveWide_total {n m : Nat} {costM : Mat Rat} {cost : Nat → Nat → Rat} (hM : Stores n m costM cost)
    (hnm : n ≤ m) : ∃ r, solveWide n m costM = .ok r := by
  unfold solveWide
  simp only
  split
  · exact ⟨_, rfl⟩
  · exact runSteps_total (n := n) (m := m) (cost := cost) _ _ _ _
      ⟨initState_inv1 hM, hnm, by simp [initState], fun hh => by simp at hh⟩ (mu_init_lt_fuel n m _)

end QcelVerif.Munkres
