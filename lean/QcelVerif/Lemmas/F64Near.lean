import QcelVerif.Lemmas.DecBounds
import QcelVerif.Model.F64Check
/-!
`F64Check.nearestOk` compares three distances in ℚ; the kernel pays some 30 k heartbeats per call for the `Rat` arithmetic.
`nearestOkN` is the same test with decimal and doubles as fractions of naturals and the comparisons cross-multiplied
(`nearestOk_eq`, all inputs); the table sweeps evaluate that.
-/
namespace QcelVerif.F64Check
open QcelVerif QcelVerif.Dec

/-- a finite non-negative double as a fraction of naturals -/
def f64Frac (bits : Nat) : Nat × Nat :=
  let e := bits / 2 ^ 52
  let m := bits % 2 ^ 52
  if e == 0 then (m, 2 ^ 1074)
  else if e ≥ 1075 then ((2 ^ 52 + m) * 2 ^ (e - 1075), 1)
  else (2 ^ 52 + m, 2 ^ (1075 - e))

/-- `|d|` as a fraction of naturals -/
def decFrac (d : Dec) : Nat × Nat :=
  if d.exp ≥ 0 then (d.coeff * 10 ^ d.exp.toNat, 1) else (d.coeff, 10 ^ (-d.exp).toNat)

def adiff (a b : Nat) : Nat := (a - b) + (b - a)

/-- `nearestOk` with the three distances cross-multiplied over ℕ -/
def nearestOkN (d : Dec) (bits : Nat) : Bool :=
  let mb := bits % 2 ^ 63
  let v := decFrac d
  let x := f64Frac mb
  let l := f64Frac (mb - 1)
  let h := f64Frac (mb + 1)
  let dx := adiff (v.1 * x.2) (x.1 * v.2)
  let dl := adiff (v.1 * l.2) (l.1 * v.2)
  let dh := adiff (v.1 * h.2) (h.1 * v.2)
  (Nat.beq (bits / 2 ^ 63) 1 == d.neg) && Nat.blt 0 mb && Nat.blt (mb + 1) (2047 * 2 ^ 52) &&
  Nat.ble (dx * l.2) (dl * x.2) && Nat.ble (dx * h.2) (dh * x.2) &&
  ((!Nat.beq (dx * l.2) (dl * x.2) && !Nat.beq (dx * h.2) (dh * x.2)) || Nat.beq (mb % 2) 0)

theorem ratAbs_eq (x : ℚ) : ratAbs x = |x| := by
  unfold ratAbs
  by_cases h : x < 0
  · rw [if_pos h, abs_of_neg h]
  · rw [if_neg h, abs_of_nonneg (not_lt.mp h)]

theorem f64Frac_pos (b : Nat) : 0 < (f64Frac b).2 := by
  unfold f64Frac; simp only []; split_ifs <;> simp

theorem f64Val_frac (b : Nat) : f64Val b = ((f64Frac b).1 : ℚ) / ((f64Frac b).2 : ℚ) := by
  unfold f64Val f64Frac; simp only []; split_ifs <;> simp

theorem decFrac_pos (d : Dec) : 0 < (decFrac d).2 := by
  unfold decFrac; split_ifs <;> simp

theorem absVal_frac (d : Dec) : |d.val| = ((decFrac d).1 : ℚ) / ((decFrac d).2 : ℚ) := by
  rw [abs_val]; unfold decFrac
  split_ifs with h
  · lift d.exp to Nat using h with e
    simp [zpow_natCast]
  · obtain ⟨k, hk⟩ : ∃ k : Nat, d.exp = -(k : Int) := ⟨(-d.exp).toNat, by omega⟩
    rw [hk]; simp [zpow_neg, div_eq_mul_inv]

theorem adiff_cast (a b : Nat) : ((adiff a b : Nat) : ℚ) = |(a : ℚ) - b| := by
  unfold adiff
  rcases le_total a b with h | h
  · rw [Nat.sub_eq_zero_of_le h, zero_add, Nat.cast_sub h, abs_of_nonpos (by simpa using h)]; ring
  · rw [Nat.sub_eq_zero_of_le h, add_zero, Nat.cast_sub h, abs_of_nonneg (by simpa using h)]

theorem abs_frac_sub {a b c e : Nat} (hb : 0 < b) (he : 0 < e) :
    |(a : ℚ) / b - (c : ℚ) / e| = ((adiff (a * e) (c * b) : Nat) : ℚ) / ((b : ℚ) * e) := by
  have hb' : (0 : ℚ) < b := by exact_mod_cast hb
  have he' : (0 : ℚ) < e := by exact_mod_cast he
  rw [adiff_cast, div_sub_div _ _ hb'.ne' he'.ne', abs_div, abs_of_pos (mul_pos hb' he')]
  push_cast; ring_nf


theorem frac_cross {a b v p q : Nat} (hv : 0 < v) (hp : 0 < p) (hq : 0 < q) :
    decide ((a : ℚ) / ((v : ℚ) * p) ≤ (b : ℚ) / ((v : ℚ) * q)) = Nat.ble (a * q) (b * p) ∧
    ((a : ℚ) / ((v : ℚ) * p) == (b : ℚ) / ((v : ℚ) * q)) = Nat.beq (a * q) (b * p) := by
  have hv' : (0 : ℚ) < v := by exact_mod_cast hv
  have hp' : (0 : ℚ) < p := by exact_mod_cast hp
  have hq' : (0 : ℚ) < q := by exact_mod_cast hq
  have e1 : (a : ℚ) * ((v : ℚ) * q) = ((a * q : Nat) : ℚ) * v := by push_cast; ring
  have e2 : (b : ℚ) * ((v : ℚ) * p) = ((b * p : Nat) : ℚ) * v := by push_cast; ring
  constructor
  · rw [Bool.eq_iff_iff, decide_eq_true_eq, Nat.ble_eq, div_le_div_iff₀ (mul_pos hv' hp') (mul_pos hv' hq'), e1, e2, mul_le_mul_iff_left₀ hv', Nat.cast_le]
  · refine Bool.eq_iff_iff.2 (beq_iff_eq.trans ?_)
    rw [Nat.beq_eq, div_eq_div_iff (mul_pos hv' hp').ne' (mul_pos hv' hq').ne', e1, e2, mul_left_inj' hv'.ne', Nat.cast_inj]

theorem nearestOk_eq (d : Dec) (bits : Nat) : nearestOk d bits = nearestOkN d bits := by
  unfold nearestOk nearestOkN
  simp only [ratAbs_eq, f64Val_frac, absVal_frac]
  generalize bits % 2 ^ 63 = mb
  have hv := decFrac_pos d
  have hx := f64Frac_pos mb
  have hl := f64Frac_pos (mb - 1)
  have hh := f64Frac_pos (mb + 1)
  rw [abs_frac_sub hv hx, abs_frac_sub hv hl, abs_sub_comm, abs_frac_sub hv hh]
  simp only [bne, frac_cross hv hx hl, frac_cross hv hx hh]
end QcelVerif.F64Check
