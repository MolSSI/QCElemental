import QcelVerif.Model.KabschMirror
import QcelVerif.Lemmas.Kabsch
/-!
# 3×3 rotation algebra for the C12 property files (helper lemmas, not property statements)

`IsRot` (proper rotation) over the `M3`/`rowMul` laws of `Lemmas/Kabsch.lean`, the cross product under a proper rotation,
Cramer's rule in the basis `a, b, a × b`, the matrices `α·v vᵀ + β·I`, square-norm bounds.  No uniqueness theorem is
stated here: those are in `Props/C12Unique.lean`.
-/
namespace QcelVerif.Kabsch
variable {K : Type}

section Ring
variable [CommRing K]

/-- proper rotation: orthogonal with determinant `+1` (the hypotheses `ho`, `hd` of `Props/C12Full.lean`) -/
structure IsRot (U : M3 K) : Prop where
  orth : U.mul U.transpose = M3.one
  det : U.det = 1

theorem orth_mul {A B : M3 K} (hA : A.mul A.transpose = M3.one) (hB : B.mul B.transpose = M3.one) :
    (A.mul B).mul (A.mul B).transpose = M3.one := by
  rw [M3.transpose_mul, M3.mul_assoc', ← M3.mul_assoc' B, hB, M3.one_mul', hA]

theorem IsRot.one : IsRot (M3.one : M3 K) :=
  ⟨by rw [M3.transpose_one, M3.one_mul'], M3.det_one⟩

theorem IsRot.orth' {U : M3 K} (h : IsRot U) : U.transpose.mul U = M3.one :=
  transpose_mul_of_rot U h.orth h.det

theorem IsRot.transpose {U : M3 K} (h : IsRot U) : IsRot U.transpose :=
  ⟨by rw [M3.transpose_transpose]; exact h.orth', by rw [M3.det_transpose]; exact h.det⟩

theorem IsRot.mul {A B : M3 K} (hA : IsRot A) (hB : IsRot B) : IsRot (A.mul B) :=
  ⟨orth_mul hA.orth hB.orth, by rw [M3.det_mul, hA.det, hB.det, one_mul]⟩

/-- undoing a matrix with orthonormal rows: `(v·U)·Uᵀ = v` -/
theorem rowMul_rowMul_transpose {U : M3 K} (h : U.mul U.transpose = M3.one) (v : V3 K) :
    rowMul (rowMul v U) U.transpose = v := by
  rw [← rowMul_mul, h, rowMul_one]

theorem rowMul_transpose_rowMul {U : M3 K} (h : IsRot U) (v : V3 K) : rowMul (rowMul v U.transpose) U = v := by
  rw [← rowMul_mul, h.orth', rowMul_one]

theorem nrm2_rowMul {U : M3 K} (h : IsRot U) (v : V3 K) : (rowMul v U).nrm2 = v.nrm2 :=
  nrm2_rowMul_of_orth h.orth v

theorem cross_rowMul (R : M3 K) (a b : V3 K) :
    V3.cross (rowMul a R) (rowMul b R) = rowMul (V3.cross a b) R.cof := by
  ext <;> simp only [rowMul, V3.cross, M3.cof] <;> ring

/-- **a proper rotation preserves cross products** (it is its own cofactor matrix) -/
theorem rowMul_cross {U : M3 K} (h : IsRot U) (a b : V3 K) :
    rowMul (V3.cross a b) U = V3.cross (rowMul a U) (rowMul b U) := by
  rw [cross_rowMul, cof_eq_of_rot U h.orth h.det]

theorem cross2_rowMul {U : M3 K} (h : IsRot U) (a b : V3 K) : cross2 (rowMul a U) (rowMul b U) = cross2 a b := by
  rw [cross2, ← rowMul_cross h, nrm2_rowMul h, cross2]

theorem cross2_comm (a b : V3 K) : cross2 a b = cross2 b a := by
  simp only [cross2, V3.cross, V3.nrm2]; ring

theorem cross2_self (a : V3 K) : cross2 a a = 0 := by
  simp only [cross2, V3.cross, V3.nrm2]; ring

/-- **Cramer's rule in the basis `a, b, n = a × b`** (scalar triple product `[a, b, n] = |n|²`):
    `|n|² v = (v·(b×n)) a + (v·(n×a)) b + (v·n) n` -/
theorem cramer_cross (a b v : V3 K) :
    V3.smul (cross2 a b) v
      = ((V3.smul (v.dot (V3.cross b (V3.cross a b))) a).add
          (V3.smul (v.dot (V3.cross (V3.cross a b) a)) b)).add
          (V3.smul (v.dot (V3.cross a b)) (V3.cross a b)) := by
  ext <;> simp only [V3.smul, V3.add, V3.dot, V3.cross, cross2, V3.nrm2] <;> ring

/-- Cramer's rule carried through any matrix `R` (linearity of `v ↦ v·R`):
    `|a×b|²·(v·R)` in terms of `a·R`, `b·R` and `(a×b)·R` -/
theorem cramer_rowMul (a b v : V3 K) (R : M3 K) :
    V3.smul (cross2 a b) (rowMul v R)
      = ((V3.smul (v.dot (V3.cross b (V3.cross a b))) (rowMul a R)).add
          (V3.smul (v.dot (V3.cross (V3.cross a b) a)) (rowMul b R))).add
          (V3.smul (v.dot (V3.cross a b)) (rowMul (V3.cross a b) R)) := by
  rw [← rowMul_smul, cramer_cross a b v, rowMul_add, rowMul_add, rowMul_smul, rowMul_smul, rowMul_smul]

/-- … and for the difference of the actions of two matrices -/
theorem cramer_rowMul_sub (a b v : V3 K) (R₁ R₂ : M3 K) :
    V3.smul (cross2 a b) ((rowMul v R₁).sub (rowMul v R₂))
      = ((V3.smul (v.dot (V3.cross b (V3.cross a b))) ((rowMul a R₁).sub (rowMul a R₂))).add
          (V3.smul (v.dot (V3.cross (V3.cross a b) a)) ((rowMul b R₁).sub (rowMul b R₂)))).add
          (V3.smul (v.dot (V3.cross a b)) ((rowMul (V3.cross a b) R₁).sub (rowMul (V3.cross a b) R₂))) := by
  have e₁ := cramer_rowMul a b v R₁
  have e₂ := cramer_rowMul a b v R₂
  simp only [V3.ext_iff, V3.smul, V3.add, V3.sub] at e₁ e₂ ⊢
  exact ⟨by linear_combination e₁.1 - e₂.1, by linear_combination e₁.2.1 - e₂.2.1,
    by linear_combination e₁.2.2 - e₂.2.2⟩

/-- Lagrange: `|x|²|y|² = (x·y)² + |x × y|²` -/
theorem lagrange (x y : V3 K) : x.nrm2 * y.nrm2 = x.dot y ^ 2 + cross2 x y := by
  simp only [V3.nrm2, V3.dot, cross2, V3.cross]; ring

/-- `a × b ⟂ b`, so `|b × (a×b)|² = |b|²|a×b|²` -/
theorem nrm2_cross_cross_right (a b : V3 K) : (V3.cross b (V3.cross a b)).nrm2 = b.nrm2 * cross2 a b := by
  simp only [cross2, V3.cross, V3.nrm2]; ring

theorem nrm2_cross_cross_left (a b : V3 K) : (V3.cross (V3.cross a b) a).nrm2 = a.nrm2 * cross2 a b := by
  simp only [cross2, V3.cross, V3.nrm2]; ring

/-- if a proper rotation fixes `a` and `b` it fixes `|a×b|²·v` for every `v` -/
theorem smul_fixed_of_fixes_two {U : M3 K} (h : IsRot U) (a b : V3 K) (ha : rowMul a U = a) (hb : rowMul b U = b)
    (v : V3 K) : V3.smul (cross2 a b) (rowMul v U) = V3.smul (cross2 a b) v := by
  rw [cramer_rowMul, rowMul_cross h, ha, hb, ← cramer_cross]

theorem ofRows_mul (a b d : V3 K) (Q : M3 K) :
    (ofRows a b d).mul Q = ofRows (rowMul a Q) (rowMul b Q) (rowMul d Q) := by
  ext <;> simp only [ofRows, M3.mul, rowMul]

/-- a matrix whose row action is the identity is the identity: its rows are the images of the unit vectors -/
theorem eq_one_of_rowMul_id (U : M3 K) (h : ∀ v : V3 K, rowMul v U = v) : U = M3.one := by
  have e : (M3.one : M3 K) = ofRows ⟨1, 0, 0⟩ ⟨0, 1, 0⟩ ⟨0, 0, 1⟩ := rfl
  rw [← M3.one_mul' U, e, ofRows_mul, h, h, h]

/-! ### the matrices `α·v vᵀ + β·I`

The matrices with axis `v` (they commute with every rotation about `v`).  Every explicit reflection and half-turn of the
C12 files is one of them: `reflPlane n` (`α = −2/|n|²`, `β = 1`), `halfTurn d` (`2/|d|²`, `−1`),
`RandRot.householderNeg v` (`2`, `−1`), `RandRot.outerMinusOne V` (`1`, `−1`). -/

def axial (α β : K) (v : V3 K) : M3 K := (M3.smul α (outer v v)).add (M3.smul β M3.one)

theorem axial_mul_transpose (α β : K) (v : V3 K) :
    (axial α β v).mul (axial α β v).transpose = axial (α * (α * v.nrm2 + 2 * β)) (β ^ 2) v := by
  ext <;> simp only [axial, outer, M3.smul, M3.add, M3.one, M3.mul, M3.transpose, V3.nrm2] <;> ring

theorem axial_zero_one (v : V3 K) : axial 0 1 v = M3.one := by
  ext <;> simp only [axial, outer, M3.smul, M3.add, M3.one] <;> ring

theorem axial_orth {α β : K} {v : V3 K} (h : α * (α * v.nrm2 + 2 * β) = 0) (hβ : β ^ 2 = 1) :
    (axial α β v).mul (axial α β v).transpose = M3.one := by
  rw [axial_mul_transpose, h, hβ, axial_zero_one]

/-- eigenvalues `β, β, β + α|v|²` -/
theorem axial_det (α β : K) (v : V3 K) : (axial α β v).det = β ^ 2 * (β + α * v.nrm2) := by
  simp only [axial, outer, M3.smul, M3.add, M3.one, M3.det, V3.nrm2]; ring

theorem rowMul_axial (α β : K) (v a : V3 K) :
    rowMul a (axial α β v) = (V3.smul (α * a.dot v) v).add (V3.smul β a) := by
  ext <;> simp only [axial, outer, M3.smul, M3.add, M3.one, rowMul, V3.smul, V3.add, V3.dot] <;> ring

theorem axial_smul (α β s : K) (v : V3 K) : axial α β (V3.smul s v) = axial (α * s ^ 2) β v := by
  ext <;> simp only [axial, outer, M3.smul, M3.add, V3.smul] <;> ring

theorem V3.sub_eq_iff_eq_add (a p w : V3 K) : a.sub p = w ↔ a = p.add w := by
  simp only [V3.ext_iff, V3.sub, V3.add, sub_eq_iff_eq_add']

theorem V3.sub_eq_zero {a b : V3 K} : a.sub b = V3.zero ↔ a = b := by
  simp only [V3.ext_iff, V3.sub, V3.zero, _root_.sub_eq_zero]

theorem V3.add_eq_left {p w : V3 K} : p.add w = p ↔ w = V3.zero := by
  simp only [V3.ext_iff, V3.add, V3.zero, _root_.add_eq_left]

/-- a recipe `(c − T)·U` applied to a moved atom `c = r·M + s` is one affine map of `r`:
    `((r·M + s) − T)·U = r·(M U) + (s − T)·U` -/
theorem rowMul_moved_sub (M U : M3 K) (s T r : V3 K) :
    rowMul (((rowMul r M).add s).sub T) U = (rowMul r (M.mul U)).add (rowMul (s.sub T) U) := by
  ext <;> simp only [rowMul, M3.mul, V3.add, V3.sub] <;> ring

theorem sub_eq_add_smul_neg (x y : V3 K) : x.sub y = x.add (V3.smul (-1) y) := by
  ext <;> simp only [V3.sub, V3.add, V3.smul] <;> ring

theorem nrm2_smul (k : K) (v : V3 K) : (V3.smul k v).nrm2 = k ^ 2 * v.nrm2 := by
  simp only [V3.nrm2, V3.smul]; ring

end Ring

section Ordered
variable [Field K] [LinearOrder K] [IsStrictOrderedRing K]

theorem cross2_nonneg (a b : V3 K) : 0 ≤ cross2 a b := V3.nrm2_nonneg _

theorem nrm2_eq_zero_iff (v : V3 K) : v.nrm2 = 0 ↔ v = V3.zero := by
  rw [V3.nrm2, add_eq_zero_iff_of_nonneg (add_nonneg (mul_self_nonneg _) (mul_self_nonneg _)) (mul_self_nonneg _),
    mul_self_add_mul_self_eq_zero, mul_self_eq_zero, V3.ext_iff, and_assoc]
  rfl

theorem cross2_eq_zero_iff (a b : V3 K) : cross2 a b = 0 ↔ V3.cross a b = V3.zero := nrm2_eq_zero_iff _

theorem cross2_pos_iff (a b : V3 K) : 0 < cross2 a b ↔ V3.cross a b ≠ V3.zero := by
  rw [← not_iff_not, not_lt, not_not, ← cross2_eq_zero_iff]
  exact ⟨fun h => le_antisymm h (cross2_nonneg a b), fun h => h.le⟩

theorem cross2_le_mul (x y : V3 K) : cross2 x y ≤ x.nrm2 * y.nrm2 := by
  have := lagrange x y; have := sq_nonneg (x.dot y); linarith

theorem dot_sq_le (x y : V3 K) : x.dot y ^ 2 ≤ x.nrm2 * y.nrm2 := by
  have := lagrange x y; have := cross2_nonneg x y; linarith

theorem nrm2_add_le_two (x y : V3 K) : (x.add y).nrm2 ≤ 2 * x.nrm2 + 2 * y.nrm2 := by
  have h := V3.nrm2_nonneg (x.sub y)
  have e : 2 * x.nrm2 + 2 * y.nrm2 - (x.add y).nrm2 = (x.sub y).nrm2 := by
    simp only [V3.nrm2, V3.add, V3.sub]; ring
  linarith

theorem nrm2_comb2_le (α β : K) (x y : V3 K) :
    ((V3.smul α x).add (V3.smul β y)).nrm2 ≤ (α ^ 2 + β ^ 2) * (x.nrm2 + y.nrm2) := by
  have h := V3.nrm2_nonneg ((V3.smul β x).sub (V3.smul α y))
  have e : (α ^ 2 + β ^ 2) * (x.nrm2 + y.nrm2) - ((V3.smul α x).add (V3.smul β y)).nrm2
      = ((V3.smul β x).sub (V3.smul α y)).nrm2 := by
    simp only [V3.nrm2, V3.add, V3.sub, V3.smul]; ring
  linarith

/-- `|αx + βy + γz|² ≤ 2·(4·P·e + Q·Z)` from `α², β² ≤ P`, `γ² ≤ Q`, `|x|², |y|² ≤ e`, `|z|² ≤ Z` -/
theorem nrm2_comb3_le (α β γ P Q e Z : K) (x y z : V3 K) (hα : α ^ 2 ≤ P) (hβ : β ^ 2 ≤ P) (hγ : γ ^ 2 ≤ Q)
    (hx : x.nrm2 ≤ e) (hy : y.nrm2 ≤ e) (hz : z.nrm2 ≤ Z) :
    (((V3.smul α x).add (V3.smul β y)).add (V3.smul γ z)).nrm2 ≤ 2 * (4 * P * e + Q * Z) := by
  have hP : ((V3.smul α x).add (V3.smul β y)).nrm2 ≤ (P + P) * (e + e) :=
    le_trans (nrm2_comb2_le α β x y) (mul_le_mul (add_le_add hα hβ) (add_le_add hx hy)
      (add_nonneg (V3.nrm2_nonneg _) (V3.nrm2_nonneg _))
      (add_nonneg (le_trans (sq_nonneg α) hα) (le_trans (sq_nonneg β) hβ)))
  have hQ : (V3.smul γ z).nrm2 ≤ Q * Z := by
    rw [nrm2_smul]
    exact mul_le_mul hγ hz (V3.nrm2_nonneg _) (le_trans (sq_nonneg γ) hγ)
  have := nrm2_add_le_two ((V3.smul α x).add (V3.smul β y)) (V3.smul γ z)
  linarith

end Ordered

end QcelVerif.Kabsch
