import QcelVerif.Lemmas.BinExp
import QcelVerif.Model.Nucleus
import QcelVerif.Model.RadiiF64
import Mathlib.Tactic.FieldSimp
/-!
# Rounding to 53 significant bits

`Nucleus.rd64` (C04/C06; lowest exponent −1022, so subnormals) and `Radii.rnd64` (C17; no lowest exponent) are, on a positive
number, both `rnd m a`: round-half-even on the multiples of `2^(max (ilog2 a) m − 52)`, with `m = −1022` for the first and any
`m ≤ ilog2 a` for the second.  Both idempotence theorems rest on `rnd_idem`.
-/
namespace QcelVerif

theorem Nucleus.pow2_eq_zpow (e : Int) : Nucleus.pow2 e = (2 : ℚ) ^ e := by
  unfold Nucleus.pow2
  split
  · rename_i h
    obtain ⟨n, rfl⟩ := Int.eq_ofNat_of_zero_le h
    simp [zpow_natCast]
  · rename_i h
    have h' : e = -(((-e).toNat : ℕ) : ℤ) := by omega
    conv_rhs => rw [h']
    rw [zpow_neg, zpow_natCast]
    simp

open F64

theorem Nucleus.ilog2_spec (a : ℚ) (ha : 0 < a) :
    (2 : ℚ) ^ (Nucleus.ilog2 a) ≤ a ∧ a < (2 : ℚ) ^ (Nucleus.ilog2 a + 1) := by
  obtain ⟨lo, hi⟩ := log2_quot a ha
  unfold Nucleus.ilog2
  simp only [Nucleus.pow2_eq_zpow]
  split_ifs with h1 h2
  · exact ⟨lo.le, by rwa [sub_add_cancel]⟩
  · exact absurd hi (not_lt.mpr h2)
  · exact ⟨not_lt.mp h1, hi⟩

theorem Radii.ilog2_spec (q : ℚ) (hq : 0 < q) :
    (2 : ℚ) ^ (Radii.ilog2 q) ≤ q ∧ q < (2 : ℚ) ^ (Radii.ilog2 q + 1) := by
  obtain ⟨lo, hi⟩ := log2_quot q hq
  unfold Radii.ilog2
  simp only
  split_ifs with h
  · exact ⟨h, hi⟩
  · exact ⟨lo.le, by rw [sub_add_cancel]; exact lt_of_not_ge h⟩

theorem Radii.ilog2_unique (q : ℚ) (hq : 0 < q) (j : Int) (h1 : (2 : ℚ) ^ j ≤ q) (h2 : q < (2 : ℚ) ^ (j + 1)) :
    Radii.ilog2 q = j :=
  binexp_unique (Radii.ilog2_spec q hq).1 (Radii.ilog2_spec q hq).2 h1 h2

namespace F64
open Radii (roundHalfEven ilog2)

theorem ilog2_eq {a : ℚ} (ha : 0 < a) : Nucleus.ilog2 a = ilog2 a :=
  (Radii.ilog2_unique a ha _ (Nucleus.ilog2_spec a ha).1 (Nucleus.ilog2_spec a ha).2).symm

theorem roundHalfEven_eq : Nucleus.roundHalfEven = roundHalfEven := rfl

theorem roundHalfEven_intCast (z : Int) : roundHalfEven (z : ℚ) = z := by
  unfold roundHalfEven
  simp only [Rat.floor_intCast, sub_self]
  norm_num

theorem roundHalfEven_cases (s : ℚ) :
    (roundHalfEven s = s.floor ∧ s - s.floor ≤ 1 / 2) ∨ (roundHalfEven s = s.floor + 1 ∧ 1 / 2 ≤ s - s.floor) := by
  unfold roundHalfEven
  simp only
  split_ifs with h1 h2
  · exact Or.inl ⟨rfl, h1.le⟩
  · exact Or.inr ⟨rfl, h2.le⟩
  · exact Or.inl ⟨rfl, not_lt.mp h2⟩
  · exact Or.inr ⟨rfl, not_lt.mp h1⟩

theorem roundHalfEven_err (s : ℚ) : |((roundHalfEven s : Int) : ℚ) - s| ≤ 1 / 2 := by
  have h1 := Rat.floor_le s
  have h2 := Rat.lt_floor_add_one s
  push_cast at h2
  rw [abs_le]
  rcases roundHalfEven_cases s with ⟨e, h⟩ | ⟨e, h⟩
  · rw [e]; constructor <;> linarith
  · rw [e]; push_cast; constructor <;> linarith

theorem roundHalfEven_le {s : ℚ} {hi : ℤ} (h : s ≤ (hi : ℚ)) : roundHalfEven s ≤ hi := by
  have hfl := Rat.floor_le s
  rcases roundHalfEven_cases s with ⟨e, -⟩ | ⟨e, hf⟩ <;> rw [e]
  · exact_mod_cast hfl.trans h
  · have : (s.floor : ℚ) < hi := by linarith
    have : s.floor < hi := by exact_mod_cast this
    omega

theorem le_roundHalfEven {s : ℚ} {lo : ℤ} (h : (lo : ℚ) ≤ s) : lo ≤ roundHalfEven s := by
  have f1 : lo ≤ s.floor := Rat.le_floor_iff.mpr h
  rcases roundHalfEven_cases s with ⟨e, -⟩ | ⟨e, -⟩ <;> rw [e] <;> omega

theorem ilog2_mono {x y : ℚ} (hx : 0 < x) (h : x ≤ y) : ilog2 x ≤ ilog2 y := by
  have := zpow2_lt.mp (lt_of_le_of_lt ((Radii.ilog2_spec x hx).1.trans h) (Radii.ilog2_spec y (hx.trans_le h)).2)
  omega

/-- 53 significant bits on a positive number, exponent not below `m` -/
def rnd (m : ℤ) (a : ℚ) : ℚ :=
  (roundHalfEven (a / (2 : ℚ) ^ (max (ilog2 a) m - 52)) : ℚ) * (2 : ℚ) ^ (max (ilog2 a) m - 52)

theorem rnd_fix_of_form (m e n : ℤ) (he : m ≤ e) (hn0 : 0 < n) (hn : n ≤ 2 ^ 53) :
    rnd m ((n : ℚ) * (2 : ℚ) ^ (e - 52)) = (n : ℚ) * (2 : ℚ) ^ (e - 52) := by
  have two_ne : (2 : ℚ) ≠ 0 := by norm_num
  set r : ℚ := (n : ℚ) * (2 : ℚ) ^ (e - 52) with hr
  have hnq : (0 : ℚ) < (n : ℚ) := by exact_mod_cast hn0
  have hrpos : 0 < r := mul_pos hnq (zpow2_pos _)
  unfold rnd
  suffices h : ∃ k : ℤ, r / (2 : ℚ) ^ (max (ilog2 r) m - 52) = (k : ℚ) by
    obtain ⟨k, hk⟩ := h
    rw [hk, roundHalfEven_intCast, ← hk]
    field_simp
  obtain ⟨s1, s2⟩ := Radii.ilog2_spec r hrpos
  rcases lt_or_eq_of_le hn with hlt | heq
  · -- n < 2^53 : r < 2^(e+1), the exponent does not grow
    have hnlt : (n : ℚ) < (2 : ℚ) ^ (53 : ℤ) := by
      rw [← cast_two_pow53]; exact_mod_cast hlt
    have hrlt : r < (2 : ℚ) ^ (e + 1) := by
      rw [← zpow2_mul (show (53 : ℤ) + (e - 52) = e + 1 by ring), hr]
      exact mul_lt_mul_of_pos_right hnlt (zpow2_pos _)
    have hle : ilog2 r < e + 1 := zpow2_lt.mp (lt_of_le_of_lt s1 hrlt)
    set e2 : ℤ := max (ilog2 r) m with he2
    obtain ⟨j, hj⟩ := Int.eq_ofNat_of_zero_le (show 0 ≤ e - e2 by omega)
    refine ⟨n * 2 ^ j, ?_⟩
    rw [hr, ← zpow2_mul (show (j : ℤ) + (e2 - 52) = e - 52 by omega), zpow_natCast]
    push_cast
    field_simp
  · -- n = 2^53 : r = 2^(e+1)
    have hreq : r = (2 : ℚ) ^ (e + 1) := by
      have : (n : ℚ) = (2 : ℚ) ^ (53 : ℤ) := by
        rw [← cast_two_pow53]; exact_mod_cast heq
      rw [hr, this, zpow2_mul (show (53 : ℤ) + (e - 52) = e + 1 by ring)]
    have hil : ilog2 r = e + 1 :=
      Radii.ilog2_unique r hrpos (e + 1) (le_of_eq hreq.symm) (by rw [hreq]; exact zpow2_lt.mpr (by omega))
    have hif : max (ilog2 r) m = e + 1 := by omega
    refine ⟨2 ^ 52, ?_⟩
    rw [hif, hreq, ← zpow2_mul (show (52 : ℤ) + (e + 1 - 52) = e + 1 by ring)]
    push_cast
    field_simp

theorem significand_bounds {m : ℤ} {a : ℚ} (ha : 0 < a) :
    (m ≤ ilog2 a → ((2 : ℤ) ^ 52 : ℤ) ≤ roundHalfEven (a / (2 : ℚ) ^ (max (ilog2 a) m - 52))) ∧
    0 ≤ roundHalfEven (a / (2 : ℚ) ^ (max (ilog2 a) m - 52)) ∧
    roundHalfEven (a / (2 : ℚ) ^ (max (ilog2 a) m - 52)) ≤ ((2 : ℤ) ^ 53 : ℤ) := by
  obtain ⟨s1, s2⟩ := Radii.ilog2_spec a ha
  set e : ℤ := max (ilog2 a) m with he
  have hp := zpow2_pos (e - 52)
  have hylt : a / (2 : ℚ) ^ (e - 52) < (((2 : ℤ) ^ 53 : ℤ) : ℚ) := by
    rw [div_lt_iff₀ hp, cast_two_pow53, zpow2_mul (show (53 : ℤ) + (e - 52) = e + 1 by ring)]
    exact lt_of_lt_of_le s2 (zpow2_le.mpr (by omega))
  refine ⟨fun hm => ?_, ?_, ?_⟩
  · refine le_roundHalfEven ?_
    rw [le_div_iff₀ hp, cast_two_pow52, zpow2_mul (show (52 : ℤ) + (e - 52) = e by ring), he, max_eq_left hm]
    exact s1
  · exact le_roundHalfEven (by simpa using (div_pos ha hp).le)
  · exact roundHalfEven_le hylt.le

theorem rnd_nonneg (m : ℤ) {a : ℚ} (ha : 0 < a) : 0 ≤ rnd m a :=
  mul_nonneg (by exact_mod_cast (significand_bounds (m := m) ha).2.1) (zpow2_pos _).le

theorem two_pow_le_rnd {m : ℤ} {a : ℚ} (ha : 0 < a) (hm : m ≤ ilog2 a) : (2 : ℚ) ^ ilog2 a ≤ rnd m a := by
  have h := (significand_bounds (m := m) ha).1 hm
  unfold rnd
  rw [max_eq_left hm] at h ⊢
  calc (2 : ℚ) ^ ilog2 a = (((2 : ℤ) ^ 52 : ℤ) : ℚ) * (2 : ℚ) ^ (ilog2 a - 52) := by
        rw [cast_two_pow52, zpow2_mul (show (52 : ℤ) + (ilog2 a - 52) = ilog2 a by ring)]
    _ ≤ _ := mul_le_mul_of_nonneg_right (by exact_mod_cast h) (zpow2_pos _).le

theorem rnd_idem (m : ℤ) {a : ℚ} (ha : 0 < a) (hr : 0 < rnd m a) : rnd m (rnd m a) = rnd m a := by
  obtain ⟨-, h0, h53⟩ := significand_bounds (m := m) ha
  rcases lt_or_eq_of_le h0 with hpos | hzero
  · exact rnd_fix_of_form m (max (ilog2 a) m) _ (le_max_right _ _) hpos h53
  · unfold rnd at hr; rw [← hzero] at hr; simp at hr

/-- the fixed point `y` is a whole number of units in the last place of the smaller `x` -/
theorem rnd_le_of_le_fix {m : ℤ} {x y : ℚ} (hx : 0 < x) (h : x ≤ y) (hy : rnd m y = y) : rnd m x ≤ y := by
  have hmono := ilog2_mono hx h
  unfold rnd at hy ⊢
  set ex : ℤ := max (ilog2 x) m with hex
  set ey : ℤ := max (ilog2 y) m with hey
  obtain ⟨j, hj⟩ := Int.eq_ofNat_of_zero_le (show 0 ≤ ey - ex by omega)
  have hM : y = ((roundHalfEven (y / (2 : ℚ) ^ (ey - 52)) * 2 ^ j : ℤ) : ℚ) * (2 : ℚ) ^ (ex - 52) := by
    conv_lhs => rw [← hy]
    rw [← zpow2_mul (show (j : ℤ) + (ex - 52) = ey - 52 by omega), zpow_natCast]
    push_cast
    ring
  have hu := zpow2_pos (ex - 52)
  have hxM : x / (2 : ℚ) ^ (ex - 52) ≤ ((roundHalfEven (y / (2 : ℚ) ^ (ey - 52)) * 2 ^ j : ℤ) : ℚ) := by
    rw [div_le_iff₀ hu, ← hM]; exact h
  calc (roundHalfEven (x / (2 : ℚ) ^ (ex - 52)) : ℚ) * (2 : ℚ) ^ (ex - 52)
      ≤ ((roundHalfEven (y / (2 : ℚ) ^ (ey - 52)) * 2 ^ j : ℤ) : ℚ) * (2 : ℚ) ^ (ex - 52) :=
        mul_le_mul_of_nonneg_right (by exact_mod_cast roundHalfEven_le hxM) hu.le
    _ = y := hM.symm

theorem le_rnd_of_fix_le {m : ℤ} {x y : ℚ} (hypos : 0 < y) (h : y ≤ x) (hy : rnd m y = y) : y ≤ rnd m x := by
  have hx : 0 < x := hypos.trans_le h
  have hmono := ilog2_mono hypos h
  unfold rnd at hy ⊢
  set ex : ℤ := max (ilog2 x) m with hex
  set ey : ℤ := max (ilog2 y) m with hey
  have hu := zpow2_pos (ex - 52)
  by_cases hee : ey = ex
  · -- same unit in the last place: `y` is a whole number of them
    rw [hee] at hy
    have hxM : ((roundHalfEven (y / (2 : ℚ) ^ (ex - 52)) : ℤ) : ℚ) ≤ x / (2 : ℚ) ^ (ex - 52) := by
      rw [le_div_iff₀ hu, hy]; exact h
    calc y = (roundHalfEven (y / (2 : ℚ) ^ (ex - 52)) : ℚ) * (2 : ℚ) ^ (ex - 52) := hy.symm
      _ ≤ _ := mul_le_mul_of_nonneg_right (by exact_mod_cast le_roundHalfEven hxM) hu.le
  · -- `x` is in a higher binade: `rnd m x ≥ 2^ex > y`
    have hex' : ex = ilog2 x ∧ ilog2 y < ex := by omega
    have hylt : y < (2 : ℚ) ^ ex := lt_of_lt_of_le (Radii.ilog2_spec y hypos).2 (zpow2_le.mpr (by omega))
    have hxge : (((2 : ℤ) ^ 52 : ℤ) : ℚ) ≤ x / (2 : ℚ) ^ (ex - 52) := by
      rw [le_div_iff₀ hu, cast_two_pow52, zpow2_mul (show (52 : ℤ) + (ex - 52) = ex by ring), hex'.1]
      exact (Radii.ilog2_spec x hx).1
    calc y ≤ (2 : ℚ) ^ ex := hylt.le
      _ = (((2 : ℤ) ^ 52 : ℤ) : ℚ) * (2 : ℚ) ^ (ex - 52) := by
          rw [cast_two_pow52, zpow2_mul (show (52 : ℤ) + (ex - 52) = ex by ring)]
      _ ≤ _ := mul_le_mul_of_nonneg_right (by exact_mod_cast le_roundHalfEven hxge) hu.le

end F64
end QcelVerif
