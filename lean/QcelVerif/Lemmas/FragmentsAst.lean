import QcelVerif.Model.FragmentsSrc
/-!
# C15 — lemmas about the evaluator of `Model/FragmentsAst.lean` and the encodings of `Model/FragmentsSrc.lean`

Nothing here mentions the generated terms.
-/
namespace QcelVerif.FragSrc
open QcelVerif.FragAst QcelVerif.ChgMult

-- The equation lemmas of these functions are derived here once; without this, every proof that unfolds them derives them again.
section
attribute [local simp] evalE evalK exec
end

/-! ## the evaluator's list functions -/

theorem mapO_map {α β γ} (f : β → Option γ) (g : α → β) (h : α → γ) : ∀ (l : List α), (∀ a ∈ l, f (g a) = some (h a)) →
    mapO f (l.map g) = some (l.map h)
  | [], _ => rfl
  | a :: t, hl => by
    simp [mapO, hl a (by simp), mapO_map f g h t (fun b hb => hl b (by simp [hb]))]

theorem osum_intL (l : List Int) : osum (intL l) = some (isum l) := by
  induction l with
  | nil => rfl
  | cons x t ih => simp [intL, osum, isum] at *; simp [ih]

example : osum (intL [1, 2, 3]) = some 6 := by decide

theorem nth?_intL (l : List Int) (i : Nat) (h : i < l.length) : nth? (intL l) (i : Int) = some (some (l.getD i 0)) := by
  simp [nth?, intL, h, List.getD_eq_getElem?_getD]

theorem nth?_natL (l : List Nat) (i : Nat) (h : i < l.length) : nth? (natL l) (i : Int) = some (some ((l.getD i 0 : Nat) : Int)) := by
  simp [nth?, natL, h, List.getD_eq_getElem?_getD]

theorem natL_append (a b : List Nat) : natL (a ++ b) = natL a ++ natL b := by simp [natL]

theorem contains_natL (fr : List Nat) (i : Nat) : (natL fr).contains (some (i : Int)) = fr.contains i := by
  induction fr with
  | nil => rfl
  | cons a t ih => simp [natL, Int.natCast_inj] at *

theorem mem_natL (fr : List Nat) (i : Nat) : some (i : Int) ∈ natL fr ↔ i ∈ fr := by
  simp [natL, Int.natCast_inj]

/-- a comprehension over a mapped list whose filter always passes -/
theorem compO_map {α β} {cond : α → Option Bool} {body : α → Option (Option Int)} (g : β → α) (f : β → Option Int)
    (hc : ∀ a, cond a = some true) : ∀ l : List β, (∀ b ∈ l, body (g b) = some (f b)) →
    compO cond body (l.map g) = some (l.map f)
  | [], _ => rfl
  | b :: t, h => by
    simp [compO, hc, h b (by simp), compO_map g f hc t (fun i hi => h i (by simp [hi]))]

theorem evalE_comp_eq (inp v : List Val) (body : Expr) (x : Nat) (src cond : Expr) :
    evalE inp v (.comp body x src cond) =
    (match evalE inp v src with
      | some (.l xs) =>
          (compO (fun a => (evalE inp (setSlot v x (.s a)) cond).map Val.truthy)
                 (fun a => match evalE inp (setSlot v x (.s a)) body with
                    | some (.s r) => some r
                    | _ => Option.none) xs).map .l
      | _ => none) := by rfl

/-! ## encoded lists and inputs of `get_fragment` -/

/-- a list of lists under construction: Python's `[]` is also the empty list of lists -/
def llv (xss : List (List (Option Int))) : Val :=
  match xss with
  | [] => .l []
  | _ => .ll xss

theorem appendVal_llv (xss : List (List (Option Int))) (ys : List (Option Int)) :
    appendVal (llv xss) (.l ys) = some (llv (xss ++ [ys])) := by
  cases xss <;> simp [llv, appendVal]

theorem appendVal_l_s (xs : List (Option Int)) (a : Option Int) : appendVal (.l xs) (.s a) = some (.l (xs ++ [a])) := rfl

theorem nth?_range (n i : Nat) (h : i < n) : nth? (natL (List.range n)) (i : Int) = some (some (i : Int)) := by
  simp [nth?, natL, h]

/-- what the body of `get_fragment` reads of `self`: the fragments, the three per-atom arrays as row references `0..n-1`,
the fragment charges and multiplicities -/
structure GfInp (inp : List Val) (n : Nat) (frags : List (List Nat)) (fcs fms : List Int) : Prop where
  frags : inp[0]? = some (.ll (frags.map natL))
  symbols : inp[1]? = some (.l (natL (List.range n)))
  masses : inp[2]? = some (.l (natL (List.range n)))
  geometry : inp[3]? = some (.l (natL (List.range n)))
  fc : inp[4]? = some (.l (intL fcs))
  fm : inp[5]? = some (.l (intL fms))

theorem gfInp_inputs (n : Nat) (zs : List Int) (real : List Bool) (frags : List (List Nat)) (fcs fms : List Int) (c : Int) :
    GfInp (inputs n zs real frags fcs fms c) n frags fcs fms :=
  ⟨rfl, rfl, rfl, rfl, rfl, rfl⟩

theorem mapO_natL_range (n : Nat) (fr : List Nat) (h : ∀ y ∈ fr, y < n) :
    mapO (fancy (natL (List.range n))) (natL fr) = some (natL fr) := by
  exact mapO_map _ _ _ fr (fun y hy => by simp [fancy, nth?_range n y (h y hy)])

/-- the state after the common initialisations, when `if group_fragments:` is reached -/
def gfStart (R G : List Nat) (orient group : Bool) : St Int :=
  ⟨[.s none, .l (natL R), .l (natL G), b2v orient, b2v group, .l [], .l [], .l [], .l [], .l [], .l [], .l [],
    .s (some 0), .s none, .s none, .s none, .s none, .s none, .s none, .s none, .s none, .s none, .s none, .s none, .s none,
    .s none, .s none, .s none, .s none, .s none, .s none, .s none, .s none], []⟩

end QcelVerif.FragSrc
