import QcelVerif.Lemmas.C07ReCaps
/-!
C07 — the generated ASTs of `Gen/FromStringRegex.lean` for NUMBER, SEP, ENDL, CHGMULT, xyz1strict, xyz1, xyz2, cgmp and the
comment pattern, cut into the stages the hand recognisers of M1 have.  (The shapes of the other patterns are next to their
proofs: `C07ReAtomShapes`, `C07ReKeywords`, `C07ReUnits`, `C07ReFrags`, `C07ReEfp`.)
A `…_shape` theorem is proved by `rfl`: an edit of the pattern in the source that changes CPython's parse tree breaks it
(and with it the build of everything that reasons about the pattern).
-/
namespace QcelVerif.MolText
open QcelVerif.Regex QcelVerif.Gen

/-! ## building blocks -/

/-- `\d+` -/
def digits1 : Re := .rep 1 none true (.cls false [.digit])
/-- `\d*` -/
def digits0 : Re := .rep 0 none true (.cls false [.digit])
/-- `[-+]?` -/
def signOpt : Re := .rep 0 (some 1) true (.cls false [.ch 45, .ch 43])
/-- `(?:[DdEe][-+]?\d+)?` -/
def expOpt : Re := .rep 0 (some 1) true (.seq (.cls false [.ch 68, .ch 100, .ch 69, .ch 101]) (.seq signOpt digits1))
/-- `.` (the literal dot of NUMBER) -/
def dot : Re := .cls false [.ch 46]
-- the three alternatives of NUMBER, in source order: `.num`, `num.`, `num`
def numA1 : Re := .seq signOpt (.seq digits0 (.seq dot (.seq digits1 expOpt)))
def numA2 : Re := .seq signOpt (.seq digits1 (.seq dot (.seq digits0 expOpt)))
def numA3 : Re := .seq signOpt (.seq digits1 expOpt)
def numberBody : Re := .alt numA1 (.alt numA2 numA3)
/-- SEP = `[\t ,]+` -/
def sepPlus : Re := .rep 1 none true (.cls false [.ch 9, .ch 32, .ch 44])

/-! ## shapes -/

theorem number_shape : FromStringRegex.number = .group 1 numberBody := rfl
theorem sep_shape : FromStringRegex.sep = sepPlus := rfl
theorem endl_shape : FromStringRegex.endl = .seq (.rep 0 none true (.cls false [.ch 9, .ch 32, .ch 44])) .eolFinal := rfl
/-- CHGMULT = `(?P<chg>NUMBER)` SEP `(?P<mult>\d+)` -/
def chgmultRe : Re := .seq (.group 1 (.group 2 numberBody)) (.seq sepPlus (.group 3 digits1))
theorem chgmult_shape : FromStringRegex.chgmult = chgmultRe := rfl
theorem xyz2_shape : FromStringRegex.xyz2 = .seq .bos chgmultRe := rfl
theorem cgmp_shape : FromStringRegex.cgmp = .seq .bos (.seq (.group 1 (.group 2 numberBody)) (.seq sepPlus (.seq (.group 3 digits1) .eos))) := rfl
theorem xyz1strict_shape : FromStringRegex.xyz1strict = .seq .bos (.seq (.group 1 digits1) .eos) := rfl

-- the comment pattern `(^|[^\\])#.*`: `(^|[^\\])`, then `#.*`
def commentHead : Re := .group 1 (.alt .bos (.cls true [.ch 92]))
def commentTail : Re := .seq (.cls false [.ch 35]) (.rep 0 none true (.cls true [.ch 10]))
theorem comment_shape : FromStringRegex.comment = .seq commentHead commentTail := rfl

-- `((?P<ubohr>(bohr|au))|(?P<uang>ang))?` under IGNORECASE: the three words, then the optional group (`xyz1Unit`)
def wordBohr : Re := .seq (.cls false [.ch 98, .ch 66]) (.seq (.cls false [.ch 111, .ch 79]) (.seq (.cls false [.ch 104, .ch 72]) (.cls false [.ch 114, .ch 82])))
def wordAu : Re := .seq (.cls false [.ch 97, .ch 65]) (.cls false [.ch 117, .ch 85])
def wordAng : Re := .seq (.cls false [.ch 97, .ch 65]) (.seq (.cls false [.ch 110, .ch 78]) (.cls false [.ch 103, .ch 71]))
def xyz1Unit : Re := .rep 0 (some 1) true (.group 2 (.alt (.group 3 (.group 4 (.alt wordBohr wordAu))) (.group 5 wordAng)))
/-- `[\s,]*` -/
def wsComma0 : Re := .rep 0 none true (.cls false [.space, .ch 44])
theorem xyz1_shape : FromStringRegex.xyz1 = .seq .bos (.seq (.group 1 digits1) (.seq wsComma0 (.seq xyz1Unit .eos))) := rfl

theorem xyz1strict_groups : FromStringRegex.xyz1strictG.nat = 1 := rfl
theorem xyz1_groups : FromStringRegex.xyz1G.nat = 1 ∧ FromStringRegex.xyz1G.ubohr = 3 ∧ FromStringRegex.xyz1G.uang = 5 := ⟨rfl, rfl, rfl⟩
theorem xyz2_groups : FromStringRegex.xyz2G.chg = 1 ∧ FromStringRegex.xyz2G.mult = 3 := ⟨rfl, rfl⟩
theorem cgmp_groups : FromStringRegex.cgmpG.chg = 1 ∧ FromStringRegex.cgmpG.mult = 3 := ⟨rfl, rfl⟩

end QcelVerif.MolText
