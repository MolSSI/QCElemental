import QcelVerif.Model.Protocols
/-!
Helper lemmas for C20 (everything that is not a property statement).
-/
namespace QcelVerif.Protocols

/-! ### small generalities -/

/-! Both `AtomicResultProperties` and `WavefunctionProperties` put every supplied array `a` through its validator `f`:
the outcome is `a.map f`, the field fails when that is `some none`, and the validated object holds `(a.map f).join`. -/

theorem map_ne_some_none {σ τ : Type} {a : Option σ} {f : σ → Option τ} :
    a.map f ≠ some none ↔ ∀ s, a = some s → ∃ t, f s = some t := by
  cases a with
  | none => simp
  | some s => simp [Option.ne_none_iff_exists']

theorem map_join_eq_some {σ τ : Type} {a : Option σ} {f : σ → Option τ} {t : τ} :
    (a.map f).join = some t ↔ ∃ s, a = some s ∧ f s = some t := by
  rw [Option.join_eq_some_iff, Option.map_eq_some_iff]

theorem map_join_eq_none {σ τ : Type} {a : Option σ} {f : σ → Option τ} (h : a.map f ≠ some none) :
    (a.map f).join = none ↔ a = none := by
  rw [Option.join_eq_none_iff, Option.map_eq_none_iff, or_iff_left h]

theorem map_join_idem {σ : Type} {f : σ → Option σ} (hf : ∀ {s s'}, f s = some s' → f s' = some s') (a : Option σ) :
    ((a.map f).join).map f ≠ some none ∧ (((a.map f).join).map f).join = (a.map f).join := by
  cases a with
  | none => simp
  | some s =>
    cases h : f s with
    | none => simp [h]
    | some s' => simp [h, hf h]

theorem filter_all_eq_nil {κ : Type} {all : List κ} (hall : ∀ k, k ∈ all) (p : κ → Bool) :
    all.filter p = [] ↔ ∀ k, p k = false := by
  simp [List.filter_eq_nil_iff, hall]

theorem Wfn.ext' {β : Type} {w w' : Wfn β} (h1 : w.restricted = w'.restricted) (h2 : w.basis = w'.basis)
    (h3 : ∀ k, w.arr k = w'.arr k) (h4 : ∀ k, w.ptr k = w'.ptr k) : w = w' := by
  cases w; cases w'
  simp only [Wfn.mk.injEq] at *
  exact ⟨h1, h2, funext h3, funext h4⟩

theorem PropsIn.ext' {p q : PropsIn} (h1 : p.natom = q.natom) (h2 : ∀ k, p.arr k = q.arr k) : p = q := by
  cases p; cases q
  simp only [PropsIn.mk.injEq] at *
  exact ⟨h1, funext h2⟩

theorem flatten_eq_flatten {α : Type} : ∀ ls : List (List α), flatten ls = ls.flatten
  | [] => rfl
  | l :: ls => by rw [flatten, flatten_eq_flatten ls, List.flatten_cons]

/-! ### trajectories -/

theorem lastOf_eq_getLast {α : Type} : ∀ (x : α) (l : List α), lastOf x l = (x :: l).getLast (by simp)
  | x, [] => rfl
  | x, y :: ys => by
    rw [List.getLast_cons (by simp : y :: ys ≠ [])]
    exact lastOf_eq_getLast y ys

theorem getElem?_lastOf {α : Type} (x : α) (l : List α) : (x :: l)[l.length]? = some (lastOf x l) := by
  rw [lastOf_eq_getLast, List.getLast_eq_getElem]
  simp

theorem lastOf_sublist {α : Type} (x : α) (l : List α) : [lastOf x l].Sublist (x :: l) := by
  rw [lastOf_eq_getLast]
  exact List.singleton_sublist.mpr (List.getLast_mem _)

/-- the length test of the code only spares a one-step trajectory, which is its own last step -/
theorem trajectoryProtocol_final_cons {α : Type} (x : α) (l : List α) :
    trajectoryProtocol .final (x :: l) = [lastOf x l] := by
  cases l <;> simp [trajectoryProtocol, lastOf]

theorem trajectoryProtocol_initial_and_final_cons {α : Type} (x y : α) (l : List α) :
    trajectoryProtocol .initial_and_final (x :: y :: l) = [x, lastOf y l] := by
  cases l <;> simp [trajectoryProtocol, lastOf]

/-! ### shapes -/

@[simp] theorem prod_nil : prod [] = 1 := rfl
@[simp] theorem prod_cons (x : Nat) (xs : List Nat) : prod (x :: xs) = x * prod xs := rfl
theorem prod_one (x : Nat) : prod [x] = x := by simp
theorem prod_two (x y : Nat) : prod [x, y] = x * y := by simp

theorem isqrtAux_spec (n : Nat) : ∀ k, isqrtAux n k ≤ k ∧ isqrtAux n k * isqrtAux n k ≤ n ∧
    ∀ j, j ≤ k → j * j ≤ n → j ≤ isqrtAux n k
  | 0 => by simp [isqrtAux]
  | k + 1 => by
    have ih := isqrtAux_spec n k
    unfold isqrtAux
    split
    · rename_i h
      exact ⟨Nat.le_refl _, h, fun j hj _ => hj⟩
    · rename_i h
      refine ⟨Nat.le_succ_of_le ih.1, ih.2.1, fun j hj hjn => ?_⟩
      by_cases hjk : j = k + 1
      · subst hjk; exact absurd hjn h
      · exact ih.2.2 j (by omega) hjn

/-- the integer square root recognises perfect squares -/
theorem isqrt_sq (m : Nat) : isqrt (m * m) = m := by
  have h := isqrtAux_spec (m * m) (m * m)
  have h1 : m ≤ isqrt (m * m) := h.2.2 m (Nat.le_mul_self m) (Nat.le_refl _)
  have h2 : isqrt (m * m) ≤ m := Nat.mul_self_le_mul_self_iff.mp h.2.1
  exact Nat.le_antisymm h2 h1

theorem isqrt_sq_iff (n : Nat) : isqrt n * isqrt n = n ↔ ∃ k, k * k = n := by
  constructor
  · intro h; exact ⟨_, h⟩
  · rintro ⟨k, rfl⟩; rw [isqrt_sq]

/-! ### membership in the key universes -/

theorem PropArr.mem_all (k : PropArr) : k ∈ PropArr.all := by
  cases k <;> decide

theorem ArrKey.mem_all (k : ArrKey) : k ∈ ArrKey.all := by
  obtain ⟨b, s⟩ := k
  cases b <;> cases s <;> decide

theorem PtrKey.mem_all (k : PtrKey) : k ∈ PtrKey.all := by
  obtain ⟨b, s⟩ := k
  cases b <;> cases s <;> decide

/-! ### reshape rules -/

theorem reshapeExact_eq_some {t s r : Shape} : reshapeExact t s = some r ↔ (prod s = prod t ∧ r = t) := by
  unfold reshapeExact
  split <;> simp_all [eq_comm]

theorem reshapeRows_eq_some {n : Nat} {s r : Shape} :
    reshapeRows n s = some r ↔ (0 < n ∧ n ∣ prod s ∧ r = [n, prod s / n]) := by
  rw [Nat.dvd_iff_mod_eq_zero]
  unfold reshapeRows
  by_cases hn : n = 0
  · simp [hn]
  · by_cases hd : prod s % n = 0
    · simp [hn, hd, Nat.pos_of_ne_zero hn, eq_comm]
    · simp [hn, hd]

theorem reshapeCols3_eq_some {s r : Shape} :
    reshapeCols3 s = some r ↔ (3 ∣ prod s ∧ r = [prod s / 3, 3]) := by
  rw [Nat.dvd_iff_mod_eq_zero]
  unfold reshapeCols3
  by_cases hd : prod s % 3 = 0
  · simp [hd, eq_comm]
  · simp [hd]

theorem reshapeSquare_eq_some {s r : Shape} :
    reshapeSquare s = some r ↔ ∃ k, k * k = prod s ∧ r = [k, k] := by
  unfold reshapeSquare
  constructor
  · intro h
    by_cases hq : isqrt (prod s) * isqrt (prod s) = prod s
    · simp [hq] at h
      exact ⟨_, hq, h.symm⟩
    · simp [hq] at h
  · rintro ⟨k, hk, rfl⟩
    have : isqrt (prod s) = k := by rw [← hk, isqrt_sq]
    simp [this, hk]

/-- a reshape that looks at nothing but the element count of its argument, and keeps that count: what every reshape of
the validators is.  Idempotence (re-validation) and "as many elements as the shape says" both come from these two facts. -/
structure BySize (f : Shape → Option Shape) : Prop where
  congr : ∀ {s s'}, prod s = prod s' → f s = f s'
  size : ∀ {s t}, f s = some t → prod t = prod s

theorem BySize.idem {f : Shape → Option Shape} (h : BySize f) {s t : Shape} (e : f s = some t) : f t = some t :=
  (h.congr (h.size e)).trans e

theorem BySize.and_size {f : Shape → Option Shape} (h : BySize f) {s r : Shape} {P : Prop} (hp : f s = some r ↔ P) :
    f s = some r ↔ P ∧ prod r = prod s :=
  ⟨fun e => ⟨hp.mp e, h.size e⟩, fun ⟨p, _⟩ => hp.mpr p⟩

theorem bySize_exact (t : Shape) : BySize (reshapeExact t) :=
  ⟨fun h => by simp only [reshapeExact, h], fun e => by obtain ⟨h, rfl⟩ := reshapeExact_eq_some.mp e; exact h.symm⟩

theorem bySize_rows (n : Nat) : BySize (reshapeRows n) :=
  ⟨fun h => by simp only [reshapeRows, h],
   fun e => by obtain ⟨_, hd, rfl⟩ := reshapeRows_eq_some.mp e; simp [Nat.mul_div_cancel' hd]⟩

theorem bySize_cols3 : BySize reshapeCols3 :=
  ⟨fun h => by simp only [reshapeCols3, h],
   fun e => by obtain ⟨hd, rfl⟩ := reshapeCols3_eq_some.mp e; simp [Nat.div_mul_cancel hd]⟩

theorem bySize_square : BySize reshapeSquare :=
  ⟨fun h => by simp only [reshapeSquare, h],
   fun e => by obtain ⟨k, hk, rfl⟩ := reshapeSquare_eq_some.mp e; simp [hk]⟩

theorem bySize_flat : BySize reshapeFlat :=
  ⟨fun h => by simp only [reshapeFlat, h], fun e => by cases e; simp⟩

theorem bySize_prop (natom : Option Nat) (r : PropRule) : BySize (applyPropRule natom r) := by
  cases r <;> cases natom <;> first | exact bySize_exact _ | exact ⟨fun _ => rfl, fun e => by cases e⟩

theorem bySize_arr (nbf : Option Nat) (r : ArrRule) : BySize (applyArrRule nbf r) ∨ applyArrRule nbf r = some := by
  cases r <;> cases nbf <;>
    first | exact .inl (bySize_exact _) | exact .inl (bySize_rows _) | exact .inl bySize_flat | exact .inr rfl

theorem applyArrRule_idem {nbf : Option Nat} {r : ArrRule} {s s' : Shape}
    (h : applyArrRule nbf r s = some s') : applyArrRule nbf r s' = some s' := by
  rcases bySize_arr nbf r with hb | hi
  · exact hb.idem h
  · rw [hi]

theorem applyArrRule_size {nbf : Option Nat} {r : ArrRule} {s s' : Shape}
    (h : applyArrRule nbf r s = some s') : prod s' = prod s := by
  rcases bySize_arr nbf r with hb | hi
  · exact hb.size h
  · rw [hi] at h; cases h; rfl

/-! ### properties -/

theorem propFails_nil_iff (p : PropsIn) : propFails p = [] ↔ ∀ k, propOut p k ≠ some none := by
  simp [propFails, filter_all_eq_nil PropArr.mem_all]

theorem validateProps_ok_iff (p o : PropsIn) :
    validateProps p = .ok o ↔ (propFails p = [] ∧ o = { natom := p.natom, arr := fun k => (propOut p k).join }) := by
  unfold validateProps
  cases h : propFails p with
  | nil => simp [eq_comm]
  | cons a t => simp

theorem validateRR_idem {d : Driver} {v v' : RR} (h : validateRR d v = some v') : validateRR d v' = some v' := by
  have key : ∀ {f : Shape → Option Shape}, BySize f → (f v.asShape).map RR.arr = some v' →
      (f v'.asShape).map RR.arr = some v' := by
    intro f hf h
    obtain ⟨t, ht, rfl⟩ := Option.map_eq_some_iff.mp h
    show (f t).map RR.arr = _
    rw [hf.idem ht]; rfl
  cases d with
  | energy => exact rfl
  | properties => exact rfl
  | gradient => exact key bySize_cols3 h
  | hessian => exact key bySize_square h

/-! ### basis sets -/

/-- what `BasisSet(**b)` demands before it looks at `nbf`: no centre reports a shell error and every `atom_map` entry names a centre; a
hypothesis of `nbf_consistent` (Props/C20.lean) and `src_nbf_consistent` (Props/C20Flow.lean) -/
def BasisIn.wellFormed (b : BasisIn) : Prop :=
  flatten (b.centers.map centerLocs) = [] ∧ b.atomMap.all (fun a => (findCenter b.centers a).isSome) = true

theorem validateBasis_ok_iff (b b' : BasisIn) :
    validateBasis b = .ok b' ↔
      (b.wellFormed ∧ (b.nbf = none ∨ b.nbf = some (calcNbf b.centers b.atomMap)) ∧
       b' = { b with nbf := some (calcNbf b.centers b.atomMap) }) := by
  unfold validateBasis BasisIn.wellFormed
  cases hl : flatten (b.centers.map centerLocs) with
  | cons a t => simp
  | nil =>
    cases hm : b.atomMap.all (fun a => (findCenter b.centers a).isSome) with
    | false => simp
    | true =>
      cases hn : b.nbf with
      | none => simp [eq_comm]
      | some v =>
        by_cases hv : v = calcNbf b.centers b.atomMap
        · subst hv
          have : b = { b with nbf := some (calcNbf b.centers b.atomMap) } := by
            cases b; simp_all
          simp only [if_true, true_and, reduceCtorEq, false_or, Except.ok.injEq]
          constructor
          · intro h; subst h; exact this
          · intro h; rw [← this] at h; exact h.symm
        · simp [hv]

theorem validateBasis_mismatch (b : BasisIn) (v : Nat) (hw : b.wellFormed) (hn : b.nbf = some v)
    (hv : v ≠ calcNbf b.centers b.atomMap) : validateBasis b = .error .nbfMismatch := by
  unfold validateBasis
  obtain ⟨h1, h2⟩ := hw
  simp [h1, h2, hn, hv]

/-! ### the keep loop of `_wavefunction_protocol` -/

def emptyRet {β : Type} (r : Bool) (b : Option β) : Wfn β :=
  { restricted := some r, basis := b, arr := fun _ => none, ptr := fun _ => none }

/-- some pointer of `keep` names an array that is not in the dict -/
def dangling {β : Type} (w : Wfn β) (keep : List PtrKey) : Bool :=
  keep.any fun pk => match w.ptr pk with | some t => (w.arr t).isNone | none => false

/-- `ret` with the pointers of `keep` that `w` supplies, and the arrays they name, written over it -/
def overlay {β : Type} (w : Wfn β) (keep : List PtrKey) (ret : Wfn β) : Wfn β :=
  { ret with
    ptr := fun pk => if pk ∈ keep ∧ (w.ptr pk).isSome then w.ptr pk else ret.ptr pk
    arr := fun t => if ∃ pk, pk ∈ keep ∧ w.ptr pk = some t then w.arr t else ret.arr t }

/-- every write of the loop puts `w`'s own value under the key, so the order of the writes does not show -/
theorem keepLoop_eq {β : Type} (w : Wfn β) : ∀ (keep : List PtrKey) (ret : Wfn β),
    keepLoop w keep ret =
      if dangling w keep then .error (.validation ["wavefunction"]) else .ok (overlay w keep ret)
  | [], ret => by
    simp only [keepLoop, dangling, List.any_nil, Bool.false_eq_true, if_false, Except.ok.injEq]
    exact Wfn.ext' rfl rfl (fun k => by simp [overlay]) (fun k => by simp [overlay])
  | rk :: rest, ret => by
    unfold keepLoop
    cases hp : w.ptr rk with
    | none =>
      simp only [keepLoop_eq w rest ret, dangling, List.any_cons, hp, Bool.false_or]
      congr 2
      refine Wfn.ext' rfl rfl (fun k => ?_) (fun k => ?_)
      · simp [overlay, hp]
      · by_cases hk : k = rk <;> simp [overlay, hk, hp]
    | some t =>
      cases ha : w.arr t with
      | none => simp [dangling, hp, ha]
      | some v =>
        simp only [keepLoop_eq w rest _, dangling, List.any_cons, hp, ha, Option.isNone_some, Bool.false_or]
        congr 2
        refine Wfn.ext' rfl rfl (fun k => ?_) (fun k => ?_)
        · by_cases hk : k = t
          · subst hk; simp [overlay, setArr, setPtr, hp, ha]
          · have : t ≠ k := fun e => hk e.symm
            simp [overlay, setArr, setPtr, hp, hk, this]
        · by_cases hk : k = rk
          · subst hk; simp [overlay, setArr, setPtr, hp]
          · simp [overlay, setArr, setPtr, hk]

/-- what a subset protocol keeps of `w`: the pointers of `keep` and the arrays they name -/
def restrict {β : Type} (keep : List PtrKey) (r : Bool) (w : Wfn β) : Wfn β := overlay w keep (emptyRet r w.basis)

theorem restrict_ptr {β : Type} {keep : List PtrKey} {r : Bool} {w : Wfn β} {pk : PtrKey} {t : ArrKey} :
    (restrict keep r w).ptr pk = some t ↔ pk ∈ keep ∧ w.ptr pk = some t := by
  simp only [restrict, overlay, emptyRet]
  by_cases hk : pk ∈ keep
  · cases hp : w.ptr pk <;> simp [hk]
  · simp [hk]

theorem restrict_arr {β : Type} {keep : List PtrKey} {r : Bool} {w : Wfn β} {t : ArrKey} {v : Shape} :
    (restrict keep r w).arr t = some v ↔ (∃ pk, pk ∈ keep ∧ w.ptr pk = some t) ∧ w.arr t = some v := by
  simp only [restrict, overlay, emptyRet]
  split <;> simp [*]

theorem dangling_iff {β : Type} {w : Wfn β} {keep : List PtrKey} :
    dangling w keep = true ↔ ∃ pk, pk ∈ keep ∧ ∃ t, w.ptr pk = some t ∧ w.arr t = none := by
  simp only [dangling, List.any_eq_true]
  constructor
  · rintro ⟨pk, h1, h2⟩
    cases hp : w.ptr pk with
    | none => simp [hp] at h2
    | some t => exact ⟨pk, h1, t, hp, by simpa [hp] using h2⟩
  · rintro ⟨pk, h1, t, h2, h3⟩
    exact ⟨pk, h1, by simp [h2, h3]⟩

theorem not_dangling {β : Type} {w : Wfn β} {keep : List PtrKey} (h : dangling w keep = false) {pk : PtrKey} {t : ArrKey}
    (hk : pk ∈ keep) (hp : w.ptr pk = some t) : ∃ v, w.arr t = some v := by
  cases ha : w.arr t with
  | some v => exact ⟨v, rfl⟩
  | none => rw [dangling_iff.mpr ⟨pk, hk, t, hp, ha⟩] at h; cases h

/-! ### fixed points of the wavefunction protocols -/

def NoBeta {β : Type} (x : Wfn β) : Prop :=
  (∀ k : ArrKey, k.spin = .b → x.arr k = none) ∧ (∀ k : PtrKey, k.spin = .b → x.ptr k = none)

/-- `x` is what protocol `p` leaves alone -/
structure Closed {β : Type} (p : WfnProto) (x : Wfn β) : Prop where
  restricted : ∃ r, x.restricted = some r ∧ (r = true → NoBeta x)
  keep : ∀ keep, keepList p = some keep →
      (∀ pk ak, x.ptr pk = some ak → pk ∈ keep ∧ ∃ v, x.arr ak = some v) ∧
      (∀ ak v, x.arr ak = some v → ∃ pk, pk ∈ keep ∧ x.ptr pk = some ak)

theorem noBeta_dropBeta {β : Type} (w : Wfn β) : NoBeta (dropBeta w) := by
  constructor <;> intro k hk <;> simp [dropBeta, hk]

theorem dropBeta_of_noBeta {β : Type} {x : Wfn β} (h : NoBeta x) : dropBeta x = x := by
  apply Wfn.ext'
  · rfl
  · rfl
  · intro k
    simp only [dropBeta]
    split
    · rename_i hk; exact (h.1 k hk).symm
    · rfl
  · intro k
    simp only [dropBeta]
    split
    · rename_i hk; exact (h.2 k hk).symm
    · rfl

/-- the dict after the `restricted` filter -/
def afterRestricted {β : Type} (r : Bool) (w : Wfn β) : Wfn β := if r then dropBeta w else w

theorem keepList_eq_none {p : WfnProto} (h : keepList p = none) : p = .all ∨ p = .none := by
  cases p <;> simp [keepList] at h ⊢

theorem wfnProtocol_none_ne_some {β : Type} (w w' : Wfn β) : wfnProtocol .none w ≠ .ok (some w') := by
  unfold wfnProtocol
  cases w.restricted <;> simp

theorem wfnProtocol_all {β : Type} (w : Wfn β) (r : Bool) (hr : w.restricted = some r) :
    wfnProtocol .all w = .ok (some (afterRestricted r w)) := by
  simp [wfnProtocol, hr, keepList, afterRestricted]

theorem wfnProtocol_subset {β : Type} (p : WfnProto) (keep : List PtrKey) (hk : keepList p = some keep)
    (w : Wfn β) (r : Bool) (hr : w.restricted = some r) :
    wfnProtocol p w =
      if dangling (afterRestricted r w) keep then .error (.validation ["wavefunction"])
      else .ok (some (restrict keep r (afterRestricted r w))) := by
  have : wfnProtocol p w =
      match keepLoop (afterRestricted r w) keep (emptyRet r (afterRestricted r w).basis) with
      | .ok ret => .ok (some ret)
      | .error e => .error e := by
    cases p <;> simp [keepList] at hk <;> subst hk <;> simp [wfnProtocol, hr, keepList, afterRestricted, emptyRet]
    all_goals rfl
  rw [this, keepLoop_eq]
  cases dangling (afterRestricted r w) keep <;> rfl

theorem wfnProtocol_subset_ok {β : Type} {p : WfnProto} {keep : List PtrKey} (hk : keepList p = some keep) {w w' : Wfn β}
    {r : Bool} (hr : w.restricted = some r) (h : wfnProtocol p w = .ok (some w')) :
    dangling (afterRestricted r w) keep = false ∧ w' = restrict keep r (afterRestricted r w) := by
  rw [wfnProtocol_subset p keep hk w r hr] at h
  cases hd : dangling (afterRestricted r w) keep <;> simp [hd] at h
  exact ⟨rfl, h.symm⟩

theorem wfnProtocol_no_restricted {β : Type} (p : WfnProto) (w : Wfn β) (hr : w.restricted = none) :
    wfnProtocol p w = .error (.validation ["wavefunction"]) := by
  simp [wfnProtocol, hr]

theorem afterRestricted_restricted {β : Type} (r : Bool) (w : Wfn β) :
    (afterRestricted r w).restricted = w.restricted ∧ (afterRestricted r w).basis = w.basis := by
  cases r <;> simp [afterRestricted, dropBeta]

theorem afterRestricted_noBeta {β : Type} (w : Wfn β) : NoBeta (afterRestricted true w) := by
  simpa [afterRestricted] using noBeta_dropBeta w

/-- whatever a protocol returns is one of its fixed points -/
theorem closed_of_protocol {β : Type} (p : WfnProto) (w w' : Wfn β)
    (h : wfnProtocol p w = .ok (some w')) : Closed p w' := by
  cases hr : w.restricted with
  | none => rw [wfnProtocol_no_restricted p w hr] at h; cases h
  | some r =>
    cases hk : keepList p with
    | none =>
      rcases keepList_eq_none hk with rfl | rfl
      · rw [wfnProtocol_all w r hr] at h
        simp only [Except.ok.injEq, Option.some.injEq] at h
        subst h
        refine ⟨⟨r, ?_, ?_⟩, ?_⟩
        · rw [(afterRestricted_restricted r w).1, hr]
        · intro hrt; subst hrt; exact afterRestricted_noBeta w
        · intro keep hk'; rw [hk] at hk'; cases hk'
      · exact absurd h (wfnProtocol_none_ne_some w w')
    | some keep =>
      obtain ⟨hd, rfl⟩ := wfnProtocol_subset_ok hk hr h
      refine ⟨⟨r, rfl, ?_⟩, ?_⟩
      · intro hrt; subst hrt
        have hnb := afterRestricted_noBeta w
        constructor
        · intro k hk'
          cases hv : (restrict keep true (afterRestricted true w)).arr k with
          | none => rfl
          | some v =>
            have := (restrict_arr.mp hv).2
            rw [hnb.1 k hk'] at this; cases this
        · intro k hk'
          cases hv : (restrict keep true (afterRestricted true w)).ptr k with
          | none => rfl
          | some v =>
            have := (restrict_ptr.mp hv).2
            rw [hnb.2 k hk'] at this; cases this
      · intro keep' hk'
        rw [hk] at hk'; cases hk'
        constructor
        · intro pk ak hpa
          obtain ⟨h1, h2⟩ := restrict_ptr.mp hpa
          -- the selected pointer resolved, otherwise the loop would have failed
          obtain ⟨v, hv⟩ := not_dangling hd h1 h2
          exact ⟨h1, v, restrict_arr.mpr ⟨⟨pk, h1, h2⟩, hv⟩⟩
        · intro ak v hv
          obtain ⟨⟨pk, h1, h2⟩, _⟩ := restrict_arr.mp hv
          exact ⟨pk, h1, restrict_ptr.mpr ⟨h1, h2⟩⟩

/-- a fixed point is returned unchanged -/
theorem protocol_of_closed {β : Type} (p : WfnProto) (hp : p ≠ .none) (x : Wfn β) (hc : Closed p x) :
    wfnProtocol p x = .ok (some x) := by
  obtain ⟨r, hr, hnb⟩ := hc.restricted
  have hx : afterRestricted r x = x := by
    cases r with
    | false => rfl
    | true => simpa [afterRestricted] using dropBeta_of_noBeta (hnb rfl)
  cases hk : keepList p with
  | none =>
    rcases keepList_eq_none hk with rfl | rfl
    · rw [wfnProtocol_all x r hr, hx]
    · exact absurd rfl hp
  | some keep =>
    obtain ⟨hc1, hc2⟩ := hc.keep keep hk
    have hd : dangling x keep = false := by
      cases hd : dangling x keep with
      | false => rfl
      | true =>
        obtain ⟨pk, _, t, h2, h3⟩ := dangling_iff.mp hd
        obtain ⟨v, hv⟩ := (hc1 pk t h2).2
        rw [h3] at hv; cases hv
    have hres : restrict keep r x = x := by
      refine Wfn.ext' hr.symm rfl (fun ak => Option.ext fun v => ?_) (fun pk => Option.ext fun ak => ?_)
      · rw [restrict_arr]; exact ⟨fun h => h.2, fun h => ⟨hc2 ak v h, h⟩⟩
      · rw [restrict_ptr]; exact ⟨fun h => h.2, fun h => ⟨(hc1 pk ak h).1, h⟩⟩
    rw [wfnProtocol_subset p keep hk x r hr, hx, hd, hres]; rfl

/-! ### WavefunctionProperties validation -/

theorem arrFails_nil_iff {β : Type} (nbf : Option Nat) (w : Wfn β) :
    arrFails nbf w = [] ↔ ∀ k, arrOut nbf w k ≠ some none := by
  simp [arrFails, filter_all_eq_nil ArrKey.mem_all]

theorem ptrFails_nil_iff {β : Type} (nbf : Option Nat) (w : Wfn β) :
    ptrFails nbf w = [] ↔ ∀ pk ak, w.ptr pk = some ak → ∃ v, (arrOut nbf w ak).join = some v := by
  rw [ptrFails, filter_all_eq_nil PtrKey.mem_all]
  refine forall_congr' fun pk => ?_
  unfold ptrBad
  cases w.ptr pk with
  | none => simp
  | some ak => simp [Option.isSome_iff_exists]

theorem validateBasis_fields_ne_nil (b : BasisIn) : validateBasis b ≠ .error (.fields []) := by
  unfold validateBasis
  cases hl : flatten (b.centers.map centerLocs) with
  | cons a t => simp
  | nil =>
    cases hm : b.atomMap.all (fun a => (findCenter b.centers a).isSome) with
    | false => simp
    | true =>
      cases hn : b.nbf with
      | none => simp
      | some v =>
        by_cases hv : v = calcNbf b.centers b.atomMap
        · simp [hv]
        · simp [hv]

theorem basisStage_ok_nil (b : Option BasisIn) (b' : Option BasisIn) :
    basisStage b = .ok (b', []) ↔ ∃ b0 b1, b = some b0 ∧ validateBasis b0 = .ok b1 ∧ b' = some b1 := by
  unfold basisStage
  cases b with
  | none => simp
  | some b0 =>
    cases hv : validateBasis b0 with
    | ok b1 =>
      simp only [hv]
      constructor
      · intro h
        simp only [Except.ok.injEq, Prod.mk.injEq, and_true] at h
        exact ⟨b0, b1, rfl, hv, h.symm⟩
      · rintro ⟨b0', b1', h0, h1, rfl⟩
        cases h0; rw [hv] at h1; cases h1; rfl
    | error e =>
      have hno : ¬ ∃ b0' b1, some b0 = some b0' ∧ validateBasis b0' = .ok b1 ∧ b' = some b1 := by
        rintro ⟨b0', b1', h0, h1, _⟩
        cases h0; rw [hv] at h1; cases h1
      cases e with
      | nbfMismatch =>
        simp only [hv]
        constructor
        · intro h; cases h
        · intro h; exact absurd h hno
      | fields l =>
        cases l with
        | nil => exact absurd hv (validateBasis_fields_ne_nil b0)
        | cons a t =>
          simp only [hv]
          constructor
          · intro h; simp at h
          · intro h; exact absurd h hno

theorem wfnLocs_nil_iff (b' : Option BasisIn) (blocs : List String) (w : Wfn BasisIn) :
    wfnLocs b' blocs w = [] ↔
      (blocs = [] ∧ w.restricted.isSome = true ∧ arrFails (b'.bind (·.nbf)) w = [] ∧ ptrFails (b'.bind (·.nbf)) w = []) := by
  unfold wfnLocs
  cases hr : w.restricted with
  | none => simp
  | some r => simp [List.append_eq_nil_iff]

/-- the conditions under which `WavefunctionProperties(**w)` is accepted, and what it then is -/
theorem validateWfn_ok_iff (x y : Wfn BasisIn) :
    validateWfn x = .ok y ↔
      ∃ b b', x.basis = some b ∧ validateBasis b = .ok b' ∧ x.restricted.isSome = true ∧
        arrFails b'.nbf x = [] ∧ ptrFails b'.nbf x = [] ∧
        y = { restricted := x.restricted, basis := some b', arr := fun k => (arrOut b'.nbf x k).join, ptr := x.ptr } := by
  unfold validateWfn
  cases hs : basisStage x.basis with
  | error e =>
    simp only [reduceCtorEq, false_iff, not_exists, not_and]
    intro b b' hb hv
    have : basisStage x.basis = .ok (some b', []) := (basisStage_ok_nil _ _).mpr ⟨b, b', hb, hv, rfl⟩
    rw [hs] at this; cases this
  | ok pr =>
    obtain ⟨bo, blocs⟩ := pr
    simp only
    cases hl : wfnLocs bo blocs x with
    | cons a t =>
      simp only [reduceCtorEq, false_iff, not_exists, not_and]
      intro b b' hb hv h1 h2 h3
      have hs' : basisStage x.basis = .ok (some b', []) := (basisStage_ok_nil _ _).mpr ⟨b, b', hb, hv, rfl⟩
      rw [hs] at hs'
      simp only [Except.ok.injEq, Prod.mk.injEq] at hs'
      obtain ⟨rfl, rfl⟩ := hs'
      have := (wfnLocs_nil_iff (some b') [] x).mpr ⟨rfl, h1, h2, h3⟩
      rw [hl] at this; cases this
    | nil =>
      obtain ⟨hb0, h1, h2, h3⟩ := (wfnLocs_nil_iff bo blocs x).mp hl
      subst hb0
      obtain ⟨b0, b1, hb, hv, rfl⟩ := (basisStage_ok_nil _ _).mp hs
      simp only [Option.bind_some] at h2 h3
      simp only [Except.ok.injEq, Option.bind_some]
      constructor
      · intro h; exact ⟨b0, b1, hb, hv, h1, h2, h3, h.symm⟩
      · rintro ⟨b, b', hb', hv', _, _, _, rfl⟩
        rw [hb] at hb'; cases hb'
        rw [hv] at hv'; cases hv'
        rfl

theorem arrOut_join_some {β : Type} {nbf : Option Nat} {w : Wfn β} {k : ArrKey} {s' : Shape} :
    (arrOut nbf w k).join = some s' ↔ ∃ s, w.arr k = some s ∧ applyArrRule nbf (arrRule k.base) s = some s' :=
  map_join_eq_some

/-- accepted: present arrays stay present (validated), absent stay absent -/
theorem validated_arr_presence {β : Type} {nbf : Option Nat} {w : Wfn β} (hf : arrFails nbf w = []) (k : ArrKey) :
    (arrOut nbf w k).join = none ↔ w.arr k = none :=
  map_join_eq_none ((arrFails_nil_iff nbf w).mp hf k)

end QcelVerif.Protocols
