import QcelVerif.Model.UnoOrderings
import QcelVerif.Lib.Monadic
import Mathlib.Data.List.Nodup
import Mathlib.Data.List.Basic
import Mathlib.Data.List.Forall2
import Mathlib.Data.List.Perm.Basic
/-!
Helper lemmas for C12's `hungarian_uno` model: the class bookkeeping of `_plausible_atom_orderings`
(`firstSeen`, `positions`, `product`, `assemble` of Model/B787.lean as used by `Uno.candidatesUno`).
-/
namespace QcelVerif.Uno

open QcelVerif.B787 (firstSeen positions product assemble)

theorem mem_positions (k i : Nat) (cls : List Nat) : i ∈ positions k cls ↔ i < cls.length ∧ cls[i]? = some k := by
  simp [positions, List.mem_filter, List.mem_range]

theorem nodup_positions (k : Nat) (cls : List Nat) : (positions k cls).Nodup :=
  List.Nodup.filter _ List.nodup_range

/-- the true map sends the reference atoms of class `k` onto the concern atoms of class `k` -/
theorem positions_perm_map (π : Nat → Nat) (ref cur : List Nat) (hlen : cur.length = ref.length)
    (hperm : ((List.range ref.length).map π).Perm (List.range ref.length))
    (hcls : ∀ a, a < ref.length → cur[π a]? = ref[a]?) (k : Nat) :
    (positions k cur).Perm ((positions k ref).map π) := by
  unfold positions
  rw [hlen]
  have h1 := hperm.symm.filter (fun i => cur[i]? == some k)
  rw [List.filter_map] at h1
  refine h1.trans (List.Perm.of_eq ?_)
  congr 1
  apply List.filter_congr
  intro a ha
  simp only [List.mem_range] at ha
  simp [Function.comp, hcls a ha]

/-- `firstSeen` keeps exactly the values that occur -/
theorem mem_firstSeen (a : Nat) (l : List Nat) : a ∈ firstSeen l ↔ a ∈ l := by
  induction l with
  | nil => simp [firstSeen]
  | cons b t ih =>
    simp only [firstSeen, List.mem_cons, List.mem_filter, ih]
    by_cases h : a = b <;> simp [h]

/-- membership in `itertools.product` is component-wise membership -/
theorem mem_product {α : Type} (l : List α) (gs : List (List α)) :
    l ∈ product gs ↔ List.Forall₂ (fun x g => x ∈ g) l gs := by
  induction gs generalizing l with
  | nil => simp [product]
  | cons g gs ih =>
    simp only [product, List.mem_flatMap, List.mem_map]
    constructor
    · rintro ⟨x, hx, r, hr, rfl⟩
      exact List.Forall₂.cons hx ((ih r).1 hr)
    · intro h
      cases h with
      | cons hx hr => exact ⟨_, hx, _, (ih _).2 hr, rfl⟩

theorem map_getElem?_range (l : List Nat) :
    (List.range l.length).map (fun i => l[i]?) = l.map some := by
  apply List.ext_getElem
  · simp
  · intro i h1 h2
    simp at h1
    simp [h1]

/-- a class-preserving bijection of the positions makes the two label lists permutations of each other -/
theorem perm_of_classes (π : Nat → Nat) (ref cur : List Nat) (hlen : cur.length = ref.length)
    (hperm : ((List.range ref.length).map π).Perm (List.range ref.length))
    (hcls : ∀ a, a < ref.length → cur[π a]? = ref[a]?) : cur.Perm ref := by
  have h1 : (cur.map some).Perm (ref.map some) := by
    rw [← map_getElem?_range cur, ← map_getElem?_range ref, hlen]
    have h2 := hperm.map (fun i => cur[i]?)
    rw [List.map_map] at h2
    refine h2.symm.trans (List.Perm.of_eq ?_)
    apply List.map_congr_left
    intro a ha
    simp only [List.mem_range] at ha
    simp [hcls a ha]
  exact (List.map_perm_map_iff (fun _ _ h => Option.some.inj h)).1 h1

/-- looking up a key in the graph of a function -/
theorem lookup_map_graph (f : Nat → Nat) (M : List Nat) (i : Nat) (h : i ∈ M) :
    (M.map (fun a => (a, f a))).lookup i = some (f i) := by
  induction M with
  | nil => simp at h
  | cons b t ih =>
    simp only [List.map_cons, List.lookup_cons]
    by_cases hb : i = b
    · subst hb; simp
    · have : (i == b) = false := by simpa using hb
      rw [this]
      rcases List.mem_cons.1 h with h | h
      · exact absurd h hb
      · exact ih h

/-- assembling the per-class images of `π` gives back `π` -/
theorem assemble_classes (π : Nat → Nat) (ref : List Nat) :
    assemble ref.length
      (((firstSeen ref).map (fun k => positions k ref)).zip
        ((firstSeen ref).map (fun k => (positions k ref).map π)))
      = some ((List.range ref.length).map π) := by
  unfold assemble
  simp only [List.zip_map', List.flatMap_map, ← List.map_prod_left_eq_zip, ← List.map_flatMap]
  rw [mapM_eq_some_iff, List.map_map]
  refine List.map_congr_left fun i hi => ?_
  simp only [List.mem_range] at hi
  apply lookup_map_graph
  rw [List.mem_flatMap]
  refine ⟨ref[i], (mem_firstSeen _ _).2 (List.getElem_mem hi), ?_⟩
  rw [mem_positions]
  exact ⟨hi, List.getElem?_eq_getElem hi⟩

/-- If, for every class (in order of first appearance in `ref`), the image under `π` of the class's reference
    positions is one of the orderings `filterUno` produces for that class, then the whole atom map
    `[π 0, π 1, …, π (n-1)]` is one of the candidate orderings `candidatesUno` returns. -/
theorem candidates_of_classes (cut : Rat) (ref cur : List Nat) (reds : List Mat) (π : Nat → Nat)
    (hlen : cur.length = ref.length)
    (hperm : ((List.range ref.length).map π).Perm (List.range ref.length))
    (hcls : ∀ a, a < ref.length → cur[π a]? = ref[a]?)
    (hreds : reds.length = (firstSeen ref).length)
    (hclass : ∀ t (h : t < (firstSeen ref).length) (h' : t < reds.length),
      (positions (firstSeen ref)[t] ref).map π ∈ filterUno cut reds[t] (positions (firstSeen ref)[t] cur)) :
    ∃ L, candidatesUno cut ref cur reds = .ok L ∧ (List.range ref.length).map π ∈ L := by
  have hp : ref.isPerm cur = true :=
    List.isPerm_iff.2 (perm_of_classes π ref cur hlen hperm hcls).symm
  unfold candidatesUno
  simp only [hp, Bool.not_true, Bool.false_eq_true, if_false]
  refine ⟨_, rfl, ?_⟩
  rw [List.mem_filterMap]
  refine ⟨(firstSeen ref).map (fun k => (positions k ref).map π), ?_, assemble_classes π ref⟩
  rw [mem_product, List.forall₂_iff_get]
  refine ⟨by simp [hreds], ?_⟩
  intro i h1 h2
  simp only [List.length_map] at h1
  have h3 : i < reds.length := by omega
  simpa using hclass i h1 h3

end QcelVerif.Uno
