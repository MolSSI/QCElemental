import QcelVerif.Model.FixedFmt
import QcelVerif.Lemmas.Decimal
/-! The fixed-point printer `Model/FixedFmt.lean` (C08): lemmas about its digits, then what passing the checker
`isFixedRounding` means (`isFixedRounding_spec`, `_unique`: audited with C08; `_exists`). -/
namespace QcelVerif.FixedFmt

theorem natDigitsAux_eq : ∀ (f n : Nat), n < f → natDigitsAux f n = Nat.toDigits 10 n
  | f + 1, n, _ => by
    have hd : ∀ d, d < 10 → digitChar d = Nat.digitChar d := by decide
    rw [natDigitsAux, Nat.toDigits_eq_if (by decide)]
    split
    · rename_i h; rw [hd n h]
    · rw [natDigitsAux_eq f (n / 10) (by omega), hd _ (Nat.mod_lt _ (by decide))]

theorem natDigits_eq (n : Nat) : natDigits n = Nat.toDigits 10 n := natDigitsAux_eq (n + 1) n (by omega)

theorem digitsVal_append_single (l : Str) (c : Char) :
    digitsVal (l ++ [c]) = digitsVal l * 10 + charVal c := by
  simp [digitsVal, List.foldl_append]

theorem digitsVal_natDigits (n : Nat) : digitsVal (natDigits n) = n := by
  rw [natDigits_eq]; exact Decimal.foldl_toDigits n

theorem isDigitChar_eq (c : Char) : isDigitChar c = c.isDigit := by
  unfold isDigitChar Char.isDigit
  congr 1 <;> exact decide_eq_decide.mpr UInt32.le_iff_toNat_le.symm

theorem natDigits_all_digits (n : Nat) : ∀ c ∈ natDigits n, isDigitChar c = true := by
  intro c hc
  rw [natDigits_eq] at hc
  rw [isDigitChar_eq, Decimal.toDigits_isDigit n c hc]

theorem natDigits_ne_nil (n : Nat) : natDigits n ≠ [] := by
  rw [natDigits_eq]; exact Nat.toDigits_ne_nil

theorem digitsVal_zeros_append (k : Nat) (l : Str) :
    digitsVal (List.replicate k '0' ++ l) = digitsVal l := by
  induction k with
  | zero => simp
  | succ k ih =>
    have : digitsVal ('0' :: (List.replicate k '0' ++ l)) = digitsVal (List.replicate k '0' ++ l) := by
      simp [digitsVal, charVal]
    rw [List.replicate_succ, List.cons_append, this, ih]

theorem padZeros_length (k : Nat) (l : Str) : k ≤ (padZeros k l).length := by
  simp [padZeros]; omega

/-- the rounding the printer uses is a nearest integer, the even one on an exact tie -/
theorem rhe_isNearestEven (tn td : Nat) (h : 0 < td) : IsNearestEven (rhe tn td) tn td := by
  have h1 : td * (tn / td) + tn % td = tn := Nat.div_add_mod tn td
  have hr : tn % td < td := Nat.mod_lt _ h
  have hc : td * (tn / td) = tn / td * td := Nat.mul_comm _ _
  have hs : (tn / td + 1) * td = tn / td * td + td := by rw [Nat.add_mul, Nat.one_mul]
  unfold rhe IsNearestEven
  simp only
  split
  · refine ⟨by omega, by omega, ?_⟩; intro h; omega
  · split
    · rw [hs]; refine ⟨by omega, by omega, ?_⟩; intro h; omega
    · split
      · next he => refine ⟨by omega, by omega, fun _ => he⟩
      · next he => rw [hs]; refine ⟨by omega, by omega, fun _ => by omega⟩

theorem isNearestEven_unique {N N' tn td : Nat} (h : 0 < td)
    (a : IsNearestEven N tn td) (b : IsNearestEven N' tn td) : N = N' := by
  obtain ⟨a1, a2, a3⟩ := a
  obtain ⟨b1, b2, b3⟩ := b
  have key : ∀ {X Y : Nat}, 2 * (X * td) ≤ 2 * tn + td → 2 * tn ≤ 2 * (X * td) + td →
      ((2 * (X * td) = 2 * tn + td ∨ 2 * tn = 2 * (X * td) + td) → X % 2 = 0) →
      2 * (Y * td) ≤ 2 * tn + td → 2 * tn ≤ 2 * (Y * td) + td →
      ((2 * (Y * td) = 2 * tn + td ∨ 2 * tn = 2 * (Y * td) + td) → Y % 2 = 0) → X < Y → False := by
    intro X Y x1 x2 x3 y1 y2 y3 hlt
    by_cases h2 : X + 2 ≤ Y
    · have : (X + 2) * td ≤ Y * td := Nat.mul_le_mul_right td h2
      rw [Nat.add_mul] at this
      omega
    · have hY : Y = X + 1 := by omega
      subst hY
      have hs : (X + 1) * td = X * td + td := by rw [Nat.add_mul, Nat.one_mul]
      rw [hs] at y1 y2 y3
      have e1 : X % 2 = 0 := x3 (Or.inr (by omega))
      have e2 : (X + 1) % 2 = 0 := y3 (Or.inl (by omega))
      omega
  rcases Nat.lt_trichotomy N N' with hlt | heq | hgt
  · exact (key a1 a2 a3 b1 b2 b3 hlt).elim
  · exact heq
  · exact (key b1 b2 b3 a1 a2 a3 hgt).elim

/-- **uniqueness**: for a given sign bit, exact value and precision at most one string passes the checker -/
theorem isFixedRounding_unique {neg : Bool} {q : Rat} {prec : Nat} {s s' : Str}
    (h : isFixedRounding neg q prec s = true) (h' : isFixedRounding neg q prec s' = true) : s = s' := by
  simp only [isFixedRounding, Bool.and_eq_true, decide_eq_true_eq] at h h'
  rw [h.2, h'.2]

/-- … and exactly one does when the sign bit is consistent with the value -/
theorem isFixedRounding_exists {neg : Bool} {q : Rat} {prec : Nat} (hs : signOk neg q = true) :
    isFixedRounding neg q prec (fmtFixedQ neg q prec) = true := by
  simp [isFixedRounding, hs]

theorem fixedDigits_shape (N prec : Nat) :
    ∃ I F : Str, fixedDigits N prec = I ++ (if prec = 0 then [] else '.' :: F) ∧ F.length = prec ∧ I ≠ [] ∧
      digitsVal (I ++ F) = N ∧ ∀ c ∈ I ++ F, isDigitChar c = true := by
  obtain ⟨ds, hds⟩ : ∃ ds, ds = padZeros (prec + 1) (natDigits N) := ⟨_, rfl⟩
  have hlen : prec + 1 ≤ ds.length := by rw [hds]; exact padZeros_length _ _
  refine ⟨ds.take (ds.length - prec), ds.drop (ds.length - prec), ?_, ?_, ?_, ?_, ?_⟩
  · unfold fixedDigits
    rw [← hds]
    by_cases hp : prec = 0
    · simp [hp]
    · simp only [hp, if_false]
  · simp [List.length_drop]; omega
  · intro hnil
    have : (ds.take (ds.length - prec)).length = 0 := by rw [hnil]; rfl
    simp [List.length_take] at this
    omega
  · rw [List.take_append_drop, hds]
    unfold padZeros
    rw [digitsVal_zeros_append, digitsVal_natDigits]
  · rw [List.take_append_drop, hds]
    intro c hc
    unfold padZeros at hc
    simp only [List.mem_append, List.mem_replicate] at hc
    rcases hc with ⟨_, rfl⟩ | hc
    · decide
    · exact natDigits_all_digits N c hc

/-- **what passing means**: the text is `[-]I[.F]` with exactly `prec` fraction digits, all digits, and the
integer `N` it spells (so the decimal value is `N / 10^prec`) is a nearest integer to `|q|·10^prec`, the even
one on an exact tie — i.e. `|N/10^prec − |q|| ≤ ½·10^-prec`; by `isNearestEven_unique` no other `N` qualifies. -/
theorem isFixedRounding_spec {neg : Bool} {q : Rat} {prec : Nat} {s : Str}
    (h : isFixedRounding neg q prec s = true) :
    ∃ I F : Str, s = (if neg then ['-'] else []) ++ I ++ (if prec = 0 then [] else '.' :: F) ∧
      F.length = prec ∧ I ≠ [] ∧ (∀ c ∈ I ++ F, isDigitChar c = true) ∧
      IsNearestEven (digitsVal (I ++ F)) (q.num.natAbs * 10 ^ prec) q.den ∧
      (neg = true → q.num ≤ 0) ∧ (neg = false → 0 ≤ q.num) := by
  simp only [isFixedRounding, Bool.and_eq_true, decide_eq_true_eq] at h
  obtain ⟨hs, rfl⟩ := h
  obtain ⟨I, F, e, hF, hI, hv, hd⟩ := fixedDigits_shape (rhe (q.num.natAbs * 10 ^ prec) q.den) prec
  refine ⟨I, F, ?_, hF, hI, hd, ?_, ?_, ?_⟩
  · unfold fmtFixedQ fmtFixed; rw [e, List.append_assoc]
  · rw [hv]; exact rhe_isNearestEven _ _ q.den_pos
  · intro hn; subst hn; simpa [signOk] using hs
  · intro hn; subst hn; simpa [signOk] using hs

-- test (compiled evaluation, not a theorem): a negative zero at three places
#guard isFixedRounding true (-(1 : Rat) / 10000) 3 "-0.000".toList
-- test: exact ties go to the even digit: 0.125 → 0.12, 0.375 → 0.38
#guard fmtFixed false 1 8 2 = "0.12".toList && fmtFixed false 3 8 2 = "0.38".toList

end QcelVerif.FixedFmt
