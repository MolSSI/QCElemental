import QcelVerif.Model.UnitRender
import QcelVerif.Lib.ListLemmas
/-!
C03 — helper lemmas about the tokenizer of `Model/UnitText.lean` (`lexNum`, `lexAux`, `lex`) on texts that are a concatenation of
lexical pieces (`Model/UnitRender.lean`): every piece is read as its own token when what follows it leaves it alone (`POK`).
`fracPart` / `expPart` / `numFinish` are the three stages of `lexNum` as separate functions (`lexNum_eq`: definitional).  Last lemma:
`convArgs_str`, what `conversion_factor` does with two `str` arguments (used by C03 and by Props/C17FactorText.lean).  Core Lean only.
-/
namespace QcelVerif.Units.Text
open QcelVerif.PStr (Bytes)

-- the text is empty or does not start with a `p`-character: what may follow a run of `p`-characters without extending it
def headNot (p : Nat → Bool) : Bytes → Bool
  | c :: _ => !p c
  | [] => true

theorem takeWhile_app (p : Nat → Bool) (a b : Bytes) (ha : a.all p = true) (hb : headNot p b = true) :
    (a ++ b).takeWhile p = a ∧ (a ++ b).dropWhile p = b :=
  span_append (List.all_eq_true.mp ha) (by
    cases b with
    | nil => simp
    | cons c t => simpa [headNot] using hb)

def expPart (r2 : Bytes) : Int × Bytes × Bool :=
  match r2 with
  | c :: t =>
    if c == 101 || c == 69 then
      match t with
      | 43 :: u => if (u.takeWhile isDigit).isEmpty then (0, r2, false)
                   else ((digitsVal (u.takeWhile isDigit) : Nat), u.dropWhile isDigit, true)
      | 45 :: u => if (u.takeWhile isDigit).isEmpty then (0, r2, false)
                   else (-(digitsVal (u.takeWhile isDigit) : Nat), u.dropWhile isDigit, true)
      | _ => if (t.takeWhile isDigit).isEmpty then (0, r2, false)
             else ((digitsVal (t.takeWhile isDigit) : Nat), t.dropWhile isDigit, true)
    else (0, r2, false)
  | [] => (0, r2, false)

/-- no exponent part is read from a text that `numFollow` accepts -/
theorem expPart_follow (s : Bytes) (h : numFollow s = true) : expPart s = (0, s, false) := by
  cases s with
  | nil => rfl
  | cons c t =>
    unfold expPart
    by_cases hc : (c == 101 || c == 69) = true
    · simp only [hc, if_true]
      simp only [numFollow, hc, Bool.true_and, Bool.and_eq_true, Bool.not_eq_true'] at h
      have he := h.2
      cases t with
      | nil => simp
      | cons d u =>
        simp only [expStart, Bool.or_eq_false_iff] at he
        by_cases hsg : d = 43 ∨ d = 45
        · have : headNot isDigit u = true := by
            cases u with
            | nil => rfl
            | cons d2 _ => rcases hsg with rfl | rfl <;> simpa [headNot] using he.2
          have hu : u.takeWhile isDigit = [] := (takeWhile_app isDigit [] u rfl this).1
          rcases hsg with rfl | rfl <;> simp [hu]
        · have : (d :: u).takeWhile isDigit = [] := by simp [List.takeWhile, he.1]
          split
          · rename_i heq; cases heq; exact absurd (Or.inl rfl) hsg
          · rename_i heq; cases heq; exact absurd (Or.inr rfl) hsg
          · simp [this]
    · simp only [hc]; rfl

theorem expPart_exp (capE : Bool) (esign : Nat) (ed s : Bytes) (hs : esign ≤ 2) (hd : ed.all isDigit = true) (hne : ed ≠ [])
    (hr : headNot isDigit s = true) :
    expPart ((if capE then 69 else 101) :: ((if esign = 1 then [43] else if esign = 2 then [45] else []) ++ (ed ++ s))) =
      ((if esign = 2 then -((digitsVal ed : Nat) : Int) else ((digitsVal ed : Nat) : Int)), s, true) := by
  obtain ⟨h1, h2⟩ := takeWhile_app isDigit ed s hd hr
  have hemp : ed.isEmpty = false := by cases ed with | nil => exact absurd rfl hne | cons _ _ => rfl
  have hc : ((if capE then 69 else 101 : Nat) == 101 || (if capE then 69 else 101 : Nat) == 69) = true := by cases capE <;> rfl
  unfold expPart
  simp only [hc, if_true]
  have h012 : esign = 0 ∨ esign = 1 ∨ esign = 2 := by omega
  rcases h012 with h | h | h
  · subst h
    cases ed with
    | nil => exact absurd rfl hne
    | cons d ed' =>
      have hdd : isDigit d = true := by simp only [List.all_cons, Bool.and_eq_true] at hd; exact hd.1
      have h43 : d ≠ 43 := by intro h; subst h; simp [isDigit] at hdd
      have h45 : d ≠ 45 := by intro h; subst h; simp [isDigit] at hdd
      simp only [if_neg (by decide : ¬ (0 : Nat) = 1), if_neg (by decide : ¬ (0 : Nat) = 2), List.nil_append]
      split
      · rename_i heq; cases heq; exact absurd rfl h43
      · rename_i heq; cases heq; exact absurd rfl h45
      · rw [h1, h2]; simp
  · subst h; simp [h1, h2, hemp]
  · subst h; simp [h1, h2, hemp]
def fracPart (r1 : Bytes) : Bytes × Bytes × Bool :=
  match r1 with
  | 46 :: t => (t.takeWhile isDigit, t.dropWhile isDigit, true)
  | _ => ([], r1, false)

theorem fracPart_dot (fp r : Bytes) (hf : fp.all isDigit = true) (hr : headNot isDigit r = true) :
    fracPart (46 :: (fp ++ r)) = (fp, r, true) := by
  obtain ⟨h1, h2⟩ := takeWhile_app isDigit fp r hf hr
  simp [fracPart, h1, h2]

theorem fracPart_none (r : Bytes) (hr : headNot (· == 46) r = true) : fracPart r = ([], r, false) := by
  unfold fracPart
  split
  · simp [headNot] at hr
  · rfl
def numFinish (ip fp : Bytes) (ex : Int) (dotted hasExp : Bool) (r3 : Bytes) : Except TErr (Tok × Bytes) :=
  match r3 with
  | 95 :: _ => .error .unsupported
  | 46 :: _ => .error .unsupported
  | 106 :: _ => if hasExp then .error .unsupported
                else .ok (.num (digitsVal (ip ++ fp)) (ex - (fp.length : Int)) (!dotted && !hasExp), r3)
  | 74 :: _ => if hasExp then .error .unsupported
               else .ok (.num (digitsVal (ip ++ fp)) (ex - (fp.length : Int)) (!dotted && !hasExp), r3)
  | _ => .ok (.num (digitsVal (ip ++ fp)) (ex - (fp.length : Int)) (!dotted && !hasExp), r3)

theorem lexNum_eq (s : Bytes) : lexNum s =
    (if (s.takeWhile isDigit).isEmpty && (fracPart (s.dropWhile isDigit)).1.isEmpty then .error .unsupported
     else numFinish (s.takeWhile isDigit) (fracPart (s.dropWhile isDigit)).1 (expPart (fracPart (s.dropWhile isDigit)).2.1).1
       (fracPart (s.dropWhile isDigit)).2.2 (expPart (fracPart (s.dropWhile isDigit)).2.1).2.2 (expPart (fracPart (s.dropWhile isDigit)).2.1).2.1) := by
  rfl

theorem numFinish_follow (ip fp : Bytes) (ex : Int) (dotted hasExp : Bool) (s : Bytes) (h : numFollow s = true) :
    numFinish ip fp ex dotted hasExp s = .ok (.num (digitsVal (ip ++ fp)) (ex - (fp.length : Int)) (!dotted && !hasExp), s) := by
  cases s with
  | nil => rfl
  | cons c t =>
    simp only [numFollow, Bool.and_eq_true, Bool.not_eq_true', bne_iff_ne, ne_eq] at h
    obtain ⟨⟨⟨⟨⟨_, h46⟩, h95⟩, h106⟩, h74⟩, _⟩ := h
    unfold numFinish
    split
    · rename_i heq; cases heq; exact absurd rfl h95
    · rename_i heq; cases heq; exact absurd rfl h46
    · rename_i heq; cases heq; exact absurd rfl h106
    · rename_i heq; cases heq; exact absurd rfl h74
    · rfl

theorem numFollow_headNot_digit (s : Bytes) (h : numFollow s = true) : headNot isDigit s = true := by
  cases s with
  | nil => rfl
  | cons c t =>
    simp only [numFollow, Bool.and_eq_true] at h
    simpa [headNot] using h.1.1.1.1.1

theorem numFollow_headNot_dot (s : Bytes) (h : numFollow s = true) : headNot (· == 46) s = true := by
  cases s with
  | nil => rfl
  | cons c t =>
    simp only [numFollow, Bool.and_eq_true, bne_iff_ne, ne_eq] at h
    simpa [headNot] using h.1.1.1.1.2

/-- `NumLit.wf` as propositions -/
theorem NumLit.wf_facts {l : NumLit} (hw : l.wf = true) :
    (l.ip.all isDigit = true ∧ l.fp.all isDigit = true ∧ l.ed.all isDigit = true) ∧ (l.dotted = true ∨ l.fp = []) ∧
    (l.ip ≠ [] ∨ l.fp ≠ []) ∧ (l.hasExp = true → l.ed ≠ []) ∧ l.esign ≤ 2 := by
  simp only [NumLit.wf, Bool.and_eq_true, Bool.or_eq_true, Bool.not_eq_true', decide_eq_true_eq, Bool.and_eq_false_iff,
    List.isEmpty_iff, List.isEmpty_eq_false_iff] at hw
  obtain ⟨⟨⟨⟨⟨⟨hip, hfp⟩, hed⟩, hdot⟩, hne⟩, hex⟩, hsg⟩ := hw
  exact ⟨⟨hip, hfp, hed⟩, hdot, hne, fun h => hex.resolve_left (by simp [h]), hsg⟩

/-- **a NUMBER literal is read as written**, whatever follows it among the texts `numFollow` accepts -/
theorem lexNum_lit (l : NumLit) (s : Bytes) (hw : l.wf = true) (hf : numFollow s = true) :
    lexNum (l.text ++ s) = .ok (l.tok, s) := by
  obtain ⟨⟨hip, hfp, hed⟩, hdot, hne, hex, hsg⟩ := NumLit.wf_facts hw
  have hsd := numFollow_headNot_digit s hf
  -- the exponent part followed by `s`, and that neither a digit nor a `.` comes first
  have hExp : expPart (l.expText ++ s) = (l.expVal, s, l.hasExp) ∧ headNot isDigit (l.expText ++ s) = true ∧
      headNot (· == 46) (l.expText ++ s) = true := by
    unfold NumLit.expText NumLit.expVal
    cases hh : l.hasExp with
    | false => exact ⟨by simpa using expPart_follow s hf, by simpa using hsd, by simpa using numFollow_headNot_dot s hf⟩
    | true =>
      refine ⟨by simpa [List.append_assoc] using expPart_exp l.capE l.esign l.ed s hsg hed (hex hh) hsd, ?_, ?_⟩ <;>
        cases l.capE <;> simp [headNot, isDigit]
  -- the fraction part in front of it
  have hFrac : fracPart (l.fracText ++ (l.expText ++ s)) = (l.fp, l.expText ++ s, l.dotted) ∧
      headNot isDigit (l.fracText ++ (l.expText ++ s)) = true := by
    unfold NumLit.fracText
    cases hd : l.dotted with
    | false =>
      have hfp0 : l.fp = [] := hdot.resolve_left (by simp [hd])
      simpa [hfp0] using And.intro (fracPart_none _ hExp.2.2) hExp.2.1
    | true => exact ⟨by simpa using fracPart_dot l.fp _ hfp hExp.2.1, by simp [headNot, isDigit]⟩
  obtain ⟨hT, hD⟩ := takeWhile_app isDigit l.ip _ hip hFrac.2
  have hnE : (l.ip.isEmpty && l.fp.isEmpty) = false := by
    rcases hne with h | h <;> simp [h]
  unfold NumLit.text
  rw [List.append_assoc, List.append_assoc, lexNum_eq, hT, hD, hFrac.1]
  simp only [hExp.1, hnE, Bool.false_eq_true, if_false]
  rw [numFinish_follow _ _ _ _ _ _ hf]
  rfl

theorem isIdStart_ne32 (c : Nat) (h : isIdStart c = true) : (c == 32) = false := by
  simp only [isIdStart, isAlpha, Bool.or_eq_true, Bool.and_eq_true, decide_eq_true_eq, beq_iff_eq] at h
  simp only [beq_eq_false_iff_ne, ne_eq]
  omega

theorem isIdStart_isIdChar (c : Nat) (h : isIdStart c = true) : isIdChar c = true := by
  simp only [isIdStart, Bool.or_eq_true] at h
  simp only [isIdChar, Bool.or_eq_true]
  rcases h with h | h
  · exact Or.inl (Or.inl h)
  · exact Or.inr h

theorem isDigit_facts (c : Nat) (h : isDigit c = true) : (c == 32) = false ∧ isIdStart c = false := by
  simp only [isDigit, Bool.and_eq_true, decide_eq_true_eq] at h
  refine ⟨by simp only [beq_eq_false_iff_ne, ne_eq]; omega, ?_⟩
  simp only [isIdStart, isAlpha, Bool.or_eq_false_iff, Bool.and_eq_false_iff, decide_eq_false_iff_not, beq_eq_false_iff_ne, ne_eq]
  omega

/-- how a NUMBER starts: a digit, or `.` and a digit -/
def numStart : Bytes → Bool
  | c :: t => isDigit c || (c == 46 && (match t with | d :: _ => isDigit d | [] => false))
  | [] => false

/-- one step of the tokenizer (definitional) -/
theorem lexAux_succ_cons (f c : Nat) (t : Bytes) : lexAux (f + 1) (c :: t) =
    (if c == 32 then lexAux f t
    else if isIdStart c then
      (lexAux f ((c :: t).dropWhile isIdChar)).map (fun l => Tok.name ((c :: t).takeWhile isIdChar) :: l)
    else if numStart (c :: t) then
      match lexNum (c :: t) with
      | .error e => .error e
      | .ok (tok, r) => (lexAux f r).map (fun l => tok :: l)
    else if c == 40 then (lexAux f t).map (fun l => Tok.op .lpar :: l)
    else if c == 41 then (lexAux f t).map (fun l => Tok.op .rpar :: l)
    else if c == 43 then (lexAux f t).map (fun l => Tok.op .plus :: l)
    else if c == 45 then (lexAux f t).map (fun l => Tok.op .minus :: l)
    else if c == 42 then
      match t with
      | 42 :: u => (lexAux f u).map (fun l => Tok.op .pow :: l)
      | _ => (lexAux f t).map (fun l => Tok.op .mul :: l)
    else if c == 47 then
      match t with
      | 47 :: _ => .error .unsupported
      | _ => (lexAux f t).map (fun l => Tok.op .div :: l)
    else .error .unsupported) := rfl

/-- the token list with the token of piece `p` (if it has one) in front -/
def consTok (p : Piece) (l : List Tok) : List Tok := match p.tok with | some t => t :: l | none => l

theorem toks_cons (p : Piece) (ps : List Piece) : toks (p :: ps) = consTok p (toks ps) := by
  unfold toks consTok
  cases h : p.tok <;> simp [h]

theorem lexAux_name (f : Nat) (n s : Bytes) (ts : List Tok) (hn : idShaped n = true) (ho : headNot isIdChar s = true)
    (hs : lexAux f s = .ok ts) : lexAux (f + 1) (n ++ s) = .ok (Tok.name n :: ts) := by
  cases n with
  | nil => simp [idShaped] at hn
  | cons c t =>
    simp only [idShaped, Bool.and_eq_true] at hn
    have hall : (c :: t).all isIdChar = true := by simp [List.all_cons, isIdStart_isIdChar c hn.1, hn.2]
    obtain ⟨h1, h2⟩ := takeWhile_app isIdChar (c :: t) s hall ho
    have h32 := isIdStart_ne32 c hn.1
    show lexAux (f + 1) (c :: (t ++ s)) = _
    rw [lexAux_succ_cons]
    simp only [h32, Bool.false_eq_true, if_false, hn.1, if_true]
    have e : c :: (t ++ s) = (c :: t) ++ s := rfl
    rw [e, h1, h2, hs]; rfl

theorem numStart_text (l : NumLit) (hw : l.wf = true) (s : Bytes) : numStart (l.text ++ s) = true := by
  obtain ⟨⟨hip, hfp, -⟩, hdot, hne, -, -⟩ := NumLit.wf_facts hw
  unfold NumLit.text NumLit.fracText
  cases hi : l.ip with
  | cons d ip' =>
    rw [hi] at hip; simp only [List.all_cons, Bool.and_eq_true] at hip
    simp [numStart, hip.1]
  | nil =>
    cases hf : l.fp with
    | nil => exact absurd hf (hne.resolve_left (fun h => h hi))
    | cons d fp' =>
      rw [hf] at hfp hdot; simp only [List.all_cons, Bool.and_eq_true] at hfp
      simp [numStart, hdot.resolve_right (List.cons_ne_nil _ _), hfp.1]

theorem numStart_facts (c : Nat) (t : Bytes) (h : numStart (c :: t) = true) : (c == 32) = false ∧ isIdStart c = false := by
  simp only [numStart, Bool.or_eq_true, Bool.and_eq_true, beq_iff_eq] at h
  rcases h with h | ⟨rfl, -⟩
  · exact isDigit_facts c h
  · exact ⟨by decide, by decide⟩

theorem lexAux_num (f : Nat) (l : NumLit) (s : Bytes) (ts : List Tok) (hw : l.wf = true) (ho : numFollow s = true)
    (hs : lexAux f s = .ok ts) : lexAux (f + 1) (l.text ++ s) = .ok (l.tok :: ts) := by
  have hst := numStart_text l hw s
  have hlex := lexNum_lit l s hw ho
  cases e : l.text ++ s with
  | nil => rw [e] at hst; cases hst
  | cons c t =>
    rw [e] at hst hlex
    obtain ⟨h32, hid⟩ := numStart_facts c t hst
    rw [lexAux_succ_cons]
    simp only [h32, Bool.false_eq_true, if_false, hid, hst, if_true, hlex, hs]
    rfl

theorem lexAux_star (f : Nat) (s : Bytes) (ts : List Tok) (ho : headNot (· == 42) s = true) (hs : lexAux f s = .ok ts) :
    lexAux (f + 1) (42 :: s) = .ok (Tok.op .mul :: ts) := by
  rw [lexAux_succ_cons]
  simp only [numStart, isIdStart, isAlpha, isDigit, Nat.reduceBEq, Nat.reduceLeDiff, decide_true, decide_false,
    Bool.false_and, Bool.or_self, Bool.false_eq_true, if_false, if_true]
  split
  · simp [headNot] at ho
  · rw [hs]; rfl

theorem lexAux_slash (f : Nat) (s : Bytes) (ts : List Tok) (ho : headNot (· == 47) s = true) (hs : lexAux f s = .ok ts) :
    lexAux (f + 1) (47 :: s) = .ok (Tok.op .div :: ts) := by
  rw [lexAux_succ_cons]
  simp only [numStart, isIdStart, isAlpha, isDigit, Nat.reduceBEq, Nat.reduceLeDiff, decide_true, decide_false,
    Bool.false_and, Bool.or_self, Bool.false_eq_true, if_false, if_true]
  split
  · simp [headNot] at ho
  · rw [hs]; rfl

/-- one piece, followed by a text that leaves it alone, is read as its token -/
theorem lexAux_piece (f : Nat) (p : Piece) (s : Bytes) (ts : List Tok) (hw : pieceWF p = true) (ho : okAfter p s = true)
    (hs : lexAux f s = .ok ts) : lexAux (f + 1) (p.textC ++ s) = .ok (consTok p ts) := by
  -- on a name, `*`, `/` `okAfter p s` unfolds to `headNot` of the characters that would extend the piece
  cases p with
  | nm n => exact lexAux_name f n s ts hw ho hs
  | num l => exact lexAux_num f l s ts hw ho hs
  | star => exact lexAux_star f s ts ho hs
  | slash => exact lexAux_slash f s ts ho hs
  | _ =>
    -- a blank, a parenthesis, a sign, `**`: fixed characters with nothing to look ahead for
    simp only [Piece.textC, Piece.text, List.cons_append, List.nil_append, lexAux_succ_cons]
    simp [hs, consTok, Piece.tok, numStart, isIdStart, isAlpha, isDigit, Except.map]

theorem textC_ne_nil (p : Piece) (hw : pieceWF p = true) : p.textC ≠ [] := by
  cases p with
  | nm n => cases n with
    | nil => simp [pieceWF, idShaped] at hw
    | cons _ _ => simp [Piece.textC, Piece.text]
  | num l =>
    intro h
    have := numStart_text l hw []
    rw [List.append_nil, show l.text = [] from h] at this
    cases this
  | _ => simp [Piece.textC, Piece.text]

theorem flatC_cons (p : Piece) (ps : List Piece) : flatC (p :: ps) = p.textC ++ flatC ps := by
  simp [flatC, List.flatMap_cons]

theorem flatC_append (a b : List Piece) : flatC (a ++ b) = flatC a ++ flatC b := by
  simp [flatC, List.flatMap_append]

/-- **tokenizing a concatenation of pieces**: each piece is read as its own token when what follows it leaves it alone -/
theorem lexAux_pieces (ps : List Piece) (s : Bytes) (ts : List Tok) (hw : ps.all pieceWF = true) (hok : POK ps s = true)
    (hs : ∀ f, s.length ≤ f → lexAux f s = .ok ts) :
    ∀ f, (flatC ps ++ s).length ≤ f → lexAux f (flatC ps ++ s) = .ok (toks ps ++ ts) := by
  induction ps with
  | nil => intro f hf; simpa [flatC, toks] using hs f (by simpa [flatC] using hf)
  | cons p ps ih =>
    intro f hf
    simp only [POK, Bool.and_eq_true] at hok
    simp only [List.all_cons, Bool.and_eq_true] at hw
    have hpos := List.length_pos_iff.mpr (textC_ne_nil p hw.1)
    rw [flatC_cons, List.append_assoc] at hf ⊢
    simp only [List.length_append] at hf
    obtain ⟨f', rfl⟩ : ∃ f', f = f' + 1 := ⟨f - 1, by omega⟩
    have := ih hw.2 hok.2 f' (by simp only [List.length_append]; omega)
    rw [lexAux_piece f' p _ _ hw.1 hok.1 this, toks_cons]
    unfold consTok
    cases p.tok <;> rfl

open RExpr

/-- what the renderer writes after a complete sub-expression: nothing, a blank, `*` (also the first character of `**`), `/` or `)` -/
def Delim : Bytes → Bool
  | [] => true
  | c :: _ => c == 32 || c == 42 || c == 47 || c == 41

theorem Delim_numFollow (s : Bytes) (h : Delim s = true) : numFollow s = true := by
  cases s with
  | nil => rfl
  | cons c t =>
    simp only [Delim, Bool.or_eq_true, beq_iff_eq] at h
    rcases h with ((h | h) | h) | h <;> subst h <;> rfl

theorem Delim_headNot_id (s : Bytes) (h : Delim s = true) : headNot isIdChar s = true := by
  cases s with
  | nil => rfl
  | cons c t =>
    simp only [Delim, Bool.or_eq_true, beq_iff_eq] at h
    rcases h with ((h | h) | h) | h <;> subst h <;> rfl

theorem POK_append (a b : List Piece) (s : Bytes) : POK (a ++ b) s = (POK a (flatC b ++ s) && POK b s) := by
  induction a with
  | nil => simp [POK]
  | cons p a ih => simp [POK, ih, flatC_append, List.append_assoc, Bool.and_assoc]

-- a character a rendered sub-expression can begin with: a digit, `.`, a letter or `_`, `(`  (`pieces_start`)
def goodStart (c : Nat) : Bool := isDigit c || c == 46 || isIdStart c || c == 40

theorem flatC_nil : flatC [] = [] := rfl

theorem goodStart_ne (c : Nat) (h : goodStart c = true) : c ≠ 42 ∧ c ≠ 47 ∧ c ≠ 32 := by
  refine ⟨?_, ?_, ?_⟩ <;> (intro h0; subst h0; revert h; decide)

theorem pieces_start (e : RExpr) (hw : WF e = true) : ∃ c t, flatC (pieces e) = c :: t ∧ goodStart c = true := by
  induction e with
  | num l =>
    have hst := numStart_text l hw []
    rw [List.append_nil] at hst
    cases e : l.text with
    | nil => rw [e] at hst; cases hst
    | cons c t =>
      rw [e] at hst
      refine ⟨c, t, by simp [pieces, flatC, Piece.textC, Piece.text, e], ?_⟩
      simp only [numStart, Bool.or_eq_true, Bool.and_eq_true, beq_iff_eq] at hst
      rcases hst with h | ⟨rfl, -⟩
      · simp [goodStart, h]
      · rfl
  | unit p x name =>
    cases name with
    | nil => simp [WF, idShaped] at hw
    | cons c t =>
      simp only [WF, idShaped, Bool.and_eq_true] at hw
      exact ⟨c, t, by simp [pieces, flatC, Piece.textC, Piece.text], by simp [goodStart, hw.1]⟩
  | paren e _ => exact ⟨40, _, by simp [pieces, flatC, Piece.textC, Piece.text]; rfl, by decide⟩
  | bin dv sp a b iha _ =>
    simp only [WF, Bool.and_eq_true] at hw
    obtain ⟨c, t, h, g⟩ := iha hw.1.1
    exact ⟨c, _, by rw [pieces, flatC_append, h]; rfl, g⟩
  | juxt bl a b iha _ =>
    simp only [WF, Bool.and_eq_true] at hw
    obtain ⟨c, t, h, g⟩ := iha hw.1.1.1
    exact ⟨c, _, by rw [pieces, flatC_append, h]; rfl, g⟩
  | pow a crt l r x iha =>
    simp only [WF, Bool.and_eq_true] at hw
    obtain ⟨c, t, h, g⟩ := iha hw.1.1.1
    exact ⟨c, _, by rw [pieces, flatC_append, h]; rfl, g⟩

theorem Delim_cons (c : Nat) (t : Bytes) (h : c = 32 ∨ c = 42 ∨ c = 47 ∨ c = 41) : Delim (c :: t) = true := by
  rcases h with h | h | h | h <;> subst h <;> rfl

/-- a name that may follow a number directly -/
theorem numFollow_name (n r : Bytes) (hn : idShaped n = true) (hd : directOK n = true) (hr : Delim r = true) :
    numFollow (n ++ r) = true := by
  cases n with
  | nil => simp [idShaped] at hn
  | cons c t =>
    simp only [idShaped, Bool.and_eq_true] at hn
    simp only [directOK, Bool.and_eq_true, bne_iff_ne, ne_eq, Bool.not_eq_true', Bool.and_eq_false_iff] at hd
    obtain ⟨⟨⟨h106, h74⟩, h95⟩, he⟩ := hd
    have hnd : isDigit c = false := by
      have := hn.1
      simp only [isIdStart, isAlpha, Bool.or_eq_true, Bool.and_eq_true, decide_eq_true_eq, beq_iff_eq] at this
      simp only [isDigit, Bool.and_eq_false_iff, decide_eq_false_iff_not]
      omega
    have h46 : c ≠ 46 := by
      intro h; subst h; exact absurd hn.1 (by decide)
    show numFollow (c :: (t ++ r)) = true
    simp only [numFollow, hnd, Bool.not_false, Bool.true_and, Bool.and_eq_true, bne_iff_ne, ne_eq, Bool.not_eq_true',
      Bool.and_eq_false_iff]
    refine ⟨⟨⟨⟨h46, h95⟩, h106⟩, h74⟩, ?_⟩
    rcases he with he | he
    · exact Or.inl he
    · right
      cases t with
      | nil =>
        cases r with
        | nil => rfl
        | cons d u =>
          simp only [Delim, Bool.or_eq_true, beq_iff_eq] at hr
          rcases hr with ((h | h) | h) | h <;> subst h <;> rfl
      | cons d u =>
        have hdc : isIdChar d = true := by simp only [List.all_cons, Bool.and_eq_true] at hn; exact hn.2.1
        have hdd : isDigit d = false := by simpa using he
        have h43 : d ≠ 43 := by intro h; subst h; exact absurd hdc (by decide)
        have h45 : d ≠ 45 := by intro h; subst h; exact absurd hdc (by decide)
        simp [expStart, hdd, h43, h45]

theorem POK_explit (x : ExpLit) (s : Bytes) (hs : Delim s = true) : POK x.pieces s = true := by
  obtain ⟨paren, sign, blank, ds⟩ := x
  have h1 : numFollow s = true := Delim_numFollow s hs
  have h2 : numFollow (41 :: s) = true := rfl
  cases paren <;> cases blank <;> by_cases hs1 : sign = 1 <;> by_cases hs2 : sign = 2 <;>
    simp [ExpLit.pieces, POK, okAfter, flatC, Piece.textC, Piece.text, hs1, hs2, h1, h2]

theorem WF_juxtRight_flat (b : RExpr) (hw : WF b = true) (hj : juxtRight b = true) :
    idShaped (headName b) = true ∧ ∃ r, flatC (pieces b) = headName b ++ r ∧ ∀ s, Delim s = true → Delim (r ++ s) = true := by
  cases b with
  | unit p x name => exact ⟨by simpa [WF, headName] using hw, [], by simp [pieces, flatC, Piece.textC, Piece.text, headName], fun s h => h⟩
  | pow a crt l r ex =>
    cases a with
    | unit p x name =>
      simp only [WF, Bool.and_eq_true] at hw
      refine ⟨hw.1.1.1, flatC (spIf l ++ ((if crt then Piece.caret else Piece.pow2) :: (spIf r ++ ex.pieces))), ?_, ?_⟩
      · rw [pieces, flatC_append]; simp [pieces, flatC_cons, flatC_nil, Piece.textC, Piece.text, headName]
      · intro s _
        cases l <;> cases crt <;> simp [spIf, flatC_cons, flatC_append, Piece.textC, Piece.text, Delim]
    | _ => simp [juxtRight, isUnit] at hj
  | _ => simp [juxtRight] at hj

/-- **every piece of a rendered expression is followed by something that leaves it alone** -/
theorem POK_pieces (e : RExpr) : ∀ s, WF e = true → Delim s = true → POK (pieces e) s = true := by
  induction e with
  | num l => intro s _ hs; simp [pieces, POK, okAfter, flatC, Delim_numFollow s hs]
  | unit p x name =>
    intro s _ hs
    simpa [pieces, POK, flatC] using show okAfter (.nm name) s = true from Delim_headNot_id s hs
  | paren e ih =>
    intro s hw hs
    have := ih (41 :: s) (by simpa [WF] using hw) rfl
    simp [pieces, POK, okAfter, POK_append, flatC, Piece.textC, Piece.text, this]
  | bin dv sp a b iha ihb =>
    intro s hw hs
    simp only [WF, Bool.and_eq_true] at hw
    obtain ⟨c, t, hb, g⟩ := pieces_start b hw.1.2
    obtain ⟨g1, g2, g3⟩ := goodStart_ne c g
    have hB := ihb s hw.1.2 hs
    rw [pieces, POK_append]
    have hA : POK (pieces a) (flatC (spIf sp ++ ((if dv then Piece.slash else Piece.star) :: (spIf sp ++ pieces b))) ++ s) = true := by
      apply iha _ hw.1.1
      cases sp <;> cases dv <;> simp [spIf, flatC_cons, hb, Piece.textC, Piece.text, Delim]
    rw [hA]
    cases sp <;> cases dv <;>
      simp [spIf, POK, okAfter, flatC_cons, hb, hB, g1, g2, Piece.textC, Piece.text]
  | juxt bl a b iha ihb =>
    intro s hw hs
    simp only [WF, Bool.and_eq_true, Bool.or_eq_true] at hw
    obtain ⟨⟨⟨hwa, hwb⟩, hj⟩, hd⟩ := hw
    have hB := ihb s hwb hs
    rw [pieces, POK_append]
    cases bl with
    | true =>
      have hA : POK (pieces a) (flatC (spIf true ++ pieces b) ++ s) = true :=
        iha _ hwa (by simp [spIf, flatC_cons, Piece.textC, Piece.text, Delim])
      rw [hA]; simp [spIf, POK, okAfter, hB]
    | false =>
      rcases hd with hd | hd
      · cases hd
      · obtain ⟨hid, r, hfl, hdel⟩ := WF_juxtRight_flat b hwb hj
        cases a with
        | num l =>
          have : numFollow (headName b ++ (r ++ s)) = true := numFollow_name _ _ hid hd.2 (hdel s hs)
          simp [pieces, POK, okAfter, spIf, flatC_nil, hfl, hB, List.append_assoc, this]
        | _ => simp [isNumLeaf] at hd
  | pow a crt l r x iha =>
    intro s hw hs
    simp only [WF, Bool.and_eq_true] at hw
    have hX := POK_explit x s hs
    rw [pieces, POK_append]
    have hA : POK (pieces a) (flatC (spIf l ++ ((if crt then Piece.caret else Piece.pow2) :: (spIf r ++ x.pieces))) ++ s) = true := by
      apply iha _ hw.1.1.1
      cases l <;> cases crt <;> simp [spIf, flatC_cons, flatC_append, Piece.textC, Piece.text, Delim]
    rw [hA]
    cases l <;> cases crt <;> cases r <;> simp [spIf, POK, okAfter, hX]

theorem caret_append (a b : Bytes) : caret (a ++ b) = caret a ++ caret b := by
  induction a with
  | nil => rfl
  | cons c t ih => by_cases h : (c == 94) = true <;> simp [caret, h, ih]

theorem caret_of_all (s : Bytes) (h : s.all (fun c => c != 94) = true) : caret s = s := by
  induction s with
  | nil => rfl
  | cons c t ih =>
    simp only [List.all_cons, Bool.and_eq_true, bne_iff_ne, ne_eq] at h
    have : (c == 94) = false := by simpa using h.1
    simp [caret, this, ih h.2]

/-- a character of a name or a number -/
def plainChar (c : Nat) : Bool := isIdChar c || c == 46 || c == 43 || c == 45

theorem plainChar_facts (c : Nat) (h : plainChar c = true) : okChar c = true ∧ (c != 94) = true := by
  simp only [plainChar, Bool.or_eq_true, beq_iff_eq] at h
  rcases h with ((h | h) | h) | h
  · refine ⟨by simp [okChar, h], ?_⟩
    simp only [bne_iff_ne, ne_eq]; intro h0; subst h0; exact absurd h (by decide)
  · subst h; exact ⟨by decide, by decide⟩
  · subst h; exact ⟨by decide, by decide⟩
  · subst h; exact ⟨by decide, by decide⟩

theorem all_plain_of_digits (s : Bytes) (h : s.all isDigit = true) : s.all plainChar = true := by
  rw [List.all_eq_true] at h ⊢
  intro c hc
  have := h c hc
  simp only [isDigit, Bool.and_eq_true, decide_eq_true_eq] at this
  simp [plainChar, isIdChar, isDigit, this.1, this.2]

theorem numText_plain (l : NumLit) (hw : l.wf = true) : l.text.all plainChar = true := by
  obtain ⟨⟨hip, hfp, hed⟩, -⟩ := NumLit.wf_facts hw
  have a := all_plain_of_digits _ hip
  have b := all_plain_of_digits _ hfp
  have c := all_plain_of_digits _ hed
  unfold NumLit.text NumLit.fracText NumLit.expText
  cases l.dotted <;> cases l.hasExp <;> cases l.capE <;> by_cases h1 : l.esign = 1 <;> by_cases h2 : l.esign = 2 <;>
    simp [List.all_append, a, b, c, h1, h2] <;> decide

theorem name_plain (n : Bytes) (hn : idShaped n = true) : n.all plainChar = true := by
  cases n with
  | nil => rfl
  | cons c t =>
    simp only [idShaped, Bool.and_eq_true] at hn
    rw [List.all_eq_true]
    intro d hd
    have : isIdChar d = true := by
      rcases List.mem_cons.mp hd with h | h
      · subst h; exact isIdStart_isIdChar _ hn.1
      · exact List.all_eq_true.mp hn.2 d h
    simp [plainChar, this]

theorem piece_text_facts (p : Piece) (hw : pieceWF p = true) : caret p.text = p.textC ∧ p.text.all okChar = true := by
  have plain : ∀ s : Bytes, s.all plainChar = true → caret s = s ∧ s.all okChar = true := by
    intro s hs
    rw [List.all_eq_true] at hs
    refine ⟨caret_of_all s ?_, ?_⟩
    · rw [List.all_eq_true]; intro c hc; exact (plainChar_facts c (hs c hc)).2
    · rw [List.all_eq_true]; intro c hc; exact (plainChar_facts c (hs c hc)).1
  cases p with
  | nm n => exact plain n (name_plain n hw)
  | num l => exact plain _ (numText_plain l hw)
  | _ => exact ⟨by rfl, by decide⟩

theorem flat_facts (ps : List Piece) (hw : ps.all pieceWF = true) : caret (flat ps) = flatC ps ∧ (flat ps).all okChar = true := by
  induction ps with
  | nil => exact ⟨rfl, rfl⟩
  | cons p ps ih =>
    simp only [List.all_cons, Bool.and_eq_true] at hw
    obtain ⟨h1, h2⟩ := ih hw.2
    obtain ⟨g1, g2⟩ := piece_text_facts p hw.1
    have e : flat (p :: ps) = p.text ++ flat ps := by simp [flat, List.flatMap_cons]
    rw [e, caret_append, g1, h1, flatC_cons, List.all_append, g2, h2]
    exact ⟨rfl, rfl⟩

theorem explit_pieces_wf (x : ExpLit) (hx : x.wf = true) : x.pieces.all pieceWF = true := by
  obtain ⟨paren, sign, blank, ds⟩ := x
  simp only [ExpLit.wf, Bool.and_eq_true, Bool.not_eq_true', decide_eq_true_eq] at hx
  have hnum : (NumLit.ofDigits ds).wf = true := by
    simp [NumLit.wf, NumLit.ofDigits, hx.1.1, hx.1.2]
  cases paren <;> cases blank <;> by_cases h1 : sign = 1 <;> by_cases h2 : sign = 2 <;>
    simp [ExpLit.pieces, h1, h2, hnum, pieceWF]

theorem pieces_wf (e : RExpr) (hw : WF e = true) : (pieces e).all pieceWF = true := by
  induction e with
  | num l => simpa [pieces, pieceWF, WF] using hw
  | unit q x name => simpa [pieces, pieceWF, WF] using hw
  | paren e ih => simp [pieces, pieceWF, ih hw]
  | bin dv sp a b iha ihb =>
    simp only [WF, Bool.and_eq_true] at hw
    cases dv <;> cases sp <;> simp [pieces, spIf, pieceWF, iha hw.1.1, ihb hw.1.2]
  | juxt bl a b iha ihb =>
    simp only [WF, Bool.and_eq_true] at hw
    cases bl <;> simp [pieces, spIf, pieceWF, iha hw.1.1.1, ihb hw.1.1.2]
  | pow a crt l r x iha =>
    simp only [WF, Bool.and_eq_true] at hw
    cases crt <;> cases l <;> cases r <;> simp [pieces, spIf, pieceWF, iha hw.1.1.1, explit_pieces_wf x hw.1.2]

theorem POK_blanks (n : Nat) (s : Bytes) : POK (List.replicate n Piece.sp) s = true := by
  induction n with
  | zero => rfl
  | succ n ih => simp [List.replicate_succ, POK, okAfter, ih]

theorem toks_blanks (n : Nat) : toks (List.replicate n Piece.sp) = [] := by
  induction n with
  | zero => rfl
  | succ n ih => simp only [List.replicate_succ, toks_cons, consTok, Piece.tok, ih]

theorem toks_append (a b : List Piece) : toks (a ++ b) = toks a ++ toks b := by
  simp [toks, List.filterMap_append]

theorem Delim_blanks (n : Nat) : Delim (flatC (List.replicate n Piece.sp) ++ []) = true := by
  cases n with
  | zero => rfl
  | succ n => simp [List.replicate_succ, flatC_cons, Piece.textC, Piece.text, Delim]

theorem lexAux_nil (f : Nat) : lexAux f [] = .ok [] := by cases f <;> rfl

/-- **the tokenizer on a rendered expression** (with blanks around it): exactly the tokens of its pieces; and every character of the
    text is in the alphabet of the model -/
theorem lex_renderTop (pre post : Nat) (e : RExpr) (hw : WF e = true) :
    lex (caret (renderTop pre post e)) = .ok (tokensOf e) ∧ (renderTop pre post e).all okChar = true := by
  have hpw : (piecesTop pre post e).all pieceWF = true := by
    simp [piecesTop, pieces_wf e hw, pieceWF]
  obtain ⟨hc, hok⟩ := flat_facts _ hpw
  refine ⟨?_, hok⟩
  have hP : POK (piecesTop pre post e) [] = true := by
    rw [piecesTop, POK_append, POK_append, POK_blanks, POK_blanks, POK_pieces e _ hw (Delim_blanks post)]
    rfl
  have := lexAux_pieces (piecesTop pre post e) [] [] hpw hP (fun f _ => lexAux_nil f) (flatC (piecesTop pre post e)).length (by simp)
  rw [renderTop, hc, lex]
  simp only [List.append_nil] at this
  rw [this, piecesTop, toks_append, toks_append, toks_blanks, toks_blanks]
  simp [tokensOf]

theorem convArgs_str {parse : Bytes → Except TErr Expr} {cv : Expr → Expr → Except Err Rat} {sa sb : Bytes} {a b : Expr}
    (ha : parse sa = .ok a) (hb : parse sb = .ok b) :
    convArgs parse cv (.str sa) (.str sb) = match cv a b with | .ok x => .ok x | .error e => .error (.conv e) := by
  unfold convArgs
  simp only [argExpr, ha, hb, Except.map, isDecimalQty, Bool.or_self, Bool.false_eq_true, if_false]
  cases cv a b <;> rfl

end QcelVerif.Units.Text
