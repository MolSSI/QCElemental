import QcelVerif.Model.MolSchema
import QcelVerif.Model.FromArraysSchema
import QcelVerif.Props.C04
/-!
Bridge between the two record-level schema models (nothing here is a property statement):

  * `Model/MolSchema.lean` (C09): generic scalars, the dtype-1 `{"molecule": …}` nesting, `from_arrays` a
    PARAMETER `fa`;
  * `Model/FromArrays.lean` + `Model/FromArraysSchema.lean` (C04): rationals, flat dictionary, `from_arrays`
    modelled stage by stage.

`toMS` reads a C04 record as a C09 record (`K = Rat`); `inpOfArgs` reads the argument record the C09 model
hands to its `fa` as the C04 model's `from_arrays` input (from_schema.py:60-90); `faOfC04` is the C04
`from_arrays` as the C09 model's parameter.  Integral charges (C04's scope) are embedded by the cast
`Int → Rat` and read back by the numerator.
-/
namespace QcelVerif.FromArrays

def toMS (r : Molrec) : MolSchema.Molrec Rat :=
  { units := if r.units = sBohr then .bohr else .angstrom
    iutau := r.iutau, geom := r.geom, elea := r.elea, elez := r.elez, elem := r.elem, mass := r.mass
    real := r.real, elbl := r.elbl, seps := r.seps.map Int.toNat
    fragCharges := r.fc.map (fun (c : Int) => (c : Rat)), fragMults := r.fm
    charge := (r.c : Rat), mult := r.m, fixCom := r.fixCom, fixOri := r.fixOrient
    fixSym := r.fixSymm.map String.ofList, name := r.name, comment := r.comment, connectivity := r.conn }

def triOfOpt : Option Bool → Tri
  | none => .none
  | some b => Tri.ofBool b

/-- from_schema.py:60-90 on the C09 argument record -/
def inpOfArgs (np : Bool) (a : MolSchema.FAArgs Rat) : Inp :=
  { geom := some a.geom
    elea := a.elea.map (·.map some), elez := a.elez.map (·.map some), elem := some (a.elem.map some)
    mass := a.mass.map (·.map some), real := a.real.map (·.map some), elbl := a.elbl.map (·.map some)
    name := a.name, comment := a.comment, units := sBohr, iutau := none
    fixCom := triOfOpt a.fixCom, fixOrient := triOfOpt a.fixOri, fixSymm := a.fixSym.map String.toList
    seps := some (a.seps.map (fun (k : Nat) => (k : Int)))
    fc := a.fragCharges.map (·.map (fun q => some q.num)), fm := a.fragMults.map (·.map some)
    c := a.charge.map (·.num), m := a.mult
    conn := a.connectivity.map (·.map bondBack)
    minimal := false, speclabel := false, nonphysical := np, mtol := dfltMtol, tooclose := dfltTooclose, zgf := false }

/-- the C04 model of `from_arrays` as the `fa` parameter of the C09 model -/
def faOfC04 (env : Env) (np : Bool) (a : MolSchema.FAArgs Rat) : Except MolSchema.Err (MolSchema.Molrec Rat) :=
  match fromArrays env (inpOfArgs np a) with
  | .ok r => .ok (toMS r)
  | .error _ => .error .validation

theorem exportGeom_toMS (P : SchemaParams) (dflt : Rat) (r : Molrec) (hfl : ∀ x, P.fl x = x)
    (hcf : P.cf sAngstrom = dflt) (hu : r.units = sAngstrom ∨ r.units = sBohr) :
    MolSchema.exportGeom dflt (toMS r) = exportGeom P r := by
  rcases hu with hu | hu
  · have hne : r.units ≠ sBohr := by rw [hu]; exact sAngstrom_ne_sBohr
    cases hi : r.iutau with
    | none => simp [MolSchema.exportGeom, toMS, exportGeom, exportFactor, sAngstrom_ne_sBohr, hu, hi, hfl, hcf]
    | some f => simp [MolSchema.exportGeom, toMS, exportGeom, exportFactor, sAngstrom_ne_sBohr, hu, hi, hfl]
  · simp [MolSchema.exportGeom, toMS, exportGeom, hu]

theorem nameOf_toMS (fg : List String → String) (r : Molrec) :
    MolSchema.nameOf fg (toMS r) = r.name.getD (fg r.elem) := by
  cases h : r.name <;> simp [MolSchema.nameOf, toMS, h]

theorem seps_toNat_back (seps : List Int) (hpos : ∀ s ∈ seps, 0 ≤ s) :
    (seps.map Int.toNat).map (fun (k : Nat) => (k : Int)) = seps := by
  rw [List.map_map]
  exact map_eq_self fun s hs => Int.toNat_of_nonneg (hpos s hs)

theorem sortedLe_of_pairwise : ∀ (l : List Int) (lo : Nat), (∀ s ∈ l, (lo : Int) ≤ s) → l.Pairwise (· < ·) →
    MolSchema.sortedLe lo (l.map Int.toNat) = true
  | [], _, _, _ => rfl
  | s :: t, lo, hlo, hp => by
      have hs := hlo s (List.mem_cons_self ..)
      have hp' := List.pairwise_cons.1 hp
      have ih := sortedLe_of_pairwise t s.toNat (fun x hx => by have := hp'.1 x hx; omega) hp'.2
      simp only [List.map_cons, MolSchema.sortedLe, Bool.and_eq_true, decide_eq_true_eq]
      exact ⟨by omega, ih⟩

/-- C04's invariant (with at least one atom and non-negative separators) gives C09's -/
theorem inv_toMS {valid a st tc} {r : Molrec} (I : Inv valid a st tc r) (hn : r.elem.length ≠ 0)
    (hpos : ∀ s ∈ r.seps, 0 ≤ s) : MolSchema.Inv (toMS r) := by
  obtain ⟨l1, l2, l3, l4, l5, l6⟩ := I.lengths
  have hs := accepted_separators_sorted (List.range r.elem.length) r.seps hpos (I.frag_nonempty hn)
  simp only [List.length_range] at hs
  exact {
    geom3 := l6
    nonempty := Nat.pos_of_ne_zero hn
    elea := l1, elez := l2, mass := l3, real := l4, elbl := l5
    sepsSorted := sortedLe_of_pairwise r.seps 0 (fun s h => by have := hpos s h; omega) hs.1
    sepsLe := by
      intro s h
      simp only [toMS, List.mem_map] at h
      obtain ⟨s0, h0, rfl⟩ := h
      have := hs.2 s0 h0
      show s0.toNat ≤ r.elem.length
      omega }

end QcelVerif.FromArrays
