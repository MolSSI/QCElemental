import QcelVerif.Model.ToString
import QcelVerif.Lemmas.FixedFmt
/-! Helper lemmas for the `to_string` model (C08), and the specification vocabulary the statements of Props/C08.lean are
written in: `shown`, `labelOf`, `Ascending`, `stripHeaders`, `readInt`. -/
namespace QcelVerif.ToString
open QcelVerif.FixedFmt

/-! ### `_atoms_formatter` -/

/-- an atom is listed: real, or ghost with a non-empty ghost format -/
def shown (gfmt : Str) (a : Atom) : Bool := a.real || !gfmt.isEmpty

/-- the label the formatter gives an atom (`[]` when it gives none) -/
def labelOf (afmt gfmt : Str) (a : Atom) : Str :=
  match atomLabel afmt gfmt a with
  | .ok (some l) => l
  | _ => []

theorem isSome_of_map_some {ε α} {x : Except ε α} {o : Option α} (h : Except.map some x = .ok o) : o.isSome = true := by
  cases x <;> cases h
  rfl

/-- the formatter labels exactly the shown atoms -/
theorem atomLabel_shown {afmt gfmt : Str} {a : Atom} {ol : Option Str} (h : atomLabel afmt gfmt a = .ok ol) :
    shown gfmt a = ol.isSome := by
  unfold atomLabel at h
  unfold shown
  cases hr : a.real <;> simp only [hr, Bool.false_eq_true, if_false, if_true] at h
  · cases hg : gfmt.isEmpty <;> simp only [hg, Bool.false_eq_true, if_false, if_true] at h
    · rw [isSome_of_map_some h]; rfl
    · cases h; rfl
  · rw [isSome_of_map_some h]; rfl

/-! ### `np.split` -/

theorem npSplit_length {α} (l : List α) : ∀ (seps : List Nat) (prev : Nat),
    (npSplit l prev seps).length = seps.length + 1
  | [], _ => rfl
  | s :: t, prev => by simp [npSplit, npSplit_length l t s]

/-- separators ascending from `prev` -/
def Ascending : Nat → List Nat → Prop
  | _, [] => True
  | prev, s :: t => prev ≤ s ∧ Ascending s t

theorem take_drop_append_drop {α} (l : List α) {a b : Nat} (h : a ≤ b) :
    (l.take b).drop a ++ l.drop b = l.drop a := by
  have h1 : l.drop a = (l.drop a).take (b - a) ++ (l.drop a).drop (b - a) := (List.take_append_drop _ _).symm
  rw [h1, List.drop_drop, List.drop_take]
  congr 2
  omega

/-! ### removing the fragment separators again -/

/-- a psi4/qchem reader: drop every `--` line and the charge/multiplicity line after it -/
def stripHeaders : Bool → List Str → List Str
  | _, [] => []
  | true, _ :: t => stripHeaders false t
  | false, l :: t => if l = lit "--" then stripHeaders true t else l :: stripHeaders false t

theorem stripHeaders_append_plain (b : List Str) (hb : ∀ l ∈ b, l ≠ lit "--") (r : List Str) :
    stripHeaders false (b ++ r) = b ++ stripHeaders false r := by
  induction b with
  | nil => rfl
  | cons x t ih =>
    have hx : x ≠ lit "--" := hb x (by simp)
    simp only [List.cons_append, stripHeaders, hx, if_false]
    rw [ih (fun l hl => hb l (by simp [hl]))]

/-! ### molpro dummy card -/

theorem ghostIndices_mem (atoms : List Atom) : ∀ (k n : Nat),
    n ∈ ghostIndices k atoms ↔ ∃ i a, atoms[i]? = some a ∧ a.real = false ∧ n = k + i + 1 := by
  induction atoms with
  | nil => intro k n; simp [ghostIndices]
  | cons x t ih =>
    intro k n
    unfold ghostIndices
    have step : (∃ i a, (x :: t)[i]? = some a ∧ a.real = false ∧ n = k + i + 1) ↔
        ((x.real = false ∧ n = k + 1) ∨ ∃ i a, t[i]? = some a ∧ a.real = false ∧ n = (k + 1) + i + 1) := by
      constructor
      · rintro ⟨i, a, hi, hr, hn⟩
        cases i with
        | zero => simp at hi; subst hi; exact Or.inl ⟨hr, by omega⟩
        | succ j => simp at hi; exact Or.inr ⟨j, a, hi, hr, by omega⟩
      · rintro (⟨hr, hn⟩ | ⟨j, a, hj, hr, hn⟩)
        · exact ⟨0, x, by simp, hr, by omega⟩
        · exact ⟨j + 1, a, by simpa using hj, hr, by omega⟩
    rw [step]
    cases hx : x.real
    · simp only [Bool.false_eq_true, if_false, List.mem_cons, ih (k + 1) n, true_and]
    · simp only [if_true, ih (k + 1) n]
      simp

theorem ghostIndices_lower (atoms : List Atom) : ∀ (k n : Nat), n ∈ ghostIndices k atoms → k < n := by
  intro k n h
  obtain ⟨i, a, _, _, hn⟩ := (ghostIndices_mem atoms k n).1 h
  omega

theorem ghostIndices_sorted (atoms : List Atom) : ∀ k, List.Pairwise (· < ·) (ghostIndices k atoms) := by
  induction atoms with
  | nil => intro k; simp [ghostIndices]
  | cons x t ih =>
    intro k
    unfold ghostIndices
    cases hx : x.real
    · simp only [Bool.false_eq_true, if_false, List.pairwise_cons]
      exact ⟨fun n hn => ghostIndices_lower t (k + 1) n hn, ih (k + 1)⟩
    · simpa using ih (k + 1)

theorem ghostIndices_isEmpty (atoms : List Atom) : ∀ k,
    (ghostIndices k atoms).isEmpty = atoms.all (·.real) := by
  induction atoms with
  | nil => intro k; rfl
  | cons x t ih =>
    intro k
    unfold ghostIndices
    cases hx : x.real <;> simp [hx, ih (k + 1)]

/-! ### reading integers back -/

/-- `int(text)` for the texts `str(int)` produces -/
def readInt : Str → Int
  | '-' :: t => -(digitsVal t : Int)
  | t => (digitsVal t : Int)

theorem natDigits_head_ne_minus (n : Nat) : ∀ c t, natDigits n = c :: t → c ≠ '-' := by
  intro c t h hc
  have : isDigitChar c = true := natDigits_all_digits n c (by rw [h]; simp)
  subst hc
  exact absurd this (by decide)

theorem readInt_intStr (i : Int) : readInt (intStr i) = i := by
  unfold intStr
  split
  · next h => simp only [readInt, digitsVal_natDigits]; omega
  · next h =>
    cases hd : natDigits i.natAbs with
    | nil => exact absurd hd (natDigits_ne_nil _)
    | cons c t =>
      have hc : c ≠ '-' := natDigits_head_ne_minus _ c t hd
      have : readInt (c :: t) = (digitsVal (c :: t) : Int) := by
        unfold readInt
        split
        · next heq => simp at heq; exact absurd heq.1 hc
        · rfl
      rw [this, ← hd, digitsVal_natDigits]; omega

theorem intStr_no_space (i : Int) : ∀ c ∈ intStr i, c ≠ ' ' := by
  intro c hc hsp
  subst hsp
  unfold intStr at hc
  split at hc
  · simp at hc
    exact absurd (natDigits_all_digits _ _ hc) (by decide)
  · exact absurd (natDigits_all_digits _ _ hc) (by decide)

end QcelVerif.ToString
