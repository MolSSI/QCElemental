import QcelVerif.Model.Dec
/-!
General lemmas about the decimal model (all inputs): the rounding step of `Dec.fix` is within half a
unit of the last kept digit, and `Dec.fix` never changes a value that already fits the precision.
-/
namespace QcelVerif.Dec

/-- **ROUND_HALF_EVEN is within half a unit in the last kept place**, for every coefficient `c` and
every number `k` of dropped digits: `|roundHalfEven c k · 10^k − c| ≤ 10^k / 2` (stated without
subtraction or division). -/
theorem roundHalfEven_err (c k : Nat) :
    2 * (roundHalfEven c k * 10 ^ k) ≤ 2 * c + 10 ^ k ∧
    2 * c ≤ 2 * (roundHalfEven c k * 10 ^ k) + 10 ^ k := by
  have hp : 0 < 10 ^ k := Nat.pow_pos (by decide)
  unfold roundHalfEven
  simp only []
  generalize 10 ^ k = p at *
  have h := Nat.div_add_mod c p
  have hr := Nat.mod_lt c hp
  generalize c / p = q at *
  generalize c % p = r at *
  have hqp : (q + 1) * p = q * p + p := Nat.succ_mul q p
  have hc : p * q = q * p := Nat.mul_comm p q
  rw [hc] at h
  split
  · rw [hqp]; generalize q * p = t at *; omega
  · split
    · rename_i h2
      have h2' : 2 * r = p := by simpa using h2
      split
      · generalize q * p = t at *; omega
      · rw [hqp]; generalize q * p = t at *; omega
    · rename_i h1 h2
      have h2' : ¬ 2 * r = p := by simpa using h2
      generalize q * p = t at *; omega

/-- the rounding returns either the truncated coefficient `c / 10^k` or its successor -/
theorem roundHalfEven_floor_or_succ (c k : Nat) :
    roundHalfEven c k = c / 10 ^ k ∨ roundHalfEven c k = c / 10 ^ k + 1 := by
  unfold roundHalfEven
  simp only []
  split
  · exact Or.inr rfl
  · split
    · split
      · exact Or.inl rfl
      · exact Or.inr rfl
    · exact Or.inl rfl

/-- `_fix` leaves alone every value whose coefficient already fits in 28 digits — this is why the
scalings by powers of ten in the alias definitions are exact. -/
theorem fix_of_fits (d : Dec) (h : ndigits d.coeff ≤ prec) : fix d = d := by
  unfold fix
  by_cases h0 : (d.coeff == 0) = true
  · simp [h0]
  · simp [h0, h]

/-- non-vacuity of `fix_of_fits`' hypothesis: 4.184 and a 28-digit coefficient fit -/
example : ndigits (⟨false, 4184, -3⟩ : Dec).coeff ≤ prec ∧ ndigits (10 ^ 28 - 1) ≤ prec ∧ ¬ ndigits (10 ^ 28) ≤ prec := by decide

/-- tests (not properties) -/
example : roundHalfEven 125 1 = 12 ∧ roundHalfEven 135 1 = 14 ∧ roundHalfEven 1251 1 = 125 ∧ roundHalfEven 999 2 = 10 := by decide

end QcelVerif.Dec
