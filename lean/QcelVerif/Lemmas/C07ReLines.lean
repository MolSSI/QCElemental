import QcelVerif.Lemmas.C07ReClasses
import QcelVerif.Lemmas.MolText
/-!
C07 — what the line-pattern files (`C07ReKeywords`, `C07ReXyz1`, `C07ReUnits`, `C07ReEfp`, `C07ReChgmult`, `C07ReFrags`) share: letters and lower-casing; `afterKw`; the case analysis of
`classifyRest` (`RestCase`).  From `Lemmas/MolText.lean`: `alpha_not_digit`, `alpha_word`, `word_not_sep`, `beq_false_of_class`.
-/
namespace QcelVerif.MolText
open QcelVerif.Regex QcelVerif.Gen

/-! ## one-character classes and their runs on the image of an M1 string -/

/-- the first way `[class]+` matches takes the longest run -/
theorem plus_head_str {neg : Bool} {items : List Item} {q : Char → Bool} (hq : ∀ c, clsMem neg items c.toNat = q c)
    (r : Str) (m : St) (hm : m.rest = toBytes r) (h : r.takeWhile q ≠ []) :
    ((Re.rep 1 none true (.cls neg items)).ms m).head? = some (m.adv (toBytes (r.takeWhile q)) (toBytes (r.dropWhile q))) := by
  rw [ms_plus_head, hm, takeWhile_toBytes _ _ hq, dropWhile_toBytes _ _ hq, if_neg]
  rw [List.isEmpty_iff, toBytes_eq_nil]
  exact h

/-! ## characters -/

theorem isSep_nat (c : Char) : isSep c = (c.toNat == 32 || c.toNat == 9 || c.toNat == 44) := by
  simp only [isSep, beq_lit, Char.reduceToNat]

def IsLetter (c : Char) : Prop := (65 ≤ c.toNat ∧ c.toNat ≤ 90) ∨ (97 ≤ c.toNat ∧ c.toNat ≤ 122)

theorem letter_of_lower {c : Char} {d : Char} (h : c.toLower = d) (hd : 97 ≤ d.toNat ∧ d.toNat ≤ 122) : IsLetter c := by
  have h' : c.toLower.toNat = d.toNat := by rw [h]
  rw [toLower_nat] at h'
  unfold IsLetter
  split at h' <;> omega

theorem letter_alpha {c : Char} (h : IsLetter c) : c.isAlpha = true := by
  rw [isAlpha_nat]
  unfold IsLetter at h
  simp only [isAlphaC, Bool.or_eq_true, Bool.and_eq_true, decide_eq_true_eq]
  exact h

theorem letter_not_digit {c : Char} (h : IsLetter c) : c.isDigit = false := alpha_not_digit (letter_alpha h)

theorem letter_not_sep {c : Char} (h : IsLetter c) : isSep c = false := word_not_sep (alpha_word (letter_alpha h))

theorem word_not_wsEq {c : Char} (h : isWord c = true) : isWsEq c = false := by
  rw [← cls_wsEq]
  rw [isWord_nat] at h
  simp only [isWordC, isAlphaC, isDigitC] at h
  simp only [clsMem, Item.mem, isSpaceC, List.any_cons, List.any_nil, Bool.or_false]
  simp at h ⊢
  omega

theorem letter_not_wsEq {c : Char} (h : IsLetter c) : isWsEq c = false := word_not_wsEq (alpha_word (letter_alpha h))

theorem letter_ne {c : Char} (h : IsLetter c) (d : Char) (hd : d.isAlpha = false) : (c == d) = false :=
  beq_false_of_class (letter_alpha h) d hd

theorem letter_not_mant {c : Char} (h : IsLetter c) : isMantChar c = false := by
  simp [isMantChar, letter_not_digit h, letter_ne h '.' (by decide), letter_ne h '+' (by decide), letter_ne h '-' (by decide)]

theorem toLower_eq_or (c : Char) : c.toLower = c ∨ (65 ≤ c.toNat ∧ c.toNat ≤ 90 ∧ c.toLower.toNat = c.toNat + 32) := by
  by_cases h : 65 ≤ c.toNat ∧ c.toNat ≤ 90
  · exact Or.inr ⟨h.1, h.2, by rw [toLower_nat, if_pos h]⟩
  · exact Or.inl (Char.toNat_inj.mp (by rw [toLower_nat, if_neg h]))

/-- lower-casing moves a character only inside the letters, so it respects every class that holds all letters or none -/
theorem toLower_class {p : Char → Bool} {b : Bool} (h : ∀ c, IsLetter c → p c = b) (c : Char) : p c.toLower = p c := by
  rcases toLower_eq_or c with hc | ⟨h1, h2, h3⟩
  · rw [hc]
  · rw [h c (Or.inl ⟨h1, h2⟩), h c.toLower (Or.inr ⟨by omega, by omega⟩)]

theorem isSep_toLower (c : Char) : isSep c.toLower = isSep c := toLower_class (fun _ => letter_not_sep) c

theorem isWsEq_toLower (c : Char) : isWsEq c.toLower = isWsEq c := toLower_class (fun _ => letter_not_wsEq) c

theorem isWord_toLower (c : Char) : isWord c.toLower = isWord c := toLower_class (fun _ h => alpha_word (letter_alpha h)) c

/-! ## lower-cased text -/

theorem lowerS_append (a b : Str) : lowerS (a ++ b) = lowerS a ++ lowerS b := by simp [lowerS]

theorem lowerS_append_inv {s a b : Str} (h : lowerS s = a ++ b) : ∃ A B, s = A ++ B ∧ lowerS A = a ∧ lowerS B = b := by
  unfold lowerS at h ⊢
  exact List.map_eq_append_iff.mp h

theorem dropWhile_lowerS (R : Str) : (lowerS R).dropWhile isWsEq = lowerS (R.dropWhile isWsEq) :=
  dropWhile_map_of isWsEq_toLower R

/-! ## `afterKw` on a lower-cased text: a non-empty `[\s=]` run is cut off, and lower-casing commutes with the cut -/

theorem afterKw_lowerS_cons (c : Char) (R : Str) :
    afterKw (lowerS (c :: R)) = if isWsEq c = true then some (lowerS ((c :: R).dropWhile isWsEq)) else none := by
  rw [← dropWhile_lowerS]
  simp only [lowerS, List.map_cons, afterKw, isWsEq_toLower]

theorem afterKw_run {W P : Str} (hW0 : W ≠ []) (hW : ∀ c ∈ W, isWsEq c = true)
    (hP : ∀ d ∈ P.head?, isWsEq d = false) : afterKw (lowerS (W ++ P)) = some (lowerS P) := by
  cases W with
  | nil => exact absurd rfl hW0
  | cons w W' => rw [List.cons_append, afterKw_lowerS_cons, if_pos (hW w (by simp)), ← List.cons_append, (span_append hW hP).2]

theorem afterKw_inv {R u : Str} (h : afterKw (lowerS R) = some u) :
    ∃ W P, R = W ++ P ∧ W ≠ [] ∧ (∀ c ∈ W, isWsEq c = true) ∧ u = lowerS P := by
  cases R with
  | nil => cases h
  | cons c R' =>
    rw [afterKw_lowerS_cons] at h
    split at h
    · rename_i hc
      injection h with h
      refine ⟨(c :: R').takeWhile isWsEq, (c :: R').dropWhile isWsEq, List.takeWhile_append_dropWhile.symm, ?_,
        all_tw _ _, h.symm⟩
      simp [hc]
    · cases h

/-! ## `classify`: the token branches -/

/-- a keyword answer of `classify` is `classifyRest`'s -/
theorem classify_kw {s : Str} {L : Line} (h : classify s = L) (h0 : L ≠ .blank) (h1 : ∀ n x y z, L ≠ .atom n x y z)
    (h2 : ∀ c m, L ≠ .cgmp c m) : classifyRest s = L := by
  unfold classify at h
  split at h
  · exact absurd h.symm h0
  · split at h
    · split at h
      · exact absurd h.symm (h1 _ _ _ _)
      · exact h
    · split at h
      · split at h
        · exact absurd h.symm (h2 _ _)
        · exact h
      · exact h
    · exact h

/-! ## `classifyRest` -/

/-! The keywords that are compared with a whole line, spelt out as lists of characters: turning a string literal into its
characters is dear, and is done once per word. -/
def kwNoCom : Str := ['n', 'o', '_', 'c', 'o', 'm']
def kwNocom : Str := ['n', 'o', 'c', 'o', 'm']
def kwNoReorient : Str := ['n', 'o', '_', 'r', 'e', 'o', 'r', 'i', 'e', 'n', 't']
def kwNoreorient : Str := ['n', 'o', 'r', 'e', 'o', 'r', 'i', 'e', 'n', 't']
theorem no_com_toList : "no_com".toList = kwNoCom := by decide
theorem nocom_toList : "nocom".toList = kwNocom := by decide
theorem no_reorient_toList : "no_reorient".toList = kwNoReorient := by decide
theorem noreorient_toList : "noreorient".toList = kwNoreorient := by decide

/-- how `classifyRest` reaches each of its answers -/
inductive RestCase (s : Str) : Line → Prop
  | com : lowerS s = kwNoCom ∨ lowerS s = kwNocom → RestCase s .com
  | orient : lowerS s = kwNoReorient ∨ lowerS s = kwNoreorient → RestCase s .orient
  | marker : s = "--".toList → RestCase s .marker
  | pubchem : RestCase s .pubchem
  | units {b : Bool} : classifyUnits (lowerS s) = some b → RestCase s (.units b)
  | sym {pg : Str} : classifySym s = some pg → RestCase s (.sym pg)
  | efpHead : RestCase s .efpHead
  | efp {e f x y z a b c : Str} {px py pz pa pb pc : NumParts} : dropTrailingEmpty (splitSep s) = [e, f, x, y, z, a, b, c] →
      (lowerS e == "efp".toList && !f.isEmpty && f.all isWord) = true → parseNumber x = some px → parseNumber y = some py →
      parseNumber z = some pz → parseNumber a = some pa → parseNumber b = some pb → parseNumber c = some pc →
      RestCase s (.efp f [px, py, pz, pa, pb, pc])
  | other : RestCase s (.other s)

theorem classifyRest_case {s : Str} {L : Line} (h : classifyRest s = L) : RestCase s L := by
  subst h
  unfold classifyRest
  dsimp only
  rw [no_com_toList, nocom_toList, no_reorient_toList, noreorient_toList]
  by_cases h1 : (lowerS s == kwNoCom || lowerS s == kwNocom) = true
  · rw [if_pos h1]; exact .com (by simpa using h1)
  rw [if_neg h1]
  by_cases h2 : (lowerS s == kwNoReorient || lowerS s == kwNoreorient) = true
  · rw [if_pos h2]; exact .orient (by simpa using h2)
  rw [if_neg h2]
  by_cases h3 : (s == "--".toList) = true
  · rw [if_pos h3]; exact .marker (by simpa using h3)
  rw [if_neg h3]
  by_cases h4 : ((lowerS s).take 7 == "pubchem".toList) = true
  · rw [if_pos h4]; exact .pubchem
  rw [if_neg h4]
  cases hu : classifyUnits (lowerS s) with
  | some b => exact .units hu
  | none =>
    cases hp : classifySym s with
    | some pg => exact .sym hp
    | none =>
      dsimp only
      split
      · split
        · exact .efpHead
        · exact .other
      · rename_i hd
        split
        · rename_i hcond
          split
          · rename_i hx hy hz ha hb hc; exact .efp hd hcond hx hy hz ha hb hc
          · exact .other
        · exact .other
      · exact .other

/-- a line whose lower-casing starts with a character other than `n`, `p`, `-` fails the four tests on the whole line -/
theorem keywordTests_false {s : Str} {c : Char} {r : Str} (hl : lowerS s = c :: r) (hn : c ≠ 'n') (hp : c ≠ 'p') (hm : c ≠ '-') :
    ¬ (lowerS s == "no_com".toList || lowerS s == "nocom".toList) = true ∧
    ¬ (lowerS s == "no_reorient".toList || lowerS s == "noreorient".toList) = true ∧
    ¬ (s == "--".toList) = true ∧ ¬ ((lowerS s).take 7 == "pubchem".toList) = true := by
  refine ⟨?_, ?_, ?_, ?_⟩
  · rw [hl]; simp [hn]
  · rw [hl]; simp [hn]
  · intro h
    rw [beq_iff_eq] at h
    subst h
    injection hl with h _
    exact hm h.symm
  · rw [hl]; simp [hp]

theorem classifyUnits_of_ne {c : Char} (hc : c ≠ 'u') (r : Str) : classifyUnits (c :: r) = none := by
  unfold classifyUnits
  split
  · rename_i heq
    injection heq with h1 _
    exact absurd h1 hc
  · rfl

end QcelVerif.MolText
