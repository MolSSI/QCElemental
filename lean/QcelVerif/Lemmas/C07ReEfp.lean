import QcelVerif.Lemmas.C07ReAtomLine
import QcelVerif.Lemmas.C07ReKeywords
/-!
C07 — the one-line EFP fragment pattern

    efpxyzabc = `\A efp SEP (?P<efpfile>(\w+)) SEP (?P<x>NUMBER) SEP … SEP (?P<c>NUMBER) ENDL \Z`     IGNORECASE | VERBOSE

(`SEP = [\t ,]+`, `ENDL = [\t ,]*$`) run by the generic engine on the generated AST and read through the groups
efpfile / x / y / z / a / b / c (`efpRe`) is what M1's line classifier answers (`efpHand`), for EVERY string.

As for atom lines: every way to match decomposes the line into `efp`-word, separator run, file word, six
(separator run, NUMBER) pairs and a trailing separator run; such a line splits into 8 fields (9 with a trailing run, the last
one empty, removed by `dropTrailingEmpty`), none of the earlier branches of `classify` / `classifyRest` fires on it, and the efp
branch answers the same texts.  Conversely `classify s = .efp …` yields such a decomposition, hence a way to match.
-/
namespace QcelVerif.MolText
open QcelVerif.Regex QcelVerif.Gen

namespace Efp

/-! ## shape -/

/-- SEP `(?P<g>(NUMBER))`, then `K` (the term whose ways to match `cext_sepNum` of `C07ReAtomLine` describes) -/
def sepNum (g : Nat) (K : Re) : Re := .seq sepPlus (.seq (.group g (.group (g + 1) numberBodyI)) K)

/-- a chain of `SEP (?P<g>(NUMBER))` steps, then `K` -/
def sepNums : List Nat → Re → Re
  | [], K => K
  | g :: gs, K => sepNum g (sepNums gs K)

/-- `[\t ,]*` -/
def sepStar : Re := .rep 0 none true (.cls false [.ch 9, .ch 32, .ch 44])

/-- ENDL `\Z` = `[\t ,]*$\Z` -/
def endlEos : Re := .seq sepStar (.seq .eolFinal .eos)

/-- the group numbers of x, y, z, a, b, c -/
def numGroups : List Nat := [3, 5, 7, 9, 11, 13]

end Efp

open Efp in
/-- `\A` efp SEP `(?P<efpfile>(\w+))` (SEP `(?P<·>(NUMBER))`)⁶ ENDL `\Z` -/
theorem efpxyzabc_shape : FromStringRegex.efpxyzabc =
    .seq .bos (Kw.litK [101, 102, 112] (.seq sepPlus (.seq (.group 1 (.group 2 Kw.word1)) (sepNums numGroups endlEos)))) := rfl

theorem efpxyzabc_groups : FromStringRegex.efpxyzabcG.efpfile = 1 ∧
    [FromStringRegex.efpxyzabcG.x, FromStringRegex.efpxyzabcG.y, FromStringRegex.efpxyzabcG.z, FromStringRegex.efpxyzabcG.a,
      FromStringRegex.efpxyzabcG.b, FromStringRegex.efpxyzabcG.c] = Efp.numGroups := ⟨rfl, rfl⟩

namespace Efp

/-! ## regex side: every way to match is a decomposition of the line, and conversely -/

def efpWord : Str := ['e', 'f', 'p']

/-- the decomposition both sides agree on -/
def EfpDec (s E sp0 f : Str) (ps : List (Str × Str)) (tl : Str) : Prop :=
  s = E ++ (sp0 ++ (f ++ joinR ps tl)) ∧ lowerS E = efpWord ∧ SepOk sp0 ∧ f ≠ [] ∧ (∀ c ∈ f, isWord c = true) ∧ ps.length = 6 ∧
    (∀ p ∈ ps, SepOk p.1 ∧ isNumber p.2 = true) ∧ (∀ c ∈ tl, isSep c = true)

def DSepNums : List Nat → OLang Caps → OLang Caps
  | [], K => K
  | g :: gs, K => DSepNum g (DSepNums gs K)

theorem cext_sepNums {K : Re} {DK : OLang Caps} (hK : CExt K DK) : ∀ gs, CExt (sepNums gs K) (DSepNums gs DK)
  | [] => hK
  | g :: gs => cext_sepNum g (cext_sepNums hK gs)

/-- the captures after a chain of `SEP (NUMBER)` steps -/
def numCaps : List Nat → List (Str × Str) → Caps → Caps
  | g :: gs, (_, x) :: ps, c => numCaps gs ps ((g, toBytes x) :: (g + 1, toBytes x) :: c)
  | _, _, c => c

theorem DSepNums_iff (K : OLang Caps) : ∀ (gs : List Nat) (c : Caps) (t r : Str) (c' : Caps), DSepNums gs K c t r c' ↔
    ∃ ps w, ps.length = gs.length ∧ t = joinR ps w ∧ (∀ p ∈ ps, SepOk p.1 ∧ isNumber p.2 = true) ∧ K (numCaps gs ps c) w r c'
  | [], c, t, r, c' => by
    simp only [DSepNums]
    constructor
    · intro h; exact ⟨[], t, rfl, rfl, by simp, h⟩
    · rintro ⟨ps, w, hl, rfl, _, h⟩
      have : ps = [] := List.eq_nil_of_length_eq_zero hl
      subst this
      exact h
  | g :: gs, c, t, r, c' => by
    simp only [DSepNums, DSepNum_iff, DSepNums_iff K gs]
    constructor
    · rintro ⟨sp, x, _, rfl, hsp, hx, ps, w, hl, rfl, hps, h⟩
      refine ⟨(sp, x) :: ps, w, by simp [hl], rfl, ?_, h⟩
      intro p hp
      rcases List.mem_cons.mp hp with rfl | hp
      · exact ⟨hsp, hx⟩
      · exact hps p hp
    · rintro ⟨ps, w, hl, rfl, hps, h⟩
      match ps, hl, hps, h with
      | (sp, x) :: ps, hl, hps, h =>
        have h0 := hps (sp, x) (by simp)
        exact ⟨sp, x, _, rfl, h0.1, h0.2, ps, w, by simpa using hl, rfl,
          fun p hp => hps p (by simp [hp]), h⟩

/-- ENDL `\Z` -/
def DEndl : OLang Caps := DSeq (DKeep (LStar isSep)) (DSeq DEolFinal DEos)

theorem cext_endl : CExt endlEos DEndl := .seq (.ofExt (Ext.star cls_sep)) (.seq .eolFinal .eos)

def DEfp : OLang Caps :=
  DSeq (DKeep fun E => lowerS E = efpWord) (DSeq (DKeep SepOk)
    (DSeq (DCap 1 (DCap 2 (DKeep (LPlus isWord)))) (DSepNums numGroups DEndl)))

theorem cext_efp : CExt (Kw.litK [101, 102, 112] (.seq sepPlus (.seq (.group 1 (.group 2 Kw.word1)) (sepNums numGroups endlEos)))) DEfp :=
  .of_mem_seq (Kw.mem_litK _ efpWord (by decide)) (.seq (.ofExt (Ext.plus cls_sep))
    (.seq (CExt.group 1 (CExt.group 2 (.ofExt (Ext.plus cls_word)))) (cext_sepNums cext_endl _)))

theorem DEfp_iff (t r : Str) (c' : Caps) : DEfp [] t r c' ↔
    ∃ E sp0 f ps tl, EfpDec t E sp0 f ps tl ∧ r = [] ∧ c' = numCaps numGroups ps [(1, toBytes f), (2, toBytes f)] := by
  simp only [DEfp, DSeq, DCap, DGroup, DKeep, DSepNums_iff, DEndl, DEolFinal, DEos, EfpDec]
  constructor
  · rintro ⟨E, _, _, rfl, ⟨hE, rfl⟩, sp0, _, _, rfl, ⟨hsp, rfl⟩, f, _, _, rfl, ⟨_, ⟨_, ⟨hf, rfl⟩, rfl⟩, rfl⟩, ps, _, hl, rfl, hps,
      tl, _, _, rfl, ⟨htl, rfl⟩, _, _, _, rfl, ⟨rfl, _, rfl⟩, rfl, rfl, rfl⟩
    exact ⟨E, sp0, f, ps, tl, ⟨by simp, hE, hsp, hf.1, hf.2, hl, hps, htl⟩, rfl, rfl⟩
  · rintro ⟨E, sp0, f, ps, tl, ⟨rfl, hE, hsp, hf0, hf, hl, hps, htl⟩, rfl, rfl⟩
    exact ⟨E, _, _, rfl, ⟨hE, rfl⟩, sp0, _, _, rfl, ⟨hsp, rfl⟩, f, _, _, rfl,
      ⟨_, ⟨_, ⟨⟨hf0, hf⟩, rfl⟩, rfl⟩, rfl⟩, ps, tl ++ [], hl, by simp, hps,
      tl, [], _, rfl, ⟨htl, rfl⟩, [], [], _, rfl, ⟨rfl, Or.inl rfl, rfl⟩, rfl, rfl, rfl⟩

/-! ## hand side: `splitSep` of joined fields is `splitSep_joinR` (`Props/C07.lean`; inverted: `splitSep_inv`, `C07ReChgmult`) -/

theorem dropTrailingEmpty_inv {ts L : List Str} (h : dropTrailingEmpty ts = L) : ts = L ∨ ts = L ++ [[]] := by
  unfold dropTrailingEmpty at h
  split at h
  · rename_i r hr
    right
    have := congrArg List.reverse hr
    rw [List.reverse_reverse] at this
    rw [this, ← h]; simp
  · exact Or.inl h

theorem dropTrailingEmpty_snoc (L : List Str) : dropTrailingEmpty (L ++ [[]]) = L := by
  simp [dropTrailingEmpty]

theorem dropTrailingEmpty_of_ne {L : List Str} (h : ∀ t ∈ L, t ≠ []) : dropTrailingEmpty L = L := by
  unfold dropTrailingEmpty
  split
  · rename_i r hr
    exact absurd rfl (h [] (List.mem_reverse.mp (by rw [hr]; exact List.mem_cons_self)))
  · rfl

/-! ## hand side: `classifyRest` on an efp line -/

theorem classifySym_e {s r : Str} (h : lowerS s = 'e' :: r) : classifySym s = none := by
  unfold classifySym
  dsimp only
  rw [h]
  split
  · rename_i heq
    injection heq with h1 _
    exact absurd h1 (by decide)
  · rfl

/-- the keyword branches of `classifyRest` do not fire on a line that starts with `e`: eight fields, `efp`, a word and six numbers
are an efp line -/
theorem classifyRest_efp {s r : Str} (hl : lowerS s = 'e' :: r) {e f : Str} {ts : List Str}
    (hd : dropTrailingEmpty (splitSep s) = e :: f :: ts) (hlen : ts.length = 6) (he : lowerS e = efpWord) (hf0 : f ≠ [])
    (hf : ∀ d ∈ f, isWord d = true) (hts : ∀ t ∈ ts, isNumber t = true) : ∃ h, classifyRest s = .efp f h := by
  obtain ⟨e1, e2, e3, e4⟩ := keywordTests_false hl (by decide) (by decide) (by decide)
  have hcond : (lowerS e == "efp".toList && !f.isEmpty && f.all isWord) = true := by
    rw [he]
    have : f.isEmpty = false := by simpa [List.isEmpty_iff] using hf0
    simp [efpWord, this, List.all_eq_true]
    exact hf
  match ts, hlen, hts with
  | [x, y, z, a, b, c], _, hts =>
    obtain ⟨px, hx⟩ := Option.isSome_iff_exists.mp (hts x (by simp))
    obtain ⟨py, hy⟩ := Option.isSome_iff_exists.mp (hts y (by simp))
    obtain ⟨pz, hz⟩ := Option.isSome_iff_exists.mp (hts z (by simp))
    obtain ⟨pa, ha⟩ := Option.isSome_iff_exists.mp (hts a (by simp))
    obtain ⟨pb, hb⟩ := Option.isSome_iff_exists.mp (hts b (by simp))
    obtain ⟨pc, hc⟩ := Option.isSome_iff_exists.mp (hts c (by simp))
    refine ⟨[px, py, pz, pa, pb, pc], ?_⟩
    unfold classifyRest
    dsimp only
    rw [if_neg e1, if_neg e2, if_neg e3, if_neg e4, hl, classifyUnits_of_ne (by decide)]
    dsimp only
    rw [classifySym_e hl]
    dsimp only
    rw [hd]
    dsimp only
    rw [if_pos hcond, hx, hy, hz, ha, hb, hc]

theorem classifyRest_efp_inv {s f : Str} {h : List NumParts} (hc : classifyRest s = .efp f h) :
    ∃ e ts, dropTrailingEmpty (splitSep s) = e :: f :: ts ∧ ts.length = 6 ∧ lowerS e = efpWord ∧ f ≠ [] ∧
      (∀ d ∈ f, isWord d = true) ∧ ∀ t ∈ ts, isNumber t = true := by
  cases classifyRest_case hc with
  | efp hd hcond hx hy hz ha hb hcc =>
    simp only [Bool.and_eq_true, beq_iff_eq, Bool.not_eq_true', List.isEmpty_eq_false_iff, List.all_eq_true] at hcond
    exact ⟨_, _, hd, rfl, hcond.1.1, hcond.1.2, hcond.2, by simp [isNumber, hx, hy, hz, ha, hb, hcc]⟩

/-! ## hand side: `efpHand` and the decomposition -/

theorem classify_of_fields {s : Str} (hs : s ≠ []) (h : 5 ≤ (splitSep s).length) : classify s = classifyRest s := by
  unfold classify
  have hse : s.isEmpty = false := by simpa [List.isEmpty_iff] using hs
  simp only [hse, Bool.false_eq_true, if_false]
  split
  · rename_i heq; rw [heq] at h; simp at h
  · rename_i heq; rw [heq] at h; simp at h
  · rfl

theorem efpHand_of_dec {s E sp0 f : Str} {ps : List (Str × Str)} {tl : Str} (h : EfpDec s E sp0 f ps tl) :
    efpHand s = some (f, ps.map (·.2)) := by
  obtain ⟨rfl, hE, hsp, hf0, hf, hl, hps, htl⟩ := h
  have hall : ∀ p ∈ (sp0, f) :: ps, SepOk p.1 ∧ TokOk p.2 := by
    intro p hp
    simp only [List.mem_cons] at hp
    rcases hp with rfl | hp
    · exact ⟨hsp, hf0, fun c hc => word_not_sep (hf c hc)⟩
    · exact ⟨(hps p hp).1, isNumber_tokOk (hps p hp).2⟩
  have hsplit : splitSep (E ++ (sp0 ++ (f ++ joinR ps tl))) = E :: f :: ps.map (·.2) ++ (if tl = [] then [] else [[]]) :=
    splitSep_joinR tl htl ((sp0, f) :: ps) E (Kw.lowerS_no_sep hE (by decide)) hall
  have hlow : lowerS (E ++ (sp0 ++ (f ++ joinR ps tl))) = 'e' :: 'f' :: 'p' :: lowerS (sp0 ++ (f ++ joinR ps tl)) := by
    rw [lowerS_append, hE]
    rfl
  have hEne : E ≠ [] := Kw.lowerS_ne_nil hE (by decide)
  -- a trailing separator run leaves one empty last field, which is dropped; no other field is empty
  have hd : dropTrailingEmpty (splitSep (E ++ (sp0 ++ (f ++ joinR ps tl)))) = E :: f :: ps.map (·.2) := by
    rw [hsplit]
    by_cases h0 : tl = []
    · rw [if_pos h0, List.append_nil]
      apply dropTrailingEmpty_of_ne
      intro t ht
      simp only [List.mem_cons, List.mem_map] at ht
      rcases ht with rfl | rfl | ⟨p, hp, rfl⟩
      · exact hEne
      · exact hf0
      · exact isNumber_ne_nil (hps p hp).2
    · rw [if_neg h0]
      exact dropTrailingEmpty_snoc _
  obtain ⟨h, hrest⟩ := classifyRest_efp hlow hd (by simpa using hl) hE hf0 hf (by
    intro t ht
    obtain ⟨p, hp, rfl⟩ := List.mem_map.mp ht
    exact (hps p hp).2)
  have hcl : classify (E ++ (sp0 ++ (f ++ joinR ps tl))) = .efp f h := by
    rw [classify_of_fields (by simp [hEne]) (by rw [hsplit]; simp [hl]; omega), hrest]
  unfold efpHand
  rw [hcl, hsplit]
  simp [List.take_left' (l₁ := ps.map (·.2)) (by simpa using hl)]

theorem joinR_snoc (tl : Str) : ∀ ps : List (Str × Str), joinR (ps ++ [(tl, [])]) [] = joinR ps tl
  | [] => by simp [joinR]
  | (sp, t) :: ps => by simp [joinR, joinR_snoc tl ps]

theorem nums_of_map {ps : List (Str × Str)} {ts : List Str} (hmap : ps.map (·.2) = ts) (hlen : ts.length = 6)
    (hps : ∀ p ∈ ps, SepOk p.1 ∧ ∀ d ∈ p.2, isSep d = false) (hts : ∀ t ∈ ts, isNumber t = true) :
    ps.length = 6 ∧ ∀ p ∈ ps, SepOk p.1 ∧ isNumber p.2 = true := by
  subst hmap
  exact ⟨by simpa using hlen, fun p hp => ⟨(hps p hp).1, hts _ (List.mem_map.mpr ⟨p, hp, rfl⟩)⟩⟩

theorem dec_of_efpHand {s : Str} {v : Str × List Str} (h : efpHand s = some v) : ∃ E sp0 f ps tl, EfpDec s E sp0 f ps tl := by
  unfold efpHand at h
  split at h
  · rename_i f hh hcl
    obtain ⟨e, ts, hd, hlen, he, hf0, hf, hts⟩ := classifyRest_efp_inv (classify_kw hcl (by simp) (by simp) (by simp))
    rcases dropTrailingEmpty_inv hd with hs | hs
    · obtain ⟨ps, hs', hmap, _, hps⟩ := splitSep_inv _ s e hs
      obtain ⟨⟨sp0, f'⟩, ps', rfl, hf', hmap'⟩ := List.map_eq_cons_iff.mp hmap
      simp only at hf'
      subst hf'
      obtain ⟨hl, hnum⟩ := nums_of_map hmap' hlen (fun p hp => hps p (by simp [hp])) hts
      exact ⟨e, sp0, f', ps', [], hs', he, (hps (sp0, f') (by simp)).1, hf0, hf, hl, hnum, by simp⟩
    · simp only [List.cons_append] at hs
      obtain ⟨ps, hs', hmap, _, hps⟩ := splitSep_inv _ s e hs
      obtain ⟨⟨sp0, f'⟩, ps1, rfl, hf', hmap1⟩ := List.map_eq_cons_iff.mp hmap
      simp only at hf'
      subst hf'
      obtain ⟨l1, l2, rfl, hm1, hm2⟩ := List.map_eq_append_iff.mp hmap1
      obtain ⟨⟨tl, t'⟩, l3, rfl, ht', hm3⟩ := List.map_eq_cons_iff.mp hm2
      simp only at ht'
      subst ht'
      have : l3 = [] := List.map_eq_nil_iff.mp hm3
      subst this
      obtain ⟨hl, hnum⟩ := nums_of_map hm1 hlen (fun p hp => hps p (by simp [hp])) hts
      refine ⟨e, sp0, f', l1, tl, ?_, he, (hps (sp0, f') (by simp)).1, hf0, hf, hl, hnum, (hps (tl, []) (by simp)).1.2⟩
      rw [hs']
      simp only [joinR, joinR_snoc]
  · cases h

end Efp

theorem efp_eq_regex (s : Str) : efpRe s = efpHand s := by
  unfold efpRe
  rw [efpxyzabc_shape]
  refine Efp.cext_efp.match_bos s (g := fun c => match (c.lookup 1).map ofBytes, Efp.numGroups.mapM fun i => (c.lookup i).map ofBytes with
    | some f, some h => some (f, h) | _, _ => none) (fun t r c hs hD => ?_) fun hne => ?_
  · obtain ⟨E, sp0, f, ps, tl, hdec, rfl, rfl⟩ := (Efp.DEfp_iff ..).mp hD
    rw [List.append_nil] at hs
    subst hs
    rw [Efp.efpHand_of_dec hdec]
    match ps, hdec.2.2.2.2.2.1 with
    | [(_, x1), (_, x2), (_, x3), (_, x4), (_, x5), (_, x6)], _ =>
      simp [Efp.numGroups, Efp.numCaps, List.lookup, ofBytes_toBytes]
  · obtain ⟨v, hv⟩ := Option.ne_none_iff_exists'.mp hne
    obtain ⟨E, sp0, f, ps, tl, hdec⟩ := Efp.dec_of_efpHand hv
    exact ⟨s, [], _, by simp, (Efp.DEfp_iff ..).mpr ⟨E, sp0, f, ps, tl, hdec, rfl, rfl⟩⟩

end QcelVerif.MolText
