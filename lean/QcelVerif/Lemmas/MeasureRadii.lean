import QcelVerif.Model.MeasureRadii
import QcelVerif.Lemmas.Measure
/-!
Helper lemmas for `Props/C18Radii.lean` (nothing here is a property statement): how the atoms
built by `atomsOfSymbols` relate, index by index, to the `(symbol, point)` rows.
-/
set_option linter.unusedSectionVars false
namespace QcelVerif.Measure
open QcelVerif QcelVerif.PStr

variable {K : Type}

/-- if a non-empty list of rows gives atoms, its head has a radius and its tail gives atoms -/
theorem atomsOfSymbols_cons_inv {rad : Bytes → Option K} {s : Bytes} {p : V3 K}
    {rest : List (Bytes × V3 K)} {as : List (Atom K)} (h : atomsOfSymbols rad ((s, p) :: rest) = some as) :
    ∃ r as', rad s = some r ∧ atomsOfSymbols rad rest = some as' ∧ as = ⟨r, p⟩ :: as' := by
  simp only [atomsOfSymbols] at h
  split at h
  · next r as' hr hrest => exact ⟨r, as', hr, hrest, (Option.some.inj h).symm⟩
  · cases h

theorem atomsOfSymbols_getElem? (rad : Bytes → Option K) :
    ∀ (l : List (Bytes × V3 K)) (as : List (Atom K)), atomsOfSymbols rad l = some as →
      ∀ (i : Nat) (a : Atom K), as[i]? = some a ↔
        ∃ s, l[i]? = some (s, a.p) ∧ rad s = some a.r
  | [], as, h, i, a => by
      cases h
      simp
  | (s, p) :: rest, as, h, i, a => by
      obtain ⟨r, as', hr, hrest, rfl⟩ := atomsOfSymbols_cons_inv h
      cases i with
      | zero =>
        obtain ⟨ar, ap⟩ := a
        simp only [List.getElem?_cons_zero, Option.some.injEq, Atom.mk.injEq, Prod.mk.injEq]
        constructor
        · rintro ⟨rfl, rfl⟩
          exact ⟨s, ⟨rfl, rfl⟩, hr⟩
        · rintro ⟨s', ⟨rfl, rfl⟩, hr'⟩
          exact ⟨Option.some.inj (hr.symm.trans hr'), rfl⟩
      | succ i => exact atomsOfSymbols_getElem? rad rest as' hrest i a

theorem atomsOfSymbols_length (rad : Bytes → Option K) :
    ∀ (l : List (Bytes × V3 K)) (as : List (Atom K)), atomsOfSymbols rad l = some as →
      as.length = l.length
  | [], as, h => by
      cases h
      rfl
  | (s, p) :: rest, as, h => by
      obtain ⟨r, as', -, hrest, rfl⟩ := atomsOfSymbols_cons_inv h
      simp [atomsOfSymbols_length rad rest as' hrest]

section ordered
variable {K : Type} [Field K] [LinearOrder K] [IsStrictOrderedRing K]

/-- moving the geometry moves the atoms and leaves the radii (and any look-up failure) alone -/
theorem atomsOfSymbols_move (rad : Bytes → Option K) (T : Motion K) :
    ∀ (l : List (Bytes × V3 K)),
      atomsOfSymbols rad (l.map fun sp => (sp.1, T.apply sp.2))
        = (atomsOfSymbols rad l).map (List.map (Atom.move T))
  | [] => rfl
  | (s, p) :: rest => by
      simp only [List.map_cons, atomsOfSymbols, atomsOfSymbols_move rad T rest]
      cases rad s with
      | none => rfl
      | some r =>
        cases atomsOfSymbols rad rest with
        | none => rfl
        | some as => rfl

end ordered

end QcelVerif.Measure
