import QcelVerif.Lemmas.C07ReChgmult
/-!
C07 — the keyword lines of `_filter_universals`:

    com      = `\A(no_com|nocom)\Z`                  IGNORECASE
    orient   = `\A(no_reorient|noreorient)\Z`        IGNORECASE
    symmetry = `\Asymmetry[\s=]+(?P<pg>\w+)\Z`       IGNORECASE

The generic engine run on the generated ASTs (`comRe`, `orientRe`, `symRe`) is what M1's line classifier `classify` answers
(`comHand`, `orientHand`, `symHand`), for every string.

A case-folded literal word is a chain of one-character classes (`litK`, `litC`); the ways such a chain matches from a cursor
are the splits `word' ++ rest` with `lowerS word' = word` (`mem_litK`).  On the hand side the token branches of
`classify` (atom line, CHGMULT line) cannot fire on a line that the keyword regexes accept — a com / orient line is a single field
(`classify_one_field`), a symmetry line starts with four letters (`classify_kw_line`, through `classify_eq_rest`) — and
`classifyRest` walks its `if` chain.
-/
namespace QcelVerif.MolText
open QcelVerif.Regex QcelVerif.Gen

-- helpers live in `QcelVerif.MolText.Kw`; the `…_shape` and `…_eq_regex` theorems are declared in `QcelVerif.MolText` (`_root_`)
namespace Kw

/-! ## a literal character / word under IGNORECASE, as the translator emits it -/

/-- one literal character: a lower-case letter is folded to the pair `[k, k-32]`, any other character stands alone -/
def litC (k : Nat) : Re := if 97 ≤ k ∧ k ≤ 122 then .cls false [.ch k, .ch (k - 32)] else .cls false [.ch k]

/-- the literal word `ks`, then `r` -/
def litK : List Nat → Re → Re
  | [], r => r
  | k :: ks, r => .seq (litC k) (litK ks r)

/-- `[\s=]+` -/
def wsEq1 : Re := .rep 1 none true (.cls false [.space, .ch 61])
/-- `\w+` -/
def word1 : Re := .rep 1 none true (.cls false [.word])

/-! ## shapes -/

/-- `\A(no(?:_com|com))\Z` — CPython's parser factors the common prefix `no` -/
theorem _root_.QcelVerif.MolText.com_shape : FromStringRegex.com =
    .seq .bos (.seq (.group 1 (litK [110, 111] (.alt (litK [95, 99, 111] (litC 109)) (litK [99, 111] (litC 109))))) .eos) := rfl

theorem _root_.QcelVerif.MolText.orient_shape : FromStringRegex.orient =
    .seq .bos (.seq (.group 1 (litK [110, 111]
      (.alt (litK [95, 114, 101, 111, 114, 105, 101, 110] (litC 116)) (litK [114, 101, 111, 114, 105, 101, 110] (litC 116))))) .eos) := rfl

theorem _root_.QcelVerif.MolText.symmetry_shape : FromStringRegex.symmetry =
    .seq .bos (litK [115, 121, 109, 109, 101, 116, 114, 121] (.seq wsEq1 (.seq (.group 1 word1) .eos))) := rfl

theorem symmetry_group : FromStringRegex.symmetryG.pg = 1 := rfl

/-! ## characters -/

/-- a literal that is no upper-case letter: the class the translator emits holds exactly the characters that lower-case to it -/
theorem cls_lit (c : Char) (k : Nat) (hk : k < 65 ∨ 90 < k) (hk' : ¬ (97 ≤ k ∧ k ≤ 122)) :
    clsMem false [.ch k] c.toNat = (c.toLower.toNat == k) := by
  rw [toLower_nat]
  simp only [clsMem, Item.mem, List.any_cons, List.any_nil, Bool.or_false]
  rw [Bool.eq_iff_iff]
  by_cases h : 65 ≤ c.toNat ∧ c.toNat ≤ 90
  · simp only [h, and_self, if_true, bne_iff_ne, ne_eq, Bool.not_eq_false, beq_iff_eq]
    omega
  · simp only [h, if_false, bne_iff_ne, ne_eq, Bool.not_eq_false, beq_iff_eq]

theorem mem_litC (k : Nat) (hk : k < 65 ∨ 90 < k) {st x : St} {U : Str} (hU : st.rest = toBytes U) :
    x ∈ (litC k).ms st ↔
      ∃ C T, U = C :: T ∧ C.toLower.toNat = k ∧ x = { st with prev := some C.toNat, rest := toBytes T } := by
  unfold litC
  split
  · rename_i h
    simp only [mem_cls_str (fun c => cls_ci c k h) hU, beq_iff_eq]
  · rename_i h
    simp only [mem_cls_str (fun c => cls_lit c k hk h) hU, beq_iff_eq]

abbrev okL (w : Str) : Prop := ∀ c ∈ w, c.toNat < 65 ∨ 90 < c.toNat

/-- the ways the word `w` (then `r`) matches: a prefix of the text that lower-cases to `w`, then `r` from behind it -/
theorem mem_litK (r : Re) : ∀ (w : Str), okL w → ∀ {st x : St} {U : Str}, st.rest = toBytes U →
    (x ∈ (litK (toBytes w) r).ms st ↔ ∃ A T, U = A ++ T ∧ lowerS A = w ∧ x ∈ r.ms (st.adv (toBytes A) (toBytes T)))
  | [], _, st, x, U, hU => by
    have hst : st.adv (toBytes []) (toBytes U) = st := by rw [← hU]; rfl
    constructor
    · intro hx
      exact ⟨[], U, rfl, rfl, hst.symm ▸ hx⟩
    · rintro ⟨A, T, rfl, hA, hx⟩
      obtain rfl := lowerS_eq_nil.mp hA
      exact hst ▸ hx
  | k :: w, hw, st, x, U, hU => by
    have ih := fun {st x U} => mem_litK r w (fun j hj => hw j (by simp [hj])) (st := st) (x := x) (U := U)
    simp only [toBytes_cons, litK, mem_ms_seq, mem_litC k.toNat (hw k (by simp)) hU]
    constructor
    · rintro ⟨_, ⟨C, T1, rfl, hC, rfl⟩, hx⟩
      obtain ⟨A, T, rfl, rfl, hx'⟩ := (ih rfl).mp hx
      exact ⟨C :: A, T, rfl, lowerS_eq_cons.mpr ⟨C, A, rfl, Char.toNat_inj.mp hC, rfl⟩, hx'⟩
    · rintro ⟨A, T, rfl, hA, hx⟩
      obtain ⟨C, A', rfl, rfl, rfl⟩ := lowerS_eq_cons.mp hA
      exact ⟨_, ⟨C, A' ++ T, rfl, rfl, rfl⟩, (ih rfl).mpr ⟨A', T, rfl, rfl, hx⟩⟩

/-- a whole case-folded word, its last character `k` apart, as a language -/
theorem ext_word (w : Str) (k : Char) (hw : okL w) (hk : k.toNat < 65 ∨ 90 < k.toNat) :
    Ext (litK (toBytes w) (litC k.toNat)) (fun t => lowerS t = w ++ [k]) := by
  intro s st x hs
  rw [mem_litK _ w hw hs]
  constructor
  · rintro ⟨A, R, rfl, rfl, hx⟩
    obtain ⟨C, T, rfl, hC, rfl⟩ := (mem_litC k.toNat hk rfl).mp hx
    refine ⟨A ++ [C], T, by simp, Char.toNat_inj.mp hC ▸ lowerS_append A [C], ?_⟩
    rw [toBytes_append]
    exact adv_adv st (toBytes A) (toBytes (C :: T)) (toBytes [C]) (toBytes T)
  · rintro ⟨t, T, rfl, ht, rfl⟩
    obtain ⟨A, B, rfl, hA, hB⟩ := lowerS_append_inv ht
    obtain ⟨C, B', rfl, hC, hB'⟩ := lowerS_eq_cons.mp hB
    obtain rfl := lowerS_eq_nil.mp hB'
    refine ⟨A, C :: T, by simp, hA, (mem_litC k.toNat hk rfl).mpr ⟨C, T, rfl, by rw [hC], ?_⟩⟩
    rw [toBytes_append]
    exact (adv_adv st (toBytes A) (toBytes (C :: T)) (toBytes [C]) (toBytes T)).symm

/-! ## regex side of `com` / `orient`: a two-word keyword pattern -/

/-- `\A(p(?:a1 z1|a2 z2))\Z` -/
def kw2 (p a1 : Str) (z1 : Char) (a2 : Str) (z2 : Char) : Re :=
  .seq .bos (.seq (.group 1 (litK (toBytes p) (.alt (litK (toBytes a1) (litC z1.toNat)) (litK (toBytes a2) (litC z2.toNat))))) .eos)

theorem kw2_isSome (p a1 : Str) (z1 : Char) (a2 : Str) (z2 : Char) (hp : okL p) (h1 : okL a1) (h2 : okL a2)
    (hz1 : z1.toNat < 65 ∨ 90 < z1.toNat) (hz2 : z2.toNat < 65 ∨ 90 < z2.toNat) (s : Str) :
    ((kw2 p a1 z1 a2 z2).matchPrefix (toBytes s)).isSome = true ↔
      (lowerS s = p ++ (a1 ++ [z1]) ∨ lowerS s = p ++ (a2 ++ [z2])) := by
  have hext := Ext.alt (ext_word a1 z1 h1 hz1) (ext_word a2 z2 h2 hz2)
  rw [matchPrefix_isSome_iff]
  constructor
  · rintro ⟨x, hx⟩
    obtain ⟨m0, h0, hx⟩ := mem_ms_seq.mp hx
    obtain ⟨_, rfl⟩ := mem_ms_bos.mp h0
    obtain ⟨hx, hr⟩ := mem_ms_seq_eos.mp hx
    obtain ⟨y, hy, rfl⟩ := mem_ms_group.mp hx
    obtain ⟨A, T, rfl, rfl, hT⟩ := (mem_litK _ p hp rfl).mp hy
    rw [lowerS_append]
    rcases (hext.mem_end_iff rfl).mp ⟨_, hT, hr⟩ with h | h
    · exact Or.inl (by rw [h])
    · exact Or.inr (by rw [h])
  · intro h
    -- the text behind the common prefix is one of the two words
    obtain ⟨A, B, rfl, hA, hB⟩ : ∃ A B, s = A ++ B ∧ lowerS A = p ∧
        LAlt (fun t => lowerS t = a1 ++ [z1]) (fun t => lowerS t = a2 ++ [z2]) B := by
      rcases h with h | h
      · obtain ⟨A, B, rfl, hA, hB⟩ := lowerS_append_inv h
        exact ⟨A, B, rfl, hA, Or.inl hB⟩
      · obtain ⟨A, B, rfl, hA, hB⟩ := lowerS_append_inv h
        exact ⟨A, B, rfl, hA, Or.inr hB⟩
    obtain ⟨y, hy, hyr⟩ := (hext.mem_end_iff (st := (St.init (toBytes (A ++ B))).adv (toBytes A) (toBytes B)) rfl).mpr hB
    exact ⟨_, mem_ms_seq.mpr ⟨_, mem_ms_bos.mpr ⟨rfl, rfl⟩, mem_ms_seq_eos.mpr
      ⟨mem_ms_group.mpr ⟨y, (mem_litK _ p hp rfl).mpr ⟨A, B, rfl, hA, hy⟩, rfl⟩, hyr⟩⟩⟩

theorem comRe_iff (s : Str) : comRe s = true ↔ (lowerS s = kwNoCom ∨ lowerS s = kwNocom) := by
  unfold comRe
  rw [com_shape]
  exact kw2_isSome ['n', 'o'] ['_', 'c', 'o'] 'm' ['c', 'o'] 'm' (by decide) (by decide) (by decide) (by decide) (by decide) s

theorem orientRe_iff (s : Str) : orientRe s = true ↔ (lowerS s = kwNoReorient ∨ lowerS s = kwNoreorient) := by
  unfold orientRe
  rw [orient_shape]
  exact kw2_isSome ['n', 'o'] ['_', 'r', 'e', 'o', 'r', 'i', 'e', 'n'] 't' ['r', 'e', 'o', 'r', 'i', 'e', 'n'] 't'
    (by decide) (by decide) (by decide) (by decide) (by decide) s

/-! ## hand side: `classify` on keyword lines -/

/-- a line without separator characters is a single field: the token branches do not apply -/
theorem classify_one_field {s : Str} (hs : s ≠ []) (h : ∀ c ∈ s, isSep c = false) : classify s = classifyRest s := by
  have hsp : splitSep s = [s] := by
    have := splitSep_tok_append s [] [] [] h (by simp [splitSep])
    simpa using this
  unfold classify
  have hse : s.isEmpty = false := by simpa [List.isEmpty_iff] using hs
  simp only [hse, Bool.false_eq_true, if_false, hsp]

theorem lowerS_no_sep {s w : Str} (h : lowerS s = w) (hw : ∀ c ∈ w, isSep c = false) : ∀ c ∈ s, isSep c = false := by
  intro c hc
  rw [← isSep_toLower]
  apply hw
  rw [← h]
  exact List.mem_map.mpr ⟨c, hc, rfl⟩

theorem lowerS_ne_nil {s w : Str} (h : lowerS s = w) (hw : w ≠ []) : s ≠ [] := by
  intro hs; subst hs; exact hw h.symm

theorem classifyRest_com_iff (s : Str) : classifyRest s = .com ↔ (lowerS s = kwNoCom ∨ lowerS s = kwNocom) := by
  constructor
  · intro h
    cases classifyRest_case h
    assumption
  · intro h
    unfold classifyRest
    dsimp only
    rw [no_com_toList, nocom_toList, if_pos (by simpa using h)]

theorem classifyRest_orient_iff (s : Str) :
    classifyRest s = .orient ↔ (lowerS s = kwNoReorient ∨ lowerS s = kwNoreorient) := by
  constructor
  · intro h
    cases classifyRest_case h
    assumption
  · intro h
    have h0 : ¬ (lowerS s == kwNoCom || lowerS s == kwNocom) = true := by
      rcases h with h | h <;> rw [h] <;> decide
    unfold classifyRest
    dsimp only
    rw [no_com_toList, nocom_toList, no_reorient_toList, noreorient_toList, if_neg h0, if_pos (by simpa using h)]

/-- a keyword that `classifyRest` recognises by the lower-cased line being one of two separator-free words: so does `classify` -/
theorem classify_word_iff {s : Str} {L : Line} {w1 w2 : Str} (h0 : L ≠ .blank) (h1 : ∀ n x y z, L ≠ .atom n x y z)
    (h2 : ∀ c m, L ≠ .cgmp c m) (hrest : classifyRest s = L ↔ (lowerS s = w1 ∨ lowerS s = w2))
    (hw1 : w1 ≠ [] ∧ ∀ c ∈ w1, isSep c = false) (hw2 : w2 ≠ [] ∧ ∀ c ∈ w2, isSep c = false) :
    classify s = L ↔ (lowerS s = w1 ∨ lowerS s = w2) := by
  constructor
  · intro h
    exact hrest.mp (classify_kw h h0 h1 h2)
  · intro h
    have hs : s ≠ [] ∧ ∀ c ∈ s, isSep c = false := by
      rcases h with h | h
      · exact ⟨lowerS_ne_nil h hw1.1, lowerS_no_sep h hw1.2⟩
      · exact ⟨lowerS_ne_nil h hw2.1, lowerS_no_sep h hw2.2⟩
    rw [classify_one_field hs.1 hs.2]
    exact hrest.mpr h

/-- **com**: `\A(no_com|nocom)\Z` under IGNORECASE, by the generic engine on the generated AST, is what `classify` answers -/
theorem _root_.QcelVerif.MolText.com_eq_regex (s : Str) : comRe s = comHand s := by
  rw [Bool.eq_iff_iff, comRe_iff, comHand, beq_iff_eq]
  exact (classify_word_iff (by simp) (by simp) (by simp) (classifyRest_com_iff s) (by decide) (by decide)).symm

/-- **orient**: `\A(no_reorient|noreorient)\Z` under IGNORECASE -/
theorem _root_.QcelVerif.MolText.orient_eq_regex (s : Str) : orientRe s = orientHand s := by
  rw [Bool.eq_iff_iff, orientRe_iff, orientHand, beq_iff_eq]
  exact (classify_word_iff (by simp) (by simp) (by simp) (classifyRest_orient_iff s) (by decide) (by decide)).symm

/-! ## hand side: a line that starts with four letters is no atom line and no CHGMULT line -/

theorem parseNumber_letter {c : Char} (X : Str) (h : IsLetter c) : parseNumber (c :: X) = none := by
  simp [parseNumber, letter_not_mant h, parseMant]

theorem parseCore_letters (g : Bool) {c1 c2 c3 c4 : Char} (X : Str) (h1 : IsLetter c1) (h2 : IsLetter c2) (h3 : IsLetter c3) (h4 : IsLetter c4) :
    parseCore g (c1 :: c2 :: c3 :: c4 :: X) = none := by
  have a1 : (c1 != '@') = true := by simp [bne, letter_ne h1 '@' (by decide)]
  have a2 : (c2 != '@') = true := by simp [bne, letter_ne h2 '@' (by decide)]
  have a3 : (c3 != '@') = true := by simp [bne, letter_ne h3 '@' (by decide)]
  have a4 : (c4 != '@') = true := by simp [bne, letter_ne h4 '@' (by decide)]
  unfold parseCore
  simp only [List.takeWhile_cons, List.dropWhile_cons, a1, a2, a3, a4, if_true, letter_not_digit h1, letter_alpha h1, letter_alpha h2,
    letter_alpha h3, letter_alpha h4, Bool.false_eq_true, if_false]
  split
  · rfl
  · simp

theorem parseNucleus_letters {c1 c2 c3 c4 : Char} (X : Str) (h1 : IsLetter c1) (h2 : IsLetter c2) (h3 : IsLetter c3) (h4 : IsLetter c4) :
    parseNucleus (c1 :: c2 :: c3 :: c4 :: X) = none := by
  unfold parseNucleus
  simp only [letter_ne h1 '@' (by decide), isGhPrefix, letter_ne h3 '(' (by decide), Bool.and_false, Bool.false_eq_true, if_false]
  exact parseCore_letters false X h1 h2 h3 h4

/-- the token branches of `classify` need a NUMBER (two fields) or a NUCLEUS (four fields) in front -/
theorem classify_eq_rest {s : Str} (hs : s ≠ []) (hnum : parseNumber (s.takeWhile nsep) = none)
    (hnuc : parseNucleus (s.takeWhile nsep) = none) : classify s = classifyRest s := by
  unfold classify
  have hse : s.isEmpty = false := by simpa [List.isEmpty_iff] using hs
  simp only [hse, Bool.false_eq_true, if_false]
  rw [splitSep_unfold s]
  generalize (if s.dropWhile nsep = [] then [] else splitSep ((s.dropWhile nsep).dropWhile isSep)) = T
  rcases T with _ | ⟨b, _ | ⟨c, _ | ⟨d, _ | ⟨e, T⟩⟩⟩⟩
  · rfl
  · simp only [hnum]
  · rfl
  · simp only [hnuc]
  · rfl

/-- a keyword line: the lower-cased line starts with four lower-case letters -/
theorem classify_kw_line {s r : Str} {a b c d : Char} (h : lowerS s = a :: b :: c :: d :: r) (ha : 97 ≤ a.toNat ∧ a.toNat ≤ 122)
    (hb : 97 ≤ b.toNat ∧ b.toNat ≤ 122) (hc : 97 ≤ c.toNat ∧ c.toNat ≤ 122) (hd : 97 ≤ d.toNat ∧ d.toNat ≤ 122) :
    classify s = classifyRest s := by
  obtain ⟨c1, s1, rfl, e1, h⟩ := lowerS_eq_cons.mp h
  obtain ⟨c2, s2, rfl, e2, h⟩ := lowerS_eq_cons.mp h
  obtain ⟨c3, s3, rfl, e3, h⟩ := lowerS_eq_cons.mp h
  obtain ⟨c4, X, rfl, e4, _⟩ := lowerS_eq_cons.mp h
  have h1 := letter_of_lower e1 ha
  have h2 := letter_of_lower e2 hb
  have h3 := letter_of_lower e3 hc
  have h4 := letter_of_lower e4 hd
  have ht : (c1 :: c2 :: c3 :: c4 :: X).takeWhile nsep = c1 :: c2 :: c3 :: c4 :: X.takeWhile nsep := by
    simp [nsep, letter_not_sep h1, letter_not_sep h2, letter_not_sep h3, letter_not_sep h4]
  apply classify_eq_rest (by simp)
  · rw [ht]; exact parseNumber_letter _ h1
  · rw [ht]; exact parseNucleus_letters _ h1 h2 h3 h4

/-! ## hand side of `symmetry` -/

def symWord : Str := ['s', 'y', 'm', 'm', 'e', 't', 'r', 'y']

theorem classifySym_prefix {s pg : Str} (h : classifySym s = some pg) : ∃ r, lowerS s = symWord ++ r := by
  unfold classifySym at h
  dsimp only at h
  split at h
  · rename_i r heq; exact ⟨r, heq⟩
  · cases h

theorem classifySym_eq {s r : Str} (h : lowerS s = symWord ++ r) :
    classifySym s = match afterKw r with
      | none => none
      | some pg => if (!pg.isEmpty && pg.all isWord) = true then some pg else none := by
  unfold classifySym
  dsimp only
  rw [h]
  rfl

theorem classifyRest_sym {s pg : Str} (h : classifySym s = some pg) : classifyRest s = .sym pg := by
  obtain ⟨r, hl⟩ := classifySym_prefix h
  obtain ⟨e1, e2, e3, e4⟩ := keywordTests_false (c := 's') hl (by decide) (by decide) (by decide)
  unfold classifyRest
  dsimp only
  rw [if_neg e1, if_neg e2, if_neg e3, if_neg e4, hl, show symWord ++ r = 's' :: ('y' :: 'm' :: 'm' :: 'e' :: 't' :: 'r' :: 'y' :: r) from rfl,
    classifyUnits_of_ne (by decide), h]

theorem symHand_eq (s : Str) : symHand s = classifySym s := by
  unfold symHand
  cases hc : classifySym s with
  | some pg =>
    obtain ⟨r, hl⟩ := classifySym_prefix hc
    rw [classify_kw_line hl (by decide) (by decide) (by decide) (by decide), classifyRest_sym hc]
  | none =>
    split
    · rename_i pg hcl
      cases classifyRest_case (classify_kw hcl (by simp) (by simp) (by simp))
      rename_i hs
      rw [hc] at hs
      cases hs
    · rfl

/-! ## regex side of `symmetry` -/

/-- the decomposition both sides agree on: keyword, `[\s=]+` run, point-group word -/
def SymSplit (s K W P : Str) : Prop :=
  s = K ++ (W ++ P) ∧ lowerS K = symWord ∧ W ≠ [] ∧ (∀ c ∈ W, isWsEq c = true) ∧ P ≠ [] ∧ (∀ c ∈ P, isWord c = true)

/-- `symmetry[\s=]+(?P<pg>\w+)\Z` -/
def DSym : OLang Caps :=
  DSeq (DKeep fun K => lowerS K = symWord)
    (DSeq (DKeep (LPlus isWsEq)) (DSeq (DCap 1 (DKeep (LPlus isWord))) DEos))

theorem cext_sym : CExt (litK [115, 121, 109, 109, 101, 116, 114, 121] (.seq wsEq1 (.seq (.group 1 word1) .eos))) DSym :=
  .of_mem_seq (mem_litK _ symWord (by decide)) (.seq (.ofExt (Ext.plus cls_wsEq)) (.seq (CExt.group 1 (.ofExt (Ext.plus cls_word))) .eos))

theorem DSym_iff (t r : Str) (c' : Caps) : DSym [] t r c' ↔ ∃ K W P, SymSplit t K W P ∧ r = [] ∧ c' = [(1, toBytes P)] := by
  simp only [DSym, DSeq, DCap, DGroup, DKeep, DEos, SymSplit]
  constructor
  · rintro ⟨K, _, _, rfl, ⟨hK, rfl⟩, W, _, _, rfl, ⟨hW, rfl⟩, P, _, _, rfl, ⟨_, ⟨hP, rfl⟩, rfl⟩, rfl, rfl, rfl⟩
    exact ⟨K, W, P, ⟨by simp, hK, hW.1, hW.2, hP.1, hP.2⟩, rfl, rfl⟩
  · rintro ⟨K, W, P, ⟨rfl, hK, hW0, hW, hP0, hP⟩, rfl, rfl⟩
    exact ⟨K, _, _, rfl, ⟨hK, rfl⟩, W, _, _, rfl, ⟨⟨hW0, hW⟩, rfl⟩, P, [], _, by simp,
      ⟨_, ⟨⟨hP0, hP⟩, rfl⟩, rfl⟩, rfl, rfl, rfl⟩

theorem classifySym_split {s K W P : Str} (h : SymSplit s K W P) : classifySym s = some (lowerS P) := by
  obtain ⟨rfl, hK, hW0, hW, hP0, hP⟩ := h
  have hstop : ∀ d ∈ P.head?, isWsEq d = false := fun d hd => word_not_wsEq (hP d (List.mem_of_mem_head? hd))
  rw [classifySym_eq (r := lowerS (W ++ P)) (by rw [lowerS_append, hK]), afterKw_run hW0 hW hstop]
  have h1 : (lowerS P).isEmpty = false := by
    cases P with
    | nil => exact absurd rfl hP0
    | cons _ _ => rfl
  have h2 : (lowerS P).all isWord = true := by
    rw [List.all_eq_true]
    intro c hc
    obtain ⟨d, hd, rfl⟩ := List.mem_map.mp hc
    rw [isWord_toLower]; exact hP d hd
  simp [h1, h2]

theorem classifySym_decomp {s pg : Str} (h : classifySym s = some pg) : ∃ K W P, SymSplit s K W P := by
  obtain ⟨r, hl⟩ := classifySym_prefix h
  obtain ⟨K, R, rfl, hK, rfl⟩ := lowerS_append_inv hl
  rw [classifySym_eq hl] at h
  cases hak : afterKw (lowerS R) with
  | none => rw [hak] at h; cases h
  | some u =>
    obtain ⟨W, P, rfl, hW0, hW, rfl⟩ := afterKw_inv hak
    rw [hak] at h
    dsimp only at h
    split at h
    · rename_i hcond
      simp only [Bool.and_eq_true, Bool.not_eq_true', List.all_eq_true] at hcond
      refine ⟨K, W, P, rfl, hK, hW0, hW, ?_, ?_⟩
      · intro hP; rw [hP] at hcond; simp [lowerS] at hcond
      · intro d hd
        rw [← isWord_toLower]
        exact hcond.2 _ (List.mem_map.mpr ⟨d, hd, rfl⟩)
    · cases h

theorem symRe_eq (s : Str) : symRe s = classifySym s := by
  unfold symRe
  rw [symmetry_shape, symmetry_group]
  refine cext_sym.match_bos s (g := fun c => ((c.lookup 1).map ofBytes).map lowerS) (fun t r c hs hD => ?_) fun hne => ?_
  · obtain ⟨K, W, P, hsp, rfl, rfl⟩ := (DSym_iff ..).mp hD
    rw [List.append_nil] at hs
    subst hs
    rw [classifySym_split hsp]
    simp [List.lookup, ofBytes_toBytes]
  · obtain ⟨pg, hc⟩ := Option.ne_none_iff_exists'.mp hne
    obtain ⟨K, W, P, hsp⟩ := classifySym_decomp hc
    exact ⟨s, [], _, by simp, (DSym_iff ..).mpr ⟨K, W, P, hsp, rfl, rfl⟩⟩

/-- **symmetry**: `\Asymmetry[\s=]+(?P<pg>\w+)\Z` under IGNORECASE, by the generic engine on the generated AST and read as
`process_symmetry` reads it (`group("pg").lower()`), is what `classify` answers -/
theorem _root_.QcelVerif.MolText.sym_eq_regex (s : Str) : symRe s = symHand s := by
  rw [symRe_eq, symHand_eq]

end Kw

end QcelVerif.MolText
