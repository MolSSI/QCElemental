import QcelVerif.Model.Orient
import Mathlib.Tactic.Ring
import Mathlib.Tactic.LinearCombination
import Mathlib.Tactic.Linarith

/-! Helper lemmas for C16.  Three of them are audited as property statements by `harness/c16.py`: `phaseLoop_eq_colSign`,
`wsum_center_other`, `inertia_flip`. -/

namespace QcelVerif.Orient

/-! ## extensionality -/
theorem V3.ext' {K : Type} {p q : V3 K} (hx : p.x = q.x) (hy : p.y = q.y) (hz : p.z = q.z) : p = q := by
  cases p; cases q; simp_all

theorem M3.ext' {K : Type} {A B : M3 K}
    (h1 : A.xx = B.xx) (h2 : A.xy = B.xy) (h3 : A.xz = B.xz)
    (h4 : A.yx = B.yx) (h5 : A.yy = B.yy) (h6 : A.yz = B.yz)
    (h7 : A.zx = B.zx) (h8 : A.zy = B.zy) (h9 : A.zz = B.zz) : A = B := by
  cases A; cases B; simp_all

theorem tr_tr {K : Type} (A : M3 K) : M3.tr (M3.tr A) = A := rfl

/-! ## components by index -/

/-- the coordinate axes: index of the components of a `V3` and of the rows and columns of an `M3` -/
inductive Ix where
  | x | y | z

def V3.get {K : Type} (p : V3 K) : Ix → K
  | .x => p.x | .y => p.y | .z => p.z

def M3.row {K : Type} (A : M3 K) : Ix → V3 K
  | .x => ⟨A.xx, A.xy, A.xz⟩ | .y => ⟨A.yx, A.yy, A.yz⟩ | .z => ⟨A.zx, A.zy, A.zz⟩

def M3.col {K : Type} (A : M3 K) : Ix → V3 K
  | .x => ⟨A.xx, A.yx, A.zx⟩ | .y => ⟨A.xy, A.yy, A.zy⟩ | .z => ⟨A.xz, A.yz, A.zz⟩

/-- entry in row `i`, column `j` -/
def M3.get {K : Type} (A : M3 K) (i j : Ix) : K := (A.row i).get j

theorem col_get {K : Type} (A : M3 K) (i j : Ix) : (A.col j).get i = A.get i j := by cases i <;> cases j <;> rfl

/-- with it a matrix identity is ONE identity of scalars in a generic row `i` and column `j` (the `_get` lemmas below say what
each operation does to an entry) -/
theorem M3.ext_get {K : Type} {A B : M3 K} (h : ∀ i j, A.get i j = B.get i j) : A = B :=
  M3.ext' (h .x .x) (h .x .y) (h .x .z) (h .y .x) (h .y .y) (h .y .z) (h .z .x) (h .z .y) (h .z .z)

section Ring
variable {K : Type} [CommRing K]

/-- `Vᵀ A V` -/
def sandwich (V A : M3 K) : M3 K := M3.mul (M3.mul (M3.tr V) A) V

/-- one atom's contribution `m (|p|² 1 - pᵀp)` to the inertia tensor -/
def I1 (m : K) (p : V3 K) : M3 K := M3.smul m (M3.sub (M3.smul (V3.normSq p) M3.one) (M3.outer p p))

def V3.dot (p q : V3 K) : K := p.x * q.x + p.y * q.y + p.z * q.z

/-! ### entries -/

theorem mul_get (A B : M3 K) (i j : Ix) :
    (M3.mul A B).get i j = A.get i .x * B.get .x j + A.get i .y * B.get .y j + A.get i .z * B.get .z j := by
  cases i <;> cases j <;> rfl

theorem add_get (A B : M3 K) (i j : Ix) : (M3.add A B).get i j = A.get i j + B.get i j := by
  cases i <;> cases j <;> rfl

theorem sub_get (A B : M3 K) (i j : Ix) : (M3.sub A B).get i j = A.get i j - B.get i j := by
  cases i <;> cases j <;> rfl

theorem tr_get (A : M3 K) (i j : Ix) : (M3.tr A).get i j = A.get j i := by cases i <;> cases j <;> rfl

theorem smul_get (a : K) (A : M3 K) (i j : Ix) : (M3.smul a A).get i j = a * A.get i j := by cases i <;> cases j <;> rfl

theorem zero_get (i j : Ix) : (M3.zero : M3 K).get i j = 0 := by cases i <;> cases j <;> rfl

theorem outer_get (p q : V3 K) (i j : Ix) : (M3.outer p q).get i j = p.get i * q.get j := by cases i <;> cases j <;> rfl

theorem mulMat_get (p : V3 K) (V : M3 K) (j : Ix) :
    (V3.mulMat p V).get j = p.get .x * V.get .x j + p.get .y * V.get .y j + p.get .z * V.get .z j := by cases j <;> rfl

/-! ### vectors -/

theorem mulMat_zero (V : M3 K) : V3.mulMat V3.zero V = V3.zero := by
  apply V3.ext' <;> simp [V3.mulMat, V3.zero]

theorem flip_zero (a b c : K) : V3.flip a b c V3.zero = V3.zero := by
  apply V3.ext' <;> simp [V3.flip, V3.zero]

theorem mulMat_sub (p q : V3 K) (V : M3 K) : V3.mulMat (V3.sub p q) V = V3.sub (V3.mulMat p V) (V3.mulMat q V) := by
  apply V3.ext' <;> simp only [V3.mulMat, V3.sub] <;> ring

theorem mulMat_mulMat (p : V3 K) (A B : M3 K) : V3.mulMat (V3.mulMat p A) B = V3.mulMat p (M3.mul A B) := by
  apply V3.ext' <;> simp only [V3.mulMat, M3.mul] <;> ring

theorem mulMat_diag (p : V3 K) (a b c : K) : V3.mulMat p (M3.diag a b c) = V3.flip a b c p := by
  apply V3.ext' <;> simp only [V3.mulMat, M3.diag, V3.flip] <;> ring

theorem mulMat_one (p : V3 K) : V3.mulMat p M3.one = p := by
  apply V3.ext' <;> simp only [V3.mulMat, M3.one] <;> ring

theorem flip_flip (a b c a' b' c' : K) (p : V3 K) : V3.flip a b c (V3.flip a' b' c' p) = V3.flip (a * a') (b * b') (c * c') p := by
  apply V3.ext' <;> simp only [V3.flip] <;> ring

theorem flip_one (p : V3 K) : V3.flip 1 1 1 p = p := by
  apply V3.ext' <;> simp [V3.flip]

theorem smul_sub_self (a : K) (c : V3 K) : V3.smul a (V3.sub c c) = V3.zero := by
  apply V3.ext' <;> simp [V3.smul, V3.sub, V3.zero]

theorem distSq_sub_right (p q c : V3 K) : V3.distSq (V3.sub p c) (V3.sub q c) = V3.distSq p q := by
  simp only [V3.distSq, V3.normSq, V3.sub]; ring

/-- the distortion of a squared length under *any* matrix is the quadratic form of `VVᵀ - 1` -/
theorem normSq_mulMat_defect (d : V3 K) (V : M3 K) :
    V3.normSq (V3.mulMat d V) - V3.normSq d = V3.dot (V3.mulMat d (M3.sub (M3.mul V (M3.tr V)) M3.one)) d := by
  simp only [V3.normSq, V3.mulMat, V3.dot, M3.sub, M3.mul, M3.tr, M3.one]; ring

theorem normSq_mulMat {V : M3 K} (h : M3.mul V (M3.tr V) = M3.one) (d : V3 K) :
    V3.normSq (V3.mulMat d V) = V3.normSq d := by
  have := normSq_mulMat_defect d V
  rw [h] at this
  simp only [V3.dot, V3.mulMat, M3.sub, M3.one, V3.normSq] at this ⊢
  linear_combination this

theorem distSq_mulMat {V : M3 K} (h : M3.mul V (M3.tr V) = M3.one) (p q : V3 K) :
    V3.distSq (V3.mulMat p V) (V3.mulMat q V) = V3.distSq p q := by
  simp only [V3.distSq]
  rw [← mulMat_sub, normSq_mulMat h]

/-! ### matrices -/

theorem mul_assoc3 (A B C : M3 K) : M3.mul (M3.mul A B) C = M3.mul A (M3.mul B C) := by
  refine M3.ext_get fun i j => ?_
  simp only [mul_get]; ring

theorem one_mul3 (A : M3 K) : M3.mul M3.one A = A := by
  apply M3.ext' <;> simp only [M3.mul, M3.one] <;> ring

theorem mul_one3 (A : M3 K) : M3.mul A M3.one = A := by
  apply M3.ext' <;> simp only [M3.mul, M3.one] <;> ring

theorem mul_add3 (A B C : M3 K) : M3.mul A (M3.add B C) = M3.add (M3.mul A B) (M3.mul A C) := by
  refine M3.ext_get fun i j => ?_
  simp only [mul_get, add_get]; ring

theorem add_mul3 (A B C : M3 K) : M3.mul (M3.add A B) C = M3.add (M3.mul A C) (M3.mul B C) := by
  refine M3.ext_get fun i j => ?_
  simp only [mul_get, add_get]; ring

theorem mul_sub3 (A B C : M3 K) : M3.mul A (M3.sub B C) = M3.sub (M3.mul A B) (M3.mul A C) := by
  refine M3.ext_get fun i j => ?_
  simp only [mul_get, sub_get]; ring

theorem sub_mul3 (A B C : M3 K) : M3.mul (M3.sub A B) C = M3.sub (M3.mul A C) (M3.mul B C) := by
  refine M3.ext_get fun i j => ?_
  simp only [mul_get, sub_get]; ring

theorem add_zero3 (A : M3 K) : M3.add A M3.zero = A :=
  M3.ext_get fun i j => by rw [add_get, zero_get, add_zero]

theorem sub_self3 (A : M3 K) : M3.sub A A = M3.zero :=
  M3.ext_get fun i j => by rw [sub_get, zero_get, sub_self]

theorem tr_mul (A B : M3 K) : M3.tr (M3.mul A B) = M3.mul (M3.tr B) (M3.tr A) := by
  refine M3.ext_get fun i j => ?_
  simp only [mul_get, tr_get]; ring

theorem diag_get_ne (a b c : K) {i j : Ix} (h : i ≠ j) : (M3.diag a b c).get i j = 0 := by
  cases i <;> cases j <;> first | rfl | exact absurd rfl h

theorem diag_get_self (l : V3 K) (i : Ix) : (M3.diag l.x l.y l.z).get i i = l.get i := by cases i <;> rfl

/-- entries of `diag l · M - M · diag l'` -/
theorem diag_commutator_get (l l' : V3 K) (M : M3 K) (i j : Ix) :
    (M3.sub (M3.mul (M3.diag l.x l.y l.z) M) (M3.mul M (M3.diag l'.x l'.y l'.z))).get i j
      = (l.get i - l'.get j) * M.get i j := by
  cases i <;> cases j <;> simp only [M3.get, M3.row, V3.get, M3.sub, M3.mul, M3.diag] <;> ring

theorem one_get_self (i : Ix) : (M3.one : M3 K).get i i = 1 := by cases i <;> rfl

theorem one_get_ne {i j : Ix} (h : i ≠ j) : (M3.one : M3 K).get i j = 0 := diag_get_ne 1 1 1 h

theorem sub_one_get_self (A : M3 K) (i : Ix) : (M3.sub A M3.one).get i i = A.get i i - 1 := by cases i <;> rfl

theorem tr_one : M3.tr (M3.one : M3 K) = M3.one := rfl

theorem tr_diag (a b c : K) : M3.tr (M3.diag a b c) = M3.diag a b c := by
  apply M3.ext' <;> simp only [M3.tr, M3.diag]

theorem diag_mul_diag (a b c a' b' c' : K) : M3.mul (M3.diag a b c) (M3.diag a' b' c') = M3.diag (a * a') (b * b') (c * c') := by
  apply M3.ext' <;> simp only [M3.mul, M3.diag] <;> ring

theorem sandwich_add (V A B : M3 K) : sandwich V (M3.add A B) = M3.add (sandwich V A) (sandwich V B) := by
  simp only [sandwich, mul_add3, add_mul3]

theorem sandwich_zero (V : M3 K) : sandwich V M3.zero = M3.zero := by
  refine M3.ext_get fun i j => ?_
  simp only [sandwich, mul_get, zero_get]; ring

/-- `sandwich (VW) A = sandwich W (sandwich V A)` in the spelling of the certificate -/
theorem sandwich_mul (V W A : M3 K) :
    M3.mul (M3.mul (M3.tr (M3.mul V W)) A) (M3.mul V W) = M3.mul (M3.mul (M3.tr W) (M3.mul (M3.mul (M3.tr V) A) V)) W := by
  simp only [tr_mul, mul_assoc3]

theorem sandwich_diag_diag (a b c l0 l1 l2 : K) :
    sandwich (M3.diag a b c) (M3.diag l0 l1 l2) = M3.diag (a * a * l0) (b * b * l1) (c * c * l2) := by
  rw [sandwich, tr_diag, diag_mul_diag, diag_mul_diag]
  simp only [mul_right_comm]

theorem orth_diag {a b c : K} (ha : a * a = 1) (hb : b * b = 1) (hc : c * c = 1) : Orth (M3.diag a b c) := by
  constructor <;> rw [tr_diag, diag_mul_diag, ha, hb, hc] <;> rfl

theorem orth_mul {V W : M3 K} (hV : Orth V) (hW : Orth W) : Orth (M3.mul V W) := by
  constructor
  · rw [tr_mul, mul_assoc3, ← mul_assoc3 (M3.tr V) V W, hV.1, one_mul3, hW.1]
  · rw [tr_mul, mul_assoc3, ← mul_assoc3 W (M3.tr W) (M3.tr V), hW.2, one_mul3, hV.2]

/-- whole-column sign flips are a rotation by a diagonal matrix -/
theorem map_flip (a b c : K) (g : List (V3 K)) : g.map (V3.flip a b c) = rotate g (M3.diag a b c) :=
  List.map_congr_left fun p _ => (mulMat_diag p a b c).symm

theorem distSq_flip {a b c : K} (ha : a * a = 1) (hb : b * b = 1) (hc : c * c = 1) (p q : V3 K) :
    V3.distSq (V3.flip a b c p) (V3.flip a b c q) = V3.distSq p q := by
  rw [← mulMat_diag, ← mulMat_diag, distSq_mulMat (orth_diag ha hb hc).2]

/-! ### sums over atoms -/

theorem wsumF_congr {f f' : V3 K → K} (h : ∀ p, f p = f' p) (ms : List K) (g : List (V3 K)) : wsumF f ms g = wsumF f' ms g := by
  rw [funext h]

theorem inertia_nil_left (g : List (V3 K)) : inertia ([] : List K) g = M3.zero := by
  apply M3.ext' <;> simp [inertia, wsumF, M3.zero]

theorem inertia_nil_right (ms : List K) : inertia ms ([] : List (V3 K)) = M3.zero := by
  cases ms <;> apply M3.ext' <;> simp [inertia, wsumF, M3.zero]

theorem inertia_cons (m : K) (ms : List K) (p : V3 K) (g : List (V3 K)) :
    inertia (m :: ms) (p :: g) = M3.add (I1 m p) (inertia ms g) := by
  apply M3.ext' <;>
    simp only [inertia, wsumF, I1, M3.add, M3.smul, M3.sub, M3.one, M3.outer, V3.normSq] <;> ring

theorem wsum_map_mulMat (V : M3 K) : ∀ (ms : List K) (g : List (V3 K)),
    wsum ms (g.map (fun p => V3.mulMat p V)) = V3.mulMat (wsum ms g) V
  | [], g => by simp [wsum, mulMat_zero]
  | _ :: _, [] => by simp [wsum, mulMat_zero]
  | m :: ms, p :: g => by
    simp only [List.map_cons, wsum]
    rw [wsum_map_mulMat V ms g]
    apply V3.ext' <;> simp only [V3.mulMat, V3.add, V3.smul] <;> ring

theorem wsum_map_flip (a b c : K) (ms : List K) (g : List (V3 K)) :
    wsum ms (g.map (V3.flip a b c)) = V3.flip a b c (wsum ms g) := by
  rw [map_flip, rotate, wsum_map_mulMat, mulMat_diag]

/-- `Σ m (p - c) = Σ m p - (Σ m) c` when there is one weight per row -/
theorem wsum_map_sub (c : V3 K) : ∀ (ms : List K) (g : List (V3 K)), ms.length = g.length →
    wsum ms (g.map (fun p => V3.sub p c)) = V3.sub (wsum ms g) (V3.smul (massSum ms) c)
  | [], [], _ => by apply V3.ext' <;> simp [wsum, massSum, V3.sub, V3.smul, V3.zero]
  | [], _ :: _, h => by simp at h
  | _ :: _, [], h => by simp at h
  | m :: ms, p :: g, h => by
    simp only [List.map_cons, wsum, massSum]
    rw [wsum_map_sub c ms g (by simpa using h)]
    apply V3.ext' <;> simp only [V3.sub, V3.add, V3.smul] <;> ring

/-- `Σ m (pR + t) = (Σ m p) R + (Σ m) t` -/
theorem wsum_map_rigid (R : M3 K) (t : V3 K) : ∀ (ms : List K) (g : List (V3 K)), ms.length = g.length →
    wsum ms (g.map (fun p => V3.add (V3.mulMat p R) t)) = V3.add (V3.mulMat (wsum ms g) R) (V3.smul (massSum ms) t)
  | [], [], _ => by apply V3.ext' <;> simp [wsum, massSum, V3.add, V3.smul, V3.zero, V3.mulMat]
  | [], _ :: _, h => by simp at h
  | _ :: _, [], h => by simp at h
  | m :: ms, p :: g, h => by
    simp only [List.map_cons, wsum, massSum]
    rw [wsum_map_rigid R t ms g (by simpa using h)]
    apply V3.ext' <;> simp only [V3.mulMat, V3.add, V3.smul] <;> ring

/-! ### the transformation law of the inertia tensor, for any `V` -/

/-- `V Vᵀ - 1` — the SECOND entry of `certResiduals` (bounded by `εb` in `Props/C16Approx.lean`) -/
def E1 (V : M3 K) : M3 K := M3.sub (M3.mul V (M3.tr V)) M3.one
/-- `Vᵀ V - 1` — the FIRST entry of `certResiduals` (bounded by `εa` in `Props/C16Approx.lean`) -/
def E2 (V : M3 K) : M3 K := M3.sub (M3.mul (M3.tr V) V) M3.one

/-- the quadratic form `p E pᵀ` -/
def quadE (E : M3 K) (p : V3 K) : K := V3.dot (V3.mulMat p E) p

/-- one atom's defect: `m ((p (VVᵀ-1) pᵀ) 1 - |p|² (VᵀV-1))` -/
def I1Defect (V : M3 K) (m : K) (p : V3 K) : M3 K :=
  M3.smul m (M3.sub (M3.smul (quadE (E1 V) p) M3.one) (M3.smul (V3.normSq p) (E2 V)))

/-- the defect of the transformation law, summed over the atoms:
`(Σ m p(VVᵀ-1)pᵀ) · 1 - (Σ m |p|²) · (VᵀV-1)` -/
def inertiaDefect (ms : List K) (g : List (V3 K)) (V : M3 K) : M3 K :=
  M3.sub (M3.smul (wsumF (quadE (E1 V)) ms g) M3.one) (M3.smul (wsumF V3.normSq ms g) (E2 V))

theorem outer_mulMat (p q : V3 K) (V : M3 K) : M3.outer (V3.mulMat p V) (V3.mulMat q V) = sandwich V (M3.outer p q) := by
  refine M3.ext_get fun i j => ?_
  simp only [sandwich, mul_get, tr_get, outer_get, mulMat_get]; ring

theorem sandwich_smul (V A : M3 K) (a : K) : sandwich V (M3.smul a A) = M3.smul a (sandwich V A) := by
  refine M3.ext_get fun i j => ?_
  simp only [sandwich, mul_get, smul_get]; ring

theorem sandwich_sub (V A B : M3 K) : sandwich V (M3.sub A B) = M3.sub (sandwich V A) (sandwich V B) := by
  simp only [sandwich, mul_sub3, sub_mul3]

theorem sandwich_one (V : M3 K) : sandwich V M3.one = M3.add M3.one (E2 V) := by
  rw [sandwich, mul_one3, E2]
  exact M3.ext_get fun i j => by rw [add_get, sub_get, add_sub_cancel]

theorem normSq_mulMat_eq (p : V3 K) (V : M3 K) : V3.normSq (V3.mulMat p V) = V3.normSq p + quadE (E1 V) p := by
  rw [quadE, E1, ← normSq_mulMat_defect]; ring

/-- per-atom law for any `V`: of `m (|p|² 1 - pᵀp)` the outer product transforms exactly, `|p|²` picks up
`p (VVᵀ-1) pᵀ`, and `Vᵀ 1 V` is `1 + (VᵀV-1)` -/
theorem I1_rotate_defect (V : M3 K) (m : K) (p : V3 K) :
    I1 m (V3.mulMat p V) = M3.add (sandwich V (I1 m p)) (I1Defect V m p) := by
  rw [I1, I1, I1Defect, outer_mulMat, normSq_mulMat_eq, sandwich_smul, sandwich_sub, sandwich_smul, sandwich_one]
  refine M3.ext_get fun i j => ?_
  simp only [add_get, sub_get, smul_get]; ring

theorem inertiaDefect_nil_left (g : List (V3 K)) (V : M3 K) : inertiaDefect ([] : List K) g V = M3.zero := by
  apply M3.ext' <;> simp [inertiaDefect, wsumF, M3.zero, M3.sub, M3.smul]

theorem inertiaDefect_nil_right (ms : List K) (V : M3 K) : inertiaDefect ms ([] : List (V3 K)) V = M3.zero := by
  cases ms <;> apply M3.ext' <;> simp [inertiaDefect, wsumF, M3.zero, M3.sub, M3.smul]

theorem inertiaDefect_cons (m : K) (ms : List K) (p : V3 K) (g : List (V3 K)) (V : M3 K) :
    inertiaDefect (m :: ms) (p :: g) V = M3.add (I1Defect V m p) (inertiaDefect ms g V) := by
  apply M3.ext' <;> simp only [inertiaDefect, I1Defect, wsumF, M3.add, M3.smul, M3.sub, M3.one] <;> ring

/-- `I(xV) = Vᵀ I(x) V + (Σ m p(VVᵀ-1)pᵀ)·1 - (Σ m |p|²)·(VᵀV-1)` -/
theorem inertia_defect_sandwich (V : M3 K) : ∀ (ms : List K) (g : List (V3 K)),
    inertia ms (rotate g V) = M3.add (sandwich V (inertia ms g)) (inertiaDefect ms g V)
  | [], g => by
    rw [inertia_nil_left, inertia_nil_left, sandwich_zero, inertiaDefect_nil_left, add_zero3]
  | m :: ms, [] => by
    rw [rotate, List.map_nil, inertia_nil_right, sandwich_zero, inertiaDefect_nil_right, add_zero3]
  | m :: ms, p :: g => by
    have ih := inertia_defect_sandwich V ms g
    simp only [rotate, List.map_cons] at ih ⊢
    rw [inertia_cons, inertia_cons, ih, I1_rotate_defect, inertiaDefect_cons, sandwich_add]
    refine M3.ext_get fun i j => ?_
    simp only [add_get]; ring

theorem wsumF_zero : ∀ (ms : List K) (g : List (V3 K)), wsumF (fun _ => 0) ms g = 0
  | [], _ => rfl
  | _ :: _, [] => rfl
  | m :: ms, p :: g => by rw [wsumF, wsumF_zero ms g, mul_zero, add_zero]

/-- for orthogonal `V` the defect vanishes -/
theorem inertiaDefect_orth {V : M3 K} (hV : Orth V) (ms : List K) (g : List (V3 K)) : inertiaDefect ms g V = M3.zero := by
  have hq : quadE (M3.zero : M3 K) = fun _ => 0 := by
    funext p; simp only [quadE, V3.dot, V3.mulMat, M3.zero]; ring
  rw [inertiaDefect, E1, E2, hV.1, hV.2, sub_self3, hq, wsumF_zero]
  apply M3.ext' <;> simp only [M3.sub, M3.smul, M3.zero, M3.one] <;> ring

theorem inertia_rotate {V : M3 K} (hV : Orth V) (ms : List K) (g : List (V3 K)) :
    inertia ms (rotate g V) = sandwich V (inertia ms g) := by
  rw [inertia_defect_sandwich, inertiaDefect_orth hV, add_zero3]

/-- the tensor after whole-column sign flips (`a² = b² = c² = 1`) -/
theorem inertia_flip {a b c : K} (ha : a * a = 1) (hb : b * b = 1) (hc : c * c = 1) (ms : List K) (g : List (V3 K)) :
    inertia ms (g.map (V3.flip a b c)) = sandwich (M3.diag a b c) (inertia ms g) := by
  rw [map_flip, inertia_rotate (orth_diag ha hb hc)]

end Ring

/-! ## centring -/
section Field
variable {K : Type} [Field K]

/-- centring with the masses `ms`, weighing with OTHER masses `ms'`; no hypothesis on `ms` at all -/
theorem wsum_center_other {ms ms' : List K} {xs : List (V3 K)} (hl' : ms'.length = xs.length)
    (hM' : massSum ms' ≠ 0) :
    wsum ms' (center ms xs) = V3.smul (massSum ms') (V3.sub (com ms' xs) (com ms xs)) := by
  unfold center
  rw [wsum_map_sub _ ms' xs hl']
  apply V3.ext' <;> simp only [com, V3.sub, V3.smul] <;> field_simp

theorem wsum_center {ms : List K} {xs : List (V3 K)} (hl : ms.length = xs.length) (hM : massSum ms ≠ 0) :
    wsum ms (center ms xs) = V3.zero := by
  rw [wsum_center_other hl hM, smul_sub_self]

theorem center_of_centred {ms : List K} {g : List (V3 K)} (h : wsum ms g = V3.zero) : center ms g = g := by
  unfold center com
  rw [h]
  have : ∀ p : V3 K, V3.sub p (V3.smul (1 / massSum ms) V3.zero) = p := by
    intro p; apply V3.ext' <;> simp [V3.sub, V3.smul, V3.zero]
  rw [funext this]
  exact List.map_id' g

/-- centring commutes with a rigid motion: `center (xR + t) = (center x) R` -/
theorem center_rigid {ms : List K} {xs : List (V3 K)} (hl : ms.length = xs.length) (hM : massSum ms ≠ 0)
    (R : M3 K) (t : V3 K) :
    center ms (xs.map (fun p => V3.add (V3.mulMat p R) t)) = (center ms xs).map (fun p => V3.mulMat p R) := by
  unfold center
  rw [List.map_map, List.map_map]
  apply List.map_congr_left
  intro p _
  simp only [Function.comp, com]
  rw [wsum_map_rigid R t ms xs hl]
  apply V3.ext' <;> simp only [V3.sub, V3.add, V3.smul, V3.mulMat] <;> field_simp <;> ring

end Field

/-! ## the phase loop -/
section Ordered
variable {K : Type} [Field K] [LinearOrder K] [IsStrictOrderedRing K]

/-- the per-column rule the loop implements: the first entry with `¬ |v| < noise` decides -/
def colSign (noise : K) : List K → K
  | [] => 1
  | v :: t => if |v| < noise then colSign noise t else if v < 0 then -1 else 1

/-- the column has an atom off the coordinate plane -/
def HasOff (noise : K) (l : List K) : Prop := ∃ v ∈ l, ¬ |v| < noise

theorem foldl_colStep_done (noise s : K) (l : List K) : l.foldl (colStep noise) (true, s) = (true, s) := by
  induction l with
  | nil => rfl
  | cons v t ih => simpa [List.foldl, colStep] using ih

theorem foldl_colStep_init (noise : K) (l : List K) : (l.foldl (colStep noise) (false, 1)).2 = colSign noise l := by
  induction l with
  | nil => rfl
  | cons v t ih =>
    by_cases h : |v| < noise
    · have : colStep noise (false, 1) v = (false, 1) := by simp [colStep, h]
      simp [List.foldl, this, ih, colSign, h]
    · have : colStep noise (false, 1) v = (true, if v < 0 then -1 else 1) := by simp [colStep, h]
      simp [List.foldl, this, foldl_colStep_done, colSign, h]

theorem foldl_triple {α β : Type} (f : β → α → β) (px py pz : V3 α → α) : ∀ (g : List (V3 α)) (a b c : β),
    g.foldl (fun st r => (f st.1 (px r), f st.2.1 (py r), f st.2.2 (pz r))) (a, b, c)
      = ((g.map px).foldl f a, (g.map py).foldl f b, (g.map pz).foldl f c)
  | [], _, _, _ => rfl
  | r :: g, a, b, c => by simp [List.foldl, foldl_triple f px py pz g]

/-- the entry is not within `noise` of the coordinate plane -/
def off (noise v : K) : Bool := decide (¬ |v| < noise)

/-- the sign the loop gives a column whose deciding entry is `v` -/
def sgn (v : K) : K := if v < 0 then -1 else 1

/-- the DECIDER of a column is its first off-plane entry, and the column's sign is the decider's: everything below
about `colSign` is a fact about `List.find?` -/
theorem colSign_eq_find (noise : K) (l : List K) : colSign noise l = (l.find? (off noise)).elim 1 sgn := by
  induction l with
  | nil => rfl
  | cons v t ih => by_cases h : |v| < noise <;> simp [colSign, off, sgn, h, ih]

theorem sgn_pm (v : K) : sgn v = 1 ∨ sgn v = -1 := by unfold sgn; split_ifs <;> simp

theorem sgn_mul_self (v : K) : sgn v * v = |v| := by
  unfold sgn; split_ifs with h
  · rw [abs_of_neg h]; ring
  · rw [abs_of_nonneg (not_lt.mp h), one_mul]

theorem colSign_pm (noise : K) (l : List K) : colSign noise l = 1 ∨ colSign noise l = -1 := by
  rw [colSign_eq_find]; cases l.find? (off noise) <;> simp [sgn_pm]

theorem colSign_sq (noise : K) (l : List K) : colSign noise l * colSign noise l = 1 :=
  mul_self_eq_one_iff.mpr (colSign_pm noise l)

theorem pm_mul_mul {a : K} (h : a = 1 ∨ a = -1) (s : K) : a * s * a = s := by
  linear_combination s * mul_self_eq_one_iff.mpr h

theorem abs_pm_mul {s : K} (h : s = 1 ∨ s = -1) (v : K) : |s * v| = |v| := by
  rcases h with h | h <;> rw [h] <;> simp

theorem find_off_map {noise d : K} (hd : d = 1 ∨ d = -1) (l : List K) :
    (l.map (d * ·)).find? (off noise) = (l.find? (off noise)).map (d * ·) := by
  rw [List.find?_map]; congr 2; funext v; simp [off, abs_pm_mul hd]

/-- after multiplying the column by its sign: entries before the first off-plane one are within noise,
the first off-plane entry is `≥ noise` -/
theorem colSign_spec {noise : K} (l : List K) (pre : List K) (v : K) (suf : List K)
    (h : l.map (colSign noise l * ·) = pre ++ v :: suf) (hpre : ∀ u ∈ pre, |u| < noise) (hv : ¬ |v| < noise) :
    noise ≤ v := by
  have hf : (l.map (colSign noise l * ·)).find? (off noise) = some v :=
    List.find?_eq_some_iff_append.mpr ⟨by simpa [off] using hv, pre, suf, h, fun u hu => by simpa [off] using hpre u hu⟩
  rw [find_off_map (colSign_pm noise l), colSign_eq_find] at hf
  cases hw : l.find? (off noise) with
  | none => simp [hw] at hf
  | some w =>
    rw [hw] at hf
    simp only [Option.elim, Option.map_some, Option.some.injEq] at hf
    rw [← hf, sgn_mul_self]
    simpa [off] using List.find?_some hw

/-- the sign rule applied to an already phased column is `1` -/
theorem colSign_idem (noise : K) (l : List K) : colSign noise (l.map (colSign noise l * ·)) = 1 := by
  rw [colSign_eq_find, find_off_map (colSign_pm noise l), colSign_eq_find]
  cases l.find? (off noise) with
  | none => rfl
  | some w =>
    simp only [Option.elim, Option.map_some, sgn_mul_self]
    exact if_neg (not_lt.mpr (abs_nonneg w))

/-- `d = 1`, or `d = -1` and the column has an off-plane atom -/
def ColOK (noise d : K) (l : List K) : Prop := d = 1 ∨ (d = -1 ∧ HasOff noise l)

/-- `0 < noise`, so that the decider is non-zero -/
theorem colSign_mul {noise : K} (h0 : 0 < noise) {d : K} {l : List K} (h : ColOK noise d l) :
    colSign noise (l.map (d * ·)) = d * colSign noise l := by
  rcases h with rfl | ⟨rfl, v, hv, hoff⟩
  · simp
  · rw [colSign_eq_find, find_off_map (Or.inr rfl), colSign_eq_find]
    cases hw : l.find? (off noise) with
    | none => exact absurd (by simpa [off] using hoff) (List.find?_eq_none.mp hw v hv)
    | some w =>
      have hw' : noise ≤ |w| := by simpa [off] using List.find?_some hw
      have hw0 : w ≠ 0 := fun e => by rw [e, abs_zero] at hw'; exact absurd h0 (not_lt.mpr hw')
      simp only [Option.elim, Option.map_some, sgn]
      rcases lt_or_gt_of_ne hw0 with hn | hp
      · rw [if_neg (by linarith), if_pos hn]; ring
      · rw [if_pos (by linarith), if_neg (by linarith)]; ring

theorem ColOK.pm {noise d : K} {l : List K} (h : ColOK noise d l) : d = 1 ∨ d = -1 := by
  rcases h with h | ⟨h, _⟩
  · exact Or.inl h
  · exact Or.inr h

/-- The in-place double loop of the code (three columns interleaved, flags, early exit) computes, for
each column independently, the sign `-1` iff the **first entry whose absolute value is not below the
threshold** is negative (`colSign`), and multiplies the column by it. -/
theorem phaseLoop_eq_colSign (noise : K) (g : List (V3 K)) :
    phase noise g = g.map (V3.flip (colSign noise (g.map (·.x))) (colSign noise (g.map (·.y))) (colSign noise (g.map (·.z)))) := by
  unfold phase phaseLoop
  rw [foldl_triple (colStep noise) (·.x) (·.y) (·.z)]
  simp only [foldl_colStep_init]

theorem map_x_flip (a b c : K) (g : List (V3 K)) : (g.map (V3.flip a b c)).map (·.x) = (g.map (·.x)).map (a * ·) := by
  simp [List.map_map, Function.comp_def, V3.flip]
theorem map_y_flip (a b c : K) (g : List (V3 K)) : (g.map (V3.flip a b c)).map (·.y) = (g.map (·.y)).map (b * ·) := by
  simp [List.map_map, Function.comp_def, V3.flip]
theorem map_z_flip (a b c : K) (g : List (V3 K)) : (g.map (V3.flip a b c)).map (·.z) = (g.map (·.z)).map (c * ·) := by
  simp [List.map_map, Function.comp_def, V3.flip]

/-- phasing is insensitive to the signs of the incoming columns -/
theorem phase_flip {noise : K} (h0 : 0 < noise) {a b c : K} (g : List (V3 K))
    (ha : ColOK noise a (g.map (·.x))) (hb : ColOK noise b (g.map (·.y))) (hc : ColOK noise c (g.map (·.z))) :
    phase noise (g.map (V3.flip a b c)) = phase noise g := by
  rw [phaseLoop_eq_colSign, phaseLoop_eq_colSign, map_x_flip, map_y_flip, map_z_flip, colSign_mul h0 ha, colSign_mul h0 hb, colSign_mul h0 hc,
    List.map_map]
  apply List.map_congr_left
  intro p _
  simp only [Function.comp, flip_flip, pm_mul_mul ha.pm, pm_mul_mul hb.pm, pm_mul_mul hc.pm]

/-- phasing an already phased geometry changes nothing -/
theorem phase_phase (noise : K) (g : List (V3 K)) : phase noise (phase noise g) = phase noise g := by
  conv_lhs => rw [phaseLoop_eq_colSign]
  rw [phaseLoop_eq_colSign noise g, map_x_flip, map_y_flip, map_z_flip, colSign_idem, colSign_idem, colSign_idem]
  simp [flip_one]

/-! ### the certificate -/

theorem abs_add3_le {a b c α β γ : K} (ha : |a| ≤ α) (hb : |b| ≤ β) (hc : |c| ≤ γ) : |a + b + c| ≤ α + β + γ :=
  (abs_add_three a b c).trans (add_le_add (add_le_add ha hb) hc)

theorem abs_mul_le {a b α β : K} (ha : |a| ≤ α) (hb : |b| ≤ β) : |a * b| ≤ α * β := by
  rw [abs_mul]
  exact mul_le_mul ha hb (abs_nonneg b) ((abs_nonneg a).trans ha)

theorem abs_mul_le_half (a b : K) : |a * b| ≤ (a * a + b * b) / 2 :=
  abs_le.mpr ⟨by linarith [mul_self_nonneg (a + b)], by linarith [mul_self_nonneg (a - b)]⟩

theorem term_bound {e ε a b : K} (he : |e| ≤ ε) : |a * e * b| ≤ ε * ((a * a + b * b) / 2) := by
  rw [mul_right_comm, mul_comm (a * b)]
  exact abs_mul_le he (abs_mul_le_half a b)

omit [IsStrictOrderedRing K] in
theorem maxAbs_le_iff {A : M3 K} {ε : K} :
    M3.maxAbs A ≤ ε ↔
      |A.xx| ≤ ε ∧ |A.xy| ≤ ε ∧ |A.xz| ≤ ε ∧ |A.yx| ≤ ε ∧ |A.yy| ≤ ε ∧ |A.yz| ≤ ε ∧ |A.zx| ≤ ε ∧ |A.zy| ≤ ε ∧ |A.zz| ≤ ε := by
  unfold M3.maxAbs
  simp only [max_le_iff]

omit [IsStrictOrderedRing K] in
theorem maxAbs_le_iff_get {A : M3 K} {ε : K} : M3.maxAbs A ≤ ε ↔ ∀ i j, |A.get i j| ≤ ε := by
  rw [maxAbs_le_iff]
  constructor
  · rintro ⟨h1, h2, h3, h4, h5, h6, h7, h8, h9⟩ i j
    cases i <;> cases j <;> assumption
  · exact fun h => ⟨h .x .x, h .x .y, h .x .z, h .y .x, h .y .y, h .y .z, h .z .x, h .z .y, h .z .z⟩

theorem maxAbs_sub_le_zero {A B : M3 K} : M3.maxAbs (M3.sub A B) ≤ 0 ↔ A = B := by
  rw [maxAbs_le_iff_get]
  constructor
  · exact fun h => M3.ext_get fun i j => sub_eq_zero.mp (abs_nonpos_iff.mp (sub_get A B i j ▸ h i j))
  · rintro rfl i j
    rw [sub_get, sub_self, abs_zero]

omit [IsStrictOrderedRing K] in
/-- what the certificate function checks -/
theorem isEigFrame_iff {T V : M3 K} {l : V3 K} {eo ed : K} :
    isEigFrame T V l eo ed = true ↔
      (M3.maxAbs (M3.sub (M3.mul (M3.tr V) V) M3.one) ≤ eo ∧ M3.maxAbs (M3.sub (M3.mul V (M3.tr V)) M3.one) ≤ eo ∧
        M3.maxAbs (M3.sub (M3.mul (M3.mul (M3.tr V) T) V) (M3.diag l.x l.y l.z)) ≤ ed) ∧ l.x ≤ l.y ∧ l.y ≤ l.z := by
  unfold isEigFrame certResiduals
  simp only [Bool.and_eq_true, decide_eq_true_eq, and_assoc]

/-- bilinear form with an entrywise-bounded matrix: `|u W vᵀ| ≤ ω · 3(|u|² + |v|²)/2` -/
theorem bilin_bound {W : M3 K} {ω : K} (h : M3.maxAbs W ≤ ω) (u v : V3 K) :
    |V3.dot (V3.mulMat u W) v| ≤ ω * (3 * (V3.normSq u + V3.normSq v) / 2) := by
  obtain ⟨h1, h2, h3, h4, h5, h6, h7, h8, h9⟩ := maxAbs_le_iff.mp h
  have e : V3.dot (V3.mulMat u W) v = (u.x * W.xx * v.x + u.y * W.yx * v.x + u.z * W.zx * v.x)
      + (u.x * W.xy * v.y + u.y * W.yy * v.y + u.z * W.zy * v.y)
      + (u.x * W.xz * v.z + u.y * W.yz * v.z + u.z * W.zz * v.z) := by
    simp only [V3.dot, V3.mulMat]; ring
  rw [e]
  refine (abs_add3_le (abs_add3_le (term_bound h1) (term_bound h4) (term_bound h7))
    (abs_add3_le (term_bound h2) (term_bound h5) (term_bound h8))
    (abs_add3_le (term_bound h3) (term_bound h6) (term_bound h9))).trans_eq ?_
  simp only [V3.normSq]; ring

end Ordered


end QcelVerif.Orient
