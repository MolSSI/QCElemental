import QcelVerif.Model.Kabsch
import Mathlib.Tactic.Linarith
import Mathlib.Tactic.FieldSimp
/-! Helper lemmas for C12 (not property statements). -/
namespace QcelVerif.Kabsch
variable {K : Type}

/-! for checking a concrete test vector over ℚ by evaluation -/
instance [DecidableEq K] : DecidableEq (V3 K) := fun _ _ => decidable_of_iff _ V3.ext_iff.symm
instance [DecidableEq K] : DecidableEq (M3 K) := fun _ _ => decidable_of_iff _ M3.ext_iff.symm
instance [DecidableEq K] : DecidableEq (Q4 K) := fun _ _ => decidable_of_iff _ Q4.ext_iff.symm
instance [DecidableEq K] : DecidableEq (S4 K) := fun _ _ => decidable_of_iff _ S4.ext_iff.symm

section Ring
variable [CommRing K]

theorem quad_Fmat_add (A B : M3 K) (q : Q4 K) :
    quad (Fmat (A.add B)) q = quad (Fmat A) q + quad (Fmat B) q := by
  simp only [quad, Fmat, M3.add]; ring

theorem quad_Fmat_zero (q : Q4 K) : quad (Fmat (M3.zero : M3 K)) q = 0 := by
  simp only [quad, Fmat, M3.zero]; ring

theorem trMul_add (U A B : M3 K) : M3.trMul U (A.add B) = M3.trMul U A + M3.trMul U B := by
  simp only [M3.trMul, M3.add]; ring

/-- one atom pair: `|r − c·(k·U(p))|² = |r|² + k²|p|⁴|c|² − 2k·pᵀF(r⊗c)p`  (no unit-norm assumption) -/
theorem resid_step (k : K) (p : Q4 K) (r c : V3 K) :
    (r.sub (rowMul c (M3.smul k (quatRot p)))).nrm2
      = r.nrm2 + k ^ 2 * p.nrm2 ^ 2 * c.nrm2 - 2 * k * quad (Fmat (outer r c)) p := by
  simp only [V3.nrm2, V3.sub, rowMul, M3.smul, quatRot, Q4.nrm2, quad, Fmat, outer]; ring

/-- summed over all atom pairs: `‖R − C·(k·U(p))‖² = Σ|r|² + k²|p|⁴Σ|c|² − 2k·pᵀF(cov)p` -/
theorem resid_smul_quatRot (k : K) (p : Q4 K) (pairs : List (V3 K × V3 K)) :
    resid (M3.smul k (quatRot p)) pairs
      = sumR2 pairs + k ^ 2 * p.nrm2 ^ 2 * sumC2 pairs - 2 * k * quad (Fmat (cov pairs)) p := by
  induction pairs with
  | nil => simp only [resid, sumR2, sumC2, cov, quad_Fmat_zero]; ring
  | cons h t ih =>
    obtain ⟨r, c⟩ := h
    simp only [resid, sumR2, sumC2, cov, quad_Fmat_add, ih, resid_step]; ring

theorem smul_one_eq (U : M3 K) : M3.smul 1 U = U := by
  ext <;> simp only [M3.smul, one_mul]

namespace M3
theorem smul_smul (j k : K) (A : M3 K) : smul j (smul k A) = smul (j * k) A := by
  ext <;> simp only [smul, mul_assoc]
theorem transpose_smul (k : K) (A : M3 K) : (smul k A).transpose = smul k A.transpose := by
  ext <;> simp only [smul, transpose]
theorem smul_mul_smul (j k : K) (A B : M3 K) : (smul j A).mul (smul k B) = smul (j * k) (A.mul B) := by
  ext <;> simp only [smul, mul] <;> ring
theorem det_smul (k : K) (A : M3 K) : (smul k A).det = k ^ 3 * A.det := by
  simp only [smul, det]; ring
end M3

theorem rowMul_smul_right (v : V3 K) (k : K) (A : M3 K) : rowMul v (M3.smul k A) = V3.smul k (rowMul v A) := by
  ext <;> simp only [rowMul, M3.smul, V3.smul] <;> ring

namespace M3
theorem mul_assoc' (A B C : M3 K) : (A.mul B).mul C = A.mul (B.mul C) := by
  ext <;> simp only [M3.mul] <;> ring
theorem one_mul' (A : M3 K) : M3.one.mul A = A := by
  ext <;> simp only [M3.mul, M3.one] <;> ring
theorem mul_one' (A : M3 K) : A.mul M3.one = A := by
  ext <;> simp only [M3.mul, M3.one] <;> ring
theorem transpose_mul (A B : M3 K) : (A.mul B).transpose = B.transpose.mul A.transpose := by
  ext <;> simp only [M3.mul, M3.transpose] <;> ring
omit [CommRing K] in
theorem transpose_transpose (A : M3 K) : A.transpose.transpose = A := by
  ext <;> simp only [M3.transpose]
theorem det_mul (A B : M3 K) : (A.mul B).det = A.det * B.det := by
  simp only [M3.mul, M3.det]; ring
theorem det_transpose (A : M3 K) : A.transpose.det = A.det := by
  simp only [M3.transpose, M3.det]; ring
theorem det_one : (M3.one : M3 K).det = 1 := by
  simp only [M3.one, M3.det]; ring
theorem transpose_one : (M3.one : M3 K).transpose = M3.one := by
  ext <;> simp only [M3.transpose, M3.one]

/-- the cofactor matrix -/
def cof (A : M3 K) : M3 K :=
  ⟨A.a11 * A.a22 - A.a12 * A.a21, A.a12 * A.a20 - A.a10 * A.a22, A.a10 * A.a21 - A.a11 * A.a20,
   A.a02 * A.a21 - A.a01 * A.a22, A.a00 * A.a22 - A.a02 * A.a20, A.a01 * A.a20 - A.a00 * A.a21,
   A.a01 * A.a12 - A.a02 * A.a11, A.a02 * A.a10 - A.a00 * A.a12, A.a00 * A.a11 - A.a01 * A.a10⟩
theorem cof_transpose_mul (A : M3 K) : A.cof.transpose.mul A = smul A.det one := by
  ext <;> simp only [cof, transpose, mul, smul, det, one] <;> ring
end M3

/-- `(cof R)ᵀ·R = det R·I = I`, so `(cof R)ᵀ = (cof R)ᵀ·(R·Rᵀ) = Rᵀ` -/
theorem cof_eq_of_rot (R : M3 K) (ho : R.mul R.transpose = M3.one) (hd : R.det = 1) : R.cof = R := by
  have h : R.cof.transpose.mul R = M3.one := by rw [M3.cof_transpose_mul, hd, smul_one_eq]
  have ht : R.cof.transpose = R.transpose := by
    calc R.cof.transpose = R.cof.transpose.mul (R.mul R.transpose) := by rw [ho, M3.mul_one']
      _ = R.transpose := by rw [← M3.mul_assoc', h, M3.one_mul']
  rw [← M3.transpose_transpose R.cof, ht, M3.transpose_transpose]

/-- **columns are orthonormal too**: `R·Rᵀ = I ∧ det R = 1 → Rᵀ·R = I` -/
theorem transpose_mul_of_rot (R : M3 K) (ho : R.mul R.transpose = M3.one) (hd : R.det = 1) :
    R.transpose.mul R = M3.one := by
  have h := M3.cof_transpose_mul R
  rwa [cof_eq_of_rot R ho hd, hd, smul_one_eq] at h

theorem rowMul_mul (v : V3 K) (A B : M3 K) : rowMul v (A.mul B) = rowMul (rowMul v A) B := by
  ext <;> simp only [rowMul, M3.mul] <;> ring
theorem rowMul_one (v : V3 K) : rowMul v M3.one = v := by
  ext <;> simp only [rowMul, M3.one] <;> ring
theorem rowMul_add (a b : V3 K) (U : M3 K) : rowMul (a.add b) U = (rowMul a U).add (rowMul b U) := by
  ext <;> simp only [rowMul, V3.add] <;> ring
theorem rowMul_sub (a b : V3 K) (U : M3 K) : rowMul (a.sub b) U = (rowMul a U).sub (rowMul b U) := by
  ext <;> simp only [rowMul, V3.sub] <;> ring
theorem rowMul_add_sub (M : M3 K) (w r p : V3 K) :
    ((rowMul r M).add w).sub ((rowMul p M).add w) = rowMul (r.sub p) M := by
  rw [rowMul_sub]; ext <;> simp only [V3.add, V3.sub] <;> ring
theorem rowMul_smul (k : K) (a : V3 K) (U : M3 K) : rowMul (V3.smul k a) U = V3.smul k (rowMul a U) := by
  ext <;> simp only [rowMul, V3.smul] <;> ring
theorem rowMul_zero (U : M3 K) : rowMul V3.zero U = V3.zero := by
  ext <;> simp only [rowMul, V3.zero] <;> ring
/-- `v·Uᵀ` (row convention) is `U v` (column convention) -/
theorem rowMul_transpose (v : V3 K) (U : M3 K) : rowMul v U.transpose = matVec U v := by
  ext <;> simp only [rowMul, matVec, M3.transpose] <;> ring

/-- rows orthonormal (`U Uᵀ = I`) is all that preserving lengths needs: `|v·U|² = v (U Uᵀ) vᵀ` -/
theorem nrm2_rowMul_of_orth {U : M3 K} (h : U.mul U.transpose = M3.one) (v : V3 K) : (rowMul v U).nrm2 = v.nrm2 := by
  simp only [M3.ext_iff, M3.mul, M3.transpose, M3.one] at h
  obtain ⟨h00, h01, h02, -, h11, h12, -, -, h22⟩ := h
  simp only [rowMul, V3.nrm2]
  linear_combination (v.x * v.x) * h00 + (v.y * v.y) * h11 + (v.z * v.z) * h22
    + (2 * v.x * v.y) * h01 + (2 * v.x * v.z) * h02 + (2 * v.y * v.z) * h12

/-- the 2-D and (below) 3-D quadratic forms the pivot test passes through; the 4-D form is `quad` in
    `Model/Kabsch.lean` -/
def quad2 (M : S2 K) (a b : K) : K := M.h00 * a ^ 2 + 2 * M.h01 * a * b + M.h11 * b ^ 2

def quad3 (M : S3 K) (a b c : K) : K :=
  M.g00 * a ^ 2 + M.g11 * b ^ 2 + M.g22 * c ^ 2 + 2 * (M.g01 * a * b + M.g02 * a * c + M.g12 * b * c)

theorem elim2 (M : S2 K) (a b : K) :
    M.h00 * quad2 M a b = (M.h00 * a + M.h01 * b) ^ 2 + schur2 M * b ^ 2 := by
  simp only [quad2, schur2]; ring

theorem elim3 (M : S3 K) (a b c : K) :
    M.g00 * quad3 M a b c = (M.g00 * a + M.g01 * b + M.g02 * c) ^ 2 + quad2 (schur3 M) b c := by
  simp only [quad3, quad2, schur3]; ring

theorem elim4 (M : S4 K) (q : Q4 K) :
    M.f00 * quad M q
      = (M.f00 * q.q0 + M.f01 * q.q1 + M.f02 * q.q2 + M.f03 * q.q3) ^ 2 + quad3 (schur4 M) q.q1 q.q2 q.q3 := by
  simp only [quad, quad3, schur4]; ring

theorem quad_shiftNeg (s : K) (F : S4 K) (p : Q4 K) : quad (shiftNeg s F) p = s * p.nrm2 - quad F p := by
  simp only [quad, shiftNeg, Q4.nrm2]; ring

/-- `Σ|x_i − s|² = Σ|x_i − m|² + 2 (m − s)·(Σx_i − n·m) + n·|m − s|²` for any `m`, `s` -/
theorem sum_shift_expand (xs : List (V3 K)) (m s : V3 K) :
    sumNrm2 (xs.map (fun v => v.sub s))
      = sumNrm2 (xs.map (fun v => v.sub m))
        + 2 * (m.sub s).dot ((vsum xs).sub (V3.smul (xs.length : K) m))
        + (xs.length : K) * (m.sub s).nrm2 := by
  induction xs with
  | nil => simp only [List.map, sumNrm2, vsum, List.length, Nat.cast_zero, V3.dot, V3.sub, V3.smul, V3.zero, V3.nrm2]; ring
  | cons v t ih =>
    simp only [List.map, sumNrm2, vsum, List.length, Nat.cast_succ, ih]
    simp only [V3.dot, V3.sub, V3.smul, V3.nrm2, V3.add]; ring

theorem vsum_map_sub {α : Type} (f g : α → V3 K) (l : List α) :
    vsum (l.map fun a => (f a).sub (g a)) = (vsum (l.map f)).sub (vsum (l.map g)) := by
  induction l with
  | nil => ext <;> simp only [List.map_nil, vsum, V3.zero, V3.sub, sub_zero]
  | cons a l ih =>
    simp only [List.map_cons, vsum, ih]
    ext <;> simp only [V3.add, V3.sub] <;> ring

theorem vsum_map_rowMul (U : M3 K) (l : List (V3 K)) : vsum (l.map (fun v => rowMul v U)) = rowMul (vsum l) U := by
  induction l with
  | nil => simp only [List.map_nil, vsum, rowMul_zero]
  | cons a t ih => simp only [List.map_cons, vsum, ih, rowMul_add]

end Ring

section Ordered
variable [Field K] [LinearOrder K] [IsStrictOrderedRing K]

theorem V3.nrm2_nonneg (v : V3 K) : 0 ≤ v.nrm2 :=
  add_nonneg (add_nonneg (mul_self_nonneg _) (mul_self_nonneg _)) (mul_self_nonneg _)

theorem sumC2_nonneg (pairs : List (V3 K × V3 K)) : 0 ≤ sumC2 pairs := by
  induction pairs with
  | nil => exact le_refl _
  | cons h t ih => exact add_nonneg (V3.nrm2_nonneg h.2) ih

theorem Q4.nrm2_nonneg (q : Q4 K) : 0 ≤ q.nrm2 :=
  add_nonneg (add_nonneg (add_nonneg (sq_nonneg _) (sq_nonneg _)) (sq_nonneg _)) (sq_nonneg _)

theorem cast_length_ne_zero (l : List (V3 K)) (hl : l ≠ []) : (l.length : K) ≠ 0 :=
  Nat.cast_ne_zero.mpr fun h => hl (List.length_eq_zero_iff.mp h)

theorem smul_centroid (l : List (V3 K)) (hl : l ≠ []) : V3.smul (l.length : K) (centroid l) = vsum l := by
  have hn := cast_length_ne_zero l hl
  ext <;> simp only [V3.smul, centroid] <;> field_simp

/-- the centroid is the only `c` with `Σ x_i = n·c` -/
theorem centroid_eq_of_vsum (l : List (V3 K)) (hl : l ≠ []) (c : V3 K) (h : vsum l = V3.smul (l.length : K) c) :
    centroid l = c := by
  have hn := cast_length_ne_zero l hl
  ext <;> simp only [centroid, h, V3.smul, mul_div_cancel_left₀ _ hn]

theorem posDef2_sound (M : S2 K) (h : posDef2 M = true) (a b : K) : 0 ≤ quad2 M a b := by
  simp only [posDef2, Bool.and_eq_true, decide_eq_true_eq] at h
  rw [← mul_nonneg_iff_of_pos_left h.1, elim2]
  exact add_nonneg (sq_nonneg _) (mul_nonneg h.2.le (sq_nonneg b))

theorem posDef3_sound (M : S3 K) (h : posDef3 M = true) (a b c : K) : 0 ≤ quad3 M a b c := by
  simp only [posDef3, Bool.and_eq_true, decide_eq_true_eq] at h
  rw [← mul_nonneg_iff_of_pos_left h.1, elim3]
  exact add_nonneg (sq_nonneg _) (posDef2_sound _ h.2 b c)

end Ordered

end QcelVerif.Kabsch
