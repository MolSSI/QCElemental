import QcelVerif.Lemmas.UnitLex
/-!
C03 — helper lemmas about the tree builder of `Model/UnitText.lean` (`build`, the transcription of `pint_eval._build_eval_tree`) on
the token stream of a rendered expression (`Model/UnitRender.lean`), about the bracket counter and about `evalTree`.  Core Lean only.
-/
namespace QcelVerif.Units.Text
open QcelVerif.PStr (Bytes)
open RExpr

theorem build_nil (f : Nat) (prev : Prev) (res : Option PT) :
    build (f + 1) prev res [] = (if prev = .paren then .error .syntax else match res with
      | none => .error .syntax
      | some r => .ok (r, [])) := rfl

theorem build_rpar (f : Nat) (prev : Prev) (res : Option PT) (rest : List Tok) :
    build (f + 1) prev res (.op .rpar :: rest) = (if prev = .top then .error .syntax else match res with
      | none => .error .assertion
      | some r => .ok (r, .op .rpar :: rest)) := rfl

theorem build_lpar (f : Nat) (prev : Prev) (res : Option PT) (rest : List Tok) :
    build (f + 1) prev res (.op .lpar :: rest) = (match build f .paren none rest with
      | .error e => .error e
      | .ok (right, toks') =>
        match toks' with
        | .op .rpar :: rest' => build f prev (some (match res with | some r => PT.imul r right | none => right)) rest'
        | _ => .error .syntax) := rfl

theorem build_binop (f : Nat) (prev : Prev) (r : PT) (o : Op) (ho : o = .mul ∨ o = .div ∨ o = .pow) (rest : List Tok) :
    build (f + 1) prev (some r) (.op o :: rest) = (if prio o ≤ prevPrio prev ∧ o ≠ .pow then .ok (r, .op o :: rest)
      else match build f (.op o) none rest with
        | .error e => .error e
        | .ok (right, toks') => build f prev (some (.bin o r right)) toks') := by
  rcases ho with h | h | h <;> subst h <;> rfl

theorem toks_nil : toks [] = [] := rfl

theorem build_sign (f : Nat) (prev : Prev) (o : Op) (ho : o = .plus ∨ o = .minus) (rest : List Tok) :
    build (f + 1) prev none (.op o :: rest) = (match build f .unary none rest with
      | .error e => .error e
      | .ok (right, toks') => build f prev (some (.un o right)) toks') := by
  rcases ho with h | h <;> subst h <;> rfl

theorem build_num_none (f : Nat) (prev : Prev) (m : Nat) (e : Int) (i : Bool) (rest : List Tok) :
    build (f + 1) prev none (.num m e i :: rest) = build f prev (some (.num m e i)) rest := rfl

theorem build_name_none (f : Nat) (prev : Prev) (s : Bytes) (rest : List Tok) :
    build (f + 1) prev none (.name s :: rest) = build f prev (some (.name s)) rest := rfl

theorem build_name_some (f : Nat) (prev : Prev) (r : PT) (s : Bytes) (rest : List Tok) :
    build (f + 1) prev (some r) (.name s :: rest) = (if 1 ≤ prevPrio prev then .ok (r, .name s :: rest)
      else match build f .imul none (.name s :: rest) with
        | .error e => .error e
        | .ok (right, toks') => build f prev (some (.imul r right)) toks') := rfl

theorem build_num_some (f : Nat) (prev : Prev) (r : PT) (m : Nat) (e : Int) (i : Bool) (rest : List Tok) :
    build (f + 1) prev (some r) (.num m e i :: rest) = (if 1 ≤ prevPrio prev then .ok (r, .num m e i :: rest)
      else match build f .imul none (.num m e i :: rest) with
        | .error e => .error e
        | .ok (right, toks') => build f prev (some (.imul r right)) toks') := rfl

/-- the tokens after which an operand under `*`, `/`, `**`, a sign or a juxtaposition is complete: the end, `)`, `*`, `/`, a name, a number -/
def Stops : List Tok → Bool
  | [] => true
  | .op .rpar :: _ => true
  | .op .mul :: _ => true
  | .op .div :: _ => true
  | .num _ _ _ :: _ => true
  | .name _ :: _ => true
  | _ => false

/-- `prev_op` of an operand position with priority ≥ 1 -/
def highPrev : Prev → Bool
  | .unary => true | .imul => true | .op .mul => true | .op .div => true | .op .pow => true | _ => false
/-- `prev_op` at the start of the text or of a parenthesised group -/
def lowPrev : Prev → Bool
  | .top => true | .paren => true | _ => false

theorem build_return (f : Nat) (prev : Prev) (hp : highPrev prev = true) (r : PT) (rest : List Tok) (hs : Stops rest = true) :
    build (f + 1) prev (some r) rest = .ok (r, rest) := by
  have hprio : (1 : Int) ≤ prevPrio prev := by
    cases prev with
    | op o => cases o <;> simp [highPrev] at hp <;> decide
    | _ => simp [highPrev] at hp <;> decide
  have hnp : prev ≠ .paren := by intro h; subst h; simp [highPrev] at hp
  have hnt : prev ≠ .top := by intro h; subst h; simp [highPrev] at hp
  cases rest with
  | nil => rw [build_nil]; simp [hnp]
  | cons t rest =>
    cases t with
    | num m e i => rw [build_num_some]; simp [hprio]
    | name s => rw [build_name_some]; simp [hprio]
    | op o =>
      cases o with
      | rpar => rw [build_rpar]; simp [hnt]
      | mul => rw [build_binop _ _ _ _ (Or.inl rfl)]; simp [prio, hprio]
      | div => rw [build_binop _ _ _ _ (Or.inr (Or.inl rfl))]; simp [prio, hprio]
      | _ => simp [Stops] at hs

theorem build_exp (x : ExpLit) (hx : x.sign ≤ 2) (g : Nat) (rest : List Tok) (hs : Stops rest = true) :
    build (g + 4) (.op .pow) none (toks x.pieces ++ rest) = .ok (x.tree, rest) := by
  obtain ⟨paren, sign, blank, ds⟩ := x
  have r1 : ∀ (k : Nat) (t : PT), build (k + 1) Prev.unary (some t) rest = .ok (t, rest) := fun k t => build_return k _ rfl t rest hs
  have r2 : ∀ (k : Nat) (t : PT), build (k + 1) (Prev.op .pow) (some t) rest = .ok (t, rest) := fun k t => build_return k _ rfl t rest hs
  have r3 : ∀ (k : Nat) (t : PT), build (k + 1) Prev.unary (some t) (.op .rpar :: rest) = .ok (t, .op .rpar :: rest) := fun k t => build_return k _ rfl t _ rfl
  have r4 : ∀ (k : Nat) (t : PT), build (k + 1) Prev.paren (some t) (.op .rpar :: rest) = .ok (t, .op .rpar :: rest) := fun k t => by rw [build_rpar]; simp
  have h012 : sign = 0 ∨ sign = 1 ∨ sign = 2 := by simp only at hx; omega
  rcases h012 with h | h | h <;> subst h <;> cases paren <;> cases blank <;>
    simp [ExpLit.pieces, ExpLit.tree, toks_cons, toks_nil, consTok, Piece.tok, NumLit.tok, NumLit.ofDigits, NumLit.mant, NumLit.e10,
      NumLit.expVal, NumLit.isInt, build_num_none, build_lpar, build_sign, r1, r2, r3, r4]

theorem toks_spIf (b : Bool) : toks (spIf b) = [] := by cases b <;> rfl

theorem tokensOf_num (l : NumLit) : tokensOf (.num l) = [l.tok] := rfl
theorem tokensOf_unit (p : Int) (x : Base) (n : Bytes) : tokensOf (.unit p x n) = [.name n] := rfl

theorem tokensOf_paren (e : RExpr) : tokensOf (.paren e) = .op .lpar :: (tokensOf e ++ [.op .rpar]) := by
  simp [tokensOf, pieces, toks_cons, toks_append, toks_nil, consTok, Piece.tok]

theorem tokensOf_bin (dv sp : Bool) (a b : RExpr) :
    tokensOf (.bin dv sp a b) = tokensOf a ++ (.op (if dv then .div else .mul) :: tokensOf b) := by
  cases dv <;> simp [tokensOf, pieces, toks_cons, toks_append, toks_spIf, consTok, Piece.tok]

theorem tokensOf_juxt (bl : Bool) (a b : RExpr) : tokensOf (.juxt bl a b) = tokensOf a ++ tokensOf b := by
  simp [tokensOf, pieces, toks_append, toks_spIf]

theorem tokensOf_pow (a : RExpr) (crt l r : Bool) (x : ExpLit) :
    tokensOf (.pow a crt l r x) = tokensOf a ++ (.op .pow :: toks x.pieces) := by
  cases crt <;> simp [tokensOf, pieces, toks_cons, toks_append, toks_spIf, consTok, Piece.tok]

theorem tokensOf_juxtRight (b : RExpr) (hj : juxtRight b = true) : ∃ tl, tokensOf b = .name (headName b) :: tl := by
  cases b with
  | unit p x n => exact ⟨[], rfl⟩
  | pow a crt l r x =>
    cases a with
    | unit p y n => exact ⟨_, by rw [tokensOf_pow, tokensOf_unit]; rfl⟩
    | _ => simp [juxtRight, isUnit] at hj
  | _ => simp [juxtRight] at hj

theorem cost_pos (e : RExpr) : 1 ≤ cost e := by
  cases e <;> simp [cost]

/-- **reading one rendered sub-expression**, in continuation form: whatever the builder returns from `res = treeOf e` in front of
    `rest` on a step budget of `n` or more, it returns from an operand position (`res = None`) in front of the tokens of `e` on
    `tot e` more — for a factor under any pending operator, for a product/quotient/juxtaposition at the start of the text or of a
    parenthesised group -/
theorem build_expr (e : RExpr) : WF e = true → ∀ (prev : Prev) (rest : List Tok) (out : PT × List Tok) (n : Nat),
    (lowPrev prev = true ∨ isFactor e = true) → (isAtom e = true ∨ Stops rest = true) →
    (∀ f, n ≤ f → build f prev (some (treeOf e)) rest = .ok out) →
    ∀ f, n + tot e ≤ f → build f prev none (tokensOf e ++ rest) = .ok out := by
  induction e with
  | num l =>
    intro _ prev rest out n _ _ hk f hf
    simp only [tot] at hf
    obtain ⟨g, rfl⟩ : ∃ g, f = g + 1 := ⟨f - 1, by omega⟩
    exact hk g (by omega)
  | unit p x nm =>
    intro _ prev rest out n _ _ hk f hf
    simp only [tot] at hf
    obtain ⟨g, rfl⟩ : ∃ g, f = g + 1 := ⟨f - 1, by omega⟩
    exact hk g (by omega)
  | paren e ih =>
    intro hw prev rest out n _ _ hk f hf
    simp only [tot] at hf
    obtain ⟨g, rfl⟩ : ∃ g, f = g + 1 := ⟨f - 1, by omega⟩
    rw [tokensOf_paren, List.cons_append, List.append_assoc, build_lpar, List.singleton_append,
      ih hw .paren (.op .rpar :: rest) (treeOf e, .op .rpar :: rest) 1 (Or.inl rfl) (Or.inr rfl)
        (fun | f + 1, _ => by rw [build_rpar]; rfl) g (by omega)]
    exact hk g (by omega)
  | bin dv sp a b iha ihb =>
    intro hw prev rest out n hprev hstop hk f hf
    simp only [WF, Bool.and_eq_true] at hw
    simp only [tot] at hf
    have hlow : lowPrev prev = true := hprev.resolve_right (by simp [isFactor])
    have hs : Stops rest = true := hstop.resolve_left (by simp [isAtom])
    have hnp : ¬ ((1 : Int) ≤ prevPrio prev) := by cases prev <;> simp [lowPrev] at hlow <;> decide
    -- `*` and `/` are read alike: left operand, the operator, the right operand as a factor under it
    have ho : (if dv then Op.div else Op.mul) = .mul ∨ (if dv then Op.div else Op.mul) = .div ∨
        (if dv then Op.div else Op.mul) = .pow := by cases dv <;> simp
    rw [tokensOf_bin, List.append_assoc]
    refine iha hw.1.1 prev _ out (n + tot b + 2) (Or.inl hlow) (Or.inr (by cases dv <;> rfl)) ?_ f (by omega)
    intro f hf
    obtain ⟨g, rfl⟩ : ∃ g, f = g + 1 := ⟨f - 1, by omega⟩
    rw [List.cons_append, build_binop _ _ _ _ ho,
      ihb hw.1.2 _ rest (treeOf b, rest) 1 (Or.inr hw.2) (Or.inr hs)
        (fun | f + 1, _ => build_return f _ (by cases dv <;> rfl) _ rest hs) g (by omega)]
    have := hk g (by omega)
    cases dv <;> simpa [prio, hnp, treeOf] using this
  | juxt bl a b iha ihb =>
    intro hw prev rest out n hprev hstop hk f hf
    simp only [WF, Bool.and_eq_true] at hw
    obtain ⟨⟨⟨hwa, hwb⟩, hj⟩, _⟩ := hw
    simp only [tot] at hf
    have hlow : lowPrev prev = true := hprev.resolve_right (by simp [isFactor])
    have hs : Stops rest = true := hstop.resolve_left (by simp [isAtom])
    have hnp : ¬ ((1 : Int) ≤ prevPrio prev) := by cases prev <;> simp [lowPrev] at hlow <;> decide
    obtain ⟨tl, htl⟩ := tokensOf_juxtRight b hj
    have hfb : isFactor b = true := by cases b <;> simp [juxtRight] at hj <;> rfl
    rw [tokensOf_juxt, List.append_assoc]
    refine iha hwa prev _ out (n + tot b + 2) (Or.inl hlow) (Or.inr (by rw [htl]; rfl)) ?_ f (by omega)
    intro f hf
    obtain ⟨g, rfl⟩ : ∃ g, f = g + 1 := ⟨f - 1, by omega⟩
    have hB := ihb hwb .imul rest (treeOf b, rest) 1 (Or.inr hfb) (Or.inr hs)
      (fun | f + 1, _ => build_return f _ rfl _ rest hs) g (by omega)
    rw [htl] at hB ⊢
    rw [List.cons_append, build_name_some, ← List.cons_append, hB]
    simpa [hnp, treeOf] using hk g (by omega)
  | pow a crt l r x iha =>
    intro hw prev rest out n hprev hstop hk f hf
    simp only [WF, Bool.and_eq_true] at hw
    obtain ⟨⟨⟨hwa, hat⟩, hx⟩, _⟩ := hw
    simp only [tot] at hf
    have hs : Stops rest = true := hstop.resolve_left (by simp [isAtom])
    have hfa : isFactor a = true := by cases a <;> simp [isAtom] at hat <;> rfl
    have hsg : x.sign ≤ 2 := by simp only [ExpLit.wf, Bool.and_eq_true, decide_eq_true_eq] at hx; exact hx.2
    rw [tokensOf_pow, List.append_assoc]
    refine iha hwa prev _ out (n + 6) (Or.inr hfa) (Or.inl hat) ?_ f (by omega)
    intro f hf
    obtain ⟨g, rfl⟩ : ∃ g, f = g + 5 := ⟨f - 5, by omega⟩
    rw [List.cons_append, build_binop _ _ _ _ (Or.inr (Or.inr rfl)), build_exp x hsg g rest hs]
    simpa [treeOf] using hk (g + 4) (by omega)

theorem toks_explit_length (x : ExpLit) : 1 ≤ (toks x.pieces).length := by
  obtain ⟨paren, sign, blank, ds⟩ := x
  cases paren <;> cases blank <;> by_cases h1 : sign = 1 <;> by_cases h2 : sign = 2 <;>
    simp [ExpLit.pieces, toks_cons, toks_nil, consTok, Piece.tok, h1, h2]

/-- the step budget `4·|tokens| + 4` of `parseTree` covers the rendered expressions -/
theorem tot_bound (e : RExpr) : tot e + 2 ≤ 4 * (tokensOf e).length := by
  induction e with
  | num l => simp [tot, tokensOf_num]
  | unit p x n => simp [tot, tokensOf_unit]
  | paren e ih => simp only [tot, tokensOf_paren, List.length_cons, List.length_append, List.length_nil]; omega
  | bin dv sp a b iha ihb => simp only [tot, tokensOf_bin, List.length_cons, List.length_append]; omega
  | juxt bl a b iha ihb => simp only [tot, tokensOf_juxt, List.length_append]; omega
  | pow a crt l r x iha =>
    have := toks_explit_length x
    simp only [tot, tokensOf_pow, List.length_cons, List.length_append]; omega

theorem parenDepth_explit (x : ExpLit) (d : Nat) (rest : List Tok) : parenDepth d (toks x.pieces ++ rest) = parenDepth d rest := by
  obtain ⟨paren, sign, blank, ds⟩ := x
  cases paren <;> cases blank <;> by_cases h1 : sign = 1 <;> by_cases h2 : sign = 2 <;>
    simp [ExpLit.pieces, toks_cons, toks_nil, consTok, Piece.tok, NumLit.tok, h1, h2, parenDepth]

theorem parenDepth_tokensOf (e : RExpr) : ∀ (d : Nat) (rest : List Tok), parenDepth d (tokensOf e ++ rest) = parenDepth d rest := by
  induction e with
  | num l => intro d rest; simp [tokensOf_num, NumLit.tok, parenDepth]
  | unit p x n => intro d rest; simp [tokensOf_unit, parenDepth]
  | paren e ih =>
    intro d rest
    rw [tokensOf_paren, List.cons_append, List.append_assoc]
    simp [parenDepth, ih]
  | bin dv sp a b iha ihb =>
    intro d rest
    rw [tokensOf_bin, List.append_assoc, iha]
    cases dv <;> simp [parenDepth, ihb]
  | juxt bl a b iha ihb => intro d rest; rw [tokensOf_juxt, List.append_assoc, iha, ihb]
  | pow a crt l r x iha =>
    intro d rest
    rw [tokensOf_pow, List.append_assoc, iha]
    simp [parenDepth, parenDepth_explit]

theorem parenOK_tokensOf (e : RExpr) : parenOK (tokensOf e) = true := by
  have := parenDepth_tokensOf e 0 []
  rw [List.append_nil] at this
  simp [parenOK, this, parenDepth]

theorem expOf_tree (x : ExpLit) (hx : x.sign ≤ 2) : expOf x.tree = some x.val := by
  obtain ⟨paren, sign, blank, ds⟩ := x
  have h012 : sign = 0 ∨ sign = 1 ∨ sign = 2 := by simp only at hx; omega
  rcases h012 with h | h | h <;> subst h <;> simp [ExpLit.tree, ExpLit.val, expOf]

/-- no numeric factor anywhere (`stripNums` leaves such an expression alone) -/
theorem stripNums_juxtRight (res : Bytes → Except TErr (Int × Base)) (b : RExpr) (hj : juxtRight b = true) (eb : Expr)
    (h : denote res b = .ok eb) : stripNums eb = eb := by
  cases b with
  | unit p x n =>
    simp only [denote] at h
    cases hr : res n with
    | error _ => simp [hr] at h
    | ok v => obtain ⟨q, y⟩ := v; simp [hr] at h; subst h; rfl
  | pow a crt l r x =>
    cases a with
    | unit p y n =>
      simp only [denote] at h
      cases hr : res n with
      | error _ => simp [hr] at h
      | ok v =>
        obtain ⟨q, z⟩ := v
        simp only [hr] at h
        split at h
        · cases h
        · cases h; rfl
    | _ => simp [juxtRight, isUnit] at hj
  | _ => simp [juxtRight] at hj

/-- the tree of a rendered expression evaluates to what the expression denotes, in both readings of a juxtaposition: as a
    multiplication (`impl = false`), and under pint's `_eval_implicit_mul` too, because the renderer juxtaposes only a bare
    (power of a) unit name, which has no factor to lose -/
theorem evalTree_treeOf (res : Bytes → Except TErr (Int × Base)) (impl : Bool) (e : RExpr) (hw : WF e = true) :
    evalTree res impl (treeOf e) = denote res e := by
  induction e with
  | num l => rfl
  | unit p x n => simp only [treeOf, evalTree, denote]; cases res n <;> rfl
  | paren e ih => exact ih hw
  | bin dv sp a b iha ihb =>
    simp only [WF, Bool.and_eq_true] at hw
    simp only [treeOf, evalTree, denote, iha hw.1.1, ihb hw.1.2]
    cases denote res a with
    | error _ => rfl
    | ok ea => cases dv <;> cases denote res b <;> rfl
  | juxt bl a b iha ihb =>
    simp only [WF, Bool.and_eq_true] at hw
    simp only [treeOf, evalTree, denote, iha hw.1.1.1, ihb hw.1.1.2]
    cases denote res a with
    | error _ => rfl
    | ok ea =>
      cases hb : denote res b with
      | error _ => rfl
      | ok eb => simp only [stripNums_juxtRight res b hw.1.2 eb hb, ite_self]
  | pow a crt l r x iha =>
    simp only [WF, Bool.and_eq_true] at hw
    have hsg : x.sign ≤ 2 := by
      have := hw.1.2; simp only [ExpLit.wf, Bool.and_eq_true, decide_eq_true_eq] at this; exact this.2
    simp only [treeOf, evalTree, denote, iha hw.1.1.1, expOf_tree x hsg]
    cases denote res a <;> rfl

end QcelVerif.Units.Text
