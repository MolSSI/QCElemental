import QcelVerif.Lemmas.HashConcrete
import QcelVerif.Model.MunkresFloat
/-!
C14 — the concrete work dtypes are exact on the integers they represent.

* `rndDouble_int` — IEEE round-to-nearest-even to 53 bits (`Hash.rndDouble`, the function C11's
  driver executes) is the identity on every integer of absolute value `≤ 2^53`;
* `wrapInt64_int` — two's-complement wrap-around is the identity on `[-2^63, 2^63)`;
* `wrapUInt64_int` — … and unsigned wrap-around on `[0, 2^64)`.
-/
namespace QcelVerif.Munkres
open QcelVerif.Hash

/-- **float64 is exact on the integers up to `2^53`**: round-to-nearest-even leaves them unchanged
(an integer `n ≤ 2^53` is `n · 2^(52−52)`, a point of the grid: `F64.rnd_fix_of_form`) -/
theorem rndDouble_int (z : Int) (h : |z| ≤ 2 ^ 53) : rndDouble (z : Rat) = (z : Rat) := by
  have pos : ∀ n : Int, 0 < n → n ≤ 2 ^ 53 → Radii.rnd64 (n : Rat) = n := by
    intro n h0 h53
    have hq : (0 : Rat) < n := by exact_mod_cast h0
    have hm : (0 : Int) ≤ Radii.ilog2 (n : Rat) := by
      have := F64.zpow2_lt.mp (lt_of_le_of_lt
        (show (2 : Rat) ^ (0 : Int) ≤ n by rw [zpow_zero]; exact_mod_cast h0) (Radii.ilog2_spec _ hq).2)
      omega
    rw [Radii.rnd64_of_pos hq, Radii.rndPos_eq hm]
    simpa using F64.rnd_fix_of_form 0 52 n (by norm_num) h0 h53
  have hz := abs_le.1 h
  rw [rndDouble_eq_rnd64]
  rcases lt_trichotomy z 0 with hneg | rfl | hpos
  · have e : (z : Rat) = -((-z : Int) : Rat) := by push_cast; ring
    rw [e, Radii.rnd64_neg, pos (-z) (by omega) (by omega)]
  · simp [Radii.rnd64]
  · exact pos z hpos hz.2

/-- **int64 never wraps on `[-2^63, 2^63)`** -/
theorem wrapInt64_int (z : Int) (h1 : -2 ^ 63 ≤ z) (h2 : z < 2 ^ 63) : wrapInt64 (z : Rat) = (z : Rat) := by
  unfold wrapInt64
  simp only [Rat.den_intCast, Rat.num_intCast, if_true]
  congr 1
  omega

/-- **uint64 never wraps on `[0, 2^64)`** -/
theorem wrapUInt64_int (z : Int) (h1 : 0 ≤ z) (h2 : z < 2 ^ 64) : wrapUInt64 (z : Rat) = (z : Rat) := by
  unfold wrapUInt64
  simp only [Rat.den_intCast, Rat.num_intCast, if_true]
  congr 1
  omega

end QcelVerif.Munkres
