import QcelVerif.Lemmas.C07ReXyz1
import QcelVerif.Lemmas.C07ReKeywords
import QcelVerif.Lemmas.C07ReCaps
/-! bohrang = `\Aunits?[\s=]+((?P<ubohr>(bohr|au|a.u.))|(?P<uang>(ang|angstrom)))\Z` under IGNORECASE, read as `process_bohrang` reads it
(`if group("uang"): Angstrom elif group("ubohr"): Bohr`), = M1's `classify` answering `.units`, for every line without a newline.

The extent of the generated AST (`DBohrang`, read off it by the closure lemmas of `C07ReCaps`; `DBohrang_iff`) cuts the line into the
keyword, the optional `s`, a `[\s=]` run and a unit word up to `\Z` (`UnitsSplit`), the unit word being one M1's `classifyUnits` accepts
with the same answer, and says which groups hold it; backtracking over the optional `s`
and over shorter `[\s=]` runs is harmless because a unit word starts with `a` or `b` (`HeadAB`).  On such a line the token branches
of `classify` cannot fire (a field starting `unit` is neither a NUCLEUS nor a NUMBER) and `classifyRest` reaches `classifyUnits`.
Conversely `.units` can only come from `classifyUnits`, and such a line is matched — here the dots of `a.u.` need "no newline":
the regex `.` excludes a newline, the hand recogniser takes any character. -/
namespace QcelVerif.MolText
open QcelVerif.Regex QcelVerif.Gen

/-! ## stages -/
/-- a lower-case letter `k` under IGNORECASE (the term `Kw.litC k` reduces to for such a `k`) -/
def ciL (k : Nat) : Re := .cls false [.ch k, .ch (k - 32)]
/-- the regex `.` without DOTALL: any character but a newline (not the literal dot `dot` of NUMBER) -/
def dotNN : Re := .cls true [.ch 10]
def optS : Re := .rep 0 (some 1) true (ciL 115)
/-- `[\s=]+` (the same term as `Kw.wsEq1`) -/
def wsEq1 : Re := .rep 1 none true (.cls false [.space, .ch 61])
def wordADotUDot : Re := .seq (ciL 97) (.seq dotNN (.seq (ciL 117) dotNN))
def strom : Re := .seq (ciL 115) (.seq (ciL 116) (.seq (ciL 114) (.seq (ciL 111) (ciL 109))))
def wordAngstromQ : Re := .seq (ciL 97) (.seq (ciL 110) (.seq (ciL 103) (.alt .eps strom)))
def unitsG : Re :=
  .group 1 (.alt (.group 2 (.group 3 (.alt wordBohr (.alt wordAu wordADotUDot)))) (.group 4 (.group 5 wordAngstromQ)))

theorem bohrang_shape : FromStringRegex.bohrang =
    .seq .bos (.seq (ciL 117) (.seq (ciL 110) (.seq (ciL 105) (.seq (ciL 116) (.seq optS (.seq wsEq1 (.seq unitsG .eos))))))) := rfl
theorem bohrang_groups : FromStringRegex.bohrangG.ubohr = 2 ∧ FromStringRegex.bohrangG.uang = 4 := ⟨rfl, rfl⟩

-- the letters of the pattern are literal characters in the sense of `Kw.litK`: the same ASTs written with `Kw.litK` / `Kw.litC`
-- (`bohrang_eq` is the form the proofs use, `bohrang_shape` the stage-by-stage one)
theorem bohrang_eq : FromStringRegex.bohrang =
    .seq .bos (Kw.litK [117, 110, 105, 116] (.seq optS (.seq wsEq1 (.seq unitsG .eos)))) := rfl

/-! ## the hand recogniser of the unit word (on the lower-cased text) -/

def dropS (r : Str) : Str := match r with | 's' :: r' => r' | _ => r

def unitWordHand (u : Str) : Option Bool :=
  if u == "bohr".toList || u == "au".toList then some true
  else if u == "ang".toList || u == "angstrom".toList then some false
  else match u with
    | ['a', _, 'u', _] => some true
    | _ => none

theorem classifyUnits_unit (r : Str) :
    classifyUnits ('u' :: 'n' :: 'i' :: 't' :: r) = (match afterKw (dropS r) with | none => none | some u => unitWordHand u) := rfl

theorem classifyUnits_shape {l : Str} {b : Bool} (h : classifyUnits l = some b) : ∃ r, l = 'u' :: 'n' :: 'i' :: 't' :: r := by
  unfold classifyUnits at h
  split at h
  · exact ⟨_, rfl⟩
  · cases h

theorem dropS_ne (c : Char) (r : Str) (h : c ≠ 's') : dropS (c :: r) = c :: r := by
  unfold dropS
  split
  · rename_i h2; injection h2 with h2; exact absurd h2 h
  · rfl

theorem uw_bohr : unitWordHand "bohr".toList = some true := rfl
theorem uw_au : unitWordHand "au".toList = some true := rfl
theorem uw_ang : unitWordHand "ang".toList = some false := rfl
theorem uw_angstrom : unitWordHand "angstrom".toList = some false := rfl
theorem uw_adot (c d : Char) : unitWordHand ['a', c, 'u', d] = some true := by
  unfold unitWordHand
  simp

theorem uw_cases {u : Str} (h : unitWordHand u ≠ none) :
    u = ['b', 'o', 'h', 'r'] ∨ u = ['a', 'u'] ∨ (∃ c d, u = ['a', c, 'u', d]) ∨ u = ['a', 'n', 'g'] ∨
      u = ['a', 'n', 'g', 's', 't', 'r', 'o', 'm'] := by
  unfold unitWordHand at h
  rw [bohr_toList, au_toList, ang_toList, angstrom_toList] at h
  split at h
  · rename_i h1; simp at h1; rcases h1 with h1 | h1
    · exact Or.inl h1
    · exact Or.inr (Or.inl h1)
  · split at h
    · rename_i h1; simp at h1; rcases h1 with h1 | h1
      · exact Or.inr (Or.inr (Or.inr (Or.inl h1)))
      · exact Or.inr (Or.inr (Or.inr (Or.inr h1)))
    · split at h
      · exact Or.inr (Or.inr (Or.inl ⟨_, _, rfl⟩))
      · exact absurd rfl h

/-! ## a unit word starts with `a` or `b` -/

/-- the first character of a unit word: a letter `a` or `b` -/
def HeadAB (U : Str) : Prop := ∃ C T, U = C :: T ∧ (C.toLower = 'a' ∨ C.toLower = 'b')

theorem headAB_of_lower {U : Str} {c : Char} {t : Str} (h : lowerS U = c :: t) (hc : c = 'a' ∨ c = 'b') : HeadAB U := by
  obtain ⟨C, T, rfl, hC, _⟩ := lowerS_eq_cons.mp h
  exact ⟨C, T, rfl, by rw [hC]; exact hc⟩

theorem headAB_of_uw {U : Str} (h : unitWordHand (lowerS U) ≠ none) : HeadAB U := by
  rcases uw_cases h with h | h | ⟨c, d, h⟩ | h | h
  · exact headAB_of_lower h (Or.inr rfl)
  · exact headAB_of_lower h (Or.inl rfl)
  · exact headAB_of_lower h (Or.inl rfl)
  · exact headAB_of_lower h (Or.inl rfl)
  · exact headAB_of_lower h (Or.inl rfl)

/-! ## a units line, cut as both sides cut it -/

def unitWord : Str := ['u', 'n', 'i', 't']

/-- the optional `s` of `units?` -/
def OptS (S : Str) : Prop := S = [] ∨ ∃ c, S = [c] ∧ c.toLower = 's'

/-- keyword, optional `s`, `[\s=]` run, unit word -/
def UnitsSplit (s K S W U : Str) : Prop :=
  s = K ++ (S ++ (W ++ U)) ∧ lowerS K = unitWord ∧ OptS S ∧ W ≠ [] ∧ ∀ c ∈ W, isWsEq c = true

theorem UnitsSplit.lower {s K S W U : Str} (h : UnitsSplit s K S W U) :
    lowerS s = 'u' :: 'n' :: 'i' :: 't' :: lowerS (S ++ (W ++ U)) := by
  rw [h.1, lowerS_append, h.2.1]
  rfl

theorem classifyUnits_split {s K S W U : Str} (h : UnitsSplit s K S W U) (hU : HeadAB U) :
    classifyUnits (lowerS s) = unitWordHand (lowerS U) := by
  have hl := h.lower
  obtain ⟨_, _, hS, hW0, hW⟩ := h
  obtain ⟨C, T, rfl, hC⟩ := hU
  have hCw : isWsEq C = false := by
    rcases hC with hC | hC
    · exact letter_not_wsEq (letter_of_lower hC (by decide))
    · exact letter_not_wsEq (letter_of_lower hC (by decide))
  obtain ⟨w, W', rfl⟩ : ∃ w W', W = w :: W' := by
    cases W with
    | nil => exact absurd rfl hW0
    | cons a b => exact ⟨a, b, rfl⟩
  have hdrop : dropS (lowerS (S ++ (w :: W' ++ C :: T))) = lowerS (w :: W' ++ C :: T) := by
    rcases hS with rfl | ⟨c, rfl, hc⟩
    · apply dropS_ne
      intro hws
      have := isWsEq_toLower w
      rw [hws, hW w (by simp)] at this
      exact absurd this (by decide)
    · simp only [lowerS, List.map_cons, List.cons_append, List.nil_append, hc]
      rfl
  rw [hl, classifyUnits_unit, hdrop,
    afterKw_run (by simp) hW (stop_cons hCw T)]

/-- conversely: what `classifyUnits` accepts is cut that way -/
theorem classifyUnits_inv {s : Str} {b : Bool} (h : classifyUnits (lowerS s) = some b) :
    ∃ K S W U, UnitsSplit s K S W U ∧ unitWordHand (lowerS U) = some b := by
  obtain ⟨r, hr⟩ := classifyUnits_shape h
  obtain ⟨K, R, rfl, hK, rfl⟩ := lowerS_append_inv (a := unitWord) hr
  rw [hr, classifyUnits_unit] at h
  -- the optional `s`
  obtain ⟨S, R', rfl, hS, hd⟩ : ∃ S R', R = S ++ R' ∧ OptS S ∧ dropS (lowerS R) = lowerS R' := by
    cases R with
    | nil => exact ⟨[], [], rfl, Or.inl rfl, rfl⟩
    | cons c R' =>
      by_cases hc : c.toLower = 's'
      · exact ⟨[c], R', rfl, Or.inr ⟨c, rfl, hc⟩, by simp only [lowerS, List.map_cons, hc]; rfl⟩
      · exact ⟨[], c :: R', rfl, Or.inl rfl, by simp only [lowerS, List.map_cons]; exact dropS_ne _ _ hc⟩
  rw [hd] at h
  cases hak : afterKw (lowerS R') with
  | none => rw [hak] at h; cases h
  | some u =>
    obtain ⟨W, U, rfl, hW0, hW, rfl⟩ := afterKw_inv hak
    rw [hak] at h
    exact ⟨K, S, W, U, ⟨rfl, hK, hS, hW0, hW⟩, h⟩

/-! ## hand side -/

theorem classifyRest_units_of {s r : Str} (hl : lowerS s = 'u' :: r) {b : Bool} (h : classifyUnits (lowerS s) = some b) :
    classifyRest s = .units b := by
  obtain ⟨e1, e2, e3, e4⟩ := keywordTests_false hl (by decide) (by decide) (by decide)
  unfold classifyRest
  dsimp only
  rw [if_neg e1, if_neg e2, if_neg e3, if_neg e4, h]

/-! ## the extent of the pattern, with its captures -/

/-- `a.u.`: the dots are any character but a newline -/
def LADot : Str → Prop := LSeq (LCi 'a') (LSeq (LChar notNl) (LSeq (LCi 'u') (LChar notNl)))
def LStrom (t : Str) : Prop := lowerS t = ['s', 't', 'r', 'o'] ++ ['m']
def LAngQ : Str → Prop := LSeq (LCi 'a') (LSeq (LCi 'n') (LSeq (LCi 'g') (LAlt (· = []) LStrom)))
def LBohrWord : Str → Prop := LAlt (fun t => lowerS t = ['b', 'o', 'h', 'r']) (LAlt (fun t => lowerS t = ['a', 'u']) LADot)

theorem ext_aDot : Ext wordADotUDot LADot :=
  Ext.seq (Ext.ci 'a' (by decide)) (Ext.seq (Ext.cls cls_notNl) (Ext.seq (Ext.ci 'u' (by decide)) (Ext.cls cls_notNl)))

theorem ext_angQ : Ext wordAngstromQ LAngQ :=
  Ext.seq (Ext.ci 'a' (by decide)) (Ext.seq (Ext.ci 'n' (by decide)) (Ext.seq (Ext.ci 'g' (by decide))
    (Ext.alt Ext.eps (Kw.ext_word ['s', 't', 'r', 'o'] 'm' (by decide) (by decide)))))

/-- `units?[\s=]+((?P<ubohr>(bohr|au|a.u.))|(?P<uang>(ang|angstrom)))\Z` -/
def DBohrang : OLang Caps :=
  DSeq (DKeep fun K => lowerS K = unitWord) (DSeq (DKeep (LOpt (LCi 's'))) (DSeq (DKeep (LPlus isWsEq))
    (DSeq (DCap 1 (DAlt (DCap 2 (DCap 3 (DKeep LBohrWord))) (DCap 4 (DCap 5 (DKeep LAngQ))))) DEos)))

theorem cext_bohrang : CExt (Kw.litK [117, 110, 105, 116] (.seq optS (.seq wsEq1 (.seq unitsG .eos)))) DBohrang :=
  .of_mem_seq (Kw.mem_litK _ unitWord (by decide)) (.seq (.ofExt (Ext.opt (Ext.ci 's' (by decide)))) (.seq (.ofExt (Ext.plus cls_wsEq))
    (.seq (CExt.group 1 (.alt (CExt.group 2 (CExt.group 3 (.ofExt (Ext.alt ext_wordBohr (Ext.alt ext_wordAu ext_aDot)))))
      (CExt.group 4 (CExt.group 5 (.ofExt ext_angQ))))) .eos)))

theorem optS_iff (S : Str) : LOpt (LCi 's') S ↔ OptS S := by
  simp only [LOpt, LCi, LChar, OptS, beq_iff_eq]
  constructor
  · rintro (h | h)
    · exact Or.inr h
    · exact Or.inl h
  · rintro (h | h)
    · exact Or.inr h
    · exact Or.inl h

theorem DBohrang_iff (t r : Str) (c' : Caps) : DBohrang [] t r c' ↔
    ∃ K S W U, UnitsSplit t K S W U ∧ r = [] ∧
      ((LBohrWord U ∧ c' = [(1, toBytes U), (2, toBytes U), (3, toBytes U)]) ∨
        (LAngQ U ∧ c' = [(1, toBytes U), (4, toBytes U), (5, toBytes U)])) := by
  simp only [DBohrang, DSeq, DCap, DGroup, DKeep, DAlt, DEos, UnitsSplit]
  constructor
  · rintro ⟨K, _, _, rfl, ⟨hK, rfl⟩, S, _, _, rfl, ⟨hS, rfl⟩, W, _, _, rfl, ⟨hW, rfl⟩, U, _, _, rfl, ⟨_, hU, rfl⟩, rfl, rfl, rfl⟩
    refine ⟨K, S, W, U, ⟨by simp, hK, (optS_iff S).mp hS, hW.1, hW.2⟩, rfl, ?_⟩
    rcases hU with ⟨_, ⟨_, ⟨h, rfl⟩, rfl⟩, rfl⟩ | ⟨_, ⟨_, ⟨h, rfl⟩, rfl⟩, rfl⟩
    · exact Or.inl ⟨h, rfl⟩
    · exact Or.inr ⟨h, rfl⟩
  · rintro ⟨K, S, W, U, ⟨rfl, hK, hS, hW0, hW⟩, rfl, hU⟩
    rcases hU with ⟨h, rfl⟩ | ⟨h, rfl⟩
    · exact ⟨K, _, _, rfl, ⟨hK, rfl⟩, S, _, _, rfl, ⟨(optS_iff S).mpr hS, rfl⟩, W, _, _, rfl, ⟨⟨hW0, hW⟩, rfl⟩, U, [], _, by simp,
        ⟨_, Or.inl ⟨_, ⟨_, ⟨h, rfl⟩, rfl⟩, rfl⟩, rfl⟩, rfl, rfl, rfl⟩
    · exact ⟨K, _, _, rfl, ⟨hK, rfl⟩, S, _, _, rfl, ⟨(optS_iff S).mpr hS, rfl⟩, W, _, _, rfl, ⟨⟨hW0, hW⟩, rfl⟩, U, [], _, by simp,
        ⟨_, Or.inr ⟨_, ⟨_, ⟨h, rfl⟩, rfl⟩, rfl⟩, rfl⟩, rfl, rfl, rfl⟩

theorem bohrWord_iff (U : Str) (hnl : ∀ c ∈ U, c ≠ '\n') :
    LBohrWord U ↔ lowerS U = ['b', 'o', 'h', 'r'] ∨ lowerS U = ['a', 'u'] ∨ ∃ c d, lowerS U = ['a', c, 'u', d] := by
  simp only [LBohrWord, LAlt, LADot, LSeq, LCi, LChar, beq_iff_eq]
  refine or_congr Iff.rfl (or_congr Iff.rfl ⟨?_, ?_⟩)
  · rintro ⟨_, _, rfl, ⟨C1, rfl, h1⟩, _, _, rfl, ⟨C2, rfl, _⟩, _, _, rfl, ⟨C3, rfl, h3⟩, C4, rfl, _⟩
    exact ⟨C2.toLower, C4.toLower, by simp [lowerS, h1, h3]⟩
  · rintro ⟨c, d, h⟩
    obtain ⟨C1, R1, rfl, f1, h⟩ := lowerS_eq_cons.mp h
    obtain ⟨C2, R2, rfl, _, h⟩ := lowerS_eq_cons.mp h
    obtain ⟨C3, R3, rfl, f3, h⟩ := lowerS_eq_cons.mp h
    obtain ⟨C4, R4, rfl, _, h⟩ := lowerS_eq_cons.mp h
    obtain rfl : R4 = [] := List.map_eq_nil_iff.mp h
    exact ⟨[C1], _, rfl, ⟨C1, rfl, f1⟩, [C2], _, rfl, ⟨C2, rfl, (notNl_iff C2).mpr (hnl C2 (by simp))⟩, [C3], _, rfl, ⟨C3, rfl, f3⟩,
      C4, rfl, (notNl_iff C4).mpr (hnl C4 (by simp))⟩

theorem angQ_iff (U : Str) : LAngQ U ↔ lowerS U = ['a', 'n', 'g'] ∨ lowerS U = ['a', 'n', 'g', 's', 't', 'r', 'o', 'm'] := by
  simp only [LAngQ, LAlt, LSeq, LCi, LChar, LStrom, beq_iff_eq]
  constructor
  · rintro ⟨_, _, rfl, ⟨C1, rfl, h1⟩, _, _, rfl, ⟨C2, rfl, h2⟩, _, R, rfl, ⟨C3, rfl, h3⟩, rfl | h⟩
    · exact Or.inl (by simp [lowerS, h1, h2, h3])
    · exact Or.inr (by simp only [lowerS] at h; simp [lowerS, h1, h2, h3, h])
  · rintro (h | h)
    · obtain ⟨C1, R1, rfl, f1, h⟩ := lowerS_eq_cons.mp h
      obtain ⟨C2, R2, rfl, f2, h⟩ := lowerS_eq_cons.mp h
      obtain ⟨C3, R3, rfl, f3, h⟩ := lowerS_eq_cons.mp h
      obtain rfl : R3 = [] := List.map_eq_nil_iff.mp h
      exact ⟨[C1], _, rfl, ⟨C1, rfl, f1⟩, [C2], _, rfl, ⟨C2, rfl, f2⟩, [C3], [], rfl, ⟨C3, rfl, f3⟩, Or.inl rfl⟩
    · obtain ⟨C1, R1, rfl, f1, h⟩ := lowerS_eq_cons.mp h
      obtain ⟨C2, R2, rfl, f2, h⟩ := lowerS_eq_cons.mp h
      obtain ⟨C3, R3, rfl, f3, h⟩ := lowerS_eq_cons.mp h
      exact ⟨[C1], _, rfl, ⟨C1, rfl, f1⟩, [C2], _, rfl, ⟨C2, rfl, f2⟩, [C3], R3, rfl, ⟨C3, rfl, f3⟩, Or.inr h⟩

/-- what `process_bohrang` reads off the captures -/
def bohrangOfCaps (c : Caps) : Option Bool :=
  if truthy ⟨none, [], c⟩ 4 then some false else if truthy ⟨none, [], c⟩ 2 then some true else none

/-- **bohrang**: `\Aunits?[\s=]+((?P<ubohr>(bohr|au|a.u.))|(?P<uang>(ang|angstrom)))\Z` under IGNORECASE, by the generic engine on
the generated AST and read through the named groups as `process_bohrang` reads them, is M1's `classify` answering `.units`, for
every line without a newline (lines come from `str.split("\n")`; the hand recogniser takes ANY character for the dots of `a.u.`) -/
theorem units_eq_regex (s : Str) (hnl : ∀ c ∈ s, c ≠ '\n') : unitsRe s = unitsHand s := by
  unfold unitsRe
  rw [Option.map_eq_bind, bohrang_eq]
  refine cext_bohrang.match_bos s (g := fun c => some (bohrangOfCaps c)) (fun t r c hs hD => ?_) fun hne => ?_
  · obtain ⟨K, S, W, U, hsp, rfl, hU⟩ := (DBohrang_iff ..).mp hD
    rw [List.append_nil] at hs
    subst hs
    have hnlU : ∀ c ∈ U, c ≠ '\n' := fun c hc => hnl c (by rw [hsp.1]; simp [hc])
    -- the unit word decides the answer on both sides; it starts with a letter, so its group is truthy
    have key : ∀ b, unitWordHand (lowerS U) = some b → ∀ c, (∀ C T, U = C :: T → bohrangOfCaps c = some b) →
        some (bohrangOfCaps c) = unitsHand s := by
      intro b hl c hc
      have hab := headAB_of_uw (U := U) (by rw [hl]; simp)
      have hcu : classifyUnits (lowerS s) = some b := by rw [classifyUnits_split hsp hab, hl]
      have hcl : classify s = .units b := by
        rw [Kw.classify_kw_line hsp.lower (by decide) (by decide) (by decide) (by decide)]
        exact classifyRest_units_of hsp.lower hcu
      obtain ⟨C, T, rfl, _⟩ := hab
      simp [unitsHand, hcl, hc C T rfl]
    rcases hU with ⟨h, rfl⟩ | ⟨h, rfl⟩
    · refine key true ?_ _ fun C T e => by subst e; rfl
      rcases (bohrWord_iff U hnlU).mp h with h | h | ⟨c, d, h⟩
      · rw [h, ← bohr_toList]; exact uw_bohr
      · rw [h, ← au_toList]; exact uw_au
      · rw [h]; exact uw_adot c d
    · refine key false ?_ _ fun C T e => by subst e; rfl
      rcases (angQ_iff U).mp h with h | h
      · rw [h, ← ang_toList]; exact uw_ang
      · rw [h, ← angstrom_toList]; exact uw_angstrom
  · obtain ⟨b, hb⟩ : ∃ b, classify s = .units b := by
      unfold unitsHand at hne
      split at hne
      · exact ⟨_, by assumption⟩
      · exact absurd rfl hne
    cases classifyRest_case (classify_kw hb (by simp) (by simp) (by simp))
    rename_i hcu
    obtain ⟨K, S, W, U, hsp, hu⟩ := classifyUnits_inv hcu
    have hnlU : ∀ c ∈ U, c ≠ '\n' := fun c hc => hnl c (by rw [hsp.1]; simp [hc])
    have mk : ∀ c, _ → ∃ t r c, s = t ++ r ∧ DBohrang [] t r c := fun c h =>
      ⟨s, [], c, by simp, (DBohrang_iff ..).mpr ⟨K, S, W, U, hsp, rfl, h⟩⟩
    rcases uw_cases (u := lowerS U) (by rw [hu]; simp) with h | h | h | h | h
    · exact mk _ (Or.inl ⟨(bohrWord_iff U hnlU).mpr (Or.inl h), rfl⟩)
    · exact mk _ (Or.inl ⟨(bohrWord_iff U hnlU).mpr (Or.inr (Or.inl h)), rfl⟩)
    · exact mk _ (Or.inl ⟨(bohrWord_iff U hnlU).mpr (Or.inr (Or.inr h)), rfl⟩)
    · exact mk _ (Or.inr ⟨(angQ_iff U).mpr (Or.inl h), rfl⟩)
    · exact mk _ (Or.inr ⟨(angQ_iff U).mpr (Or.inr h), rfl⟩)

/-- the hypothesis is needed: the hand recogniser accepts a newline for the dots of `a.u.`, the regex does not -/
example : unitsRe "units a\nu\n".toList ≠ unitsHand "units a\nu\n".toList := by decide

end QcelVerif.MolText
