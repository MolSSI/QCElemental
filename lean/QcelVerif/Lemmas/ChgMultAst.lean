import QcelVerif.Model.ChgMultAst
import QcelVerif.Lemmas.ChgMult
/-!
Helper lemmas about the evaluator of `Model/ChgMultAst.lean` (generic: nothing here mentions the generated terms), and
the facts about plain lists and the hand model's `isum` / `irange` that `Props/C05Src.lean` needs beside them.
-/
namespace QcelVerif.ChgMult.Ast
open QcelVerif.ChgMult

/-- all of `g 0 … g (n-1)`: what `optAllN` returns when no `f k` raises (`optAllN_some`) -/
def allN (n : Nat) (g : Nat → Bool) : Bool := (List.range n).all g

theorem allN_iff (n : Nat) (g : Nat → Bool) : allN n g = true ↔ ∀ k, k < n → g k = true := by
  simp [allN, List.all_eq_true, List.mem_range]

theorem allN_succ (n : Nat) (g : Nat → Bool) : allN (n + 1) g = (g 0 && allN n (fun k => g (k + 1))) := by
  simp [allN, List.range_succ_eq_map, List.all_map, Function.comp_def]

theorem optAllN_some : ∀ (n : Nat) (f : Nat → Option Bool) (g : Nat → Bool),
    (∀ k, k < n → f k = some (g k)) → optAllN n f = some (allN n g)
  | 0, _, _, _ => by simp [optAllN, allN]
  | n + 1, f, g, h => by
      have ih := optAllN_some n (fun k => f (k + 1)) (fun k => g (k + 1))
        (fun k hk => h (k + 1) (by omega))
      simp [optAllN, h 0 (by omega), ih, allN_succ]

/-- a per-fragment rule whose count evaluates to `n` and whose guard and body evaluate, at every index `k < n`, to
`f k` without raising -/
theorem evalItem_each {env : Env} {cnt : IExpr} {g b : BExpr} {n : Nat} {f : Nat → Bool}
    (hn : evalI env.noCand cnt = some (n : Int))
    (h : ∀ k, k < n → evalGuarded { env with b := [some (k : Int)] } g b = some (f k)) :
    evalItem env (.each cnt g b) = some (allN n f) := by
  simp only [evalItem, hn, Int.toNat_natCast]
  exact optAllN_some n _ f h

theorem optTab_some {α β} : ∀ (l : List α) {n : Nat} (f : Nat → Option β) (g : α → β), l.length = n →
    (∀ k (hk : k < l.length), f k = some (g l[k])) → optTab n f = some (l.map g)
  | [], _, _, _, rfl, _ => by simp [optTab]
  | x :: t, _, f, g, rfl, h => by
      have ih := optTab_some t (fun k => f (k + 1)) g rfl
        (fun k hk => by
          have := h (k + 1) (by simp; omega)
          rw [List.getElem_cons_succ] at this
          exact this)
      have h0 := h 0 (by simp)
      simp at h0
      simp [optTab, h0, ih]

theorem optMap_some {α β} : ∀ (l : List α) (f : α → Option β) (g : α → β),
    (∀ x, x ∈ l → f x = some (g x)) → optMap l f = some (l.map g)
  | [], _, _, _ => by simp [optMap]
  | x :: t, f, g, h => by
      have ih := optMap_some t f g (fun y hy => h y (List.mem_cons_of_mem _ hy))
      simp [optMap, h x (List.mem_cons_self ..), ih]

theorem optAll_some {α} : ∀ (l : List α) (f : α → Option Bool) (g : α → Bool),
    (∀ x, x ∈ l → f x = some (g x)) → optAll l f = some (l.all g)
  | [], _, _, _ => by simp [optAll]
  | x :: t, f, g, h => by
      have ih := optAll_some t f g (fun y hy => h y (List.mem_cons_of_mem _ hy))
      have hx := h x (List.mem_cons_self ..)
      cases hg : g x <;> simp [optAll, hx, hg, ih]

theorem optAny_some {α} : ∀ (l : List α) (f : α → Option Bool) (g : α → Bool),
    (∀ x, x ∈ l → f x = some (g x)) → optAny l f = some (l.any g)
  | [], _, _, _ => by simp [optAny]
  | x :: t, f, g, h => by
      have ih := optAny_some t f g (fun y hy => h y (List.mem_cons_of_mem _ hy))
      have hx := h x (List.mem_cons_self ..)
      cases hg : g x <;> simp [optAny, hx, hg, ih]

@[simp] theorem optNth_natCast {α} (l : List α) (k : Nat) : optNth l (k : Int) = l[k]? := by
  simp [optNth]

theorem getElem?_eq_some_getD {α} (l : List α) (k : Nat) (d : α) (h : k < l.length) :
    l[k]? = some (l.getD k d) := by
  simp [List.getD_eq_getElem?_getD, List.getElem?_eq_getElem h]

theorem exists_getD {α} (l : List α) (k : Nat) (d : α) (h : k < l.length) :
    ∃ x, l[k]? = some x ∧ l.getD k d = x := ⟨_, getElem?_eq_some_getD l k d h, rfl⟩

theorem getD_of_getElem? {α} (l : List α) (k : Nat) (d x : α) (h : l[k]? = some x) : l.getD k d = x := by
  simp [List.getD_eq_getElem?_getD, h]

theorem pyMod_two (x : Int) : pyMod x 2 = some (x % 2) := by
  have : Int.fmod x 2 = x % 2 := Int.fmod_eq_emod_of_nonneg x (by omega)
  simp [pyMod, this]

-- `isum` unfolds to core's `List.sum`
theorem isum_flatten (l : List (List Int)) : isum l.flatten = isum (l.map isum) := by
  induction l with
  | nil => rfl
  | cons x t ih => simp [isum_append, ih]

/-- a search whose assessments never raise is `List.find?` -/
theorem searchFirst_eq_find (p : Out → Option Bool) (q : Out → Bool) :
    ∀ (l : List Out), (∀ o, o ∈ l → p o = some (q o)) →
      searchFirst p l = match l.find? q with | some o => .ok o | none => .error .validation
  | [], _ => rfl
  | o :: t, h => by
      have ih := searchFirst_eq_find p q t (fun x hx => h x (List.mem_cons_of_mem _ hx))
      have ho := h o (List.mem_cons_self ..)
      cases hq : q o <;> simp [searchFirst, ho, hq, ih, List.find?]

theorem evalRulesLazy_of_evalRules (env : Env) : ∀ (rs : List RuleItem) (b : Bool),
    evalRules env rs = some b → evalRulesLazy env rs = some b
  | [], b, h => by simpa [evalRules, evalRulesLazy] using h
  | r :: rs, b, h => by
      simp only [evalRules] at h
      cases hr : evalItem env r with
      | none => simp [hr] at h
      | some a =>
        cases hs : evalRules env rs with
        | none => simp [hr, hs] at h
        | some b' =>
          simp [hr, hs] at h
          have ih := evalRulesLazy_of_evalRules env rs b' hs
          cases a <;> simp_all [evalRulesLazy]

theorem pyRange_succ (lo hi : Int) : pyRange lo (hi + 1) = irange lo hi := rfl

end QcelVerif.ChgMult.Ast
