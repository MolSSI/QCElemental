import QcelVerif.Lemmas.Orient

/-!
# C16 — uniqueness of the eigen-frame of a 3×3 matrix with pairwise distinct eigenvalues

`eigframe_unique_of_regular`, `eigframe_unique` and `eigvals_unique` are audited as property statements by
`harness/c16.py`; the statements about the model built on them are in `Props/C16Unique.lean`.

Setting: `M3 K` (the 9-field structure of `Model/Orient.lean`), `K` a commutative ring.
`V, l` and `V', l'` are two exact eigen-frames of the same matrix `T`:
`Orth V`, `Vᵀ T V = diag l`, `Orth V'`, `V'ᵀ T V' = diag l'`.   With `M := Vᵀ V'`:

* `frame_intertwine`      `diag l · M = M · diag l'`     (both are `Vᵀ T V'`; *no symmetry of `T` is
                          assumed* — `T = V diag(l) Vᵀ` is symmetric as a consequence)
* `intertwine_entries`    entrywise this reads `(lᵢ - l'ⱼ) · Mᵢⱼ = 0`
* `frame_overlap_orth`    `M` is orthogonal, and `V' = V · M`
* `eigframe_unique_of_regular`  (any commutative ring) if `l = l'` and the three differences
                          `lᵢ - lⱼ` (`i ≠ j`) are non-zero-divisors then `V' = V · diag(d₀,d₁,d₂)`, `dᵢ² = 1`
* `eigframe_unique`       (no zero divisors) `lᵢ` pairwise distinct ⇒ the same with `dᵢ = 1 ∨ dᵢ = -1`
* `eigvals_subset`        (domain) every `lᵢ` is one of the `l'ⱼ`
* `eigvals_unique`        (linearly ordered domain) `l` strictly ascending, `l'` ascending ⇒ `l' = l`
-/

namespace QcelVerif.Orient

section Ring
variable {K : Type} [CommRing K]

theorem orth_tr {V : M3 K} (h : Orth V) : Orth (M3.tr V) := ⟨by rw [tr_tr]; exact h.2, by rw [tr_tr]; exact h.1⟩

theorem orth_one : Orth (M3.one : M3 K) := ⟨by rw [tr_one, one_mul3], by rw [tr_one, one_mul3]⟩

/-- with `orth_one`: the identity is an exact eigen-frame of every diagonal matrix -/
theorem one_frame (A : M3 K) : M3.mul (M3.mul (M3.tr M3.one) A) M3.one = A := by rw [tr_one, one_mul3, mul_one3]

/-- `Vᵀ T V = L` and `V Vᵀ = 1` give `T V = V L` -/
theorem eig_right {T V L : M3 K} (hV : M3.mul V (M3.tr V) = M3.one)
    (hD : M3.mul (M3.mul (M3.tr V) T) V = L) : M3.mul T V = M3.mul V L := by
  rw [← hD, ← mul_assoc3, ← mul_assoc3, hV, one_mul3]

/-- `Vᵀ T V = L` and `V Vᵀ = 1` give `Vᵀ T = L Vᵀ` -/
theorem eig_left {T V L : M3 K} (hV : M3.mul V (M3.tr V) = M3.one)
    (hD : M3.mul (M3.mul (M3.tr V) T) V = L) : M3.mul (M3.tr V) T = M3.mul L (M3.tr V) := by
  rw [← hD, mul_assoc3 (M3.mul (M3.tr V) T) V (M3.tr V), hV, mul_one3]

/-- a matrix with an orthogonal diagonalisation is symmetric (so symmetry of `T` is never a hypothesis) -/
theorem symm_of_eigframe {T V : M3 K} {a b c : K} (hV : M3.mul V (M3.tr V) = M3.one)
    (hD : M3.mul (M3.mul (M3.tr V) T) V = M3.diag a b c) : M3.tr T = T := by
  have hT : T = M3.mul (M3.mul V (M3.diag a b c)) (M3.tr V) := by
    rw [← eig_right hV hD, mul_assoc3, hV, mul_one3]
  have : M3.tr (M3.mul (M3.mul V (M3.diag a b c)) (M3.tr V)) = M3.mul (M3.mul V (M3.diag a b c)) (M3.tr V) := by
    rw [tr_mul, tr_mul, tr_tr, tr_diag, mul_assoc3]
  rw [hT]; exact this

/-- **Intertwining.**  Two eigen-frames of the same `T`: `L · (VᵀV') = (VᵀV') · L'`. -/
theorem frame_intertwine {T V V' L L' : M3 K}
    (hV : M3.mul V (M3.tr V) = M3.one) (hV' : M3.mul V' (M3.tr V') = M3.one)
    (hD : M3.mul (M3.mul (M3.tr V) T) V = L) (hD' : M3.mul (M3.mul (M3.tr V') T) V' = L') :
    M3.mul L (M3.mul (M3.tr V) V') = M3.mul (M3.mul (M3.tr V) V') L' := by
  rw [← mul_assoc3, ← eig_left hV hD, mul_assoc3, eig_right hV' hD', ← mul_assoc3]

/-- entrywise form of `diag l · M = M · diag l'` -/
theorem intertwine_entries {M : M3 K} {l l' : V3 K}
    (h : M3.mul (M3.diag l.x l.y l.z) M = M3.mul M (M3.diag l'.x l'.y l'.z)) (i j : Ix) :
    (l.get i - l'.get j) * M.get i j = 0 := by
  rw [← diag_commutator_get, h, sub_self3]
  cases i <;> cases j <;> rfl

/-- the overlap matrix `M = VᵀV'` of two orthogonal matrices is orthogonal and `V' = V M` -/
theorem frame_overlap_orth {V V' : M3 K} (hV : Orth V) (hV' : Orth V') :
    Orth (M3.mul (M3.tr V) V') ∧ V' = M3.mul V (M3.mul (M3.tr V) V') :=
  ⟨orth_mul (orth_tr hV) hV', by rw [← mul_assoc3, hV.2, one_mul3]⟩

/-- an orthogonal diagonal matrix has entries of square one -/
theorem diag_orth_sq {a b c : K} (h : M3.mul (M3.tr (M3.diag a b c)) (M3.diag a b c) = M3.one) :
    a * a = 1 ∧ b * b = 1 ∧ c * c = 1 := by
  rw [tr_diag, diag_mul_diag] at h
  exact ⟨congrArg M3.xx h, congrArg M3.yy h, congrArg M3.zz h⟩

/-- **Eigen-frame uniqueness, general commutative ring.**  `V, V'` orthogonal, both diagonalise `T`
to the same `diag(l₀,l₁,l₂)`, and the differences `lᵢ - lⱼ` (`i ≠ j`) are not zero divisors.  Then
`V' = V · diag(d₀,d₁,d₂)` with `dᵢ² = 1`  (and `dᵢ` are the diagonal entries of `VᵀV'`). -/
theorem eigframe_unique_of_regular {T V V' : M3 K} {l0 l1 l2 : K}
    (hV : Orth V) (hV' : Orth V')
    (hD : M3.mul (M3.mul (M3.tr V) T) V = M3.diag l0 l1 l2)
    (hD' : M3.mul (M3.mul (M3.tr V') T) V' = M3.diag l0 l1 l2)
    (r01 : ∀ x : K, (l0 - l1) * x = 0 → x = 0) (r02 : ∀ x : K, (l0 - l2) * x = 0 → x = 0)
    (r12 : ∀ x : K, (l1 - l2) * x = 0 → x = 0) :
    ∃ d0 d1 d2 : K, d0 * d0 = 1 ∧ d1 * d1 = 1 ∧ d2 * d2 = 1 ∧ V' = M3.mul V (M3.diag d0 d1 d2) := by
  obtain ⟨hMo, hVM⟩ := frame_overlap_orth hV hV'
  have e := intertwine_entries (l := ⟨l0, l1, l2⟩) (l' := ⟨l0, l1, l2⟩) (frame_intertwine hV.2 hV'.2 hD hD')
  set M := M3.mul (M3.tr V) V' with hM
  have e4 : (l1 - l0) * M.yx = 0 := e .y .x
  have e7 : (l2 - l0) * M.zx = 0 := e .z .x
  have e8 : (l2 - l1) * M.zy = 0 := e .z .y
  have z2 : M.xy = 0 := r01 _ (e .x .y)
  have z3 : M.xz = 0 := r02 _ (e .x .z)
  have z4 : M.yx = 0 := r01 _ (by linear_combination (-1 : K) * e4)
  have z6 : M.yz = 0 := r12 _ (e .y .z)
  have z7 : M.zx = 0 := r02 _ (by linear_combination (-1 : K) * e7)
  have z8 : M.zy = 0 := r12 _ (by linear_combination (-1 : K) * e8)
  have hdiag : M = M3.diag M.xx M.yy M.zz := M3.ext' rfl z2 z3 z4 rfl z6 z7 z8 rfl
  have h1 := hMo.1
  rw [hdiag] at h1
  obtain ⟨s0, s1, s2⟩ := diag_orth_sq h1
  exact ⟨M.xx, M.yy, M.zz, s0, s1, s2, by rw [← hdiag]; exact hVM⟩

end Ring

section Domain
variable {K : Type} [CommRing K] [NoZeroDivisors K]

/-- **Eigen-frame uniqueness.**  Over a commutative ring without zero divisors (every field, ℚ, ℝ):
two orthogonal matrices diagonalising the same `T` to the same `diag(l₀,l₁,l₂)` with pairwise distinct
`lᵢ` differ by a sign per column: `V' = V · diag(d₀,d₁,d₂)`, `dᵢ = ±1`. -/
theorem eigframe_unique {T V V' : M3 K} {l0 l1 l2 : K}
    (hV : Orth V) (hV' : Orth V')
    (hD : M3.mul (M3.mul (M3.tr V) T) V = M3.diag l0 l1 l2)
    (hD' : M3.mul (M3.mul (M3.tr V') T) V' = M3.diag l0 l1 l2)
    (h01 : l0 ≠ l1) (h02 : l0 ≠ l2) (h12 : l1 ≠ l2) :
    ∃ d0 d1 d2 : K, (d0 = 1 ∨ d0 = -1) ∧ (d1 = 1 ∨ d1 = -1) ∧ (d2 = 1 ∨ d2 = -1) ∧
      V' = M3.mul V (M3.diag d0 d1 d2) := by
  have reg : ∀ {a b : K}, a ≠ b → ∀ x : K, (a - b) * x = 0 → x = 0 := by
    intro a b hab x hx
    rcases mul_eq_zero.mp hx with h | h
    · exact absurd (sub_eq_zero.mp h) hab
    · exact h
  obtain ⟨d0, d1, d2, s0, s1, s2, h⟩ := eigframe_unique_of_regular hV hV' hD hD' (reg h01) (reg h02) (reg h12)
  exact ⟨d0, d1, d2, mul_self_eq_one_iff.mp s0, mul_self_eq_one_iff.mp s1, mul_self_eq_one_iff.mp s2, h⟩

/-- each eigenvalue of the first frame occurs among those of the second (a row of an orthogonal matrix
is not zero) -/
theorem eigvals_subset [Nontrivial K] {T V V' : M3 K} {l0 l1 l2 l0' l1' l2' : K}
    (hV : Orth V) (hV' : Orth V')
    (hD : M3.mul (M3.mul (M3.tr V) T) V = M3.diag l0 l1 l2)
    (hD' : M3.mul (M3.mul (M3.tr V') T) V' = M3.diag l0' l1' l2') :
    (l0 = l0' ∨ l0 = l1' ∨ l0 = l2') ∧ (l1 = l0' ∨ l1 = l1' ∨ l1 = l2') ∧ (l2 = l0' ∨ l2 = l1' ∨ l2 = l2') := by
  obtain ⟨hMo, -⟩ := frame_overlap_orth hV hV'
  have e := intertwine_entries (l := ⟨l0, l1, l2⟩) (l' := ⟨l0', l1', l2'⟩) (frame_intertwine hV.2 hV'.2 hD hD')
  set M := M3.mul (M3.tr V) V' with hM
  have o1 := congrArg M3.xx hMo.2
  have o5 := congrArg M3.yy hMo.2
  have o9 := congrArg M3.zz hMo.2
  simp only [M3.mul, M3.tr, M3.one] at o1 o5 o9
  have key : ∀ {a a' b' c' p q r : K}, (a - a') * p = 0 → (a - b') * q = 0 → (a - c') * r = 0 →
      p * p + q * q + r * r = 1 → a = a' ∨ a = b' ∨ a = c' := by
    intro a a' b' c' p q r hp hq hr hs
    by_contra hne
    simp only [not_or] at hne
    obtain ⟨n1, n2, n3⟩ := hne
    have zp : p = 0 := (mul_eq_zero.mp hp).resolve_left (sub_ne_zero.mpr n1)
    have zq : q = 0 := (mul_eq_zero.mp hq).resolve_left (sub_ne_zero.mpr n2)
    have zr : r = 0 := (mul_eq_zero.mp hr).resolve_left (sub_ne_zero.mpr n3)
    rw [zp, zq, zr] at hs
    simp at hs
  exact ⟨key (e .x .x) (e .x .y) (e .x .z) o1, key (e .y .x) (e .y .y) (e .y .z) o5, key (e .z .x) (e .z .y) (e .z .z) o9⟩

end Domain

section Ordered
variable {K : Type} [CommRing K] [LinearOrder K] [IsStrictOrderedRing K]

/-- **The ascending eigenvalue list is unique.**  Two exact eigen-frames of the same matrix, the first
with strictly ascending eigenvalues, the second with ascending ones: the eigenvalue triples coincide. -/
theorem eigvals_unique {T V V' : M3 K} {l l' : V3 K}
    (hV : Orth V) (hV' : Orth V')
    (hD : M3.mul (M3.mul (M3.tr V) T) V = M3.diag l.x l.y l.z)
    (hD' : M3.mul (M3.mul (M3.tr V') T) V' = M3.diag l'.x l'.y l'.z)
    (hxy : l.x < l.y) (hyz : l.y < l.z) (hxy' : l'.x ≤ l'.y) (hyz' : l'.y ≤ l'.z) : l' = l := by
  have : NoZeroDivisors K := IsStrictOrderedRing.noZeroDivisors
  obtain ⟨a0, a1, a2⟩ := eigvals_subset hV hV' hD hD'
  obtain ⟨b0, b1, b2⟩ := eigvals_subset hV' hV hD' hD
  have x1 : l.x ≤ l'.x := by rcases b0 with h | h | h <;> linarith
  have x2 : l'.x ≤ l.x := by rcases a0 with h | h | h <;> linarith
  have z1 : l'.z ≤ l.z := by rcases b2 with h | h | h <;> linarith
  have z2 : l.z ≤ l'.z := by rcases a2 with h | h | h <;> linarith
  have ex : l'.x = l.x := le_antisymm x2 x1
  have ez : l'.z = l.z := le_antisymm z1 z2
  have ey : l'.y = l.y := by
    rcases a1 with h | h | h
    · rw [ex] at h; exact absurd h (ne_of_gt hxy)
    · exact h.symm
    · rw [ez] at h; exact absurd h (ne_of_lt hyz)
  exact V3.ext' ex ey ez

end Ordered

end QcelVerif.Orient
