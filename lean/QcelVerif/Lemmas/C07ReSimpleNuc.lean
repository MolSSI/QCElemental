import QcelVerif.Lemmas.C07ReNucleus
/-!
C07 — SIMPLENUCLEUS `((?P<E>[A-Z]{1,3})|(?P<Z>\d{1,3}))` (IGNORECASE folded into the class), the nucleus group of
`atom_cartesian_strict`, through the generic engine: the group takes exactly the prefixes accepted by
`isSimpleNucleus` and captures them as group 1.
-/
namespace QcelVerif.MolText
open QcelVerif.Regex QcelVerif.Gen

theorem isSimpleNucleus_iff (t : Str) : isSimpleNucleus t = true ↔ LRun13 Char.isAlpha t ∨ LRun13 Char.isDigit t := by
  cases t <;> simp [isSimpleNucleus, allDigits, LRun13, and_or_left]

theorem simpleNuc_ext : NucExtFor simpleNuc isSimpleNucleus := by
  have h : OExt (fun _ => ()) simpleNuc _ :=
    .group_keep (fun _ _ => rfl) (.alt (.group_keep (fun _ _ => rfl) (.ofExt (Ext.run13 cls_alpha)))
      (.group_keep (fun _ _ => rfl) (.ofExt (Ext.run13 cls_digit))))
  rw [DAlt_keep] at h
  exact .of_oext h fun t _ => ⟨fun ⟨_, hL, _⟩ => (isSimpleNucleus_iff t).mpr hL, fun ht => ⟨(), (isSimpleNucleus_iff t).mp ht, rfl⟩⟩

/-- a simple nucleus is a NUCLEUS: a label of one to three letters, or of one to three digits, and nothing else -/
theorem simple_isNucleus {t : Str} (h : isSimpleNucleus t = true) : isNucleus t = true := by
  have hl : NLabel t := by
    rcases (isSimpleNucleus_iff t).mp h with h | h
    · exact Or.inl ⟨[], t, rfl, Or.inr rfl, t, [], (List.append_nil t).symm, h, Or.inr rfl⟩
    · exact Or.inr ⟨t, [], (List.append_nil t).symm, h, Or.inr rfl⟩
  exact (isNucleus_iff t).mpr (Or.inr (Or.inr ⟨t, [], (List.append_nil t).symm, hl, Or.inr rfl⟩))

theorem isSimpleNucleus_ne_nil {t : Str} (h : isSimpleNucleus t = true) : t ≠ [] :=
  isNucleus_ne_nil (simple_isNucleus h)

theorem isSimpleNucleus_no_sep {t : Str} (h : isSimpleNucleus t = true) : ∀ c ∈ t, isSep c = false :=
  isNucleus_no_sep (simple_isNucleus h)

end QcelVerif.MolText
