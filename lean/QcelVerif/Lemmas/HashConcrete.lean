import QcelVerif.Lemmas.Hash
import QcelVerif.Lemmas.HashRender
import QcelVerif.Lemmas.RadiiF64
/-!
Lemmas for C11: the CONCRETE parameters of the driver.

  * `rndDouble` (round-to-nearest-even to 53 bits, `Model/Hash.lean`) satisfies `FlOk`;
  * `reprDec` / `reprRd` / `reprRat` (the concrete float printer) print the exact value: a small
    decimal-literal reader `decode` (specification side, used only in proofs) maps
    `reprDec neg mag k` back to `(neg, mag / 10^k)`.  Injectivity, the output alphabet and
    non-emptiness follow.
-/
namespace QcelVerif.Hash

/-! ### `rndDouble` is within 1/256 for `|y| ≤ 2^45`: it is `rnd64`, whose error is at most `2^-53` relative -/
theorem scale2_eq (a : Rat) (e : Int) : scale2 a e = a * (2 : Rat) ^ (-e) := by
  unfold scale2
  by_cases h : e ≥ 0
  · rw [if_pos h]
    obtain ⟨n, rfl⟩ := Int.eq_ofNat_of_zero_le h
    simp [zpow_neg, div_eq_mul_inv]
  · rw [if_neg h]
    have : -e = ((-e).toNat : Int) := by omega
    conv_rhs => rw [this, zpow_natCast]

/-- `rndDouble` finds the exponent by scaling, C17's `rnd64` by comparing with `2^l` -/
theorem rndDouble_eq_rnd64 (q : Rat) : rndDouble q = Radii.rnd64 q := by
  have pos : ∀ a : Rat, 0 < a → (let l : Int := (Nat.log2 a.num.natAbs : Int) - (Nat.log2 a.den : Int)
      let e : Int := if scale2 a (l - 52) < (2 : Rat) ^ 52 then l - 53 else l - 52
      scale2 ((rintHE (scale2 a e) : Int) : Rat) (-e)) = Radii.rndPos a := by
    intro a ha
    have hnat : a.num.natAbs = a.num.toNat := by have := Rat.num_pos.mpr ha; omega
    simp only [scale2_eq, hnat, neg_neg]
    unfold Radii.rndPos Radii.ulpExp Radii.ilog2
    simp only
    set l : Int := (Nat.log2 a.num.toNat : Int) - (Nat.log2 a.den : Int)
    have hc : a * (2 : Rat) ^ (-(l - 52)) < 2 ^ 52 ↔ ¬ (2 : Rat) ^ l ≤ a := by
      rw [not_le, zpow_neg, ← div_eq_mul_inv, div_lt_iff₀ (F64.zpow2_pos _)]
      have : (2 : Rat) ^ 52 * (2 : Rat) ^ (l - 52) = (2 : Rat) ^ l := by
        rw [← zpow_natCast]; exact F64.zpow2_mul (by push_cast; ring)
      rw [this]
    by_cases h : (2 : Rat) ^ l ≤ a
    · rw [if_neg (by rw [hc]; exact not_not.mpr h), if_pos h, zpow_neg, ← div_eq_mul_inv]; rfl
    · rw [if_pos (hc.mpr h), if_neg h, show l - 53 = l - 1 - 52 by ring, zpow_neg, ← div_eq_mul_inv]; rfl
  unfold rndDouble Radii.rnd64
  split_ifs with h0 hneg
  · rfl
  · exact congrArg Neg.neg (by simpa [hneg] using pos (-q) (by linarith))
  · simpa [hneg] using pos q (lt_of_le_of_ne (not_lt.mp hneg) (Ne.symm h0))

/-- half a unit in the last place of a double of size at most `2^45` is at most `2^-8` -/
theorem flOk_rndDouble : FlOk rndDouble := by
  intro y hy
  rw [rndDouble_eq_rnd64]
  refine le_trans (Radii.rnd64_err y) ?_
  calc (2 : Rat) ^ (-53 : Int) * |y| ≤ (2 : Rat) ^ (-53 : Int) * 2 ^ 45 :=
        mul_le_mul_of_nonneg_left hy (F64.zpow2_pos _).le
    _ = 1 / 256 := by norm_num

/-! ### reading a decimal literal back (specification side; used only in proofs) -/

def dval (c : Char) : Nat := c.toNat - 48

/-- the number written by a digit string (most significant digit first) -/
def numOf (l : List Char) : Nat := l.foldl (fun a c => a * 10 + dval c) 0

theorem numOf_eq (l : List Char) : numOf l = Nat.ofDigitChars 10 l 0 := Decimal.foldl_eq_ofDigitChars l 0

theorem numOf_append (a b : List Char) : numOf (a ++ b) = numOf a * 10 ^ b.length + numOf b := by
  rw [numOf_eq, numOf_eq, numOf_eq, Nat.ofDigitChars_append, Nat.ofDigitChars_eq_ofDigitChars_zero,
    Nat.mul_comm (10 ^ b.length)]

theorem numOf_cons (c : Char) (b : List Char) : numOf (c :: b) = dval c * 10 ^ b.length + numOf b := by
  have := numOf_append [c] b
  simpa [numOf] using this

theorem numOf_showNat (n : Nat) : numOf (showNat n) = n := by
  rw [numOf_eq, showNat_eq, Nat.ofDigitChars_ten_toDigits]

theorem numOf_zeros (z : Nat) : numOf (zerosL z) = 0 := by
  rw [numOf_eq, zerosL, Nat.ofDigitChars_replicate_zero, Nat.mul_zero]

theorem zerosL_length (z : Nat) : (zerosL z).length = z := by simp [zerosL]

theorem showNat_mul10 {n : Nat} (h : n ≠ 0) : showNat (n * 10) = showNat n ++ ['0'] := by
  rw [showNat_eq, showNat_eq, Nat.mul_comm]
  exact (Nat.toDigits_append_toDigits (d := 0) (by decide) (Nat.pos_of_ne_zero h) (by decide)).symm

theorem showNat_mul_pow {s : Nat} (h : s ≠ 0) (t : Nat) : showNat (s * 10 ^ t) = showNat s ++ zerosL t := by
  induction t with
  | zero => simp [zerosL]
  | succ t ih =>
    have hne : s * 10 ^ t ≠ 0 := Nat.mul_ne_zero h (by positivity)
    rw [pow_succ, ← mul_assoc, showNat_mul10 hne, ih]
    simp [zerosL, List.replicate_succ', List.append_assoc]

theorem stripZeros_spec : ∀ (fuel m : Nat), m ≠ 0 →
    stripZeros fuel m ≠ 0 ∧ ∃ t, m = stripZeros fuel m * 10 ^ t
  | 0, m, h => ⟨h, 0, by simp [stripZeros]⟩
  | fuel + 1, m, h => by
      unfold stripZeros
      by_cases hc : m ≠ 0 ∧ m % 10 = 0
      · rw [if_pos hc]
        have hm : m / 10 ≠ 0 := by omega
        obtain ⟨h1, t, ht⟩ := stripZeros_spec fuel (m / 10) hm
        refine ⟨h1, t + 1, ?_⟩
        rw [pow_succ, ← mul_assoc, ← ht]
        omega
      · rw [if_neg hc]
        exact ⟨h, 0, by simp⟩

/-! ### splitting at a marker character -/

def splitAtChar (c : Char) : List Char → List Char × Option (List Char)
  | [] => ([], none)
  | x :: t => if x = c then ([], some t) else (x :: (splitAtChar c t).1, (splitAtChar c t).2)

theorem splitAtChar_hit (c : Char) : ∀ (l r : List Char), (∀ x ∈ l, x ≠ c) → splitAtChar c (l ++ c :: r) = (l, some r)
  | [], r, _ => by simp [splitAtChar]
  | x :: l, r, h => by
      have hx : x ≠ c := h x (by simp)
      have ih := splitAtChar_hit c l r (fun y hy => h y (List.mem_cons_of_mem _ hy))
      simp [splitAtChar, hx, ih]

theorem splitAtChar_miss (c : Char) : ∀ (l : List Char), (∀ x ∈ l, x ≠ c) → splitAtChar c l = (l, none)
  | [], _ => by simp [splitAtChar]
  | x :: l, h => by
      have hx : x ≠ c := h x (by simp)
      have ih := splitAtChar_miss c l (fun y hy => h y (List.mem_cons_of_mem _ hy))
      simp [splitAtChar, hx, ih]

/-- the exponent part (after `e`) of a literal -/
def expOf : Option (List Char) → Int
  | none => 0
  | some [] => 0
  | some (c :: r) => if c = '-' then -(numOf r : Int) else if c = '+' then (numOf r : Int) else (numOf (c :: r) : Int)

/-- the value of an unsigned decimal literal `I[.F][e±X]` -/
def decodeBody (s : List Char) : Rat :=
  let me := splitAtChar 'e' s
  let ifr := splitAtChar '.' me.1
  let F := ifr.2.getD []
  (numOf (ifr.1 ++ F) : Rat) * (10 : Rat) ^ (expOf me.2 - (F.length : Int))

/-- sign bit and magnitude of a decimal literal -/
def decode : List Char → Bool × Rat
  | [] => (false, 0)
  | c :: t => if c = '-' then (true, decodeBody t) else (false, decodeBody (c :: t))

/-! ### the concrete printer, piece by piece -/

def Digits (l : List Char) : Prop := ∀ c ∈ l, c.isDigit = true

theorem digits_zeros (z : Nat) : Digits (zerosL z) := by
  intro c hc
  have := List.eq_of_mem_replicate hc
  subst this; decide

theorem digits_zero : Digits ['0'] := digits_zeros 1

theorem digits_append {a b : List Char} (ha : Digits a) (hb : Digits b) : Digits (a ++ b) :=
  List.forall_mem_append.mpr ⟨ha, hb⟩

theorem digits_take {a : List Char} (ha : Digits a) (n : Nat) : Digits (a.take n) :=
  fun c hc => ha c (List.mem_of_mem_take hc)

theorem digits_drop {a : List Char} (ha : Digits a) (n : Nat) : Digits (a.drop n) :=
  fun c hc => ha c (List.mem_of_mem_drop hc)

theorem Digits.ne {l : List Char} (h : Digits l) {d : Char} (hd : d.isDigit = false) : ∀ x ∈ l, x ≠ d :=
  fun x hx => isDigit_ne (h x hx) hd

/-- a literal without exponent part: `I.F` -/
theorem decodeBody_plain (I F : List Char) (hI : Digits I) (hF : Digits F) :
    decodeBody (I ++ '.' :: F) = (numOf (I ++ F) : Rat) * (10 : Rat) ^ (-(F.length : Int)) := by
  unfold decodeBody
  have h1 : splitAtChar 'e' (I ++ '.' :: F) = (I ++ '.' :: F, none) :=
    splitAtChar_miss 'e' _ (List.forall_mem_append.mpr
      ⟨hI.ne (by decide), List.forall_mem_cons.mpr ⟨by decide, hF.ne (by decide)⟩⟩)
  have h2 : splitAtChar '.' (I ++ '.' :: F) = (I, some F) := splitAtChar_hit '.' I F (hI.ne (by decide))
  simp only [h1, h2, expOf, Option.getD_some, zero_sub]


def sgnL (neg : Bool) : List Char := if neg then ['-'] else []

def expPad (l : List Char) : List Char := if l.length < 2 then '0' :: l else l

def expStr (e : Int) : List Char :=
  'e' :: (if e < 0 then '-' else '+') :: expPad (showNat e.natAbs)

def mantOf : List Char → List Char
  | [] => []
  | [d] => [d]
  | d :: r => d :: '.' :: r

theorem numOf_expPad (n : Nat) : numOf (expPad (showNat n)) = n := by
  unfold expPad
  split
  · rw [numOf_cons, numOf_showNat]; simp [dval]
  · rw [numOf_showNat]

theorem expOf_expStr (e : Int) : ∃ t, expStr e = 'e' :: t ∧ expOf (some t) = e := by
  refine ⟨_, rfl, ?_⟩
  by_cases h : e < 0
  · simp only [h, if_true, expOf, numOf_expPad]; omega
  · have : ('+' : Char) ≠ '-' := by decide
    simp only [h, if_false, expOf, numOf_expPad, if_neg this, if_true]; omega

/-- a literal in exponent form: `d[.r]e±X` -/
theorem decodeBody_exp (ds : List Char) (hne : ds ≠ []) (hd : Digits ds) (e : Int) :
    decodeBody (mantOf ds ++ expStr e) = (numOf ds : Rat) * (10 : Rat) ^ (e - ((ds.length : Int) - 1)) := by
  obtain ⟨t, ht, hx⟩ := expOf_expStr e
  rw [ht]
  unfold decodeBody
  rcases ds with _ | ⟨d, _ | ⟨d', r⟩⟩
  · exact absurd rfl hne
  · have h1 : splitAtChar 'e' (mantOf [d] ++ 'e' :: t) = ([d], some t) :=
      splitAtChar_hit 'e' [d] t (hd.ne (by decide))
    have h2 : splitAtChar '.' [d] = ([d], none) := splitAtChar_miss '.' [d] (hd.ne (by decide))
    simp only [h1, h2, hx]
    simp
  · have hm : mantOf (d :: d' :: r) = d :: '.' :: d' :: r := rfl
    have h1 : splitAtChar 'e' (mantOf (d :: d' :: r) ++ 'e' :: t) = (d :: '.' :: d' :: r, some t) := by
      rw [hm]
      obtain ⟨h0, ht⟩ := List.forall_mem_cons.mp hd
      exact splitAtChar_hit 'e' _ t (List.forall_mem_cons.mpr
        ⟨isDigit_ne h0 (by decide), List.forall_mem_cons.mpr ⟨by decide, Digits.ne ht (by decide)⟩⟩)
    have h2 : splitAtChar '.' (d :: '.' :: d' :: r) = ([d], some (d' :: r)) :=
      splitAtChar_hit '.' [d] (d' :: r) (fun x hx' => hd.ne (by decide) x (by simp at hx'; simp [hx']))
    simp only [h1, h2, hx, Option.getD_some]
    simp only [List.cons_append, List.nil_append, List.length_cons]
    congr 2
    push_cast; ring


/-- the unsigned non-zero body of `reprDec`, as a function of the significant digits and the decimal point position -/
def bodyOf (ds : List Char) (decpt : Int) : List Char :=
  if decpt ≤ -4 ∨ decpt > 16 then mantOf ds ++ expStr (decpt - 1)
  else if decpt ≤ 0 then "0.".toList ++ zerosL (-decpt).toNat ++ ds
  else if decpt.toNat ≥ ds.length then ds ++ zerosL (decpt.toNat - ds.length) ++ ".0".toList
  else ds.take decpt.toNat ++ ['.'] ++ ds.drop decpt.toNat

theorem reprDec_eq (neg : Bool) (mag k : Nat) :
    reprDec neg mag k = sgnL neg ++
      (if mag = 0 then "0.0".toList
       else bodyOf (showNat (stripZeros (showNat mag).length mag)) (((showNat mag).length : Int) - (k : Int))) := by
  unfold reprDec bodyOf expStr
  -- the sign prefix and the exponent padding stay folded; layout by layout the two sides then differ in bracketing
  -- only, and in the exponent layout (the two goals left) by the inline `match` that `mantOf` unfolds to
  simp only [← sgnL.eq_1, ← expPad.eq_1]
  split_ifs <;> simp only [List.append_assoc, List.cons_append, List.nil_append]
  all_goals rfl

/-- **the body denotes `0.ds × 10^decpt`** -/
theorem decodeBody_bodyOf (ds : List Char) (hne : ds ≠ []) (hd : Digits ds) (e : Int) :
    decodeBody (bodyOf ds e) = (numOf ds : Rat) * (10 : Rat) ^ (e - (ds.length : Int)) := by
  unfold bodyOf
  split_ifs with h1 h2 h3
  · rw [decodeBody_exp ds hne hd]
    congr 2; ring
  · have : "0.".toList ++ zerosL (-e).toNat ++ ds = ['0'] ++ '.' :: (zerosL (-e).toNat ++ ds) := by simp
    rw [this, decodeBody_plain _ _ digits_zero (digits_append (digits_zeros _) hd)]
    have hN : numOf (['0'] ++ (zerosL (-e).toNat ++ ds)) = numOf ds := by
      rw [numOf_append, numOf_append, numOf_zeros]
      simp [numOf, dval]
    have hL : -(((zerosL (-e).toNat ++ ds).length : Nat) : Int) = e - (ds.length : Int) := by
      rw [List.length_append, zerosL_length]
      have : ((-e).toNat : Int) = -e := by omega
      push_cast; rw [this]; ring
    rw [hN, hL]
  · have : ds ++ zerosL (e.toNat - ds.length) ++ ".0".toList = (ds ++ zerosL (e.toNat - ds.length)) ++ '.' :: ['0'] := by simp
    rw [this, decodeBody_plain _ _ (digits_append hd (digits_zeros _)) digits_zero]
    rw [numOf_append, numOf_append, numOf_zeros]
    simp only [List.length_cons, List.length_nil, zerosL_length, numOf, List.foldl_cons, List.foldl_nil, dval]
    have hz : ((e.toNat - ds.length : Nat) : Int) = e - ds.length := by omega
    have ten : (10 : Rat) ≠ 0 := by norm_num
    rw [← hz, zpow_natCast]
    push_cast
    simp only [zpow_neg]
    rw [zpow_one, add_zero, add_zero, mul_assoc, mul_inv_cancel₀ ten, mul_one]
  · have : List.take e.toNat ds ++ ['.'] ++ List.drop e.toNat ds = List.take e.toNat ds ++ '.' :: List.drop e.toNat ds := by simp
    rw [this, decodeBody_plain _ _ (digits_take hd _) (digits_drop hd _), List.take_append_drop]
    congr 2
    rw [List.length_drop]; omega

/-- the body starts with a digit (so the sign can be read off the first character) -/
theorem bodyOf_head (ds : List Char) (hne : ds ≠ []) (hd : Digits ds) (e : Int) :
    ∃ c r, bodyOf ds e = c :: r ∧ c.isDigit = true := by
  obtain ⟨d, t, rfl⟩ := List.exists_cons_of_ne_nil hne
  have hdd : d.isDigit = true := hd d (by simp)
  unfold bodyOf
  split_ifs with h1 h2 h3
  · rcases t with _ | ⟨d', r⟩
    · exact ⟨d, _, rfl, hdd⟩
    · exact ⟨d, _, rfl, hdd⟩
  · exact ⟨'0', _, rfl, by decide⟩
  · exact ⟨d, _, rfl, hdd⟩
  · obtain ⟨n, hn⟩ : ∃ n, e.toNat = n + 1 := ⟨e.toNat - 1, by omega⟩
    rw [hn]
    exact ⟨d, _, rfl, hdd⟩

/-- every character of `l` may occur inside a token (the output alphabet is `0-9 + - . e`) -/
def Tok (l : List Char) : Prop := ∀ c ∈ l, tokCh c = true

instance (l : List Char) : Decidable (Tok l) := inferInstanceAs (Decidable (∀ c ∈ l, tokCh c = true))

theorem tok_digits {l : List Char} (h : Digits l) : Tok l := fun c hc => isDigit_tokCh (h c hc)

theorem tok_append {a b : List Char} (ha : Tok a) (hb : Tok b) : Tok (a ++ b) :=
  List.forall_mem_append.mpr ⟨ha, hb⟩

theorem tok_cons {c : Char} {l : List Char} (hc : tokCh c = true) (hl : Tok l) : Tok (c :: l) :=
  List.forall_mem_cons.mpr ⟨hc, hl⟩

theorem tok_mantOf {ds : List Char} (hd : Digits ds) : Tok (mantOf ds) := by
  rcases ds with _ | ⟨d, _ | ⟨d', r⟩⟩
  · exact tok_digits hd
  · exact tok_digits hd
  · exact tok_cons (isDigit_tokCh (hd d (by simp)))
      (tok_cons (by decide) (tok_digits fun c hc => hd c (List.mem_cons_of_mem _ hc)))

theorem tok_expStr (e : Int) : Tok (expStr e) := by
  refine tok_cons (by decide) (tok_cons (by split <;> decide) ?_)
  unfold expPad
  split
  · exact tok_cons (by decide) (tok_digits (showNat_digits _))
  · exact tok_digits (showNat_digits _)

theorem tok_bodyOf (ds : List Char) (hd : Digits ds) (e : Int) : Tok (bodyOf ds e) := by
  unfold bodyOf
  split_ifs
  · exact tok_append (tok_mantOf hd) (tok_expStr _)
  · exact tok_append (tok_append (by decide) (tok_digits (digits_zeros _))) (tok_digits hd)
  · exact tok_append (tok_append (tok_digits hd) (tok_digits (digits_zeros _))) (by decide)
  · exact tok_append (tok_append (tok_digits (digits_take hd _)) (by decide)) (tok_digits (digits_drop hd _))

theorem reprDec_tok (neg : Bool) (mag k : Nat) : Tok (reprDec neg mag k) := by
  rw [reprDec_eq]
  refine tok_append (by cases neg <;> decide) ?_
  split
  · decide
  · exact tok_bodyOf _ (showNat_digits _) _

theorem showNat_len_mul_pow {s : Nat} (h : s ≠ 0) (t : Nat) : (showNat (s * 10 ^ t)).length = (showNat s).length + t := by
  rw [showNat_mul_pow h, List.length_append, zerosL_length]

/-- **the concrete printer prints the exact value**: read back as a decimal literal, `reprDec neg mag k` is
`(-1)^neg · mag / 10^k` (sign bit kept separately, so that `-0.0` is told from `0.0`). -/
theorem decode_reprDec (neg : Bool) (mag k : Nat) : decode (reprDec neg mag k) = (neg, (mag : Rat) / (10 : Rat) ^ k) := by
  rw [reprDec_eq]
  have key : ∀ B : List Char, (∃ c r, B = c :: r ∧ c.isDigit = true) → decode (sgnL neg ++ B) = (neg, decodeBody B) := by
    rintro B ⟨c, r, rfl, hc⟩
    have hm : c ≠ '-' := isDigit_ne hc (by decide)
    cases neg
    · simp [sgnL, decode, hm]
    · simp [sgnL, decode]
  by_cases h0 : mag = 0
  · rw [if_pos h0, key "0.0".toList ⟨'0', ['.', '0'], rfl, by decide⟩, h0]
    have : decodeBody "0.0".toList = 0 := by
      have := decodeBody_plain ['0'] ['0'] digits_zero digits_zero
      simp only [List.cons_append, List.nil_append] at this
      rw [show "0.0".toList = ['0', '.', '0'] from rfl, this]
      simp [numOf, dval]
    rw [this]; simp
  · rw [if_neg h0]
    obtain ⟨hs, t, ht⟩ := stripZeros_spec (showNat mag).length mag h0
    generalize stripZeros (showNat mag).length mag = s at hs ht
    have hne : showNat s ≠ [] := showNat_ne_nil s
    rw [key _ (bodyOf_head _ hne (showNat_digits s) _), decodeBody_bodyOf _ hne (showNat_digits s), numOf_showNat]
    have hlen : (showNat mag).length = (showNat s).length + t := by rw [ht]; exact showNat_len_mul_pow hs t
    rw [hlen, ht]
    have ten : (10 : Rat) ≠ 0 := by norm_num
    have : (((showNat s).length + t : Nat) : Int) - (k : Int) - ((showNat s).length : Int) = (t : Int) - (k : Int) := by
      push_cast; ring
    rw [this, zpow_sub₀ ten, zpow_natCast, zpow_natCast]
    push_cast
    rw [mul_div_assoc]

theorem reprDec_inj {neg neg' : Bool} {mag mag' k k' : Nat} (h : reprDec neg mag k = reprDec neg' mag' k') :
    neg = neg' ∧ mag * 10 ^ k' = mag' * 10 ^ k := by
  have := congrArg decode h
  rw [decode_reprDec, decode_reprDec] at this
  obtain ⟨h1, h2⟩ := Prod.mk.inj this
  refine ⟨h1, ?_⟩
  have hk : (10 : Rat) ^ k ≠ 0 := by positivity
  have hk' : (10 : Rat) ^ k' ≠ 0 := by positivity
  rw [div_eq_div_iff hk hk'] at h2
  exact_mod_cast h2

theorem reprDec_ne_nil (neg : Bool) (mag k : Nat) : reprDec neg mag k ≠ [] := by
  rw [reprDec_eq]
  intro h
  have hb := (List.append_eq_nil_iff.mp h).2
  split at hb
  · exact absurd hb (by decide)
  · obtain ⟨c, r, hc, _⟩ := bodyOf_head _ (showNat_ne_nil _) (showNat_digits _) _
    rw [hc] at hb
    exact List.cons_ne_nil _ _ hb

/-! ### bond orders: `reprRat` -/

/-- bond orders the concrete printer can print: the denominator divides `10^k` for some `k ≤ 18`
(every multiple of `1/2^j`, `1/5^j`, `1/10^j` with `j ≤ 18`; `reprRat` prints `?` otherwise) -/
def DecPrintable (q : Rat) : Prop := (decScale q.den 19 0).isSome = true

instance (q : Rat) : Decidable (DecPrintable q) := inferInstanceAs (Decidable (_ = true))

theorem decScale_spec (den : Nat) : ∀ (fuel k0 k : Nat), decScale den fuel k0 = some k → 10 ^ k % den = 0
  | 0, _, _, h => by simp [decScale] at h
  | fuel + 1, k0, k, h => by
      unfold decScale at h
      split at h
      · rename_i hc; cases h; exact hc
      · exact decScale_spec den fuel (k0 + 1) k h

theorem decScale_complete (den : Nat) : ∀ (fuel k0 k : Nat), k0 ≤ k → k < k0 + fuel → 10 ^ k % den = 0 →
    (decScale den fuel k0).isSome = true
  | 0, k0, k, h1, h2, _ => by omega
  | fuel + 1, k0, k, h1, h2, h => by
      unfold decScale
      split
      · rfl
      · rename_i hc
        have : k0 ≠ k := by rintro rfl; exact hc h
        exact decScale_complete den fuel (k0 + 1) k (by omega) (by omega) h

theorem decPrintable_of_dvd (q : Rat) (k : Nat) (hk : k ≤ 18) (h : q.den ∣ 10 ^ k) : DecPrintable q :=
  decScale_complete q.den 19 0 k (by omega) (by omega) (Nat.mod_eq_zero_of_dvd h)

theorem reprRat_eq {q : Rat} (h : DecPrintable q) :
    ∃ k, 10 ^ k % q.den = 0 ∧ reprRat q = reprDec (decide (q < 0)) (q.num.natAbs * 10 ^ k / q.den) k := by
  unfold DecPrintable at h
  unfold reprRat
  cases hk : decScale q.den 19 0 with
  | none => rw [hk] at h; simp at h
  | some k => exact ⟨k, decScale_spec q.den 19 0 k hk, rfl⟩

theorem decode_reprRat (q : Rat) (h : DecPrintable q) : decode (reprRat q) = (decide (q < 0), |q|) := by
  obtain ⟨k, hd, e⟩ := reprRat_eq h
  rw [e, decode_reprDec]
  obtain ⟨c, hc⟩ := Nat.dvd_of_mod_eq_zero hd
  have hden : q.den ≠ 0 := q.den_nz
  have e1 : q.num.natAbs * 10 ^ k / q.den = q.num.natAbs * c := by
    rw [hc, ← mul_assoc, mul_comm q.num.natAbs q.den, mul_assoc]
    exact Nat.mul_div_cancel_left _ (Nat.pos_of_ne_zero hden)
  rw [e1]
  congr 1
  have hdq : (q.den : Rat) ≠ 0 := by exact_mod_cast hden
  have hcq : (c : Rat) ≠ 0 := by
    intro h0
    have : c = 0 := by exact_mod_cast h0
    rw [this, mul_zero] at hc
    exact absurd hc (by positivity)
  have e2 : ((10 : Rat) ^ k) = (q.den : Rat) * (c : Rat) := by exact_mod_cast congrArg (Nat.cast (R := Rat)) hc
  rw [e2]
  push_cast
  rw [mul_div_mul_right _ _ hcq, Nat.cast_natAbs, Int.cast_abs]
  conv_rhs => rw [← Rat.num_div_den q]
  rw [abs_div, abs_of_pos (show (0 : Rat) < q.den by exact_mod_cast q.den_pos)]

end QcelVerif.Hash
