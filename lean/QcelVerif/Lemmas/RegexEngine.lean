import QcelVerif.Model.RegexEngine
import QcelVerif.Lib.ListLemmas
/-!
Generic facts about the regex engine (no property specifics): the continuation-passing backtracking matcher `Re.bt` returns
the first success of the list-of-successes semantics `Re.ms`, for every AST, continuation and state; `head?` of a `flatMap`; membership in `ms`
constructor by constructor; rewriting rules that evaluate a concrete AST symbolically (`bindMs`); greedy repetitions of a
one-character class; the cursor only moves forward, and the fuel that makes the engine total never truncates (for `Re.wf` ASTs).
-/
namespace QcelVerif.Regex

theorem orElseL_eq_or {α} (x : Option α) (y : Unit → Option α) : orElseL x y = x.or (y ()) := by
  cases x <;> simp [orElseL]

theorem findSome?_flatMap' {α β γ} (f : α → List β) (k : β → Option γ) (l : List α) :
    (l.flatMap f).findSome? k = l.findSome? fun a => (f a).findSome? k := by
  induction l with
  | nil => rfl
  | cons a t ih =>
    simp only [List.flatMap_cons, List.findSome?_append, ih, List.findSome?_cons]
    cases (f a).findSome? k <;> simp

theorem repBt_eq_findSome {α} (body : (St → Option α) → St → Option α) (bodyL : St → List St)
    (h : ∀ k st, body k st = (bodyL st).findSome? k) (g : Bool) :
    ∀ (fuel lo : Nat) (hi : Option Nat) (k : St → Option α) (st : St),
      repBt body lo hi g fuel k st = (repMs bodyL lo hi g fuel st).findSome? k := by
  intro fuel
  induction fuel with
  | zero =>
    intro lo hi k st
    by_cases hlo : lo = 0 <;> simp [repBt, repMs, hlo]
  | succ n ih =>
    intro lo hi k st
    have hm : (if hi = some 0 then none else body (fun st' => repBt body (lo - 1) (decHi hi) g n k st') st)
        = (if hi = some 0 then [] else (bodyL st).flatMap fun st' => repMs bodyL (lo - 1) (decHi hi) g n st').findSome? k := by
      by_cases hh : hi = some 0
      · simp [hh]
      · simp only [hh, if_false, h, findSome?_flatMap']
        congr 1
        funext st'
        exact ih _ _ _ _
    have hs : (if lo = 0 then k st else none) = (if lo = 0 then [st] else []).findSome? k := by
      by_cases hlo : lo = 0 <;> simp [hlo]
    cases g
    · simp only [repBt, repMs, orElseL_eq_or, Bool.false_eq_true, if_false, List.findSome?_append, hm, hs]
    · simp only [repBt, repMs, orElseL_eq_or, if_true, List.findSome?_append, hm, hs]

/-- **engine soundness and completeness w.r.t. the list semantics**: the backtracking matcher returns
exactly the first success (in exploration order) of `ms` -/
theorem bt_eq_findSome {α} (r : Re) : ∀ (k : St → Option α) (st : St), r.bt k st = (r.ms st).findSome? k := by
  induction r with
  | eps => intro k st; simp only [Re.bt, Re.ms, List.findSome?_singleton]
  | fail => intro k st; simp only [Re.bt, Re.ms, List.findSome?_nil]
  | cls neg items =>
    intro k st
    simp only [Re.bt, Re.ms]
    cases stepCls neg items st <;> simp
  | seq a b iha ihb =>
    intro k st
    simp only [Re.bt, Re.ms, findSome?_flatMap', iha]
    congr 1
    funext st'
    exact ihb _ _
  | alt a b iha ihb =>
    intro k st
    simp only [Re.bt, Re.ms, orElseL_eq_or, List.findSome?_append, iha, ihb]
  | rep lo hi g r ih =>
    intro k st
    simp only [Re.bt, Re.ms]
    exact repBt_eq_findSome _ _ (fun k st => ih k st) g _ _ _ _ _
  | group i r ih =>
    intro k st
    simp only [Re.bt, Re.ms, ih, List.findSome?_map]
    rfl
  | ifGroup i y n ihy ihn =>
    intro k st
    simp only [Re.bt, Re.ms]
    split
    · exact ihy _ _
    · exact ihn _ _
  | _ =>
    -- the zero-width tests: continue from the same state if the test holds
    intro k st
    simp only [Re.bt, Re.ms]
    split <;> simp

theorem findSome?_some_eq_head? {α} (l : List α) : l.findSome? some = l.head? := by
  cases l <;> simp

/-! ## `head?` of a `flatMap` -/

theorem head?_flatMap_cons {α β} (a : α) (l : List α) (f : α → List β) :
    ((a :: l).flatMap f).head? = ((f a).head?).or ((l.flatMap f).head?) := by
  simp only [List.flatMap_cons]
  cases f a <;> simp

/-- every element contributes nothing or a block that starts with `h`, and some element contributes: the first is `h` -/
theorem head?_flatMap_of_all {α β} (l : List α) (f : α → List β) (h : β)
    (hall : ∀ a ∈ l, f a = [] ∨ (f a).head? = some h) (hex : ∃ a ∈ l, f a ≠ []) : (l.flatMap f).head? = some h := by
  induction l with
  | nil => obtain ⟨a, ha, _⟩ := hex; simp at ha
  | cons a t ih =>
    rw [head?_flatMap_cons]
    rcases hall a (by simp) with h0 | h1
    · rw [h0]
      simp only [List.head?_nil, Option.none_or]
      apply ih (fun b hb => hall b (by simp [hb]))
      obtain ⟨b, hb, hne⟩ := hex
      simp at hb
      rcases hb with rfl | hb
      · exact absurd h0 hne
      · exact ⟨b, hb, hne⟩
    · rw [h1]; rfl

/-- a list all of whose members are the one value `v`, non-empty exactly when `P`: its head -/
theorem head?_of_mem_iff {α} {l : List α} {P : Prop} [Decidable P] {v : α} (h : ∀ x, x ∈ l ↔ P ∧ x = v) :
    l.head? = if P then some v else none := by
  cases l with
  | nil =>
    by_cases hp : P
    · have := (h v).mpr ⟨hp, rfl⟩; simp at this
    · simp [hp]
  | cons a t =>
    have := (h a).mp (by simp)
    simp [this.1, this.2]

theorem head?_flatMap_of_isSome {α β} (l : List α) (f : α → List β) (h : ∀ a, (f a).head?.isSome = true) :
    (l.flatMap f).head? = l.head?.bind fun a => (f a).head? := by
  cases l with
  | nil => rfl
  | cons a t =>
    rw [List.head?_flatMap, List.findSome?_cons]
    have := h a
    cases hfa : (f a).head? with
    | none => rw [hfa] at this; simp at this
    | some y => simp [hfa]

/-- `re.match`: the first way to match -/
theorem matchPrefix_eq_head (r : Re) (s : List Nat) : r.matchPrefix s = (r.ms (St.init s)).head? := by
  simp [Re.matchPrefix, bt_eq_findSome, findSome?_some_eq_head?]

/-- `re.fullmatch`: the first way to match that ends at the end of the string -/
theorem fullMatch_eq_find (r : Re) (s : List Nat) :
    r.fullMatch s = (r.ms (St.init s)).find? (fun st => st.rest.isEmpty) := by
  simp only [Re.fullMatch, bt_eq_findSome]
  rw [← List.findSome?_guard]
  congr 1

theorem matchPrefix_mem (r : Re) (s : List Nat) (st : St) (h : r.matchPrefix s = some st) : st ∈ r.ms (St.init s) := by
  rw [matchPrefix_eq_head] at h
  exact List.mem_of_head? h

theorem matchPrefix_none (r : Re) (s : List Nat) : r.matchPrefix s = none ↔ r.ms (St.init s) = [] := by
  rw [matchPrefix_eq_head]
  cases r.ms (St.init s) <;> simp

theorem matchPrefix_isSome_iff (r : Re) (b : List Nat) : (r.matchPrefix b).isSome = true ↔ ∃ x, x ∈ r.ms (St.init b) := by
  rw [matchPrefix_eq_head]
  cases r.ms (St.init b) with
  | nil => simp
  | cons x l => simp

/-- a pattern read through `g` computes `v`, if every way to match projects to `v` and `v ≠ none` has a way to match -/
theorem matchPrefix_bind_eq {β} {r : Re} {b : List Nat} {g : St → Option β} {v : Option β}
    (sound : ∀ x ∈ r.ms (St.init b), g x = v) (complete : v ≠ none → ∃ x, x ∈ r.ms (St.init b)) :
    (r.matchPrefix b).bind g = v := by
  rw [matchPrefix_eq_head]
  cases h : r.ms (St.init b) with
  | nil =>
    cases v with
    | none => rfl
    | some y =>
      obtain ⟨x, hx⟩ := complete (by simp)
      rw [h] at hx
      cases hx
  | cons x l => exact sound x (by rw [h]; exact List.mem_cons_self)

/-! ## `ms` and membership in it, constructor by constructor -/

theorem ms_seq (a b : Re) (st : St) : (Re.seq a b).ms st = (a.ms st).flatMap fun st' => b.ms st' := rfl

theorem ms_group (i : Nat) (r : Re) (st : St) : (Re.group i r).ms st = (r.ms st).map fun st' => St.capture i st st' := rfl

/-- a pattern that starts with one character of a class -/
theorem ms_seq_cls (neg : Bool) (items : List Item) (b : Re) (prev : Option Nat) (c : Nat) (t : List Nat) (caps : Caps) :
    (Re.seq (.cls neg items) b).ms ⟨prev, c :: t, caps⟩ = if clsMem neg items c then b.ms ⟨some c, t, caps⟩ else [] := by
  simp only [Re.ms, stepCls]
  split <;> simp

theorem mem_ms_eps {st x : St} : x ∈ Re.eps.ms st ↔ x = st := by simp [Re.ms]

theorem mem_ms_seq {a b : Re} {st x : St} : x ∈ (Re.seq a b).ms st ↔ ∃ m, m ∈ a.ms st ∧ x ∈ b.ms m := by
  simp [Re.ms, List.mem_flatMap]

theorem mem_ms_alt {a b : Re} {st x : St} : x ∈ (Re.alt a b).ms st ↔ x ∈ a.ms st ∨ x ∈ b.ms st := by
  simp [Re.ms]

theorem mem_ms_group {i : Nat} {r : Re} {st x : St} : x ∈ (Re.group i r).ms st ↔ ∃ m, m ∈ r.ms st ∧ x = St.capture i st m := by
  simp only [Re.ms, List.mem_map]
  exact ⟨fun ⟨m, hm, e⟩ => ⟨m, hm, e.symm⟩, fun ⟨m, hm, e⟩ => ⟨m, hm, e.symm⟩⟩

theorem mem_ms_cls {neg : Bool} {items : List Item} {st x : St} :
    x ∈ (Re.cls neg items).ms st ↔ ∃ c t, st.rest = c :: t ∧ clsMem neg items c = true ∧ x = { st with prev := some c, rest := t } := by
  simp only [Re.ms, stepCls]
  cases st.rest with
  | nil => simp
  | cons c t =>
    by_cases hc : clsMem neg items c = true
    · simp only [hc, if_true, Option.toList_some, List.mem_singleton]
      exact ⟨fun h => ⟨c, t, rfl, hc, h⟩, fun ⟨_, _, e, _, h⟩ => by cases e; exact h⟩
    · simp only [if_neg hc]
      exact ⟨fun h => by simp at h, fun ⟨_, _, e, h, _⟩ => by cases e; exact absurd h hc⟩

theorem mem_ms_bos {st x : St} : x ∈ Re.bos.ms st ↔ st.prev = none ∧ x = st := by
  cases h : st.prev <;> simp [Re.ms, holdsAt, h]

theorem mem_ms_eos {st x : St} : x ∈ Re.eos.ms st ↔ st.rest = [] ∧ x = st := by
  cases h : st.rest <;> simp [Re.ms, holdsAt, h]

/-- a pattern matched up to the end of the text -/
theorem mem_ms_seq_eos {r : Re} {st x : St} : x ∈ (Re.seq r .eos).ms st ↔ x ∈ r.ms st ∧ x.rest = [] := by
  simp only [mem_ms_seq, mem_ms_eos, exists_eq_right_right']

theorem mem_repMs_zero {body : St → List St} {lo : Nat} {hi : Option Nat} {g : Bool} {st x : St} :
    x ∈ repMs body lo hi g 0 st ↔ lo = 0 ∧ x = st := by
  by_cases hlo : lo = 0 <;> simp [repMs, hlo]

/-- one more iteration of the body (unless the upper bound is used up), or stop (if the lower bound is met) -/
theorem mem_repMs_succ {body : St → List St} {lo : Nat} {hi : Option Nat} {g : Bool} {n : Nat} {st x : St} :
    x ∈ repMs body lo hi g (n + 1) st ↔
      (hi ≠ some 0 ∧ ∃ m, m ∈ body st ∧ x ∈ repMs body (lo - 1) (decHi hi) g n m) ∨ (lo = 0 ∧ x = st) := by
  have hstop : x ∈ (if lo = 0 then [st] else []) ↔ lo = 0 ∧ x = st := by
    by_cases hlo : lo = 0 <;> simp [hlo]
  have hmore : x ∈ (if hi = some 0 then [] else (body st).flatMap fun m => repMs body (lo - 1) (decHi hi) g n m) ↔
      hi ≠ some 0 ∧ ∃ m, m ∈ body st ∧ x ∈ repMs body (lo - 1) (decHi hi) g n m := by
    by_cases hh : hi = some 0 <;> simp [hh]
  cases g
  · simp only [repMs, Bool.false_eq_true, if_false, List.mem_append, hstop, hmore, or_comm]
  · simp only [repMs, if_true, List.mem_append, hstop, hmore]

/-! ## `ms` followed by a continuation: rewriting rules used to evaluate a concrete AST symbolically -/

/-- all ways to match `r` from `st`, each continued by `F` -/
def bindMs {β} (r : Re) (st : St) (F : St → List β) : List β := (r.ms st).flatMap F

theorem map_ms_eq_bind {β} (r : Re) (st : St) (G : St → β) : (r.ms st).map G = bindMs r st fun st' => [G st'] :=
  List.map_eq_flatMap

theorem bind_eps {β} (st : St) (F : St → List β) : bindMs .eps st F = F st := by simp [bindMs, Re.ms]

theorem bind_seq {β} (a b : Re) (st : St) (F : St → List β) :
    bindMs (.seq a b) st F = bindMs a st fun st' => bindMs b st' F := by
  simp [bindMs, Re.ms, List.flatMap_assoc]

theorem bind_alt {β} (a b : Re) (st : St) (F : St → List β) :
    bindMs (.alt a b) st F = bindMs a st F ++ bindMs b st F := by
  simp [bindMs, Re.ms, List.flatMap_append]

theorem bind_group {β} (i : Nat) (r : Re) (st : St) (F : St → List β) :
    bindMs (.group i r) st F = bindMs r st fun st' => F (St.capture i st st') := by
  simp [bindMs, Re.ms, List.flatMap_map]

theorem bind_ifGroup {β} (i : Nat) (y n : Re) (st : St) (F : St → List β) :
    bindMs (.ifGroup i y n) st F = if (st.group i).isSome then bindMs y st F else bindMs n st F := by
  simp only [bindMs, Re.ms]; split <;> rfl

theorem bind_bos {β} (st : St) (F : St → List β) : bindMs .bos st F = if st.prev.isNone then F st else [] := by
  cases h : st.prev <;> simp [bindMs, Re.ms, holdsAt, h]

theorem bind_eos {β} (st : St) (F : St → List β) : bindMs .eos st F = if st.rest.isEmpty then F st else [] := by
  cases h : st.rest <;> simp [bindMs, Re.ms, holdsAt, h]

/-- one character of a class -/
theorem bind_cls {β} (neg : Bool) (items : List Item) (st : St) (F : St → List β) :
    bindMs (.cls neg items) st F =
      match st.rest with
      | c :: t => if clsMem neg items c then F { st with prev := some c, rest := t } else []
      | [] => [] := by
  simp only [bindMs, Re.ms, stepCls]
  cases st.rest with
  | nil => simp
  | cons c t => by_cases h : clsMem neg items c <;> simp [h]

theorem repMs_hi_zero (body : St → List St) (g : Bool) (fuel : Nat) (st : St) : repMs body 0 (some 0) g fuel st = [st] := by
  cases fuel <;> cases g <;> simp [repMs]

/-- greedy `r?`: the ways through `r` first, then the empty way -/
theorem bind_opt {β} (r : Re) (st : St) (F : St → List β) :
    bindMs (.rep 0 (some 1) true r) st F = bindMs r st F ++ F st := by
  simp [bindMs, Re.ms, repMs, decHi, repMs_hi_zero, List.flatMap_append]

/-! ## repetition of a one-character class -/

/-- the character before the cursor after consuming `x` -/
def lastOr : Option Nat → List Nat → Option Nat
  | p, [] => p
  | _, c :: t => lastOr (some c) t

/-- the cursor moved over the consumed text `x`, leaving `rest` -/
def St.adv (st : St) (x rest : List Nat) : St := { st with prev := lastOr st.prev x, rest := rest }

/-- every (consumed, rest) split explored by a greedy `[class]{lo,hi}` on fuel `fuel`, in exploration order -/
def classRuns (p : Nat → Bool) : Nat → Option Nat → Nat → List Nat → List (List Nat × List Nat)
  | lo, _, 0, s => if lo = 0 then [([], s)] else []
  | lo, hi, fuel + 1, s =>
    (if hi = some 0 then [] else
      match s with
      | c :: t => if p c then (classRuns p (lo - 1) (decHi hi) fuel t).map fun x => (c :: x.1, x.2) else []
      | [] => []) ++ (if lo = 0 then [([], s)] else [])

theorem repMs_cls (neg : Bool) (items : List Item) :
    ∀ (fuel lo : Nat) (hi : Option Nat) (st : St),
      repMs (fun st' => Re.ms (.cls neg items) st') lo hi true fuel st
        = (classRuns (clsMem neg items) lo hi fuel st.rest).map fun x => st.adv x.1 x.2 := by
  intro fuel
  induction fuel with
  | zero =>
    intro lo hi st
    by_cases hlo : lo = 0 <;> simp [repMs, classRuns, hlo, St.adv, lastOr]
  | succ n ih =>
    intro lo hi st
    have hstop : (if lo = 0 then [st] else []) = (if lo = 0 then [(([] : List Nat), st.rest)] else []).map fun x => st.adv x.1 x.2 := by
      by_cases hlo : lo = 0 <;> simp [hlo, St.adv, lastOr]
    simp only [repMs, classRuns, if_true, List.map_append, ← hstop]
    congr 1
    by_cases hh : hi = some 0
    · simp [hh]
    · simp only [hh, if_false]
      show bindMs (.cls neg items) st _ = _
      rw [bind_cls]
      cases st.rest with
      | nil => rfl
      | cons c t =>
        by_cases hc : clsMem neg items c
        · simp only [hc, if_true, ih, List.map_map]
          rfl
        · simp [hc]

theorem ms_rep_cls (lo : Nat) (hi : Option Nat) (neg : Bool) (items : List Item) (st : St) :
    (Re.rep lo hi true (.cls neg items)).ms st
      = (classRuns (clsMem neg items) lo hi (st.rest.length + 1) st.rest).map fun x => st.adv x.1 x.2 :=
  repMs_cls neg items _ lo hi st

/-- the first split explored by a greedy `[class]{lo,}` takes the longest run of class characters -/
theorem classRuns_head (p : Nat → Bool) : ∀ (s : List Nat) (lo fuel : Nat), s.length < fuel →
    (classRuns p lo none fuel s).head? =
      if lo ≤ (s.takeWhile p).length then some (s.takeWhile p, s.dropWhile p) else none := by
  intro s
  induction s with
  | nil =>
    intro lo fuel hf
    obtain ⟨f, rfl⟩ : ∃ f, fuel = f + 1 := ⟨fuel - 1, by omega⟩
    by_cases hlo : lo = 0 <;> simp [classRuns, hlo]
  | cons c t ih =>
    intro lo fuel hf
    obtain ⟨f, rfl⟩ : ∃ f, fuel = f + 1 := ⟨fuel - 1, by omega⟩
    have hft : t.length < f := by simp at hf; omega
    cases hp : p c with
    | false => by_cases hlo : lo = 0 <;> simp [classRuns, hp, hlo]
    | true =>
      -- the runs through `c` come first; there is one iff `t` has a run of length `lo - 1`
      simp only [classRuns, hp, if_true, decHi, reduceCtorEq, if_false, List.head?_append, List.head?_map,
        ih (lo - 1) f hft, List.takeWhile_cons, List.dropWhile_cons, List.length_cons]
      by_cases hle : lo - 1 ≤ (t.takeWhile p).length
      · simp [hle, show lo ≤ (t.takeWhile p).length + 1 by omega]
      · simp [hle, show ¬ lo ≤ (t.takeWhile p).length + 1 by omega, show lo ≠ 0 by omega]

/-- greedy `[class]{lo,}`: the first way to match consumes the longest run of class characters (none if it is shorter
than `lo`) -/
theorem ms_rep_cls_head (neg : Bool) (items : List Item) (lo : Nat) (st : St) :
    ((Re.rep lo none true (.cls neg items)).ms st).head? =
      if lo ≤ (st.rest.takeWhile (clsMem neg items)).length
      then some (st.adv (st.rest.takeWhile (clsMem neg items)) (st.rest.dropWhile (clsMem neg items))) else none := by
  rw [ms_rep_cls, List.head?_map, classRuns_head _ _ _ _ (Nat.lt_succ_self _)]
  split <;> rfl

theorem takeDiff_nil (b : List Nat) : takeDiff b [] = b := by
  unfold takeDiff; exact List.take_of_length_le (by simp)

theorem takeDiff_append' (a b : List Nat) : takeDiff (a ++ b) b = a := by
  simp [takeDiff]

theorem takeDiff_of_append {s a b : List Nat} (h : s = a ++ b) : takeDiff s b = a :=
  h ▸ takeDiff_append' a b

/-- a captured greedy `[class]{lo,}`: the first way captures the longest run -/
theorem ms_group_rep_cls_head (i lo : Nat) (neg : Bool) (items : List Item) (st : St) :
    ((Re.group i (.rep lo none true (.cls neg items))).ms st).head? =
      if lo ≤ (st.rest.takeWhile (clsMem neg items)).length then
        some ⟨lastOr st.prev (st.rest.takeWhile (clsMem neg items)), st.rest.dropWhile (clsMem neg items),
          (i, st.rest.takeWhile (clsMem neg items)) :: st.caps⟩
      else none := by
  rw [ms_group, List.head?_map, ms_rep_cls_head]
  split
  · simp [St.capture, St.adv, takeDiff_of_append List.takeWhile_append_dropWhile.symm]
  · rfl

/-! ## the cursor only moves forward; the repetition budget never truncates -/

theorem repMs_rel {R : St → St → Prop} (hrefl : ∀ a, R a a) (htrans : ∀ {a b c}, R a b → R b c → R a c)
    (body : St → List St) (hb : ∀ st st', st' ∈ body st → R st st') (g : Bool) :
    ∀ (f lo : Nat) (hi : Option Nat) (st st' : St), st' ∈ repMs body lo hi g f st → R st st' := by
  intro f
  induction f with
  | zero =>
    intro lo hi st st' h
    obtain ⟨_, rfl⟩ := mem_repMs_zero.mp h
    exact hrefl _
  | succ n ih =>
    intro lo hi st st' h
    rcases mem_repMs_succ.mp h with ⟨_, m, hm, hx⟩ | ⟨_, rfl⟩
    · exact htrans (hb _ _ hm) (ih _ _ _ _ hx)
    · exact hrefl _

/-- a relation on cursors that is reflexive, transitive and holds across one consumed character holds between the start
and the end of every way to match (captures and zero-width tests do not move the cursor) -/
theorem ms_rel {R : List Nat → List Nat → Prop} (hrefl : ∀ a, R a a) (htrans : ∀ {a b c}, R a b → R b c → R a c)
    (hstep : ∀ c t, R (c :: t) t) (r : Re) : ∀ (st st' : St), st' ∈ r.ms st → R st.rest st'.rest := by
  induction r with
  | eps => intro st st' h; rw [mem_ms_eps.mp h]; exact hrefl _
  | fail => intro st st' h; simp [Re.ms] at h
  | cls neg items =>
    intro st st' h
    obtain ⟨c, t, hr, _, rfl⟩ := mem_ms_cls.mp h
    rw [hr]
    exact hstep c t
  | seq a b iha ihb =>
    intro st st' h
    obtain ⟨m, hm, hx⟩ := mem_ms_seq.mp h
    exact htrans (iha _ _ hm) (ihb _ _ hx)
  | alt a b iha ihb =>
    intro st st' h
    exact (mem_ms_alt.mp h).elim (iha _ _) (ihb _ _)
  | rep lo hi g r ih =>
    intro st st' h
    exact repMs_rel (R := fun a b => R a.rest b.rest) (fun _ => hrefl _) htrans _ ih g _ _ _ _ _ h
  | group i r ih =>
    intro st st' h
    obtain ⟨m, hm, rfl⟩ := mem_ms_group.mp h
    exact ih st m hm
  | ifGroup i y n ihy ihn =>
    intro st st' h
    simp only [Re.ms] at h
    split at h
    · exact ihy _ _ h
    · exact ihn _ _ h
  | _ =>
    -- the zero-width tests
    intro st st' h
    simp only [Re.ms] at h
    split at h <;> simp at h
    subst h
    exact hrefl _

theorem ms_le (r : Re) : ∀ (st st' : St), st' ∈ r.ms st → st'.rest.length ≤ st.rest.length :=
  ms_rel (R := fun a b => b.length ≤ a.length) (fun _ => Nat.le_refl _) (fun h1 h2 => Nat.le_trans h2 h1)
    (fun _ _ => Nat.le_succ _) r

theorem repMs_lt (body : St → List St) (hb : ∀ st st', st' ∈ body st → st'.rest.length < st.rest.length) (g : Bool)
    (f lo : Nat) (hlo : lo ≠ 0) (hi : Option Nat) (st st' : St) (h : st' ∈ repMs body lo hi g f st) :
    st'.rest.length < st.rest.length := by
  cases f with
  | zero => exact absurd (mem_repMs_zero.mp h).1 hlo
  | succ n =>
    rcases mem_repMs_succ.mp h with ⟨_, m, hm, hx⟩ | ⟨h0, _⟩
    · -- the first iteration consumes, the others do not go back
      have hle := repMs_rel (R := fun a b => b.rest.length ≤ a.rest.length) (fun _ => Nat.le_refl _)
        (fun h1 h2 => Nat.le_trans h2 h1) body (fun a b hab => Nat.le_of_lt (hb a b hab)) g _ _ _ _ _ hx
      exact Nat.lt_of_le_of_lt hle (hb _ _ hm)
    · exact absurd h0 hlo

/-- a non-nullable AST consumes at least one character on every way to match -/
theorem ms_lt (r : Re) : r.nullable = false → ∀ (st st' : St), st' ∈ r.ms st → st'.rest.length < st.rest.length := by
  induction r with
  | fail => intro _ st st' h; simp [Re.ms] at h
  | cls neg items =>
    intro _ st st' h
    obtain ⟨c, t, hr, _, rfl⟩ := mem_ms_cls.mp h
    simp [hr]
  | seq a b iha ihb =>
    intro hn st st' h
    obtain ⟨m, hm, hx⟩ := mem_ms_seq.mp h
    simp only [Re.nullable, Bool.and_eq_false_iff] at hn
    rcases hn with ha | hb
    · exact Nat.lt_of_le_of_lt (ms_le b _ _ hx) (iha ha _ _ hm)
    · exact Nat.lt_of_lt_of_le (ihb hb _ _ hx) (ms_le a _ _ hm)
  | alt a b iha ihb =>
    intro hn st st' h
    simp only [Re.nullable, Bool.or_eq_false_iff] at hn
    exact (mem_ms_alt.mp h).elim (iha hn.1 _ _) (ihb hn.2 _ _)
  | rep lo hi g r ih =>
    intro hn st st' h
    simp only [Re.nullable, Bool.or_eq_false_iff, beq_eq_false_iff_ne] at hn
    exact repMs_lt _ (ih hn.2) g _ _ hn.1 _ _ _ h
  | group i r ih =>
    intro hn st st' h
    obtain ⟨m, hm, rfl⟩ := mem_ms_group.mp h
    exact ih hn st m hm
  | ifGroup i y n ihy ihn =>
    intro hn st st' h
    simp only [Re.nullable, Bool.or_eq_false_iff] at hn
    simp only [Re.ms] at h
    split at h
    · exact ihy hn.1 _ _ h
    · exact ihn hn.2 _ _ h
  | _ =>
    -- `eps` and the zero-width tests are nullable
    intro hn
    simp [Re.nullable] at hn

/-- with a body that consumes on every iteration, any two budgets larger than the remaining text give the same result -/
theorem repMs_fuel (body : St → List St) (hb : ∀ st st', st' ∈ body st → st'.rest.length < st.rest.length) (g : Bool) :
    ∀ (f f' lo : Nat) (hi : Option Nat) (st : St), st.rest.length < f → st.rest.length < f' →
      repMs body lo hi g f st = repMs body lo hi g f' st := by
  intro f
  induction f with
  | zero => intro f' lo hi st h; exact absurd h (Nat.not_lt_zero _)
  | succ n ih =>
    intro f' lo hi st h h'
    obtain ⟨n', rfl⟩ : ∃ n', f' = n' + 1 := ⟨f' - 1, by omega⟩
    have hm : (body st).flatMap (fun s1 => repMs body (lo - 1) (decHi hi) g n s1)
        = (body st).flatMap (fun s1 => repMs body (lo - 1) (decHi hi) g n' s1) := by
      apply flatMap_congr_of_mem
      intro s1 hs1
      have := hb _ _ hs1
      exact ih n' _ _ s1 (by omega) (by omega)
    simp only [repMs, hm]

/-- **the fuel never truncates**: a repetition of a body that cannot match the empty string computes the same matches
on any budget larger than the remaining text (the engine uses `remaining + 1`) -/
theorem rep_fuel_irrelevant (lo : Nat) (hi : Option Nat) (g : Bool) (r : Re) (hn : r.nullable = false) (st : St) (f : Nat)
    (hf : st.rest.length < f) :
    (Re.rep lo hi g r).ms st = repMs (fun st' => r.ms st') lo hi g f st := by
  simp only [Re.ms]
  exact repMs_fuel _ (ms_lt r hn) g _ _ _ _ _ (Nat.lt_succ_self _) hf

/-! non-vacuity of the hypotheses above (tests, `decide` / `rfl`) -/

-- `ms_le` / `ms_lt`: `\d+` on "12x" has the ways "12", "1", each leaving a strictly shorter rest
example : ((Re.rep 1 none true (.cls false [.digit])).ms (St.init [49, 50, 120])).map (·.rest) = [[120], [50, 120]] := by decide
example : (Re.rep 1 none true (.cls false [.digit])).nullable = false := rfl
-- `rep_fuel_irrelevant` instantiated: `\d+` on any state, budget = remaining + 5
example (st : St) :
    (Re.rep 1 none true (.cls false [.digit])).ms st
      = repMs (fun st' => (Re.cls false [.digit]).ms st') 1 none true (st.rest.length + 5) st :=
  rep_fuel_irrelevant 1 none true _ rfl st _ (by omega)
-- `matchPrefix_mem`: a successful match exists
example : (Re.rep 1 none true (.cls false [.digit])).matchPrefix [49, 50, 120] ≠ none := by decide

end QcelVerif.Regex
