import QcelVerif.Lemmas.C07ReSimpleNuc
import QcelVerif.Lemmas.C07ReChgmult
/-!
C07 — atom lines, generic in the nucleus pattern: for a nucleus AST `N` whose extent at the start of a line is the hand predicate `P`
(`NucExtFor N P`), the line pattern `\A (N) SEP (NUMBER) SEP (NUMBER) SEP (NUMBER) \Z` matched by the engine, read through the
groups nucleus / x / y / z, equals M1's view: the line splits at separator runs into exactly four fields, the first accepted by `P`,
the others by `isNumber`.
-/
namespace QcelVerif.MolText
open QcelVerif.Regex QcelVerif.Gen

/-- M1's atom-line recogniser with the nucleus predicate as a parameter -/
def lineHand (P : Str → Bool) (s : Str) : Option (Str × Str × Str × Str) :=
  match splitSep s with
  | [n, x, y, z] => if P n && isNumber x && isNumber y && isNumber z then some (n, x, y, z) else none
  | _ => none

/-- four fields: the line is field, separator run, field, separator run, field, separator run, field -/
theorem splitSep_four {s n x y z : Str} (h : splitSep s = [n, x, y, z]) :
    ∃ sp1 sp2 sp3, s = n ++ sp1 ++ (x ++ sp2 ++ (y ++ sp3 ++ z)) ∧ SepOk sp1 ∧ SepOk sp2 ∧ SepOk sp3 := by
  obtain ⟨ps, hs, hmap, _, hps⟩ := splitSep_inv _ s n h
  match ps, hmap with
  | [(sp1, _), (sp2, _), (sp3, _)], rfl =>
    exact ⟨sp1, sp2, sp3, by simpa [joinR, List.append_assoc] using hs, (hps (sp1, x) (by simp)).1,
      (hps (sp2, y) (by simp)).1, (hps (sp3, z) (by simp)).1⟩

theorem splitSep_of_four {n x y z sp1 sp2 sp3 : Str} (hn : TokOk n) (hx : TokOk x) (hy : TokOk y) (hz : TokOk z)
    (h1 : SepOk sp1) (h2 : SepOk sp2) (h3 : SepOk sp3) :
    splitSep (n ++ sp1 ++ (x ++ sp2 ++ (y ++ sp3 ++ z))) = [n, x, y, z] := by
  have := tokens_roundtrip n [(sp1, x), (sp2, y), (sp3, z)] hn (by
    intro p hp
    simp only [List.mem_cons, List.not_mem_nil, or_false] at hp
    rcases hp with rfl | rfl | rfl
    · exact ⟨h1, hx⟩
    · exact ⟨h2, hy⟩
    · exact ⟨h3, hz⟩)
  simpa [joinToks] using this

theorem isNumber_tokOk {t : Str} (h : isNumber t = true) : TokOk t := ⟨isNumber_ne_nil h, isNumber_no_sep h⟩

theorem lineHand_some (P : Str → Bool) {s n x y z : Str} (hs : splitSep s = [n, x, y, z]) (hn : P n = true)
    (hx : isNumber x = true) (hy : isNumber y = true) (hz : isNumber z = true) : lineHand P s = some (n, x, y, z) := by
  simp [lineHand, hs, hn, hx, hy, hz]

theorem lineHand_inv (P : Str → Bool) {s : Str} {v : Str × Str × Str × Str} (h : lineHand P s = some v) :
    splitSep s = [v.1, v.2.1, v.2.2.1, v.2.2.2] ∧ P v.1 = true ∧ isNumber v.2.1 = true ∧ isNumber v.2.2.1 = true ∧
      isNumber v.2.2.2 = true := by
  unfold lineHand at h
  split at h
  · rename_i n x y z hs
    split at h
    · rename_i hc
      simp only [Bool.and_eq_true] at hc
      injection h with h
      subst h
      exact ⟨hs, hc.1.1.1, hc.1.1.2, hc.1.2, hc.2⟩
    · simp at h
  · simp at h

/-- the group numbers of the coordinates are apart from each other and from the nucleus group 1 -/
def GroupsApart (gx gy gz : Nat) : Prop :=
  (gy == gz) = false ∧ (gy == gz + 1) = false ∧ (gx == gz) = false ∧ (gx == gz + 1) = false ∧ (gx == gy) = false ∧
  (gx == gy + 1) = false ∧ (1 == gz) = false ∧ (1 == gz + 1) = false ∧ (1 == gy) = false ∧ (1 == gy + 1) = false ∧
  (1 == gx) = false ∧ (1 == gx + 1) = false

/-- SEP `(?P<g>(NUMBER))`, then `K` -/
def DSepNum (g : Nat) (K : OLang Caps) : OLang Caps :=
  DSeq (DKeep SepOk) (DSeq (DCap g (DCap (g + 1) (DKeep fun t => isNumber t = true))) K)

theorem cext_sepNum (g : Nat) {K : Re} {DK : OLang Caps} (hK : CExt K DK) :
    CExt (.seq sepPlus (.seq (.group g (.group (g + 1) numberBodyI)) K)) (DSepNum g DK) :=
  .seq (.ofExt (Ext.plus cls_sep)) (.seq (CExt.group g (CExt.group (g + 1) (.ofExt numberBodyI_lang))) hK)

theorem DSepNum_iff (g : Nat) (K : OLang Caps) (c : Caps) (t r : Str) (c' : Caps) : DSepNum g K c t r c' ↔
    ∃ sp x w, t = sp ++ (x ++ w) ∧ SepOk sp ∧ isNumber x = true ∧ K ((g, toBytes x) :: (g + 1, toBytes x) :: c) w r c' := by
  simp only [DSepNum, DSeq, DCap, DGroup, DKeep]
  constructor
  · rintro ⟨sp, _, _, rfl, ⟨hsp, rfl⟩, x, w, _, rfl, ⟨_, ⟨_, ⟨hx, rfl⟩, rfl⟩, rfl⟩, hK⟩
    exact ⟨sp, x, w, rfl, hsp, hx, hK⟩
  · rintro ⟨sp, x, w, rfl, hsp, hx, hK⟩
    exact ⟨sp, _, _, rfl, ⟨hsp, rfl⟩, x, w, _, rfl, ⟨_, ⟨_, ⟨hx, rfl⟩, rfl⟩, rfl⟩, hK⟩

theorem cext_cartTail (gx gy gz : Nat) : CExt (cartTail gx gy gz) (DSepNum gx (DSepNum gy (DSepNum gz DEos))) :=
  cext_sepNum gx (cext_sepNum gy (cext_sepNum gz .eos))

theorem atomLine_eq (N : Re) (P : Str → Bool) (gx gy gz : Nat) (hN : NucExtFor N P)
    (hPsep : ∀ t, P t = true → ∀ c ∈ t, isSep c = false) (hPne : ∀ t, P t = true → t ≠ [])
    (hg : GroupsApart gx gy gz) (s : Str) :
    ((atomLineRe N gx gy gz).matchPrefix (toBytes s)).bind (fun st => atomGroups st 1 gx gy gz) = lineHand P s := by
  have hmem : ∀ w, w ∈ (atomLineRe N gx gy gz).ms (St.init (toBytes s)) ↔
      ∃ m, m ∈ (Re.group 1 N).ms (St.init (toBytes s)) ∧ w ∈ (cartTail gx gy gz).ms m := by
    intro w
    unfold atomLineRe
    rw [mem_ms_seq]
    simp only [mem_ms_bos]
    constructor
    · rintro ⟨m0, ⟨_, rfl⟩, hw⟩; exact mem_ms_seq.mp hw
    · rintro ⟨m, hm, hw⟩; exact ⟨_, ⟨rfl, rfl⟩, mem_ms_seq.mpr ⟨m, hm, hw⟩⟩
  refine matchPrefix_bind_eq (fun w hw => ?_) fun hne => ?_
  · obtain ⟨m, hm, hw⟩ := (hmem w).mp hw
    obtain ⟨t, r, hs, hP, hr, hg1⟩ := (hN s).1 m hm
    obtain ⟨_, _, rfl, hD, _⟩ := (cext_cartTail gx gy gz r m hr).1 w hw
    simp only [DSepNum_iff, DEos] at hD
    obtain ⟨sp1, x, _, rfl, h1, hx, sp2, y, _, rfl, h2, hy, sp3, z, _, rfl, h3, hz, rfl, rfl, hc⟩ := hD
    have hsplit : splitSep s = [t, x, y, z] := by
      have := splitSep_of_four (n := t) ⟨hPne t hP, hPsep t hP⟩ (isNumber_tokOk hx) (isNumber_tokOk hy) (isNumber_tokOk hz) h1 h2 h3
      rw [hs]
      simpa [List.append_assoc] using this
    rw [lineHand_some P hsplit hP hx hy hz]
    obtain ⟨h1, h2, h3, h4, h5, h6, h7, h8, h9, h10, h11, h12⟩ := hg
    have hm' : m.caps.lookup 1 = some (toBytes t) := hg1
    simp only [id] at hc
    simp [atomGroups, grp, St.group, hc, List.lookup, h1, h2, h3, h4, h5, h6, h7, h8, h9, h10, h11, h12, hm', ofBytes_toBytes]
  · obtain ⟨v, hl⟩ := Option.ne_none_iff_exists'.mp hne
    obtain ⟨hs, hP, hx, hy, hz⟩ := lineHand_inv P hl
    obtain ⟨sp1, sp2, sp3, hdec, h1, h2, h3⟩ := splitSep_four hs
    obtain ⟨m, hm, hr⟩ := (hN s).2 v.1 (sp1 ++ (v.2.1 ++ (sp2 ++ (v.2.2.1 ++ (sp3 ++ (v.2.2.2 ++ []))))))
      (by rw [hdec]; simp [List.append_assoc]) hP
    obtain ⟨w, hw, _⟩ := (cext_cartTail gx gy gz _ m hr).2 _ [] _ (List.append_nil _).symm
      ((DSepNum_iff ..).mpr ⟨sp1, v.2.1, _, rfl, h1, hx, (DSepNum_iff ..).mpr ⟨sp2, v.2.2.1, _, rfl, h2, hy,
        (DSepNum_iff ..).mpr ⟨sp3, v.2.2.2, [], rfl, h3, hz, rfl, rfl, rfl⟩⟩⟩)
    exact ⟨w, (hmem w).mpr ⟨m, hm, hw⟩⟩

/-! ## M1's `classify … = .atom` is `lineHand isNucleus` -/

theorem classifyRest_ne_atom (s n : Str) (x y z : NumParts) : classifyRest s ≠ .atom n x y z := by
  intro h
  cases classifyRest_case h

theorem classify_atom_iff (s n : Str) (px py pz : NumParts) :
    classify s = .atom n px py pz ↔
      s ≠ [] ∧ ∃ x y z, splitSep s = [n, x, y, z] ∧ (parseNucleus n).isSome = true ∧ parseNumber x = some px ∧
        parseNumber y = some py ∧ parseNumber z = some pz := by
  unfold classify
  by_cases hs : s = []
  · subst hs; simp
  · have hse : s.isEmpty = false := by simpa [List.isEmpty_iff] using hs
    simp only [hse, Bool.false_eq_true, if_false, ne_eq, hs, not_false_eq_true, true_and]
    generalize splitSep s = T
    rcases T with _ | ⟨a, _ | ⟨b, _ | ⟨c, _ | ⟨d, _ | ⟨e, T⟩⟩⟩⟩⟩
    · simp [classifyRest_ne_atom]
    · simp [classifyRest_ne_atom]
    · simp only [List.cons.injEq, reduceCtorEq, and_false, false_and, exists_false, iff_false]
      split
      · split <;> simp [classifyRest_ne_atom]
      · simp [classifyRest_ne_atom]
    · simp [classifyRest_ne_atom]
    · simp only [List.cons.injEq, and_true]
      split
      · rename_i v qx qy qz h1 h2 h3 h4
        simp only [Line.atom.injEq]
        constructor
        · rintro ⟨rfl, rfl, rfl, rfl⟩
          exact ⟨b, c, d, ⟨rfl, rfl, rfl, rfl⟩, by simp [h1], h2, h3, h4⟩
        · rintro ⟨x, y, z, ⟨rfl, rfl, rfl, rfl⟩, _, e2, e3, e4⟩
          exact ⟨rfl, Option.some.inj (h2.symm.trans e2), Option.some.inj (h3.symm.trans e3), Option.some.inj (h4.symm.trans e4)⟩
      · rename_i hno
        simp only [classifyRest_ne_atom, false_iff]
        rintro ⟨x, y, z, ⟨rfl, rfl, rfl, rfl⟩, e1, e2, e3, e4⟩
        obtain ⟨v, hv⟩ := Option.isSome_iff_exists.mp e1
        exact hno v _ _ _ hv e2 e3 e4
    · simp [classifyRest_ne_atom]

theorem splitSep_nil_ne_four (n x y z : Str) : splitSep [] ≠ [n, x, y, z] := by simp [splitSep]

theorem atomHand_eq_lineHand (s : Str) : atomHand s = lineHand (fun n => isNucleus n) s := by
  cases hl : lineHand (fun n => isNucleus n) s with
  | some v =>
    obtain ⟨hs, hP, hx, hy, hz⟩ := lineHand_inv _ hl
    have hne : s ≠ [] := by
      intro h0; subst h0; exact splitSep_nil_ne_four _ _ _ _ hs
    simp only [isNumber, isNucleus] at hP hx hy hz
    obtain ⟨px, hpx⟩ := Option.isSome_iff_exists.mp hx
    obtain ⟨py, hpy⟩ := Option.isSome_iff_exists.mp hy
    obtain ⟨pz, hpz⟩ := Option.isSome_iff_exists.mp hz
    have hcl := (classify_atom_iff s v.1 px py pz).mpr ⟨hne, v.2.1, v.2.2.1, v.2.2.2, hs, hP, hpx, hpy, hpz⟩
    simp [atomHand, hcl, hs]
  | none =>
    unfold atomHand
    split
    · rename_i n a b c w x y z hcl hsp
      exfalso
      obtain ⟨_, x', y', z', hs, hP, hpx, hpy, hpz⟩ := (classify_atom_iff s n a b c).mp hcl
      have := lineHand_some (fun n => isNucleus n) hs (by simpa [isNucleus] using hP) (by simp [isNumber, hpx]) (by simp [isNumber, hpy])
        (by simp [isNumber, hpz])
      rw [hl] at this
      cases this
    · rfl

theorem groupsApart_atom : GroupsApart 16 18 20 := by unfold GroupsApart; decide
theorem groupsApart_strict : GroupsApart 5 7 9 := by unfold GroupsApart; decide

theorem atom_eq_regex (s : Str) : atomRe s = atomHand s := by
  rw [atomHand_eq_lineHand]
  unfold atomRe
  rw [atomCartesian_shape]
  exact atomLine_eq nucLine (fun t => isNucleus t) 16 18 20 nucLine_ext (fun _ => isNucleus_no_sep) (fun _ => isNucleus_ne_nil)
    groupsApart_atom s

theorem atomStrictHand_eq_lineHand (s : Str) :
    atomStrictHand s = lineHand isSimpleNucleus s := by
  unfold atomStrictHand
  rw [atomHand_eq_lineHand]
  cases hl : lineHand (fun n => isNucleus n) s with
  | none =>
    cases hl2 : lineHand isSimpleNucleus s with
    | none => rfl
    | some v =>
      exfalso
      obtain ⟨hs, hP, hx, hy, hz⟩ := lineHand_inv _ hl2
      have := lineHand_some (fun n => isNucleus n) hs (simple_isNucleus hP) hx hy hz
      rw [hl] at this; cases this
  | some v =>
    obtain ⟨hs, hP, hx, hy, hz⟩ := lineHand_inv _ hl
    obtain ⟨n, x, y, z⟩ := v
    by_cases hsn : isSimpleNucleus n = true
    · simp only [hsn, if_true]
      exact (lineHand_some isSimpleNucleus hs hsn hx hy hz).symm
    · simp only [hsn]
      simp [lineHand, hs, hsn]

theorem atomStrict_eq_regex (s : Str) : atomStrictRe s = atomStrictHand s := by
  rw [atomStrictHand_eq_lineHand]
  unfold atomStrictRe
  rw [atomCartesianStrict_shape]
  exact atomLine_eq simpleNuc isSimpleNucleus 5 7 9 simpleNuc_ext (fun _ => isSimpleNucleus_no_sep) (fun _ => isSimpleNucleus_ne_nil)
    groupsApart_strict s

end QcelVerif.MolText
