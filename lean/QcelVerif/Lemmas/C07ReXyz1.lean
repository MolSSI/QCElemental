import QcelVerif.Lemmas.C07ReKeywords
import QcelVerif.Lemmas.C07ReCaps
/-! xyz1 = `\A(?P<nat>\d+)[\s,]*((?P<ubohr>(bohr|au))|(?P<uang>ang))?\Z` under IGNORECASE, read as `process_bohrang` reads it,
= the hand recogniser `matchXyz1`, for every string -/
namespace QcelVerif.MolText
open QcelVerif.Regex QcelVerif.Gen

/-- every character from `A` (65) upwards — not only the upper-case letters — is neither a `[\s,]` character nor a digit -/
theorem upper_not_wsComma_digit (c : Char) (h : 65 ≤ c.toNat) : isWsComma c = false ∧ c.isDigit = false := by
  rw [← cls_wsComma, ← cls_digit]
  simp only [clsMem, Item.mem, isSpaceC, isDigitC, List.any_cons, List.any_nil, Bool.or_false]
  constructor
  · simp; omega
  · simp; omega

theorem letter_not_wsComma_digit (c : Char) (k : Nat) (hk : 97 ≤ k) (h : c.toLower.toNat = k) :
    isWsComma c = false ∧ c.isDigit = false := by
  apply upper_not_wsComma_digit
  rw [toLower_nat] at h
  split at h <;> omega

theorem wsComma_not_digit (c : Char) (h : isWsComma c = true) : c.isDigit = false := by
  rw [← cls_wsComma] at h
  rw [← cls_digit]
  simp only [clsMem, Item.mem, isSpaceC, isDigitC, List.any_cons, List.any_nil, Bool.or_false] at h ⊢
  simp at h ⊢
  omega

/-! The unit words as lists of characters (why: see the keywords in `C07ReLines`). -/
theorem bohr_toList : "bohr".toList = ['b', 'o', 'h', 'r'] := by decide
theorem au_toList : "au".toList = ['a', 'u'] := by decide
theorem ang_toList : "ang".toList = ['a', 'n', 'g'] := by decide
theorem angstrom_toList : "angstrom".toList = ['a', 'n', 'g', 's', 't', 'r', 'o', 'm'] := by decide

theorem ext_wordBohr : Ext wordBohr (fun t => lowerS t = ['b', 'o', 'h', 'r']) :=
  Kw.ext_word ['b', 'o', 'h'] 'r' (by decide) (by decide)
theorem ext_wordAu : Ext wordAu (fun t => lowerS t = ['a', 'u']) :=
  Kw.ext_word ['a'] 'u' (by decide) (by decide)
theorem ext_wordAng : Ext wordAng (fun t => lowerS t = ['a', 'n', 'g']) :=
  Kw.ext_word ['a', 'n'] 'g' (by decide) (by decide)

/-! ## the optional unit followed by `\Z` -/

/-- what `matchXyz1` answers on the text after the `[\s,]` run -/
def unitHand (U : Str) : Option (Option Bool) :=
  if (lowerS U).isEmpty then some none
  else if lowerS U == ['b', 'o', 'h', 'r'] || lowerS U == ['a', 'u'] then some (some true)
  else if lowerS U == ['a', 'n', 'g'] then some (some false)
  else none

theorem matchXyz1_eq (s : Str) : matchXyz1 s =
    if (s.takeWhile Char.isDigit).isEmpty then none else unitHand ((s.dropWhile Char.isDigit).dropWhile isWsComma) := by
  unfold matchXyz1
  rw [bohr_toList, au_toList, ang_toList]
  rfl

theorem unitHand_ne_none {U : Str} (h : unitHand U ≠ none) :
    U = [] ∨ lowerS U = ['b', 'o', 'h', 'r'] ∨ lowerS U = ['a', 'u'] ∨ lowerS U = ['a', 'n', 'g'] := by
  unfold unitHand at h
  split at h
  · rename_i h0
    exact Or.inl (lowerS_eq_nil.mp (List.isEmpty_iff.mp h0))
  · split at h
    · rename_i h1
      rcases Bool.or_eq_true_iff.mp h1 with h1 | h1
      · exact Or.inr (Or.inl (beq_iff_eq.mp h1))
      · exact Or.inr (Or.inr (Or.inl (beq_iff_eq.mp h1)))
    · split at h
      · rename_i h2
        exact Or.inr (Or.inr (Or.inr (beq_iff_eq.mp h2)))
      · exact absurd rfl h

/-- a text that lower-cases to a word starting with a letter does not start with a digit or a `[\s,]` character -/
theorem lowerS_head {U w : Str} {k : Char} (h : lowerS U = k :: w) (hk : 97 ≤ k.toNat) :
    ∀ c ∈ U.head?, isWsComma c = false ∧ c.isDigit = false := by
  obtain ⟨C, T, rfl, hC, _⟩ := lowerS_eq_cons.mp h
  rintro c ⟨⟩
  exact letter_not_wsComma_digit _ k.toNat hk (by rw [hC])

/-- the hand recogniser on a text cut at the two maximal runs -/
theorem matchXyz1_split (A W U : Str) (hA : LPlus Char.isDigit A) (hW : LStar isWsComma W)
    (hU : ∀ c ∈ U.head?, isWsComma c = false ∧ c.isDigit = false) : matchXyz1 (A ++ (W ++ U)) = unitHand U := by
  have h1 := span_append (p := Char.isDigit) (r := W ++ U) hA.2 (by
    intro c h
    cases W with
    | nil => exact (hU c h).2
    | cons d W' =>
      obtain rfl : d = c := by simpa using h
      exact wsComma_not_digit _ (hW _ (by simp)))
  have h2 := span_append hW fun c h => (hU c h).1
  rw [matchXyz1_eq, h1.1, h1.2, h2.2, if_neg (by simpa [List.isEmpty_iff] using hA.1)]

def LBohr (t : Str) : Prop := lowerS t = ['b', 'o', 'h', 'r']
def LAu (t : Str) : Prop := lowerS t = ['a', 'u']
def LAng (t : Str) : Prop := lowerS t = ['a', 'n', 'g']

/-- `(?P<nat>\d+) [\s,]* ((?P<ubohr>(bohr|au))|(?P<uang>ang))? \Z` -/
def DXyz1 : OLang Caps :=
  DSeq (DCap 1 (DKeep (LPlus Char.isDigit))) (DSeq (DKeep (LStar isWsComma))
    (DSeq (DOpt (DCap 2 (DAlt (DCap 3 (DCap 4 (DAlt (DKeep LBohr) (DKeep LAu)))) (DCap 5 (DKeep LAng))))) DEos))

theorem cext_xyz1 : CExt (.seq (.group 1 digits1) (.seq wsComma0 (.seq xyz1Unit .eos))) DXyz1 :=
  .seq (CExt.group 1 (.ofExt (Ext.plus cls_digit))) (.seq (.ofExt (Ext.star cls_wsComma))
    (.seq (.opt (CExt.group 2 (.alt (CExt.group 3 (CExt.group 4 (.alt (.ofExt ext_wordBohr) (.ofExt ext_wordAu))))
      (CExt.group 5 (.ofExt ext_wordAng))))) .eos))

theorem DXyz1_iff (t r : Str) (c' : Caps) : DXyz1 [] t r c' ↔
    ∃ A W U, t = A ++ (W ++ U) ∧ r = [] ∧ LPlus Char.isDigit A ∧ LStar isWsComma W ∧
      (((LBohr U ∨ LAu U) ∧ c' = [(2, toBytes U), (3, toBytes U), (4, toBytes U), (1, toBytes A)]) ∨
        (LAng U ∧ c' = [(2, toBytes U), (5, toBytes U), (1, toBytes A)]) ∨ (U = [] ∧ c' = [(1, toBytes A)])) := by
  simp only [DXyz1, DSeq, DCap, DGroup, DKeep, DOpt, DAlt, DEos]
  constructor
  · rintro ⟨A, _, _, rfl, ⟨_, ⟨hA, rfl⟩, rfl⟩, W, _, _, rfl, ⟨hW, rfl⟩, U, _, _, rfl, hU, rfl, rfl, rfl⟩
    refine ⟨A, W, U, by simp, rfl, hA, hW, ?_⟩
    rcases hU with ⟨_, (⟨_, ⟨_, (⟨h, rfl⟩ | ⟨h, rfl⟩), rfl⟩, rfl⟩ | ⟨_, ⟨h, rfl⟩, rfl⟩), rfl⟩ | ⟨rfl, rfl⟩
    · exact Or.inl ⟨Or.inl h, rfl⟩
    · exact Or.inl ⟨Or.inr h, rfl⟩
    · exact Or.inr (Or.inl ⟨h, rfl⟩)
    · exact Or.inr (Or.inr ⟨rfl, rfl⟩)
  · rintro ⟨A, W, U, rfl, rfl, hA, hW, hU⟩
    refine ⟨A, _, _, rfl, ⟨_, ⟨hA, rfl⟩, rfl⟩, W, _, _, rfl, ⟨hW, rfl⟩, U, [], _, by simp, ?_, rfl, rfl, rfl⟩
    rcases hU with ⟨h | h, rfl⟩ | ⟨h, rfl⟩ | ⟨rfl, rfl⟩
    · exact Or.inl ⟨_, Or.inl ⟨_, ⟨_, Or.inl ⟨h, rfl⟩, rfl⟩, rfl⟩, rfl⟩
    · exact Or.inl ⟨_, Or.inl ⟨_, ⟨_, Or.inr ⟨h, rfl⟩, rfl⟩, rfl⟩, rfl⟩
    · exact Or.inl ⟨_, Or.inr ⟨_, ⟨h, rfl⟩, rfl⟩, rfl⟩
    · exact Or.inr ⟨rfl, rfl⟩

/-- what `process_bohrang` reads off the captures -/
def unitOfCaps (c : Caps) : Option Bool :=
  if truthy ⟨none, [], c⟩ 5 then some false else if truthy ⟨none, [], c⟩ 3 then some true else none

/-- **xyz1**: the count line with an optional unit word, by the generic engine on the generated AST and read through the named
groups as `process_bohrang` reads them, is the hand recogniser `matchXyz1` -/
theorem xyz1_eq_regex (s : Str) : xyz1Re s = xyz1Hand s := by
  unfold xyz1Re xyz1Hand
  rw [Option.map_eq_bind, xyz1_shape]
  refine cext_xyz1.match_bos s (g := fun c => some (unitOfCaps c)) (fun t r c hs hD => ?_) fun hne => ?_
  · obtain ⟨A, W, U, rfl, rfl, hA, hW, hU⟩ := (DXyz1_iff ..).mp hD
    rw [List.append_nil] at hs
    subst hs
    -- a unit word starts with a letter, so it stops both runs; a letter is not the empty text, so the group is truthy
    have word : ∀ {w : Str} {k : Char}, lowerS U = k :: w → 97 ≤ k.toNat → ∀ b, unitHand U = some (some b) →
        ∀ c, (∀ C T, U = C :: T → unitOfCaps c = some b) → matchXyz1 (A ++ (W ++ U)) = some (unitOfCaps c) := by
      intro w k hl hk b hb c hc
      obtain ⟨C, T, rfl, _, _⟩ := lowerS_eq_cons.mp hl
      rw [matchXyz1_split A W _ hA hW (lowerS_head hl hk), hb, hc C T rfl]
    rcases hU with ⟨h | h, rfl⟩ | ⟨h, rfl⟩ | ⟨rfl, rfl⟩
    · exact (word h (by decide) true (by rw [unitHand, h]; rfl) _ fun C T e => by subst e; rfl).symm
    · exact (word h (by decide) true (by rw [unitHand, h]; rfl) _ fun C T e => by subst e; rfl).symm
    · exact (word h (by decide) false (by rw [unitHand, h]; rfl) _ fun C T e => by subst e; rfl).symm
    · rw [matchXyz1_split A W [] hA hW (by simp)]; rfl
  · rw [matchXyz1_eq] at hne
    split at hne
    · exact absurd rfl hne
    · rename_i hA
      have mk : ∀ c, _ → ∃ t r c, s = t ++ r ∧ DXyz1 [] t r c := fun c h =>
        ⟨s, [], c, by simp, (DXyz1_iff ..).mpr ⟨s.takeWhile Char.isDigit, (s.dropWhile Char.isDigit).takeWhile isWsComma,
          (s.dropWhile Char.isDigit).dropWhile isWsComma, by rw [List.takeWhile_append_dropWhile, List.takeWhile_append_dropWhile],
          rfl, ⟨by simpa [List.isEmpty_iff] using hA, all_tw _ _⟩, all_tw _ _, h⟩⟩
      rcases unitHand_ne_none hne with h | h | h | h
      · exact mk _ (Or.inr (Or.inr ⟨h, rfl⟩))
      · exact mk _ (Or.inl ⟨Or.inl h, rfl⟩)
      · exact mk _ (Or.inl ⟨Or.inr h, rfl⟩)
      · exact mk _ (Or.inr (Or.inl ⟨h, rfl⟩))

end QcelVerif.MolText
