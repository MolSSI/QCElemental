import QcelVerif.Lemmas.RegexEngine
import QcelVerif.Model.RegexOps
/-!
Reusable facts about the generic regex engine, on top of `Lemmas/RegexEngine.lean`: membership for a greedy repetition of a
one-character class and for `r?`; the first way such a repetition matches is the longest run; a pattern that starts with `\A`;
the scan of `Model/RegexOps.lean` (`re.sub` / `re.split`) one step at a time.
-/
namespace QcelVerif.Regex

/-! ## membership -/

theorem ms_opt (r : Re) (st : St) : (Re.rep 0 (some 1) true r).ms st = r.ms st ++ [st] := by
  have h := bind_opt r st (fun x => [x])
  simpa [bindMs] using h

theorem mem_ms_opt {r : Re} {st x : St} : x ∈ (Re.rep 0 (some 1) true r).ms st ↔ x ∈ r.ms st ∨ x = st := by
  rw [ms_opt]; simp

/-! ## greedy repetition of a one-character class -/

/-- a run of `n + 1` characters fits the upper bound iff the bound is not used up and `n` fit the decremented one -/
theorem decHi_bound (hi : Option Nat) (n : Nat) :
    (hi ≠ some 0 ∧ ∀ h, decHi hi = some h → n ≤ h) ↔ ∀ h, hi = some h → n + 1 ≤ h := by
  cases hi with
  | none => simp [decHi]
  | some m => simp only [decHi, ne_eq, Option.some.injEq, forall_eq']; omega

/-- the splits explored by `[class]{lo,hi}`: a run of class characters of admissible length, and what follows -/
theorem mem_classRuns (p : Nat → Bool) : ∀ (s : List Nat) (lo : Nat) (hi : Option Nat) (f : Nat), s.length < f →
    ∀ x : List Nat × List Nat, x ∈ classRuns p lo hi f s ↔
      (s = x.1 ++ x.2 ∧ (∀ c ∈ x.1, p c = true) ∧ lo ≤ x.1.length ∧ ∀ h, hi = some h → x.1.length ≤ h) := by
  intro s
  induction s with
  | nil =>
    intro lo hi f hf ⟨a, b⟩
    obtain ⟨f, rfl⟩ : ∃ f', f = f' + 1 := ⟨f - 1, by omega⟩
    simp only [classRuns, ite_self, List.nil_append, List.mem_ite_nil_right, List.mem_singleton, Prod.mk.injEq]
    constructor
    · rintro ⟨rfl, rfl, rfl⟩
      simp
    · rintro ⟨h1, _, h3, _⟩
      obtain ⟨rfl, rfl⟩ := List.append_eq_nil_iff.mp h1.symm
      exact ⟨Nat.le_zero.mp h3, rfl, rfl⟩
  | cons c t ih =>
    intro lo hi f hf ⟨a, b⟩
    obtain ⟨f, rfl⟩ : ∃ f', f = f' + 1 := ⟨f - 1, by omega⟩
    have hf' : t.length < f := by simp at hf; omega
    simp only [classRuns, List.mem_append, List.mem_ite_nil_right, List.mem_ite_nil_left, List.mem_singleton, Prod.mk.injEq,
      List.mem_map, ih _ _ f hf']
    cases a with
    | nil =>
      -- the empty run is the `stop` alternative
      simp only [Nat.sub_le_iff_le_add, reduceCtorEq, false_and, and_false, exists_const, true_and, false_or,
        List.nil_append, List.not_mem_nil, false_implies, implies_true, List.length_nil, Nat.le_zero_eq, Nat.zero_le,
        and_true]
      exact ⟨fun ⟨h1, h2⟩ => ⟨h2.symm, h1⟩, fun ⟨h1, h2⟩ => ⟨h2, h1.symm⟩⟩
    | cons d a' =>
      -- a run through `c` goes on with a run of `t`
      simp only [Nat.sub_le_iff_le_add, List.cons.injEq, Prod.exists, exists_eq_right_right, reduceCtorEq,
        false_and, and_false, or_false, List.cons_append, List.mem_cons, forall_eq_or_imp, List.length_cons]
      constructor
      · rintro ⟨hh, hp, ⟨rfl, hall, hlo, hb⟩, rfl⟩
        exact ⟨⟨rfl, rfl⟩, ⟨hp, hall⟩, hlo, (decHi_bound hi _).mp ⟨hh, hb⟩⟩
      · rintro ⟨⟨rfl, rfl⟩, ⟨hp, hall⟩, hlo, hb⟩
        obtain ⟨hh, hb'⟩ := (decHi_bound hi _).mpr hb
        exact ⟨hh, hp, ⟨rfl, hall, hlo, hb'⟩, rfl⟩

/-- `[class]{lo,hi}`, greedy: every split of the rest into a run of admissible length inside the class and what follows -/
theorem mem_ms_rep_cls {lo : Nat} {hi : Option Nat} {neg : Bool} {items : List Item} {st x : St} :
    x ∈ (Re.rep lo hi true (.cls neg items)).ms st ↔
      ∃ a r, st.rest = a ++ r ∧ (∀ c ∈ a, clsMem neg items c = true) ∧ lo ≤ a.length ∧ (∀ h, hi = some h → a.length ≤ h) ∧
        x = st.adv a r := by
  rw [ms_rep_cls, List.mem_map]
  constructor
  · rintro ⟨y, hy, rfl⟩
    obtain ⟨h1, h2, h3, h4⟩ := (mem_classRuns _ _ lo hi _ (Nat.lt_succ_self _) y).mp hy
    exact ⟨y.1, y.2, h1, h2, h3, h4, rfl⟩
  · rintro ⟨a, r, h1, h2, h3, h4, rfl⟩
    exact ⟨(a, r), (mem_classRuns _ _ lo hi _ (Nat.lt_succ_self _) (a, r)).mpr ⟨h1, h2, h3, h4⟩, rfl⟩

theorem ms_star_head (neg : Bool) (items : List Item) (st : St) :
    ((Re.rep 0 none true (.cls neg items)).ms st).head?
      = some (st.adv (st.rest.takeWhile (clsMem neg items)) (st.rest.dropWhile (clsMem neg items))) := by
  rw [ms_rep_cls_head, if_pos (Nat.zero_le _)]

theorem ms_plus_head (neg : Bool) (items : List Item) (st : St) :
    ((Re.rep 1 none true (.cls neg items)).ms st).head?
      = if (st.rest.takeWhile (clsMem neg items)).isEmpty then none
        else some (st.adv (st.rest.takeWhile (clsMem neg items)) (st.rest.dropWhile (clsMem neg items))) := by
  rw [ms_rep_cls_head]
  cases st.rest.takeWhile (clsMem neg items) <;> simp

-- projections of `St.adv` / `St.capture` (primed: `Lemmas/NucleusRegex.lean` restates four of them under the unprimed names)
@[simp] theorem adv_rest' (st : St) (x r : List Nat) : (st.adv x r).rest = r := rfl
@[simp] theorem adv_caps' (st : St) (x r : List Nat) : (st.adv x r).caps = st.caps := rfl
@[simp] theorem adv_prev' (st : St) (x r : List Nat) : (st.adv x r).prev = lastOr st.prev x := rfl
@[simp] theorem capture_rest' (i : Nat) (a b : St) : (St.capture i a b).rest = b.rest := rfl
@[simp] theorem capture_prev' (i : Nat) (a b : St) : (St.capture i a b).prev = b.prev := rfl
@[simp] theorem capture_caps' (i : Nat) (a b : St) : (St.capture i a b).caps = (i, takeDiff a.rest b.rest) :: b.caps := rfl

theorem lastOr_append (p : Option Nat) (a b : List Nat) : lastOr p (a ++ b) = lastOr (lastOr p a) b := by
  induction a generalizing p with
  | nil => rfl
  | cons c t ih => simp [lastOr, ih]

theorem adv_adv (st : St) (a r b r' : List Nat) : (st.adv a r).adv b r' = st.adv (a ++ b) r' := by
  simp [St.adv, lastOr_append]

/-! ## a pattern that starts with `\A` -/

theorem bt_bos_some {α} (r : Re) (k : St → Option α) (c : Nat) (s : List Nat) (caps : Caps) :
    (Re.seq .bos r).bt k ⟨some c, s, caps⟩ = none := by
  simp [Re.bt, holdsAt]

theorem searchFrom_bos_some (r : Re) : ∀ (s : List Nat) (pos c : Nat), searchFrom (.seq .bos r) pos (some c) s = none := by
  intro s
  induction s with
  | nil => intro pos c; simp [searchFrom, bt_bos_some]
  | cons d t ih => intro pos c; simp [searchFrom, bt_bos_some, ih]

/-- `re.search` / the scan of `re.sub` with a pattern that starts with `\A` finds a match only at the start: it is `re.match` -/
theorem search_bos (r : Re) (s : List Nat) :
    (Re.seq .bos r).search s = ((Re.seq .bos r).matchPrefix s).map fun st => (0, st) := by
  unfold Re.search Re.matchPrefix St.init
  cases s with
  | nil => simp [searchFrom]
  | cons c t =>
    simp only [searchFrom]
    cases (Re.seq .bos r).bt some ⟨none, c :: t, []⟩ with
    | some st => rfl
    | none => simp [searchFrom_bos_some]

/-! ## the scan of `re.sub` / `re.split`, one step at a time -/

theorem searchFrom_shift (r : Re) : ∀ (s : List Nat) (pos : Nat) (p : Option Nat),
    searchFrom r (pos + 1) p s = (searchFrom r pos p s).map fun x => (x.1 + 1, x.2) := by
  intro s
  induction s with
  | nil => intro pos p; simp only [searchFrom]; cases r.bt some ⟨p, [], []⟩ <;> rfl
  | cons c t ih =>
    intro pos p
    simp only [searchFrom]
    cases r.bt some ⟨p, c :: t, []⟩ with
    | some st => rfl
    | none => exact ih (pos + 1) (some c)

theorem scanFuel_nil (r : Re) (f : Nat) (p : Option Nat) (h : r.bt some ⟨p, [], []⟩ = none) : scanFuel r (f + 1) p [] = some ([], []) := by
  simp [scanFuel, searchFrom, h]

/-- a non-empty match at the cursor: one hit with nothing skipped, then on from its end -/
theorem scanFuel_hit (r : Re) (f : Nat) (p : Option Nat) (c : Nat) (t : List Nat) (st : St)
    (h : r.bt some ⟨p, c :: t, []⟩ = some st) (hlt : st.rest.length < (c :: t).length) :
    scanFuel r (f + 1) p (c :: t) = (scanFuel r f st.prev st.rest).map fun x => (([], st) :: x.1, x.2) := by
  simp only [scanFuel, searchFrom, h, List.drop_zero, hlt, if_true, List.take_zero]
  cases scanFuel r f st.prev st.rest <;> rfl

/-- the fields `re.split` returns -/
def pieces (x : List Hit × List Nat) : List (List Nat) := x.1.map (fun h => h.1) ++ [x.2]

/-- a skipped character joins the text before the next hit, or the tail -/
def prep (c : Nat) (x : List Hit × List Nat) : List Hit × List Nat :=
  match x.1 with
  | [] => ([], c :: x.2)
  | hit :: hits => ((c :: hit.1, hit.2) :: hits, x.2)

theorem split_eq (r : Re) (s : List Nat) : split r s = (scan r s).map pieces := rfl

theorem pieces_exists (x : List Hit × List Nat) : ∃ a r, pieces x = a :: r := by
  obtain ⟨hits, tail⟩ := x
  cases hits with
  | nil => exact ⟨_, _, rfl⟩
  | cons h hs => exact ⟨_, _, rfl⟩

/-- for `re.split`, the skipped character joins the first field -/
theorem pieces_prep (c : Nat) (x : List Hit × List Nat) (a : List Nat) (r : List (List Nat)) (h : pieces x = a :: r) :
    pieces (prep c x) = (c :: a) :: r := by
  obtain ⟨hits, tail⟩ := x
  cases hits with
  | nil =>
    simp only [pieces, List.map_nil, List.nil_append, List.cons.injEq] at h
    simp [pieces, prep, h.1, ← h.2]
  | cons hh hs =>
    simp only [pieces, List.map_cons, List.cons_append, List.cons.injEq] at h
    simp [pieces, prep, h.1, ← h.2]

/-- no match at the cursor: the character is skipped -/
theorem scanFuel_skip (r : Re) (f : Nat) (p : Option Nat) (c : Nat) (t : List Nat) (h : r.bt some ⟨p, c :: t, []⟩ = none) :
    scanFuel r (f + 1) p (c :: t) = (scanFuel r (f + 1) (some c) t).map (prep c) := by
  simp only [scanFuel, searchFrom, h]
  rw [show (0 : Nat) + 1 = 0 + 1 from rfl, searchFrom_shift]
  cases hs : searchFrom r 0 (some c) t with
  | none => simp [prep]
  | some x =>
    obtain ⟨k, st⟩ := x
    simp only [Option.map_some, List.drop_succ_cons, List.take_succ_cons]
    by_cases hlt : st.rest.length < (t.drop k).length
    · simp only [hlt, if_true]
      cases scanFuel r f st.prev st.rest with
      | none => rfl
      | some y => rfl
    · have hlt' : ¬ st.rest.length < t.length - k := by simpa using hlt
      simp [hlt']

end QcelVerif.Regex
