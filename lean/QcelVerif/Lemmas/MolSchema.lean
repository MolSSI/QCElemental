import QcelVerif.Model.MolSchema
/-! Helper lemmas for C09 (b): `np.split` by sorted separators, the fragment pattern it produces. -/
namespace QcelVerif.MolSchema

theorem npSplitAux_flatten {α : Type} (a : List α) : ∀ (seps : List Nat) (start : Nat),
    sortedLe start seps = true → (∀ s ∈ seps, s ≤ a.length) →
    (npSplitAux a start seps).flatten = a.drop start
  | [], start => by intro _ _; simp [npSplitAux]
  | s :: rest, start => by
    intro hs hle
    simp only [sortedLe, Bool.and_eq_true, decide_eq_true_eq] at hs
    have hsl : s ≤ a.length := hle s (List.mem_cons_self ..)
    have ih := npSplitAux_flatten a rest s hs.2 (fun x hx => hle x (List.mem_cons_of_mem _ hx))
    simp only [npSplitAux, List.flatten_cons, ih]
    have h1 : a.drop start = (a.take s ++ a.drop s).drop start := by rw [List.take_append_drop]
    rw [h1, List.drop_append_of_le_length]
    simp [List.length_take]; omega

theorem cumsum_npSplitAux {α : Type} (a : List α) : ∀ (seps : List Nat) (start : Nat),
    sortedLe start seps = true → (∀ s ∈ seps, s ≤ a.length) → start ≤ a.length →
    cumsumFrom start ((npSplitAux a start seps).map List.length) = seps ++ [a.length]
  | [], start => by
    intro _ _ h
    simp [npSplitAux, cumsumFrom]; omega
  | s :: rest, start => by
    intro hs hle hst
    simp only [sortedLe, Bool.and_eq_true, decide_eq_true_eq] at hs
    have hsl : s ≤ a.length := hle s (List.mem_cons_self ..)
    have ih := cumsum_npSplitAux a rest s hs.2 (fun x hx => hle x (List.mem_cons_of_mem _ hx)) hsl
    have hlen : start + ((a.take s).drop start).length = s := by
      simp [List.length_drop, List.length_take]; omega
    simp only [npSplitAux, List.map_cons, cumsumFrom, hlen, ih, List.cons_append]

theorem cumsumFrom_getLast : ∀ (ks : List Nat) (acc k : Nat),
    (cumsumFrom acc (k :: ks)).getLast? = some (acc + (k :: ks).sum)
  | [], acc, k => by simp [cumsumFrom]
  | k' :: ks, acc, k => by
    have ih := cumsumFrom_getLast ks (acc + k) k'
    rw [cumsumFrom, List.getLast?_cons, ih]
    simp [Nat.add_assoc]

theorem npSplitAux_ne_nil {α : Type} (a : List α) (start : Nat) (seps : List Nat) :
    npSplitAux a start seps ≠ [] := by
  cases seps <;> simp [npSplitAux]

/-! sorted integer ranges -/

def irange (s n : Nat) : List Int := (List.range' s n).map Int.ofNat

theorem arange_eq (n : Nat) : arange n = irange 0 n := by
  simp [arange, irange, List.range_eq_range']

theorem irange_succ (s n : Nat) : irange s (n + 1) = (s : Int) :: irange (s + 1) n := by
  simp [irange, List.range'_succ]

theorem sortInts_irange : ∀ (n s : Nat), sortInts (irange s n) = irange s n
  | 0, s => by simp [irange, sortInts]
  | n + 1, s => by
    rw [irange_succ, sortInts, sortInts_irange n (s + 1)]
    cases n with
    | zero => simp [irange, insertSorted]
    | succ m =>
      rw [irange_succ, insertSorted]
      simp
      intro h
      omega

/-- the fragment pattern written by `to_schema` for `n` atoms and separators `seps` -/
def patternOf (n : Nat) (seps : List Nat) : List (List Int) :=
  (npSplit (List.range n) seps).map (·.map Int.ofNat)

/-- the block ends of the written pattern are the separators, then the number of atoms -/
theorem patternOf_cumsum (n : Nat) (seps : List Nat) (hs : sortedLe 0 seps = true) (hle : ∀ s ∈ seps, s ≤ n) :
    cumsumFrom 0 ((patternOf n seps).map List.length) = seps ++ [n] := by
  have := cumsum_npSplitAux (List.range n) seps 0 hs (by simpa using hle) (by simp)
  simpa [patternOf, npSplit, List.map_map, Function.comp_def] using this

theorem patternOf_flatten (n : Nat) (seps : List Nat) (hs : sortedLe 0 seps = true) (hle : ∀ s ∈ seps, s ≤ n) :
    (patternOf n seps).flatten = arange n := by
  have h := npSplitAux_flatten (List.range n) seps 0 hs (by simpa using hle)
  simp only [patternOf, npSplit, arange]
  rw [← List.map_flatten, h]
  simp

theorem contiguize_patternOf {K : Type} (n : Nat) (seps : List Nat) (hs : sortedLe 0 seps = true)
    (hle : ∀ s ∈ seps, s ≤ n) (geom : List K) (hg : geom.length = 3 * n)
    (elea elez : Option (List Int)) (elem : Option (List String)) (mass : Option (List K))
    (real : Option (List Bool)) (elbl : Option (List String))
    (h1 : lenOk n elea = true) (h2 : lenOk n elez = true) (h3 : lenOk n elem = true) (h4 : lenOk n mass = true)
    (h5 : lenOk n real = true) (h6 : lenOk n elbl = true) :
    contiguize (patternOf n seps) geom elea elez elem mass real elbl =
      .ok { seps := seps, geom := geom, elea := elea, elez := elez, elem := elem, mass := mass, real := real, elbl := elbl } := by
  have hcs := patternOf_cumsum n seps hs hle
  have hmod : geom.length % 3 = 0 := by omega
  have hdiv : geom.length / 3 = n := by omega
  unfold contiguize
  simp only [hcs, List.getLast?_append, List.getLast?_singleton, Option.some_or, List.dropLast_concat]
  cases seps with
  | nil =>
    have hp : patternOf n [] = [arange n] := by simp [patternOf, npSplit, npSplitAux, arange]
    simp [hp, hmod, hdiv]
  | cons s rest =>
    have hfl := patternOf_flatten n (s :: rest) hs hle
    obtain ⟨p1, p2, ptl, hp⟩ : ∃ p1 p2 ptl, patternOf n (s :: rest) = p1 :: p2 :: ptl := by
      simp only [patternOf, npSplit, npSplitAux, List.map_cons]
      cases hr : npSplitAux (List.range n) s rest with
      | nil => exact absurd hr (npSplitAux_ne_nil _ _ _)
      | cons q qs => exact ⟨_, _, _, rfl⟩
    rw [hp] at hfl ⊢
    simp only [hfl]
    simp [arange_eq, sortInts_irange, hmod, hdiv, h1, h2, h3, h4, h5, h6]

end QcelVerif.MolSchema
