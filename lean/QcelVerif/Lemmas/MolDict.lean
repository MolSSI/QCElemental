import QcelVerif.Model.MolDict
import QcelVerif.Lemmas.MolSchema
/-!
Helper lemmas for C09 (c) (`Model/MolDict.lean`).

`filteredOf` is the closed form of `_filter_defaults` on a dictionary that has every key it pops (what
`to_schema` writes): `filterDefaults_full`.
-/
namespace QcelVerif.MolDict
open QcelVerif.MolSchema

section
variable {K : Type} [DecidableEq K]

/-- what `_filter_defaults` (molecule.py:1489-1513) leaves of a dictionary that has every key it pops -/
def filteredOf (massOf : String → K) (d : MolDict K) : MolDict K :=
  { d with
    atomicNumbers := none
    massNumbers := if dfltMasses massOf d then none else d.massNumbers
    masses := if dfltMasses massOf d then none else d.masses
    real := if allReal d then none else d.real
    atomLabels := if noLabels d then none else d.atomLabels
    fragments := if oneFragment d then none else d.fragments
    fragCharges := if oneFragment d then none else d.fragCharges
    fragMults := if oneFragment d then none else d.fragMults }

/-- a dictionary with every key `_filter_defaults` reads or pops -/
structure Full (d : MolDict K) : Prop where
  symbols : d.symbols.isSome = true
  atomicNumbers : d.atomicNumbers.isSome = true
  masses : d.masses.isSome = true
  massNumbers : d.massNumbers.isSome = true
  real : d.real.isSome = true
  atomLabels : d.atomLabels.isSome = true
  fragments : d.fragments.isSome = true
  fragCharges : d.fragCharges.isSome = true
  fragMults : d.fragMults.isSome = true

theorem Full.entries {d : MolDict K} (h : Full d) : ∃ sy an ms mn re lb fr fc fm,
    d.symbols = some sy ∧ d.atomicNumbers = some an ∧ d.masses = some ms ∧ d.massNumbers = some mn ∧ d.real = some re ∧
    d.atomLabels = some lb ∧ d.fragments = some fr ∧ d.fragCharges = some fc ∧ d.fragMults = some fm :=
  ⟨_, _, _, _, _, _, _, _, _, Option.eq_some_of_isSome h.symbols, Option.eq_some_of_isSome h.atomicNumbers,
    Option.eq_some_of_isSome h.masses, Option.eq_some_of_isSome h.massNumbers, Option.eq_some_of_isSome h.real,
    Option.eq_some_of_isSome h.atomLabels, Option.eq_some_of_isSome h.fragments, Option.eq_some_of_isSome h.fragCharges,
    Option.eq_some_of_isSome h.fragMults⟩

theorem filterDefaults_full (massOf : String → K) (d : MolDict K) (h : Full d) :
    filterDefaults massOf d = .ok (filteredOf massOf d) := by
  obtain ⟨sy, an, ms, mn, re, lb, fr, fc, fm, h1, h2, h3, h4, h5, h6, h7, h8, h9⟩ := h.entries
  cases d
  simp only at h1 h2 h3 h4 h5 h6 h7 h8 h9
  subst h1 h2 h3 h4 h5 h6 h7 h8 h9
  unfold filterDefaults filteredOf dfltMasses allReal noLabels oneFragment
  simp only [Option.getD_some, Option.some.injEq, decide_eq_true_eq]
  have e1 : (sy.map massOf = ms) = (ms = sy.map massOf) := propext eq_comm
  simp only [e1]
  by_cases c1 : ms = sy.map massOf <;> by_cases c2 : re.all id = true <;>
    by_cases c3 : lb = List.replicate sy.length "" <;> by_cases c4 : fr = [arangeI sy.length] <;>
    simp [c1, c2, c3, c4]

end

/-! ### one entry through `_filter_defaults` and `{**kwargs, **schema}` -/

theorem orElse'_none {α : Type} (a : Option α) : orElse' a none = a := by cases a <;> rfl

/-- The one fact about an entry `_filter_defaults` may drop, after the merge with the caller's keywords: it is the schema's
`x`, or — only where the filter dropped it (`c`) — absent; a caller's own entry can only be `x` again (`optAgree`).  So whatever
is read off it (`g`: an accessor) need only be checked at `some x`, and at `none` when the filter's test holds. -/
theorem merged_entry {α β : Type} [DecidableEq α] {c : Bool} {x : α} {kw : Option α} (g : Option α → β) {y : β}
    (hag : (!c || optAgree kw (some x)) = true) (hsome : g (some x) = y) (hnone : c = true → g none = y) :
    g (orElse' (if c = true then none else some x) kw) = y := by
  cases c with
  | false => exact hsome
  | true =>
    cases kw with
    | none => exact hnone rfl
    | some z =>
      have : x = z := by simpa [optAgree] using hag
      subst this; exact hsome

theorem agreesB_self {K : Type} [DecidableEq K] (massOf : String → K) (d : MolDict K) : agreesB massOf d d = true := by
  have o : ∀ {α : Type} [DecidableEq α] (x : Option α), optAgree x x = true := fun x => by cases x <;> simp [optAgree]
  cases h : d.connectivity <;> simp [agreesB, o, h]

theorem full_molDict {K : Type} [Mul K] [DecidableEq K] (dflt : K) (fg : List String → String) (r : Molrec K) :
    Full (molDict dflt fg r) :=
  ⟨rfl, rfl, rfl, rfl, rfl, rfl, rfl, rfl, rfl⟩

end QcelVerif.MolDict
