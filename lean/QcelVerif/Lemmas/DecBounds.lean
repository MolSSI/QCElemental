import QcelVerif.Lemmas.Dec
import Mathlib.Algebra.Order.Field.Basic
import Mathlib.Algebra.Order.Ring.Rat
import Mathlib.Algebra.Order.Ring.Abs
import Mathlib.Algebra.Field.Rat
import Mathlib.Data.Nat.Log
import Mathlib.Tactic.Linarith
import Mathlib.Tactic.Positivity
import Mathlib.Tactic.Ring
import Mathlib.Tactic.NormNum
import Mathlib.Tactic.FieldSimp
import Mathlib.Algebra.Order.Ring.Pow
/-!
# General error bounds of the `decimal` model (`Model/Dec.lean`), for ALL operands

Helpers for `Props/C02Dec.lean`; no table, no size bound.  `round_rel_err` is the one numeric argument (half a unit
in the 28th digit is at most `5·10⁻²⁸` relative), used by `fix_rel_err` and by `div_inexact`; `sticky_delta` is why
the sticky digit CPython's `__truediv__` plants into an inexact quotient makes the later `_fix` round the *true*
quotient correctly.  `mul_pre`, `add_pre`, `sub_pre` say what each operation hands to `_fix`, `div_spec` is the
complete specification of `div`; `Approx` is the relative-perturbation bookkeeping `x̂ = x·ρ`,
`(1-u)^n ≤ ρ ≤ (1-u)^-n`.
-/
namespace QcelVerif.Dec

/-- unit round-off of the default context: half a unit in the 28th significant digit, `5·10⁻²⁸` -/
def u28 : ℚ := 5 / 10 ^ 28

theorem u28_pos : 0 < u28 := by unfold u28; positivity
theorem u28_lt_one : u28 < 1 := by unfold u28; norm_num

theorem ndigitsAux_eq : ∀ (f n acc : Nat), n < 10 ^ (f + 1) → ndigitsAux f n acc = acc + Nat.log 10 n
  | 0, n, acc, h => by
      have h10 : n < 10 := by simpa using h
      simp [ndigitsAux, Nat.log_of_lt h10]
  | f + 1, n, acc, h => by
      unfold ndigitsAux
      by_cases h10 : n < 10
      · simp [h10, Nat.log_of_lt h10]
      · rw [if_neg h10]
        have hn : n / 10 < 10 ^ (f + 1) := by
          rw [Nat.div_lt_iff_lt_mul (by norm_num)]
          calc n < 10 ^ (f + 1 + 1) := h
            _ = 10 ^ (f + 1) * 10 := by ring
        rw [ndigitsAux_eq f (n / 10) (acc + 1) hn, Nat.log_div_base]
        have : 0 < Nat.log 10 n := Nat.log_pos (by norm_num) (by omega)
        omega

/-- the digit count of the model is `1 + ⌊log₁₀ n⌋` for EVERY natural number (no fuel limit) -/
theorem ndigits_eq (n : Nat) : ndigits n = 1 + Nat.log 10 n := by
  unfold ndigits
  apply ndigitsAux_eq
  calc n < 10 ^ n := Nat.lt_pow_self (by norm_num)
    _ ≤ 10 ^ (n + 1) := Nat.pow_le_pow_right (by norm_num) (Nat.le_succ n)

theorem ndigits_pos (n : Nat) : 1 ≤ ndigits n := by rw [ndigits_eq]; omega

/-- `10^(ndigits n - 1) ≤ n < 10^(ndigits n)` for `n > 0` -/
theorem ndigits_bounds {n : Nat} (h : n ≠ 0) : 10 ^ (ndigits n - 1) ≤ n ∧ n < 10 ^ ndigits n := by
  rw [ndigits_eq, Nat.add_sub_cancel_left, Nat.add_comm]
  exact ⟨Nat.pow_log_le_self 10 h, Nat.lt_pow_succ_log_self (by norm_num) n⟩

/-- `n` has at most `k` digits iff `n < 10^k` (`k ≥ 1`) -/
theorem ndigits_le_iff (n : Nat) {k : Nat} (hk : 1 ≤ k) : ndigits n ≤ k ↔ n < 10 ^ k := by
  by_cases h : n = 0
  · subst h
    exact ⟨fun _ => by positivity, fun _ => hk⟩
  · rw [ndigits_eq, ← Nat.log_lt_iff_lt_pow (by norm_num) h]; omega

def sgn (neg : Bool) : ℚ := if neg then -1 else 1

theorem sgn_abs (neg : Bool) : |sgn neg| = 1 := by cases neg <;> simp [sgn]
theorem sgn_inv (neg : Bool) : (sgn neg)⁻¹ = sgn neg := by cases neg <;> simp [sgn]
theorem sgn_xor (a b : Bool) : sgn (a != b) = sgn a * sgn b := by cases a <;> cases b <;> simp [sgn]
theorem sgn_not (a : Bool) : sgn (!a) = - sgn a := by cases a <;> simp [sgn]

theorem ten_zpow_pos (e : Int) : (0 : ℚ) < (10 : ℚ) ^ e := zpow_pos (by norm_num) e

/-- the value of a decimal: `± coeff · 10^exp` -/
theorem val_eq (d : Dec) : val d = sgn d.neg * (d.coeff : ℚ) * (10 : ℚ) ^ d.exp := by
  unfold val sgn
  by_cases he : d.exp ≥ 0
  · have h : d.exp = ((d.exp.toNat : Nat) : Int) := (Int.toNat_of_nonneg he).symm
    simp only [he, if_true]
    conv_rhs => rw [h, zpow_natCast]
    cases d.neg <;> simp
  · have h : d.exp = -(((-d.exp).toNat : Nat) : Int) := by
      have : 0 ≤ -d.exp := by omega
      rw [Int.toNat_of_nonneg this]; ring
    simp only [he, if_false]
    conv_rhs => rw [h, zpow_neg, zpow_natCast]
    cases d.neg <;> simp [div_eq_mul_inv]

theorem val_mk (n : Bool) (c : Nat) (e : Int) : val ⟨n, c, e⟩ = sgn n * (c : ℚ) * (10 : ℚ) ^ e := val_eq _

theorem abs_val (d : Dec) : |val d| = (d.coeff : ℚ) * (10 : ℚ) ^ d.exp := by
  rw [val_eq, abs_mul, abs_mul, sgn_abs, one_mul, abs_of_nonneg (Nat.cast_nonneg _),
    abs_of_pos (ten_zpow_pos _)]

theorem val_eq_zero_iff (d : Dec) : val d = 0 ↔ d.coeff = 0 := by
  rw [← abs_eq_zero, abs_val, mul_eq_zero, or_iff_left (ten_zpow_pos _).ne', Nat.cast_eq_zero]

/-- What `_fix` does to a coefficient of more than 28 digits: with `k = ndigits c − 28 ≥ 1` dropped
digits the result is sign-preserving, has a coefficient below `10^28`, and denotes
`roundHalfEven c k · 10^k` at the old exponent (a carry to `10^28` drops one digit more, `j = 1`,
without changing the value). -/
theorem fix_spec (d : Dec) (hn : prec < ndigits d.coeff) :
    ∃ k c' j : Nat, 1 ≤ k ∧ fix d = ⟨d.neg, c', d.exp + ((k + j : Nat) : Int)⟩ ∧
      c' * 10 ^ (k + j) = roundHalfEven d.coeff k * 10 ^ k ∧ 10 ^ (27 + k) ≤ d.coeff ∧ c' < 10 ^ 28 := by
  have hprec : prec = 28 := rfl
  have h0 : d.coeff ≠ 0 := by
    intro h; rw [h] at hn; exact absurd hn (by decide)
  obtain ⟨hlo, hhi⟩ := ndigits_bounds h0
  obtain ⟨k, hk⟩ : ∃ k, ndigits d.coeff = 28 + k := ⟨ndigits d.coeff - 28, by omega⟩
  have hkk : ndigits d.coeff - prec = k := by omega
  rw [hk] at hhi
  rw [hk, show 28 + k - 1 = 27 + k by omega] at hlo
  have hfix : fix d = if ndigits (roundHalfEven d.coeff k) > prec
      then ⟨d.neg, roundHalfEven d.coeff k / 10, d.exp + k + 1⟩ else ⟨d.neg, roundHalfEven d.coeff k, d.exp + k⟩ := by
    unfold fix
    have hb : (d.coeff == 0) = false := by simpa using h0
    simp only [hb, Bool.false_eq_true, if_false, not_le.mpr hn, hkk]
  -- the truncated coefficient has exactly 28 digits, so the rounded one is at most `10^28`
  have hp : 0 < 10 ^ k := by positivity
  have hq : d.coeff / 10 ^ k < 10 ^ 28 := by rw [Nat.div_lt_iff_lt_mul hp, ← pow_add]; exact hhi
  have hR : roundHalfEven d.coeff k ≤ 10 ^ 28 := by
    rcases roundHalfEven_floor_or_succ d.coeff k with h | h <;> omega
  by_cases hc : ndigits (roundHalfEven d.coeff k) > prec
  · have heq : roundHalfEven d.coeff k = 10 ^ 28 := by
      have := mt (ndigits_le_iff (roundHalfEven d.coeff k) (k := 28) (by norm_num)).mpr (by omega)
      omega
    refine ⟨k, 10 ^ 27, 1, by omega, ?_, by rw [heq, pow_add]; ring, hlo, by norm_num⟩
    rw [hfix, if_pos hc, heq, Nat.cast_add, ← add_assoc]; norm_num
  · have hlt := (ndigits_le_iff (roundHalfEven d.coeff k) (k := 28) (by norm_num)).mp (by omega)
    exact ⟨k, _, 0, by omega, by rw [hfix, if_neg hc]; rfl, rfl, hlo, hlt⟩

theorem ten_zpow_add_nat (e : Int) (j : Nat) : (10 : ℚ) ^ (e + (j : Int)) = (10 : ℚ) ^ e * (10 : ℚ) ^ j := by
  rw [zpow_add₀ (by norm_num : (10 : ℚ) ≠ 0), zpow_natCast]

/-- value form of `fix_spec` -/
theorem val_fix (d : Dec) (hn : prec < ndigits d.coeff) :
    ∃ k : Nat, 1 ≤ k ∧ 10 ^ (27 + k) ≤ d.coeff ∧
      val (fix d) = sgn d.neg * ((roundHalfEven d.coeff k * 10 ^ k : Nat) : ℚ) * (10 : ℚ) ^ d.exp := by
  obtain ⟨k, c', j, hk1, hfix, hc', hlo, -⟩ := fix_spec d hn
  refine ⟨k, hk1, hlo, ?_⟩
  rw [hfix, val_mk, ← hc', ten_zpow_add_nat]; push_cast; ring

theorem fix_neg (d : Dec) : (fix d).neg = d.neg := by
  by_cases hn : prec < ndigits d.coeff
  · obtain ⟨k, c', j, -, hfix, -⟩ := fix_spec d hn
    rw [hfix]
  · rw [fix_of_fits d (not_lt.mp hn)]

/-- every result of `_fix` fits the precision -/
theorem fix_fits (d : Dec) : (fix d).coeff < 10 ^ 28 := by
  by_cases hn : prec < ndigits d.coeff
  · obtain ⟨k, c', j, -, hfix, -, -, hlt⟩ := fix_spec d hn
    rw [hfix]; exact hlt
  · rw [fix_of_fits d (not_lt.mp hn)]
    exact (ndigits_le_iff _ (by norm_num)).mp (not_lt.mp hn)

/-- The one numeric fact behind every error bound of this file: a number `R` within half a unit `p/2`
of `x ≥ 10²⁷·p` (so `x` has at least 28 digits in front of the unit `p`) is within `u28` of it,
relatively; a common sign and a common scale `E` do not matter. -/
theorem round_rel_err (s : Bool) {R x p E : ℚ} (hE : 0 < E) (h1 : 2 * R ≤ 2 * x + p) (h2 : 2 * x ≤ 2 * R + p)
    (hlo : 10 ^ 27 * p ≤ x) : |sgn s * R * E - sgn s * x * E| ≤ u28 * (x * E) := by
  rw [show sgn s * R * E - sgn s * x * E = sgn s * ((R - x) * E) by ring, abs_mul, sgn_abs, one_mul, abs_mul,
    abs_of_pos hE, ← mul_assoc]
  refine mul_le_mul_of_nonneg_right ?_ hE.le
  rw [abs_le]; unfold u28
  constructor <;> linarith

/-- **`_fix` is correctly rounded to 28 significant digits**: relative error at most `5·10⁻²⁸`, for
every finite decimal (zero and short coefficients are returned unchanged). -/
theorem fix_rel_err (d : Dec) : |val (fix d) - val d| ≤ u28 * |val d| := by
  by_cases hn : prec < ndigits d.coeff
  · obtain ⟨k, -, hlo, hv⟩ := val_fix d hn
    obtain ⟨h1, h2⟩ := roundHalfEven_err d.coeff k
    rw [hv, abs_val, val_eq]
    refine round_rel_err d.neg (p := (10 : ℚ) ^ k) (ten_zpow_pos _) ?_ ?_ ?_
    · exact_mod_cast h1
    · exact_mod_cast h2
    · rw [← pow_add]; exact_mod_cast hlo
  · rw [fix_of_fits d (not_lt.mp hn), sub_self, abs_zero]
    exact mul_nonneg u28_pos.le (abs_nonneg _)

/-- `q` can be written with at most 28 significant decimal digits: `|q| = m · 10^j`, `m < 10^28` -/
def Rep28 (q : ℚ) : Prop := ∃ (m : Nat) (j : Int), m < 10 ^ 28 ∧ |q| = (m : ℚ) * (10 : ℚ) ^ j

theorem roundHalfEven_of_dvd (c k : Nat) (h : 10 ^ k ∣ c) : roundHalfEven c k * 10 ^ k = c := by
  have hr : c % 10 ^ k = 0 := Nat.mod_eq_zero_of_dvd h
  have hp : 0 < 10 ^ k := by positivity
  have h2 : (0 == 10 ^ k) = false := by rw [beq_eq_false_iff_ne]; omega
  unfold roundHalfEven
  simp only [hr, Nat.mul_zero, gt_iff_lt, Nat.not_lt_zero, h2, if_false, Bool.false_eq_true]
  exact Nat.div_mul_cancel h

/-- a number of at least `28 + k` digits before the point (`x ≥ 10^(27+k)`) that has a 28-digit
representation `m · 10^j` at the scale `10^E` is a natural multiple of `10^k` -/
theorem nat_of_rep28 {x : ℚ} {E j : Int} {m k : Nat} (hm : m < 10 ^ 28) (hx : (10 : ℚ) ^ (27 + k) ≤ x)
    (h : x * (10 : ℚ) ^ E = (m : ℚ) * (10 : ℚ) ^ j) : ∃ t : Nat, x = ((m * 10 ^ t * 10 ^ k : Nat) : ℚ) := by
  have ten_ne : (10 : ℚ) ≠ 0 := by norm_num
  have hxm : x = (m : ℚ) * (10 : ℚ) ^ (j - E) := by
    rw [zpow_sub₀ ten_ne, ← mul_div_assoc, ← h, mul_div_assoc, div_self (ten_zpow_pos E).ne', mul_one]
  have hmq : (m : ℚ) < (10 : ℚ) ^ 28 := by exact_mod_cast hm
  -- `10^(27+k) ≤ m·10^(j-E) < 10^(28+(j-E))`, so `k ≤ j - E`
  have hlt : (10 : ℚ) ^ ((27 + k : Nat) : Int) < (10 : ℚ) ^ (((28 : Nat) : Int) + (j - E)) := by
    rw [zpow_add₀ ten_ne, zpow_natCast, zpow_natCast]
    calc (10 : ℚ) ^ (27 + k) ≤ (m : ℚ) * (10 : ℚ) ^ (j - E) := hxm ▸ hx
      _ < (10 : ℚ) ^ 28 * (10 : ℚ) ^ (j - E) := mul_lt_mul_of_pos_right hmq (ten_zpow_pos _)
  have hexp := (zpow_lt_zpow_iff_right₀ (by norm_num : (1 : ℚ) < 10)).mp hlt
  obtain ⟨t, ht⟩ : ∃ t : Nat, j - E = ((k + t : Nat) : Int) := ⟨(j - E - k).toNat, by push_cast at hexp ⊢; omega⟩
  exact ⟨t, by rw [hxm, ht, zpow_natCast]; push_cast; ring⟩

/-- **`_fix` is exact on every value that has at most 28 significant digits** (trailing zeros of a long
coefficient are dropped without error). -/
theorem fix_exact (d : Dec) (h : Rep28 (val d)) : val (fix d) = val d := by
  by_cases hn : prec < ndigits d.coeff
  · obtain ⟨k, -, hlo, hv⟩ := val_fix d hn
    obtain ⟨m, j, hm, hmj⟩ := h
    rw [abs_val] at hmj
    obtain ⟨t, ht⟩ := nat_of_rep28 (k := k) hm (by exact_mod_cast hlo) hmj
    have hdvd : 10 ^ k ∣ d.coeff := Dvd.intro_left (m * 10 ^ t) (by exact_mod_cast ht.symm)
    rw [hv, roundHalfEven_of_dvd _ _ hdvd, val_eq]
  · rw [fix_of_fits d (not_lt.mp hn)]

/-- a coefficient below `10^28` is a 28-digit representation -/
theorem rep28_of_coeff_lt (d : Dec) (h : d.coeff < 10 ^ 28) : Rep28 (val d) :=
  ⟨d.coeff, d.exp, h, abs_val d⟩

/-- every result of `_fix` has at most 28 significant digits -/
theorem rep28_fix (d : Dec) : Rep28 (val (fix d)) := rep28_of_coeff_lt _ (fix_fits d)

/-- everything the error analysis needs of a result `r = fix d`, in terms of the exact number `x = val d`
that was handed to `_fix`: correctly rounded, exact when `x` has 28 digits, and fitting the precision -/
theorem rounded_of_pre {r : Dec} {x : ℚ} (h : ∃ d, r = fix d ∧ val d = x) :
    |val r - x| ≤ u28 * |x| ∧ (Rep28 x → val r = x) ∧ r.coeff < 10 ^ 28 := by
  obtain ⟨d, rfl, rfl⟩ := h
  exact ⟨fix_rel_err d, fix_exact d, fix_fits d⟩

/-- the exact product, before `_fix` -/
theorem val_mul_pre (a b : Dec) :
    val ⟨a.neg != b.neg, a.coeff * b.coeff, a.exp + b.exp⟩ = val a * val b := by
  rw [val_mk, val_eq a, val_eq b, sgn_xor, zpow_add₀ (by norm_num : (10 : ℚ) ≠ 0)]
  push_cast; ring

/-- the exact quotient (`0` for a zero divisor, as in ℚ) -/
theorem val_div (a b : Dec) :
    val a / val b = sgn (a.neg != b.neg) * ((a.coeff : ℚ) / (b.coeff : ℚ)) * (10 : ℚ) ^ (a.exp - b.exp) := by
  rw [val_eq a, val_eq b, sgn_xor, zpow_sub₀ (by norm_num : (10 : ℚ) ≠ 0), div_eq_mul_inv, mul_inv, mul_inv, sgn_inv]
  ring

theorem mul_pre (a b : Dec) : ∃ d, mul a b = fix d ∧ val d = val a * val b := ⟨_, rfl, val_mul_pre a b⟩

theorem int_toNat_sub_cast {x e : Int} (h : e ≤ x) : (((x - e).toNat : Nat) : Int) = x - e :=
  Int.toNat_of_nonneg (by omega)

/-- rescaling a coefficient to a smaller exponent does not change the value -/
theorem val_rescale (n : Bool) (c : Nat) (x e : Int) (h : e ≤ x) :
    val ⟨n, c * 10 ^ (x - e).toNat, e⟩ = val ⟨n, c, x⟩ := by
  rw [val_mk, val_mk]
  have : (10 : ℚ) ^ x = (10 : ℚ) ^ (((x - e).toNat : Nat) : Int) * (10 : ℚ) ^ e := by
    rw [← zpow_add₀ (by norm_num : (10 : ℚ) ≠ 0), int_toNat_sub_cast h]; congr 1; ring
  rw [this, zpow_natCast]; push_cast; ring

/-- `padTo x e = fix x'` with `val x' = val x` whenever `e ≤ x.exp` -/
theorem padTo_pre (x : Dec) (e : Int) (h : e ≤ x.exp) : ∃ d, padTo x e = fix d ∧ val d = val x := by
  refine ⟨_, rfl, ?_⟩
  have : max e (x.exp - (prec : Int) - 1) ≤ x.exp := by
    have : (0 : Int) ≤ (prec : Int) := Int.natCast_nonneg _
    omega
  exact val_rescale x.neg x.coeff x.exp _ this

/-- the value as a signed integer at a smaller exponent (how `__add__` aligns its operands) -/
theorem val_aligned (a : Dec) (e : Int) (h : e ≤ a.exp) :
    val a = (((if a.neg then -((a.coeff * 10 ^ (a.exp - e).toNat : Nat) : Int)
      else ((a.coeff * 10 ^ (a.exp - e).toNat : Nat) : Int)) : Int) : ℚ) * (10 : ℚ) ^ e := by
  have := val_rescale a.neg a.coeff a.exp e h
  rw [val_mk] at this
  rw [show val a = val ⟨a.neg, a.coeff, a.exp⟩ from rfl, ← this]
  cases a.neg <;> simp [sgn]

/-- sign and magnitude of an integer at exponent `e` (zero included: `+0`) -/
theorem val_ofInt (s : Int) (e : Int) : val ⟨decide (s < 0), s.natAbs, e⟩ = (s : ℚ) * (10 : ℚ) ^ e := by
  rw [val_mk, Nat.cast_natAbs]
  by_cases hneg : s < 0
  · simp [hneg, sgn, abs_of_neg hneg]
  · simp [hneg, sgn, abs_of_nonneg (not_lt.mp hneg)]

/-- an exact sum of zero is returned as `+0`, which is what sign and magnitude of `0` are anyway -/
theorem fix_ofInt (s e : Int) :
    (if s == 0 then fix ⟨false, 0, e⟩ else fix ⟨decide (s < 0), s.natAbs, e⟩) = fix ⟨decide (s < 0), s.natAbs, e⟩ := by
  split
  · next h => rw [beq_iff_eq.mp h]; rfl
  · rfl

/-- **what `__add__` computes before `_fix`: the exact sum** -/
theorem add_pre (a b : Dec) : ∃ d, add a b = fix d ∧ val d = val a + val b := by
  unfold add
  simp only []
  by_cases ha : a.coeff = 0
  · by_cases hb : b.coeff = 0
    · refine ⟨⟨a.neg && b.neg, 0, min a.exp b.exp⟩, by simp [ha, hb], ?_⟩
      rw [(val_eq_zero_iff a).mpr ha, (val_eq_zero_iff b).mpr hb, val_mk]; simp
    · obtain ⟨d, hd, hv⟩ := padTo_pre b (min a.exp b.exp) (min_le_right _ _)
      refine ⟨d, ?_, by rw [hv, (val_eq_zero_iff a).mpr ha, zero_add]⟩
      have hb' : (b.coeff == 0) = false := by simpa using hb
      simp [ha, hb', hd]
  · have ha' : (a.coeff == 0) = false := by simpa using ha
    by_cases hb : b.coeff = 0
    · obtain ⟨d, hd, hv⟩ := padTo_pre a (min a.exp b.exp) (min_le_left _ _)
      refine ⟨d, ?_, by rw [hv, (val_eq_zero_iff b).mpr hb, add_zero]⟩
      simp [ha', hb, hd]
    · have hb' : (b.coeff == 0) = false := by simpa using hb
      simp only [ha', hb', Bool.false_and, Bool.false_eq_true, if_false]
      rw [fix_ofInt]
      refine ⟨_, rfl, ?_⟩
      rw [val_ofInt, val_aligned a _ (min_le_left _ _), val_aligned b _ (min_le_right _ _)]
      push_cast; ring

theorem val_negate (b : Dec) : val ⟨!b.neg, b.coeff, b.exp⟩ = - val b := by
  rw [val_mk, val_eq b, sgn_not]; ring

/-- **what `__sub__` computes before `_fix`: the exact difference** -/
theorem sub_pre (a b : Dec) : ∃ d, sub a b = fix d ∧ val d = val a - val b := by
  obtain ⟨d, hd, hv⟩ := add_pre a ⟨!b.neg, b.coeff, b.exp⟩
  exact ⟨d, hd, by rw [hv, val_negate]; ring⟩

/-- the coefficient `__truediv__` hands to `_fix` when the quotient is inexact: the truncated quotient
with a sticky unit added when its last digit is 0 or 5 -/
def sticky (q : Nat) : Nat := if q % 5 == 0 then q + 1 else q

theorem sticky_cases (q : Nat) : (sticky q = q ∧ q % 5 ≠ 0) ∨ (sticky q = q + 1 ∧ q % 5 = 0) := by
  unfold sticky
  by_cases h : q % 5 = 0
  · right; simp [h]
  · left; simp [h]

/-- **the sticky digit makes the later half-even rounding correct for the TRUE quotient**: if the true
quotient lies strictly between `q` and `q + 1`, rounding `sticky q` to `k ≥ 1` fewer digits lands
within `10^k / 2 − 1` of `q` from above and `10^k / 2` from below (so within half a unit of every
real number in `(q, q+1)`). -/
theorem sticky_delta (q k : Nat) (hk : 1 ≤ k) :
    2 * (roundHalfEven (sticky q) k * 10 ^ k) ≤ 2 * q + 10 ^ k ∧
    2 * q + 2 ≤ 2 * (roundHalfEven (sticky q) k * 10 ^ k) + 10 ^ k := by
  obtain ⟨j, rfl⟩ : ∃ j, k = j + 1 := ⟨k - 1, by omega⟩
  -- `sticky q` is rounded to within half a unit `5·10^j`; both sides of the two inequalities are
  -- multiples of `10^j`… the boundary cases would make `q` resp. `q + 1` a multiple of 5
  obtain ⟨h1, h2⟩ := roundHalfEven_err (sticky q) (j + 1)
  have hs := sticky_cases q
  rw [pow_succ, ← Nat.mul_assoc (roundHalfEven (sticky q) (j + 1))] at h1 h2 ⊢
  generalize roundHalfEven (sticky q) (j + 1) * 10 ^ j = T at h1 h2 ⊢
  generalize 10 ^ j = p at h1 h2 ⊢
  omega

/-- the sticky coefficient reaches a power of ten only if the truncated quotient already did -/
theorem le_of_le_sticky {q m : Nat} (hm : 1 ≤ m) (h : 10 ^ m ≤ sticky q) : 10 ^ m ≤ q := by
  obtain ⟨j, rfl⟩ : ∃ j, m = j + 1 := ⟨m - 1, by omega⟩
  rw [pow_succ] at h ⊢
  have hs := sticky_cases q
  omega

theorem stripZerosAux_val : ∀ (f c : Nat) (e ideal : Int),
    ((stripZerosAux f c e ideal).1 : ℚ) * (10 : ℚ) ^ (stripZerosAux f c e ideal).2 = (c : ℚ) * (10 : ℚ) ^ e
  | 0, c, e, ideal => by simp [stripZerosAux]
  | f + 1, c, e, ideal => by
      unfold stripZerosAux
      by_cases h : (e < ideal && c % 10 == 0) = true
      · rw [if_pos h, stripZerosAux_val f (c / 10) (e + 1) ideal]
        have hc : c % 10 = 0 := by
          have := (Bool.and_eq_true _ _).mp h
          simpa using this.2
        have hdiv : c = c / 10 * 10 := by omega
        have : (c : ℚ) = ((c / 10 : Nat) : ℚ) * 10 := by exact_mod_cast hdiv
        rw [zpow_add₀ (by norm_num : (10 : ℚ) ≠ 0), zpow_one]
        conv_rhs => rw [this]
        ring
      · rw [if_neg h]

/-- an inexact natural quotient lies strictly between its floor and the next integer -/
theorem floor_lt_div_lt {n d : Nat} (hd : 0 < d) (hrem : n % d ≠ 0) :
    ((n / d : Nat) : ℚ) < (n : ℚ) / (d : ℚ) ∧ (n : ℚ) / (d : ℚ) < ((n / d : Nat) : ℚ) + 1 := by
  have hdq : (0 : ℚ) < (d : ℚ) := by exact_mod_cast hd
  have hn : (n : ℚ) = (d : ℚ) * ((n / d : Nat) : ℚ) + ((n % d : Nat) : ℚ) := by exact_mod_cast (Nat.div_add_mod n d).symm
  have hr0 : (0 : ℚ) < ((n % d : Nat) : ℚ) := by exact_mod_cast Nat.pos_of_ne_zero hrem
  have hr1 : ((n % d : Nat) : ℚ) < (d : ℚ) := by exact_mod_cast Nat.mod_lt n hd
  rw [lt_div_iff₀ hdq, div_lt_iff₀ hdq]
  constructor <;> linarith

/-- inexact quotient: `_fix` of the sticky coefficient is the correctly rounded true quotient `n/d` -/
theorem div_inexact {sign : Bool} {n d : Nat} {exp : Int} (hd : 0 < d) (hnd : 10 ^ 28 * d ≤ n)
    (hrem : n % d ≠ 0) :
    |val (fix ⟨sign, sticky (n / d), exp⟩) - sgn sign * ((n : ℚ) / (d : ℚ)) * (10 : ℚ) ^ exp|
      ≤ u28 * (((n : ℚ) / (d : ℚ)) * (10 : ℚ) ^ exp) := by
  have hq28 : 10 ^ 28 ≤ n / d := by rw [Nat.le_div_iff_mul_le hd]; exact hnd
  have hn : prec < ndigits (sticky (n / d)) := by
    have := mt (ndigits_le_iff (sticky (n / d)) (k := 28) (by norm_num)).mp
    have hs := sticky_cases (n / d)
    have hprec : prec = 28 := rfl
    omega
  obtain ⟨k, hk1, hlo, hv⟩ := val_fix ⟨sign, sticky (n / d), exp⟩ hn
  obtain ⟨h1, h2⟩ := sticky_delta (n / d) k hk1
  have hlo' : 10 ^ (27 + k) ≤ n / d := le_of_le_sticky (by omega) hlo
  obtain ⟨hxq, hxq1⟩ := floor_lt_div_lt hd hrem
  have h1q : (2 : ℚ) * ((roundHalfEven (sticky (n / d)) k * 10 ^ k : Nat) : ℚ) ≤ 2 * ((n / d : Nat) : ℚ) + (10 : ℚ) ^ k := by
    exact_mod_cast h1
  have h2q : (2 : ℚ) * ((n / d : Nat) : ℚ) + 2 ≤ 2 * ((roundHalfEven (sticky (n / d)) k * 10 ^ k : Nat) : ℚ) + (10 : ℚ) ^ k := by
    exact_mod_cast h2
  have hloq : (10 : ℚ) ^ 27 * (10 : ℚ) ^ k ≤ ((n / d : Nat) : ℚ) := by
    rw [← pow_add]; exact_mod_cast hlo'
  rw [hv]
  exact round_rel_err sign (p := (10 : ℚ) ^ k) (ten_zpow_pos _) (by linarith only [h1q, hxq])
    (by linarith only [h2q, hxq1]) (by linarith only [hloq, hxq])

/-- exact quotient: the value handed to `_fix` is the quotient itself -/
theorem div_exact_pre (sign : Bool) (n d : Nat) (exp ideal : Int) (hd : 0 < d) (hrem : n % d = 0) :
    val ⟨sign, (stripZerosAux 2000 (n / d) exp ideal).1, (stripZerosAux 2000 (n / d) exp ideal).2⟩
      = sgn sign * ((n : ℚ) / (d : ℚ)) * (10 : ℚ) ^ exp := by
  have hdq : (0 : ℚ) < (d : ℚ) := by exact_mod_cast hd
  rw [val_mk, mul_assoc, stripZerosAux_val, ← mul_assoc]
  have hdm := Nat.div_add_mod n d
  rw [hrem, add_zero] at hdm
  have : (n : ℚ) = (d : ℚ) * ((n / d : Nat) : ℚ) := by exact_mod_cast hdm.symm
  congr 2
  rw [eq_div_iff hdq.ne']; rw [this]; ring

/-- only one operand is scaled, but it does no harm to read it as both: the other power is `10^0` -/
theorem scaled_operands (ca cb : Nat) (shift : Int) :
    (if shift ≥ 0 then (ca * 10 ^ shift.toNat, cb) else (ca, cb * 10 ^ (-shift).toNat))
      = (ca * 10 ^ shift.toNat, cb * 10 ^ (-shift).toNat) := by
  split
  · next h => rw [Int.toNat_eq_zero.mpr (by omega : -shift ≤ 0), pow_zero, mul_one]
  · next h => rw [Int.toNat_eq_zero.mpr (by omega : shift ≤ 0), pow_zero, mul_one]

/-- the scaled operands of `__truediv__`: `n/d = (a/b)·10^shift`, `d > 0` and `n/d ≥ 10^28`
(the quotient is computed to 29 or 30 significant digits, one or two more than the precision) -/
theorem div_scaled (ca cb : Nat) (ha : ca ≠ 0) (hb : cb ≠ 0) (shift : Int)
    (hshift : shift = (ndigits cb : Int) - (ndigits ca : Int) + (prec : Int) + 1) (n d : Nat)
    (hnd : (n, d) = if shift ≥ 0 then (ca * 10 ^ shift.toNat, cb) else (ca, cb * 10 ^ (-shift).toNat)) :
    0 < d ∧ 10 ^ 28 * d ≤ n ∧ (n : ℚ) / (d : ℚ) = (ca : ℚ) / (cb : ℚ) * (10 : ℚ) ^ shift := by
  have hprec : (prec : Int) = 28 := rfl
  obtain ⟨alo, -⟩ := ndigits_bounds ha
  obtain ⟨-, bhi⟩ := ndigits_bounds hb
  have ap := ndigits_pos ca
  rw [scaled_operands] at hnd
  obtain ⟨rfl, rfl⟩ := Prod.mk.inj hnd
  have ht := Int.toNat_sub_toNat_neg shift
  generalize shift.toNat = t1 at ht ⊢
  generalize (-shift).toNat = t2 at ht ⊢
  have e1 : 28 + (ndigits cb + t2) = ndigits ca - 1 + t1 := by omega
  refine ⟨Nat.mul_pos (Nat.pos_of_ne_zero hb) (by positivity), ?_, ?_⟩
  · calc 10 ^ 28 * (cb * 10 ^ t2) ≤ 10 ^ 28 * (10 ^ ndigits cb * 10 ^ t2) :=
          Nat.mul_le_mul_left _ (Nat.mul_le_mul_right _ bhi.le)
      _ = 10 ^ (ndigits ca - 1) * 10 ^ t1 := by rw [← pow_add, ← pow_add, ← pow_add, e1]
      _ ≤ ca * 10 ^ t1 := Nat.mul_le_mul_right _ alo
  · have cbq : (cb : ℚ) ≠ 0 := by exact_mod_cast hb
    rw [← ht, zpow_sub₀ (by norm_num : (10 : ℚ) ≠ 0), zpow_natCast, zpow_natCast]
    push_cast; field_simp

/-- a quotient `n/d ≥ 10^28` that has at most 28 significant digits is an integer -/
theorem rem_zero_of_rep28 {n d m : Nat} {E j : Int} (hd : 0 < d) (hge : 10 ^ 28 * d ≤ n)
    (hm : m < 10 ^ 28) (h : (n : ℚ) / (d : ℚ) * (10 : ℚ) ^ E = (m : ℚ) * (10 : ℚ) ^ j) : n % d = 0 := by
  have hdq : (0 : ℚ) < (d : ℚ) := by exact_mod_cast hd
  have hx28 : (10 : ℚ) ^ (27 + 1) ≤ (n : ℚ) / (d : ℚ) := by rw [le_div_iff₀ hdq]; exact_mod_cast hge
  obtain ⟨t, ht⟩ := nat_of_rep28 hm hx28 h
  rw [div_eq_iff hdq.ne'] at ht
  have hn : n = m * 10 ^ t * 10 ^ 1 * d := by exact_mod_cast ht
  rw [hn]; exact Nat.mul_mod_left _ _

/-- **`__truediv__` is correctly rounded**: for every divisor with a non-zero coefficient the model
returns a result within `5·10⁻²⁸` (relative) of the exact quotient; a zero dividend gives zero. -/
theorem div_spec (a b : Dec) (hb : b.coeff ≠ 0) :
    ∃ r, div a b = some r ∧ |val r - val a / val b| ≤ u28 * |val a / val b| ∧
      (Rep28 (val a / val b) → val r = val a / val b) ∧ r.coeff < 10 ^ 28 := by
  have hb' : (b.coeff == 0) = false := by simpa using hb
  by_cases ha : a.coeff = 0
  · refine ⟨fix ⟨a.neg != b.neg, 0, a.exp - b.exp⟩, by unfold div; simp [hb', ha], rounded_of_pre ⟨_, rfl, ?_⟩⟩
    rw [(val_eq_zero_iff a).mpr ha, val_mk]; simp
  · have ha' : (a.coeff == 0) = false := by simpa using ha
    -- name the intermediate quantities of the definition
    set shift : Int := (ndigits b.coeff : Int) - (ndigits a.coeff : Int) + (prec : Int) + 1 with hshift
    set nd : Nat × Nat := if shift ≥ 0 then (a.coeff * 10 ^ shift.toNat, b.coeff) else (a.coeff, b.coeff * 10 ^ (-shift).toNat) with hnd
    obtain ⟨hd, hge, hquot⟩ := div_scaled a.coeff b.coeff ha hb shift hshift nd.1 nd.2 (by rw [hnd])
    have hdiv : div a b = some (if nd.1 % nd.2 != 0
        then fix ⟨a.neg != b.neg, sticky (nd.1 / nd.2), a.exp - b.exp - shift⟩
        else fix ⟨a.neg != b.neg, (stripZerosAux 2000 (nd.1 / nd.2) (a.exp - b.exp - shift) (a.exp - b.exp)).1,
                  (stripZerosAux 2000 (nd.1 / nd.2) (a.exp - b.exp - shift) (a.exp - b.exp)).2⟩) := by
      unfold div sticky
      simp only [hb', ha', Bool.false_eq_true, if_false]
      by_cases hs : shift ≥ 0
      · simp only [hnd, ← hshift, hs, if_true]
        split <;> rfl
      · simp only [hnd, ← hshift, hs, if_false]
        split <;> rfl
    -- the exact quotient
    have hval : val a / val b = sgn (a.neg != b.neg) * ((nd.1 : ℚ) / (nd.2 : ℚ)) * (10 : ℚ) ^ (a.exp - b.exp - shift) := by
      have e2 := (ten_zpow_pos shift).ne'
      rw [val_div, hquot, zpow_sub₀ (by norm_num : (10 : ℚ) ≠ 0) (a.exp - b.exp) shift]
      field_simp
    have habs : |val a / val b| = ((nd.1 : ℚ) / (nd.2 : ℚ)) * (10 : ℚ) ^ (a.exp - b.exp - shift) := by
      have hdq : (0 : ℚ) < (nd.2 : ℚ) := by exact_mod_cast hd
      rw [hval, abs_mul, abs_mul, sgn_abs, one_mul, abs_of_pos (ten_zpow_pos _),
        abs_of_nonneg (div_nonneg (Nat.cast_nonneg _) hdq.le)]
    refine ⟨_, hdiv, ?_⟩
    by_cases hrem : nd.1 % nd.2 = 0
    · have hc : (nd.1 % nd.2 != 0) = false := by simp [hrem]
      rw [hc]; simp only [Bool.false_eq_true, if_false]
      have hpre := div_exact_pre (a.neg != b.neg) nd.1 nd.2 (a.exp - b.exp - shift) (a.exp - b.exp) hd hrem
      rw [hval, ← hpre]
      exact rounded_of_pre ⟨_, rfl, rfl⟩
    · have hc : (nd.1 % nd.2 != 0) = true := by simp [hrem]
      rw [hc]; simp only [if_true]
      refine ⟨by rw [habs, hval]; exact div_inexact hd hge hrem, ?_, fix_fits _⟩
      -- an inexact quotient has more than 28 significant digits
      rintro ⟨m, j, hm, hmj⟩
      exfalso
      rw [habs] at hmj
      exact hrem (rem_zero_of_rep28 hd hge hm hmj)

/-! ### composing relative errors

`Approx n x̂ x`: `x̂ = x·ρ` with `(1-u)^n ≤ ρ ≤ (1-u)^(-n)` — "`x̂` is `x` perturbed by at most `n`
correctly rounded operations".  Closed under products and quotients (counts add) and under one
more rounding (count + 1); the plain relative bound is recovered by `approx_bound`. -/

def Approx (n : Nat) (xh x : ℚ) : Prop :=
  ∃ ρ : ℚ, xh = x * ρ ∧ (1 - u28) ^ n ≤ ρ ∧ ρ * (1 - u28) ^ n ≤ 1

theorem one_sub_u_pos : (0 : ℚ) < 1 - u28 := by have := u28_lt_one; linarith
theorem one_sub_u_le_one : (1 : ℚ) - u28 ≤ 1 := by have := u28_pos; linarith
theorem pow_one_sub_u_pos (n : Nat) : (0 : ℚ) < (1 - u28) ^ n := pow_pos one_sub_u_pos n

theorem approx_refl (x : ℚ) : Approx 0 x x := ⟨1, by ring, by simp, by simp⟩

theorem approx_rho_pos {n : Nat} {ρ : ℚ} (h : (1 - u28) ^ n ≤ ρ) : 0 < ρ :=
  lt_of_lt_of_le (pow_one_sub_u_pos n) h

theorem approx_mono {n m : Nat} (hnm : n ≤ m) {xh x : ℚ} (h : Approx n xh x) : Approx m xh x := by
  obtain ⟨ρ, he, h1, h2⟩ := h
  have hle : (1 - u28) ^ m ≤ (1 - u28) ^ n := pow_le_pow_of_le_one one_sub_u_pos.le one_sub_u_le_one hnm
  refine ⟨ρ, he, hle.trans h1, le_trans (mul_le_mul_of_nonneg_left hle (approx_rho_pos h1).le) h2⟩

/-- one correctly rounded operation -/
theorem approx_of_rel {xh x : ℚ} (h : |xh - x| ≤ u28 * |x|) : Approx 1 xh x := by
  by_cases hx : x = 0
  · subst hx
    have : xh = 0 := by simpa using h
    exact ⟨1, by rw [this]; ring, by simpa using one_sub_u_le_one, by simpa using one_sub_u_le_one⟩
  · have hxa : 0 < |x| := abs_pos.mpr hx
    have hρ : |xh / x - 1| ≤ u28 := by
      have : xh / x - 1 = (xh - x) / x := by field_simp
      rw [this, abs_div, div_le_iff₀ hxa]; exact h
    obtain ⟨hl, hr⟩ := abs_le.mp hρ
    refine ⟨xh / x, by field_simp, by rw [pow_one]; linarith, ?_⟩
    rw [pow_one]
    have hu := u28_pos
    have h1u := one_sub_u_pos
    calc xh / x * (1 - u28) ≤ (1 + u28) * (1 - u28) := mul_le_mul_of_nonneg_right (by linarith) h1u.le
      _ = 1 - u28 * u28 := by ring
      _ ≤ 1 := sub_le_self _ (mul_self_nonneg u28)

theorem approx_mul {n m : Nat} {ah a bh b : ℚ} (h1 : Approx n ah a) (h2 : Approx m bh b) :
    Approx (n + m) (ah * bh) (a * b) := by
  obtain ⟨ρ1, e1, a1, b1⟩ := h1
  obtain ⟨ρ2, e2, a2, b2⟩ := h2
  have p1 := approx_rho_pos a1
  have p2 := approx_rho_pos a2
  refine ⟨ρ1 * ρ2, by rw [e2, e1]; ring, ?_, ?_⟩
  · rw [pow_add]; exact mul_le_mul a1 a2 (pow_one_sub_u_pos m).le p1.le
  · rw [pow_add]
    calc ρ1 * ρ2 * ((1 - u28) ^ n * (1 - u28) ^ m) = (ρ1 * (1 - u28) ^ n) * (ρ2 * (1 - u28) ^ m) := by ring
      _ ≤ 1 * 1 := mul_le_mul b1 b2 (mul_pos p2 (pow_one_sub_u_pos m)).le (by norm_num)
      _ = 1 := by ring

/-- a perturbation of `y`, itself a perturbation of `x`: the factor of `z` over `y` approximates 1 -/
theorem approx_trans {n m : Nat} {z y x : ℚ} (h1 : Approx n y x) (h2 : Approx m z y) : Approx (n + m) z x := by
  obtain ⟨ρ, e, a, b⟩ := h2
  have := approx_mul h1 (⟨ρ, (one_mul ρ).symm, a, b⟩ : Approx m ρ 1)
  rwa [mul_one, ← e] at this

/-- the two bounds on the factor are symmetric under inversion -/
theorem approx_inv {m : Nat} {bh b : ℚ} (h : Approx m bh b) : Approx m bh⁻¹ b⁻¹ := by
  obtain ⟨ρ, e, a, b'⟩ := h
  have p := approx_rho_pos a
  refine ⟨ρ⁻¹, by rw [e, mul_inv], ?_, ?_⟩
  · rw [← one_div, le_div_iff₀ p, mul_comm]; exact b'
  · rw [inv_mul_le_iff₀ p, mul_one]; exact a

theorem approx_div {n m : Nat} {ah a bh b : ℚ} (h1 : Approx n ah a) (h2 : Approx m bh b) :
    Approx (n + m) (ah / bh) (a / b) := by
  rw [div_eq_mul_inv, div_eq_mul_inv]; exact approx_mul h1 (approx_inv h2)

/-- approximation of a non-zero quantity is non-zero, and conversely -/
theorem approx_ne_zero {n : Nat} {xh x : ℚ} (h : Approx n xh x) : xh ≠ 0 ↔ x ≠ 0 := by
  obtain ⟨ρ, e, a, -⟩ := h
  have p := approx_rho_pos a
  rw [e]; constructor
  · intro h hx; exact h (by rw [hx]; ring)
  · intro hx; exact mul_ne_zero hx p.ne'

/-- **`n` roundings cost at most `n·u/(1 − n·u)` relative error** (`u = 5·10⁻²⁸`), i.e.
`n·5·10⁻²⁸·(1 + small)` with `small = n·u/(1 − n·u)` -/
theorem approx_bound {n : Nat} {xh x : ℚ} (h : Approx n xh x) (hn : (n : ℚ) * u28 < 1) :
    |xh - x| ≤ (n : ℚ) * u28 / (1 - (n : ℚ) * u28) * |x| := by
  obtain ⟨ρ, e, a, b⟩ := h
  have p := approx_rho_pos a
  have hB : 1 - (n : ℚ) * u28 ≤ (1 - u28) ^ n := by
    have := one_add_mul_le_pow (a := -u28) (by have := u28_lt_one; linarith) n
    have e1 : (1 : ℚ) + -u28 = 1 - u28 := by ring
    rw [e1] at this; linarith
  have hpos : 0 < 1 - (n : ℚ) * u28 := by linarith
  have hnu : 0 ≤ (n : ℚ) * u28 := mul_nonneg (Nat.cast_nonneg _) u28_pos.le
  have hρ : |ρ - 1| ≤ (n : ℚ) * u28 / (1 - (n : ℚ) * u28) := by
    -- `1 - nu ≤ (1-u)^n ≤ ρ` below, `ρ (1 - nu) ≤ ρ (1-u)^n ≤ 1` above
    have hhi : ρ * (1 - (n : ℚ) * u28) ≤ 1 := le_trans (mul_le_mul_of_nonneg_left hB p.le) b
    rw [abs_le]; constructor
    · have : (n : ℚ) * u28 ≤ (n : ℚ) * u28 / (1 - (n : ℚ) * u28) := by
        rw [le_div_iff₀ hpos]; exact mul_le_of_le_one_right hnu (by linarith)
      linarith
    · rw [le_div_iff₀ hpos]; linarith
  have : xh - x = x * (ρ - 1) := by rw [e]; ring
  rw [this, abs_mul, mul_comm]
  exact mul_le_mul_of_nonneg_right hρ (abs_nonneg _)

/-- three roundings stay within `2·10⁻²⁷` -/
theorem approx3_close {n : Nat} (hn : n ≤ 3) {xh x : ℚ} (h : Approx n xh x) : |xh - x| * 10 ^ 27 ≤ 2 * |x| := by
  have h3 := approx_bound (approx_mono hn h) (by unfold u28; norm_num)
  have hc : ((3 : Nat) : ℚ) * u28 / (1 - ((3 : Nat) : ℚ) * u28) * 10 ^ 27 ≤ 2 := by unfold u28; norm_num
  calc |xh - x| * 10 ^ 27 ≤ (((3 : Nat) : ℚ) * u28 / (1 - ((3 : Nat) : ℚ) * u28) * |x|) * 10 ^ 27 :=
        mul_le_mul_of_nonneg_right h3 (by positivity)
    _ = (((3 : Nat) : ℚ) * u28 / (1 - ((3 : Nat) : ℚ) * u28) * 10 ^ 27) * |x| := by ring
    _ ≤ 2 * |x| := mul_le_mul_of_nonneg_right hc (abs_nonneg _)

end QcelVerif.Dec
