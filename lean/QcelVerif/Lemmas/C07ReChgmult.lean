import QcelVerif.Lemmas.C07ReLines
import QcelVerif.Lemmas.C07ReNumber
import QcelVerif.Lemmas.C07ReCaps
/-!
C07 — CHGMULT lines: `cgmp = \A(?P<chg>NUMBER)SEP(?P<mult>\d+)\Z` (psi4) and `xyz2 = \A CHGMULT` (prefix match, xyz+ title line).

NUMBER enters only through its extent (`numberBody_lang`): the ways its body matches from a cursor are the splits of the rest into
a token accepted by M1's `isNumber` and what follows; that such a token holds no separator is read off `isNumber_iff_NumLang`.

From `Lemmas/MolText.lean`: `splitSep_ne_nil`, `splitSep_exists`, `splitSep_tok_append`, `mant_not_sep`, `digit_mant`,
`plain_of_pred`, `plain_not_sep`.
-/
namespace QcelVerif.MolText
open QcelVerif.Regex QcelVerif.Gen

def nsep (c : Char) : Bool := !isSep c

/-! ## hand side: `splitSep` by maximal runs -/

/-- the first field is the separator-free prefix; the rest is the split of what follows the next separator run -/
theorem splitSep_unfold (s : Str) :
    splitSep s = s.takeWhile nsep :: (if s.dropWhile nsep = [] then [] else splitSep ((s.dropWhile nsep).dropWhile isSep)) := by
  induction s with
  | nil => simp [splitSep]
  | cons c t ih =>
    by_cases hc : isSep c = true
    · rw [splitSep_sep t c hc]
      simp [nsep, hc]
    · have hc' : isSep c = false := by simpa using hc
      obtain ⟨h, r, hr⟩ := splitSep_exists t
      rw [splitSep, hr]
      rw [hr] at ih
      injection ih with h1 h2
      simp [nsep, hc', h1, h2]

theorem digit_not_sep {c : Char} (h : c.isDigit = true) : isSep c = false := mant_not_sep (digit_mant h)

theorem expChar_not_sep {c : Char} (h : isExpChar c = true) : isSep c = false :=
  plain_not_sep (plain_of_pred isExpChar (by decide) h)

theorem allDigits_not_sep {d : Str} (h : allDigits d = true) : ∀ c ∈ d, isSep c = false := by
  intro c hc
  simp only [allDigits, List.all_eq_true] at h
  exact digit_not_sep (h c hc)

theorem LExp_no_sep {ex : Str} (h : LExp ex) : ∀ c ∈ ex, isSep c = false := by
  rcases h with ⟨_, _, rfl, ⟨e, rfl, he⟩, sg, d, rfl, hsg, hd⟩ | rfl
  · intro c hc
    simp only [List.mem_append, List.mem_singleton] at hc
    rcases hc with rfl | hc | hc
    · exact expChar_not_sep he
    · exact mant_not_sep (LSign_all hsg c hc)
    · exact digit_not_sep (hd.2 c hc)
  · nofun

/-- a token accepted by NUMBER (sign, mantissa, exponent: `isNumber_iff_NumLang`) holds no separator character (and is not empty:
`isNumber_ne_nil`) -/
theorem isNumber_no_sep {t : Str} (h : isNumber t = true) : ∀ c ∈ t, isSep c = false := by
  obtain ⟨sg, m, ex, rfl, hsg, hm, hex⟩ := (isNumber_iff_NumLang t).mp h
  intro c hc
  simp only [List.mem_append] at hc
  rcases hc with hc | hc | hc
  · exact mant_not_sep (LSign_all hsg c hc)
  · exact mant_not_sep (mantUL_all hm c hc)
  · exact LExp_no_sep hex c hc

theorem isNumber_ne_nil {t : Str} (h : isNumber t = true) : t ≠ [] := by
  intro ht; subst ht; simp [isNumber, parseNumber, parseMant] at h

/-- uniqueness of the decomposition `token ++ separator run ++ rest` -/
theorem decomp_unique {s t sp r : Str} (hs : s = t ++ sp ++ r) (ht : ∀ c ∈ t, isSep c = false) (hsp0 : sp ≠ [])
    (hsp : ∀ c ∈ sp, isSep c = true) (hr : ∀ d ∈ r.head?, isSep d = false) :
    t = s.takeWhile nsep ∧ sp ++ r = s.dropWhile nsep ∧ sp = (s.dropWhile nsep).takeWhile isSep ∧ r = (s.dropWhile nsep).dropWhile isSep := by
  obtain ⟨c0, sp', rfl⟩ := List.exists_cons_of_ne_nil hsp0
  have hc0 : isSep c0 = true := hsp c0 (by simp)
  have ht' : ∀ c ∈ t, nsep c = true := fun c hc => by simp [nsep, ht c hc]
  obtain ⟨h1, h2⟩ : s.takeWhile nsep = t ∧ s.dropWhile nsep = (c0 :: sp') ++ r := by
    rw [hs, List.append_assoc]
    exact span_append ht' (stop_cons (by simp [nsep, hc0]) (sp' ++ r))
  refine ⟨h1.symm, h2.symm, ?_, ?_⟩
  · rw [h2]; exact (span_append hsp hr).1.symm
  · rw [h2]; exact (span_append hsp hr).2.symm

/-! ## regex side: NUMBER on M1's strings -/

/-- the state after `(?P<chg>(NUMBER))` consumed the token `t`: groups 2 and 1 hold it -/
def afterChg (st : St) (t r : Str) : St := St.capture 1 st (St.capture 2 st (st.adv (toBytes t) (toBytes r)))

theorem chg_mem (s : Str) (st x : St) (hs : st.rest = toBytes s) :
    x ∈ (Re.group 1 (.group 2 numberBody)).ms st ↔ ∃ t r, s = t ++ r ∧ isNumber t = true ∧ x = afterChg st t r := by
  simp only [mem_ms_group, numberBody_lang s st _ hs]
  constructor
  · rintro ⟨m, ⟨m', ⟨t, r, h1, h2, rfl⟩, rfl⟩, rfl⟩
    exact ⟨t, r, h1, h2, rfl⟩
  · rintro ⟨t, r, h1, h2, rfl⟩
    exact ⟨_, ⟨_, ⟨t, r, h1, h2, rfl⟩, rfl⟩, rfl⟩

@[simp] theorem afterChg_rest (st : St) (t r : Str) : (afterChg st t r).rest = toBytes r := rfl

/-- the state after `(?P<chg>(NUMBER)) SEP` -/
def afterSep (st : St) (t sp r : Str) : St := (afterChg st t (sp ++ r)).adv (toBytes sp) (toBytes r)

/-- the final state of a CHGMULT match: charge token `t`, separator run `sp`, multiplicity digits `d`, rest `r3` -/
def chgmultEnd (st : St) (t sp d r3 : Str) : St :=
  St.capture 3 (afterSep st t sp (d ++ r3)) ((afterSep st t sp (d ++ r3)).adv (toBytes d) (toBytes r3))

theorem chgmultEnd_rest (st : St) (t sp d r3 : Str) : (chgmultEnd st t sp d r3).rest = toBytes r3 := rfl

/-! ## M1's reading of a CHGMULT line by maximal runs -/

def chgTok (s : Str) : Str := s.takeWhile nsep
def afterTok (s : Str) : Str := s.dropWhile nsep
def sepRun (s : Str) : Str := (afterTok s).takeWhile isSep
def afterSepS (s : Str) : Str := (afterTok s).dropWhile isSep

theorem decomp_s (s : Str) : s = chgTok s ++ sepRun s ++ afterSepS s := by
  simp [chgTok, sepRun, afterSepS, afterTok, List.append_assoc]

theorem sepRun_all (s : Str) : ∀ c ∈ sepRun s, isSep c = true := all_tw isSep _

theorem chgTok_no_sep (s : Str) : ∀ c ∈ chgTok s, isSep c = false := fun c hc => by
  simpa [nsep] using all_tw nsep s c hc

theorem sepRun_ne_nil {s : Str} (h : afterTok s ≠ []) : sepRun s ≠ [] := by
  unfold sepRun
  cases hr : afterTok s with
  | nil => exact absurd hr h
  | cons c u =>
    have : nsep c = false := dropWhile_head_not (p := nsep) hr
    have hc : isSep c = true := by simpa [nsep] using this
    simp [hc]

theorem afterSepS_head {s : Str} : afterSepS s = [] ∨ ∃ d u, afterSepS s = d :: u ∧ isSep d = false :=
  dropWhile_stop isSep _

theorem splitSep_cons2 {s a b : Str} {rest : List Str} (h : splitSep s = a :: b :: rest) :
    a = chgTok s ∧ afterTok s ≠ [] ∧ splitSep (afterSepS s) = b :: rest := by
  rw [splitSep_unfold s] at h
  by_cases h2 : s.dropWhile nsep = []
  · simp [h2] at h
  · simp only [h2, if_false, List.cons.injEq] at h
    exact ⟨h.1.symm, h2, h.2⟩

theorem splitSep_single {s a : Str} (h : splitSep s = [a]) : a = s ∧ ∀ c ∈ s, isSep c = false := by
  rw [splitSep_unfold s] at h
  by_cases h2 : s.dropWhile nsep = []
  · simp only [h2, if_true, List.cons.injEq, and_true] at h
    have hs : s.takeWhile nsep = s := by
      have := List.takeWhile_append_dropWhile (p := nsep) (l := s)
      rw [h2, List.append_nil] at this
      exact this
    exact ⟨by rw [← h, hs], hs ▸ chgTok_no_sep s⟩
  · simp only [h2, if_false, List.cons.injEq] at h
    exact absurd h.2 (splitSep_ne_nil _)

theorem splitSep_two (s c m : Str) (h : splitSep s = [c, m]) : c = chgTok s ∧ afterTok s ≠ [] ∧ m = afterSepS s := by
  obtain ⟨e1, h1, k1⟩ := splitSep_cons2 h
  exact ⟨e1, h1, (splitSep_single k1).1⟩

theorem splitSep_inv : ∀ (L : List Str) (s t : Str), splitSep s = t :: L →
    ∃ ps, s = t ++ joinR ps [] ∧ ps.map (·.2) = L ∧ (∀ c ∈ t, isSep c = false) ∧
      ∀ p ∈ ps, SepOk p.1 ∧ ∀ c ∈ p.2, isSep c = false
  | [], s, t, h => by
    obtain ⟨e, hs⟩ := splitSep_single h
    exact ⟨[], by simp [joinR, e], rfl, e ▸ hs, by simp⟩
  | b :: L, s, t, h => by
    obtain ⟨e1, h1, k1⟩ := splitSep_cons2 h
    obtain ⟨ps, hs, hmap, hb, hps⟩ := splitSep_inv L (afterSepS s) b k1
    refine ⟨(sepRun s, b) :: ps, ?_, by simp [hmap], e1 ▸ chgTok_no_sep s, ?_⟩
    · have d1 := decomp_s s
      rw [e1]
      simp only [joinR]
      rw [← hs, ← List.append_assoc]
      exact d1
    · intro p hp
      simp only [List.mem_cons] at hp
      rcases hp with rfl | hp
      · exact ⟨⟨sepRun_ne_nil h1, sepRun_all s⟩, hb⟩
      · exact hps p hp

/-- any decomposition token ++ separator run ++ (digits ++ rest) is the one by maximal runs -/
theorem decomp_digits {s t sp d r3 : Str} (hs : s = t ++ sp ++ (d ++ r3)) (ht : isNumber t = true) (hsp0 : sp ≠ [])
    (hsp : ∀ c ∈ sp, isSep c = true) (hd0 : d ≠ []) (hd : ∀ c ∈ d, c.isDigit = true) :
    t = chgTok s ∧ sp = sepRun s ∧ d ++ r3 = afterSepS s ∧ afterTok s ≠ [] := by
  obtain ⟨d0, d', rfl⟩ := List.exists_cons_of_ne_nil hd0
  have := decomp_unique hs (isNumber_no_sep ht) hsp0 hsp (stop_cons (digit_not_sep (hd d0 (by simp))) (d' ++ r3))
  refine ⟨this.1, this.2.2.1, this.2.2.2, ?_⟩
  intro h
  have h2 := this.2.1
  rw [show s.dropWhile nsep = afterTok s from rfl, h] at h2
  cases sp with
  | nil => exact hsp0 rfl
  | cons a b => simp at h2

/-! ## cgmp = `\A(?P<chg>NUMBER)SEP(?P<mult>\d+)\Z` -/

def CgmpCond (s : Str) : Prop :=
  isNumber (chgTok s) = true ∧ afterTok s ≠ [] ∧ afterSepS s ≠ [] ∧ allDigits (afterSepS s) = true

instance (s : Str) : Decidable (CgmpCond s) := by unfold CgmpCond; exact inferInstance

/-- what the groups `chg` and `mult` hold at the end of a CHGMULT match from the start of the text -/
theorem chgmultEnd_grp (s t sp d r3 : Str) (hs : s = t ++ sp ++ (d ++ r3)) :
    grp (chgmultEnd (St.init (toBytes s)) t sp d r3) 1 = some t ∧ grp (chgmultEnd (St.init (toBytes s)) t sp d r3) 3 = some d := by
  subst hs
  simp only [grp, chgmultEnd, afterSep, afterChg, St.init, St.group, capture_caps', adv_caps', adv_rest', List.lookup]
  simp [takeDiff_append', ofBytes_toBytes]

/-- `(?P<chg>(NUMBER)) SEP (?P<mult>\d+) \Z` -/
def DCgmp : OLang Caps :=
  DSeq (DCap 1 (DCap 2 (DKeep fun t => isNumber t = true))) (DSeq (DKeep (LPlus isSep)) (DSeq (DCap 3 (DKeep (LPlus Char.isDigit))) DEos))

theorem cext_cgmp : CExt (.seq (.group 1 (.group 2 numberBody)) (.seq sepPlus (.seq (.group 3 digits1) .eos))) DCgmp :=
  .seq (CExt.group 1 (CExt.group 2 (.ofExt numberBody_lang))) (.seq (.ofExt (Ext.plus cls_sep)) (.seq (CExt.group 3 (.ofExt ext_digits1)) .eos))

theorem DCgmp_iff (c : Caps) (t r : Str) (c' : Caps) : DCgmp c t r c' ↔
    ∃ n sp d, t = n ++ sp ++ (d ++ []) ∧ r = [] ∧ isNumber n = true ∧ LPlus isSep sp ∧ LPlus Char.isDigit d ∧
      c' = (3, toBytes d) :: (1, toBytes n) :: (2, toBytes n) :: c := by
  simp only [DCgmp, DSeq, DCap, DGroup, DKeep, DEos]
  constructor
  · rintro ⟨n, _, _, rfl, ⟨_, ⟨_, ⟨hn, rfl⟩, rfl⟩, rfl⟩, sp, _, _, rfl, ⟨hsp, rfl⟩, d, _, _, rfl, ⟨_, ⟨hd, rfl⟩, rfl⟩, rfl, rfl, rfl⟩
    exact ⟨n, sp, d, by simp, rfl, hn, hsp, hd, rfl⟩
  · rintro ⟨n, sp, d, rfl, rfl, hn, hsp, hd, rfl⟩
    exact ⟨n, _, _, by simp, ⟨_, ⟨_, ⟨hn, rfl⟩, rfl⟩, rfl⟩, sp, _, _, rfl, ⟨hsp, rfl⟩, d, _, _, rfl, ⟨_, ⟨hd, rfl⟩, rfl⟩, rfl, rfl, rfl⟩

theorem cgmpRe_eq (s : Str) : cgmpRe s = if CgmpCond s then some (chgTok s, afterSepS s) else none := by
  unfold cgmpRe
  rw [cgmp_shape, cgmp_groups.1, cgmp_groups.2]
  refine cext_cgmp.match_bos s (g := fun c => match (c.lookup 1).map ofBytes, (c.lookup 3).map ofBytes with
    | some c, some m => some (c, m) | _, _ => none) (fun t r c hs hD => ?_) fun hne => ?_
  · obtain ⟨n, sp, d, rfl, rfl, hn, hsp, hd, rfl⟩ := (DCgmp_iff ..).mp hD
    obtain ⟨e1, e2, e3, e4⟩ := decomp_digits (r3 := []) (by simpa using hs) hn hsp.1 hsp.2 hd.1 hd.2
    simp only [List.append_nil] at e3
    have hc : CgmpCond s := ⟨e1 ▸ hn, e4, e3 ▸ hd.1, by rw [← e3]; simpa [allDigits, List.all_eq_true] using hd.2⟩
    simp [List.lookup, ofBytes_toBytes, hc, e1, e3]
  · have hc : CgmpCond s := by
      by_cases h : CgmpCond s
      · exact h
      · simp [h] at hne
    obtain ⟨h1, h2, h3, h4⟩ := hc
    exact ⟨s, [], _, by simp, (DCgmp_iff ..).mpr ⟨chgTok s, sepRun s, afterSepS s, by simpa using decomp_s s, rfl, h1,
      ⟨sepRun_ne_nil h2, sepRun_all s⟩, ⟨h3, by simpa [allDigits, List.all_eq_true] using h4⟩, rfl⟩⟩

theorem classifyRest_ne_cgmp (s : Str) (c : NumParts) (m : Str) : classifyRest s ≠ .cgmp c m := by
  intro h
  cases classifyRest_case h

theorem classify_cgmp_iff (s : Str) (cn : NumParts) (m : Str) :
    classify s = .cgmp cn m ↔ s ≠ [] ∧ ∃ c, splitSep s = [c, m] ∧ parseNumber c = some cn ∧ allDigits m = true ∧ m ≠ [] := by
  unfold classify
  by_cases hs : s = []
  · subst hs; simp
  · have hse : s.isEmpty = false := by simpa [List.isEmpty_iff] using hs
    simp only [hse, Bool.false_eq_true, if_false, ne_eq, hs, not_false_eq_true, true_and]
    generalize splitSep s = T
    rcases T with _ | ⟨a, _ | ⟨b, _ | ⟨c, _ | ⟨d, _ | ⟨e, T⟩⟩⟩⟩⟩
    · simp [classifyRest_ne_cgmp]
    · simp [classifyRest_ne_cgmp]
    · simp only [List.cons.injEq, and_true]
      cases hp : parseNumber a with
      | none => simp [classifyRest_ne_cgmp, hp]
      | some pn =>
        by_cases hd : (allDigits b && !b.isEmpty) = true
        · simp only [hd, if_true, Line.cgmp.injEq]
          simp only [Bool.and_eq_true, Bool.not_eq_true', List.isEmpty_eq_false_iff] at hd
          constructor
          · rintro ⟨rfl, rfl⟩; exact ⟨a, ⟨rfl, rfl⟩, by simp [hp], hd.1, hd.2⟩
          · rintro ⟨c, ⟨rfl, rfl⟩, h2, _, _⟩
            rw [hp] at h2; injection h2 with h2; exact ⟨h2, rfl⟩
        · simp only [hd, classifyRest_ne_cgmp, false_iff, Bool.false_eq_true, if_false]
          rintro ⟨c, ⟨rfl, rfl⟩, _, h3, h4⟩
          simp [h3, h4] at hd
    · simp [classifyRest_ne_cgmp]
    · simp only [List.cons.injEq, reduceCtorEq, and_false, false_and, exists_false, iff_false]
      split <;> simp [classifyRest_ne_cgmp]
    · simp [classifyRest_ne_cgmp]

theorem cgmpHand_eq (s : Str) : cgmpHand s = if CgmpCond s then some (chgTok s, afterSepS s) else none := by
  by_cases h : CgmpCond s
  · rw [if_pos h]
    obtain ⟨h1, h2, h3, h4⟩ := h
    have hsplit : splitSep s = [chgTok s, afterSepS s] := by
      rw [splitSep_unfold s]
      have h2' : s.dropWhile nsep ≠ [] := h2
      simp only [h2', if_false]
      have := splitSep_tok_append (afterSepS s) [] [] [] (allDigits_not_sep h4) (by simp [splitSep])
      simp only [List.append_nil] at this
      exact congrArg _ this
    have hs : s ≠ [] := by
      intro h0; subst h0; exact h2 rfl
    cases hp : parseNumber (chgTok s) with
    | none => simp [isNumber, hp] at h1
    | some cn =>
      have := (classify_cgmp_iff s cn (afterSepS s)).mpr ⟨hs, chgTok s, hsplit, hp, h4, h3⟩
      simp [cgmpHand, this, hsplit]
  · rw [if_neg h]
    unfold cgmpHand
    split
    · rename_i cn m hcl
      exfalso
      obtain ⟨_, c, h1, h2, h3, h4⟩ := (classify_cgmp_iff s cn m).mp hcl
      obtain ⟨e1, e2, e3⟩ := splitSep_two s c m h1
      exact h ⟨by rw [← e1]; simp [isNumber, h2], e2, e3 ▸ h4, e3 ▸ h3⟩
    · rfl

theorem cgmp_eq_regex (s : Str) : cgmpRe s = cgmpHand s := by
  rw [cgmpRe_eq, cgmpHand_eq]


/-! ## xyz2 = `\A` CHGMULT (prefix match): the first way to match takes the longest multiplicity digits -/

def multTok (s : Str) : Str := (afterSepS s).takeWhile Char.isDigit
def afterMult (s : Str) : Str := (afterSepS s).dropWhile Char.isDigit

def Xyz2Cond (s : Str) : Prop := isNumber (chgTok s) = true ∧ afterTok s ≠ [] ∧ multTok s ≠ []

instance (s : Str) : Decidable (Xyz2Cond s) := by unfold Xyz2Cond; exact inferInstance

theorem xyz2Hand_eq (s : Str) : xyz2Hand s = if Xyz2Cond s then some (chgTok s, multTok s) else none := by
  unfold xyz2Hand matchXyz2 Xyz2Cond
  have hns : nsep = fun c => !isSep c := rfl
  simp only [chgTok, afterTok, multTok, afterSepS, hns]
  split
  · rename_i hp
    simp [isNumber, hp]
  · rename_i c hp
    split
    · rename_i hr
      simp [hr]
    · rename_i a b hr
      split
      · rename_i hm
        have : List.takeWhile Char.isDigit (List.dropWhile isSep (List.dropWhile (fun c => !isSep c) s)) = [] := by
          simpa [List.isEmpty_iff] using hm
        simp [this]
      · rename_i hm
        have : List.takeWhile Char.isDigit (List.dropWhile isSep (List.dropWhile (fun c => !isSep c) s)) ≠ [] := by
          simpa [List.isEmpty_iff] using hm
        rw [hr] at this
        simp [isNumber, hp, hr, this]

theorem afterTok_split (s : Str) : afterTok s = sepRun s ++ afterSepS s := by
  simp [sepRun, afterSepS]

theorem afterSepS_split (s : Str) : afterSepS s = multTok s ++ afterMult s := by
  simp [multTok, afterMult]

/-- matcher state (no relation to the models M1 / M2): after the charge token and the whole separator run, both taken by maximal
runs -/
def M2 (s : Str) : St := afterSep (St.init (toBytes s)) (chgTok s) (sepRun s) (afterSepS s)

/-- CHGMULT from the start of the text, bracketed so that the one choice that matters (how many digits) comes last -/
theorem xyz2_ms (s : Str) : FromStringRegex.xyz2.ms (St.init (toBytes s)) =
    ((Re.seq (.group 1 (.group 2 numberBody)) sepPlus).ms (St.init (toBytes s))).flatMap (Re.group 3 digits1).ms := by
  have : FromStringRegex.xyz2.ms (St.init (toBytes s)) = chgmultRe.ms (St.init (toBytes s)) := by
    rw [xyz2_shape]
    simp [Re.ms, holdsAt, St.init]
  rw [this]
  exact List.flatMap_assoc.symm

/-- a way to match `(?P<chg>(NUMBER)) SEP` that multiplicity digits can follow takes the charge token and the separator run by
maximal runs -/
theorem chgSep_mem_of_mult (s : Str) {m : St}
    (hm : m ∈ (Re.seq (.group 1 (.group 2 numberBody)) sepPlus).ms (St.init (toBytes s))) (hy : (Re.group 3 digits1).ms m ≠ []) :
    m = M2 s ∧ Xyz2Cond s := by
  obtain ⟨m1, hm1, hm⟩ := mem_ms_seq.mp hm
  obtain ⟨t, r, hs, ht, rfl⟩ := (chg_mem s _ _ rfl).mp hm1
  obtain ⟨sp, r2, rfl, ⟨hsp0, hsp⟩, rfl⟩ := (Ext.plus cls_sep r _ _ (afterChg_rest _ t r)).mp hm
  obtain ⟨y, hy⟩ := List.exists_mem_of_ne_nil _ hy
  obtain ⟨y', hy', _⟩ := mem_ms_group.mp hy
  obtain ⟨d, r3, rfl, ⟨hd0, hd⟩, _⟩ := (ext_digits1 r2 _ _ rfl).mp hy'
  obtain ⟨e1, e2, e3, e4⟩ := decomp_digits (r3 := r3) (hs.trans (List.append_assoc ..).symm) ht hsp0 hsp hd0 hd
  refine ⟨by rw [M2, ← e1, ← e2, ← e3]; rfl, e1 ▸ ht, e4, ?_⟩
  unfold multTok
  rw [← e3, List.takeWhile_append_of_pos hd]
  exact fun h => hd0 (List.append_eq_nil_iff.mp h).1

theorem M2_mem (s : Str) (h1 : isNumber (chgTok s) = true) (h2 : afterTok s ≠ []) :
    M2 s ∈ (Re.seq (.group 1 (.group 2 numberBody)) sepPlus).ms (St.init (toBytes s)) :=
  mem_ms_seq.mpr ⟨_, (chg_mem s _ _ rfl).mpr ⟨chgTok s, afterTok s, by simp [chgTok, afterTok], h1, rfl⟩,
    (Ext.plus cls_sep (afterTok s) _ _ rfl).mpr ⟨sepRun s, afterSepS s, afterTok_split s, ⟨sepRun_ne_nil h2, sepRun_all s⟩, by
      simp only [M2, afterSep, afterTok_split s]⟩⟩

/-- from `M2 s`, the first way `(?P<mult>\d+)` (group 3) matches takes the longest digit run -/
theorem G3_head (s : Str) (h : multTok s ≠ []) :
    ((Re.group 3 digits1).ms (M2 s)).head? =
      some (chgmultEnd (St.init (toBytes s)) (chgTok s) (sepRun s) (multTok s) (afterMult s)) := by
  show ((digits1.ms (M2 s)).map (St.capture 3 (M2 s))).head? = _
  rw [List.head?_map, digits1, plus_head_str cls_digit (afterSepS s) _ rfl h]
  simp only [Option.map_some, chgmultEnd, M2, ← afterSepS_split s]
  rfl

theorem xyz2_head (s : Str) :
    (FromStringRegex.xyz2.ms (St.init (toBytes s))).head? =
      if Xyz2Cond s then some (chgmultEnd (St.init (toBytes s)) (chgTok s) (sepRun s) (multTok s) (afterMult s)) else none := by
  rw [xyz2_ms]
  by_cases hc : Xyz2Cond s
  · rw [if_pos hc]
    refine head?_flatMap_of_all _ _ _ (fun m hm => ?_) ⟨M2 s, M2_mem s hc.1 hc.2.1, fun h => ?_⟩
    · by_cases hne : (Re.group 3 digits1).ms m = []
      · exact Or.inl hne
      · rw [(chgSep_mem_of_mult s hm hne).1]
        exact Or.inr (G3_head s hc.2.2)
    · have := G3_head s hc.2.2
      rw [h] at this
      cases this
  · rw [if_neg hc]
    refine List.head?_eq_none_iff.mpr (List.flatMap_eq_nil_iff.mpr fun m hm => ?_)
    by_cases hne : (Re.group 3 digits1).ms m = []
    · exact hne
    · exact absurd (chgSep_mem_of_mult s hm hne).2 hc

theorem xyz2Re_eq (s : Str) : xyz2Re s = if Xyz2Cond s then some (chgTok s, multTok s) else none := by
  unfold xyz2Re
  rw [matchPrefix_eq_head, xyz2_head s]
  by_cases h : Xyz2Cond s
  · rw [if_pos h, if_pos h]
    have hs : s = chgTok s ++ sepRun s ++ (multTok s ++ afterMult s) := by
      rw [← afterSepS_split]; exact decomp_s s
    simp only [Option.bind_some, xyz2_groups.1, xyz2_groups.2, (chgmultEnd_grp s _ _ _ _ hs).1, (chgmultEnd_grp s _ _ _ _ hs).2]
  · rw [if_neg h, if_neg h]; rfl

theorem xyz2_eq_regex (s : Str) : xyz2Re s = xyz2Hand s := by
  rw [xyz2Re_eq, xyz2Hand_eq]


end QcelVerif.MolText
