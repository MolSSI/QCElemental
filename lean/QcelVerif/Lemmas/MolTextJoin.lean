import QcelVerif.Lemmas.MolText
/-!
C07 — the TEXT level of the molecule text layer (Model/MolText.lean): how `strip`, `filterComments` and `splitLines`
act on lines joined with "\n".  Used by Props/C07Text.lean and Lemmas/C07ReFrags.lean.
-/
namespace QcelVerif.MolText

/-! ## joined lines -/

/-- `"\n".join(ls)` -/
def joinLines : List Str → Str
  | [] => []
  | l :: r => l ++ r.flatMap ('\n' :: ·)

/-- no `#` and no newline -/
def Clean (l : Str) : Prop := ∀ c ∈ l, (c == '#') = false ∧ (c == '\n') = false
/-- not only whitespace -/
def NonBlank (l : Str) : Prop := ∃ c ∈ l, isWs c = false
/-- whitespace or backslash -/
def isWsBs (c : Char) : Bool := isWs c || c == '\\'
/-- first and last character exist and are not whitespace; the last is not a backslash either (decidable) -/
def Tight (l : Str) : Prop := l.head?.map isWs = some false ∧ l.getLast?.map isWsBs = some false

instance (l : Str) : Decidable (Clean l) := by unfold Clean; infer_instance
instance (l : Str) : Decidable (Tight l) := by unfold Tight; infer_instance

theorem clean_nil : Clean [] := by intro c hc; cases hc

theorem clean_append {a b : Str} (ha : Clean a) (hb : Clean b) : Clean (a ++ b) := by
  intro c hc; rw [List.mem_append] at hc; rcases hc with hc | hc; exact ha c hc; exact hb c hc

theorem clean_cons {c : Char} {b : Str} (hc : (c == '#') = false ∧ (c == '\n') = false) (hb : Clean b) :
    Clean (c :: b) := by
  intro x hx; rw [List.mem_cons] at hx; rcases hx with rfl | hx; exact hc; exact hb x hx

theorem clean_of_subset {a b : Str} (h : ∀ c ∈ a, c ∈ b) (hb : Clean b) : Clean a := fun c hc => hb c (h c hc)

theorem nl_is_ws : isWs '\n' = true := by decide

/-! ## splitLines -/

theorem splitLines_exists (s : Str) : ∃ h r, splitLines s = h :: r := by
  cases s with
  | nil => exact ⟨[], [], rfl⟩
  | cons c t =>
    simp only [splitLines]
    split
    · exact ⟨[], [], rfl⟩
    · split <;> exact ⟨_, _, rfl⟩

theorem splitLines_line (l : Str) (hl : ∀ c ∈ l, (c == '\n') = false) : splitLines l = [l] := by
  induction l with
  | nil => rfl
  | cons c l ih =>
    have hc := hl c (by simp)
    simp [splitLines, ih (fun x hx => hl x (by simp [hx])), hc]

theorem splitLines_append_nl (l rest : Str) (hl : ∀ c ∈ l, (c == '\n') = false) :
    splitLines (l ++ '\n' :: rest) = l :: splitLines rest := by
  induction l with
  | nil =>
    obtain ⟨h, r, hr⟩ := splitLines_exists rest
    simp [splitLines, hr]
  | cons c l ih =>
    have hc := hl c (by simp)
    simp [splitLines, ih (fun x hx => hl x (by simp [hx])), hc]

theorem splitLines_join_aux (l : Str) (r : List Str) (hl : ∀ c ∈ l, (c == '\n') = false)
    (hr : ∀ m ∈ r, ∀ c ∈ m, (c == '\n') = false) : splitLines (l ++ r.flatMap ('\n' :: ·)) = l :: r := by
  induction r generalizing l with
  | nil => simpa using splitLines_line l hl
  | cons m r ih =>
    have := ih m (hr m (by simp)) (fun x hx => hr x (by simp [hx]))
    rw [List.flatMap_cons, List.cons_append, splitLines_append_nl l _ hl, this]

/-- `"\n".join(ls).split("\n") == ls` for newline-free lines (at least one line) -/
theorem splitLines_join (ls : List Str) (hne : ls ≠ []) (h : ∀ l ∈ ls, ∀ c ∈ l, (c == '\n') = false) :
    splitLines (joinLines ls) = ls := by
  cases ls with
  | nil => exact absurd rfl hne
  | cons l r => exact splitLines_join_aux l r (h l (by simp)) (fun m hm => h m (by simp [hm]))

theorem flatMap_nl_shift (r : List Str) : r.flatMap ('\n' :: ·) ++ ['\n'] = '\n' :: render r := by
  induction r with
  | nil => rfl
  | cons m r ih =>
    simp only [List.flatMap_cons, render, List.cons_append, List.append_assoc, List.nil_append] at ih ⊢
    rw [ih]

/-- the writers' `"\n".join(smol) + "\n"` -/
theorem render_eq_join (ls : List Str) (hne : ls ≠ []) : render ls = joinLines ls ++ ['\n'] := by
  cases ls with
  | nil => exact absurd rfl hne
  | cons l r =>
    simp only [joinLines, List.append_assoc, flatMap_nl_shift]
    simp [render]

/-! ## filterComments on comment-free text -/

theorem filterComments_id (s : Str) (hs : ∀ c ∈ s, (c == '#') = false) : filterComments s = s := by
  have := fcGo_plain none s [] hs
  simpa [filterComments, fcGo] using this

/-! ## strip -/

theorem blank_or_nonblank (l : Str) : (∀ c ∈ l, isWs c = true) ∨ NonBlank l := by
  induction l with
  | nil => left; intro c hc; cases hc
  | cons c l ih =>
    cases hc : isWs c with
    | false => right; exact ⟨c, by simp, hc⟩
    | true =>
      rcases ih with h | ⟨x, hx, hx'⟩
      · left; intro y hy; rw [List.mem_cons] at hy; rcases hy with rfl | hy; exact hc; exact h y hy
      · right; exact ⟨x, by simp [hx], hx'⟩

theorem nonblank_reverse {l : Str} (h : NonBlank l) : NonBlank l.reverse := by
  obtain ⟨c, hc, hw⟩ := h; exact ⟨c, by simpa using hc, hw⟩

theorem nonblank_of_cons {c : Char} {l : Str} (h : NonBlank (c :: l)) (hc : isWs c = true) : NonBlank l := by
  obtain ⟨x, hx, hw⟩ := h
  rcases List.mem_cons.mp hx with rfl | hx
  · rw [hc] at hw; cases hw
  · exact ⟨x, hx, hw⟩

theorem stripL_cons_ws {c : Char} (l : Str) (hc : isWs c = true) : stripL (c :: l) = stripL l := by
  simp [stripL, List.dropWhile, hc]

theorem stripL_append_nonblank (l t : Str) (h : NonBlank l) : stripL (l ++ t) = stripL l ++ t := by
  induction l with
  | nil => obtain ⟨c, hc, _⟩ := h; cases hc
  | cons c l ih =>
    cases hc : isWs c with
    | false => simp [stripL, hc]
    | true => rw [List.cons_append, stripL_cons_ws _ hc, stripL_cons_ws _ hc, ih (nonblank_of_cons h hc)]

theorem stripR_append_nonblank (t l : Str) (h : NonBlank l) : stripR (t ++ l) = t ++ stripR l := by
  have := stripL_append_nonblank l.reverse t.reverse (nonblank_reverse h)
  unfold stripR
  unfold stripL at this
  rw [List.reverse_append, this]
  simp

/-- `rstrip` keeps a non-blank first character in place -/
theorem stripR_head (c : Char) (l : Str) (hc : isWs c = false) : ∃ x, stripR (c :: l) = c :: x := by
  rcases blank_or_nonblank l with h | h
  · refine ⟨[], ?_⟩
    have : c :: l = [c] ++ l := rfl
    rw [this, stripR_ws_suffix [c] l h]
    simp [stripR, hc]
  · refine ⟨stripR l, ?_⟩
    have : c :: l = [c] ++ l := rfl
    rw [this, stripR_append_nonblank [c] l h]; rfl

theorem stripL_stripR_comm (l : Str) : stripL (stripR l) = stripR (stripL l) := by
  induction l with
  | nil => rfl
  | cons c l ih =>
    cases hc : isWs c with
    | false =>
      obtain ⟨x, hx⟩ := stripR_head c l hc
      rw [stripL_head c l hc, hx, stripL_head c x hc]
    | true =>
      rw [stripL_cons_ws l hc]
      rcases blank_or_nonblank l with h | h
      · have hall : ∀ x ∈ c :: l, isWs x = true := by
          intro x hx; rw [List.mem_cons] at hx; rcases hx with rfl | hx; exact hc; exact h x hx
        rw [stripR_blank _ hall, stripL_blank l h]; rfl
      · rw [show c :: l = [c] ++ l from rfl, stripR_append_nonblank [c] l h, List.singleton_append,
          stripL_cons_ws _ hc, ih]

theorem dropWhile_idem (p : Char → Bool) (l : Str) : (l.dropWhile p).dropWhile p = l.dropWhile p :=
  (span_append (List.forall_mem_nil _) (stop_dropWhile p l)).2

theorem stripL_stripL (l : Str) : stripL (stripL l) = stripL l := dropWhile_idem _ l
theorem stripR_stripR (l : Str) : stripR (stripR l) = stripR l := by
  unfold stripR; rw [List.reverse_reverse, dropWhile_idem]

theorem strip_stripL (l : Str) : strip (stripL l) = strip l := by unfold strip; rw [stripL_stripL]
theorem strip_stripR (l : Str) : strip (stripR l) = strip l := by
  unfold strip; rw [stripL_stripR_comm, stripR_stripR]
theorem strip_strip (l : Str) : strip (strip l) = strip l := by
  show strip (stripR (stripL l)) = _
  rw [strip_stripR, strip_stripL]

/-- whitespace around any text is removed by the outer `strip` -/
theorem strip_frame (p s q : Str) (hp : ∀ c ∈ p, isWs c = true) (hq : ∀ c ∈ q, isWs c = true) :
    strip (p ++ s ++ q) = strip s := by
  unfold strip
  rw [List.append_assoc, stripL_ws_prefix p _ hp, ← stripL_stripR_comm, stripR_ws_suffix s q hq, stripL_stripR_comm]

theorem mem_stripL {l : Str} {c : Char} (h : c ∈ stripL l) : c ∈ l :=
  (List.dropWhile_sublist _).subset h
theorem mem_stripR {l : Str} {c : Char} (h : c ∈ stripR l) : c ∈ l := by
  unfold stripR at h
  rw [List.mem_reverse] at h
  have := (List.dropWhile_sublist _).subset h
  simpa using this

theorem nonblank_stripL {l : Str} (h : NonBlank l) : NonBlank (stripL l) := by
  induction l with
  | nil => obtain ⟨c, hc, _⟩ := h; cases hc
  | cons c l ih =>
    cases hc : isWs c with
    | false => rw [stripL_head c l hc]; exact ⟨c, by simp, hc⟩
    | true =>
      rw [stripL_cons_ws l hc]
      exact ih (nonblank_of_cons h hc)

theorem nonblank_of_headOk {l : Str} (h : l.head?.map isWs = some false) : NonBlank l := by
  cases l with
  | nil => simp at h
  | cons c t => exact ⟨c, by simp, by simpa using h⟩

theorem nonblank_of_tight {l : Str} (h : Tight l) : NonBlank l := nonblank_of_headOk h.1

theorem wsbs_ws {c : Char} (h : isWsBs c = false) : isWs c = false := by
  simp only [isWsBs, Bool.or_eq_false_iff] at h; exact h.1

theorem getLast?_split {l : Str} {q : Char → Bool} (h : l.getLast?.map q = some false) :
    ∃ ys b, l = ys ++ [b] ∧ q b = false := by
  cases hg : l.getLast? with
  | none => rw [hg] at h; simp at h
  | some b =>
    rw [hg] at h
    obtain ⟨ys, hys⟩ := List.getLast?_eq_some_iff.mp hg
    exact ⟨ys, b, hys, by simpa using h⟩

theorem stripR_lastOk {l : Str} (h : l.getLast?.map isWsBs = some false) : stripR l = l := by
  obtain ⟨ys, b, rfl, hb⟩ := getLast?_split h
  exact stripR_concat ys b (wsbs_ws hb)

theorem strip_tight {l : Str} (h : Tight l) : strip l = l := by
  unfold strip; rw [stripL_headOk h.1, stripR_lastOk h.2]

theorem map_strip_tight {ls : List Str} (h : ∀ l ∈ ls, Tight l) : ls.map strip = ls :=
  map_eq_self fun l hl => strip_tight (h l hl)

theorem lastOk_append_right (a : Str) {b : Str} (h : b.getLast?.map isWsBs = some false) :
    (a ++ b).getLast?.map isWsBs = some false := by
  obtain ⟨ys, x, hys, hx⟩ := getLast?_split h
  rw [hys, ← List.append_assoc, List.getLast?_concat]
  simpa using hx

theorem lastOk_cons (c : Char) {b : Str} (h : b.getLast?.map isWsBs = some false) :
    (c :: b).getLast?.map isWsBs = some false := lastOk_append_right [c] h

theorem tight_of_all {l : Str} (hne : l ≠ []) (h : ∀ c ∈ l, isWsBs c = false) : Tight l := by
  constructor
  · cases l with
    | nil => exact absurd rfl hne
    | cons c t => simpa using wsbs_ws (h c (by simp))
  · cases hg : l.getLast? with
    | none => exact absurd (List.getLast?_eq_none_iff.mp hg) hne
    | some b =>
      obtain ⟨ys, hys⟩ := List.getLast?_eq_some_iff.mp hg
      simpa using h b (by simp [hys])

/-! ## the text of joined lines, read back -/

/-- joined lines end with their last line -/
theorem joinLines_concat (init : List Str) : ∃ x, ∀ l, joinLines (init ++ [l]) = x ++ l := by
  cases init with
  | nil => exact ⟨[], fun l => by simp [joinLines]⟩
  | cons a r => exact ⟨a ++ r.flatMap ('\n' :: ·) ++ ['\n'], fun l => by simp [joinLines, List.flatMap_append]⟩

/-- whitespace (blanks, tabs, empty lines, …) before and after a text does not change its lines -/
theorem textLines_frame (p s q : Str) (hp : ∀ c ∈ p, isWs c = true) (hq : ∀ c ∈ q, isWs c = true) :
    textLines (p ++ s ++ q) = textLines s := by
  unfold textLines; rw [strip_frame p s q hp hq]

/-! ## comments at the end of lines -/

/-- a line with an optional `#comment` appended -/
def withCom (p : Str × Option Str) : Str :=
  match p.2 with
  | none => p.1
  | some c => p.1 ++ '#' :: c

/-- the line part is clean; if there is a comment, the line part does not end in a backslash and the comment holds
no newline -/
def ComOk (p : Str × Option Str) : Prop :=
  Clean p.1 ∧ ∀ c, p.2 = some c → lastOr none p.1 ≠ some '\\' ∧ ∀ x ∈ c, (x == '\n') = false

theorem lastOr_ne (prev : Option Char) (s : Str) (hp : prev ≠ some '\\') (hs : lastOr none s ≠ some '\\') :
    lastOr prev s ≠ some '\\' := by
  cases s with
  | nil => exact hp
  | cons x t => exact hs

/-- one line (with its comment) in front of a tail that is empty or starts with a newline -/
theorem fcGo_line (p : Str × Option Str) (t r : Str) (ht : ∀ b pv, fcGo b pv t = r) (prev : Option Char)
    (hprev : prev ≠ some '\\') (hp : ComOk p) : fcGo false prev (withCom p ++ t) = p.1 ++ r := by
  obtain ⟨s, c⟩ := p
  obtain ⟨hs, hc⟩ := hp
  cases c with
  | none => rw [withCom, fcGo_plain prev s t (fun x hx => (hs x hx).1), ht]
  | some c =>
    obtain ⟨hl, hcn⟩ := hc c rfl
    rw [withCom, fcGo_comment prev s c t (fun x hx => (hs x hx).1) (lastOr_ne prev s hprev hl) hcn, ht]

theorem fcGo_tail (ps : List (Str × Option Str)) (hps : ∀ p ∈ ps, ComOk p) (b : Bool) (pv : Option Char) :
    fcGo b pv ((ps.map withCom).flatMap ('\n' :: ·)) = (ps.map (·.1)).flatMap ('\n' :: ·) := by
  induction ps generalizing b pv with
  | nil => cases b <;> rfl
  | cons p ps ih =>
    have ih' := ih (fun q hq => hps q (by simp [hq]))
    simp only [List.map_cons, List.flatMap_cons, List.cons_append]
    rw [fcGo_nl, fcGo_line p _ _ ih' (some '\n') (by decide) (hps p (by simp))]

/-- `filter_comments` on joined lines removes exactly the comments -/
theorem filterComments_join (ps : List (Str × Option Str)) (hps : ∀ p ∈ ps, ComOk p) :
    filterComments (joinLines (ps.map withCom)) = joinLines (ps.map (·.1)) := by
  cases ps with
  | nil => rfl
  | cons p ps =>
    simp only [List.map_cons, joinLines, filterComments]
    exact fcGo_line p _ _ (fcGo_tail ps (fun q hq => hps q (by simp [hq]))) none (by simp) (hps p (by simp))

/-- `lstrip` of a line with comment acts on the line part (when that is not blank): `stripL_withCom` -/
def lstripCom (p : Str × Option Str) : Str × Option Str := (stripL p.1, p.2)
/-- `rstrip` of a line with comment: on the line part if there is no comment, else on the comment (`#` is not blank, so
`'#' :: c` keeps its `#`, which `drop 1` takes off again): `stripR_withCom` -/
def rstripCom (p : Str × Option Str) : Str × Option Str :=
  match p.2 with
  | none => (stripR p.1, none)
  | some c => (p.1, some ((stripR ('#' :: c)).drop 1))

theorem hash_not_ws : isWs '#' = false := by decide

theorem stripL_withCom (p : Str × Option Str) (h : NonBlank p.1) : stripL (withCom p) = withCom (lstripCom p) := by
  obtain ⟨s, c⟩ := p
  cases c with
  | none => rfl
  | some c => simp only [withCom, lstripCom]; exact stripL_append_nonblank s _ h

theorem stripR_withCom (p : Str × Option Str) : stripR (withCom p) = withCom (rstripCom p) := by
  obtain ⟨s, c⟩ := p
  cases c with
  | none => rfl
  | some c =>
    obtain ⟨x, hx⟩ := stripR_head '#' c hash_not_ws
    simp only [withCom, rstripCom]
    rw [stripR_append_nonblank s _ ⟨'#', by simp, hash_not_ws⟩, hx]
    rfl

theorem lastOr_append (prev : Option Char) (a b : Str) : lastOr prev (a ++ b) = lastOr (lastOr prev a) b := by
  induction a generalizing prev with
  | nil => rfl
  | cons x a ih => exact ih (some x)

/-- a line whose last character is neither blank nor a backslash may take a comment -/
theorem lastOr_of_lastOk {l : Str} (h : l.getLast?.map isWsBs = some false) : lastOr none l ≠ some '\\' := by
  obtain ⟨ys, b, hys, hb⟩ := getLast?_split h
  rw [hys, lastOr_append]
  show some b ≠ some '\\'
  intro hbb
  injection hbb with hbb
  subst hbb
  exact absurd hb (by decide)

theorem lastOr_stripL (s : Str) (h : NonBlank s) : lastOr none (stripL s) = lastOr none s := by
  have hs : s = s.takeWhile isWs ++ stripL s := (List.takeWhile_append_dropWhile).symm
  have hne := nonblank_stripL h
  cases hd : stripL s with
  | nil => rw [hd] at hne; obtain ⟨c, hc, _⟩ := hne; cases hc
  | cons x t =>
    rw [hs, lastOr_append, hd]
    rfl

theorem comOk_lstrip (p : Str × Option Str) (h : ComOk p) (hb : NonBlank p.1) : ComOk (lstripCom p) := by
  obtain ⟨hs, hc⟩ := h
  refine ⟨clean_of_subset (fun c hc => mem_stripL hc) hs, ?_⟩
  intro c hcc
  obtain ⟨h1, h2⟩ := hc c hcc
  exact ⟨by simpa [lstripCom, lastOr_stripL p.1 hb] using h1, h2⟩

theorem comOk_rstrip (p : Str × Option Str) (h : ComOk p) : ComOk (rstripCom p) := by
  obtain ⟨s, c⟩ := p
  obtain ⟨hs, hc⟩ := h
  cases c with
  | none =>
    refine ⟨clean_of_subset (fun c hc => mem_stripR hc) hs, ?_⟩
    intro c hcc; cases hcc
  | some c =>
    obtain ⟨h1, h2⟩ := hc c rfl
    refine ⟨hs, ?_⟩
    intro c' hcc
    simp only [rstripCom, Option.some.injEq] at hcc
    subst hcc
    refine ⟨h1, ?_⟩
    intro x hx
    have hx' : x ∈ '#' :: c := mem_stripR (List.mem_of_mem_drop hx)
    rw [List.mem_cons] at hx'
    rcases hx' with rfl | hx'
    · decide
    · exact h2 x hx'

theorem strip_lstripCom (p : Str × Option Str) : strip (lstripCom p).1 = strip p.1 := strip_stripL p.1
theorem strip_rstripCom (p : Str × Option Str) : strip (rstripCom p).1 = strip p.1 := by
  obtain ⟨s, c⟩ := p
  cases c with
  | none => exact strip_stripR s
  | some c => rfl

theorem nonblank_withCom (p : Str × Option Str) (h : NonBlank p.1) : NonBlank (withCom p) := by
  obtain ⟨s, c⟩ := p
  obtain ⟨x, hx, hw⟩ := h
  cases c with
  | none => exact ⟨x, hx, hw⟩
  | some c => exact ⟨x, by simp [withCom]; exact Or.inl hx, hw⟩

theorem textLines_of_comOk (ps : List (Str × Option Str)) (hps : ∀ p ∈ ps, ComOk p) (hne : ps ≠ []) :
    (splitLines (filterComments (joinLines (ps.map withCom)))).map strip = (ps.map (·.1)).map strip := by
  rw [filterComments_join ps hps, splitLines_join _ (by simpa using hne)]
  intro l hl c hc
  rw [List.mem_map] at hl
  obtain ⟨p, hp, rfl⟩ := hl
  exact ((hps p hp).1 c hc).2

/-- the outer `rstrip` of joined lines only touches the last line (if it is not blank) -/
theorem textLines_rstrip (ps : List (Str × Option Str)) (hps : ∀ p ∈ ps, ComOk p)
    (hlast : ∀ p, ps.getLast? = some p → NonBlank p.1) (hne : ps ≠ []) :
    (splitLines (filterComments (stripR (joinLines (ps.map withCom))))).map strip = (ps.map (·.1)).map strip := by
  rcases List.eq_nil_or_concat ps with rfl | ⟨init, pn, rfl⟩
  · exact absurd rfl hne
  · rw [List.concat_eq_append] at hps hlast ⊢
    have hbn := hlast pn (List.getLast?_concat ..)
    obtain ⟨x, hx⟩ := joinLines_concat (init.map withCom)
    have e : stripR (joinLines ((init ++ [pn]).map withCom)) = joinLines ((init ++ [rstripCom pn]).map withCom) := by
      simp only [List.map_append, List.map_cons, List.map_nil, hx]
      rw [stripR_append_nonblank _ _ (nonblank_withCom pn hbn), stripR_withCom]
    rw [e, textLines_of_comOk _ (List.forall_mem_append.mpr
      ⟨fun p hp => hps p (by simp [hp]), by simpa using comOk_rstrip _ (hps pn (by simp))⟩) (by simp)]
    simp [strip_rstripCom]

/-- lines with `#comment` appended (line parts clean, not ending in a backslash,
first and last line part not blank) read back as the stripped line parts -/
theorem textLines_comments (ps : List (Str × Option Str)) (hps : ∀ p ∈ ps, ComOk p)
    (hfirst : ∀ p, ps.head? = some p → NonBlank p.1) (hlast : ∀ p, ps.getLast? = some p → NonBlank p.1)
    (hne : ps ≠ []) : textLines (joinLines (ps.map withCom)) = (ps.map (·.1)).map strip := by
  cases ps with
  | nil => exact absurd rfl hne
  | cons p0 rest =>
    have hb0 := hfirst p0 rfl
    -- the outer `lstrip` only touches the first line
    have e : strip (joinLines ((p0 :: rest).map withCom)) = stripR (joinLines ((lstripCom p0 :: rest).map withCom)) := by
      simp only [List.map_cons, joinLines, strip]
      rw [stripL_append_nonblank _ _ (nonblank_withCom p0 hb0), stripL_withCom p0 hb0]
    unfold textLines
    rw [e, textLines_rstrip _ (List.forall_mem_cons.mpr
      ⟨comOk_lstrip p0 (hps p0 (by simp)) hb0, fun p hp => hps p (by simp [hp])⟩) ?_ (by simp)]
    · simp [strip_lstripCom]
    · intro p hp
      cases rest with
      | nil => rw [Option.some.inj hp.symm]; exact nonblank_stripL hb0
      | cons q r => exact hlast p hp

/-- `textLines_comments` without comments: on lines without `#` and newline whose first and last line are not blank,
`strip` → `filter_comments` → `split("\n")` → per-line `strip` of the joined text is the per-line `strip` of the lines -/
theorem textLines_join (ls : List Str) (hc : ∀ l ∈ ls, Clean l)
    (hfirst : ∀ l, ls.head? = some l → NonBlank l) (hlast : ∀ l, ls.getLast? = some l → NonBlank l)
    (hne : ls ≠ []) : textLines (joinLines ls) = ls.map strip := by
  have h := textLines_comments (ls.map fun l => (l, none)) ?_ ?_ ?_ (by simpa using hne)
  · simpa [List.map_map, Function.comp_def, withCom] using h
  · intro p hp
    obtain ⟨l, hl, rfl⟩ := List.mem_map.mp hp
    exact ⟨hc l hl, fun c hcc => by cases hcc⟩
  · intro p hp
    rw [List.head?_map] at hp
    obtain ⟨l, hl, rfl⟩ := Option.map_eq_some_iff.mp hp
    exact hfirst l hl
  · intro p hp
    rw [List.getLast?_map] at hp
    obtain ⟨l, hl, rfl⟩ := Option.map_eq_some_iff.mp hp
    exact hlast l hl

/-- the same for the writers' `"\n".join(lines) + "\n"` -/
theorem textLines_render (ls : List Str) (hc : ∀ l ∈ ls, Clean l)
    (hfirst : ∀ l, ls.head? = some l → NonBlank l) (hlast : ∀ l, ls.getLast? = some l → NonBlank l)
    (hne : ls ≠ []) : textLines (render ls) = ls.map strip := by
  have : strip (render ls) = strip (joinLines ls) := by
    rw [render_eq_join ls hne]
    have := strip_frame [] (joinLines ls) ['\n'] (by simp) (by intro c hc; simp at hc; subst hc; decide)
    simpa using this
  have e : textLines (render ls) = textLines (joinLines ls) := by unfold textLines; rw [this]
  rw [e, textLines_join ls hc hfirst hlast hne]

end QcelVerif.MolText
