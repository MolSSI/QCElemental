import QcelVerif.Props.C12
/-!
# The residual of an arbitrary rigid motion versus the centred residual (`centred_le_motion`)

For any 3×3 matrix `U` (no orthogonality needed), any shift `s` and any two geometries of equal length, both

  `Σ_i |r_i − (c_i − s)·U|²`   and   `Σ_i |(r_i − r̄) − (c_i − c̄)·U|²`

are `Σ_i |x_i − p|²` for the SAME vectors `x_i = r_i − c_i·U`, with `p = −s·U` resp. `p = r̄ − c̄·U`, and the latter `p` is the
mean of the `x_i`: so the centred residual (what `kabsch_align` minimises over `U`) is a lower bound of the residual of the
motion `(U, s)` applied the way `align_coordinates` applies it (`(c − s)·U`, models/align.py:82-83) by
`centroid_shift_optimal` — the reason this file imports `Props/C12.lean`.  `centred_le_motion` is used by `Props/C12Full.lean`.
-/
namespace QcelVerif.Kabsch
variable {K : Type}

section Ring
variable [CommRing K]

theorem V3.sub_zero (v : V3 K) : v.sub V3.zero = v := by
  ext <;> simp only [V3.sub, V3.zero, _root_.sub_zero]

/-- shifting every reference atom by `a` and every concern atom by `b` shifts every residual vector `r − c·U` by
    `a − b·U` -/
theorem resid_shift (U : M3 K) (a b : V3 K) (raw : List (V3 K × V3 K)) :
    resid U (raw.map fun rc => (rc.1.sub a, rc.2.sub b))
      = sumNrm2 ((raw.map fun rc => rc.1.sub (rowMul rc.2 U)).map fun x => x.sub (a.sub (rowMul b U))) := by
  induction raw with
  | nil => rfl
  | cons h t ih =>
    have e : (h.1.sub a).sub (rowMul (h.2.sub b) U) = (h.1.sub (rowMul h.2 U)).sub (a.sub (rowMul b U)) := by
      rw [rowMul_sub]; ext <;> simp only [V3.sub] <;> ring
    simp only [List.map_cons, resid, sumNrm2, ih, e]

/-- the two-geometry form (`dist2`, align.py:200,250) is the paired form -/
theorem dist2_map_rowMul (g : V3 K → V3 K) (U : M3 K) : ∀ (Rg Cg : List (V3 K)),
    dist2 Rg (Cg.map fun c => rowMul (g c) U) = resid U (Rg.zip (Cg.map g))
  | [], _ => by simp [dist2, resid]
  | _ :: _, [] => by simp [dist2, resid]
  | r :: rs, c :: cs => by
    simp only [List.map_cons, dist2, List.zip_cons_cons, resid, dist2_map_rowMul g U rs cs]

end Ring

section Ordered
variable [Field K] [LinearOrder K] [IsStrictOrderedRing K]

/-- **the centred residual bounds the residual of every motion `(U, s)`** (any matrix `U`, any shift `s`) -/
theorem centred_le_motion (U : M3 K) (s : V3 K) (Rg Cg : List (V3 K)) (hlen : Rg.length = Cg.length) :
    resid U ((centre Rg).zip (centre Cg)) ≤ dist2 Rg (Cg.map (fun c => rowMul (c.sub s) U)) := by
  by_cases hR : Rg = []
  · subst hR
    simp [centre, resid, dist2]
  have hC : Cg ≠ [] := by
    intro h; subst h
    exact hR (List.length_eq_zero_iff.mp hlen)
  have hn : (Rg.zip Cg).length = Rg.length := by simp [List.length_zip, hlen]
  -- both sides as `Σ|x − p|²` over the residual vectors `x = r − c·U` of the raw pairs
  have hl : (centre Rg).zip (centre Cg)
      = (Rg.zip Cg).map (fun rc => (rc.1.sub (centroid Rg), rc.2.sub (centroid Cg))) := by
    simp only [centre, List.zip_map]
    rfl
  have hr : Rg.zip (Cg.map fun c => c.sub s) = (Rg.zip Cg).map (fun rc => (rc.1.sub V3.zero, rc.2.sub s)) := by
    simp only [List.zip_map_right, V3.sub_zero]
    rfl
  rw [dist2_map_rowMul (fun c => c.sub s) U, hl, hr, resid_shift, resid_shift]
  -- the mean of the `x` is `r̄ − c̄·U`
  apply centroid_shift_optimal
  have hc := vsum_map_rowMul U ((Rg.zip Cg).map Prod.snd)
  rw [List.map_map, List.map_snd_zip (le_of_eq hlen.symm)] at hc
  rw [vsum_map_sub Prod.fst, List.map_fst_zip (le_of_eq hlen), show (fun rc : V3 K × V3 K => rowMul rc.2 U)
    = (fun v => rowMul v U) ∘ Prod.snd from rfl, hc, List.length_map, hn, ← smul_centroid Rg hR, ← smul_centroid Cg hC,
    hlen, rowMul_smul]
  ext <;> simp only [V3.sub, V3.smul] <;> ring

end Ordered

end QcelVerif.Kabsch
