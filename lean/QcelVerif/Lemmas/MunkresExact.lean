import QcelVerif.Lemmas.MunkresInv2
import QcelVerif.Lemmas.MunkresTerm
import QcelVerif.Model.MunkresFloat
/-!
C14 — the values the exact Munkres run computes stay on the grid of the input and inside an explicit
box, so a work dtype that represents that box exactly reproduces the exact run.

* `OnGrid g x` — `x` is an integer multiple of `g` (`g = 1`: an integer; `g = 1/8`: the dyadic inputs);
* `CostBox g lo hi` — every cost entry is on the grid and in `[lo, hi]`; `K = hi − lo` is the spread;
* `GB g (2K)` — every entry of the working matrix is on the grid and `≤ 2K` (it is `≥ 0` by `Base`);
* `ArithVal st s x` — `x` is the result of an arithmetic operation of step `st` in state `s`;
  `doStepF_congr`: a rounding function that leaves those unchanged does not change the step (no invariant);
* `step1_arith`, `step6_arith` — under the step's invariant every such result is on the grid and in
  `[0, K]` resp. `[0, 4K]`; `step1_GB`, `step6_GB`: the entries written back are in `[0, 2K]`.

The key estimate (step 6, entry in a covered row `i` and a covered column `j`, the only entries that
grow): the row holds a star `(i, j*)` in an uncovered column, the column a star `(i', j)` in an
uncovered row, `minval ≤ C i' j*`, and `C i j + C i' j* = C i j* + C i' j + (cost i j + cost i' j* −
cost i j* − cost i' j) = 0 + 0 + (a cross difference of costs) ≤ 2K`.
-/
namespace QcelVerif.Munkres

/-! ### grid and box -/

/-- `x` is an integer multiple of `g` -/
def OnGrid (g x : Rat) : Prop := ∃ z : Int, x = z * g

theorem OnGrid.add {g x y : Rat} (hx : OnGrid g x) (hy : OnGrid g y) : OnGrid g (x + y) := by
  obtain ⟨a, rfl⟩ := hx
  obtain ⟨b, rfl⟩ := hy
  exact ⟨a + b, by push_cast; ring⟩

theorem OnGrid.sub {g x y : Rat} (hx : OnGrid g x) (hy : OnGrid g y) : OnGrid g (x - y) := by
  obtain ⟨a, rfl⟩ := hx
  obtain ⟨b, rfl⟩ := hy
  exact ⟨a - b, by push_cast; ring⟩

theorem OnGrid.zero (g : Rat) : OnGrid g 0 := ⟨0, by simp⟩

/-- every cost entry is on the grid `g·ℤ` and inside `[lo, hi]` -/
structure CostBox (g lo hi : Rat) (n m : Nat) (cost : Nat → Nat → Rat) : Prop where
  grid : ∀ i, i < n → ∀ j, j < m → OnGrid g (cost i j)
  lo_le : ∀ i, i < n → ∀ j, j < m → lo ≤ cost i j
  le_hi : ∀ i, i < n → ∀ j, j < m → cost i j ≤ hi

/-- every entry of the `n × m` working matrix is on the grid and at most `B` -/
def GB (g B : Rat) (n m : Nat) (C : Mat Rat) : Prop :=
  ∀ i, i < n → ∀ j, j < m → OnGrid g (get2 C i j) ∧ get2 C i j ≤ B

/-- `C = cost − u − v` makes every 2 × 2 cross difference of `C` the cross difference of `cost` -/
theorem pot_cross {n m : Nat} {cost : Nat → Nat → Rat} {C : Mat Rat} {M : Mat Nat}
    (h : Pot n m cost C M) {i i' j j' : Nat} (hi : i < n) (hi' : i' < n) (hj : j < m) (hj' : j' < m) :
    get2 C i j + get2 C i' j' - get2 C i j' - get2 C i' j
      = cost i j + cost i' j' - cost i j' - cost i' j := by
  obtain ⟨u, v, V, h1, _, _⟩ := h
  rw [h1 i hi j hj, h1 i' hi' j' hj', h1 i hi j' hj', h1 i' hi' j hj]
  ring

/-- **the results of the arithmetic the work dtype performs** at step `st` in state `s`
(`Model/MunkresFloat.lean`): `state.C -= state.C.min(axis=1)[:, np.newaxis]` of `_step1` (`x − rowmin`), and
of `_step6` `state.C[~state.row_uncovered] += minval` (`x + minval`, covered rows) followed by
`state.C[:, state.col_uncovered] -= minval` (`(…) − minval`, uncovered columns; on a covered row the minuend
is that sum) -/
def ArithVal (st : Step) (s : State) (x : Rat) : Prop :=
  match st with
  | .s1 => ∃ i j, i < s.C.size ∧ j < (s.C.getD i #[]).size ∧ x = get2 s.C i j - rowMin (s.C.getD i #[])
  | .s6 => (s.rowUnc.any id && s.colUnc.any id) = true ∧
      ∃ i j, i < s.C.size ∧ j < (s.C.getD i #[]).size ∧
        ((¬ RU s i ∧ x = get2 s.C i j + minval6 s)
         ∨ (CU s j ∧ x = (if s.rowUnc.getD i false then get2 s.C i j else get2 s.C i j + minval6 s) - minval6 s))
  | _ => False

theorem Shape.lt_of_C {n m : Nat} {s : State} (hs : Shape n m s) {i j : Nat} (hi : i < s.C.size)
    (hj : j < (s.C.getD i #[]).size) : i < n ∧ j < m := by
  have hin : i < n := hs.Csz ▸ hi
  exact ⟨hin, by rw [← hs.Crow i hin]; exact hj⟩

/-! ### step 1 -/

theorem step1_C (s : State) : (step1 s).1.C = redC s := rfl

/-- the minimum of row `i` of the fresh state is a cost entry of that row -/
theorem rowMin_cost {n m : Nat} {cost : Nat → Nat → Rat} {s : State} (h : Inv1 n m cost s)
    (hm : 0 < m) (i : Nat) (hi : i < n) : ∃ j, j < m ∧ rowMin (s.C.getD i #[]) = cost i j := by
  have hs := h.shape
  have hsz : (s.C.getD i #[]).size = m := hs.Crow i hi
  have hmem := rowMin_mem (s.C.getD i #[]) (by rw [hsz]; exact hm)
  obtain ⟨j, hj, e⟩ := Array.mem_iff_getElem.1 hmem
  refine ⟨j, hsz ▸ hj, ?_⟩
  have e2 : get2 s.C i j = (s.C.getD i #[])[j] := by
    rw [get2_rat]
    generalize s.C.getD i #[] = r at hj
    simp [Array.getD_eq_getD_getElem?, hj]
  rw [← h.C_eq i hi j (hsz ▸ hj), ← e, e2]

/-- **every difference `_step1` forms** is on the grid and in `[0, hi − lo]`: the subtracted row minimum is a
cost entry of the row -/
theorem step1_vals {g lo hi : Rat} {n m : Nat} {cost : Nat → Nat → Rat} {s : State}
    (h : Inv1 n m cost s) (hb : CostBox g lo hi n m cost) (i : Nat) (hi' : i < n) (j : Nat) (hj : j < m) :
    OnGrid g (get2 s.C i j - rowMin (s.C.getD i #[]))
    ∧ 0 ≤ get2 s.C i j - rowMin (s.C.getD i #[])
    ∧ get2 s.C i j - rowMin (s.C.getD i #[]) ≤ hi - lo := by
  have hs := h.shape
  obtain ⟨j0, hj0, e⟩ := rowMin_cost h (Nat.zero_lt_of_lt hj) i hi'
  have hle : rowMin (s.C.getD i #[]) ≤ get2 s.C i j :=
    rowMin_le (s.C.getD i #[]) j (by rw [hs.Crow i hi']; exact hj)
  rw [e] at hle ⊢
  rw [h.C_eq i hi' j hj] at hle ⊢
  have a1 := hb.lo_le i hi' j0 hj0
  have a4 := hb.le_hi i hi' j hj
  refine ⟨(hb.grid i hi' j hj).sub (hb.grid i hi' j0 hj0), ?_, ?_⟩ <;> linarith

/-- after `_step1` the working matrix is on the grid and `≤ hi − lo` -/
theorem step1_GB {g lo hi : Rat} {n m : Nat} {cost : Nat → Nat → Rat} {s : State}
    (h : Inv1 n m cost s) (hb : CostBox g lo hi n m cost) : GB g (hi - lo) n m (step1 s).1.C := by
  intro i hi' j hj
  rw [step1_C, get2_redC h.shape i j hi' hj]
  have := step1_vals h hb i hi' j hj
  exact ⟨this.1, this.2.2⟩

theorem mem_rows {M : Mat Rat} {r : Array Rat} (hr : r ∈ M) {x : Rat} (hx : x ∈ r) :
    ∃ i j, i < M.size ∧ j < (M.getD i #[]).size ∧ r = M.getD i #[] ∧ x = get2 M i j := by
  obtain ⟨i, hi, rfl⟩ := Array.mem_iff_getElem.1 hr
  obtain ⟨j, hj, rfl⟩ := Array.mem_iff_getElem.1 hx
  have hrow : M.getD i #[] = M[i] := by simp [Array.getD_eq_getD_getElem?, hi]
  exact ⟨i, j, hi, hrow ▸ hj, hrow.symm, by simp [get2, Array.getD_eq_getD_getElem?, hi, hj]⟩

theorem step1F_congr (rnd : Rat → Rat) (s : State) (h : ∀ x, ArithVal .s1 s x → rnd x = x) :
    step1F rnd s = step1 s := by
  rw [step1_eq_with]
  unfold step1F
  congr 1
  unfold redCF redC
  apply Array.map_congr_left
  intro r hr
  apply Array.map_congr_left
  intro x hx
  obtain ⟨i, j, hi, hj, rfl, rfl⟩ := mem_rows hr hx
  exact h _ ⟨i, j, hi, hj, rfl⟩

theorem step1_arith {g lo hi : Rat} {n m : Nat} {cost : Nat → Nat → Rat} {s : State}
    (h : Inv1 n m cost s) (hb : CostBox g lo hi n m cost) {x : Rat} (hx : ArithVal .s1 s x) :
    OnGrid g x ∧ 0 ≤ x ∧ x ≤ hi - lo := by
  obtain ⟨i, j, hi', hj, rfl⟩ := hx
  obtain ⟨hin, hjm⟩ := h.shape.lt_of_C hi' hj
  exact step1_vals h hb i hin j hjm

/-! ### step 6 -/

theorem minval6_eq (s : State) : minval6 s = rowMin (vals6 s) := rfl

/-- the key estimate: an entry in a covered row and a covered column plus the smallest uncovered
value is at most twice the spread of the costs -/
theorem covered_plus_minval {g lo hi : Rat} {n m : Nat} {cost : Nat → Nat → Rat} {s : State}
    (h : Loop n m cost s) (hb : CostBox g lo hi n m cost) {i j : Nat} (hi' : i < n) (hj : j < m)
    (hr : ¬ RU s i) (hc : ¬ CU s j) : get2 s.C i j + rowMin (vals6 s) ≤ 2 * (hi - lo) := by
  have hs := h.base.shape
  obtain ⟨js, hjs⟩ := (h.l2 i hi' hr).1
  obtain ⟨is, his⟩ := h.l3 j hj hc
  have hcjs : CU s js := ((h.l1 i js hjs).2 hr)
  have hris : RU s is := by
    by_contra hn
    exact hc ((h.l1 is j his).2 hn)
  obtain ⟨_, hjs'⟩ := Star.lt hs hjs
  obtain ⟨his', _⟩ := Star.lt hs his
  have hle := minval6_le hs hris hcjs
  have hx := pot_cross h.base.pot hi' his' hj hjs'
  rw [h.base.starZero i js hjs, h.base.starZero is j his] at hx
  have b1 := hb.le_hi i hi' j hj
  have b2 := hb.le_hi is his' js hjs'
  have b3 := hb.lo_le i hi' js hjs'
  have b4 := hb.lo_le is his' j hj
  linarith

/-- **`_step6`** (`K = hi − lo`): `minval` is an uncovered entry, on the grid, in `[0, 2K]`; and the entry
written back is on the grid and in `[0, 2K]`. -/
theorem step6_vals {g lo hi : Rat} {n m : Nat} {cost : Nat → Nat → Rat} {s : State}
    (h : Loop n m cost s) (hb : CostBox g lo hi n m cost) (hg : GB g (2 * (hi - lo)) n m s.C)
    (hany : (s.rowUnc.any id && s.colUnc.any id) = true) :
    (OnGrid g (rowMin (vals6 s)) ∧ 0 ≤ rowMin (vals6 s) ∧ rowMin (vals6 s) ≤ 2 * (hi - lo))
    ∧ ∀ i, i < n → ∀ j, j < m →
      OnGrid g (get2 (C6 s (rowMin (vals6 s))) i j) ∧ 0 ≤ get2 (C6 s (rowMin (vals6 s))) i j
        ∧ get2 (C6 s (rowMin (vals6 s))) i j ≤ 2 * (hi - lo) := by
  have hs := h.base.shape
  rw [Bool.and_eq_true] at hany
  obtain ⟨_, hru⟩ := (any_id_iff _).1 hany.1
  obtain ⟨_, hcu⟩ := (any_id_iff _).1 hany.2
  obtain ⟨i0, j0, hr0, hc0, hmv⟩ := minval6_mem hs hru hcu
  have hi0 := RU.lt hs hr0
  have hj0 := CU.lt hs hc0
  have hmg : OnGrid g (rowMin (vals6 s)) := hmv ▸ (hg i0 hi0 j0 hj0).1
  have hm0 : 0 ≤ rowMin (vals6 s) := hmv ▸ h.base.nonneg i0 hi0 j0 hj0
  have hmK : rowMin (vals6 s) ≤ 2 * (hi - lo) := hmv ▸ (hg i0 hi0 j0 hj0).2
  refine ⟨⟨hmg, hm0, hmK⟩, ?_⟩
  intro i hi' j hj
  have hxg := (hg i hi' j hj).1
  have hxK := (hg i hi' j hj).2
  have hx0 := h.base.nonneg i hi' j hj
  rw [get2_C6' hs _ hi' hj]
  by_cases hr : s.rowUnc.getD i false = true <;> by_cases hc : s.colUnc.getD j false = true
  · have := minval6_le hs hr hc
    rw [if_pos hr, if_pos hc]
    exact ⟨by simpa using hxg.sub hmg, by linarith only [this], by linarith only [hxK, hm0, hx0]⟩
  · rw [if_pos hr, if_neg hc]
    exact ⟨by simpa using hxg, by linarith only [hx0], by linarith only [hxK]⟩
  · rw [if_neg hr, if_pos hc]
    exact ⟨by simpa using hxg, by linarith only [hx0], by linarith only [hxK]⟩
  · have := covered_plus_minval h hb hi' hj hr hc
    rw [if_neg hr, if_neg hc]
    exact ⟨by simpa using hxg.add hmg, by linarith only [hx0, hm0], by linarith only [this]⟩

/-- after `_step6` the working matrix is again on the grid and `≤ 2K` -/
theorem step6_GB {g lo hi : Rat} {n m : Nat} {cost : Nat → Nat → Rat} {s : State}
    (h : Loop n m cost s) (hb : CostBox g lo hi n m cost) (hg : GB g (2 * (hi - lo)) n m s.C) :
    GB g (2 * (hi - lo)) n m (step6 s).1.C := by
  rw [step6_eq]
  split
  · rename_i hany
    intro i hi' j hj
    have := (step6_vals h hb hg hany).2 i hi' j hj
    exact ⟨this.1, this.2.2⟩
  · exact hg

theorem mapIdx2_congr (M : Mat Rat) (F G : Nat → Nat → Rat → Rat)
    (h : ∀ i j, i < M.size → j < (M.getD i #[]).size → F i j (get2 M i j) = G i j (get2 M i j)) :
    (M.mapIdx fun i r => r.mapIdx fun j x => F i j x) = M.mapIdx fun i r => r.mapIdx fun j x => G i j x := by
  apply Array.ext
  · simp
  · intro i h1 h2
    have hi : i < M.size := by simpa using h1
    simp only [Array.getElem_mapIdx]
    apply Array.ext
    · simp
    · intro j h3 h4
      have hj : j < M[i].size := by simpa using h3
      simp only [Array.getElem_mapIdx]
      have := h i j hi (by simpa [Array.getD_eq_getD_getElem?, hi] using hj)
      simpa [get2, Array.getD_eq_getD_getElem?, hi, hj] using this

theorem step6_arith {g lo hi : Rat} {n m : Nat} {cost : Nat → Nat → Rat} {s : State}
    (h : Loop n m cost s) (hb : CostBox g lo hi n m cost) (hg : GB g (2 * (hi - lo)) n m s.C)
    {x : Rat} (hx : ArithVal .s6 s x) : OnGrid g x ∧ 0 ≤ x ∧ x ≤ 4 * (hi - lo) := by
  obtain ⟨hany, i, j, hi', hj, hx⟩ := hx
  obtain ⟨hin, hjm⟩ := h.base.shape.lt_of_C hi' hj
  obtain ⟨hmg, hm0, hmK⟩ := (step6_vals h hb hg hany).1
  obtain ⟨hxg, hxK⟩ := hg i hin j hjm
  have hx0 := h.base.nonneg i hin j hjm
  rw [minval6_eq] at hx
  rcases hx with ⟨_, rfl⟩ | ⟨hc, rfl⟩
  · exact ⟨hxg.add hmg, by linarith only [hx0, hm0], by linarith only [hxK, hmK]⟩
  · by_cases hr : s.rowUnc.getD i false = true
    · have := minval6_le h.base.shape hr hc
      rw [if_pos hr]
      exact ⟨hxg.sub hmg, by linarith only [this], by linarith only [hxK, hm0, hx0]⟩
    · -- covered row: the sum `x + minval` is taken back
      rw [if_neg hr, add_sub_cancel_right]
      exact ⟨hxg, hx0, by linarith only [hxK, hx0]⟩

theorem step6F_congr (rnd : Rat → Rat) (s : State) (h : ∀ x, ArithVal .s6 s x → rnd x = x) :
    step6F rnd s = step6 s := by
  rw [step6_eq]
  unfold step6F
  split
  · rename_i hany
    have : C6F rnd s (minval6 s) = C6 s (minval6 s) := by
      unfold C6F C6
      apply mapIdx2_congr s.C
      intro i j hi hj
      have e1 : ¬ RU s i → rnd (get2 s.C i j + minval6 s) = get2 s.C i j + minval6 s :=
        fun hr => h _ ⟨hany, i, j, hi, hj, Or.inl ⟨hr, rfl⟩⟩
      have e2 := fun hc => h _ ⟨hany, i, j, hi, hj, Or.inr ⟨hc, rfl⟩⟩
      by_cases hr : s.rowUnc.getD i false = true <;> by_cases hc : s.colUnc.getD j false = true
      · simpa only [hr, hc, if_true] using e2 hc
      · simp only [hr, hc, if_true, Bool.false_eq_true, if_false]
      · simpa only [hr, hc, if_true, if_false, e1 hr] using e2 hc
      · simpa only [hr, hc, Bool.false_eq_true, if_false] using e1 hr
    rw [this]
    rfl
  · rfl

/-- **`ArithVal` lists every result the work dtype rounds** -/
theorem doStepF_congr (rnd : Rat → Rat) (st : Step) (s : State) (h : ∀ x, ArithVal st s x → rnd x = x) :
    doStepF rnd st s = doStep st s := by
  cases st <;> simp only [doStepF, doStep]
  · rw [step1F_congr rnd s h]
  · rw [step6F_congr rnd s h]

end QcelVerif.Munkres
