import QcelVerif.Lemmas.MunkresSrc.Step136
import QcelVerif.Lemmas.MunkresInv2.Step4
import Mathlib.Tactic.SplitIfs
namespace QcelVerif.MunkresAst
open QcelVerif.Munkres QcelVerif.Gen.MunkresSrc

/-- `runStepFn`'s final projection -/
def proj4 : Except Err (LState × Ctl) → Except Err (State × Option Step)
  | .error e => .error e
  | .ok (l, .ret st) => .ok (l.s, st)
  | .ok (l, _) => .ok (l.s, none)

/-- the body of the `while True` of `_step4` as emitted from the source -/
def step4Body : Stmt :=
  (.seq (.seq (.assignN .row (.argmaxFlatRow .cov)) (.assignN .col (.argmaxFlatCol .cov)))
  (.ite (.eq (.matAt .cov (.v .row) (.v .col)) (.lit 0))
  (.ret (some .s6))
  (.seq (.setMarked (.v .row) (.v .col) 2)
  (.seq (.assignN .starCol (.argmaxRowEq (.v .row) 1))
  (.ite (.ne (.markedAt (.v .row) (.v .starCol)) (.lit 1))
  (.seq (.setZ0r (.v .row))
  (.seq (.setZ0c (.v .col))
  (.ret (some .s5))))
  (.seq (.assignN .col (.v .starCol))
  (.seq (.setRowUnc (.v .row) false)
  (.seq (.setColUnc (.v .col) true)
  (.seq (.covSetCol (.v .col))
  (.covZeroRow (.v .row)))))))))))

theorem step4_eq : Gen.MunkresSrc.step4 =
    (.seq .initCz (.seq .initCov (.seq (.assignN .n .shape0) (.seq (.assignN .m .shape1)
      (.whileTrue step4Body))))) := rfl

theorem step4Loop_src_aux (rnd : Rat → Rat) (F : Nat) (B : LState → Except Err (LState × Ctl))
    (hB : B = step4Body.eval rnd F) (f : Nat) (l : LState) :
    proj4 (evalWhile B f l) = step4Loop f l.Cz l.cov l.s := by
  induction f generalizing l with
  | zero => simp [evalWhile, step4Loop, proj4]
  | succ f ih =>
    have hspec := argmaxFlat_spec l.cov
    have hBl : B l = step4Body.eval rnd F l := by rw [hB]
    simp only [evalWhile, step4Loop]
    rw [hBl]
    simp only [step4Body, Stmt.eval, NE.eval, BE.eval, LState.setN, LState.getN, LState.withS, LState.mat]
    simp only [hspec]
    by_cases h1 : (get2 l.cov (argmaxFlat l.cov).1 (argmaxFlat l.cov).2.1 == 0) = true
    · simp only [h1, ↓reduceIte, proj4]
    · simp only [h1, Bool.false_eq_true, ↓reduceIte]
      split_ifs with h2
      · simp only [h2, ↓reduceIte, proj4]
      · simp only [h2, Bool.false_eq_true, ↓reduceIte, ih]

theorem step4Loop_src (rnd : Rat → Rat) (F : Nat) (f : Nat) (l : LState) :
    proj4 (evalWhile (step4Body.eval rnd F) f l) = step4Loop f l.Cz l.cov l.s :=
  step4Loop_src_aux rnd F _ rfl f l

theorem runStepFn_proj4 (rnd : Rat → Rat) (fuel : Nat) (body : Stmt) (s : State) :
    runStepFn rnd fuel body s = proj4 (body.eval rnd fuel { s := s }) := by
  unfold runStepFn
  generalize body.eval rnd fuel { s := s } = x
  rcases x with e | ⟨l, c⟩
  · rfl
  · cases c <;> rfl

theorem step4_src (rnd : Rat → Rat) (s : State) : prog.doStep rnd .s4 s = step4 s := by
  have h := step4Loop_src rnd (s.C.size + 1) (s.C.size + 1)
  rw [Prog.doStep, runStepFn_proj4]
  simp only [Prog.body, prog, step4_eq, whileFuel, Munkres.step4,
    Stmt.eval, NE.eval, LState.setN]
  rw [h]

end QcelVerif.MunkresAst
