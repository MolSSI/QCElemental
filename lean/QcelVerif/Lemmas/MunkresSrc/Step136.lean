import QcelVerif.Gen.MunkresSrc
import QcelVerif.Lemmas.MunkresInv2.Step1
/-!
C14 — the source-derived `_step1`, `_step3`, `_step6` (`Gen/MunkresSrc.lean`, evaluated by
`Model/MunkresAst.lean`) equal the hand-written steps of `Model/Munkres.lean` /
`Model/MunkresFloat.lean`, for all states and every rounding function.
-/
namespace QcelVerif.MunkresAst
open QcelVerif.Munkres QcelVerif.Gen.MunkresSrc

-- The equation lemmas of these functions are derived here once; without this, every proof that unfolds them derives them again.
section
attribute [local simp] Stmt.eval NE.eval BE.eval
end

theorem step3_src (rnd : Rat → Rat) (s : State) : prog.doStep rnd .s3 s = .ok (Munkres.step3 s) := by
  simp only [Prog.doStep, runStepFn, Prog.body, prog, Gen.MunkresSrc.step3, Stmt.eval, NE.eval, BE.eval,
    LState.withS, Munkres.step3]
  by_cases h : (Array.foldl (fun a r => a + Array.countP (fun x => x == 1) r) 0 s.marked) < s.C.size
  · simp only [h, decide_true, if_true]
  · simp only [h, decide_false, Bool.false_eq_true, if_false]

/-! ### `_step6` -/
theorem minvalSel_eq (s : State) : minvalSel s .rowUnc .colUnc = minval6 s := rfl

theorem step6_src (rnd : Rat → Rat) (s : State) : prog.doStep rnd .s6 s = .ok (step6F rnd s) := by
  simp only [Prog.doStep, runStepFn, Prog.body, prog, Gen.MunkresSrc.step6, Stmt.eval, BE.eval,
    LState.withS, step6F]
  by_cases h : (s.rowUnc.any id && s.colUnc.any id) = true
  · simp only [h, if_true]
    simp only [Mask.sel, minvalSel_eq, C6F]
    simp only [Array.mapIdx_mapIdx, Function.comp_def]
    congr 3
    congr 1
    funext i r
    congr 1
    funext j x
    by_cases h1 : s.rowUnc.getD i false = true <;> by_cases h2 : s.colUnc.getD j false = true <;> simp [h1, h2]
  · simp only [h]
    simp

/-! ### `_step1` -/

theorem evalFor_pure (g : Nat → LState → LState) (xs : List Nat) (l : LState) :
    evalFor (fun i l => .ok (g i l, .next)) xs l = .ok (xs.foldl (fun l i => g i l) l, .next) := by
  induction xs generalizing l with
  | nil => rfl
  | cons x xs ih => simp [evalFor, ih]

theorem foldl_sim {α β γ : Type} (R : α → β → Prop) (f : α → γ → α) (g : β → γ → β)
    (h : ∀ a b x, R a b → R (f a x) (g b x)) : ∀ (xs : List γ) (a : α) (b : β), R a b → R (xs.foldl f a) (xs.foldl g b) := by
  intro xs
  induction xs with
  | nil => intro a b hab; exact hab
  | cons x xs ih => intro a b hab; exact ih _ _ (h a b x hab)

theorem eval_forZerosC (rnd : Rat → Rat) (F : Nat) (body : Stmt) (l : LState) :
    (Stmt.forZerosC body).eval rnd F l =
      evalFor (fun i l' => evalFor (fun j l'' =>
          if get2 l.s.C i j == 0 then body.eval rnd F ((l''.setN .i i).setN .j j) else .ok (l'', .next))
        (List.range (l.s.C.getD i #[]).size) l') (List.range l.s.C.size) l := rfl

/-- the pure form of one cell visit of `_step1`'s starring loop -/
def starCell (C : Mat Rat) (i j : Nat) (l : LState) : LState :=
  if get2 C i j == 0 && l.s.colUnc.getD j false && l.s.rowUnc.getD i false then
    { (l.setN .i i).setN .j j with s := { l.s with marked := set2 l.s.marked i j 1, colUnc := l.s.colUnc.set! j false, rowUnc := l.s.rowUnc.set! i false } }
  else if get2 C i j == 0 then (l.setN .i i).setN .j j else l

theorem step1_loop_src (rnd : Rat → Rat) (F : Nat) (C : Mat Rat) (s : State) (l : LState) (hl : l.s = { s with C := C }) :
    ∃ l', (Stmt.forZerosC
  (.ite (.and (.colUncAt (.v .j)) (.rowUncAt (.v .i)))
  (.seq (.setMarked (.v .i) (.v .j) 1)
  (.seq (.setColUnc (.v .j) false)
  (.setRowUnc (.v .i) false)))
  .skip)).eval rnd F l = .ok (l', .next) ∧ (Munkres.clearCovers l'.s, some Step.s3) = step1With C s := by
  have hcell : ∀ i, (fun j (l : LState) => if get2 C i j == 0 then
        (Stmt.ite (.and (.colUncAt (.v .j)) (.rowUncAt (.v .i)))
          (.seq (.setMarked (.v .i) (.v .j) 1) (.seq (.setColUnc (.v .j) false) (.setRowUnc (.v .i) false))) .skip).eval rnd F
            ((l.setN .i i).setN .j j) else .ok (l, .next)) = fun j l => .ok (starCell C i j l, .next) := by
    intro i
    funext j l
    simp only [Stmt.eval, BE.eval, NE.eval, LState.getN, LState.setN, LState.withS, starCell]
    by_cases h0 : (get2 C i j == 0) = true <;> by_cases h1 : l.s.colUnc.getD j false = true <;>
      by_cases h2 : l.s.rowUnc.getD i false = true <;> simp [h0, h1, h2]
  have hC : l.s.C = C := by rw [hl]
  rw [eval_forZerosC, hC]
  simp only [hcell, evalFor_pure]
  refine ⟨_, rfl, ?_⟩
  rw [step1With_eq]
  -- both sides fold over the cells of `C`; the `_Hungary` part of the locals is the triple of the model
  have key := foldl_sim (fun (l : LState) (t : Mat Nat × Array Bool × Array Bool) =>
      l.s = { s with C := C, marked := t.1, rowUnc := t.2.1, colUnc := t.2.2 })
    (fun l p => starCell C p.1 p.2 l) (fun t p => star1 C p.1 p.2 t) (fun l t p h => ?_) (cells C) l
    (s.marked, s.rowUnc, s.colUnc) hl
  · rw [← foldl_cells C (fun i j l => starCell C i j l), key]
  · unfold starCell star1
    simp only [h]
    split
    · rfl
    · split <;> simp [LState.setN, h]

theorem eval_seq_next (rnd : Rat → Rat) (F : Nat) (a b : Stmt) (l l' : LState)
    (h : a.eval rnd F l = .ok (l', .next)) : (Stmt.seq a b).eval rnd F l = b.eval rnd F l' := by
  simp only [Stmt.eval, h]

theorem step1_src (rnd : Rat → Rat) (s : State) : prog.doStep rnd .s1 s = .ok (step1F rnd s) := by
  have hsub : subAxisMinC rnd 1 s.C = redCF rnd s.C := by simp [subAxisMinC, redCF]
  obtain ⟨l', h1, h2⟩ := step1_loop_src rnd 0 (redCF rnd s.C) s
    (({ s := s } : LState).withS { s with C := redCF rnd s.C }) rfl
  simp only [Prog.doStep, runStepFn, Prog.body, prog, Gen.MunkresSrc.step1, whileFuel]
  have h0 : (Stmt.subAxisMin 1).eval rnd 0 ({ s := s } : LState) =
      .ok (({ s := s } : LState).withS { s with C := redCF rnd s.C }, .next) := by
    simp only [Stmt.eval, hsub]
  rw [eval_seq_next rnd 0 _ _ _ _ h0, eval_seq_next rnd 0 _ _ _ _ h1]
  simp only [Stmt.eval, LState.withS, step1F]
  rw [← h2]
  rfl

end QcelVerif.MunkresAst
