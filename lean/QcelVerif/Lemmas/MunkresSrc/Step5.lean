import QcelVerif.Lemmas.MunkresSrc.Step136
import QcelVerif.Lemmas.MunkresInv2.Step5
/-!
C14 — the source-derived `_step5` (`Gen/MunkresSrc.lean`, evaluated by `Model/MunkresAst.lean`) equals the
hand-written `Munkres.step5` of `Model/Munkres.lean`, for all states and every rounding function.
-/
namespace QcelVerif.MunkresAst
open QcelVerif.Munkres QcelVerif.Gen.MunkresSrc

theorem pathSet_lt {p : Array (Nat × Int)} {k : Nat} (v : Nat × Int) (h : k < p.size) :
    pathSet p k v = .ok (p.set! k v) := by simp [pathSet, h]

theorem pathSet_ge {p : Array (Nat × Int)} {k : Nat} (v : Nat × Int) (h : ¬ k < p.size) :
    pathSet p k v = .error .index := by simp [pathSet, h]

theorem set!_set!' {α} (p : Array α) (k : Nat) (v w : α) : (p.set! k v).set! k w = p.set! k w := by
  simp [Array.set!_eq_setIfInBounds]

/-- the body of the `while True` of `_step5` -/
def loopBody : Stmt :=
  (.seq (.assignN .row (.argmaxColEq (.wrapPathCol (.v .count)) 1))
  (.seq (.ite (.ne (.markedAt (.v .row) (.wrapPathCol (.v .count))) (.lit 1))
  .brk
  (.seq (.assignN .count (.add (.v .count) (.lit 1)))
  (.seq (.setPathRow (.v .count) (.v .row))
  (.setPathCol (.v .count) (.pathCol (.sub (.v .count) (.lit 1)))))))
  (.seq (.assignZ .col (.ofN (.argmaxRowEq (.pathRow (.v .count)) 2)))
  (.seq (.ite (.ne (.markedAt (.v .row) (.wrapZ .col)) (.lit 2))
  (.assignZ .col (.lit (-1)))
  .skip)
  (.seq (.assignN .count (.add (.v .count) (.lit 1)))
  (.seq (.setPathRow (.v .count) (.pathRow (.sub (.v .count) (.lit 1))))
  (.setPathCol (.v .count) (.v .col))))))))

def flipBody : Stmt :=
  (.ite (.eq (.markedAt (.pathRow (.v .i)) (.wrapPathCol (.v .i))) (.lit 1))
  (.setMarked (.pathRow (.v .i)) (.wrapPathCol (.v .i)) 0)
  (.setMarked (.pathRow (.v .i)) (.wrapPathCol (.v .i)) 1))

def tailS : Stmt :=
  (.seq (.forRange (.add (.v .count) (.lit 1)) flipBody)
  (.seq (.clearCovers true true)
  (.seq (.eraseMarkedEq 2)
  (.ret (some .s3)))))

theorem step5_shape : Gen.MunkresSrc.step5 =
  (.seq (.assignN .count (.lit 0))
  (.seq (.setPathRow (.v .count) .z0r)
  (.seq (.setPathCol (.v .count) (.ofN .z0c))
  (.seq (.whileTrue loopBody) tailS)))) := rfl

def pcOf (l : LState) : Nat := wrapIdx l.s.colUnc.size (l.s.path.getD l.count (0, 0)).2
def rowOf (l : LState) : Nat := firstIdx (· == 1) (l.s.marked.map fun r => r.getD (pcOf l) 0)
def colOf (l : LState) : Nat := firstIdx (· == 2) (l.s.marked.getD (rowOf l) #[])
def colZOf (l : LState) : Int := if get2 l.s.marked (rowOf l) (colOf l) != 2 then -1 else Int.ofNat (colOf l)

theorem body_brk (rnd : Rat → Rat) (F : Nat) (l : LState)
    (h : (get2 l.s.marked (rowOf l) (pcOf l) != 1) = true) :
    loopBody.eval rnd F l = .ok ({ l with row := rowOf l }, .brk) := by
  simp only [rowOf, pcOf] at h
  simp only [loopBody, Stmt.eval, NE.eval, BE.eval, LState.setN, LState.getN,
      h, if_true, rowOf, pcOf]

theorem body_err1 (rnd : Rat → Rat) (F : Nat) (l : LState)
    (h : (get2 l.s.marked (rowOf l) (pcOf l) != 1) = false) (h1 : ¬ l.count + 1 < l.s.path.size) :
    loopBody.eval rnd F l = .error .index := by
  simp only [rowOf, pcOf] at h
  simp only [loopBody, Stmt.eval, NE.eval, BE.eval, LState.setN, LState.getN,
      h, pathSet_ge _ h1, Bool.false_eq_true, ↓reduceIte]

theorem body_err2 (rnd : Rat → Rat) (F : Nat) (l : LState)
    (h : (get2 l.s.marked (rowOf l) (pcOf l) != 1) = false) (h1 : l.count + 1 < l.s.path.size)
    (h2 : ¬ l.count + 1 + 1 < l.s.path.size) :
    loopBody.eval rnd F l = .error .index := by
  simp only [rowOf, pcOf] at h
  -- whether or not the row holds a prime, the second write to `path` fails
  by_cases hc : (get2 l.s.marked (rowOf l) (colOf l) != 2) = true <;>
  · simp only [colOf, rowOf, pcOf] at hc
    simp only [loopBody, Stmt.eval, NE.eval, ZE.eval, BE.eval, LState.setN, LState.getN,
      LState.setZ, LState.getZ, LState.withS, h, hc, pathSet, Array.size_set!, h1, h2, Bool.false_eq_true, ↓reduceIte,
      wrapIdx_ofNat, getD_set!, set!_set!', Nat.add_sub_cancel, and_self]

def path1Of (l : LState) : Array (Nat × Int) :=
  l.s.path.set! (l.count + 1) (rowOf l, (l.s.path.getD l.count (0, 0)).2)
def path2Of (l : LState) : Array (Nat × Int) :=
  (path1Of l).set! (l.count + 1 + 1) (rowOf l, colZOf l)

def nextOf (l : LState) : LState :=
  { l with
    row := rowOf l, colZ := colZOf l, count := l.count + 1 + 1,
    s := { l.s with path := path2Of l } }

theorem body_next (rnd : Rat → Rat) (F : Nat) (l : LState)
    (h : (get2 l.s.marked (rowOf l) (pcOf l) != 1) = false) (h1 : l.count + 1 < l.s.path.size)
    (h2 : l.count + 1 + 1 < l.s.path.size) :
    loopBody.eval rnd F l = .ok (nextOf l, .next) := by
  simp only [rowOf, pcOf] at h
  -- both values of `col` (the prime's column, or −1) go through the same evaluation
  by_cases hc : (get2 l.s.marked (rowOf l) (colOf l) != 2) = true <;>
  · simp only [colOf, rowOf, pcOf] at hc
    simp only [loopBody, Stmt.eval, NE.eval, ZE.eval, BE.eval, LState.setN, LState.getN,
      LState.setZ, LState.getZ, LState.withS, h, hc, pathSet, Array.size_set!, h1, h2, Bool.false_eq_true, ↓reduceIte,
      wrapIdx_ofNat, getD_set!, set!_set!', Nat.add_sub_cancel, and_self,
      nextOf, path2Of, path1Of, colZOf, colOf, rowOf, pcOf, Nat.succ_ne_self, false_and]

theorem loop_src (rnd : Rat → Rat) (F : Nat) (f : Nat) (l : LState) :
    match step5Loop l.s.marked l.s.colUnc.size f l.count l.s.path with
    | .error e => evalWhile (loopBody.eval rnd F) f l = .error e
    | .ok (c, p) => ∃ l', evalWhile (loopBody.eval rnd F) f l = .ok (l', .next) ∧
        l'.s = { l.s with path := p } ∧ l'.count = c := by
  induction f generalizing l with
  | zero => simp [step5Loop, evalWhile]
  | succ f ih =>
    rw [step5Loop, evalWhile]
    by_cases h : (get2 l.s.marked (rowOf l) (pcOf l) != 1) = true
    · rw [body_brk rnd F l h]
      simp only [rowOf, pcOf] at h
      simp only [h, if_true]
      exact ⟨_, rfl, rfl, rfl⟩
    · have h' : (get2 l.s.marked (rowOf l) (pcOf l) != 1) = false := by simpa using h
      by_cases h1 : l.count + 1 < l.s.path.size
      · by_cases h2 : l.count + 1 + 1 < l.s.path.size
        · rw [body_next rnd F l h' h1 h2]
          have := ih (nextOf l)
          simp only [rowOf, pcOf] at h'
          simp only [h', pathSet, h1, h2, Array.size_set!, Bool.false_eq_true, ↓reduceIte, bind, Except.bind,
            getD_set!, Nat.add_sub_cancel, and_self]
          simp only [nextOf, path2Of, path1Of, colZOf, colOf, rowOf, pcOf] at this
          exact this
        · rw [body_err2 rnd F l h' h1 h2]
          simp only [rowOf, pcOf] at h'
          simp only [h', pathSet, h1, h2, Array.size_set!, Bool.false_eq_true, ↓reduceIte, bind, Except.bind]
      · rw [body_err1 rnd F l h' h1]
        simp only [rowOf, pcOf] at h'
        simp only [h', pathSet, h1, Bool.false_eq_true, ↓reduceIte, bind, Except.bind]

def flipM (path : Array (Nat × Int)) (m : Nat) (i : Nat) (mk : Mat Nat) : Mat Nat :=
  if get2 mk (path.getD i (0, 0)).1 (wrapIdx m (path.getD i (0, 0)).2) == 1
  then set2 mk (path.getD i (0, 0)).1 (wrapIdx m (path.getD i (0, 0)).2) 0
  else set2 mk (path.getD i (0, 0)).1 (wrapIdx m (path.getD i (0, 0)).2) 1

def flipG (i : Nat) (l : LState) : LState :=
  { l with i := i, s := { l.s with marked := flipM l.s.path l.s.colUnc.size i l.s.marked } }

theorem flipBody_eval (rnd : Rat → Rat) (F : Nat) (i : Nat) (l : LState) :
    flipBody.eval rnd F (l.setN .i i) = .ok (flipG i l, .next) := by
  simp only [flipBody, Stmt.eval, NE.eval, BE.eval, LState.setN, LState.getN, LState.withS, flipG, flipM]
  split <;> simp only [*, Bool.false_eq_true, ↓reduceIte]

theorem foldl_flipG (xs : List Nat) (l : LState) :
    (xs.foldl (fun l i => flipG i l) l).s =
      { l.s with marked := xs.foldl (fun mk i => flipM l.s.path l.s.colUnc.size i mk) l.s.marked } := by
  induction xs generalizing l with
  | nil => rfl
  | cons x xs ih => rw [List.foldl_cons, ih]; rfl

theorem flipM_eq (path : Array (Nat × Int)) (m i : Nat) (mk : Mat Nat) :
    flipM path m i mk = flipCell mk (cellOf m (path.getD i (0, 0))) := rfl

theorem tail_eval (rnd : Rat → Rat) (F : Nat) (l : LState) :
    ∃ lf, tailS.eval rnd F l = .ok (lf, .ret (some .s3)) ∧ lf.s = (finish5 l.s (l.count, l.s.path)).1 := by
  have hb : (fun i l => flipBody.eval rnd F (l.setN .i i)) = fun i l => .ok (flipG i l, .next) := by
    funext i l; exact flipBody_eval rnd F i l
  simp only [tailS, Stmt.eval, NE.eval, LState.getN, hb, evalFor_pure]
  refine ⟨_, rfl, ?_⟩
  simp only [LState.withS, foldl_flipG, flipM_eq, finish5, clearCovers, flipPath, erasePrimes]

theorem step5_src (rnd : Rat → Rat) (s : State) : prog.doStep rnd .s5 s = step5 s := by
  rw [step5_eq]
  simp only [Prog.doStep, runStepFn, Prog.body, prog, step5_shape, whileFuel]
  by_cases h0 : 0 < s.path.size
  · have hl := loop_src rnd (s.rowUnc.size + s.colUnc.size + 1) (s.rowUnc.size + s.colUnc.size + 1)
      { s := { s with path := s.path.set! 0 (s.z0r, Int.ofNat s.z0c) } }
    dsimp only at hl
    simp only [Stmt.eval, NE.eval, ZE.eval, LState.setN, LState.getN, LState.withS, pathSet, h0, Array.size_set!,
      ↓reduceIte, getD_set!, set!_set!', true_and]
    generalize step5Loop s.marked s.colUnc.size (s.rowUnc.size + s.colUnc.size + 1) 0
      (s.path.set! 0 (s.z0r, Int.ofNat s.z0c)) = r at hl ⊢
    cases r with
    | error e => simp only at hl; rw [hl]
    | ok v =>
      obtain ⟨c, p⟩ := v
      obtain ⟨l', he, hs, hc⟩ := hl
      obtain ⟨lf, hf, hfs⟩ := tail_eval rnd (s.rowUnc.size + s.colUnc.size + 1) l'
      rw [he]
      simp only [hf, hfs, hs, hc]
      rfl
  · simp only [Stmt.eval, NE.eval, LState.setN, LState.getN, pathSet, h0,
      ↓reduceIte]

end QcelVerif.MunkresAst
