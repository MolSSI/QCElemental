import QcelVerif.Model.Radii
/-! Helper lemmas for C17: `get` once the identifier is known, and the "last assignment wins" folds of the radius table. -/
namespace QcelVerif.Radii
open QcelVerif QcelVerif.PStr QcelVerif.PT

theorem get_of_identify {T : Tables} {t : Table} {a : PyVal} {k : Nat} (h : identify T t a = some k)
    (conv : Bytes → Option Rat) (rt : Bool) (m : Option Rat) : get T t conv a rt m = getByKey t conv k rt m := by
  unfold get; rw [h]

theorem identify_label {T : Tables} {t : Table} {s : Bytes} (h : hasLabel t s = true) :
    identify T t (.str s) = some (pack s) := by
  simp only [identify, h, if_true]

/-- whatever is not an exact label is identified by the periodic table -/
theorem identify_of_not_label {T : Tables} {t : Table} {a : PyVal} (h : ∀ s, a = .str s → hasLabel t s = false) :
    identify T t a = T.toE a false := by
  cases a with
  | int z => rfl
  | str s => simp only [identify, h s rfl, Bool.false_eq_true, if_false]

theorem hasLabel_mem {t : Table} {s : Bytes} (h : hasLabel t s = true) : ∃ p ∈ t, p.1 = s := by
  unfold hasLabel at h
  rw [List.any_eq_true] at h
  obtain ⟨p, hp, he⟩ := h
  exact ⟨p, hp, by simpa using he⟩

/-- "the last assignment wins": the fold returns the value of the last matching member, or else the start value -/
theorem foldl_last_eq {α β : Type} (c : α → Bool) (v : α → β) (l : List α) (acc : Option β) :
    l.foldl (fun a p => if c p then some (v p) else a) acc = ((l.reverse.find? c).map v).or acc := by
  induction l generalizing acc with
  | nil => simp
  | cons x xs ih =>
    rw [List.foldl_cons, ih, List.reverse_cons, List.find?_append]
    cases xs.reverse.find? c with
    | some y => simp
    | none => by_cases hx : c x = true <;> simp [hx]

theorem lookupK_mem {t : Table} {k : Nat} {d : Datum} (h : lookupK t k = some d) :
    ∃ p ∈ t, pack p.1 = k ∧ p.2 = d := by
  unfold lookupK at h
  rw [foldl_last_eq (fun p : Bytes × Datum => pack p.1 == k) (fun p => p.2), Option.or_none, Option.map_eq_some_iff] at h
  obtain ⟨p, hp, rfl⟩ := h
  exact ⟨p, List.mem_reverse.mp (List.mem_of_find?_eq_some hp), by simpa using List.find?_some hp, rfl⟩

/-- what holds of every entry of the table holds of every entry a lookup returns -/
theorem all_of_lookupK {t : Table} {P : Datum → Bool} (h : t.all (fun p => P p.2) = true) {k : Nat} {d : Datum}
    (hd : lookupK t k = some d) : P d = true := by
  obtain ⟨p, hp, _, rfl⟩ := lookupK_mem hd
  exact List.all_eq_true.mp h p hp

theorem lookupK_isSome_of_label {t : Table} {s : Bytes} (h : hasLabel t s = true) :
    (lookupK t (pack s)).isSome = true := by
  obtain ⟨p, hp, he⟩ := hasLabel_mem h
  unfold lookupK
  rw [foldl_last_eq (fun p : Bytes × Datum => pack p.1 == pack s) (fun p => p.2), Option.or_none, Option.isSome_map,
    List.find?_isSome]
  exact ⟨p, List.mem_reverse.mpr hp, by simp [he]⟩

end QcelVerif.Radii
