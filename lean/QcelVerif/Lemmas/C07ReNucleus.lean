import QcelVerif.Lemmas.C07ReAtomShapes
import QcelVerif.Lemmas.C07ReCaps
import QcelVerif.Lemmas.MolText
/-!
C07 — NUCLEUS inside `atom_cartesian`: the nucleus group of the generated AST (`nucLine`, run by the generic backtracking engine from
the start of a line) takes exactly the prefixes the hand recogniser `isNucleus` accepts, and captures the prefix as group 1.

The pattern has inner capture groups and ends with `(?(gh2)\))`, so its extent follows the cursor and whether group 3 (`gh2`) is
set (`SExt` = `OExt obs3`, the extent of `C07ReCaps` seen through that one bit); the language read off the AST (`LNuc`) is then compared with the recogniser stage by stage.

From `Lemmas/MolText.lean`: `sep_cases`, `alpha_not_digit`, `digit_not_alpha`, `alpha_word`, `digit_word`, `word_ne`,
`word_not_sep`.
-/
namespace QcelVerif.MolText
open QcelVerif.Regex QcelVerif.Gen

/-! ## extent of a pattern with inner capture groups (cursor + status of group 3 only) -/

/-- the extent of a pattern that leaves group 3 alone: the ways to match are the splits into a word of `L` and a rest, and group 3
is set afterwards iff it was before (`SExt re (DKeep L)` spelt out; the proof of `nucLine_ext` uses `SExt` only) -/
def GExt (re : Re) (L : Str → Prop) : Prop :=
  ∀ (s : Str) (st : St), st.rest = toBytes s →
    (∀ x ∈ re.ms st, ∃ t r, s = t ++ r ∧ L t ∧ x.rest = toBytes r ∧ (x.group 3).isSome = (st.group 3).isSome) ∧
    (∀ t r, s = t ++ r → L t → ∃ x, x ∈ re.ms st ∧ x.rest = toBytes r ∧ (x.group 3).isSome = (st.group 3).isSome)

theorem GExt.congr {re : Re} {L L' : Str → Prop} (h : GExt re L) (hL : ∀ t, L t ↔ L' t) : GExt re L' := by
  intro s st hs
  constructor
  · intro x hx
    obtain ⟨t, r, h1, h2, h3⟩ := (h s st hs).1 x hx
    exact ⟨t, r, h1, (hL t).mp h2, h3⟩
  · intro t r h1 h2
    exact (h s st hs).2 t r h1 ((hL t).mpr h2)

/-! ## the same with the status of group 3 as a parameter: `SExt re D`

`D b t r b'`: from a state where group 3 is set (`b = true`) or not, the word `t` can be consumed, ending in a state where it is
set (`b' = true`) or not. -/

/-- is group 3 (`gh2`) set: all that `(?(gh2)\))` needs to know of the captures -/
def obs3 (c : Caps) : Bool := (c.lookup 3).isSome

/-- the extent of a pattern, following the cursor and whether group 3 is set -/
abbrev SExt (re : Re) (D : OLang Bool) : Prop := OExt obs3 re D

/-- a group other than 3 -/
theorem OExt.group3 {i : Nat} (hi : (3 == i) = false) {a : Re} {A : OLang Bool} (ha : OExt obs3 a A) : OExt obs3 (.group i a) A :=
  OExt.group_keep (fun w c => by simp [obs3, List.lookup, hi]) ha

def nucGhost : Re :=
  (.rep 0 (some 1) true
    (.alt
      (.group 2
        (.cls false [.ch 64]))
      (.group 3
        (.seq
          (.cls false [.ch 71, .ch 103])
          (.seq
            (.cls false [.ch 104, .ch 72])
            (.cls false [.ch 40]))))))

def nucLabel : Re :=
    (.group 4
      (.alt
        (.group 5
          (.seq
            (.rep 0 (some 1) true
              (.group 6
                (.rep 1 none true
                  (.cls false [.digit]))))
            (.seq
              (.group 7
                (.rep 1 (some 3) true
                  (.cls false [.range 65 90, .range 97 122])))
              (.rep 0 (some 1) true
                (.group 8
                  (.alt
                    (.group 9
                      (.seq
                        (.cls false [.ch 95])
                        (.rep 1 none true
                          (.cls false [.word]))))
                    (.group 10
                      (.rep 1 none true
                        (.cls false [.digit])))))))))
        (.group 11
          (.seq
            (.group 12
              (.rep 1 (some 3) true
                (.cls false [.digit])))
            (.rep 0 (some 1) true
              (.group 13
                (.group 14
                  (.seq
                    (.cls false [.ch 95])
                    (.rep 1 none true
                      (.cls false [.word]))))))))))

def nucMass : Re :=
      (.rep 0 (some 1) true
        (.seq
          (.cls false [.ch 64])
          (.group 15
            (.seq
              (.rep 1 none true
                (.cls false [.digit]))
              (.seq
                (.cls false [.ch 46])
                (.rep 1 none true
                  (.cls false [.digit])))))))

def nucClose : Re := .ifGroup 3 (.cls false [.ch 41]) .eps

theorem nucLine_cut : nucLine = .seq nucGhost (.seq nucLabel (.seq nucMass nucClose)) := rfl

/-! ## the language of NUCLEUS, read off the AST -/

def LUser : Str → Prop := LSeq (· = ['_']) (LPlus isWord)
def NUser1 : Str → Prop := LOpt (LAlt LUser LDig1)
def NUser2 : Str → Prop := LOpt LUser
def NLabel1 : Str → Prop := LSeq (LOpt LDig1) (LSeq (LRun13 Char.isAlpha) NUser1)
def NLabel2 : Str → Prop := LSeq (LRun13 Char.isDigit) NUser2
def NLabel : Str → Prop := LAlt NLabel1 NLabel2
def NMass : Str → Prop := LOpt (LSeq (· = ['@']) (LSeq LDig1 (LSeq (· = ['.']) LDig1)))
def NBody : Str → Prop := LSeq NLabel NMass

/-- ghost marker `@` | `Gh(` … `)` (any case) | none, around label + mass -/
def LNuc (t : Str) : Prop :=
  (∃ b, t = '@' :: b ∧ NBody b) ∨
  (∃ g h b, t = g :: h :: '(' :: (b ++ [')']) ∧ g.toLower = 'g' ∧ h.toLower = 'h' ∧ NBody b) ∨
  NBody t

theorem ext_user : Ext (.seq (.cls false [.ch 95]) (.rep 1 none true (.cls false [.word]))) LUser :=
  Ext.seq (Ext.lit '_') (Ext.plus cls_word)

theorem sext_label : SExt nucLabel (DKeep NLabel) := by
  have h : SExt nucLabel _ :=
    .group3 rfl (.alt
      (.group3 rfl (.seq
        (.opt (.group3 rfl (.ofExt ext_digits1)))
        (.seq (.group3 rfl (.ofExt (Ext.run13 cls_alpha)))
          (.opt (.group3 rfl (.alt
            (.group3 rfl (.ofExt ext_user))
            (.group3 rfl (.ofExt ext_digits1))))))))
      (.group3 rfl (.seq
        (.group3 rfl (.ofExt (Ext.run13 cls_digit)))
        (.opt (.group3 rfl (.group3 rfl (.ofExt ext_user)))))))
  simp only [DSeq_keep, DAlt_keep, DOpt_keep] at h
  exact h

theorem sext_mass : SExt nucMass (DKeep NMass) := by
  have h : SExt nucMass _ :=
    .opt (.seq (.ofExt (Ext.lit '@')) (.group3 rfl (.ofExt (Ext.seq ext_digits1 (Ext.seq ext_dot ext_digits1)))))
  simp only [DSeq_keep, DOpt_keep] at h
  exact h

/-- ghost marker: `@`, or `Gh(` in any case, which sets group 3, or nothing -/
def NGhost : OLang Bool :=
  DOpt (DAlt (DKeep (· = ['@'])) (DGroup (fun _ _ => true) (DKeep (LSeq (LCi 'g') (LSeq (LCi 'h') (· = ['(']))))))
/-- `(?(gh2)\))` -/
def NClose : OLang Bool := DIf id (DKeep (· = [')'])) (DKeep (· = []))

def DNuc : OLang Bool := DSeq NGhost (DSeq (DKeep NLabel) (DSeq (DKeep NMass) NClose))

theorem sext_nucLine : SExt nucLine DNuc := by
  rw [nucLine_cut]
  exact .seq
    (.opt (.alt (.group3 rfl (.ofExt (Ext.lit '@')))
      (.group (fun _ _ => rfl) (.ofExt (Ext.seq (Ext.ciUp 'g' (by decide)) (Ext.seq (Ext.ci 'h' (by decide)) (Ext.lit '(')))))))
    (.seq sext_label (.seq sext_mass (.ifGroup (obs := obs3) (test := id) (fun _ => rfl) (.ofExt (Ext.lit ')')) (.ofExt Ext.eps))))

/-- the language read off the AST, started with group 3 not set, is `LNuc` -/
theorem nucLang_iff (t r : Str) : (∃ b, DNuc false t r b) ↔ LNuc t := by
  constructor
  · rintro ⟨b, _, _, _, rfl, hg, l, _, _, rfl, ⟨hl, rfl⟩, m, c, _, rfl, ⟨hm, rfl⟩, hc⟩
    rcases hg with (⟨rfl, rfl⟩ | ⟨_, ⟨⟨_, _, rfl, ⟨g, rfl, hg⟩, _, _, rfl, ⟨h, rfl, hh⟩, rfl⟩, _⟩, rfl⟩) | ⟨rfl, rfl⟩
    · obtain ⟨rfl, _⟩ : c = [] ∧ b = false := hc
      exact Or.inl ⟨l ++ m, by simp, l, m, rfl, hl, hm⟩
    · obtain ⟨rfl, _⟩ : c = [')'] ∧ b = true := hc
      exact Or.inr (Or.inl ⟨g, h, l ++ m, by simp, beq_iff_eq.mp hg, beq_iff_eq.mp hh, l, m, rfl, hl, hm⟩)
    · obtain ⟨rfl, _⟩ : c = [] ∧ b = false := hc
      exact Or.inr (Or.inr ⟨l, m, by simp, hl, hm⟩)
  · rintro (⟨_, rfl, l, m, rfl, hl, hm⟩ | ⟨g, h, _, rfl, hg, hh, l, m, rfl, hl, hm⟩ | ⟨l, m, rfl, hl, hm⟩)
    · exact ⟨false, ['@'], l ++ (m ++ []), false, by simp, Or.inl (Or.inl ⟨rfl, rfl⟩),
        l, m ++ [], _, rfl, ⟨hl, rfl⟩, m, [], _, rfl, ⟨hm, rfl⟩, rfl, rfl⟩
    · exact ⟨true, [g, h, '('], l ++ (m ++ [')']), true, by simp,
        Or.inl (Or.inr ⟨false, ⟨⟨[g], [h, '('], rfl, ⟨g, rfl, beq_iff_eq.mpr hg⟩, [h], ['('], rfl, ⟨h, rfl, beq_iff_eq.mpr hh⟩, rfl⟩, rfl⟩, rfl⟩),
        l, m ++ [')'], _, rfl, ⟨hl, rfl⟩, m, [')'], _, rfl, ⟨hm, rfl⟩, rfl, rfl⟩
    · exact ⟨false, [], l ++ (m ++ []), false, by simp, Or.inr ⟨rfl, rfl⟩,
        l, m ++ [], _, rfl, ⟨hl, rfl⟩, m, [], _, rfl, ⟨hm, rfl⟩, rfl, rfl⟩

theorem LUser_iff (u : Str) : LUser u ↔ ∃ w, u = '_' :: w ∧ LPlus isWord w := by
  constructor
  · rintro ⟨_, w, rfl, rfl, hw⟩
    exact ⟨w, rfl, hw⟩
  · rintro ⟨w, rfl, hw⟩
    exact ⟨['_'], w, rfl, rfl, hw⟩

theorem usw_iff (w : Str) : (!w.isEmpty && w.all isWord) = true ↔ LPlus isWord w := by
  cases w <;> simp [LPlus, List.all_eq_true]

theorem userOk2_iff (u : Str) : userOk2 u = true ↔ NUser2 u := by
  unfold userOk2 NUser2 LOpt
  rw [LUser_iff]
  split
  · simp
  · rename_i w
    rw [usw_iff]
    constructor
    · intro h; exact Or.inl ⟨w, rfl, h⟩
    · rintro (⟨w', h1, h⟩ | h)
      · injection h1 with _ h1; rw [h1]; exact h
      · cases h
  · rename_i h1 h2
    simp only [Bool.false_eq_true, false_iff]
    rintro (⟨w, rfl, _⟩ | rfl)
    · exact h2 w rfl
    · exact h1 rfl

/-- after letters, a user label may also be a run of digits -/
theorem userOk1_eq (u : Str) : userOk1 u = (userOk2 u || (allDigits u && !u.isEmpty)) := by
  unfold userOk1 userOk2
  split
  · rfl
  · simp [allDigits]
  · rename_i h1 _
    cases u with
    | nil => exact absurd rfl h1
    | cons _ _ => simp

theorem userOk1_iff (u : Str) : userOk1 u = true ↔ NUser1 u := by
  rw [userOk1_eq, Bool.or_eq_true, userOk2_iff, allDigits_iff]
  constructor
  · rintro ((h | h) | h)
    · exact Or.inl (Or.inl h)
    · exact Or.inr h
    · exact Or.inl (Or.inr h)
  · rintro ((h | h) | h)
    · exact Or.inl (Or.inl h)
    · exact Or.inr h
    · exact Or.inl (Or.inr h)

theorem NUser2_sub {u : Str} (h : NUser2 u) : NUser1 u := by
  rcases h with h | h
  · exact Or.inl (Or.inl h)
  · exact Or.inr h

theorem NUser1_cases {u : Str} (h : NUser1 u) :
    u = [] ∨ (∃ w, u = '_' :: w ∧ LPlus isWord w) ∨ LDig1 u := by
  rcases h with (h | h) | h
  · exact Or.inr (Or.inl ((LUser_iff u).mp h))
  · exact Or.inr (Or.inr h)
  · exact Or.inl h

theorem NUser2_cases {u : Str} (h : NUser2 u) : u = [] ∨ (∃ w, u = '_' :: w ∧ LPlus isWord w) := by
  rcases h with h | h
  · exact Or.inr ((LUser_iff u).mp h)
  · exact Or.inl h

theorem NUser1_word {u : Str} (h : NUser1 u) : ∀ c ∈ u, isWord c = true := by
  rcases NUser1_cases h with rfl | ⟨w, rfl, hw⟩ | hd
  · simp
  · intro c hc; simp at hc; rcases hc with rfl | hc; decide; exact hw.2 c hc
  · intro c hc; exact digit_word (hd.2 c hc)

theorem NUser1_head {u : Str} (h : NUser1 u) : ∀ d ∈ u.head?, d.isAlpha = false := by
  rcases NUser1_cases h with rfl | ⟨w, rfl, _⟩ | hd
  · simp
  · exact stop_cons (by decide) w
  · obtain ⟨c, t, rfl, hc⟩ := dig1_head hd
    exact stop_cons (digit_not_alpha hc) t

/-- a label that ends in `_\w+` or nothing stops every run of characters other than `_` -/
theorem NUser2_stops {u : Str} (h : NUser2 u) (p : Char → Bool) (hp : p '_' = false) :
    ∀ d ∈ u.head?, p d = false := by
  rcases NUser2_cases h with rfl | ⟨w, rfl, _⟩
  · simp
  · exact stop_cons hp w

theorem NMass_iff (m : Str) : NMass m ↔ m = [] ∨ ∃ a b, m = '@' :: (a ++ '.' :: b) ∧ LDig1 a ∧ LDig1 b := by
  constructor
  · rintro (⟨_, _, rfl, rfl, a, _, rfl, ha, _, b, rfl, rfl, hb⟩ | rfl)
    · exact Or.inr ⟨a, b, rfl, ha, hb⟩
    · exact Or.inl rfl
  · rintro (rfl | ⟨a, b, rfl, ha, hb⟩)
    · exact Or.inr rfl
    · exact Or.inl ⟨['@'], _, rfl, rfl, a, _, rfl, ha, ['.'], b, rfl, rfl, hb⟩

theorem isEmpty_false_iff {α} (l : List α) : (!l.isEmpty) = true ↔ l ≠ [] := by cases l <;> simp

theorem parseMass_isSome (m : Str) : (parseMass m).isSome = true ↔ NMass m := by
  rw [NMass_iff]
  unfold parseMass
  split
  · simp
  · rename_i m'
    simp only [reduceCtorEq, false_or, List.cons.injEq, true_and]
    constructor
    · intro h
      split at h
      · rename_i b heq
        rw [ite_isSome, Bool.and_eq_true, Bool.and_eq_true, isEmpty_false_iff, isEmpty_false_iff, allDigits_iff0] at h
        exact ⟨_, b, by rw [← heq, List.takeWhile_append_dropWhile], ⟨h.1.1, all_tw _ _⟩, h.1.2, h.2⟩
      · cases h
    · rintro ⟨a, b, rfl, ha, hb⟩
      obtain ⟨h1, h2⟩ := span_append ha.2 (stop_cons (show Char.isDigit '.' = false by decide) b)
      simp only [h1, h2]
      rw [ite_isSome, Bool.and_eq_true, Bool.and_eq_true, isEmpty_false_iff, isEmpty_false_iff, allDigits_iff0]
      exact ⟨⟨ha.1, hb.1⟩, hb.2⟩
  · rename_i h1 h2
    simp only [Option.isSome_none, Bool.false_eq_true, false_iff]
    rintro (rfl | ⟨a, b, rfl, _, _⟩)
    · exact h1 rfl
    · exact h2 _ rfl

/-- the label test of `parseCore` -/
def labelOk (lbl : Str) : Bool :=
  let a := lbl.takeWhile Char.isDigit
  let r := lbl.dropWhile Char.isDigit
  let l := r.takeWhile Char.isAlpha
  let u := r.dropWhile Char.isAlpha
  if !l.isEmpty then (l.length ≤ 3 && userOk1 u) else (1 ≤ a.length && a.length ≤ 3 && userOk2 u)

theorem parseCore_isSome (g : Bool) (core : Str) :
    (parseCore g core).isSome =
      ((parseMass (core.dropWhile (· != '@'))).isSome && labelOk (core.takeWhile (· != '@'))) := by
  unfold parseCore labelOk
  cases parseMass (core.dropWhile (· != '@')) with
  | none => rfl
  | some mass =>
    simp only [Option.isSome_some, Bool.true_and]
    split <;> simp only [ite_isSome]

theorem optDig_all {a : Str} (h : LOpt LDig1 a) : ∀ c ∈ a, c.isDigit = true := by
  rcases h with h | rfl
  · exact h.2
  · simp

theorem run13_head {p : Char → Bool} {l : Str} (h : LRun13 p l) : ∃ d t, l = d :: t ∧ p d = true := by
  obtain ⟨h0, _, h1⟩ := h
  cases l with
  | nil => exact absurd rfl h0
  | cons d t => exact ⟨d, t, rfl, h1 d (by simp)⟩

/-- the label test on a label cut at its digit run `a` and the letter run `sy` that follows -/
theorem labelOk_app {a sy u : Str} (ha : ∀ c ∈ a, c.isDigit = true) (hsy : ∀ c ∈ sy, c.isAlpha = true)
    (h1 : ∀ d ∈ (sy ++ u).head?, d.isDigit = false) (h2 : ∀ d ∈ u.head?, d.isAlpha = false) :
    labelOk (a ++ (sy ++ u)) =
      if !sy.isEmpty then (decide (sy.length ≤ 3) && userOk1 u) else (decide (1 ≤ a.length) && decide (a.length ≤ 3) && userOk2 u) := by
  unfold labelOk
  simp only [span_append ha h1, span_append hsy h2]

theorem labelOk_iff (lbl : Str) : labelOk lbl = true ↔ NLabel lbl := by
  constructor
  · intro h
    obtain ⟨a, r, rfl, ha, h1⟩ := span_cut Char.isDigit lbl
    obtain ⟨sy, u, rfl, hsy, h2⟩ := span_cut Char.isAlpha r
    rw [labelOk_app ha hsy h1 h2] at h
    split at h
    · rename_i hne
      rw [Bool.and_eq_true, decide_eq_true_eq, userOk1_iff] at h
      refine Or.inl ⟨a, sy ++ u, rfl, ?_, sy, u, rfl, ⟨(isEmpty_false_iff sy).mp hne, h.1, hsy⟩, h.2⟩
      cases a with
      | nil => exact Or.inr rfl
      | cons d t => exact Or.inl ⟨by simp, ha⟩
    · rename_i hne
      have hsy0 : sy = [] := by
        cases sy with
        | nil => rfl
        | cons _ _ => simp at hne
      subst hsy0
      rw [Bool.and_eq_true, Bool.and_eq_true, decide_eq_true_eq, decide_eq_true_eq, userOk2_iff] at h
      refine Or.inr ⟨a, u, rfl, ⟨?_, h.1.2, ha⟩, h.2⟩
      intro h0; subst h0; simp at h
  · rintro (⟨a, _, rfl, ha, sy, u, rfl, hsy, hu⟩ | ⟨z, u, rfl, hz, hu⟩)
    · obtain ⟨d, t, hdt, hd⟩ := run13_head hsy
      rw [labelOk_app (optDig_all ha) hsy.2.2 (by rw [hdt]; exact stop_cons (alpha_not_digit hd) _) (NUser1_head hu),
        if_pos ((isEmpty_false_iff sy).mpr hsy.1), Bool.and_eq_true, decide_eq_true_eq, userOk1_iff]
      exact ⟨hsy.2.1, hu⟩
    · rw [show z ++ u = z ++ ([] ++ u) from rfl,
        labelOk_app (sy := []) hz.2.2 (by simp) (NUser2_stops hu Char.isDigit (by decide)) (NUser2_stops hu Char.isAlpha (by decide))]
      simp only [List.isEmpty_nil, Bool.not_true, Bool.false_eq_true, if_false]
      rw [Bool.and_eq_true, Bool.and_eq_true, decide_eq_true_eq, decide_eq_true_eq, userOk2_iff]
      exact ⟨⟨List.length_pos_iff.mpr hz.1, hz.2.1⟩, hu⟩

theorem NLabel_word {l : Str} (h : NLabel l) : ∀ c ∈ l, isWord c = true := by
  rcases h with ⟨a, _, rfl, ha, sy, u, rfl, hsy, hu⟩ | ⟨z, u, rfl, hz, hu⟩
  · intro c hc
    simp only [List.mem_append] at hc
    rcases hc with hc | hc | hc
    · exact digit_word (optDig_all ha c hc)
    · exact alpha_word (hsy.2.2 c hc)
    · exact NUser1_word hu c hc
  · intro c hc
    simp only [List.mem_append] at hc
    rcases hc with hc | hc
    · exact digit_word (hz.2.2 c hc)
    · exact NUser1_word (NUser2_sub hu) c hc

theorem NLabel_head {l : Str} (h : NLabel l) : ∃ d t, l = d :: t := by
  rcases h with ⟨a, _, rfl, ha, sy, u, rfl, hsy, hu⟩ | ⟨z, u, rfl, hz, hu⟩
  · obtain ⟨d, t, rfl, _⟩ := run13_head hsy
    cases a with
    | nil => exact ⟨d, t ++ u, rfl⟩
    | cons e a' => exact ⟨e, _, rfl⟩
  · obtain ⟨d, t, rfl, _⟩ := run13_head hz
    exact ⟨d, t ++ u, rfl⟩

/-- characters of a nucleus body: word characters, `@`, `.` -/
def isNucChar (c : Char) : Bool := isWord c || c == '@' || c == '.'

theorem NMass_chars {m : Str} (h : NMass m) : ∀ c ∈ m, isNucChar c = true := by
  rcases (NMass_iff m).mp h with rfl | ⟨a, b, rfl, ha, hb⟩
  · simp
  · intro c hc
    simp only [List.mem_cons, List.mem_append] at hc
    rcases hc with rfl | hc | rfl | hc
    · decide
    · simp [isNucChar, digit_word (ha.2 c hc)]
    · decide
    · simp [isNucChar, digit_word (hb.2 c hc)]

theorem NBody_chars {b : Str} (h : NBody b) : ∀ c ∈ b, isNucChar c = true := by
  obtain ⟨l, m, rfl, hl, hm⟩ := h
  intro c hc
  rcases List.mem_append.mp hc with hc | hc
  · simp [isNucChar, NLabel_word hl c hc]
  · exact NMass_chars hm c hc

theorem NBody_head {b : Str} (h : NBody b) : ∃ d t, b = d :: t ∧ isWord d = true := by
  obtain ⟨l, m, rfl, hl, hm⟩ := h
  obtain ⟨d, t, rfl⟩ := NLabel_head hl
  exact ⟨d, t ++ m, rfl, NLabel_word hl d (by simp)⟩

theorem parseCore_iff (g : Bool) (core : Str) : (parseCore g core).isSome = true ↔ NBody core := by
  rw [parseCore_isSome, Bool.and_eq_true, parseMass_isSome, labelOk_iff]
  constructor
  · rintro ⟨hm, hl⟩
    exact ⟨_, _, List.takeWhile_append_dropWhile.symm, hl, hm⟩
  · rintro ⟨l, m, rfl, hl, hm⟩
    have hall : ∀ c ∈ l, (c != '@') = true := by
      intro c hc; have := word_ne (NLabel_word hl c hc) '@' (by decide); simp [bne, this]
    have hr : ∀ d ∈ m.head?, (d != '@') = false := by
      rcases (NMass_iff m).mp hm with rfl | ⟨a, b, rfl, _, _⟩
      · simp
      · exact stop_cons (by decide) _
    obtain ⟨h1, h2⟩ := span_append hall hr
    rw [h1, h2]
    exact ⟨hm, hl⟩

theorem parseNucleus_cons (c : Char) (r : Str) : parseNucleus (c :: r) =
    if c == '@' then parseCore true r
    else if isGhPrefix (c :: r) then
      (if (c :: r).getLast? = some ')' then parseCore true (((c :: r).drop 3).dropLast) else none)
    else parseCore false (c :: r) := rfl

theorem isGhPrefix_iff (t : Str) : isGhPrefix t = true ↔ ∃ g h r, t = g :: h :: '(' :: r ∧ g.toLower = 'g' ∧ h.toLower = 'h' := by
  match t with
  | [] => simp [isGhPrefix]
  | [_] => simp [isGhPrefix]
  | [_, _] => simp [isGhPrefix]
  | g :: h :: p :: r =>
    simp only [isGhPrefix, Bool.and_eq_true, beq_iff_eq]
    constructor
    · rintro ⟨⟨hg, hh⟩, rfl⟩
      exact ⟨g, h, r, rfl, hg, hh⟩
    · rintro ⟨g', h', r', heq, hg, hh⟩
      simp only [List.cons.injEq] at heq
      obtain ⟨rfl, rfl, rfl, rfl⟩ := heq
      exact ⟨⟨hg, hh⟩, rfl⟩

theorem nucChar_ne_lp {c : Char} (h : isNucChar c = true) : c ≠ '(' := by
  rintro rfl; revert h; decide

theorem isNucleus_iff (t : Str) : isNucleus t = true ↔ LNuc t := by
  unfold isNucleus LNuc
  cases t with
  | nil =>
    constructor
    · intro h; cases h
    · rintro (⟨b, h, _⟩ | ⟨g, h, b, h', _⟩ | h)
      · cases h
      · cases h'
      · obtain ⟨d, t, h, _⟩ := NBody_head h; cases h
  | cons c r =>
    rw [parseNucleus_cons]
    by_cases hc : c = '@'
    · subst hc
      simp only [beq_self_eq_true, if_true]
      rw [parseCore_iff]
      constructor
      · intro h; exact Or.inl ⟨r, rfl, h⟩
      · rintro (⟨b, h, hb⟩ | ⟨g, h, b, h', hg, _⟩ | h)
        · injection h with _ h; rw [h]; exact hb
        · injection h' with h' _; subst h'; exact absurd hg (by decide)
        · obtain ⟨d, t, h, hd⟩ := NBody_head h
          injection h with h _; subst h; exact absurd hd (by decide)
    · have hc' : (c == '@') = false := by simp [hc]
      simp only [hc', Bool.false_eq_true, if_false]
      by_cases hg : isGhPrefix (c :: r) = true
      · simp only [hg, if_true]
        obtain ⟨g, h, r', heq, hgc, hhc⟩ := (isGhPrefix_iff _).mp hg
        rw [heq]
        simp only [List.drop_succ_cons, List.drop_zero]
        constructor
        · intro hp
          split at hp
          · rename_i hlast
            rw [parseCore_iff] at hp
            rw [List.getLast?_cons_cons, List.getLast?_cons_cons] at hlast
            obtain ⟨ys, hys⟩ := List.getLast?_eq_some_iff.mp hlast
            cases ys with
            | nil => simp at hys
            | cons y ys' =>
              simp only [List.cons_append, List.cons.injEq] at hys
              obtain ⟨_, rfl⟩ := hys
              rw [List.dropLast_concat] at hp
              exact Or.inr (Or.inl ⟨g, h, ys', rfl, hgc, hhc, hp⟩)
          · cases hp
        · rintro (⟨b, h1, _⟩ | ⟨g', h', b, h1, _, _, hb⟩ | hb)
          · injection h1 with h1 _; injection heq with h2 _; exact absurd (h2.trans h1) hc
          · simp only [List.cons.injEq, true_and] at h1
            obtain ⟨_, _, rfl⟩ := h1
            have hl : (g :: h :: '(' :: (b ++ [')'])).getLast? = some ')' := by
              rw [List.getLast?_cons_cons, List.getLast?_cons_cons, ← List.cons_append, List.getLast?_concat]
            simp only [hl, if_true, List.dropLast_concat]
            rw [parseCore_iff]; exact hb
          · exact absurd rfl (nucChar_ne_lp (NBody_chars hb '(' (by simp)))
      · simp only [hg, Bool.false_eq_true, if_false]
        rw [parseCore_iff]
        constructor
        · intro h; exact Or.inr (Or.inr h)
        · rintro (⟨b, h1, _⟩ | ⟨g', h', b, h1, hgc, hhc, _⟩ | hb)
          · injection h1 with h1 _; exact absurd h1 hc
          · exact absurd ((isGhPrefix_iff _).mpr ⟨g', h', _, h1, hgc, hhc⟩) hg
          · exact hb

/-- it is enough to know the extent of `N` through some observation of the captures: group 1 then holds what was consumed -/
theorem NucExtFor.of_oext {V : Type} {obs : Caps → V} {N : Re} {D : OLang V} {P : Str → Bool} (h : OExt obs N D)
    (hD : ∀ t r, (∃ v, D (obs []) t r v) ↔ P t = true) : NucExtFor N P := by
  intro s
  constructor
  · intro x hx
    obtain ⟨m, hm, rfl⟩ := mem_ms_group.mp hx
    obtain ⟨t, r, rfl, hL, hmr, _⟩ := (h _ _ rfl).1 m hm
    refine ⟨t, r, rfl, (hD t r).mp ⟨_, hL⟩, hmr, ?_⟩
    simp only [St.group, capture_caps', List.lookup, beq_self_eq_true, hmr]
    rw [show (St.init (toBytes (t ++ r))).rest = toBytes t ++ toBytes r by simp [St.init], takeDiff_append']
  · rintro t r rfl ht
    obtain ⟨v, hL⟩ := (hD t r).mpr ht
    obtain ⟨m, hm, hmr, _⟩ := (h _ (St.init (toBytes (t ++ r))) rfl).2 t r v rfl hL
    exact ⟨St.capture 1 _ m, mem_ms_group.mpr ⟨m, hm, rfl⟩, hmr⟩

theorem nucLine_ext : NucExtFor nucLine (fun t => isNucleus t) :=
  .of_oext sext_nucLine fun t r => (nucLang_iff t r).trans (isNucleus_iff t).symm

theorem nucChar_not_sep {c : Char} (h : isNucChar c = true) : isSep c = false := by
  simp only [isNucChar, Bool.or_eq_true, beq_iff_eq] at h
  rcases h with (h | rfl) | rfl
  · exact word_not_sep h
  · decide
  · decide

theorem NBody_no_sep {b : Str} (h : NBody b) : ∀ c ∈ b, isSep c = false :=
  fun c hc => nucChar_not_sep (NBody_chars h c hc)

theorem toLower_not_sep {c k : Char} (h : c.toLower = k) (hk : k.isAlpha = true) : isSep c = false := by
  cases hs : isSep c with
  | false => rfl
  | true => rcases sep_cases hs with rfl | rfl | rfl <;> subst h <;> revert hk <;> decide

theorem isNucleus_no_sep {t : Str} (h : isNucleus t = true) : ∀ c ∈ t, isSep c = false := by
  rcases (isNucleus_iff t).mp h with ⟨b, rfl, hb⟩ | ⟨g, hh, b, rfl, hg, hhc, hb⟩ | hb
  · intro c hc
    simp only [List.mem_cons] at hc
    rcases hc with rfl | hc
    · decide
    · exact NBody_no_sep hb c hc
  · intro c hc
    simp only [List.mem_cons, List.mem_append, List.not_mem_nil, or_false] at hc
    rcases hc with rfl | rfl | rfl | hc | rfl
    · exact toLower_not_sep hg (by decide)
    · exact toLower_not_sep hhc (by decide)
    · decide
    · exact NBody_no_sep hb c hc
    · decide
  · exact NBody_no_sep hb

theorem isNucleus_ne_nil {t : Str} (h : isNucleus t = true) : t ≠ [] := by
  rintro rfl
  cases h

/-! ## tests -/

example : isNucleus "Gh(He_3@4.0026)".toList = true := by decide
example : isNucleus "Gh(He_3@4.0026".toList = false := by decide
example : ((Re.group 1 nucLine).ms (St.init (toBytes "He12 ".toList))).map (fun x => x.rest.length) = [1, 2, 3, 4] := by decide

end QcelVerif.MolText
