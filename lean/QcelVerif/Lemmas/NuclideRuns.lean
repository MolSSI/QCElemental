import QcelVerif.Model.NucleusShipped
/-!
C04/C06: `elRange` without a pass over the whole nuclide table per element.

`elRange N rd sym` filters all of `N.nuclides` for the rows of `sym`.  On a table cut into groups of rows with one element
symbol each, that filter is the concatenation of the groups labelled `sym` (`filter_flatMap_groups`, any list, any key), so
the range can be read off the groups (`elRange_of_groups`, any table).  For the shipped table the groups are its runs of
consecutive rows with the same symbol, computed in one pass and checked, not trusted (`shipped_runs`).  Core Lean only.
-/
namespace QcelVerif.Nucleus
open QcelVerif.PStr

theorem filter_flatMap_groups {α : Type} (key : α → Nat) (gs : List (Nat × List α))
    (h : ∀ g ∈ gs, ∀ a ∈ g.2, key a = g.1) (k : Nat) :
    (gs.flatMap (·.2)).filter (fun a => key a == k) = (gs.filter (·.1 == k)).flatMap (·.2) := by
  induction gs with
  | nil => rfl
  | cons g gs ih =>
    have hg : ∀ a ∈ g.2, key a = g.1 := h g List.mem_cons_self
    rw [List.flatMap_cons, List.filter_append, ih fun g' hg' => h g' (List.mem_cons_of_mem _ hg'), List.filter_cons]
    cases hk : g.1 == k
    · rw [List.filter_eq_nil_iff.mpr fun a ha => by rw [hg a ha, hk]; exact Bool.false_ne_true]; rfl
    · rw [List.filter_eq_self.mpr fun a ha => by rw [hg a ha, hk]]; rfl

/-- `elRange` on the rows of one element -/
def elRangeOn (rd : Rat → Rat) (rows : List (Nat × Nat × Nat × Nat)) : Option Range :=
  match rows.mapM (fun r => (decVal (unpack r.2.2.2)).map fun q => (r.2.2.1, rd q)) with
  | none => none
  | some kv =>
    let d := dictVals kv
    match minL (fun a b => decide (a < b)) (d.map (·.1)), minL (fun a b => decide (b < a)) (d.map (·.1)),
          minL (fun a b => decide (a < b)) (d.map (·.2)), minL (fun a b => decide (b < a)) (d.map (·.2)) with
    | some a0, some a1, some m0, some m1 => some ⟨a0, a1, m0, m1⟩
    | _, _, _, _ => none

/-- `gs` cuts `l` into groups of rows with one element symbol each -/
def groupsOf (l : List (Nat × Nat × Nat × Nat)) (gs : List (Nat × List (Nat × Nat × Nat × Nat))) : Bool :=
  decide (gs.flatMap (·.2) = l) && gs.all fun g => g.2.all fun r => r.2.1 == g.1

theorem elRange_of_groups (N : NTables) (rd : Rat → Rat) (gs : List (Nat × List (Nat × Nat × Nat × Nat)))
    (h : groupsOf N.nuclides gs = true) (sym : Nat) :
    elRange N rd sym = elRangeOn rd ((gs.filter (·.1 == sym)).flatMap (·.2)) := by
  simp only [groupsOf, Bool.and_eq_true, decide_eq_true_eq, List.all_eq_true, beq_iff_eq] at h
  rw [← filter_flatMap_groups (·.2.1) gs h.2 sym, h.1]
  rfl

/-- runs of consecutive rows with the same element symbol; fed the reversed table, so that rows and runs come out in table order -/
def runsAux : List (Nat × List (Nat × Nat × Nat × Nat)) → List (Nat × Nat × Nat × Nat) → List (Nat × List (Nat × Nat × Nat × Nat))
  | acc, [] => acc
  | [], r :: t => runsAux [(r.2.1, [r])] t
  | (k, g) :: gs, r :: t =>
    if Nat.beq r.2.1 k then runsAux ((k, r :: g) :: gs) t else runsAux ((r.2.1, [r]) :: (k, g) :: gs) t

def shippedRuns : List (Nat × List (Nat × Nat × Nat × Nat)) := runsAux [] Gen.PT.nuclides.reverse

theorem shipped_runs : groupsOf shippedN.nuclides shippedRuns = true := by decide +kernel

/-- the range table of the shipped nuclides, read off their runs -/
def shippedRange (sym : Nat) : Option Range := elRangeOn rd64 ((shippedRuns.filter (·.1 == sym)).flatMap (·.2))

theorem elRange_shipped : elRange shippedN rd64 = shippedRange :=
  funext (elRange_of_groups shippedN rd64 shippedRuns shipped_runs)

end QcelVerif.Nucleus
