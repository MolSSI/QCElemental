import QcelVerif.Model.NucleusShipped
import QcelVerif.Lib.Monadic
/-!
Inversion lemmas for the C06 model (what a successful stage of `reconcileWith` tells us) and facts about `elRange`, `truncInt`, `absR`, `rd64`.
-/
namespace QcelVerif.Nucleus
open QcelVerif.PStr QcelVerif.PT

theorem bind_ok {ε α β} {x : Except ε α} {f : α → Except ε β} {b : β} :
    (x >>= f) = .ok b ↔ ∃ a, x = .ok a ∧ f a = .ok b := by
  cases x with
  | error e => simp [bind, Except.bind]
  | ok a => simp [bind, Except.bind]

theorem ofOpt_ok {α} {e : Err} {o : Option α} {a : α} : ofOpt e o = .ok a ↔ o = some a := by
  cases o <;> simp [ofOpt]

theorem map_ok {ε α β} {x : Except ε α} {f : α → β} {b : β} :
    (f <$> x) = .ok b ↔ ∃ a, x = .ok a ∧ f a = b := by
  cases x with
  | error e => simp [Functor.map, Except.map]
  | ok a => simp [Functor.map, Except.map]

/-- `mapM` over the zero-or-one element list of an optional clue -/
theorem mapM_optList_ok {α β} {x : Option α} {f : α → Except Err β} {l : List β}
    (h : (optList x).mapM f = .ok l) :
    (x = none ∧ l = []) ∨ ∃ a b, x = some a ∧ f a = .ok b ∧ l = [b] := by
  cases x with
  | none =>
    simp only [optList, List.mapM_nil, pure, Except.pure, Except.ok.injEq] at h
    exact Or.inl ⟨rfl, h.symm⟩
  | some a =>
    simp only [optList, List.mapM_cons, List.mapM_nil, bind_ok, pure, Except.pure, Except.ok.injEq] at h
    obtain ⟨b, hb, _, rfl, rfl⟩ := h
    exact Or.inr ⟨a, b, rfl, hb, rfl⟩

theorem mapM_optList_some {α β} {a : α} {f : α → Except Err β} {l : List β} (h : (optList (some a)).mapM f = .ok l) :
    ∃ b, f a = .ok b ∧ l = [b] := by
  rcases mapM_optList_ok h with ⟨hx, _⟩ | ⟨a', b, ha, hb, rfl⟩
  · cases hx
  · cases ha; exact ⟨b, hb, rfl⟩

theorem firstPassing_some {α π} {holds : π → α → Bool} {c : List α} {p : List π} {x : α}
    (h : firstPassing holds c p = some x) : x ∈ c ∧ ∀ q ∈ p, holds q x = true := by
  unfold firstPassing at h
  refine ⟨List.mem_of_find?_eq_some h, ?_⟩
  have := List.find?_some h
  simpa [List.all_eq_true] using this

theorem firstPassing_of_mem {α π} {holds : π → α → Bool} {c : List α} {p : List π} {x : α}
    (hx : x ∈ c) (hp : ∀ q ∈ p, holds q x = true) : ∃ y, firstPassing holds c p = some y := by
  unfold firstPassing
  cases h : c.find? (fun c => p.all fun q => holds q c) with
  | some y => exact ⟨y, rfl⟩
  | none =>
    rw [List.find?_eq_none] at h
    have := h x hx
    simp [List.all_eq_true] at this
    obtain ⟨q, hq, hf⟩ := this
    rw [hp q hq] at hf; cases hf

/-- a candidate that passes every test is returned when one of the tests admits nothing else -/
theorem firstPassing_eq_of_pinned {α π} {holds : π → α → Bool} {c : List α} {p : List π} {x : α} {q0 : π}
    (hx : x ∈ c) (hp : ∀ q ∈ p, holds q x = true) (hq0 : q0 ∈ p) (hpin : ∀ y, holds q0 y = true → y = x) :
    firstPassing holds c p = some x := by
  obtain ⟨y, hy⟩ := firstPassing_of_mem hx hp
  rw [hy, hpin y ((firstPassing_some hy).2 q0 hq0)]

/-- the default `''` fails the clue's test unless it is `w` itself -/
theorem firstPassing_user_one (w : Bytes) : firstPassing (fun (p c : Bytes) => c == p) [[], w] [w] = some w :=
  firstPassing_eq_of_pinned (q0 := w) (by simp) (by simp) (by simp) (by simp)

theorem APred.holds_eq {a x : Int} : APred.holds (.eq a) x = true ↔ x = a := by simp [APred.holds]

theorem MPred.holds_eq {rd : Rat → Rat} {m x : Rat} : MPred.holds rd (.eq m) x = true ↔ x = m := by simp [MPred.holds]

theorem MPred.holds_near {rd : Rat → Rat} {am mtol x : Rat} :
    MPred.holds rd (.near am mtol) x = true ↔ absR (rd (x - am)) ≤ mtol := by simp [MPred.holds]

theorem tableMass_ok {N : NTables} {rd : Rat → Rat} {k : PyVal} {m : Rat} :
    tableMass N rd k = .ok m ↔ ∃ s q, N.pt.toMass k = some s ∧ decVal (unpack s) = some q ∧ rd q = m := by
  unfold tableMass
  cases N.pt.toMass k with
  | none => simp
  | some s => cases hd : decVal (unpack s) <;> simp [hd]

theorem tableMass_error {N : NTables} {rd : Rat → Rat} {k : PyVal} {e : Err} (h : tableMass N rd k = .error e) :
    e = .notAnElement ∨ e = .other ∧ ∃ s, N.pt.toMass k = some s ∧ decVal (unpack s) = none := by
  unfold tableMass at h
  split at h
  · cases h; exact Or.inl rfl
  · rename_i s hs
    split at h
    · rename_i hd
      cases h
      exact Or.inr ⟨rfl, s, hs, hd⟩
    · cases h

theorem reconcileWith_ok {N : NTables} {rd rng i o} : reconcileWith N rd rng i = .ok o ↔
    ∃ zo lab clues late,
      zStage N rd rng i = .ok (zo, lab) ∧
      firstPassing (fun (p c : Int) => c == p) (zo.map (·.z)) (zo.map (·.z)) = some o.Z ∧
      N.pt.toE (.int o.Z) false = some o.E ∧
      cluesOf rd i lab = .ok clues ∧
      clues.mapM (offerClue N rd o.E i.mtol.val) = .ok late ∧
      firstPassing (MPred.holds rd) (zo.map (·.zMass) ++ late.map (·.m)) (zo.map (·.mPred) ++ late.map (·.mPred)) = some o.mass ∧
      firstPassing APred.holds (zo.map (·.zA) ++ late.map (·.a)) (zo.map (·.aPred) ++ late.map (·.aPred)) = some o.A ∧
      firstPassing (fun (p c : PyNum) => c.val == p.val) (PyNum.bool true :: realClues i lab) (realClues i lab) = some o.real ∧
      firstPassing (fun (p c : Bytes) => c == p) ([] :: userClues i lab) (userClues i lab) = some o.user := by
  unfold reconcileWith
  simp only [bind_ok, ofOpt_ok, pure, Except.pure, Except.ok.injEq]
  constructor
  · rintro ⟨⟨zo, lab⟩, h1, zf, h2, sym, h3, clues, h4, late, h5, mf, h6, af, h7, rf, h8, uf, h9, rfl⟩
    exact ⟨zo, lab, clues, late, h1, h2, h3, h4, h5, h6, h7, h8, h9⟩
  · rintro ⟨zo, lab, clues, late, h1, h2, h3, h4, h5, h6, h7, h8, h9⟩
    exact ⟨(zo, lab), h1, _, h2, _, h3, clues, h4, late, h5, _, h6, _, h7, _, h8, _, h9, rfl⟩

/-- what a successful `offer_atomic_number(z)` recorded -/
theorem offerZ_ok {N : NTables} {rd rng np z x} (h : offerZ N rd rng np z = .ok x) :
    x.z = z ∧ N.pt.toE (.int z) false = some x.sym ∧ tableMass N rd (.int z) = .ok x.zMass ∧
    (∃ a : Nat, N.pt.toA (.int z) = some a ∧ x.zA = (a : Int)) ∧
    ∃ r, rng x.sym = some r ∧ x.aPred = .range np r.amin r.amax ∧
      x.mPred = .range np (rd (r.mmin - 1/2)) (rd (r.mmax + 1/2)) := by
  unfold offerZ at h
  simp only [bind_ok, ofOpt_ok] at h
  obtain ⟨sym, h1, zm, h2, za, h3, r, h4, h5⟩ := h
  simp only [pure, Except.pure, Except.ok.injEq] at h5
  subst h5
  exact ⟨rfl, h1, h2, ⟨za, h3, rfl⟩, r, h4, rfl, rfl⟩

theorem offerE_ok {N : NTables} {rd rng np e x} :
    offerE N rd rng np e = .ok x ↔ ∃ z : Nat, N.pt.toZ (.str e) true = some z ∧ offerZ N rd rng np (z : Int) = .ok x := by
  unfold offerE
  simp only [bind_ok, ofOpt_ok]

/-- the first stage, inverted: each present element clue contributed exactly one offer, in source order -/
theorem zStage_ok {N : NTables} {rd rng i zo lab} (h : zStage N rd rng i = .ok (zo, lab)) :
    ∃ o1 o2 o3 o4,
      (optList i.Z).mapM (fun z => offerZ N rd rng i.nonphysical (truncInt z.val)) = .ok o1 ∧
      (optList i.E).mapM (fun e => offerE N rd rng i.nonphysical e) = .ok o2 ∧
      labelOf i = .ok lab ∧
      (optList (lab.bind (·.Z))).mapM (fun (z : Nat) => offerZ N rd rng i.nonphysical (z : Int)) = .ok o3 ∧
      (optList (lab.bind (·.E))).mapM (fun e => offerE N rd rng i.nonphysical e) = .ok o4 ∧
      zo = o1 ++ o2 ++ o3 ++ o4 := by
  unfold zStage at h
  simp only [bind_ok] at h
  obtain ⟨o1, h1, o2, h2, lab', h3, o3, h4, o4, h5, h6⟩ := h
  simp only [pure, Except.pure, Except.ok.injEq, Prod.mk.injEq] at h6
  obtain ⟨rfl, rfl⟩ := h6
  exact ⟨o1, o2, o3, o4, h1, h2, h3, h4, h5, rfl⟩

/-- a single offer: what `offer_atomic_number(z)` answers is `offer_atomic_number` of the `z` it records -/
theorem offerZ_self {N : NTables} {rd rng np z x} (h : offerZ N rd rng np z = .ok x) : offerZ N rd rng np x.z = .ok x := by
  rw [(offerZ_ok h).1]; exact h

theorem offerE_self {N : NTables} {rd rng np e x} (h : offerE N rd rng np e = .ok x) : offerZ N rd rng np x.z = .ok x := by
  obtain ⟨_, _, hz⟩ := offerE_ok.mp h
  exact offerZ_self hz

/-- the same for every offer the first stage collected, whichever clue (Z, E, label-Z, label-E) produced it -/
theorem zStage_offers {N : NTables} {rd rng i zo lab} (h : zStage N rd rng i = .ok (zo, lab)) :
    ∀ x ∈ zo, offerZ N rd rng i.nonphysical x.z = .ok x := by
  obtain ⟨o1, o2, o3, o4, h1, h2, _, h3, h4, rfl⟩ := zStage_ok h
  intro x hx
  simp only [List.mem_append] at hx
  rcases hx with ((hx | hx) | hx) | hx
  · obtain ⟨_, _, hb⟩ := mapM_ok_of_mem_right h1 x hx
    exact offerZ_self hb
  · obtain ⟨_, _, hb⟩ := mapM_ok_of_mem_right h2 x hx
    exact offerE_self hb
  · obtain ⟨_, _, hb⟩ := mapM_ok_of_mem_right h3 x hx
    exact offerZ_self hb
  · obtain ⟨_, _, hb⟩ := mapM_ok_of_mem_right h4 x hx
    exact offerE_self hb

/-! ## the range of an element -/

theorem minL_le {α} (lt : α → α → Bool) (le : α → α → Prop) (hrefl : ∀ a, le a a) (htrans : ∀ a b c, le a b → le b c → le a c)
    (h1 : ∀ a b, lt a b = true → le a b) (h2 : ∀ a b, lt a b = false → le b a) :
    ∀ (l : List α) (x : α), x ∈ l → ∃ m, minL lt l = some m ∧ le m x := by
  have key : ∀ (t : List α) (b x : α), (x = b ∨ x ∈ t) → le (t.foldl (fun b y => if lt y b then y else b) b) x := by
    intro t
    induction t with
    | nil => rintro b x (rfl | h); exact hrefl _; cases h
    | cons y t ih =>
      intro b x hx
      simp only [List.foldl_cons]
      cases hyb : lt y b
      · simp only [Bool.false_eq_true, if_false]
        rcases hx with rfl | hx
        · exact ih _ _ (.inl rfl)
        · rcases List.mem_cons.mp hx with rfl | hx
          · exact htrans _ _ _ (ih b b (.inl rfl)) (h2 _ _ hyb)
          · exact ih _ _ (.inr hx)
      · simp only [if_true]
        rcases hx with rfl | hx
        · exact htrans _ _ _ (ih y y (.inl rfl)) (h1 _ _ hyb)
        · rcases List.mem_cons.mp hx with rfl | hx
          · exact ih _ _ (.inl rfl)
          · exact ih _ _ (.inr hx)
  intro l x hx
  cases l with
  | nil => cases hx
  | cons a t => exact ⟨_, rfl, key t a x (by simpa [eq_comm] using List.mem_cons.mp hx)⟩

theorem mem_dictVals {a : Nat} {m : Rat} : ∀ {kv : List (Nat × Rat)}, (a, m) ∈ kv → (∀ m', (a, m') ∈ kv → m' = m) → (a, m) ∈ dictVals kv
  | [], h, _ => by cases h
  | (a', m') :: t, h, hu => by
      have ih : (a, m) ∈ t → (a, m) ∈ dictVals t := fun ht => mem_dictVals ht fun m'' hm => hu m'' (List.mem_cons_of_mem _ hm)
      unfold dictVals
      split
      · rename_i hany
        rcases List.mem_cons.mp h with e | ht
        · cases e
          obtain ⟨⟨a'', m''⟩, hm, hk⟩ := List.any_eq_true.mp hany
          simp only [beq_iff_eq] at hk
          subst hk
          exact ih (hu m'' (List.mem_cons_of_mem _ hm) ▸ hm)
        · exact ih ht
      · rcases List.mem_cons.mp h with e | ht
        · exact e ▸ List.mem_cons_self
        · exact List.mem_cons_of_mem _ (ih ht)

theorem mapM_option_eq_map {α β} (f : α → Option β) (g : α → β) (l : List α) (h : ∀ a ∈ l, f a = some (g a)) :
    l.mapM f = some (l.map g) := by
  rw [mapM_eq_some_iff, List.map_map]
  exact List.map_congr_left h

/-- **the range of an element contains each of its own nuclides** whose (mass number → mass string) is unambiguous,
on any table whose mass strings (for that element) parse -/
theorem elRange_contains (N : NTables) (rd : Rat → Rat) (sym : Nat)
    (hparse : ∀ r ∈ N.nuclides, r.2.1 = sym → (decVal (unpack r.2.2.2)).isSome = true)
    {k a s : Nat} {q : Rat} (hmem : (k, sym, a, s) ∈ N.nuclides) (hq : decVal (unpack s) = some q)
    (huniq : ∀ r ∈ N.nuclides, r.2.1 = sym → r.2.2.1 = a → r.2.2.2 = s) :
    ∃ r, elRange N rd sym = some r ∧ r.amin ≤ (a : Int) ∧ (a : Int) ≤ r.amax ∧ r.mmin ≤ rd q ∧ rd q ≤ r.mmax := by
  let g : Nat × Nat × Nat × Nat → Nat × Rat := fun r => (r.2.2.1, rd ((decVal (unpack r.2.2.2)).getD 0))
  have hrows : ∀ r ∈ N.nuclides.filter (fun r => r.2.1 == sym), r ∈ N.nuclides ∧ r.2.1 = sym := fun r hr => by
    simpa using List.mem_filter.mp hr
  have hmap := mapM_option_eq_map (fun r => (decVal (unpack r.2.2.2)).map fun q => (r.2.2.1, rd q)) g
    (N.nuclides.filter (fun r => r.2.1 == sym)) fun r hr => by
      obtain ⟨q', hq'⟩ := Option.isSome_iff_exists.mp (hparse r (hrows r hr).1 (hrows r hr).2)
      simp [g, hq']
  have hin : (a, rd q) ∈ dictVals ((N.nuclides.filter (fun r => r.2.1 == sym)).map g) := by
    refine mem_dictVals (List.mem_map.mpr ⟨(k, sym, a, s), List.mem_filter.mpr ⟨hmem, by simp⟩, by simp [g, hq]⟩) ?_
    intro m' hm'
    obtain ⟨r, hr, e⟩ := List.mem_map.mp hm'
    simp only [g, Prod.mk.injEq] at e
    rw [← e.2, huniq r (hrows r hr).1 (hrows r hr).2 e.1, hq]; rfl
  obtain ⟨a0, e0, l0⟩ := minL_le (fun a b : Int => decide (a < b)) (· ≤ ·) Int.le_refl (fun _ _ _ => Int.le_trans)
    (fun a b h => Int.le_of_lt (by simpa using h)) (fun a b h => by simpa using h) _ (a : Int)
    (List.mem_map_of_mem (f := fun x => (x.1 : Int)) hin)
  obtain ⟨a1, e1, l1⟩ := minL_le (fun a b : Int => decide (b < a)) (· ≥ ·) Int.le_refl (fun _ _ _ h1 h2 => Int.le_trans h2 h1)
    (fun a b h => Int.le_of_lt (by simpa using h)) (fun a b h => by simpa using h) _ (a : Int)
    (List.mem_map_of_mem (f := fun x => (x.1 : Int)) hin)
  obtain ⟨m0, f0, k0⟩ := minL_le (fun a b : Rat => decide (a < b)) (· ≤ ·) (fun _ => Rat.le_refl) (fun _ _ _ => Rat.le_trans)
    (fun a b h => Rat.le_of_lt (by simpa using h)) (fun a b h => Rat.not_lt.mp (by simpa using h)) _ (rd q) (List.mem_map_of_mem (f := (·.2)) hin)
  obtain ⟨m1, f1, k1⟩ := minL_le (fun a b : Rat => decide (b < a)) (· ≥ ·) (fun _ => Rat.le_refl) (fun _ _ _ h1 h2 => Rat.le_trans h2 h1)
    (fun a b h => Rat.le_of_lt (by simpa using h)) (fun a b h => Rat.not_lt.mp (by simpa using h)) _ (rd q) (List.mem_map_of_mem (f := (·.2)) hin)
  refine ⟨⟨a0, a1, m0, m1⟩, ?_, l0, l1, k0, k1⟩
  unfold elRange
  simp only [hmap, e0, e1, f0, f1]

theorem truncInt_intCast (z : Int) : truncInt (z : Rat) = z := by
  unfold truncInt
  split
  · exact Rat.floor_intCast z
  · have : -(z : Rat) = ((-z : Int) : Rat) := by simp
    rw [this, Rat.floor_intCast]; omega

theorem absR_nonneg (x : Rat) : 0 ≤ absR x := by
  unfold absR
  split <;> grind

theorem absR_neg (x : Rat) : absR (-x) = absR x := by
  unfold absR
  split <;> split <;> grind

theorem rd64_neg (x : Rat) : rd64 (-x) = -(rd64 x) := by
  by_cases h0 : x = 0
  · subst h0; decide +kernel
  · have hn0 : -x ≠ 0 := by grind
    unfold rd64
    simp only [h0, hn0, if_false]
    by_cases hneg : x < 0
    · have hpos : ¬ (-x < 0) := by grind
      simp only [hneg, hpos, if_true, if_false, Rat.neg_neg]
    · have hpos : -x < 0 := by grind
      simp only [hneg, hpos, if_true, if_false, Rat.neg_neg]

end QcelVerif.Nucleus
