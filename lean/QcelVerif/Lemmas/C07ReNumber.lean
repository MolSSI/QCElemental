import QcelVerif.Lemmas.C07ReShapes
import QcelVerif.Lemmas.MolText
/-!
C07 — NUMBER: the hand recogniser `isNumber` of M1 equals the generic regex engine run on the generated AST, for EVERY string.

The extent of `numberBody` is read off the AST (`LNumber`); `LNumber t ↔ NumLang t ↔ isNumber t = true` is pure `List Char`
reasoning, with `NumLang` (sign, unsigned mantissa, exponent) shaped like the recogniser.

From `Lemmas/MolText.lean` (lemmas about M1's recognisers): `digit_ne_minus`, `digit_mant`, `exp_not_mant`,
`parseMantU_int`.
-/
namespace QcelVerif.MolText
open QcelVerif.Regex QcelVerif.Gen

def isSignC (c : Char) : Bool := c == '-' || c == '+'

theorem cls_sign (c : Char) : clsMem false [.ch 45, .ch 43] c.toNat = isSignC c := by
  simp only [clsMem, Item.mem, isSignC, beq_lit, List.any_cons, List.any_nil, Bool.or_false, Char.reduceToNat]
  generalize (c.toNat == 45) = a
  generalize (c.toNat == 43) = b
  cases a <;> cases b <;> rfl

theorem cls_exp (c : Char) : clsMem false [.ch 68, .ch 100, .ch 69, .ch 101] c.toNat = isExpChar c := by
  simp only [clsMem, Item.mem, isExpChar, beq_lit, List.any_cons, List.any_nil, Bool.or_false, Char.reduceToNat]
  generalize (c.toNat == 68) = a
  generalize (c.toNat == 100) = b
  generalize (c.toNat == 69) = d
  generalize (c.toNat == 101) = e
  cases a <;> cases b <;> cases d <;> cases e <;> rfl

/-! ## the language of NUMBER, read off the AST -/

def LSign : Str → Prop := LOpt (LChar isSignC)
def LDig0 : Str → Prop := LStar Char.isDigit
def LDig1 : Str → Prop := LPlus Char.isDigit
def LExp : Str → Prop := LOpt (LSeq (LChar isExpChar) (LSeq LSign LDig1))
def LA1 : Str → Prop := LSeq LSign (LSeq LDig0 (LSeq (· = ['.']) (LSeq LDig1 LExp)))
def LA2 : Str → Prop := LSeq LSign (LSeq LDig1 (LSeq (· = ['.']) (LSeq LDig0 LExp)))
def LA3 : Str → Prop := LSeq LSign (LSeq LDig1 LExp)
def LNumber : Str → Prop := LAlt LA1 (LAlt LA2 LA3)

theorem ext_signOpt : Ext signOpt LSign := Ext.opt (Ext.cls cls_sign)
theorem ext_digits0 : Ext digits0 LDig0 := Ext.star cls_digit
theorem ext_digits1 : Ext digits1 LDig1 := Ext.plus cls_digit
theorem ext_dot : Ext dot (· = ['.']) := Ext.lit '.'
theorem ext_expOpt : Ext expOpt LExp := Ext.opt (Ext.seq (Ext.cls cls_exp) (Ext.seq ext_signOpt ext_digits1))
/-- unsigned mantissa: `\d+` or `\d*\.\d*` with a digit on one side -/
def MantUL (m : Str) : Prop :=
  LDig1 m ∨ ∃ ip fp, m = ip ++ '.' :: fp ∧ LDig0 ip ∧ LDig0 fp ∧ (ip ≠ [] ∨ fp ≠ [])

/-- sign, unsigned mantissa, exponent -/
def NumLang (t : Str) : Prop := ∃ sg m ex, t = sg ++ (m ++ ex) ∧ LSign sg ∧ MantUL m ∧ LExp ex

theorem isSignC_iff {c : Char} : isSignC c = true ↔ c = '-' ∨ c = '+' := by simp [isSignC]

theorem LSign_iff (sg : Str) : LSign sg ↔ sg = ['-'] ∨ sg = ['+'] ∨ sg = [] := by
  unfold LSign LOpt LChar
  constructor
  · rintro (⟨c, rfl, hc⟩ | rfl)
    · rcases isSignC_iff.mp hc with rfl | rfl <;> simp
    · simp
  · rintro (rfl | rfl | rfl)
    · exact Or.inl ⟨'-', rfl, by decide⟩
    · exact Or.inl ⟨'+', rfl, by decide⟩
    · exact Or.inr rfl

theorem allDigits_iff (d : Str) : (allDigits d && !d.isEmpty) = true ↔ LDig1 d := by
  simp [allDigits, List.all_eq_true, LDig1, LPlus, and_comm]

theorem allDigits_iff0 (d : Str) : allDigits d = true ↔ LDig0 d := by
  simp [allDigits, List.all_eq_true, LDig0, LStar]

theorem parseExp_cons (e : Char) (r : Str) : parseExp (e :: r) =
    if isExpChar e then
      match r with
      | '-' :: d => if allDigits d && !d.isEmpty then some (some (true, d)) else none
      | '+' :: d => if allDigits d && !d.isEmpty then some (some (false, d)) else none
      | d => if allDigits d && !d.isEmpty then some (some (false, d)) else none
    else none := rfl

theorem dig1_head {d : Str} (h : LDig1 d) : ∃ c t, d = c :: t ∧ c.isDigit = true := by
  obtain ⟨h0, h1⟩ := h
  cases d with
  | nil => exact absurd rfl h0
  | cons c t => exact ⟨c, t, rfl, h1 c (by simp)⟩

theorem parseExp_isSome (ex : Str) : (parseExp ex).isSome = true ↔ LExp ex := by
  cases ex with
  | nil => simp [parseExp, LExp, LOpt]
  | cons e r =>
    rw [parseExp_cons]
    unfold LExp LOpt LSeq LChar
    constructor
    · intro h
      left
      by_cases he : isExpChar e = true
      · simp only [he, if_true] at h
        refine ⟨[e], r, rfl, ⟨e, rfl, he⟩, ?_⟩
        split at h
        · rename_i d
          rw [ite_isSome, allDigits_iff] at h
          exact ⟨['-'], d, rfl, (LSign_iff _).mpr (Or.inl rfl), h⟩
        · rename_i d
          rw [ite_isSome, allDigits_iff] at h
          exact ⟨['+'], d, rfl, (LSign_iff _).mpr (Or.inr (Or.inl rfl)), h⟩
        · rw [ite_isSome, allDigits_iff] at h
          exact ⟨[], r, rfl, (LSign_iff _).mpr (Or.inr (Or.inr rfl)), h⟩
      · simp [he] at h
    · rintro (⟨u, v, huv, ⟨c, rfl, hc⟩, sg, d, rfl, hsg, hd⟩ | h)
      · simp only [List.singleton_append, List.cons.injEq] at huv
        obtain ⟨rfl, rfl⟩ := huv
        simp only [hc, if_true]
        rcases (LSign_iff _).mp hsg with rfl | rfl | rfl
        · simp only [List.singleton_append]
          rw [ite_isSome, allDigits_iff]; exact hd
        · simp only [List.singleton_append]
          rw [ite_isSome, allDigits_iff]; exact hd
        · simp only [List.nil_append]
          obtain ⟨c, t, rfl, hcd⟩ := dig1_head hd
          obtain ⟨h1, h2, _⟩ := digit_ne_minus hcd
          split
          · rename_i heq
            simp only [List.cons.injEq] at heq
            rw [← heq.1] at h1; simp at h1
          · rename_i heq
            simp only [List.cons.injEq] at heq
            rw [← heq.1] at h2; simp at h2
          · rw [ite_isSome, allDigits_iff]; exact hd
      · simp at h

theorem parseMantU_isSome (m : Str) : (parseMantU m).isSome = true ↔ MantUL m := by
  constructor
  · intro h
    have hsplit : m.takeWhile Char.isDigit ++ m.dropWhile Char.isDigit = m := List.takeWhile_append_dropWhile
    have htw := all_tw Char.isDigit m
    unfold parseMantU at h
    simp only at h
    split at h
    · rename_i heq
      left
      rw [heq, List.append_nil] at hsplit
      rw [hsplit] at htw h
      refine ⟨?_, htw⟩
      intro hm; subst hm; simp at h
    · rename_i r heq
      right
      rw [ite_isSome, Bool.and_eq_true, allDigits_iff0] at h
      refine ⟨m.takeWhile Char.isDigit, r, by rw [← heq]; exact hsplit.symm, htw, h.1, ?_⟩
      have h2 := h.2
      simp only [Bool.or_eq_true, Bool.not_eq_true', List.isEmpty_eq_false_iff] at h2
      exact h2
    · simp at h
  · rintro (h | ⟨ip, fp, rfl, hi, hf, hne⟩)
    · rw [parseMantU_int m h]; rfl
    · have hdot : Char.isDigit '.' = false := by decide
      obtain ⟨h1, h2⟩ := span_append hi (stop_cons hdot fp)
      unfold parseMantU
      simp only [h1, h2]
      rw [ite_isSome, Bool.and_eq_true, allDigits_iff0]
      refine ⟨hf, ?_⟩
      simp only [Bool.or_eq_true, Bool.not_eq_true', List.isEmpty_eq_false_iff]
      exact hne

theorem mantUL_head {m : Str} (h : MantUL m) : ∃ d t, m = d :: t ∧ (d == '-') = false ∧ (d == '+') = false := by
  rcases h with h | ⟨ip, fp, rfl, hi, _, _⟩
  · obtain ⟨c, t, rfl, hc⟩ := dig1_head h
    exact ⟨c, t, rfl, (digit_ne_minus hc).1, (digit_ne_minus hc).2.1⟩
  · cases ip with
    | nil => exact ⟨'.', fp, rfl, by decide, by decide⟩
    | cons c t =>
      have hc : c.isDigit = true := hi c (by simp)
      exact ⟨c, t ++ '.' :: fp, rfl, (digit_ne_minus hc).1, (digit_ne_minus hc).2.1⟩

theorem mantUL_all {m : Str} (h : MantUL m) : ∀ c ∈ m, isMantChar c = true := by
  rcases h with h | ⟨ip, fp, rfl, hi, hf, _⟩
  · intro c hc; exact digit_mant (h.2 c hc)
  · intro c hc
    simp only [List.mem_append, List.mem_cons] at hc
    rcases hc with hc | rfl | hc
    · exact digit_mant (hi c hc)
    · decide
    · exact digit_mant (hf c hc)

theorem parseMant_isSome (s : Str) : (parseMant s).isSome = true ↔ ∃ sg m, s = sg ++ m ∧ LSign sg ∧ MantUL m := by
  constructor
  · intro h
    cases s with
    | nil => simp [parseMant] at h
    | cons c r =>
      unfold parseMant at h
      simp only at h
      by_cases h1 : (c == '-') = true
      · simp only [h1, if_true, Option.isSome_map] at h
        rw [beq_iff_eq] at h1; subst h1
        exact ⟨['-'], r, rfl, (LSign_iff _).mpr (Or.inl rfl), (parseMantU_isSome r).mp h⟩
      · by_cases h2 : (c == '+') = true
        · simp only [h1, h2, Bool.false_eq_true, if_false, if_true, Option.isSome_map] at h
          rw [beq_iff_eq] at h2; subst h2
          exact ⟨['+'], r, rfl, (LSign_iff _).mpr (Or.inr (Or.inl rfl)), (parseMantU_isSome r).mp h⟩
        · simp only [h1, h2, Bool.false_eq_true, if_false, Option.isSome_map] at h
          exact ⟨[], c :: r, rfl, (LSign_iff _).mpr (Or.inr (Or.inr rfl)), (parseMantU_isSome _).mp h⟩
  · rintro ⟨sg, m, rfl, hsg, hm⟩
    have hm' := (parseMantU_isSome m).mpr hm
    rcases (LSign_iff _).mp hsg with rfl | rfl | rfl
    · simp [parseMant, hm']
    · simp [parseMant, hm']
    · obtain ⟨d, t, rfl, hd1, hd2⟩ := mantUL_head hm
      simp only [List.nil_append]
      unfold parseMant
      simp only [hd1, hd2, Bool.false_eq_true, if_false, Option.isSome_map]
      exact hm'

theorem isNumber_split (t : Str) : isNumber t = true ↔
    (parseMant (t.takeWhile isMantChar)).isSome = true ∧ (parseExp (t.dropWhile isMantChar)).isSome = true := by
  unfold isNumber parseNumber
  cases parseMant (t.takeWhile isMantChar) with
  | none => simp
  | some v =>
    obtain ⟨n, a, b, d⟩ := v
    cases parseExp (t.dropWhile isMantChar) <;> simp

theorem LExp_head {ex : Str} (h : LExp ex) : ∀ d ∈ ex.head?, isMantChar d = false := by
  rcases h with ⟨u, v, rfl, ⟨c, rfl, hc⟩, _⟩ | rfl
  · exact stop_cons (exp_not_mant hc) v
  · simp

theorem LSign_all {sg : Str} (h : LSign sg) : ∀ c ∈ sg, isMantChar c = true := by
  rcases (LSign_iff _).mp h with rfl | rfl | rfl <;> intro c hc <;> simp at hc <;> subst hc <;> decide

theorem isNumber_iff_NumLang (t : Str) : isNumber t = true ↔ NumLang t := by
  rw [isNumber_split, parseMant_isSome, parseExp_isSome]
  constructor
  · rintro ⟨⟨sg, m, hsm, hsg, hm⟩, hex⟩
    refine ⟨sg, m, t.dropWhile isMantChar, ?_, hsg, hm, hex⟩
    rw [← List.append_assoc, ← hsm]
    exact List.takeWhile_append_dropWhile.symm
  · rintro ⟨sg, m, ex, rfl, hsg, hm, hex⟩
    have hall : ∀ c ∈ sg ++ m, isMantChar c = true := by
      intro c hc
      rcases List.mem_append.mp hc with hc | hc
      · exact LSign_all hsg c hc
      · exact mantUL_all hm c hc
    obtain ⟨h1, h2⟩ := span_append hall (LExp_head hex)
    rw [← List.append_assoc, h1, h2]
    exact ⟨⟨sg, m, rfl, hsg, hm⟩, hex⟩

theorem LNumber_iff_NumLang (t : Str) : LNumber t ↔ NumLang t := by
  constructor
  · rintro (h | h | h)
    · obtain ⟨sg, _, rfl, hsg, ip, _, rfl, hip, _, _, rfl, rfl, fp, ex, rfl, hfp, hex⟩ := h
      exact ⟨sg, ip ++ '.' :: fp, ex, by simp, hsg, Or.inr ⟨ip, fp, rfl, hip, hfp.2, Or.inr hfp.1⟩, hex⟩
    · obtain ⟨sg, _, rfl, hsg, ip, _, rfl, hip, _, _, rfl, rfl, fp, ex, rfl, hfp, hex⟩ := h
      exact ⟨sg, ip ++ '.' :: fp, ex, by simp, hsg, Or.inr ⟨ip, fp, rfl, hip.2, hfp, Or.inl hip.1⟩, hex⟩
    · obtain ⟨sg, _, rfl, hsg, ip, ex, rfl, hip, hex⟩ := h
      exact ⟨sg, ip, ex, rfl, hsg, Or.inl hip, hex⟩
  · rintro ⟨sg, m, ex, rfl, hsg, hm | ⟨ip, fp, rfl, hip, hfp, hne⟩, hex⟩
    · exact Or.inr (Or.inr ⟨sg, _, rfl, hsg, m, ex, rfl, hm, hex⟩)
    · by_cases h0 : ip = []
      · have hf : fp ≠ [] := by rcases hne with h | h; exact absurd h0 h; exact h
        refine Or.inl ⟨sg, _, rfl, hsg, ip, '.' :: (fp ++ ex), by simp, hip, ['.'], fp ++ ex, rfl, rfl,
          fp, ex, rfl, ⟨hf, hfp⟩, hex⟩
      · refine Or.inr (Or.inl ⟨sg, _, rfl, hsg, ip, '.' :: (fp ++ ex), by simp, ⟨h0, hip⟩, ['.'], fp ++ ex, rfl, rfl,
          fp, ex, rfl, hfp, hex⟩)

/-- NUMBER's three alternatives (in source order `.num`, `num.`, `num`) around any pattern `e` for the exponent: the IGNORECASE
patterns carry another AST for `[DdEe]` (`expOptI`) and are the same otherwise -/
theorem number_lang {e : Re} (he : Ext e LExp) :
    Ext (.alt (.seq signOpt (.seq digits0 (.seq dot (.seq digits1 e))))
      (.alt (.seq signOpt (.seq digits1 (.seq dot (.seq digits0 e)))) (.seq signOpt (.seq digits1 e)))) (fun t => isNumber t = true) :=
  (Ext.alt (Ext.seq ext_signOpt (Ext.seq ext_digits0 (Ext.seq ext_dot (Ext.seq ext_digits1 he))))
    (Ext.alt (Ext.seq ext_signOpt (Ext.seq ext_digits1 (Ext.seq ext_dot (Ext.seq ext_digits0 he))))
      (Ext.seq ext_signOpt (Ext.seq ext_digits1 he)))).congr fun t => (LNumber_iff_NumLang t).trans (isNumber_iff_NumLang t).symm

/-- **extent of NUMBER**: the ways NUMBER's body matches from a cursor are exactly the splits of the remaining text into a token
the hand recogniser accepts and a rest; only the cursor moves (no captures inside). -/
theorem numberBody_lang : Ext numberBody (fun t => isNumber t = true) := number_lang ext_expOpt

/-- the statement of `numberBody_lang` with `Ext` unfolded (what `Props/C07Regex.lean` quotes as `number_extent`) -/
def NumExt : Prop :=
  ∀ (s : Str) (st x : St), st.rest = toBytes s →
    (x ∈ numberBody.ms st ↔ ∃ t r, s = t ++ r ∧ isNumber t = true ∧ x = st.adv (toBytes t) (toBytes r))

theorem number_ms_full (t : Str) (x : St) :
    (x ∈ FromStringRegex.number.ms (St.init (toBytes t)) ∧ x.rest.isEmpty = true) ↔
      (isNumber t = true ∧ x = ⟨Regex.lastOr none (toBytes t), [], [(1, toBytes t)]⟩) := by
  rw [number_shape, (CExt.group 1 (OExt.ofExt numberBody_lang)).mem_iff (s := t) rfl]
  constructor
  · rintro ⟨⟨t', r, c, rfl, ⟨_, ⟨hn, rfl⟩, rfl⟩, rfl⟩, hr⟩
    obtain rfl : r = [] := toBytes_eq_nil.mp (by simpa using hr)
    rw [List.append_nil]
    exact ⟨hn, rfl⟩
  · rintro ⟨hn, rfl⟩
    exact ⟨⟨t, [], _, by simp, ⟨_, ⟨hn, rfl⟩, rfl⟩, rfl⟩, rfl⟩

theorem number_full (t : Str) : FromStringRegex.number.fullMatch (toBytes t) =
    if isNumber t = true then some ⟨Regex.lastOr none (toBytes t), [], [(1, toBytes t)]⟩ else none := by
  rw [fullMatch_eq_find, ← List.head?_filter]
  exact head?_of_mem_iff fun x => List.mem_filter.trans (number_ms_full t x)

/-- **NUMBER**: `re.compile(NUMBER, re.VERBOSE).fullmatch(t)` by the generic engine on the generated AST succeeds exactly when `isNumber t` -/
theorem number_eq_regex (t : Str) : isNumberRe t = isNumberHand t := by
  rw [isNumberRe, number_full, ite_isSome]
  rfl

theorem number_group (t : Str) (st : St) (h : FromStringRegex.number.fullMatch (toBytes t) = some st) :
    st.group 1 = some (toBytes t) := by
  rw [number_full] at h
  split at h
  · injection h with h
    subst h
    rfl
  · cases h

/-! ## tests -/

example : isNumberRe "1.5D+02".toList = true := by decide
example : isNumberRe "1.e".toList = false := by decide
example : isNumberRe "-.5".toList = true := by decide
example : isNumberRe "+-1".toList = false := by decide
example : isNumberHand "1.5D+02".toList = true := by decide
example : isNumberHand "1.e".toList = false := by decide

end QcelVerif.MolText
