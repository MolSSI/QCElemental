import QcelVerif.Model.NucleusAst
import QcelVerif.Model.NucleusRe
import QcelVerif.Gen.NucleusSrc
import QcelVerif.Lemmas.Nucleus
import Mathlib.Data.Rat.Cast.Defs
/-!
# C06 — helper lemmas for the source-derived procedure (`Model/NucleusAst.lean` run on `Gen/NucleusSrc.lean`)

 * the closures the source appends to the `*_range` lists represent the model's `APred` / `MPred` / equality tests
 * every nested closure (`offer_*`) executed symbolically on the GENERATED statements equals the model's offer
 * `parse_nucleus_label`'s group-reading branch, statement by statement, equals the model's field extraction
`look0`–`look5`, `fn0_exec`–`fn5_exec` and `parseFields_eq` unfold the evaluator on the generated terms: an edit of nucleus.py that
changes a statement breaks them.  The closures (`eqClo`, `aRangeClo`, `mRangeClo`, `nearClo`) and the statements of `parse_s1` …
`parse_sMass` are written out here and meet the generated text in those lemmas.
Imports: `labelOfGroups` is in Model/NucleusRe.lean; the Mathlib import is for `Int.cast_neg`, `Int.cast_one` in `repA_range`.
-/

namespace QcelVerif.Nucleus.Ast
open QcelVerif QcelVerif.PStr QcelVerif.PT QcelVerif.Nucleus QcelVerif.Gen.NucleusSrc

-- The equation lemmas of these functions are derived here once; without this, every proof that unfolds them derives them again.
section
attribute [local simp] Expr.eval Stmt.exec Block.exec evalArgs paramEnv TTerm.eval TBool.eval List.lookup asPyVal Val.truthy Val.cmp St.pushCand St.pushTest
end

@[simp] theorem ok_bind {ε α β} (a : α) (f : α → Except ε β) : (Except.ok a >>= f) = f a := rfl
@[simp] theorem err_bind {ε α β} (e : ε) (f : α → Except ε β) : ((Except.error e : Except ε α) >>= f) = Except.error e := rfl
@[simp] theorem pure_eq_ok {ε α} (a : α) : (pure a : Except ε α) = Except.ok a := rfl
@[simp] theorem throw_eq_err {ε α} (e : ε) : (throw e : Except ε α) = Except.error e := rfl
@[simp] theorem map_ok' {ε α β} (f : α → β) (a : α) : Except.map f (Except.ok a : Except ε α) = Except.ok (f a) := rfl
@[simp] theorem map_err' {ε α β} (f : α → β) (e : ε) : Except.map f (Except.error e : Except ε α) = Except.error e := rfl
@[simp] theorem fmap_ok' {ε α β} (f : α → β) (a : α) : f <$> (Except.ok a : Except ε α) = Except.ok (f a) := rfl
@[simp] theorem fmap_err' {ε α β} (f : α → β) (e : ε) : f <$> (Except.error e : Except ε α) = Except.error e := rfl

theorem map_bind {ε α β γ} (f : β → γ) (x : Except ε α) (g : α → Except ε β) :
    Except.map f (x >>= g) = x >>= fun a => Except.map f (g a) := by cases x <;> rfl

@[simp] theorem ite_some_and (a b : Bool) : (if a = true then some b else some false) = some (a && b) := by cases a <;> rfl
@[simp] theorem ite_some_or (a b : Bool) : (if a = true then some true else some b) = some (a || b) := by cases a <;> rfl

@[simp] theorem ite_prop_some_and (p : Prop) [Decidable p] (b : Bool) : (if p then some b else some false) = some (decide p && b) := by
  by_cases h : p <;> simp [h]
@[simp] theorem ite_prop_some_or (p : Prop) [Decidable p] (b : Bool) : (if p then some true else some b) = some (decide p || b) := by
  by_cases h : p <;> simp [h]

/-- `R c p`: closure `c` represents the model's predicate `p`, pairwise along the two lists -/
def Reps {π} (R : Clo → π → Prop) : List Clo → List π → Prop
  | [], [] => True
  | c :: cs, p :: ps => R c p ∧ Reps R cs ps
  | _, _ => False

theorem Reps.append {π} {R : Clo → π → Prop} : ∀ {cs ps cs' ps'}, Reps R cs ps → Reps R cs' ps' → Reps R (cs ++ cs') (ps ++ ps')
  | [], [], _, _, _, h => h
  | _ :: _, _ :: _, _, _, ⟨h1, h2⟩, h => ⟨h1, Reps.append h2 h⟩
  | [], _ :: _, _, _, h, _ => h.elim
  | _ :: _, [], _, _, h, _ => h.elim

theorem Reps.single {π} {R : Clo → π → Prop} {c p} (h : R c p) : Reps R [c] [p] := ⟨h, trivial⟩

theorem runTests_of_reps {π α} (rd : Rat → Rat) (g : Env) (R : Clo → π → Prop) (inj : α → Val) (holds : π → α → Bool) (x : α)
    (hR : ∀ c p, R c p → c.test rd g (inj x) = some (holds p x)) :
    ∀ tests preds, Reps R tests preds → runTests rd g tests (inj x) = some (preds.map (holds · x))
  | [], [], _ => rfl
  | c :: cs, p :: ps, ⟨h1, h2⟩ => by
      have ih := runTests_of_reps rd g R inj holds x hR cs ps h2
      unfold runTests at ih ⊢
      simp [List.mapM_cons, hR c p h1, ih]
  | [], _ :: _, h => h.elim
  | _ :: _, [], h => h.elim

theorem firstPassingSrc_eq {α π} (rd : Rat → Rat) (g : Env) (inj : α → Val) (holds : π → α → Bool) (tests : List Clo) (preds : List π)
    (h : ∀ x, runTests rd g tests (inj x) = some (preds.map (holds · x))) :
    ∀ cands : List α, firstPassingSrc ⟨true, true⟩ rd g inj tests cands = .ok (firstPassing holds cands preds)
  | [] => rfl
  | c :: t => by
      have ih := firstPassingSrc_eq rd g inj holds tests preds h t
      unfold firstPassing at ih ⊢
      simp only [firstPassingSrc, h c, List.all_map, List.find?_cons, if_true]
      by_cases hc : (preds.all fun p => holds p c) = true
      · simp [hc]
      · have : (preds.all (id ∘ fun x => holds x c)) = false := by simpa [Function.comp_def] using hc
        simp only [this, Bool.false_eq_true, if_false, ih]
        simp [hc]


/-! ## the closures the source builds, and the model predicates they represent -/

section reps
variable (rd : Rat → Rat)

/-- the enclosing frame as the tests see it: `mtol` (parameter 8) and `mmtol = 0.5` (variable 10) -/
def GOk (mtol : PyNum) (g : Env) : Prop :=
  g.lookup 8 = some (.num mtol) ∧ g.lookup 10 = some (.num (.float (1/2 : Rat)))

def RepZ (c : Clo) (p : Int) : Prop := ∀ g x, c.test rd g (.num (.int x)) = some (x == p)
def RepA (c : Clo) (p : APred) : Prop := ∀ g x, c.test rd g (.num (.int x)) = some (p.holds x)
def RepM (mtol : PyNum) (c : Clo) (p : MPred) : Prop := ∀ g, GOk mtol g → ∀ x, c.test rd g (.num (.float x)) = some (p.holds rd x)
def RepR (c : Clo) (p : PyNum) : Prop := ∀ g x, c.test rd g (.num x) = some (x.val == p.val)
def RepL (c : Clo) (p : Bytes) : Prop := ∀ g x, c.test rd g (.str x) = some (x == p)

/-- `lambda x, v=v: x == v` -/
def eqClo (v : Val) : Clo := ⟨[v], .cmp .eq .x (.cap 0)⟩

theorem intCast_beq (a b : Int) : (((a : Int) : Rat) == (b : Rat)) = (a == b) := by
  by_cases h : a = b
  · simp [h]
  · have : ((a : Int) : Rat) ≠ (b : Rat) := fun h' => h (by exact_mod_cast h')
    simp [h, this]

theorem eqClo_test (g : Env) (v x : Val) : (eqClo v).test rd g x = Val.cmp .eq x v := by
  simp [Clo.test, eqClo, TBool.eval, TTerm.eval]

theorem repZ_eqClo (z : Int) : RepZ rd (eqClo (.num (.int z))) z :=
  fun g x => (eqClo_test rd g _ _).trans (congrArg some (intCast_beq x z))

theorem repA_eqClo (a : Int) : RepA rd (eqClo (.num (.int a))) (.eq a) := repZ_eqClo rd a

theorem repM_eqClo (mtol : PyNum) (m : Rat) : RepM rd mtol (eqClo (.num (.float m))) (.eq m) := fun g _ _ => eqClo_test rd g _ _

theorem repR_eqClo (p : PyNum) : RepR rd (eqClo (.num p)) p := fun g _ => eqClo_test rd g _ _

theorem repL_eqClo (s : Bytes) : RepL rd (eqClo (.str s)) s := fun g _ => eqClo_test rd g _ _

/-- `lambda x: x == -1 or x >= 1` / `lambda x, amin=…, amax=…: x == -1 or (x >= amin and x <= amax)` -/
def aRangeClo (np : Bool) (r : Range) : Clo :=
  if np then ⟨[], .or (.cmp .eq .x (.lit (.num (.int (-1))))) (.cmp .ge .x (.lit (.num (.int 1))))⟩
  else ⟨[.num (.int r.amin), .num (.int r.amax)],
        .or (.cmp .eq .x (.lit (.num (.int (-1))))) (.and (.cmp .ge .x (.cap 0)) (.cmp .le .x (.cap 1)))⟩

/-- `lambda x: x > 0.5` / `lambda x, mmin=…, mmax=…: x >= mmin - mmtol and x <= mmax + mmtol` -/
def mRangeClo (np : Bool) (r : Range) : Clo :=
  if np then ⟨[], .cmp .gt .x (.lit (.num (.float (1/2 : Rat))))⟩
  else ⟨[.num (.float r.mmin), .num (.float r.mmax)],
        .and (.cmp .ge .x (.sub (.cap 0) (.outer 10))) (.cmp .le .x (.add (.cap 1) (.outer 10)))⟩

/-- `lambda x, a_mass=a_mass: abs(x - a_mass) <= mtol` -/
def nearClo (am : Rat) : Clo := ⟨[.num (.float am)], .cmp .le (.abs (.sub .x (.cap 0))) (.outer 8)⟩

theorem intCast_le' (a b : Int) : decide (((a : Int) : Rat) ≤ (b : Rat)) = decide (a ≤ b) := by
  have : ((a : Int) : Rat) ≤ (b : Rat) ↔ a ≤ b := by exact_mod_cast Iff.rfl
  simp [this]

theorem repA_range (np : Bool) (r : Range) : RepA rd (aRangeClo np r) (.range np r.amin r.amax) := by
  intro g x
  cases np
  · have h1 := intCast_beq x (-1)
    have h2 := intCast_le' r.amin x
    have h3 := intCast_le' x r.amax
    simp only [Int.cast_neg, Int.cast_one] at h1
    by_cases hx : x = -1 <;>
      simp_all [Clo.test, aRangeClo, TBool.eval, TTerm.eval, Val.cmp, Cmp.eval, PyNum.val, APred.holds]
  · have h1 := intCast_beq x (-1)
    have h2 := intCast_le' 1 x
    simp only [Int.cast_neg, Int.cast_one] at h1 h2
    by_cases hx : x = -1 <;>
      simp_all [Clo.test, aRangeClo, TBool.eval, TTerm.eval, Val.cmp, Cmp.eval, PyNum.val, APred.holds]

theorem repM_range (mtol : PyNum) (np : Bool) (r : Range) :
    RepM rd mtol (mRangeClo np r) (.range np (rd (r.mmin - 1/2)) (rd (r.mmax + 1/2))) := by
  intro g hg x
  cases np
  · simp [Clo.test, mRangeClo, TBool.eval, TTerm.eval, Val.cmp, Cmp.eval, PyNum.val, MPred.holds, hg.2, numSub, numAdd]
    rfl
  · simp [Clo.test, mRangeClo, TBool.eval, TTerm.eval, Val.cmp, Cmp.eval, PyNum.val, MPred.holds]
    rfl

theorem repM_near (mtol : PyNum) (am : Rat) : RepM rd mtol (nearClo am) (.near am mtol.val) := by
  intro g hg x
  simp [Clo.test, nearClo, TBool.eval, TTerm.eval, Val.cmp, Cmp.eval, PyNum.val, MPred.holds, hg.1, numSub, numAbs]
  rfl

end reps


/-! ## the nested closures, executed symbolically -/

section fns
variable (N : NTables) (rd : Rat → Rat) (rng : Nat → Option Range)

abbrev W0 : World := { N := N, rd := rd, rng := rng, grp := none }

def St.pushZ (st : St) (z zA : Int) (zMass : Rat) (ac mc : Clo) : St :=
  { st with zE := st.zE ++ [z], zR := st.zR ++ [eqClo (.num (.int z))], aE := st.aE ++ [zA], aR := st.aR ++ [ac],
            mE := st.mE ++ [zMass], mR := st.mR ++ [mc] }

def St.pushLate (st : St) (a : Int) (m : Rat) (mc : Clo) : St :=
  { st with aE := st.aE ++ [a], aR := st.aR ++ [eqClo (.num (.int a))], mE := st.mE ++ [m], mR := st.mR ++ [mc] }

def St.pushR (st : St) (p : PyNum) : St := { st with rE := st.rE ++ [p], rR := st.rR ++ [eqClo (.num p)] }
def St.pushL (st : St) (s : Bytes) : St := { st with lE := st.lE ++ [s], lR := st.lR ++ [eqClo (.str s)] }

/-- `offer_atomic_number(z)` as the source spells it -/
def srcOfferZ (np : Bool) (z : Int) (st : St) : Except Err St := do
  let sym ← ofOpt .notAnElement (N.pt.toE (.int z) false)
  let zMass ← tableMass N rd (.int z)
  let zA ← ofOpt .notAnElement (N.pt.toA (.int z))
  let r ← ofOpt .other (rng sym)
  pure (st.pushZ z zA zMass (aRangeClo np r) (mRangeClo np r))


theorem look0 : program.fns.lookup 0 = some fn0 := rfl
theorem look1 : program.fns.lookup 1 = some fn1 := rfl
theorem look2 : program.fns.lookup 2 = some fn2 := rfl
theorem look3 : program.fns.lookup 3 = some fn3 := rfl
theorem look4 : program.fns.lookup 4 = some fn4 := rfl
theorem look5 : program.fns.lookup 5 = some fn5 := rfl

@[simp] theorem val_float (q : Rat) : (PyNum.float q).val = q := rfl
@[simp] theorem val_int (i : Int) : (PyNum.int i).val = (i : Rat) := rfl
theorem truthy_vbool (b : Bool) : (vbool b).truthy = b := by cases b <;> simp [vbool, Val.truthy, PyNum.val]

/-- symbolic execution of the generated statements: unfold the evaluator on the concrete program text -/
macro "src_exec" "[" ts:Lean.Parser.Tactic.simpLemma,* "]" : tactic =>
  `(tactic| simp only [List.length, paramEnv, if_true, Nat.zero_add, Nat.reduceAdd, Block.exec, Stmt.exec, Expr.eval, List.lookup, ofOpt,
      ok_bind, err_bind, pure_eq_ok, throw_eq_err, map_ok', map_err', asPyVal, beq_self_eq_true, Nat.reduceBEq, evalArgs,
      St.pushCand, St.pushTest, truthy_vbool, if_false, Bool.false_eq_true, $ts,*])

theorem fn1_exec (inner) (p : PyNum) (st : St) (np : Bool) (h7 : st.g.lookup 7 = some (vbool np)) :
    callFn program (W0 N rd rng) inner 1 [.num p] st = srcOfferZ N rd rng np (truncInt p.val) st := by
  unfold callFn srcOfferZ
  rw [look1]
  -- the table lookups stay as binds, in the order of `srcOfferZ`; the run stops at the first `if nonphysical:`
  src_exec [fn1, h7, bind_assoc, map_bind]
  cases np
  · src_exec [h7, bind_assoc, map_bind]
    rfl
  · src_exec [h7, bind_assoc, map_bind]
    rfl

/-- `offer_element_symbol(e)` (calls `offer_atomic_number` one level down) -/
theorem fn0_exec (e : Bytes) (st : St) (np : Bool) (h7 : st.g.lookup 7 = some (vbool np)) :
    callee2 program (W0 N rd rng) 0 [.str e] st =
      (do let z ← ofOpt .notAnElement (N.pt.toZ (.str e) true)
          srcOfferZ N rd rng np ((z : Nat) : Int) st) := by
  unfold callee2 callFn
  rw [look0]
  cases hZ : N.pt.toZ (.str e) true with
  | none => src_exec [fn0, hZ]
  | some z =>
    src_exec [fn0, hZ]
    have := fn1_exec N rd rng noCallee (.int z) st np h7
    simp only [PyNum.val, truncInt_intCast] at this
    unfold callFn at this
    simp only [List.length, paramEnv, Nat.zero_add] at this
    rw [this]
    cases srcOfferZ N rd rng np (z : Int) st <;> rfl

/-- `offer_mass_number(Z_final, a)` -/
theorem fn2_exec (inner) (zf : Int) (sym : Nat) (hsym : N.pt.toE (.int zf) false = some sym) (p : PyNum) (st : St) :
    callFn program (W0 N rd rng) inner 2 [.num (.int zf), .num p] st =
      (do let am ← tableMass N rd (.str (unpack sym ++ intStr (truncInt p.val)))
          pure (st.pushLate (truncInt p.val) am (nearClo am))) := by
  unfold callFn
  rw [look2]
  cases hM : tableMass N rd (.str (unpack sym ++ intStr (truncInt p.val))) with
  | error e => src_exec [fn2, hsym, hM]
  | ok am =>
    src_exec [fn2, hsym, hM]
    rfl

/-- `offer_mass_value(Z_final, m)`: the `try … except NotAnElementError` only catches that class -/
theorem fn3_exec (inner) (zf : Int) (sym : Nat) (hsym : N.pt.toE (.int zf) false = some sym) (p mtol : PyNum) (st : St)
    (h8 : st.g.lookup 8 = some (.num mtol))
    (hTM : ∀ k, tableMass N rd k ≠ .error .other) :
    callFn program (W0 N rd rng) inner 3 [.num (.int zf), .num p] st =
      .ok (st.pushLate (massToA N rd sym mtol.val (rd p.val)) (rd p.val) (eqClo (.num (.float (rd p.val))))) := by
  unfold callFn massToA
  rw [look3]
  cases hM : tableMass N rd (.str (unpack sym ++ intStr (roundHalfEven (rd p.val)))) with
  | error e =>
    rcases tableMass_error hM with rfl | ⟨rfl, _⟩
    · src_exec [fn3, hsym, hM, val_float, val_int, truncInt_intCast]
      rfl
    · exact absurd hM (hTM _)
  | ok tm =>
    src_exec [fn3, hsym, hM, val_float, val_int, truncInt_intCast, h8, Val.cmp, numSub, numAbs, Cmp.eval, decide_eq_true_eq]
    by_cases hlt : mtol.val < absR (rd (tm - rd p.val))
    · src_exec [hlt]
      rfl
    · src_exec [hlt]
      rfl

/-- `offer_reality(rgh)` -/
theorem fn4_exec (inner) (p : PyNum) (st : St) :
    callFn program (W0 N rd rng) inner 4 [.num p] st = .ok (st.pushR p) := by
  unfold callFn
  rw [look4]
  src_exec [fn4]
  rfl

/-- `offer_user_label(lbl)`: `str(lbl).lower()` -/
theorem fn5_exec (inner) (s : Bytes) (st : St) :
    callFn program (W0 N rd rng) inner 5 [.str s] st = .ok (st.pushL (lower s)) := by
  unfold callFn
  rw [look5]
  src_exec [fn5]
  rfl


/-! ## `parse_nucleus_label`: the group-reading branch -/

/-- what the compiled pattern guarantees of its captures: a participating group is non-empty, and the mass group is
`digits.digits` (`matchNucleus_groupsOk`, Props/C06SrcGroups.lean, proves it of every match) -/
def GroupsOk (g : Groups) : Prop :=
  (∀ s, g.A = some s → s ≠ []) ∧ (∀ s, g.Z = some s → s ≠ []) ∧ (∀ s, g.user1 = some s → s ≠ []) ∧
  (∀ s, g.user2 = some s → s ≠ []) ∧ (∀ s, g.mass = some s → s ≠ [] ∧ ∃ q, decVal s = some q)

def optNatV : Option Nat → Val
  | some n => .num (.int (n : Nat))
  | none => .none

def optMassV (rd : Rat → Rat) : Option Bytes → Val
  | some t => match decVal t with
      | some q => .num (.float (rd q))
      | none => .none
  | none => .none

/-- the model's `Label` as the tuple of Python values `parse_nucleus_label` returns (mass through `float`) -/
def labelVals (rd : Rat → Rat) (L : Label) : List Val :=
  [optNatV L.A, optNatV L.Z, optStr L.E, optMassV rd L.mass, vbool L.real, optStr L.user]

abbrev Hp (gr : Groups) : Hooks :=
  { W := { N := N, rd := rd, rng := rng, grp := some gr }, R := recDef, callee := noCallee, parse := noParse }

theorem truthy_none : Val.none.truthy = false := rfl

theorem truthy_str {s : Bytes} (h : s ≠ []) : (Val.str s).truthy = true := by
  cases s with
  | nil => exact absurd rfl h
  | cons a t => rfl

theorem groupVal_A (gr : Groups) : groupVal gr .A = optStr gr.A := by cases gr; rename_i a _ _ _ _ _; cases a <;> rfl
theorem groupVal_Z (gr : Groups) : groupVal gr .Z = optStr gr.Z := by cases gr; rename_i _ _ _ a _ _; cases a <;> rfl
theorem groupVal_E (gr : Groups) : groupVal gr .E = optStr gr.E := by cases gr; rename_i _ a _ _ _ _; cases a <;> rfl
theorem groupVal_u1 (gr : Groups) : groupVal gr .user1 = optStr gr.user1 := by cases gr; rename_i _ _ a _ _ _; cases a <;> rfl
theorem groupVal_u2 (gr : Groups) : groupVal gr .user2 = optStr gr.user2 := by cases gr; rename_i _ _ _ _ a _; cases a <;> rfl
theorem groupVal_m (gr : Groups) : groupVal gr .mass = optStr gr.mass := by cases gr; rename_i _ _ _ _ _ a; cases a <;> rfl

theorem parse_s1 (gr : Groups) (loc : Env) (st : St) :
    Stmt.exec (Hp N rd rng gr) loc st (.assign true 0 (.notE (.orE (.group .gh1) (.group .gh2)))) =
      .ok ((0, vbool (!(gr.gh1 || gr.gh2))) :: loc, st) := by
  rcases gr with ⟨gh1, gh2, A, E, u1, Z, u2, m⟩
  cases gh1 <;> cases gh2 <;> src_exec [groupVal, Val.truthy] <;> rfl

theorem parse_sInt (gr : Groups) (n : GName) (k : Nat) (o : Option Bytes) (hgv : groupVal gr n = optStr o)
    (hne : ∀ s, o = some s → s ≠ []) (loc : Env) (st : St) :
    Stmt.exec (Hp N rd rng gr) loc st
        (.ite (.group n) (.cons (.assign true k (.pyInt (.group n))) .nil) (.cons (.assign true k (.lit .none)) .nil)) =
      .ok ((k, optNatV (o.map digitsVal)) :: loc, st) := by
  cases o with
  | none => src_exec [hgv, optStr, Val.truthy]; rfl
  | some t => src_exec [hgv, optStr, truthy_str (hne t rfl)]; rfl

theorem parse_sE (gr : Groups) (loc : Env) (st : St) :
    Stmt.exec (Hp N rd rng gr) loc st (.assign true 1 (.group .E)) = .ok ((1, optStr gr.E) :: loc, st) := by
  src_exec [groupVal_E]

theorem parse_sUser (gr : Groups) (h1 : ∀ s, gr.user1 = some s → s ≠ []) (h2 : ∀ s, gr.user2 = some s → s ≠ []) (loc : Env) (st : St) :
    Stmt.exec (Hp N rd rng gr) loc st
        (.ite (.group .user1) (.cons (.assign true 4 (.group .user1)) .nil)
          (.cons (.ite (.group .user2) (.cons (.assign true 4 (.group .user2)) .nil) (.cons (.assign true 4 (.lit .none)) .nil)) .nil)) =
      .ok ((4, optStr (match gr.user1 with | some u => some u | none => gr.user2)) :: loc, st) := by
  cases hu1 : gr.user1 with
  | some t => src_exec [groupVal_u1, hu1, optStr, truthy_str (h1 t hu1)]
  | none =>
    cases hu2 : gr.user2 with
    | some t => src_exec [groupVal_u1, groupVal_u2, hu1, hu2, optStr, truthy_str (h2 t hu2), truthy_none]
    | none => src_exec [groupVal_u1, groupVal_u2, hu1, hu2, optStr, truthy_none]

theorem parse_sMass (gr : Groups) (hm : ∀ s, gr.mass = some s → s ≠ [] ∧ ∃ q, decVal s = some q) (loc : Env) (st : St) :
    Stmt.exec (Hp N rd rng gr) loc st
        (.ite (.group .mass) (.cons (.assign true 5 (.pyFloat (.group .mass))) .nil) (.cons (.assign true 5 (.lit .none)) .nil)) =
      .ok ((5, optMassV rd gr.mass) :: loc, st) := by
  cases hmm : gr.mass with
  | none => src_exec [groupVal_m, hmm, optStr, Val.truthy]; rfl
  | some t =>
    obtain ⟨hne, q, hq⟩ := hm t hmm
    src_exec [groupVal_m, hmm, optStr, truthy_str hne, hq, optMassV]

theorem parseFields_eq (gr : Groups) (hok : GroupsOk gr) :
    parseFieldsSrc program (W0 N rd rng) gr = .ok (labelVals rd (labelOfGroups gr)) := by
  obtain ⟨hA, hZ, hu1, hu2, hm⟩ := hok
  unfold parseFieldsSrc
  simp only [program, parseBody, Block.exec]
  rw [parse_s1]; simp only [ok_bind]
  rw [parse_sInt N rd rng gr .A 2 gr.A (groupVal_A gr) hA]; simp only [ok_bind]
  rw [parse_sInt N rd rng gr .Z 3 gr.Z (groupVal_Z gr) hZ]; simp only [ok_bind]
  rw [parse_sE]; simp only [ok_bind]
  rw [parse_sUser N rd rng gr hu1 hu2]; simp only [ok_bind]
  rw [parse_sMass N rd rng gr hm]; simp only [ok_bind]
  src_exec [parseRet]
  rfl

/-- `parse_nucleus_label(l)` -/
theorem parseSrc_eq (l : Bytes) (hG : ∀ g, matchNucleus l = some g → GroupsOk g) :
    parseSrc program (W0 N rd rng) (.str l) = (ofOpt .unparseable (parseLabel l)).map (labelVals rd) := by
  rw [parseLabel_eq_map]
  cases hm : matchNucleus l with
  | none =>
    simp only [parseSrc, hm]
    rfl
  | some gr =>
    simp only [parseSrc, hm]
    exact parseFields_eq N rd rng gr (hG gr hm)

end fns

end QcelVerif.Nucleus.Ast
