import QcelVerif.Model.RegexFindall
import QcelVerif.Lemmas.RegexEngine
/-!
Generic facts about `Model/RegexFindall.lean` (the engine's `findall` / `finditer`) — no property specifics: one search attempt
is the first way to match (list semantics) that passes `must_advance`, and the matches `finditer` reports are consecutive,
non-overlapping pieces of the subject, in order.  (`scan` here is the `findall` scan, not the `re.sub` scan of `Model/RegexOps.lean`.)
-/
namespace QcelVerif.Regex

/-! ## unfolding `scan` -/

theorem scan_zero_nil (r : Re) (prev : Option Nat) : scan r 0 prev [] = (atPos r prev []).1 := by
  simp [scan]

theorem scan_zero_cons (r : Re) (prev : Option Nat) (c : Nat) (t : List Nat) :
    scan r 0 prev (c :: t) = (atPos r prev (c :: t)).1 ++ scan r ((atPos r prev (c :: t)).2 - 1) (some c) t := by
  simp [scan]

theorem scan_succ_cons (r : Re) (k : Nat) (prev : Option Nat) (c : Nat) (t : List Nat) :
    scan r (k + 1) prev (c :: t) = scan r k (some c) t := by
  simp [scan]

theorem scan_succ_nil (r : Re) (k : Nat) (prev : Option Nat) : scan r (k + 1) prev [] = [] := by
  simp [scan]

/-- stepping over `a` resumes the scan at the text after it, with the last character of `a` before the cursor -/
theorem scan_skip (r : Re) : ∀ (a b : List Nat) (prev : Option Nat),
    scan r a.length prev (a ++ b) = scan r 0 (lastOr prev a) b
  | [], b, prev => by simp [lastOr]
  | c :: t, b, prev => by
      rw [List.length_cons, List.cons_append, scan_succ_cons, scan_skip r t b (some c)]
      rfl

/-! ## one search attempt -/

theorem findSome?_ite_none {α} (q : α → Bool) (l : List α) :
    l.findSome? (fun a => if q a then none else some a) = l.find? (fun a => !q a) := by
  induction l with
  | nil => rfl
  | cons a t ih => by_cases h : q a <;> simp [h, ih]

/-- one attempt of `search` at a cursor: the first way to match (in backtracking order) that is not rejected by
`must_advance` -/
theorem matchAt_eq_find (r : Re) (adv : Bool) (prev : Option Nat) (s : List Nat) :
    matchAt r adv prev s = (r.ms ⟨prev, s, []⟩).find? (fun st' => !(adv && st'.rest.length == s.length)) := by
  unfold matchAt
  rw [bt_eq_findSome, findSome?_ite_none]

theorem matchAt_false (r : Re) (prev : Option Nat) (s : List Nat) : matchAt r false prev s = (r.ms ⟨prev, s, []⟩).head? := by
  rw [matchAt_eq_find]
  cases r.ms ⟨prev, s, []⟩ <;> simp

/-- every way to match leaves the cursor on a suffix of the text it started on -/
theorem ms_suffix (r : Re) : ∀ (st st' : St), st' ∈ r.ms st → st'.rest <:+ st.rest :=
  ms_rel (R := fun a b => b <:+ a) List.suffix_refl (fun h1 h2 => h2.trans h1) List.suffix_cons r

/-- a reported attempt is one of the ways to match, and under `must_advance` it is not empty -/
theorem matchAt_some {r : Re} {adv : Bool} {prev : Option Nat} {s : List Nat} {st : St} (h : matchAt r adv prev s = some st) :
    st.rest <:+ s ∧ (adv = true → st.rest.length ≠ s.length) := by
  rw [matchAt_eq_find] at h
  have hm := List.mem_of_find?_eq_some h
  have hp := List.find?_some h
  refine ⟨ms_suffix r _ _ hm, ?_⟩
  intro ha hl
  simp [ha, hl] at hp

theorem suffix_takeDiff {a s : List Nat} (h : a <:+ s) : takeDiff s a ++ a = s ∧ s.drop (s.length - a.length) = a := by
  obtain ⟨p, rfl⟩ := h
  simp [takeDiff]

theorem suffix_eq_of_length {a s : List Nat} (h : a <:+ s) (hl : ¬ a.length < s.length) : a = s := by
  have := h.length_le
  exact h.eq_of_length (by omega)

/-! ## the matches `finditer` reports are consecutive non-overlapping pieces of the subject -/

/-- `Pieces ms s`: `s = gap₁ ++ m₁ ++ gap₂ ++ m₂ ++ … ++ tail` with `ms = [m₁, m₂, …]` -/
inductive Pieces : List (List Nat) → List Nat → Prop
  | nil (s : List Nat) : Pieces [] s
  | cons (gap m rest : List Nat) (ms : List (List Nat)) : Pieces ms rest → Pieces (m :: ms) (gap ++ m ++ rest)

theorem Pieces.prepend {ms : List (List Nat)} {s : List Nat} (g : List Nat) (h : Pieces ms s) : Pieces ms (g ++ s) := by
  cases h with
  | nil => exact Pieces.nil _
  | cons gap m rest ms h' =>
    have := Pieces.cons (g ++ gap) m rest ms h'
    simpa [List.append_assoc] using this

theorem Pieces.here {ms : List (List Nat)} {rest : List Nat} (m : List Nat) (h : Pieces ms rest) : Pieces (m :: ms) (m ++ rest) := by
  simpa using Pieces.cons [] m rest ms h

theorem Pieces.of_drop {ms : List (List Nat)} {s : List Nat} {k : Nat} (h : Pieces ms (s.drop k)) : Pieces ms s := by
  have := Pieces.prepend (s.take k) h
  rwa [List.take_append_drop] at this

/-- a match reported with the cursor before `s`, then pieces of the text after it -/
theorem Pieces.found {ms : List (List Nat)} {s : List Nat} {st : St} (hs : st.rest <:+ s)
    (h : Pieces ms (s.drop (s.length - st.rest.length))) : Pieces ((foundOf s st).text :: ms) s := by
  obtain ⟨e1, e2⟩ := suffix_takeDiff hs
  rw [e2] at h
  have := Pieces.here (takeDiff s st.rest) h
  rwa [e1] at this

/-- every attempt moves the scan on -/
theorem atPos_step_pos (r : Re) (prev : Option Nat) (s : List Nat) : 1 ≤ (atPos r prev s).2 := by
  unfold atPos
  cases matchAt r false prev s with
  | none => exact Nat.le_refl _
  | some st1 =>
    simp only
    split
    · omega
    · cases h2 : matchAt r true prev s with
      | none => exact Nat.le_refl _
      | some st2 =>
        simp only
        obtain ⟨hs2, hne⟩ := matchAt_some h2
        have := hs2.length_le
        have := hne rfl
        omega

/-- the texts reported at one cursor position, followed by pieces of what is left after stepping, are pieces of the text -/
theorem atPos_pieces (r : Re) (prev : Option Nat) (s : List Nat) (X : List (List Nat))
    (hX : Pieces X (s.drop (atPos r prev s).2)) : Pieces ((atPos r prev s).1.map (·.text) ++ X) s := by
  unfold atPos at hX ⊢
  cases h1 : matchAt r false prev s with
  | none =>
    simp only [h1] at hX ⊢
    exact hX.of_drop
  | some st1 =>
    simp only [h1] at hX ⊢
    have hs1 := (matchAt_some h1).1
    by_cases hlt : st1.rest.length < s.length
    · simp only [hlt, if_true] at hX ⊢
      exact Pieces.found hs1 hX
    · -- an empty match is the piece `[]`; what `must_advance` finds next starts at the same place
      simp only [hlt, if_false] at hX ⊢
      have t1 : (foundOf s st1).text = [] := by simp [foundOf, takeDiff, suffix_eq_of_length hs1 hlt]
      cases h2 : matchAt r true prev s with
      | none =>
        simp only [h2] at hX ⊢
        simpa [t1] using Pieces.here [] hX.of_drop
      | some st2 =>
        simp only [h2] at hX ⊢
        simpa [t1] using Pieces.here [] (Pieces.found (matchAt_some h2).1 hX)

/-- **non-overlap, in order**: for every AST and subject, the texts `finditer` reports (after stepping over `k` characters)
are consecutive pieces of the remaining subject -/
theorem scan_pieces (r : Re) : ∀ (s : List Nat) (k : Nat) (prev : Option Nat),
    Pieces ((scan r k prev s).map (·.text)) (s.drop k)
  | [], k + 1, prev => by rw [scan_succ_nil]; exact Pieces.nil _
  | c :: t, k + 1, prev => by rw [scan_succ_cons]; exact scan_pieces r t k (some c)
  | [], 0, prev => by
      rw [scan_zero_nil]
      simpa using atPos_pieces r prev [] [] (Pieces.nil _)
  | c :: t, 0, prev => by
      rw [scan_zero_cons, List.map_append]
      obtain ⟨n, hn⟩ : ∃ n, (atPos r prev (c :: t)).2 = n + 1 :=
        ⟨_, (Nat.sub_add_cancel (atPos_step_pos r prev (c :: t))).symm⟩
      apply atPos_pieces
      rw [hn]
      exact scan_pieces r t n (some c)

/-- `re.finditer` / `re.findall`: the reported matches are consecutive non-overlapping pieces of the subject, in order -/
theorem finditer_pieces (r : Re) (s : List Nat) : Pieces ((r.finditer s).map (·.text)) s := by
  have := scan_pieces r s 0 none
  simpa [Re.finditer] using this

-- non-vacuity (tests): `x*` on "ax" reports '', 'x', '' — pieces of "ax" with gaps 'a', '', ''
example : Pieces [[], [120], []] [97, 120] := by
  have h := Pieces.cons [] [] [] [] (Pieces.nil [])
  have h2 := Pieces.cons [] [120] _ _ h
  have h3 := Pieces.cons [97] [] _ _ h2
  simpa using h3

end QcelVerif.Regex
