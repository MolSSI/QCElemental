import QcelVerif.Lemmas.FragAstLogic
import QcelVerif.Lemmas.Fragments
/-!
# C15 — loop invariants of the order-preserving path (`group_fragments=False`) of the source-derived `get_fragment`

The generated body of the `else:` branch of `if group_fragments:` (`gOrdered` below, equal to the generated term by
`gf_shape` in `Props/C15Src.lean`) is run by the evaluator of `Model/FragmentsAst.lean`.  This file proves, for ALL molecules whose fragment lists name
existing atoms and have a charge and a multiplicity each, what the three loops leave in the variables:
* loop 1 (`at2fr[iat] = ifr`)            — `at2fr` is `Fragments.at2fr` (last fragment listing the atom wins);
* loop 2 (`for iat in range(nat)`)       — rows / symbols / masses = `keptAtoms`, flags = `ifr in real`, `at2at` = `Fragments.at2at`;
* loop 3 (`for ifr, fr in enumerate(…)`) — remapped index lists, charges, multiplicities of the selected fragments in original order.
-/
namespace QcelVerif.FragSrc
open QcelVerif.FragAst QcelVerif.Fragments QcelVerif.ChgMult

/-- an optional index as the evaluator holds it -/
def oI (o : Option Nat) : Option Int := o.map (fun (k : Nat) => (k : Int))

/-- a length-`n` list of optional indices (`at2fr`, `at2at`) given by a function -/
def optL (f : Nat → Option Nat) (n : Nat) : List (Option Int) := (List.range n).map (fun i => oI (f i))

theorem optL_length (f : Nat → Option Nat) (n : Nat) : (optL f n).length = n := by simp [optL]

theorem optL_none (n : Nat) : (List.replicate n [(none : Option Int)]).flatten = optL (fun _ => none) n := by
  simp [optL, oI, List.map_const']

theorem optL_set (f : Nat → Option Nat) (n j : Nat) (v : Option Nat) :
    (optL f n).set j (oI v) = optL (fun i => if i = j then v else f i) n := by
  apply List.ext_getElem
  · simp [optL]
  · intro i h1 h2
    simp only [optL, List.getElem_set, List.getElem_map, List.getElem_range]
    by_cases h : j = i
    · subst h; simp
    · have : ¬ i = j := fun e => h e.symm
      simp [h, this]

theorem nth?_optL (f : Nat → Option Nat) (n i : Nat) (h : i < n) : nth? (optL f n) (i : Int) = some (oI (f i)) := by
  simp [nth?, optL, h]

theorem optL_congr {f g : Nat → Option Nat} {n : Nat} (h : ∀ i, i < n → f i = g i) : optL f n = optL g n := by
  simp only [optL]
  apply List.map_congr_left
  intro i hi
  rw [h i (List.mem_range.1 hi)]

section ordered
variable (R G : List Nat) (o : Val)

/-- the state of `get_fragment` inside the order-preserving path, written out (only the statement of `g_ordered` uses it) -/
def ost (ge sy ma ra fr fc fm sz a2f x21 x22 x23 a2a x25 : Val) : St Int :=
  ⟨[.s none, .l (natL R), .l (natL G), o, b2v false, ge, sy, ma, ra, fr, fc, fm, sz,
    .s none, .s none, .s none, .s none, .s none, .s none, .s none,
    a2f, x21, x22, x23, a2a, x25, .s none, .s none, .s none, .s none, .s none, .s none, .s none], []⟩

/-- `ifr in real or ifr in ghost` -/
def selE : Expr := .or_ (.isIn (.var 21) (.var 1)) (.isIn (.var 21) (.var 2))

theorem truthy_b2v (b : Bool) : (b2v b).truthy = b := by cases b <;> rfl

theorem sel_cond (inp v : List Val) (a : Option Int) (h21 : v[21]? = some (.s a)) (h1 : v[1]? = some (.l (natL R)))
    (h2 : v[2]? = some (.l (natL G))) :
    evalE inp v selE = some (b2v ((natL R).contains a || (natL G).contains a)) := by
  simp only [selE, evalE, h21, h1, h2, truthy_b2v]
  cases (natL R).contains a <;> simp [truthy_b2v]

theorem contains_oI (L : List Nat) (x : Option Nat) :
    (natL L).contains (oI x) = (match x with | some k => L.contains k | none => false) := by
  cases x with
  | none => simp [oI, natL]
  | some k => simpa [oI] using contains_natL L k

theorem real_eq (frags : List (List Nat)) (i : Nat) : (natL R).contains (oI (at2fr frags i)) = realAtom frags R i := by
  rw [contains_oI]; rfl

theorem keep_eq (frags : List (List Nat)) (i : Nat) :
    ((natL R).contains (oI (at2fr frags i)) || (natL G).contains (oI (at2fr frags i))) = keepAtom frags R G i := by
  rw [contains_oI, contains_oI]; unfold keepAtom; cases at2fr frags i <;> rfl

/-- the kept atoms among the first `m` -/
def keptTo (frags : List (List Nat)) (m : Nat) : List Nat := (List.range m).filter (keepAtom frags R G)

theorem keptTo_succ (frags : List (List Nat)) (m : Nat) :
    keptTo R G frags (m + 1) = keptTo R G frags m ++ (if keepAtom frags R G m then [m] else []) := by
  simp only [keptTo, List.range_succ, List.filter_append]
  cases h : keepAtom frags R G m <;> simp [h]

theorem countP_succ (p : Nat → Bool) (m : Nat) :
    (List.range (m + 1)).countP p = (List.range m).countP p + (if p m then 1 else 0) := by
  rw [List.range_succ, List.countP_append]; cases h : p m <;> simp [h]

theorem a2a_set (frags : List (List Nat)) (n m : Nat) :
    (optL (fun i => if i < m then at2at frags R G i else none) n).set m (oI (at2at frags R G m)) =
      optL (fun i => if i < m + 1 then at2at frags R G i else none) n := by
  rw [optL_set]
  apply optL_congr
  intro i _
  by_cases hi : i = m
  · subst hi; simp
  · have : (i < m + 1) = (i < m) := by apply propext; omega
    simp [hi, this]

end ordered

section loops
variable {inp : List Val} {d : Nat → Nat → Int} {n : Nat} {frags : List (List Nat)} {fcs fms : List Int}
  (hI : GfInp inp n frags fcs fms) (R G : List Nat)

/-! ### loop 1: `for ifr, fr in enumerate(self.fragments): for iat in fr: at2fr[iat] = ifr` -/

def aInner : Stmt := .setIdx 20 (.var 23) (.var 21)

def aOuter : Stmt := .forIn 23 (.var 22) aInner

theorem a_inner {st : St Int} {k : Nat} {f : Nat → Option Nat} {ys : List Nat} (hys : ∀ y ∈ ys, y < n) (hlen : st.v.length = 33)
    (h20 : st.v[20]? = some (.l (optL f n))) (h21 : st.v[21]? = some (.s (some (k : Nat))))
    (h22 : st.v[22]? = some (.l (natL ys))) :
    wp (exec inp d aOuter st) (fun st' => st'.v[20]? = some (.l (optL (fun i => if ys.contains i then some k else f i) n))) := by
  refine wp_forIn (fun (y : Nat) => .s (some (y : Int))) ys
    (fun pre s => s.v[20]? = some (.l (optL (fun i => if pre.contains i then some k else f i) n))) ?_ ?_ (by simpa using h20) ?_
  · simp [evalE, h22, Val.items, natL]
  · omega
  intro pre y post s hl hF hI
  have hy : y < n := hys y (by simp [hl])
  have h21 := hF.lookup (by decide) h21
  simp [-getElem?_pos, aInner, step_setIdx, evalE, getElem?_setSlot, hF.length, hlen, hI, h21, optL_length, hy]
  rw [show some ((k : Nat) : Int) = oI (some k) from rfl, optL_set]
  refine congrArg (optL · n) (funext fun i => ?_)
  by_cases hi : i = y <;> simp [hi]

theorem a_outer {st : St Int} (hA : ∀ fr ∈ frags, ∀ y ∈ fr, y < n) (hlen : st.v.length = 33)
    (h0 : inp[0]? = some (.ll (frags.map natL))) (h20 : st.v[20]? = some (.l (optL (fun _ => none) n))) :
    wp (exec inp d (.forEnum 21 22 (.inp 0) aOuter) st) (fun st' => st'.v[20]? = some (.l (optL (at2fr frags) n))) := by
  refine wp_forEnum (fun (fr : List Nat) => .l (natL fr)) frags
    (fun pre s => s.v[20]? = some (.l (optL (at2fr pre) n))) ?_ ?_ ?_ h20 ?_
  · simp [evalE, h0, Val.items]
  · omega
  · omega
  intro pre fr post s hl hF hI
  refine (a_inner (k := pre.length) (f := at2fr pre) (hA fr (by simp [hl])) ?_ ?_ ?_ ?_).mono ?_
  · simpa [hF.length] using hlen
  · simpa [-getElem?_pos, getElem?_setSlot] using hI
  · simp [-getElem?_pos, getElem?_setSlot, hF.length, hlen]
  · simp [-getElem?_pos, getElem?_setSlot, hF.length, hlen]
  · intro s' h
    rw [h, at2fr_snoc]

/-! ### loop 2: `for iat in range(nat):` — kept atoms, ghost marking, `at2at` -/

def bBody : Stmt :=
  (.seq (.set 21 (.idx (.var 20) (.var 23))) (.ite selE (.seq (.append 5 (.idx (.inp 3) (.var 23))) (.seq (.append 6 (.idx (.inp 1) (.var 23))) (.seq (.append 8 (.isIn (.var 21) (.var 1))) (.seq (.append 7 (.idx (.inp 2) (.var 23))) (.seq (.setIdx 24 (.var 23) (.var 12)) (.addAssign 12 (.int 1))))))) (.setIdx 24 (.var 23) .none)))

/-- loop 2 after the atoms `0..m-1`: the rows kept (geometry, symbols, masses), their flags, the counter `atom_size`, `at2at`
filled in up to `m` -/
def BRep (frags : List (List Nat)) (n m : Nat) (st : St Int) : Prop :=
  st.v[5]? = some (.l (natL (keptTo R G frags m))) ∧ st.v[6]? = some (.l (natL (keptTo R G frags m))) ∧
  st.v[7]? = some (.l (natL (keptTo R G frags m))) ∧
  st.v[8]? = some (.l ((keptTo R G frags m).map (fun i => some (b2i (realAtom frags R i))))) ∧
  st.v[12]? = some (.s (some (((List.range m).countP (keepAtom frags R G) : Nat) : Int))) ∧
  st.v[24]? = some (.l (optL (fun i => if i < m then at2at frags R G i else none) n))

theorem range_split {n y : Nat} {pre post : List Nat} (h : List.range n = pre ++ y :: post) : y = pre.length ∧ y < n := by
  have h1 : (List.range n)[pre.length]? = some y := by simp [h]
  obtain ⟨hlt, he⟩ := List.getElem?_eq_some_iff.1 h1
  simp at hlt he
  omega

include hI in
theorem b_loop {st : St Int} (hlen : st.v.length = 33) (h1 : st.v[1]? = some (.l (natL R))) (h2 : st.v[2]? = some (.l (natL G)))
    (h20 : st.v[20]? = some (.l (optL (at2fr frags) n))) (h0 : BRep R G frags n 0 st) :
    wp (exec inp d (.forIn 23 (.range (.int 0) (.len (.inp 1))) bBody) st) (BRep R G frags n n) := by
  refine (wp_forIn (fun (y : Nat) => .s (some (y : Int))) (List.range n) (fun pre s => BRep R G frags n pre.length s)
    ?_ ?_ h0 ?_).mono (by simp)
  · simp [evalE, hI.symbols, natL, Val.items]
  · omega
  intro pre m post s hl hF ⟨b5, b6, b7, b8, b12, b24⟩
  obtain ⟨rfl, hm⟩ := range_split hl
  have hl' := hF.length
  have h1 := hF.lookup (by decide) h1
  have h2 := hF.lookup (by decide) h2
  have h20 := hF.lookup (by decide) h20
  have hset := a2a_set R G frags n pre.length
  have hH : pre.length < (optL (fun i => if i < pre.length then at2at frags R G i else none) n).length := by
    rw [optL_length]; exact hm
  unfold bBody
  simp only [step_seq, step_set, evalE, getElem?_setSlot, length_setSlot, hl', hlen, h20, nth?_optL _ _ _ hm,
    Option.map_some, andThen_some, Nat.reduceLT, Nat.reduceEqDiff, if_true, if_false]
  rw [step_ite, sel_cond R G _ _ (oI (at2fr frags pre.length)) (by simp [-getElem?_pos, getElem?_setSlot, hl', hlen])
    (by simp [getElem?_setSlot, h1]) (by simp [getElem?_setSlot, h2]), keep_eq]
  simp only [truthy_b2v]
  cases hk : keepAtom frags R G pre.length
  · rw [show at2at frags R G pre.length = none by simp [at2at, hk]] at hset
    simp only [step_setIdx, evalE, getElem?_setSlot, length_setSlot, b24, hl', hlen, hH, Int.toNat_natCast, Int.natCast_nonneg,
      true_and, Nat.reduceLT, Nat.reduceEqDiff, if_true, if_false]
    simp [-getElem?_pos, BRep, getElem?_setSlot, hl', hlen, b5, b6, b7, b8, b12, keptTo_succ, countP_succ, hk, ← hset, oI]
  · rw [show at2at frags R G pre.length = some ((List.range pre.length).countP (keepAtom frags R G)) by simp [at2at, hk]] at hset
    simp only [step_seq, step_append, step_setIdx, step_addAssign, evalE, getElem?_setSlot, length_setSlot, hl', hlen, h1, b5, b6,
      b7, b8, b12, b24, hI.geometry, hI.symbols, hI.masses, nth?_range n _ hm, appendVal_l_s, hH, b2v, Int.toNat_natCast,
      Int.natCast_nonneg, true_and, Option.map_some, andThen_some, wp_some, Nat.reduceLT, Nat.reduceEqDiff,
      if_true, if_false]
    simp [-getElem?_pos, BRep, getElem?_setSlot, hl', hlen, keptTo_succ, countP_succ, hk, natL, b2i, ← hset, oI, ← real_eq R frags]

/-! ### loop 3: `for ifr, fr in enumerate(self.fragments):` — remapped index lists, charges, multiplicities -/

def cBody : Stmt :=
  (.seq (.ite (.or_ (.isIn (.var 21) (.var 1)) (.isIn (.var 21) (.var 2))) (.append 9 (.comp (.idx (.var 24) (.var 25)) 25 (.var 22) (.int 1))) .skip) (.ite (.isIn (.var 21) (.var 1)) (.seq (.append 10 (.idx (.inp 4) (.var 21))) (.append 11 (.idx (.inp 5) (.var 21)))) (.ite (.isIn (.var 21) (.var 2)) (.seq (.append 10 (.int 0)) (.append 11 (.int 1))) .skip)))

/-- the selected fragments of `frs` (numbered from `k`) with their numbers, in original order -/
def selOf (frs : List (List Nat)) (k : Nat) : List (List Nat × Nat) :=
  (frs.zipIdx k).filter (fun p => R.contains p.2 || G.contains p.2)

theorem selOf_cons (y : List Nat) (t : List (List Nat)) (k : Nat) :
    selOf R G (y :: t) k = (if R.contains k || G.contains k then [(y, k)] else []) ++ selOf R G t (k + 1) := by
  simp only [selOf, List.zipIdx_cons, List.filter_cons]; split <;> rfl

theorem selOf_snoc (pre : List (List Nat)) (y : List Nat) :
    selOf R G (pre ++ [y]) 0 = selOf R G pre 0 ++ if R.contains pre.length || G.contains pre.length then [(y, pre.length)] else [] := by
  simp only [selOf, List.zipIdx_append, List.filter_append, List.zipIdx_cons, List.zipIdx_nil, Nat.zero_add, List.filter_cons,
    List.filter_nil]

/-- the index lists of the selected fragments, read through `hf` -/
def selFr (hf : Nat → Option Int) (k : Nat) (frs : List (List Nat)) : List (List (Option Int)) :=
  (selOf R G frs k).map (fun p => p.1.map hf)

/-- one entry of `fcs` per selected fragment, `dflt` for a ghost -/
def selCh (fcs : List Int) (dflt : Int) (k : Nat) (frs : List (List Nat)) : List (Option Int) :=
  (selOf R G frs k).map (fun p => some (if R.contains p.2 then fcs.getD p.2 0 else dflt))

/-- `[at2at[iat] for iat in fr]` -/
def remapE : Expr := .comp (.idx (.var 24) (.var 25)) 25 (.var 22) (.int 1)

def cSel : Stmt := .ite selE (.append 9 remapE) .skip

def cChg : Stmt := (.ite (.isIn (.var 21) (.var 1)) (.seq (.append 10 (.idx (.inp 4) (.var 21))) (.append 11 (.idx (.inp 5) (.var 21)))) (.ite (.isIn (.var 21) (.var 2)) (.seq (.append 10 (.int 0)) (.append 11 (.int 1))) .skip))

theorem evalE_remap {v : List Val} {h : Nat → Option Nat} {ys : List Nat} (h24 : v[24]? = some (.l (optL h n)))
    (h22 : v[22]? = some (.l (natL ys))) (h25 : 25 < v.length) (hys : ∀ i ∈ ys, i < n) :
    evalE inp v remapE = some (.l (ys.map (fun i => oI (h i)))) := by
  rw [remapE, evalE_comp_eq, show evalE inp v (.var 22) = some (.l (natL ys)) from h22]
  simp only []
  rw [natL, compO_map _ (fun i => oI (h i)) (fun x => by simp [evalE, Val.truthy]) ys
    (fun i hi => by simp [-getElem?_pos, evalE, getElem?_setSlot, h24, h25, nth?_optL h n i (hys i hi)])]
  rfl

include hI in
theorem c_loop {st : St Int} {h : Nat → Option Nat} (hlen : st.v.length = 33) (h1 : st.v[1]? = some (.l (natL R)))
    (h2 : st.v[2]? = some (.l (natL G))) (h24 : st.v[24]? = some (.l (optL h n))) (h9 : st.v[9]? = some (.l []))
    (h10 : st.v[10]? = some (.l [])) (h11 : st.v[11]? = some (.l [])) (hA : ∀ fr ∈ frags, ∀ i ∈ fr, i < n)
    (hfc : frags.length ≤ fcs.length) (hfm : frags.length ≤ fms.length) :
    wp (exec inp d (.forEnum 21 22 (.inp 0) (.seq cSel cChg)) st) (fun st' =>
      st'.v[9]? = some (llv (selFr R G (fun i => oI (h i)) 0 frags)) ∧ st'.v[10]? = some (.l (selCh R G fcs 0 0 frags)) ∧
      st'.v[11]? = some (.l (selCh R G fms 1 0 frags))) := by
  refine wp_forEnum (fun (fr : List Nat) => .l (natL fr)) frags (fun pre s =>
      s.v[9]? = some (llv (selFr R G (fun i => oI (h i)) 0 pre)) ∧ s.v[10]? = some (.l (selCh R G fcs 0 0 pre)) ∧
      s.v[11]? = some (.l (selCh R G fms 1 0 pre))) ?_ ?_ ?_ ⟨h9, h10, h11⟩ ?_
  · simp [evalE, hI.frags, Val.items]
  · omega
  · omega
  intro pre y post s hl hF ⟨i9, i10, i11⟩
  have hk : pre.length < frags.length := by simp [hl]
  have hl' := hF.length
  have h1 := hF.lookup (by decide) h1
  have h2 := hF.lookup (by decide) h2
  have h24 := hF.lookup (by decide) h24
  have hcond := sel_cond R G inp (setSlot (setSlot s.v 21 (.s (some (pre.length : Nat)))) 22 (.l (natL y))) (some (pre.length : Nat))
    (by simp [-getElem?_pos, getElem?_setSlot, hl', hlen]) (by simp [getElem?_setSlot, h1]) (by simp [getElem?_setSlot, h2])
  have hcomp := evalE_remap (inp := inp) (v := setSlot (setSlot s.v 21 (.s (some (pre.length : Nat)))) 22 (.l (natL y)))
    (by simpa [getElem?_setSlot] using h24) (by simp [-getElem?_pos, getElem?_setSlot, hl', hlen]) (by simp [hl', hlen])
    (hA y (by simp [hl]))
  rw [contains_natL, contains_natL] at hcond
  have hfc' := nth?_intL fcs pre.length (by omega)
  have hfm' := nth?_intL fms pre.length (by omega)
  cases hr : R.contains pre.length <;> cases hg : G.contains pre.length <;>
    simp only [cSel, cChg, step_seq, step_ite, step_append, step_skip, evalE, getElem?_setSlot, length_setSlot, hl', hlen, hcond,
      hcomp, hr, hg, h1, h2, i9, i10, i11, hI.fc, hI.fm, contains_natL, hfc', hfm', b2v, Val.truthy, appendVal_llv, appendVal_l_s,
      selFr, selCh, selOf_snoc, Bool.or_true, Bool.or_false, if_true, if_false, Option.map_some,
      andThen_some, wp_some, Nat.reduceLT, Nat.reduceEqDiff, List.map_append, List.map_cons, List.map_nil, List.append_nil,
      Bool.false_eq_true, Int.reduceBNe, bne_self_eq_false, and_self]

/-! ### the whole order-preserving branch -/

/-- the `else:` branch of `if group_fragments:` -/
def gOrdered : Stmt :=
  (.seq (.set 20 (.mul (.list1 .none) (.len (.inp 1)))) (.seq (.forEnum 21 22 (.inp 0) aOuter)
  (.seq (.set 24 (.mul (.list1 .none) (.len (.inp 1)))) (.seq (.forIn 23 (.range (.int 0) (.len (.inp 1))) bBody)
  (.seq (.forEnum 21 22 (.inp 0) (.seq cSel cChg)) (.assert_ (.not_ (.isIn .none (.var 9)))))))))

include hI in
/-- `[None] * len(self.symbols)` -/
theorem evalE_noneList (v : List Val) :
    evalE inp v (.mul (.list1 .none) (.len (.inp 1))) = some (.l (optL (fun _ => none) n)) := by
  rw [← optL_none]
  simp [evalE, hI.symbols, natL]

include hI in
theorem g_ordered_wp (orient : Bool) (hA : ∀ fr ∈ frags, ∀ i ∈ fr, i < n) (hfc : frags.length ≤ fcs.length)
    (hfm : frags.length ≤ fms.length) :
    wp (exec inp d gOrdered (gfStart R G orient false)) (fun st' => BRep R G frags n n st' ∧
      st'.v[20]? = some (.l (optL (at2fr frags) n)) ∧
      st'.v[9]? = some (llv (selFr R G (fun i => oI (at2at frags R G i)) 0 frags)) ∧
      st'.v[10]? = some (.l (selCh R G fcs 0 0 frags)) ∧ st'.v[11]? = some (.l (selCh R G fms 1 0 frags))) := by
  generalize hst : gfStart R G orient false = st
  have hlen : st.v.length = 33 := hst ▸ rfl
  rw [gOrdered]
  simp only [step_seq, step_set, evalE_noneList hI, hlen, Nat.reduceLT, if_true, andThen_some]
  rw [wp_andThen]
  refine (wp_frame (a_outer hA (by simp [hlen]) hI.frags (by simp [-getElem?_pos, getElem?_setSlot, hlen]))).mono ?_
  intro s2 ⟨h20, hF2⟩
  have F2 : Frame [20, 21, 22, 23] st s2 := ((Frame.setSlot st 20 _).mono (by decide)).trans (hF2.mono (by decide))
  have hl2 : s2.v.length = 33 := F2.length.trans hlen
  simp only [step_seq, step_set, evalE_noneList hI, hl2, Nat.reduceLT, if_true, andThen_some]
  rw [wp_andThen]
  have F2' := (F2.mono (by decide)).trans ((Frame.setSlot s2 24 (.l (optL (fun _ => none) n))).mono
    (by decide : [24] ⊆ [20, 21, 22, 23, 24]))
  have hs := fun j hj => (F2'.get j hj).trans (congrArg (·.v[j]?) hst.symm)
  refine (wp_frame (b_loop hI R G (by simp [hl2]) (hs 1 (by decide)) (hs 2 (by decide)) ?_ ?_)).mono ?_
  · simp [-getElem?_pos, getElem?_setSlot, h20]
  · refine ⟨hs 5 (by decide), hs 6 (by decide), hs 7 (by decide), hs 8 (by decide), hs 12 (by decide), ?_⟩
    simp [-getElem?_pos, getElem?_setSlot, hl2]
  intro s3 ⟨hB, hF3⟩
  have F3 : Frame [20, 21, 22, 23, 24, 5, 6, 7, 8, 12] st s3 := (F2'.mono (by decide)).trans (hF3.mono (by decide))
  have hs := fun j hj => (F3.get j hj).trans (congrArg (·.v[j]?) hst.symm)
  rw [step_seq, wp_andThen]
  have h24 : s3.v[24]? = some (.l (optL (at2at frags R G) n)) :=
    hB.2.2.2.2.2.trans (by rw [optL_congr fun i hi => if_pos hi])
  refine (wp_frame (c_loop hI R G (F3.length.trans hlen) (hs 1 (by decide)) (hs 2 (by decide)) h24
    (hs 9 (by decide)) (hs 10 (by decide)) (hs 11 (by decide)) hA hfc hfm)).mono ?_
  intro s4 ⟨⟨c9, c10, c11⟩, hF4⟩
  obtain ⟨b5, b6, b7, b8, b12, b24⟩ := hB
  have hpost : BRep R G frags n n s4 ∧ s4.v[20]? = some (.l (optL (at2fr frags) n)) :=
    ⟨⟨hF4.lookup (by decide) b5, hF4.lookup (by decide) b6, hF4.lookup (by decide) b7,
      hF4.lookup (by decide) b8, hF4.lookup (by decide) b12, hF4.lookup (by decide) b24⟩,
     (hF4.get 20 (by decide)).trans ((hF3.get 20 (by decide)).trans (by simp [-getElem?_pos, getElem?_setSlot, h20]))⟩
  rw [step_assert]
  generalize selFr R G (fun i => oI (at2at frags R G i)) 0 frags = X at c9 ⊢
  cases X <;> simp [evalE, c9, llv, b2v, Val.truthy, hpost, c10, c11]

end loops

/-- the order-preserving branch, from the state after the common initialisations, on any molecule whose fragment lists name
existing atoms and have a charge and a multiplicity each -/
theorem g_ordered (n : Nat) (zs : List Int) (real : List Bool) (frags : List (List Nat)) (fcs fms : List Int) (c : Int)
    (R G : List Nat) (orient : Bool) (hA : ∀ fr ∈ frags, ∀ i ∈ fr, i < n)
    (hfc : frags.length ≤ fcs.length) (hfm : frags.length ≤ fms.length) :
    ∃ x21 x22 x23 x24, exec (inputs n zs real frags fcs fms c) (fun _ _ => (0 : Int)) gOrdered (gfStart R G orient false) =
      some (ost R G (b2v orient) (.l (natL (keptTo R G frags n))) (.l (natL (keptTo R G frags n)))
        (.l (natL (keptTo R G frags n))) (.l ((keptTo R G frags n).map (fun i => some (b2i (realAtom frags R i)))))
        (llv (selFr R G (fun i => oI (at2at frags R G i)) 0 frags)) (.l (selCh R G fcs 0 0 frags)) (.l (selCh R G fms 1 0 frags))
        (.s (some (((List.range n).countP (keepAtom frags R G) : Nat) : Int))) (.l (optL (at2fr frags) n)) x21 x22 x23
        x24 (.s none)) := by
  obtain ⟨⟨v, k⟩, he, ⟨⟨b5, b6, b7, b8, b12, b24⟩, h20, h9, h10, h11⟩, hF⟩ := wp_frame (g_ordered_wp
    (gfInp_inputs n zs real frags fcs fms c) (d := fun _ _ => 0) R G orient hA hfc hfm)
  refine ⟨v[21]?.getD (.s none), v[22]?.getD (.s none), v[23]?.getD (.s none), v[24]?.getD (.s none), he.trans (congrArg some ?_)⟩
  have hk : k = [] := List.eq_nil_of_length_eq_zero hF.klength
  have hv := hF.eq_overwrite
  simp only [show writes gOrdered = [20, 21, 22, 23, 20, 24, 23, 21, 5, 6, 8, 7, 24, 12, 24, 21, 22, 9, 10, 11, 10, 11] from rfl,
    gfStart, List.foldl, setSlot, List.set, b5, b6, b7, b8, b12, h20, h9, h10, h11, Option.getD_some] at hv
  rw [hk, hv]
  rfl

end QcelVerif.FragSrc
