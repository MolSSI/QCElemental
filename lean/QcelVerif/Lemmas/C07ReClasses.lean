import QcelVerif.Lemmas.C07ReBridge
/-!
Languages on `Str` and the extent of a regex AST.

`Ext re L`: the ways `re` matches from a cursor are exactly the splits of the remaining text into a word of the language `L` and a
rest, and only the cursor moves.  `Ext` holds of one-character classes and greedy bounded or unbounded repetitions of a one-character
class and is closed under `seq`, `alt`, `?` (`Ext.seq`, `Ext.alt`, `Ext.opt`, in `C07ReCaps`), so the extent of a group-free AST is read
off the AST; `Ext.mem_seq` continues with any
pattern behind it, and `matchPrefix_bind_eq` (`Lemmas/RegexEngine.lean`) is the step from the ways to match to what `re.match` answers.

At the end of the file: list helpers the C07Re files share (`ite_isSome`, `all_tw`, `dropWhile_head_not`, `dropWhile_stop`, `span_cut`, `lowerS_eq_cons`, `lowerS_eq_nil`) and `cls_alpha`.
-/
namespace QcelVerif.MolText
open QcelVerif.Regex

def LSeq (A B : Str → Prop) (t : Str) : Prop := ∃ u v, t = u ++ v ∧ A u ∧ B v
def LAlt (A B : Str → Prop) (t : Str) : Prop := A t ∨ B t
def LOpt (A : Str → Prop) (t : Str) : Prop := A t ∨ t = []
def LChar (p : Char → Bool) (t : Str) : Prop := ∃ c, t = [c] ∧ p c = true
/-- one letter, in either case -/
def LCi (k : Char) : Str → Prop := LChar fun c => c.toLower == k
/-- a run of `lo` to `hi` characters of a class -/
def LRun (p : Char → Bool) (lo : Nat) (hi : Option Nat) (t : Str) : Prop :=
  (∀ c ∈ t, p c = true) ∧ lo ≤ t.length ∧ ∀ h, hi = some h → t.length ≤ h
def LStar (p : Char → Bool) (t : Str) : Prop := ∀ c ∈ t, p c = true
def LPlus (p : Char → Bool) (t : Str) : Prop := t ≠ [] ∧ ∀ c ∈ t, p c = true
def LRun13 (p : Char → Bool) (t : Str) : Prop := t ≠ [] ∧ t.length ≤ 3 ∧ ∀ c ∈ t, p c = true

/-- the ways `re` matches from a cursor are exactly the splits of the remaining text into a word of `L` and a rest;
only the cursor moves -/
def Ext (re : Re) (L : Str → Prop) : Prop :=
  ∀ (s : Str) (st x : St), st.rest = toBytes s →
    (x ∈ re.ms st ↔ ∃ t r, s = t ++ r ∧ L t ∧ x = st.adv (toBytes t) (toBytes r))

theorem Ext.congr {re : Re} {L L' : Str → Prop} (h : Ext re L) (hL : ∀ t, L t ↔ L' t) : Ext re L' := by
  intro s st x hs
  rw [h s st x hs]
  constructor
  · rintro ⟨t, r, h1, h2, h3⟩; exact ⟨t, r, h1, (hL t).mp h2, h3⟩
  · rintro ⟨t, r, h1, h2, h3⟩; exact ⟨t, r, h1, (hL t).mpr h2, h3⟩

/-- `a` followed by any continuation: a word of `A`, then the continuation from behind it -/
theorem Ext.mem_seq {a : Re} {A : Str → Prop} (ha : Ext a A) (k : Re) {s : Str} {st x : St} (hs : st.rest = toBytes s) :
    x ∈ (Re.seq a k).ms st ↔ ∃ t r, s = t ++ r ∧ A t ∧ x ∈ k.ms (st.adv (toBytes t) (toBytes r)) := by
  rw [mem_ms_seq]
  constructor
  · rintro ⟨m, hm, hx⟩
    obtain ⟨t, r, rfl, hA, rfl⟩ := (ha s st m hs).mp hm
    exact ⟨t, r, rfl, hA, hx⟩
  · rintro ⟨t, r, rfl, hA, hx⟩
    exact ⟨_, (ha _ st _ hs).mpr ⟨t, r, rfl, hA, rfl⟩, hx⟩

/-- one character of a class, on a rest that is the image of a `Str`, the class being the M1 predicate `q` -/
theorem mem_cls_str {neg : Bool} {items : List Item} {q : Char → Bool} (hq : ∀ c, clsMem neg items c.toNat = q c) {st x : St} {U : Str}
    (hU : st.rest = toBytes U) :
    x ∈ (Re.cls neg items).ms st ↔ ∃ C T, U = C :: T ∧ q C = true ∧ x = { st with prev := some C.toNat, rest := toBytes T } := by
  rw [mem_ms_cls, hU]
  constructor
  · rintro ⟨c, t, h1, h2, rfl⟩
    cases U with
    | nil => simp at h1
    | cons C T =>
      simp only [toBytes_cons, List.cons.injEq] at h1
      obtain ⟨rfl, rfl⟩ := h1
      exact ⟨C, T, rfl, by rw [← hq]; exact h2, rfl⟩
  · rintro ⟨C, T, rfl, h2, rfl⟩
    exact ⟨C.toNat, toBytes T, rfl, by rw [hq]; exact h2, rfl⟩

theorem Ext.cls {neg : Bool} {items : List Item} {p : Char → Bool} (hp : ∀ c : Char, clsMem neg items c.toNat = p c) :
    Ext (.cls neg items) (LChar p) := by
  intro s st x hs
  rw [mem_cls_str hp hs]
  constructor
  · rintro ⟨C, T, rfl, hC, rfl⟩
    exact ⟨[C], T, rfl, ⟨C, rfl, hC⟩, rfl⟩
  · rintro ⟨_, r, rfl, ⟨C, rfl, hC⟩, rfl⟩
    exact ⟨C, r, rfl, hC, rfl⟩

theorem Ext.eps : Ext .eps (fun t => t = []) := by
  intro s st x hs
  rw [mem_ms_eps]
  constructor
  · rintro rfl
    exact ⟨[], s, rfl, rfl, by rw [← hs]; rfl⟩
  · rintro ⟨_, r, rfl, rfl, rfl⟩
    rw [List.nil_append] at hs
    rw [← hs]; rfl

/-- a literal character -/
theorem Ext.lit (k : Char) : Ext (.cls false [.ch k.toNat]) (fun t => t = [k]) :=
  (Ext.cls (p := fun c => c == k) fun c => by rw [cls_ch, beq_lit]).congr fun t => by simp [LChar]

/-- a letter under IGNORECASE, as the translator folds a lower-case letter of the source (`[.ch lower, .ch upper]`) -/
theorem Ext.ci (k : Char) (hk : 97 ≤ k.toNat ∧ k.toNat ≤ 122) :
    Ext (.cls false [.ch k.toNat, .ch (k.toNat - 32)]) (LCi k) :=
  Ext.cls fun c => by rw [cls_ci c _ hk, beq_lit]

/-- the same with the upper-case letter first, as the translator folds an upper-case letter of the source -/
theorem Ext.ciUp (k : Char) (hk : 97 ≤ k.toNat ∧ k.toNat ≤ 122) :
    Ext (.cls false [.ch (k.toNat - 32), .ch k.toNat]) (LCi k) :=
  Ext.cls fun c => by
    rw [beq_lit, ← cls_ci c _ hk]
    simp [clsMem, Bool.or_comm]

/-- greedy `[class]{lo,hi}`: every split of the rest into a run of `lo` to `hi` characters inside the class and what follows -/
theorem Ext.rep {neg : Bool} {items : List Item} {p : Char → Bool} (hp : ∀ c : Char, clsMem neg items c.toNat = p c)
    (lo : Nat) (hi : Option Nat) : Ext (.rep lo hi true (.cls neg items)) (LRun p lo hi) := by
  intro s st x hs
  rw [mem_ms_rep_cls, hs]
  constructor
  · rintro ⟨a, r, h1, h2, h3, h4, rfl⟩
    obtain ⟨t, r', rfl, rfl, rfl⟩ := toBytes_eq_append h1
    exact ⟨t, r', rfl, ⟨(all_toBytes _ _ hp t).mp h2, by simpa using h3, by simpa using h4⟩, rfl⟩
  · rintro ⟨t, r, rfl, ⟨h2, h3, h4⟩, rfl⟩
    exact ⟨toBytes t, toBytes r, toBytes_append t r, (all_toBytes _ _ hp t).mpr h2, by simpa using h3, by simpa using h4, rfl⟩

theorem Ext.star {neg : Bool} {items : List Item} {p : Char → Bool} (hp : ∀ c : Char, clsMem neg items c.toNat = p c) :
    Ext (.rep 0 none true (.cls neg items)) (LStar p) :=
  (Ext.rep hp 0 none).congr fun t => by simp [LRun, LStar]

theorem Ext.plus {neg : Bool} {items : List Item} {p : Char → Bool} (hp : ∀ c : Char, clsMem neg items c.toNat = p c) :
    Ext (.rep 1 none true (.cls neg items)) (LPlus p) :=
  (Ext.rep hp 1 none).congr fun t => by cases t <;> simp [LRun, LPlus, and_comm]

theorem Ext.run13 {neg : Bool} {items : List Item} {p : Char → Bool} (hp : ∀ c : Char, clsMem neg items c.toNat = p c) :
    Ext (.rep 1 (some 3) true (.cls neg items)) (LRun13 p) :=
  (Ext.rep hp 1 (some 3)).congr fun t => by cases t <;> simp [LRun, LRun13, and_comm]

/-- `re` can match up to the end of the text exactly when all of the text is a word of `L` -/
theorem Ext.mem_end_iff {re : Re} {L : Str → Prop} (h : Ext re L) {st : St} {U : Str} (hU : st.rest = toBytes U) :
    (∃ x, x ∈ re.ms st ∧ x.rest = []) ↔ L U := by
  constructor
  · rintro ⟨x, hx, hr⟩
    obtain ⟨t, r, rfl, hL, rfl⟩ := (h U st x hU).mp hx
    obtain rfl : r = [] := toBytes_eq_nil.mp hr
    rwa [List.append_nil]
  · intro hL
    exact ⟨st.adv (toBytes U) (toBytes []), (h U st _ hU).mpr ⟨U, [], by simp, hL, rfl⟩, rfl⟩

theorem ite_isSome {α} (b : Bool) (v : α) : (if b = true then some v else none).isSome = b := by
  cases b <;> rfl

theorem all_tw {α} (p : α → Bool) (l : List α) : ∀ c ∈ l.takeWhile p, p c = true :=
  List.all_eq_true.mp List.all_takeWhile

/-- what is left of a list behind its maximal run of `p` does not go on with one -/
theorem dropWhile_head_not {α} {p : α → Bool} {l : List α} {c : α} {u : List α} (h : l.dropWhile p = c :: u) : p c = false :=
  stop_dropWhile p l c (by rw [h]; rfl)

theorem dropWhile_stop {α} (p : α → Bool) (l : List α) : l.dropWhile p = [] ∨ ∃ d t, l.dropWhile p = d :: t ∧ p d = false := by
  cases h : l.dropWhile p with
  | nil => exact Or.inl rfl
  | cons d t => exact Or.inr ⟨d, t, rfl, dropWhile_head_not h⟩

/-- a text cut at its maximal run of `p` characters -/
theorem span_cut (p : Char → Bool) (l : Str) :
    ∃ a r, l = a ++ r ∧ (∀ c ∈ a, p c = true) ∧ ∀ d ∈ r.head?, p d = false :=
  ⟨l.takeWhile p, l.dropWhile p, List.takeWhile_append_dropWhile.symm, all_tw p l, stop_dropWhile p l⟩

/-! ## lower-cased text -/

theorem lowerS_eq_cons {t w : Str} {k : Char} : lowerS t = k :: w ↔ ∃ c t', t = c :: t' ∧ c.toLower = k ∧ lowerS t' = w :=
  List.map_eq_cons_iff

theorem lowerS_eq_nil {t : Str} : lowerS t = [] ↔ t = [] := List.map_eq_nil_iff

theorem cls_alpha (c : Char) : clsMem false [.range 65 90, .range 97 122] c.toNat = c.isAlpha := by
  rw [isAlpha_nat]; simp [clsMem, Item.mem, isAlphaC]

end QcelVerif.MolText
