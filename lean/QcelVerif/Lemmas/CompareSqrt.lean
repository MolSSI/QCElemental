import QcelVerif.Model.Compare
import Mathlib.Data.Real.Basic
import Mathlib.Tactic.Linarith
import Mathlib.Tactic.Ring
import Mathlib.Tactic.Positivity
/-!
C19: the rational decision procedure `sqrtLe` that the model uses for complex data
(`|c - e| ≤ atol + rtol·|e|` with `|·|` the complex modulus) is *exactly* the real inequality
between the square roots.  `s`, `t` stand for the moduli `√d2`, `√m2` (any non-negative reals whose
squares are the given rationals), so no square-root function is needed in the statement.
Stand-alone build target of harness/c19.py: no other Lean module imports this file.
-/
namespace QcelVerif.Compare

/-- for `M ≥ 0`, `L ≤ M` can be read off the sign of `L` and the two squares -/
theorem nonpos_or_sq_le_sq_iff {L M : ℝ} (hM : 0 ≤ M) : (L ≤ 0 ∨ L ^ 2 ≤ M ^ 2) ↔ L ≤ M := by
  constructor
  · rintro (h | h)
    · exact h.trans hM
    · exact (abs_le_of_sq_le_sq' h hM).2
  · intro h
    rcases le_or_gt L 0 with h0 | h0
    · exact Or.inl h0
    · exact Or.inr (pow_le_pow_left₀ h0.le h 2)

theorem sqrtLe_iff (A R d2 m2 : ℚ) (s t : ℝ) (hA : 0 ≤ A) (hR : 0 ≤ R) (hs : 0 ≤ s) (ht : 0 ≤ t)
    (hs2 : s ^ 2 = (d2 : ℝ)) (ht2 : t ^ 2 = (m2 : ℝ)) :
    sqrtLe A R d2 m2 = true ↔ s ≤ (A : ℝ) + (R : ℝ) * t := by
  have ha : (0 : ℝ) ≤ (A : ℝ) := by exact_mod_cast hA
  have hr : (0 : ℝ) ≤ (R : ℝ) := by exact_mod_cast hR
  have hM : 0 ≤ 2 * ((A : ℝ) * R * t) := by positivity
  have hb : 0 ≤ (A : ℝ) + R * t := by positivity
  -- with `L = s² - A² - R²t²` and `M = 2ARt`, squaring both sides turns `s ≤ A + Rt` into `L ≤ M`
  have hsq : ((A : ℝ) + R * t) ^ 2 = A * A + (R * R * t ^ 2 + 2 * (A * R * t)) := by ring
  have hLM : s ≤ (A : ℝ) + R * t ↔ s ^ 2 - A * A - R * R * t ^ 2 ≤ 2 * (A * R * t) := by
    rw [← pow_le_pow_iff_left₀ hs hb two_ne_zero, hsq, sub_le_iff_le_add', sub_le_iff_le_add']
  have hM2 : 4 * ((A : ℝ) * A) * (R * R) * t ^ 2 = (2 * (A * R * t)) ^ 2 := by ring
  unfold sqrtLe
  simp only [Bool.or_eq_true, decide_eq_true_eq]
  rw [← Rat.cast_le (K := ℝ), ← Rat.cast_le (K := ℝ)]
  push_cast
  rw [← hs2, ← ht2, hLM, hM2, ← sq (s ^ 2 - A * A - R * R * t ^ 2), nonpos_or_sq_le_sq_iff hM]

/-- non-vacuity (test): 3-4-5 — `|3+4i| = 5 ≤ 1 + 2·2` decided through the rational form -/
example : sqrtLe 1 2 25 4 = true := by decide +kernel

end QcelVerif.Compare
