import QcelVerif.Lemmas.Float64
import Mathlib.Algebra.Order.Field.Basic
import Mathlib.Algebra.Order.Ring.Rat
import Mathlib.Algebra.Field.Rat
import Mathlib.Tactic.Linarith
import Mathlib.Tactic.Ring
/-!
The rounding model `rnd64` of Model/RadiiF64.lean is what it claims to be, for every rational:
exactly homogeneous under binary scaling, error at most half a unit in the last place (at most
`2^-53` relative), idempotent.  (`ilog2` is the floor of log2: `Radii.ilog2_spec`, Float64.lean.)
-/
namespace QcelVerif.Radii
open F64

theorem ilog2_mul_pow2 (q : Rat) (hq : 0 < q) (k : Int) : ilog2 ((2 : Rat) ^ k * q) = ilog2 q + k := by
  obtain ⟨s1, s2⟩ := ilog2_spec q hq
  have two_ne : (2 : Rat) ≠ 0 := by norm_num
  apply ilog2_unique _ (mul_pos (zpow2_pos k) hq)
  · rw [add_comm, zpow_add₀ two_ne]
    exact mul_le_mul_of_nonneg_left s1 (zpow2_pos k).le
  · have : ilog2 q + k + 1 = k + (ilog2 q + 1) := by ring
    rw [this, zpow_add₀ two_ne]
    exact mul_lt_mul_of_pos_left s2 (zpow2_pos k)

/-- rounding a positive rational commutes exactly with multiplication by a power of two -/
theorem rndPos_pow2_scale (q : Rat) (hq : 0 < q) (k : Int) :
    rndPos ((2 : Rat) ^ k * q) = (2 : Rat) ^ k * rndPos q := by
  have two_ne : (2 : Rat) ≠ 0 := by norm_num
  unfold rndPos ulpExp
  simp only
  rw [ilog2_mul_pow2 q hq k]
  have e1 : ilog2 q + k - 52 = k + (ilog2 q - 52) := by ring
  rw [e1, zpow_add₀ two_ne]
  have e2 : (2 : Rat) ^ k * q / ((2 : Rat) ^ k * (2 : Rat) ^ (ilog2 q - 52)) = q / (2 : Rat) ^ (ilog2 q - 52) := by
    rw [mul_div_mul_left _ _ (zpow2_pos k).ne']
  rw [e2]; ring

theorem rnd64_of_pos {q : Rat} (h : 0 < q) : rnd64 q = rndPos q := by
  unfold rnd64; rw [if_neg h.ne', if_neg (not_lt.mpr h.le)]

/-- rounding is odd -/
theorem rnd64_neg (q : Rat) : rnd64 (-q) = -rnd64 q := by
  rcases lt_trichotomy q 0 with h | rfl | h
  · rw [rnd64_of_pos (neg_pos.mpr h)]; unfold rnd64; rw [if_neg h.ne, if_pos h, neg_neg]
  · simp [rnd64]
  · rw [rnd64_of_pos h]; unfold rnd64; rw [if_neg (neg_ne_zero.mpr h.ne'), if_pos (neg_neg_of_pos h), neg_neg]

/-- a property that holds at zero, of the positive rationals, and of `-q` with `q`, holds of all -/
theorem sign_cases {P : Rat → Prop} (h0 : P 0) (hpos : ∀ q, 0 < q → P q) (hneg : ∀ q, P q → P (-q)) (q : Rat) : P q := by
  rcases lt_trichotomy q 0 with h | rfl | h
  · have := hneg (-q) (hpos (-q) (neg_pos.mpr h))
    rwa [neg_neg] at this
  · exact h0
  · exact hpos q h

/-- **Binary scaling is exact**: `fl(2^k · q) = 2^k · fl(q)` (exponent range unbounded in the model) -/
theorem rnd64_pow2_scale (q : Rat) (k : Int) : rnd64 ((2 : Rat) ^ k * q) = (2 : Rat) ^ k * rnd64 q := by
  refine sign_cases (P := fun q => rnd64 ((2 : Rat) ^ k * q) = (2 : Rat) ^ k * rnd64 q) (by simp [rnd64]) ?_ ?_ q
  · intro q h
    rw [rnd64_of_pos h, rnd64_of_pos (mul_pos (zpow2_pos k) h)]
    exact rndPos_pow2_scale q h k
  · intro q h
    rw [mul_neg, rnd64_neg, rnd64_neg, h, mul_neg]

/-- positive case: the error is at most half a unit in the last place, which is at most `2^-53·q` -/
theorem rndPos_err (q : Rat) (hq : 0 < q) : |rndPos q - q| ≤ (2 : Rat) ^ (-53 : Int) * q := by
  have two_ne : (2 : Rat) ≠ 0 := by norm_num
  obtain ⟨s1, _⟩ := ilog2_spec q hq
  have hp := zpow2_pos (ulpExp q)
  have hr := roundHalfEven_err (q / (2 : Rat) ^ (ulpExp q))
  unfold rndPos
  simp only
  have e : ((roundHalfEven (q / (2 : Rat) ^ ulpExp q) : Int) : Rat) * (2 : Rat) ^ ulpExp q - q
      = (((roundHalfEven (q / (2 : Rat) ^ ulpExp q) : Int) : Rat) - q / (2 : Rat) ^ ulpExp q) * (2 : Rat) ^ ulpExp q := by
    rw [sub_mul, div_mul_cancel₀ _ hp.ne']
  rw [e, abs_mul, abs_of_pos hp]
  have ulp_le : (2 : Rat) ^ ulpExp q ≤ (2 : Rat) ^ (-52 : Int) * q := by
    unfold ulpExp
    have : ilog2 q - 52 = -52 + ilog2 q := by ring
    rw [this, zpow_add₀ two_ne]
    exact mul_le_mul_of_nonneg_left s1 (zpow2_pos _).le
  calc |((roundHalfEven (q / (2 : Rat) ^ ulpExp q) : Int) : Rat) - q / (2 : Rat) ^ ulpExp q| * (2 : Rat) ^ ulpExp q
      ≤ 1 / 2 * (2 : Rat) ^ ulpExp q := mul_le_mul_of_nonneg_right hr hp.le
    _ ≤ 1 / 2 * ((2 : Rat) ^ (-52 : Int) * q) := mul_le_mul_of_nonneg_left ulp_le (by norm_num)
    _ = (2 : Rat) ^ (-53 : Int) * q := by
        have : (2 : Rat) ^ (-53 : Int) = 1 / 2 * (2 : Rat) ^ (-52 : Int) := by
          rw [show (-53 : Int) = -1 + -52 by norm_num, zpow_add₀ two_ne]; norm_num
        rw [this]; ring

/-- **Rounding error**: `|fl(q) − q| ≤ 2^-53·|q|` for every rational `q` -/
theorem rnd64_err (q : Rat) : |rnd64 q - q| ≤ (2 : Rat) ^ (-53 : Int) * |q| := by
  refine sign_cases (P := fun q => |rnd64 q - q| ≤ (2 : Rat) ^ (-53 : Int) * |q|) (by simp [rnd64]) ?_ ?_ q
  · intro q h
    rw [rnd64_of_pos h, abs_of_pos h]
    exact rndPos_err q h
  · intro q h
    rwa [rnd64_neg, neg_sub_neg, abs_sub_comm, abs_neg]

/-- rounding one factor of a product -/
theorem mul_rnd64_err (f v : Rat) : |f * rnd64 v - f * v| ≤ (2 : Rat) ^ (-53 : Int) * |f * v| := by
  rw [← mul_sub, abs_mul, abs_mul, mul_left_comm]
  exact mul_le_mul_of_nonneg_left (rnd64_err v) (abs_nonneg f)

/-- relative errors compose: `a` within `α` of `b` and `r` within `β` of `a` put `r` within `(1+α)(1+β) − 1` of `b` -/
theorem rel_err_compose {a b r α β : Rat} (hβ : 0 ≤ β) (h1 : |a - b| ≤ α * |b|) (h2 : |r - a| ≤ β * |a|) :
    |r - b| ≤ ((1 + α) * (1 + β) - 1) * |b| := by
  have ha : |a| ≤ |b| + |a - b| := by
    have := abs_add_le b (a - b)
    rwa [add_sub_cancel] at this
  have h3 : β * |a| ≤ β * ((1 + α) * |b|) := mul_le_mul_of_nonneg_left (by linarith) hβ
  calc |r - b| = |(r - a) + (a - b)| := by rw [sub_add_sub_cancel]
    _ ≤ |r - a| + |a - b| := abs_add_le _ _
    _ ≤ β * ((1 + α) * |b|) + α * |b| := by linarith
    _ = ((1 + α) * (1 + β) - 1) * |b| := by ring

/-! ### idempotence: a rounded value is a fixed point -/

/-- on a positive number `rndPos` is `F64.rnd` with any lowest exponent that does not bind -/
theorem rndPos_eq {q : Rat} {m : Int} (hm : m ≤ ilog2 q) : rndPos q = rnd m q := by
  unfold rndPos ulpExp rnd
  rw [max_eq_left hm]

theorem two_pow_le_rndPos (q : Rat) (hq : 0 < q) : (2 : Rat) ^ ilog2 q ≤ rndPos q := by
  rw [rndPos_eq le_rfl]; exact two_pow_le_rnd hq le_rfl

theorem rndPos_pos (q : Rat) (hq : 0 < q) : 0 < rndPos q :=
  lt_of_lt_of_le (zpow2_pos _) (two_pow_le_rndPos q hq)

theorem rndPos_idem (q : Rat) (hq : 0 < q) : rndPos (rndPos q) = rndPos q := by
  have hpos := rndPos_pos q hq
  have hle : ilog2 q ≤ ilog2 (rndPos q) := by
    have := zpow2_lt.mp (lt_of_le_of_lt (two_pow_le_rndPos q hq) (ilog2_spec _ hpos).2)
    omega
  rw [rndPos_eq hle, rndPos_eq le_rfl]
  exact rnd_idem _ hq (rndPos_eq le_rfl ▸ hpos)

/-- **Rounding is idempotent**: a double is its own nearest double -/
theorem rnd64_idem (q : Rat) : rnd64 (rnd64 q) = rnd64 q := by
  refine sign_cases (P := fun q => rnd64 (rnd64 q) = rnd64 q) (by simp [rnd64]) ?_ ?_ q
  · intro q h
    rw [rnd64_of_pos h, rnd64_of_pos (rndPos_pos q h), rndPos_idem q h]
  · intro q h
    rw [rnd64_neg, rnd64_neg, h]

/-- multiplying a double by `1.0` returns it -/
theorem fmul_one_rnd64 (q : Rat) : fmul 1 (rnd64 q) = rnd64 q := by
  unfold fmul; rw [one_mul, rnd64_idem]

end QcelVerif.Radii
