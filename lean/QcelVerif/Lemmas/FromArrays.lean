import QcelVerif.Model.FromArrays
import QcelVerif.Lib.Monadic
import QcelVerif.Lib.InsertionSort
/-!
Helper lemmas for C04 (nothing here is a property statement): `mapE`, the bond loop body and sort,
ASCII case maps, `rows3`, the too-close screen and `np.split` slice arithmetic.
-/
namespace QcelVerif.FromArrays

theorem mapE_eq_mapM {α β ε} (f : α → Except ε β) : ∀ l, mapE f l = l.mapM f
  | [] => rfl
  | a :: t => by
    rw [mapE, List.mapM_cons, mapE_eq_mapM f t]
    cases f a <;> cases t.mapM f <;> rfl

theorem mapE_eq_ok_iff {α β ε} {f : α → Except ε β} {l : List α} {bs : List β} :
    mapE f l = .ok bs ↔ l.map f = bs.map .ok := by
  rw [mapE_eq_mapM]; exact mapM_eq_ok_iff f l bs

theorem mapE_ok_cons {α β ε} {f : α → Except ε β} {a : α} {t : List α} {bs : List β}
    (h : mapE f (a :: t) = .ok bs) : ∃ b bt, bs = b :: bt ∧ f a = .ok b ∧ mapE f t = .ok bt := by
  rw [mapE_eq_ok_iff] at h
  cases bs with
  | nil => simp at h
  | cons b bt => exact ⟨b, bt, rfl, by simpa using (List.cons.inj h).1, mapE_eq_ok_iff.2 (List.cons.inj h).2⟩

theorem mapE_ok_mem {α β ε} {f : α → Except ε β} {l : List α} {bs : List β}
    (h : mapE f l = .ok bs) (b : β) (hb : b ∈ bs) : ∃ a ∈ l, f a = .ok b :=
  mapM_ok_of_mem_right (mapE_eq_mapM f l ▸ h) b hb

theorem mapE_ok_length {α β ε} {f : α → Except ε β} {l : List α} {bs : List β}
    (h : mapE f l = .ok bs) : bs.length = l.length := by
  simpa using (congrArg List.length (mapE_eq_ok_iff.1 h)).symm

/-- if `f (g b) = ok b` for every `b`, mapping `f` over `bs.map g` gives `bs` back -/
theorem mapE_map_of_forall {α β ε} {f : α → Except ε β} {g : β → α} {bs : List β}
    (h : ∀ b ∈ bs, f (g b) = .ok b) : mapE f (bs.map g) = .ok bs := by
  rw [mapE_eq_ok_iff, List.map_map]; exact List.map_congr_left h

/-- an element on which `f` fails makes `mapE` fail -/
theorem mapE_error_of_mem {α β ε} {f : α → Except ε β} : ∀ {l : List α} {a : α},
    a ∈ l → (∀ b, f a ≠ .ok b) → ∀ bs, mapE f l ≠ .ok bs := by
  intro l a ha hf bs h
  obtain ⟨b, -, hb⟩ := mapM_ok_of_mem_left (mapE_eq_mapM f l ▸ h) a ha
  exact hf b hb

theorem mapE_error_mem {α β ε} {f : α → Except ε β} : ∀ {l : List α} {e : ε},
    mapE f l = .error e → ∃ a ∈ l, f a = .error e
  | [], e, h => by simp [mapE] at h
  | a :: t, e, h => by
      unfold mapE at h
      split at h
      · rename_i e' he'
        cases h; exact ⟨a, List.mem_cons_self, he'⟩
      · split at h
        · rename_i e' he'
          cases h
          obtain ⟨c, hc, hce⟩ := mapE_error_mem he'
          exact ⟨c, List.mem_cons_of_mem _ hc, hce⟩
        · cases h

theorem lowerC_idem (c : Char) : lowerC (lowerC c) = lowerC c := by
  conv => lhs; arg 1; unfold lowerC
  split <;> rfl

theorem lower_idem (s : List Char) : lower (lower s) = lower s := by
  simp [lower, List.map_map, Function.comp_def, lowerC_idem]

theorem capitalize_sAngstrom : capitalize sAngstrom = sAngstrom := by decide
theorem capitalize_sBohr : capitalize sBohr = sBohr := by decide
theorem sAngstrom_ne_sBohr : sAngstrom ≠ sBohr := by decide

theorem normBond_mk (a b : Int) (o : Rat) :
    normBond (.mk (some a) (some b) o) =
      if a < 0 ∨ b < 0 ∨ o < 0 ∨ o > 5 then .error .validation
      else .ok (min a.toNat b.toNat, max a.toNat b.toNat, o) := by
  by_cases ha : a < 0 <;> by_cases hb : b < 0 <;> by_cases ho : (o < 0 ∨ o > 5) <;> simp [normBond, ha, hb, ho]

theorem bondLe_total (x y : Bond) : bondLe x y = true ∨ bondLe y x = true := by
  obtain ⟨a, b, o⟩ := x
  obtain ⟨a', b', o'⟩ := y
  simp only [bondLe, Bool.or_eq_true, Bool.and_eq_true, decide_eq_true_eq, beq_iff_eq]
  rcases Nat.lt_trichotomy a a' with h | h | h
  · left; left; exact h
  · rcases Nat.lt_trichotomy b b' with h' | h' | h'
    · left; right; exact ⟨h, Or.inl h'⟩
    · rcases @Rat.le_total o o' with ho | ho
      · left; right; exact ⟨h, Or.inr ⟨h', ho⟩⟩
      · right; right; exact ⟨h.symm, Or.inr ⟨h'.symm, ho⟩⟩
    · right; right; exact ⟨h.symm, Or.inl h'⟩
  · right; left; exact h

theorem bondLe_trans (x y z : Bond) (h1 : bondLe x y = true) (h2 : bondLe y z = true) :
    bondLe x z = true := by
  obtain ⟨a, b, o⟩ := x
  obtain ⟨a', b', o'⟩ := y
  obtain ⟨a'', b'', o''⟩ := z
  simp only [bondLe, Bool.or_eq_true, Bool.and_eq_true, decide_eq_true_eq, beq_iff_eq] at *
  rcases h1 with h1 | ⟨e1, h1⟩
  · rcases h2 with h2 | ⟨e2, _⟩
    · left; omega
    · left; omega
  · rcases h2 with h2 | ⟨e2, h2⟩
    · left; omega
    · right
      refine ⟨by omega, ?_⟩
      rcases h1 with h1 | ⟨f1, h1⟩
      · rcases h2 with h2 | ⟨f2, _⟩
        · left; omega
        · left; omega
      · rcases h2 with h2 | ⟨f2, h2⟩
        · left; omega
        · right; exact ⟨by omega, Rat.le_trans h1 h2⟩

theorem insertBond_eq_insertBy (x : Bond) : ∀ l : List Bond, insertBond x l = Hash.insertBy bondLe x l
  | [] => rfl
  | y :: t => by simp only [insertBond, Hash.insertBy, insertBond_eq_insertBy x t]

theorem sortBonds_eq_sortBy : ∀ l : List Bond, sortBonds l = Hash.sortBy bondLe l
  | [] => rfl
  | x :: t => by rw [sortBonds, Hash.sortBy, insertBond_eq_insertBy, sortBonds_eq_sortBy t]

theorem mem_sortBonds {z : Bond} {l : List Bond} : z ∈ sortBonds l ↔ z ∈ l :=
  sortBonds_eq_sortBy l ▸ (Hash.sortBy_perm l).mem_iff

theorem pairwise_sortBonds (l : List Bond) : (sortBonds l).Pairwise (fun a b => bondLe a b = true) :=
  sortBonds_eq_sortBy l ▸ Hash.sortBy_sorted bondLe_total bondLe_trans l

theorem sortBonds_of_pairwise {l : List Bond} (h : l.Pairwise (fun a b => bondLe a b = true)) : sortBonds l = l :=
  (sortBonds_eq_sortBy l).trans (Hash.sortBy_of_sorted l h)

theorem rows3_length : ∀ (g : List Rat) (rows : List R3), rows3 g = some rows → g.length = 3 * rows.length
  | [], rows, h => by simp [rows3] at h; subst h; rfl
  | [_], _, h => by simp [rows3] at h
  | [_, _], _, h => by simp [rows3] at h
  | x :: y :: z :: t, rows, h => by
      unfold rows3 at h
      split at h
      · rename_i r hr
        cases h
        have := rows3_length t r hr
        simp only [List.length_cons, this]; omega
      · cases h

/-- `3 k` coordinates reshape to `k` rows -/
theorem rows3_of_length : ∀ (k : Nat) (g : List Rat), g.length = 3 * k →
    ∃ rows, rows3 g = some rows ∧ rows.length = k
  | 0, g, h => by
      have : g = [] := List.length_eq_zero_iff.1 (by omega)
      subst this
      exact ⟨[], rfl, rfl⟩
  | k + 1, x :: y :: z :: t, h => by
      obtain ⟨rows, hr, hl⟩ := rows3_of_length k t (by simp only [List.length_cons] at h; omega)
      exact ⟨(x, y, z) :: rows, by simp only [rows3, hr], by rw [List.length_cons, hl]⟩
  | _ + 1, [], h => by simp at h
  | _ + 1, [_], h => by simp at h; omega
  | _ + 1, [_, _], h => by simp at h; omega

theorem anyTooClose_false_iff (tc : Rat) : ∀ (rows : List R3),
    anyTooClose tc rows = false ↔ rows.Pairwise (fun p q => ¬ dist2 p q < tc * tc)
  | [] => by simp [anyTooClose]
  | p :: t => by
      simp only [anyTooClose, Bool.or_eq_false_iff, List.any_eq_false, decide_eq_true_eq,
        anyTooClose_false_iff tc t, List.pairwise_cons]

theorem pyClamp_le (n : Nat) (i : Int) : pyClamp n i ≤ n := by
  unfold pyClamp
  split
  · omega
  · exact Nat.min_le_right _ _

theorem pyClamp_natCast_of_le {n k : Nat} (h : k ≤ n) : pyClamp n (k : Int) = k := by
  unfold pyClamp
  have : ¬ ((k : Int) < 0) := by omega
  simp only [this, if_false, Int.toNat_natCast]
  exact Nat.min_eq_left h

theorem pyClamp_zero (n : Nat) : pyClamp n 0 = 0 := pyClamp_natCast_of_le (Nat.zero_le n)

theorem pyClamp_self (n : Nat) : pyClamp n (n : Int) = n := pyClamp_natCast_of_le (Nat.le_refl n)

/-- consecutive (truncated) differences -/
def diffs : List Nat → List Nat
  | a :: b :: t => (b - a) :: diffs (b :: t)
  | _ => []

theorem length_pySlice {α} (l : List α) (a b : Int) :
    (pySlice l a b).length = pyClamp l.length b - pyClamp l.length a := by
  have := pyClamp_le l.length b
  simp only [pySlice, List.length_take, List.length_drop]
  omega

/-- the piece lengths depend on the length of the list only -/
theorem lengths_splitAux {α} (l : List α) : ∀ (ds : List Int),
    (splitAux l ds).map List.length = diffs (ds.map (pyClamp l.length))
  | [] => rfl
  | [_] => rfl
  | a :: b :: t => by
      simp only [splitAux, List.map_cons, diffs, length_pySlice, lengths_splitAux l (b :: t)]

theorem length_splitAux {α} (l : List α) : ∀ (ds : List Int), (splitAux l ds).length = ds.length - 1
  | [] => rfl
  | [_] => rfl
  | a :: b :: t => by
      simp only [splitAux, List.length_cons, length_splitAux l (b :: t)]; omega

theorem length_npSplit {α} (l : List α) (seps : List Int) : (npSplit l seps).length = seps.length + 1 := by
  simp [npSplit, length_splitAux]

theorem sorted_of_diffs : ∀ l : List Nat, (∀ d ∈ diffs l, d ≠ 0) → l.Pairwise (· < ·)
  | [], _ => .nil
  | [_], _ => List.pairwise_singleton _ _
  | a :: b :: t, h => by
      have h0 : b - a ≠ 0 := h _ (by simp [diffs])
      have ih := sorted_of_diffs (b :: t) (fun d hd => h d (by simp [diffs, hd]))
      refine List.pairwise_cons.2 ⟨fun x hx => ?_, ih⟩
      rcases List.mem_cons.1 hx with rfl | hx
      · omega
      · have := List.rel_of_pairwise_cons ih hx
        omega

theorem le_getLastD {a : Nat} {t : List Nat} (h : (a :: t).Pairwise (· ≤ ·)) : a ≤ t.getLastD a := by
  rcases List.mem_cons.1 (List.getLastD_mem_cons (l := t) (a := a)) with e | hm
  · exact Nat.le_of_eq e.symm
  · exact List.rel_of_pairwise_cons h hm

theorem take_drop_glue {α} (l : List α) (a b c : Nat) (hab : a ≤ b) (hbc : b ≤ c) :
    (l.drop a).take (b - a) ++ (l.drop b).take (c - b) = (l.drop a).take (c - a) := by
  have e1 : l.drop b = (l.drop a).drop (b - a) := by
    rw [List.drop_drop]; congr 1; omega
  have e2 : c - a = (b - a) + (c - b) := by omega
  rw [e1, e2, List.take_add]

/-- pieces with non-decreasing clamped cut points glue back to the slice between the first and the last cut point -/
theorem flatten_splitAux {α} (l : List α) : ∀ (a : Int) (t : List Int),
    ((a :: t).map (pyClamp l.length)).Pairwise (· ≤ ·) →
    (splitAux l (a :: t)).flatten =
      (l.drop (pyClamp l.length a)).take
        ((t.map (pyClamp l.length)).getLastD (pyClamp l.length a) - pyClamp l.length a)
  | a, [], _ => by simp [splitAux]
  | a, b :: t, h => by
      have hp := List.pairwise_cons.1 h
      simp only [splitAux, List.flatten_cons, flatten_splitAux l b t hp.2, pySlice, List.map_cons, List.getLastD_cons]
      exact take_drop_glue l _ _ _ (hp.1 _ List.mem_cons_self) (le_getLastD hp.2)

/-- a split without empty piece has strictly increasing clamped cut points `0, clamp s₁, …, len` -/
theorem cuts_increasing {α} {l : List α} {seps : List Int} (h : ∀ p ∈ npSplit l seps, p ≠ []) :
    ∀ d ∈ diffs (0 :: (seps.map (pyClamp l.length) ++ [l.length])), d ≠ 0 := by
  have e : (npSplit l seps).map List.length = diffs (0 :: (seps.map (pyClamp l.length) ++ [l.length])) := by
    simp only [npSplit, lengths_splitAux, List.map_cons, List.map_append, List.map_nil, pyClamp_zero, pyClamp_self]
  rw [← e]
  intro d hd h0
  obtain ⟨p, hp, rfl⟩ := List.mem_map.1 hd
  exact h p hp (List.length_eq_zero_iff.1 h0)

/-- **cover**: if no piece of the split is empty, the pieces concatenate to the whole list -/
theorem flatten_npSplit {α} (l : List α) (seps : List Int)
    (h : ∀ p ∈ npSplit l seps, p ≠ []) : (npSplit l seps).flatten = l := by
  have := flatten_splitAux l 0 (seps ++ [(l.length : Int)])
    (by simpa only [List.map_cons, List.map_append, List.map_nil, pyClamp_zero, pyClamp_self]
          using (sorted_of_diffs _ (cuts_increasing h)).imp Nat.le_of_lt)
  simp only [npSplit, this, List.map_append, List.map_cons, List.map_nil, List.getLastD_concat,
    pyClamp_zero, pyClamp_self, List.drop_zero, Nat.sub_zero, List.take_length]

/-- without separators the split is the whole list -/
theorem npSplit_nil {α} (l : List α) : npSplit l [] = [l] := by
  simp [npSplit, splitAux, pySlice, pyClamp_zero, pyClamp_self]

theorem flatten_npSplit_nil {α} (seps : List Int) : (npSplit ([] : List α) seps).flatten = [] := by
  -- every cut point of the empty list is 0
  rw [npSplit, flatten_splitAux [] 0 _ (List.pairwise_of_forall_mem_list fun x hx y _ => by
    obtain ⟨s, _, rfl⟩ := List.mem_map.1 hx
    exact Nat.le_trans (pyClamp_le _ s) (Nat.zero_le y)), List.drop_nil, List.take_nil]

/-- two lists of the same length are cut into pieces of the same lengths -/
theorem npSplit_lengths_eq {α β} (l : List α) (l' : List β) (h : l.length = l'.length) (seps : List Int) :
    (npSplit l seps).map List.length = (npSplit l' seps).map List.length := by
  simp only [npSplit, lengths_splitAux, h]

/-- … so whether a piece is empty depends on the length of the list only -/
theorem npSplit_nonempty_congr {α β} {l : List α} {l' : List β} (h : l.length = l'.length) {seps : List Int}
    (hne : ∀ p ∈ npSplit l seps, p ≠ []) : ∀ q ∈ npSplit l' seps, q ≠ [] := by
  intro q hq hq0
  have : (0 : Nat) ∈ (npSplit l' seps).map List.length := List.mem_map.2 ⟨q, hq, by rw [hq0]; rfl⟩
  rw [← npSplit_lengths_eq l l' h] at this
  obtain ⟨p, hp, hp0⟩ := List.mem_map.1 this
  exact hne p hp (List.length_eq_zero_iff.1 hp0)

/-- the empty-fragment test of `validate_and_fill_fragments` (from_arrays.py:733-739) lets the pieces through iff there are no
atoms or no piece is empty -/
theorem trialSplit_ok_iff {α} (ps : List (List α)) (nat : Nat) :
    ¬ (ps.any (fun f => f.length == 0) = true ∧ nat ≠ 0) ↔ (nat = 0 ∨ ∀ p ∈ ps, p ≠ []) := by
  simp only [List.any_eq_true, beq_iff_eq, List.length_eq_zero_iff]
  constructor
  · intro h
    exact Decidable.or_iff_not_imp_left.2 fun hn p hp hpe => h ⟨⟨p, hp, hpe⟩, hn⟩
  · rintro (h0 | hne) ⟨⟨p, hp, hpe⟩, hn⟩
    · exact hn h0
    · exact hne p hp hpe

end QcelVerif.FromArrays
