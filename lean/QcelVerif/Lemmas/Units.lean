import QcelVerif.Model.Units
import Mathlib.Tactic.Ring
import Mathlib.Tactic.FieldSimp
import Mathlib.Tactic.Positivity
import Mathlib.Tactic.NormNum
/-!
Helper lemmas for C03 (property theorems are in `Props/C03.lean`).
-/
namespace QcelVerif.Units

theorem npw_eq (x : Rat) (k : Nat) : npw x k = x ^ k := by
  induction k with
  | zero => simp [npw]
  | succ k ih => simp [npw, ih, pow_succ]

theorem zpw_eq (x : Rat) (n : Int) : zpw x n = x ^ n := by
  cases n with
  | ofNat k => simp [zpw, npw_eq]
  | negSucc k => simp [zpw, npw_eq, zpow_negSucc]

theorem ten_pos (p : Int) : 0 < ten p := by
  unfold ten; rw [zpw_eq]; exact zpow_pos (by norm_num) p

namespace Dim
@[simp] theorem add_def (a b : Dim) : a + b = Dim.add a b := rfl
@[simp] theorem sub_def (a b : Dim) : a - b = Dim.sub a b := rfl

theorem ext' {a b : Dim} (h1 : a.L = b.L) (h2 : a.M = b.M) (h3 : a.T = b.T) (h4 : a.I = b.I)
    (h5 : a.Th = b.Th) (h6 : a.N = b.N) (h7 : a.J = b.J) : a = b := by
  cases a; cases b; simp_all
end Dim

/-- componentwise ring arithmetic on dimension vectors -/
macro "dim_arith" : tactic =>
  `(tactic| (apply Dim.ext' <;> simp only [Dim.add_def, Dim.sub_def, Dim.add, Dim.sub, Dim.smul, Dim.zero] <;> ring))

theorem Dim.zero_add' (d : Dim) : Dim.zero + d = d := by dim_arith
theorem Dim.add_zero' (d : Dim) : d + Dim.zero = d := by dim_arith

structure Codata.Pos (cd : Codata) : Prop where
  NA : 0 < cd.NA
  kB : 0 < cd.kB
  c : 0 < cd.c
  h : 0 < cd.h
  Eh : 0 < cd.Eh
  eV : 0 < cd.eV
  me : 0 < cd.me
  mu : 0 < cd.mu
  e : 0 < cd.e
  a0 : 0 < cd.a0
  au : ∀ u, 0 < cd.au u
  rel : ∀ a b, 0 < cd.rel a b

theorem baseMag_pos {cd : Codata} (hp : cd.Pos) (b : Base) : 0 < baseMag cd b := by
  have h1 := hp.a0; have h2 := hp.mu; have h3 := hp.me; have h4 := hp.e; have h5 := hp.eV
  have h6 := hp.Eh
  cases b <;> simp only [baseMag, statCMag] <;> first | positivity | exact hp.au _

theorem nistMag_pos {cd : Codata} (hp : cd.Pos) (n : NistU) : 0 < nistMag cd n := by
  have h2 := hp.mu; have h5 := hp.eV; have h6 := hp.Eh
  cases n <;> simp only [nistMag] <;> positivity

theorem keyMag_pos {cd : Codata} (hp : cd.Pos) (k : UKey) : 0 < keyMag cd k := by
  cases k with
  | u p b => exact mul_pos (ten_pos p) (baseMag_pos hp b)
  | rel p a b =>
    exact mul_pos (ten_pos p) (div_pos (mul_pos (hp.rel a b) (nistMag_pos hp b)) (nistMag_pos hp a))
  | planck => exact hp.h
  | avogadro => exact hp.NA

theorem keyMag_ne {cd : Codata} (hp : cd.Pos) (k : UKey) : keyMag cd k ≠ 0 := (keyMag_pos hp k).ne'

theorem contDim_cadd (c : Cont) (k : UKey) (v : Int) :
    contDim (cadd c k v) = Dim.smul v (keyDim k) + contDim c := by
  induction c with
  | nil =>
    by_cases hv : v = 0
    · subst hv; simp only [cadd, if_true, contDim]; dim_arith
    · simp only [cadd, hv, if_false, contDim]
  | cons kv t ih =>
    obtain ⟨k', v'⟩ := kv
    by_cases hk : k' = k
    · subst hk
      by_cases hz : v' + v = 0
      · have hv : v = -v' := by omega
        subst hv
        simp only [cadd, if_true, hz, contDim]; dim_arith
      · simp only [cadd, if_true, hz, if_false, contDim]; dim_arith
    · simp only [cadd, hk, if_false, contDim, ih]; dim_arith

theorem contMag_cadd {cd : Codata} (hp : cd.Pos) (c : Cont) (k : UKey) (v : Int) :
    contMag cd (cadd c k v) = contMag cd c * zpw (keyMag cd k) v := by
  have hk0 := keyMag_ne hp k
  induction c with
  | nil =>
    by_cases hv : v = 0
    · subst hv; simp [cadd, contMag, zpw_eq]
    · simp [cadd, hv, contMag, zpw_eq]
  | cons kv t ih =>
    obtain ⟨k', v'⟩ := kv
    by_cases hk : k' = k
    · subst hk
      by_cases hz : v' + v = 0
      · simp only [cadd, if_true, hz, contMag, zpw_eq]
        have : keyMag cd k' ^ v' * keyMag cd k' ^ v = 1 := by rw [← zpow_add₀ hk0, hz, zpow_zero]
        calc contMag cd t = (keyMag cd k' ^ v' * keyMag cd k' ^ v) * contMag cd t := by rw [this, one_mul]
          _ = _ := by ring
      · simp only [cadd, if_true, hz, if_false, contMag, zpw_eq]
        rw [zpow_add₀ hk0]; ring
    · simp only [cadd, hk, if_false, contMag, ih]; ring

theorem contDim_cmul (c1 c2 : Cont) : contDim (cmul c1 c2) = contDim c1 + contDim c2 := by
  unfold cmul
  induction c2 generalizing c1 with
  | nil => simp only [List.foldl, contDim]; dim_arith
  | cons kv t ih => simp only [List.foldl, ih, contDim_cadd, contDim]; dim_arith

theorem contDim_cpow (c : Cont) (n : Int) : contDim (cpow c n) = Dim.smul n (contDim c) := by
  induction c with
  | nil => simp only [cpow, List.map, contDim]; dim_arith
  | cons kv t ih =>
    have ih' : contDim (List.map (fun kv => (kv.1, kv.2 * n)) t) = Dim.smul n (contDim t) := ih
    simp only [cpow, List.map, contDim, ih']; dim_arith

theorem contMag_cmul {cd : Codata} (hp : cd.Pos) (c1 c2 : Cont) :
    contMag cd (cmul c1 c2) = contMag cd c1 * contMag cd c2 := by
  unfold cmul
  induction c2 generalizing c1 with
  | nil => simp [contMag]
  | cons kv t ih => simp only [List.foldl, ih, contMag_cadd hp, contMag]; ring

theorem contMag_cpow (cd : Codata) (c : Cont) (n : Int) :
    contMag cd (cpow c n) = zpw (contMag cd c) n := by
  induction c with
  | nil => simp [cpow, contMag, zpw_eq]
  | cons kv t ih =>
    have ih' : contMag cd (List.map (fun kv => (kv.1, kv.2 * n)) t) = zpw (contMag cd t) n := ih
    simp only [cpow, List.map, contMag, ih', zpw_eq, mul_zpow, zpow_mul]

/-- pint's `__truediv__` subtracts the exponents one by one: the same as multiplying by the container raised to −1 -/
theorem cdiv_eq_cmul_cpow (c1 c2 : Cont) : cdiv c1 c2 = cmul c1 (cpow c2 (-1)) := by
  simp only [cdiv, cmul, cpow, List.foldl_map, Int.mul_neg, Int.mul_one]

theorem contDim_cdiv (c1 c2 : Cont) : contDim (cdiv c1 c2) = contDim c1 - contDim c2 := by
  rw [cdiv_eq_cmul_cpow, contDim_cmul, contDim_cpow]; dim_arith

theorem contMag_cdiv {cd : Codata} (hp : cd.Pos) (c1 c2 : Cont) :
    contMag cd (cdiv c1 c2) = contMag cd c1 / contMag cd c2 := by
  rw [cdiv_eq_cmul_cpow, contMag_cmul hp, contMag_cpow, zpw_eq, zpow_neg_one, div_eq_mul_inv]

theorem route_same (o : Option Node) : route o o = [] := by
  cases o <;> simp [route]

/-- the dimension each node of the context graph stands for -/
theorem dimNode_some {d : Dim} {n : Node} (h : dimNode d = some n) :
    d = match n with
      | .E => Dim.energy | .F => Dim.frequency | .W => Dim.invLength
      | .M => Dim.mass | .Th => Dim.temperature | .EM => Dim.energyPerMol := by
  unfold dimNode at h
  split_ifs at h <;> cases h <;> assumption

end QcelVerif.Units
