import QcelVerif.Lemmas.C07ReClasses
/-!
The extent of a regex AST WITH capture groups, conditionals on a group and end anchors.

`OExt obs re D`: seen through an observation `obs` of the captures, the ways `re` matches from a cursor are the splits of the remaining
text into a word `t` and a rest `r` with `D v t r v'` (`v`, `v'` the observation before and after; `r` is there for the anchors that look
ahead).  `obs = id` follows every capture (`CExt`); `obs = fun c => (c.lookup 3).isSome` is what `(?(3)…)` needs.  The character before
the cursor is followed too, so with every capture followed the extent says exactly which states are reached (`CExt.mem_iff`), `Ext` is
the capture-free case (`ext_iff_cext`) and its closure under `seq`, `alt`, `?` (end of the file) is that of `OExt`.
-/
namespace QcelVerif.MolText
open QcelVerif.Regex

abbrev OLang (V : Type) := V → Str → Str → V → Prop

def OExt {V : Type} (obs : Caps → V) (re : Re) (D : OLang V) : Prop :=
  ∀ (s : Str) (st : St), st.rest = toBytes s →
    (∀ x ∈ re.ms st, ∃ t r, s = t ++ r ∧ D (obs st.caps) t r (obs x.caps) ∧ x.rest = toBytes r ∧ x.prev = lastOr st.prev (toBytes t)) ∧
    (∀ t r v, s = t ++ r → D (obs st.caps) t r v →
      ∃ x, x ∈ re.ms st ∧ x.rest = toBytes r ∧ obs x.caps = v ∧ x.prev = lastOr st.prev (toBytes t))

def DKeep {V} (L : Str → Prop) : OLang V := fun v t _ v' => L t ∧ v' = v
def DSeq {V} (A B : OLang V) : OLang V := fun v t r v'' => ∃ u w v', t = u ++ w ∧ A v u (w ++ r) v' ∧ B v' w r v''
def DAlt {V} (A B : OLang V) : OLang V := fun v t r v' => A v t r v' ∨ B v t r v'
def DOpt {V} (A : OLang V) : OLang V := fun v t r v' => A v t r v' ∨ (t = [] ∧ v' = v)
/-- a group whose capture changes the observation by `p` -/
def DGroup {V} (p : List Nat → V → V) (A : OLang V) : OLang V := fun v t r v'' => ∃ v', A v t r v' ∧ v'' = p (toBytes t) v'
def DIf {V} (test : V → Bool) (Y N : OLang V) : OLang V := fun v t r v' => if test v = true then Y v t r v' else N v t r v'
def DEos {V} : OLang V := fun v t r v' => t = [] ∧ r = [] ∧ v' = v

variable {V : Type} {obs : Caps → V}

theorem DSeq_keep (A B : Str → Prop) : DSeq (V := V) (DKeep A) (DKeep B) = DKeep (LSeq A B) := by
  funext v t r v'
  apply propext
  constructor
  · rintro ⟨u, w, _, rfl, ⟨hA, rfl⟩, hB, rfl⟩; exact ⟨⟨u, w, rfl, hA, hB⟩, rfl⟩
  · rintro ⟨⟨u, w, rfl, hA, hB⟩, rfl⟩; exact ⟨u, w, _, rfl, ⟨hA, rfl⟩, hB, rfl⟩

theorem DAlt_keep (A B : Str → Prop) : DAlt (V := V) (DKeep A) (DKeep B) = DKeep (LAlt A B) := by
  funext v t r v'
  apply propext
  constructor
  · rintro (⟨h, rfl⟩ | ⟨h, rfl⟩)
    · exact ⟨Or.inl h, rfl⟩
    · exact ⟨Or.inr h, rfl⟩
  · rintro ⟨h | h, rfl⟩
    · exact Or.inl ⟨h, rfl⟩
    · exact Or.inr ⟨h, rfl⟩

theorem DOpt_keep (A : Str → Prop) : DOpt (V := V) (DKeep A) = DKeep (LOpt A) := by
  funext v t r v'
  apply propext
  constructor
  · rintro (⟨h, rfl⟩ | ⟨rfl, rfl⟩)
    · exact ⟨Or.inl h, rfl⟩
    · exact ⟨Or.inr rfl, rfl⟩
  · rintro ⟨h | rfl, rfl⟩
    · exact Or.inl ⟨h, rfl⟩
    · exact Or.inr ⟨rfl, rfl⟩

theorem OExt.congr {re : Re} {D D' : OLang V} (h : OExt obs re D) (hD : ∀ v t r v', D v t r v' ↔ D' v t r v') : OExt obs re D' := by
  intro s st hs
  constructor
  · intro x hx
    obtain ⟨t, r, h1, h2, h3⟩ := (h s st hs).1 x hx
    exact ⟨t, r, h1, (hD ..).mp h2, h3⟩
  · intro t r v h1 h2
    exact (h s st hs).2 t r v h1 ((hD ..).mpr h2)

theorem OExt.ofExt {re : Re} {L : Str → Prop} (h : Ext re L) : OExt obs re (DKeep L) := by
  intro s st hs
  constructor
  · intro x hx
    obtain ⟨t, r, h1, h2, rfl⟩ := (h s st x hs).mp hx
    exact ⟨t, r, h1, ⟨h2, rfl⟩, rfl, rfl⟩
  · rintro t r _ h1 ⟨h2, rfl⟩
    exact ⟨st.adv (toBytes t) (toBytes r), (h s st _ hs).mpr ⟨t, r, h1, h2, rfl⟩, rfl, rfl, rfl⟩

theorem OExt.seq {a b : Re} {A B : OLang V} (ha : OExt obs a A) (hb : OExt obs b B) : OExt obs (.seq a b) (DSeq A B) := by
  intro s st hs
  constructor
  · intro x hx
    obtain ⟨m, hm, hx⟩ := mem_ms_seq.mp hx
    obtain ⟨t, r, rfl, hA, hmr, hmp⟩ := (ha s st hs).1 m hm
    obtain ⟨t', r', rfl, hB, hxr, hxp⟩ := (hb r m hmr).1 x hx
    exact ⟨t ++ t', r', by simp, ⟨t, t', _, rfl, hA, hB⟩, hxr, by rw [hxp, hmp, toBytes_append, lastOr_append]⟩
  · rintro _ r v'' rfl ⟨u, w, v', rfl, hA, hB⟩
    obtain ⟨m, hm, hmr, rfl, hmp⟩ := (ha _ st hs).2 u (w ++ r) v' (by simp) hA
    obtain ⟨x, hx, hxr, hxv, hxp⟩ := (hb (w ++ r) m hmr).2 w r v'' rfl hB
    exact ⟨x, mem_ms_seq.mpr ⟨m, hm, hx⟩, hxr, hxv, by rw [hxp, hmp, toBytes_append, lastOr_append]⟩

theorem OExt.alt {a b : Re} {A B : OLang V} (ha : OExt obs a A) (hb : OExt obs b B) : OExt obs (.alt a b) (DAlt A B) := by
  intro s st hs
  constructor
  · intro x hx
    rcases mem_ms_alt.mp hx with hx | hx
    · obtain ⟨t, r, h1, h2, h3⟩ := (ha s st hs).1 x hx
      exact ⟨t, r, h1, Or.inl h2, h3⟩
    · obtain ⟨t, r, h1, h2, h3⟩ := (hb s st hs).1 x hx
      exact ⟨t, r, h1, Or.inr h2, h3⟩
  · rintro t r v h1 (h2 | h2)
    · obtain ⟨x, hx, h3⟩ := (ha s st hs).2 t r v h1 h2
      exact ⟨x, mem_ms_alt.mpr (Or.inl hx), h3⟩
    · obtain ⟨x, hx, h3⟩ := (hb s st hs).2 t r v h1 h2
      exact ⟨x, mem_ms_alt.mpr (Or.inr hx), h3⟩

theorem OExt.opt {a : Re} {A : OLang V} (ha : OExt obs a A) : OExt obs (.rep 0 (some 1) true a) (DOpt A) := by
  intro s st hs
  constructor
  · intro x hx
    rcases mem_ms_opt.mp hx with hx | rfl
    · obtain ⟨t, r, h1, h2, h3⟩ := (ha s st hs).1 x hx
      exact ⟨t, r, h1, Or.inl h2, h3⟩
    · exact ⟨[], s, rfl, Or.inr ⟨rfl, rfl⟩, hs, rfl⟩
  · rintro t r v h1 (h2 | ⟨rfl, rfl⟩)
    · obtain ⟨x, hx, h3⟩ := (ha s st hs).2 t r v h1 h2
      exact ⟨x, mem_ms_opt.mpr (Or.inl hx), h3⟩
    · simp only [List.nil_append] at h1
      subst h1
      exact ⟨st, mem_ms_opt.mpr (Or.inr rfl), hs, rfl, rfl⟩

theorem OExt.group {i : Nat} {p : List Nat → V → V} (hp : ∀ w c, obs ((i, w) :: c) = p w (obs c)) {a : Re} {A : OLang V}
    (ha : OExt obs a A) : OExt obs (.group i a) (DGroup p A) := by
  intro s st hs
  constructor
  · intro x hx
    obtain ⟨m, hm, rfl⟩ := mem_ms_group.mp hx
    obtain ⟨t, r, h1, h2, h3, h4⟩ := (ha s st hs).1 m hm
    refine ⟨t, r, h1, ⟨_, h2, ?_⟩, h3, h4⟩
    rw [capture_caps', hp, hs, h3, h1, toBytes_append, takeDiff_append']
  · rintro t r _ h1 ⟨v', h2, rfl⟩
    obtain ⟨m, hm, h3, rfl, h4⟩ := (ha s st hs).2 t r v' h1 h2
    refine ⟨St.capture i st m, mem_ms_group.mpr ⟨m, hm, rfl⟩, h3, ?_, h4⟩
    rw [capture_caps', hp, hs, h3, h1, toBytes_append, takeDiff_append']

theorem OExt.group_keep {i : Nat} (hp : ∀ w c, obs ((i, w) :: c) = obs c) {a : Re} {A : OLang V} (ha : OExt obs a A) :
    OExt obs (.group i a) A :=
  (OExt.group (p := fun _ v => v) hp ha).congr fun _ _ _ _ =>
    ⟨fun ⟨_, h, e⟩ => e ▸ h, fun h => ⟨_, h, rfl⟩⟩

theorem OExt.ifGroup {i : Nat} {test : V → Bool} (ht : ∀ c, test (obs c) = (c.lookup i).isSome) {y n : Re} {Y N : OLang V}
    (hy : OExt obs y Y) (hn : OExt obs n N) : OExt obs (.ifGroup i y n) (DIf test Y N) := by
  intro s st hs
  have hms : (Re.ifGroup i y n).ms st = if test (obs st.caps) = true then y.ms st else n.ms st := by rw [ht]; rfl
  unfold DIf
  rw [hms]
  split
  · exact hy s st hs
  · exact hn s st hs

theorem OExt.eos : OExt obs .eos DEos := by
  intro s st hs
  constructor
  · intro x hx
    obtain ⟨h, rfl⟩ := mem_ms_eos.mp hx
    have : s = [] := toBytes_eq_nil.mp (hs ▸ h)
    exact ⟨[], [], by simp [this], ⟨rfl, rfl, rfl⟩, h, rfl⟩
  · rintro _ _ _ h1 ⟨rfl, rfl, rfl⟩
    subst h1
    exact ⟨st, mem_ms_eos.mpr ⟨hs, rfl⟩, hs, rfl, rfl⟩

theorem mem_ms_eolFinal {st x : St} : x ∈ Re.eolFinal.ms st ↔ (st.rest = [] ∨ st.rest = [10]) ∧ x = st := by
  simp only [Re.ms, holdsAt]
  by_cases h : (st.rest.isEmpty || st.rest == [10]) = true
  · simp only [h, if_true, List.mem_singleton]
    simp only [Bool.or_eq_true, List.isEmpty_iff, beq_iff_eq] at h
    simp [h]
  · simp only [h]
    simp only [Bool.or_eq_true, List.isEmpty_iff, beq_iff_eq] at h
    simp [h]


/-- `$` without MULTILINE -/
def DEolFinal {V} : OLang V := fun v t r v' => t = [] ∧ (r = [] ∨ r = ['\n']) ∧ v' = v

theorem OExt.eolFinal : OExt obs .eolFinal DEolFinal := by
  intro s st hs
  constructor
  · intro x hx
    obtain ⟨h, rfl⟩ := mem_ms_eolFinal.mp hx
    refine ⟨[], s, rfl, ⟨rfl, ?_, rfl⟩, hs, rfl⟩
    rw [hs] at h
    rcases h with h | h
    · exact Or.inl (toBytes_eq_nil.mp h)
    · exact Or.inr (toBytes_inj (b := ['\n']) h)
  · rintro _ r _ h1 ⟨rfl, hr, rfl⟩
    simp only [List.nil_append] at h1
    subst h1
    refine ⟨st, mem_ms_eolFinal.mpr ?_, hs, rfl, rfl⟩
    rw [hs]
    rcases hr with rfl | rfl
    · exact ⟨Or.inl rfl, rfl⟩
    · exact ⟨Or.inr rfl, rfl⟩


/-- a pattern given by its ways to match in front of any continuation (`Ext.mem_seq`, `Kw.mem_litK`) -/
theorem OExt.of_mem_seq {R K : Re} {L : Str → Prop} {DK : OLang V}
    (h : ∀ {st x : St} {U : Str}, st.rest = toBytes U →
      (x ∈ R.ms st ↔ ∃ A T, U = A ++ T ∧ L A ∧ x ∈ K.ms (st.adv (toBytes A) (toBytes T))))
    (hK : OExt obs K DK) : OExt obs R (DSeq (DKeep L) DK) := by
  intro s st hs
  constructor
  · intro x hx
    obtain ⟨A, T, rfl, hA, hx⟩ := (h hs).mp hx
    obtain ⟨t', r', rfl, hB, hxr, hxp⟩ := (hK T _ rfl).1 x hx
    exact ⟨A ++ t', r', by simp, ⟨A, t', _, rfl, ⟨hA, rfl⟩, hB⟩, hxr, by rw [hxp, toBytes_append A t', lastOr_append]; rfl⟩
  · rintro _ r v'' rfl ⟨u, w, _, rfl, ⟨hA, rfl⟩, hB⟩
    obtain ⟨x, hx, hxr, hxv, hxp⟩ := (hK (w ++ r) (st.adv (toBytes u) (toBytes (w ++ r))) rfl).2 w r v'' rfl hB
    exact ⟨x, (h hs).mpr ⟨u, w ++ r, by simp, hA, hx⟩, hxr, hxv, by rw [hxp, toBytes_append u w, lastOr_append]; rfl⟩

abbrev CExt (re : Re) (D : OLang Caps) : Prop := OExt id re D

/-- a capturing group under `CExt` -/
abbrev DCap (i : Nat) : OLang Caps → OLang Caps := DGroup fun w c => (i, w) :: c

theorem CExt.group (i : Nat) {a : Re} {A : OLang Caps} (ha : CExt a A) : CExt (.group i a) (DCap i A) :=
  OExt.group (fun _ _ => rfl) ha

/-- what `re.match` answers, read through `g`, on a pattern that starts with `\A` -/
theorem CExt.match_bos {β} {re : Re} {D : OLang Caps} (h : CExt re D) (s : Str) {g : Caps → Option β} {v : Option β}
    (sound : ∀ t r c, s = t ++ r → D [] t r c → g c = v) (complete : v ≠ none → ∃ t r c, s = t ++ r ∧ D [] t r c) :
    ((Re.seq .bos re).matchPrefix (toBytes s)).bind (fun st => g st.caps) = v := by
  have hmem : ∀ x, x ∈ (Re.seq .bos re).ms (St.init (toBytes s)) ↔ x ∈ re.ms (St.init (toBytes s)) := by
    intro x
    rw [mem_ms_seq]
    simp only [mem_ms_bos]
    exact ⟨fun ⟨_, ⟨_, e⟩, hx⟩ => e ▸ hx, fun hx => ⟨_, ⟨rfl, rfl⟩, hx⟩⟩
  refine matchPrefix_bind_eq (fun x hx => ?_) fun hne => ?_
  · obtain ⟨t, r, h1, h2, _⟩ := (h s (St.init (toBytes s)) rfl).1 x ((hmem x).mp hx)
    exact sound t r _ h1 h2
  · obtain ⟨t, r, c, h1, h2⟩ := complete hne
    obtain ⟨x, hx, _⟩ := (h s (St.init (toBytes s)) rfl).2 t r c h1 h2
    exact ⟨x, (hmem x).mpr hx⟩

theorem CExt.mem_iff {re : Re} {D : OLang Caps} (h : CExt re D) {s : Str} {st x : St} (hs : st.rest = toBytes s) :
    x ∈ re.ms st ↔ ∃ t r c, s = t ++ r ∧ D st.caps t r c ∧ x = ⟨lastOr st.prev (toBytes t), toBytes r, c⟩ := by
  constructor
  · intro hx
    obtain ⟨t, r, h1, h2, h3, h4⟩ := (h s st hs).1 x hx
    exact ⟨t, r, x.caps, h1, h2, by cases x; simp_all⟩
  · rintro ⟨t, r, c, h1, h2, rfl⟩
    obtain ⟨x, hx, h3, h4, h5⟩ := (h s st hs).2 t r c h1 h2
    have : x = ⟨lastOr st.prev (toBytes t), toBytes r, c⟩ := by cases x; simp_all
    exact this ▸ hx

theorem ext_iff_cext {re : Re} {L : Str → Prop} : Ext re L ↔ CExt re (DKeep L) := by
  refine ⟨OExt.ofExt, fun h s st x hs => ?_⟩
  rw [h.mem_iff hs]
  constructor
  · rintro ⟨t, r, _, h1, ⟨h2, rfl⟩, rfl⟩; exact ⟨t, r, h1, h2, rfl⟩
  · rintro ⟨t, r, h1, h2, rfl⟩; exact ⟨t, r, _, h1, ⟨h2, rfl⟩, rfl⟩

theorem Ext.seq {a b : Re} {A B : Str → Prop} (ha : Ext a A) (hb : Ext b B) : Ext (.seq a b) (LSeq A B) :=
  ext_iff_cext.mpr (DSeq_keep A B ▸ OExt.seq (ext_iff_cext.mp ha) (ext_iff_cext.mp hb))

theorem Ext.alt {a b : Re} {A B : Str → Prop} (ha : Ext a A) (hb : Ext b B) : Ext (.alt a b) (LAlt A B) :=
  ext_iff_cext.mpr (DAlt_keep A B ▸ OExt.alt (ext_iff_cext.mp ha) (ext_iff_cext.mp hb))

theorem Ext.opt {a : Re} {A : Str → Prop} (ha : Ext a A) : Ext (.rep 0 (some 1) true a) (LOpt A) :=
  ext_iff_cext.mpr (DOpt_keep A ▸ OExt.opt (ext_iff_cext.mp ha))

end QcelVerif.MolText
