import QcelVerif.Model.NucleusRe
import QcelVerif.Lemmas.NucleusMatch
import QcelVerif.Lemmas.RegexKit
/-!
Lemmas tying the hand-written NUCLEUS recogniser (`Model/Nucleus.lean`: `allMatches` and its stages) to the generic regex
engine run on the generated AST (`Gen/NucleusRegex.lean`), stage by stage from the end of the pattern backwards; the result is
`allMatches_eq_regex`.
-/
namespace QcelVerif.Nucleus
open QcelVerif.PStr QcelVerif.Regex

/-! ## the engine's class repetition explores exactly `runs` -/

theorem classRuns_zero_succ (p : Nat → Bool) (hi : Option Nat) (f : Nat) (s : List Nat) :
    classRuns p 0 hi (f + 1) s = classRuns p 1 hi (f + 1) s ++ [([], s)] := by
  simp [classRuns]

theorem getD_decHi (hi : Option Nat) (n : Nat) (h : hi ≠ some 0) : hi.getD (n + 1) = (decHi hi).getD n + 1 := by
  cases hi with
  | none => rfl
  | some m =>
    cases m with
    | zero => exact absurd rfl h
    | succ k => rfl

theorem classRuns_one (p : Nat → Bool) : ∀ (s : List Nat) (hi : Option Nat) (f : Nat), s.length + 1 ≤ f →
    classRuns p 1 hi f s = runs p (hi.getD s.length) s := by
  intro s
  induction s with
  | nil =>
    intro hi f hf
    obtain ⟨f', rfl⟩ : ∃ f', f = f' + 1 := ⟨f - 1, by omega⟩
    simp [classRuns, runs_nil p _ [] (by simp)]
  | cons c t ih =>
    intro hi f hf
    obtain ⟨f', rfl⟩ : ∃ f', f = f' + 2 := ⟨f - 2, by simp at hf; omega⟩
    by_cases hh : hi = some 0
    · simp [classRuns, hh, runs_zero]
    · cases hp : p c with
      | false => simp [classRuns, hp, runs_nil p _ (c :: t) (by simp [hp])]
      | true =>
        rw [List.length_cons, getD_decHi hi _ hh, runs_cons_pos p _ c t hp,
          ← ih (decHi hi) (f' + 1) (by simp at hf; omega)]
        simp [classRuns, hp, hh]

/-- greedy `[class]{1,max}` / `[class]+` followed by a continuation: the hand recogniser's `runs`, longest first -/
theorem bind_rep1 {β} (neg : Bool) (items : List Item) (hi : Option Nat) (st : St) (F : St → List β) :
    bindMs (.rep 1 hi true (.cls neg items)) st F
      = (runs (clsMem neg items) (hi.getD st.rest.length) st.rest).flatMap fun x => F (st.adv x.1 x.2) := by
  unfold bindMs
  rw [ms_rep_cls, classRuns_one _ _ _ _ (Nat.le_refl _), List.flatMap_map]

/-! ## the classes of the generated NUCLEUS AST are the hand recogniser's predicates -/

theorem cls_digit : clsMem false [.digit] = isDigit := by
  funext c; simp [clsMem, Item.mem, isDigitC, isDigit]

theorem cls_alpha : clsMem false [.range 65 90, .range 97 122] = isAlpha := by
  funext c; simp [clsMem, Item.mem, isAlpha, isUpper, isLower]

theorem cls_word : clsMem false [.word] = isWord := by
  funext c; simp [clsMem, Item.mem, isWordC, isAlphaC, isDigitC, isWord, isAlpha, isUpper, isLower, isDigit]

theorem cls_ch (a c : Nat) : clsMem false [.ch a] c = (c == a) := by
  simp [clsMem, Item.mem]

/-! ## the generated AST, cut into the stages of the hand recogniser -/

def digits1 : Re := .rep 1 none true (.cls false [.digit])
def userU : Re := .seq (.cls false [.ch 95]) (.rep 1 none true (.cls false [.word]))
def ghostRe : Re :=
  .rep 0 (some 1) true (.alt (.group 1 (.cls false [.ch 64]))
    (.group 2 (.seq (.cls false [.ch 71, .ch 103]) (.seq (.cls false [.ch 104, .ch 72]) (.cls false [.ch 40])))))
def userOpt1 : Re := .rep 0 (some 1) true (.group 7 (.alt (.group 8 userU) (.group 9 digits1)))
def userOpt2 : Re := .rep 0 (some 1) true (.group 12 (.group 13 userU))
def elemUser : Re := .seq (.group 6 (.rep 1 (some 3) true (.cls false [.range 65 90, .range 97 122]))) userOpt1
def label1Re : Re := .seq (.rep 0 (some 1) true (.group 5 digits1)) elemUser
def label2Re : Re := .seq (.group 11 (.rep 1 (some 3) true (.cls false [.digit]))) userOpt2
def massRe : Re :=
  .rep 0 (some 1) true (.seq (.cls false [.ch 64]) (.group 14 (.seq digits1 (.seq (.cls false [.ch 46]) digits1))))
def closeEos : Re := .seq (.ifGroup 2 (.cls false [.ch 41]) .eps) .eos
def tailRe : Re := .seq massRe closeEos
def coreRe : Re := .group 3 (.alt (.group 4 label1Re) (.group 10 label2Re))
def coreTail : Re := .seq coreRe tailRe

/-- the generated AST is the concatenation of the hand recogniser's stages (`rfl`: any edit of the NUCLEUS pattern
that changes CPython's parse tree breaks this line) -/
theorem nucleus_shape : Gen.NucleusRegex.nucleus = .seq .bos (.seq ghostRe coreTail) := rfl

@[simp] theorem adv_rest (st : St) (x r : List Nat) : (st.adv x r).rest = r := adv_rest' st x r
@[simp] theorem adv_caps (st : St) (x r : List Nat) : (st.adv x r).caps = st.caps := adv_caps' st x r
@[simp] theorem capture_rest (i : Nat) (a b : St) : (St.capture i a b).rest = b.rest := capture_rest' i a b
@[simp] theorem capture_caps (i : Nat) (a b : St) : (St.capture i a b).caps = (i, takeDiff a.rest b.rest) :: b.caps :=
  capture_caps' i a b

/-! ## stages that only consume text -/

/-- the ways through `r` are the splits `alts` of the remaining text, in that order; the captures are left alone -/
structure Splits (r : Re) (alts : Bytes → List (Bytes × Bytes)) : Prop where
  bind : ∀ {β : Type} (st : St) (F : St → List β), bindMs r st F = (alts st.rest).flatMap fun x => F (st.adv x.1 x.2)
  append : ∀ s x, x ∈ alts s → s = x.1 ++ x.2

theorem Splits.takeDiff {r : Re} {alts : Bytes → List (Bytes × Bytes)} (h : Splits r alts) {s : Bytes} {x : Bytes × Bytes}
    (hx : x ∈ alts s) : takeDiff s x.2 = x.1 := by
  rw [h.append s x hx]
  exact takeDiff_append' _ _

/-- a group around such a stage captures the consumed text -/
theorem Splits.bind_capture {r : Re} {alts : Bytes → List (Bytes × Bytes)} (h : Splits r alts) {β : Type} (i : Nat) (st : St)
    (F : St → List β) :
    bindMs (.group i r) st F = (alts st.rest).flatMap fun x => F ⟨lastOr st.prev x.1, x.2, (i, x.1) :: st.caps⟩ := by
  rw [bind_group, h.bind]
  apply flatMap_congr_of_mem
  intro x hx
  simp only [St.capture, St.adv, h.takeDiff hx]

theorem Splits.bind_capture2 {r : Re} {alts : Bytes → List (Bytes × Bytes)} (h : Splits r alts) {β : Type} (i j : Nat) (st : St)
    (F : St → List β) :
    bindMs (.group i (.group j r)) st F =
      (alts st.rest).flatMap fun x => F ⟨lastOr st.prev x.1, x.2, (i, x.1) :: (j, x.1) :: st.caps⟩ := by
  rw [bind_group, h.bind_capture]
  apply flatMap_congr_of_mem
  intro x hx
  simp only [St.capture, h.takeDiff hx]

theorem bind_group_alt {β} (i : Nat) (a b : Re) (st : St) (F : St → List β) :
    bindMs (.group i (.alt a b)) st F = bindMs (.group i a) st F ++ bindMs (.group i b) st F := by
  simp only [bind_group, bind_alt]

theorem splits_rep1 (neg : Bool) (items : List Item) (hi : Option Nat) :
    Splits (.rep 1 hi true (.cls neg items)) (fun s => runs (clsMem neg items) (hi.getD s.length) s) :=
  ⟨fun st F => bind_rep1 neg items hi st F, fun s x h => mem_runs_append _ _ s x h⟩

/-- `_\w+` -/
theorem splits_userU : Splits userU userUnderscore := by
  constructor
  · intro β st F
    simp only [userU, bind_seq, bind_cls, bind_rep1, cls_word, cls_ch, Option.getD_none]
    cases st.rest with
    | nil => rfl
    | cons c t =>
      by_cases hc : c = 95
      · subst hc
        simp [userUnderscore, List.flatMap_map, St.adv, lastOr]
      · simp [userUnderscore, hc]
  · intro s x h
    cases s with
    | nil => simp [userUnderscore] at h
    | cons c t =>
      by_cases hc : c = 95
      · subst hc
        simp only [userUnderscore, List.mem_map] at h
        obtain ⟨y, hy, rfl⟩ := h
        simp [← mem_runs_append _ _ _ _ hy]
      · simp [userUnderscore, hc] at h

/-! ## the stages from the end backwards, each followed by what comes after it -/

/-- the groups `parse_nucleus_label` reads, from the captures `c` overridden by the given fields -/
def mkG (c : Caps) (A E user1 Z user2 mass : Option Bytes) : Groups :=
  { gh1 := (c.lookup 1).isSome, gh2 := (c.lookup 2).isSome
    A := A.or (c.lookup 5), E := E.or (c.lookup 6), user1 := user1.or (c.lookup 7)
    Z := Z.or (c.lookup 11), user2 := user2.or (c.lookup 12), mass := mass.or (c.lookup 14) }

open QcelVerif.Gen.NucleusRegex in
theorem groupsOfSt_eq_mkG (st : St) : groupsOfSt st = mkG st.caps none none none none none none := by
  simp [groupsOfSt, mkG, St.group, nucleusG.gh1, nucleusG.gh2, nucleusG.A, nucleusG.E, nucleusG.user1, nucleusG.Z,
    nucleusG.user2, nucleusG.mass]

/-- the end of the hand recogniser (mass, closing parenthesis, end of text) on the text `s`, reporting the groups read
from the captures `c` overridden by the given fields -/
def tailHand (c : Caps) (A E user1 Z user2 : Option Bytes) (s : Bytes) : List Groups :=
  (massAlts s).flatMap fun m => if closes (c.lookup 2).isSome m.2 then [mkG c A E user1 Z user2 m.1] else []

/-- `(?(gh2)\))` then `\Z` -/
theorem close_eq (st : St) :
    bindMs closeEos st (fun st' => [groupsOfSt st'])
      = if closes (st.caps.lookup 2).isSome st.rest then [mkG st.caps none none none none none none] else [] := by
  simp only [closeEos, bind_seq, bind_ifGroup, bind_cls, bind_eps, bind_eos, cls_ch, groupsOfSt_eq_mkG, St.group]
  cases (st.caps.lookup 2).isSome
  · cases st.rest <;> simp [closes]
  · cases st.rest with
    | nil => simp [closes]
    | cons c t =>
      by_cases hc : c = 41
      · subst hc
        cases t <;> simp [closes]
      · simp [closes, hc]

/-- `(?:@(?P<mass>\d+\.\d+))?`, `(?(gh2)\))`, `\Z` -/
theorem tail_eq (st : St) :
    bindMs tailRe st (fun st' => [groupsOfSt st']) = tailHand st.caps none none none none none st.rest := by
  unfold tailRe tailHand
  rw [bind_seq]
  simp only [massRe, digits1, bind_opt, bind_seq, bind_cls, bind_group, bind_rep1, close_eq, cls_digit, cls_ch,
    adv_rest, adv_caps, capture_rest, capture_caps, Option.getD_none]
  cases hr : st.rest with
  | nil => simp [massAlts, optG]
  | cons c t =>
    by_cases hc : c = 64
    · subst hc
      simp only [massAlts, optG, List.flatMap_append, List.flatMap_map, List.flatMap_assoc, List.flatMap_cons, List.flatMap_nil,
        List.append_nil, beq_self_eq_true, if_true]
      rw [List.append_left_inj]
      apply flatMap_congr_of_mem
      intro x hx
      cases hx2 : x.2 with
      | nil => simp
      | cons c' u =>
        by_cases hc' : c' = 46
        · subst hc'
          simp only [beq_self_eq_true, if_true, List.flatMap_map]
          apply flatMap_congr_of_mem
          intro y hy
          -- the captured text is what the two runs and the dot consumed
          have ht : t = (x.1 ++ 46 :: y.1) ++ y.2 := by
            have h1 := mem_runs_append _ _ _ _ hx
            have h2 := mem_runs_append _ _ _ _ hy
            rw [hx2, h2] at h1
            simpa using h1
          simp [mkG, List.lookup, takeDiff_of_append ht]
        · simp [hc']
    · have hc2 : (c == 64) = false := by simpa using hc
      simp [massAlts, optG, hc, hc2]

/-- `tailHand` on a state's own text and captures -/
def tailK (st : St) : List Groups := tailHand st.caps none none none none none st.rest

/-- the groups 3 and 4 (or 10) that close around the label are not read -/
theorem tail_after_core (st0 st' : St) (i : Nat) (hi : i = 4 ∨ i = 10) :
    bindMs tailRe (St.capture 3 st0 (St.capture i st0 st')) (fun st'' => [groupsOfSt st'']) = tailK st' := by
  rw [tail_eq]
  rcases hi with rfl | rfl <;> rfl

/-- `(?P<user1>(_\w+)|(\d+))?` followed by the tail -/
theorem user1_eq (st : St) :
    bindMs userOpt1 st tailK =
      (optG (userUnderscore st.rest ++ runs isDigit st.rest.length st.rest) st.rest).flatMap fun u =>
        tailHand st.caps none none u.1 none none u.2 := by
  simp only [userOpt1, digits1, bind_opt, bind_group_alt, splits_userU.bind_capture2, (splits_rep1 _ _ _).bind_capture2,
    cls_digit, Option.getD_none, optG, List.flatMap_append, List.flatMap_map, List.flatMap_cons, List.flatMap_nil,
    List.append_nil]
  simp [tailK, tailHand, mkG, List.lookup]

/-- `(?P<E>[A-Z]{1,3})(?P<user1>…)?` followed by the tail -/
theorem elemUser_eq (st : St) :
    bindMs elemUser st tailK =
      (runs isAlpha 3 st.rest).flatMap fun e =>
        (optG (userUnderscore e.2 ++ runs isDigit e.2.length e.2) e.2).flatMap fun u =>
          tailHand st.caps none (some e.1) u.1 none none u.2 := by
  unfold elemUser
  rw [bind_seq, (splits_rep1 _ _ _).bind_capture]
  simp only [user1_eq, cls_alpha, Option.getD_some]
  simp [tailHand, mkG, List.lookup]

/-- `label1` followed by the tail -/
theorem label1_eq (st : St) :
    bindMs label1Re st tailK =
      (label1Alts st.rest).flatMap fun l => tailHand st.caps l.1 (some l.2.1) l.2.2.1 none none l.2.2.2 := by
  unfold label1Re digits1
  rw [bind_seq, bind_opt, (splits_rep1 _ _ _).bind_capture]
  simp only [elemUser_eq, cls_digit, Option.getD_none, label1Alts, optG, List.flatMap_append, List.flatMap_map,
    List.flatMap_assoc, List.flatMap_cons, List.flatMap_nil, List.append_nil]
  simp [tailHand, mkG, List.lookup]

/-- `(?P<user2>(_\w+))?` followed by the tail -/
theorem user2_eq (st : St) :
    bindMs userOpt2 st tailK =
      (optG (userUnderscore st.rest) st.rest).flatMap fun u => tailHand st.caps none none none none u.1 u.2 := by
  simp only [userOpt2, bind_opt, splits_userU.bind_capture2, optG, List.flatMap_append, List.flatMap_map, List.flatMap_cons,
    List.flatMap_nil, List.append_nil]
  simp [tailK, tailHand, mkG, List.lookup]

/-- `label2` followed by the tail -/
theorem label2_eq (st : St) :
    bindMs label2Re st tailK =
      (label2Alts st.rest).flatMap fun l => tailHand st.caps none none none (some l.1) l.2.1 l.2.2 := by
  unfold label2Re
  rw [bind_seq, (splits_rep1 _ _ _).bind_capture]
  simp only [user2_eq, cls_digit, Option.getD_some, label2Alts, List.flatMap_map, List.flatMap_assoc]
  simp [tailHand, mkG, List.lookup]

theorem filter_map_eq_flatMap {α β} (l : List α) (p : α → Bool) (g : α → β) :
    (l.filter p).map g = l.flatMap fun a => if p a then [g a] else [] := by
  induction l with
  | nil => rfl
  | cons a t ih => by_cases h : p a <;> simp [h, ih]

/-- the hand recogniser's continuation after the ghost marker -/
def contHand (gh1 gh2 : Bool) (r : Bytes) : List Groups :=
  ((label1Alts r).flatMap fun l =>
      ((massAlts l.2.2.2).filter fun m => closes gh2 m.2).map fun m =>
        ({ gh1 := gh1, gh2 := gh2, A := l.1, E := some l.2.1, user1 := l.2.2.1, Z := none, user2 := none, mass := m.1 } : Groups)) ++
  ((label2Alts r).flatMap fun l =>
      ((massAlts l.2.2).filter fun m => closes gh2 m.2).map fun m =>
        ({ gh1 := gh1, gh2 := gh2, A := none, E := none, user1 := none, Z := some l.1, user2 := l.2.1, mass := m.1 } : Groups))

theorem allMatches_eq (s : Bytes) : allMatches s = (ghostAlts s).flatMap fun g => contHand g.1 g.2.1 g.2.2 := rfl

/-- element / atomic-number part and everything after it, for a state whose captures hold at most the ghost groups -/
theorem coreTail_eq (st0 : St) (h5 : st0.caps.lookup 5 = none) (h6 : st0.caps.lookup 6 = none) (h7 : st0.caps.lookup 7 = none)
    (h11 : st0.caps.lookup 11 = none) (h12 : st0.caps.lookup 12 = none) (h14 : st0.caps.lookup 14 = none) :
    bindMs coreTail st0 (fun st' => [groupsOfSt st']) =
      contHand (st0.caps.lookup 1).isSome (st0.caps.lookup 2).isSome st0.rest := by
  unfold coreTail coreRe
  rw [bind_seq, bind_group, bind_alt, bind_group, bind_group]
  simp only [tail_after_core _ _ 4 (.inl rfl), tail_after_core _ _ 10 (.inr rfl)]
  rw [label1_eq, label2_eq]
  simp only [contHand, tailHand, filter_map_eq_flatMap, mkG, h5, h6, h7, h11, h12, h14, Option.or_none]


theorem core0 (p : Option Nat) (r : List Nat) :
    bindMs coreTail ⟨p, r, []⟩ (fun st' => [groupsOfSt st']) = contHand false false r := by
  rw [coreTail_eq _ rfl rfl rfl rfl rfl rfl]; rfl

theorem core1 (p : Option Nat) (r x : List Nat) :
    bindMs coreTail ⟨p, r, [(1, x)]⟩ (fun st' => [groupsOfSt st']) = contHand true false r := by
  rw [coreTail_eq _ rfl rfl rfl rfl rfl rfl]; rfl

theorem core2 (p : Option Nat) (r x : List Nat) :
    bindMs coreTail ⟨p, r, [(2, x)]⟩ (fun st' => [groupsOfSt st']) = contHand false true r := by
  rw [coreTail_eq _ rfl rfl rfl rfl rfl rfl]; rfl

theorem toLower_eq_iff (c k : Nat) (hk : 97 ≤ k ∧ k ≤ 122) : (toLower c == k) = (c == k - 32 || c == k) := by
  rw [Bool.eq_iff_iff]
  simp only [toLower, isUpper, beq_iff_eq, Bool.or_eq_true, Bool.and_eq_true, decide_eq_true_eq]
  split <;> omega

theorem cls_G (c : Nat) : clsMem false [.ch 71, .ch 103] c = (toLower c == 103) := by
  rw [toLower_eq_iff c 103 (by omega)]
  simp [clsMem, Item.mem]

theorem cls_H (c : Nat) : clsMem false [.ch 104, .ch 72] c = (toLower c == 104) := by
  rw [toLower_eq_iff c 104 (by omega)]
  simp [clsMem, Item.mem, Bool.or_comm]

/-- `ghostAlts` with its pattern matches spelled as the character tests the engine performs -/
theorem ghost_flatMap {β} (K : Bool × Bool × Bytes → List β) (s : Bytes) :
    (ghostAlts s).flatMap K =
      (match s with
        | c :: t => if c == 64 then K (true, false, t) else []
        | [] => []) ++
      (match s with
        | c :: t =>
          if toLower c == 103 then
            match t with
            | c2 :: t2 =>
              if toLower c2 == 104 then
                match t2 with
                | c3 :: t3 => if c3 == 40 then K (false, true, t3) else []
                | [] => []
              else []
            | [] => []
          else []
        | [] => []) ++
      K (false, false, s) := by
  simp only [ghostAlts, List.flatMap_append, List.flatMap_cons, List.flatMap_nil, List.append_nil]
  rw [List.append_left_inj]
  congr 1
  · rcases s with _ | ⟨c, t⟩
    · rfl
    · by_cases hc : c = 64 <;> simp [hc]
  · rcases s with _ | ⟨c, _ | ⟨c2, _ | ⟨c3, t3⟩⟩⟩
    · rfl
    · simp
    · simp
    · by_cases hc3 : c3 = 40
      · subst hc3
        by_cases h1 : (toLower c == 103) = true <;> by_cases h2 : (toLower c2 == 104) = true <;> simp [h1, h2]
      · simp [hc3]

/-- **the hand recogniser explores exactly the matches of the generated regex, in the same order** -/
theorem allMatches_eq_regex (s : Bytes) :
    (Gen.NucleusRegex.nucleus.ms (St.init s)).map groupsOfSt = allMatches s := by
  rw [map_ms_eq_bind, nucleus_shape, bind_seq, bind_bos]
  simp only [St.init, Option.isNone_none, if_true]
  rw [bind_seq]
  unfold ghostRe
  simp only [bind_opt, bind_alt, bind_group, bind_seq, bind_cls, cls_ch, cls_G, cls_H, St.capture, core0, core1, core2]
  rw [allMatches_eq, ghost_flatMap]
  rfl

end QcelVerif.Nucleus
