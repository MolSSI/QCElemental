import QcelVerif.Lemmas.Formula
import QcelVerif.Lemmas.Decimal
import QcelVerif.Lib.ListLemmas
/-!
Helper lemmas for the string (`List Char`) level of the formula model (C15):
ASCII character classes as `Nat` ranges, decimal digits of a `Nat`, the regex cuts
`cutUpper` (`re.findall(r"[A-Z][^A-Z]*", ·)`) and `splitCount` (`re.match(r"(\D+)(\d*)", ·)`) on
rendered chunks, `str.title()` on well-formed symbols, and the dictionary fold `addCount`.
Nothing here is a property statement (those are in `Props/C15FormulaStr.lean`).
-/
namespace QcelVerif.Formula

/-! ### character classes as ranges of code points -/

theorem upper_iff (c : Char) : isAsciiUpper c = true ↔ 65 ≤ c.toNat ∧ c.toNat ≤ 90 := by
  simp only [isAsciiUpper, Bool.and_eq_true, decide_eq_true_eq, Char.le_def, UInt32.le_iff_toNat_le]
  exact Iff.rfl

theorem lower_iff (c : Char) : isAsciiLower c = true ↔ 97 ≤ c.toNat ∧ c.toNat ≤ 122 := by
  simp only [isAsciiLower, Bool.and_eq_true, decide_eq_true_eq, Char.le_def, UInt32.le_iff_toNat_le]
  exact Iff.rfl

theorem digit_iff (c : Char) : isAsciiDigit c = true ↔ 48 ≤ c.toNat ∧ c.toNat ≤ 57 := by
  simp only [isAsciiDigit, Bool.and_eq_true, decide_eq_true_eq, Char.le_def, UInt32.le_iff_toNat_le]
  exact Iff.rfl

theorem coreDigit_iff (c : Char) : c.isDigit = true ↔ 48 ≤ c.toNat ∧ c.toNat ≤ 57 := by
  simp only [Char.isDigit, Bool.and_eq_true, decide_eq_true_eq, ge_iff_le, UInt32.le_iff_toNat_le]
  exact Iff.rfl

theorem not_upper_of_digit {c : Char} (h : isAsciiDigit c = true) : isAsciiUpper c = false := by
  apply eq_false_of_ne_true
  rw [upper_iff]; rw [digit_iff] at h; omega

theorem not_upper_of_lower {c : Char} (h : isAsciiLower c = true) : isAsciiUpper c = false := by
  apply eq_false_of_ne_true
  rw [upper_iff]; rw [lower_iff] at h; omega

theorem not_lower_of_upper {c : Char} (h : isAsciiUpper c = true) : isAsciiLower c = false := by
  apply eq_false_of_ne_true
  rw [lower_iff]; rw [upper_iff] at h; omega

theorem not_digit_of_upper {c : Char} (h : isAsciiUpper c = true) : isAsciiDigit c = false := by
  apply eq_false_of_ne_true
  rw [digit_iff]; rw [upper_iff] at h; omega

theorem not_digit_of_lower {c : Char} (h : isAsciiLower c = true) : isAsciiDigit c = false := by
  apply eq_false_of_ne_true
  rw [digit_iff]; rw [lower_iff] at h; omega

/-! ### decimal digits -/

theorem digitsVal_append_single (l : List Char) (c : Char) :
    digitsVal (l ++ [c]) = digitsVal l * 10 + (c.toNat - 48) := by
  simp [digitsVal, List.foldl_append]

/-- `int(str(n)) = n`: reading the decimal digits of `n` gives `n` back -/
theorem digitsVal_toDigits (n : Nat) : digitsVal (Nat.toDigits 10 n) = n :=
  Decimal.foldl_toDigits n

theorem toDigits_all_digit (n : Nat) : ∀ c ∈ Nat.toDigits 10 n, isAsciiDigit c = true := by
  intro c hc
  have := Nat.isDigit_of_mem_toDigits (by decide) (by decide) hc
  rw [coreDigit_iff] at this
  rw [digit_iff]; exact this

/-! ### the symbol/count cut on a block of non-digits followed by a block of digits -/

theorem splitCount_block (k ds : List Char) (hk : ∀ x ∈ k, isAsciiDigit x = false)
    (hd : ∀ x ∈ ds, isAsciiDigit x = true) :
    splitCount (k ++ ds) = (String.ofList k, if ds.isEmpty then 1 else digitsVal ds) := by
  have hk' : ∀ x ∈ k, (!isAsciiDigit x) = true := fun x hx => by rw [hk x hx]; rfl
  have hd' : ∀ x ∈ ds, (!isAsciiDigit x) = false := fun x hx => by rw [hd x hx]; rfl
  unfold splitCount
  obtain ⟨h1, h2⟩ := span_append hk' fun d h => hd' d (List.mem_of_mem_head? h)
  rw [h1, h2, (takeWhile_all _ _ hd).1]

/-! ### the upper-case cut -/

theorem cutUpper_nonupper_append : ∀ (body rest : List Char), (∀ x ∈ body, isAsciiUpper x = false) →
    cutUpper (body ++ rest) = (body ++ (cutUpper rest).1, (cutUpper rest).2)
  | [], rest, _ => by simp
  | b :: body, rest, h => by
      have hb := h b (List.mem_cons_self ..)
      have ih := cutUpper_nonupper_append body rest (fun x hx => h x (List.mem_cons_of_mem _ hx))
      simp only [List.cons_append, cutUpper, ih, hb]
      simp

theorem cutUpper_chunk (c : Char) (body rest : List Char) (hc : isAsciiUpper c = true)
    (hb : ∀ x ∈ body, isAsciiUpper x = false) :
    cutUpper (c :: body ++ rest) = ([], (c :: body ++ (cutUpper rest).1) :: (cutUpper rest).2) := by
  simp only [List.cons_append, cutUpper, cutUpper_nonupper_append body rest hb, hc]
  simp

/-! ### `str.title()` on a word of letters; a well-formed key is a fixed point -/

/-- ASCII letters: `upperC` gives an upper-case letter, `lowerC` a lower-case one -/
theorem upperC_lower_is_upper (n : Nat) (h1 : 97 ≤ n) (h2 : n ≤ 122) :
    65 ≤ (Char.ofNat (n - 32)).toNat ∧ (Char.ofNat (n - 32)).toNat ≤ 90 := by
  have key : ∀ n : Nat, n < 123 → 97 ≤ n →
      65 ≤ (Char.ofNat (n - 32)).toNat ∧ (Char.ofNat (n - 32)).toNat ≤ 90 := by decide
  exact key n (by omega) h1

theorem lowerC_upper_is_lower (n : Nat) (h1 : 65 ≤ n) (h2 : n ≤ 90) :
    97 ≤ (Char.ofNat (n + 32)).toNat ∧ (Char.ofNat (n + 32)).toNat ≤ 122 := by
  have key : ∀ n : Nat, n < 91 → 65 ≤ n →
      97 ≤ (Char.ofNat (n + 32)).toNat ∧ (Char.ofNat (n + 32)).toNat ≤ 122 := by decide
  exact key n (by omega) h1

def isAsciiLetter (c : Char) : Bool := isAsciiUpper c || isAsciiLower c

theorem upperC_letter {c : Char} (h : isAsciiLetter c = true) : isAsciiUpper (upperC c) = true := by
  unfold upperC
  by_cases hl : isAsciiLower c = true
  · simp only [hl, ↓reduceIte]
    rw [upper_iff]; rw [lower_iff] at hl
    exact upperC_lower_is_upper _ hl.1 hl.2
  · simp only [hl, Bool.false_eq_true, ↓reduceIte]
    simpa [isAsciiLetter, hl] using h

theorem lowerC_letter {c : Char} (h : isAsciiLetter c = true) : isAsciiLower (lowerC c) = true := by
  unfold lowerC
  by_cases hu : isAsciiUpper c = true
  · simp only [hu, ↓reduceIte]
    rw [lower_iff]; rw [upper_iff] at hu
    exact lowerC_upper_is_lower _ hu.1 hu.2
  · simp only [hu, Bool.false_eq_true, ↓reduceIte]
    simpa [isAsciiLetter, hu] using h

theorem titleChars_true_letters : ∀ (l : List Char), (∀ x ∈ l, isAsciiLetter x = true) →
    titleChars true l = l.map lowerC
  | [], _ => rfl
  | a :: l, h => by
      have ha := h a (List.mem_cons_self ..)
      have ha' : (isAsciiUpper a || isAsciiLower a) = true := ha
      simp only [titleChars, ha', ↓reduceIte, List.map_cons]
      rw [titleChars_true_letters l (fun x hx => h x (List.mem_cons_of_mem _ hx))]

theorem titleChars_letters (c : Char) (rest : List Char) (hc : isAsciiLetter c = true)
    (hr : ∀ x ∈ rest, isAsciiLetter x = true) :
    titleChars false (c :: rest) = upperC c :: rest.map lowerC := by
  have hc' : (isAsciiUpper c || isAsciiLower c) = true := hc
  simp only [titleChars, hc', ↓reduceIte, Bool.false_eq_true]
  rw [titleChars_true_letters rest hr]

theorem upperC_of_upper {c : Char} (h : isAsciiUpper c = true) : upperC c = c := by
  simp [upperC, not_lower_of_upper h]

theorem lowerC_of_lower {c : Char} (h : isAsciiLower c = true) : lowerC c = c := by
  simp [lowerC, not_upper_of_lower h]

theorem titleChars_wf (c : Char) (rest : List Char) (hc : isAsciiUpper c = true)
    (hr : ∀ x ∈ rest, isAsciiLower x = true) : titleChars false (c :: rest) = c :: rest := by
  rw [titleChars_letters c rest (by simp [isAsciiLetter, hc]) (fun x hx => by simp [isAsciiLetter, hr x hx]),
    upperC_of_upper hc, map_eq_self fun x hx => lowerC_of_lower (hr x hx)]

/-! ### the dictionary fold -/

theorem addCount_new (acc : List (String × Nat)) (k : String) (n : Nat)
    (h : k ∉ acc.map Prod.fst) : addCount acc k n = acc ++ [(k, n)] := by
  unfold addCount
  have : acc.any (fun p => p.1 == k) = false := by
    apply eq_false_of_ne_true
    intro hc
    rw [List.any_eq_true] at hc
    obtain ⟨p, hp, he⟩ := hc
    have : p.1 = k := by simpa using he
    exact h (List.mem_map.2 ⟨p, hp, this⟩)
  simp [this]

end QcelVerif.Formula
