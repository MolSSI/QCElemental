import QcelVerif.Model.MolTextRe
import QcelVerif.Lemmas.RegexKit
/-!
Bridge between M1's strings (`List Char`, predicates of `Model/MolText.lean`) and the regex engine's (`List Nat`, ASCII classes):
the character classes shared by several generated ASTs of `Gen/FromStringRegex.lean` (`\d`, `\w`, `\s`, SEP, `[\s,]`, `[\s=]`, a
literal, a case-folded letter) are the corresponding predicates of M1, for EVERY `Char` (Lean's `Char.isDigit/isAlpha/toLower` are
ASCII-only, as are the engine's `\d \w \s`), plus list transport.  Classes of a single pattern are bridged next to their use:
`cls_alpha` (`C07ReClasses`), `cls_sign` / `cls_exp` (`C07ReNumber`), `cls_expI` (`C07ReNumberI`),
`Kw.cls_lit` (`C07ReKeywords`).
-/
namespace QcelVerif.MolText
open QcelVerif.Regex

theorem toNat_ne {c d : Char} (h : c ≠ d) : c.toNat ≠ d.toNat := fun e => h (Char.toNat_inj.mp e)

theorem beq_lit (c d : Char) : (c == d) = (c.toNat == d.toNat) := by
  rw [Bool.eq_iff_iff, beq_iff_eq, beq_iff_eq, Char.toNat_inj]

theorem ofBytes_toBytes (s : Str) : ofBytes (toBytes s) = s := by
  induction s with
  | nil => rfl
  | cons c t ih =>
    simp only [toBytes, ofBytes, List.map_cons, List.map_map] at *
    rw [ih]
    congr 1
    exact Char.ofNat_toNat c

theorem map_ofBytes_toBytes (l : List Str) : (l.map toBytes).map ofBytes = l := by
  induction l with
  | nil => rfl
  | cons a t ih => simp only [List.map_cons, ofBytes_toBytes, ih]

theorem ofBytes_append (a b : List Nat) : ofBytes (a ++ b) = ofBytes a ++ ofBytes b := by simp [ofBytes]

theorem toBytes_inj {a b : Str} (h : toBytes a = toBytes b) : a = b := by
  rw [← ofBytes_toBytes a, h, ofBytes_toBytes]

@[simp] theorem toBytes_nil : toBytes [] = [] := rfl
@[simp] theorem toBytes_cons (c : Char) (t : Str) : toBytes (c :: t) = c.toNat :: toBytes t := rfl
@[simp] theorem toBytes_append (a b : Str) : toBytes (a ++ b) = toBytes a ++ toBytes b := by simp [toBytes]
@[simp] theorem toBytes_length (a : Str) : (toBytes a).length = a.length := by simp [toBytes]

theorem toBytes_eq_nil {a : Str} : toBytes a = [] ↔ a = [] := List.map_eq_nil_iff

/-- a split of `toBytes s` is the image of a split of `s` -/
theorem toBytes_eq_append {s : Str} {x y : List Nat} (h : toBytes s = x ++ y) :
    ∃ a b, s = a ++ b ∧ x = toBytes a ∧ y = toBytes b := by
  obtain ⟨a, b, h1, h2, h3⟩ := List.map_eq_append_iff.mp h
  exact ⟨a, b, h1, h2.symm, h3.symm⟩

theorem takeWhile_toBytes (p : Nat → Bool) (q : Char → Bool) (h : ∀ c, p c.toNat = q c) (s : Str) :
    (toBytes s).takeWhile p = toBytes (s.takeWhile q) :=
  takeWhile_map_of h s

theorem dropWhile_toBytes (p : Nat → Bool) (q : Char → Bool) (h : ∀ c, p c.toNat = q c) (s : Str) :
    (toBytes s).dropWhile p = toBytes (s.dropWhile q) :=
  dropWhile_map_of h s

theorem all_toBytes (p : Nat → Bool) (q : Char → Bool) (h : ∀ c, p c.toNat = q c) (s : Str) :
    (∀ c ∈ toBytes s, p c = true) ↔ (∀ c ∈ s, q c = true) := by
  simp only [toBytes, List.mem_map, forall_exists_index, and_imp, forall_apply_eq_imp_iff₂, h]

theorem isDigit_nat (c : Char) : c.isDigit = isDigitC c.toNat := by
  simp only [isDigitC, Char.isDigit, UInt32.le_iff_toNat_le]
  rfl

theorem isAlpha_nat (c : Char) : c.isAlpha = isAlphaC c.toNat := by
  simp only [isAlphaC, Char.isAlpha, Char.isUpper, Char.isLower, UInt32.le_iff_toNat_le]
  show (decide (65 ≤ c.toNat ∧ c.toNat ≤ 90) || decide (97 ≤ c.toNat) && decide (c.toNat ≤ 122)) = _
  simp [Bool.decide_and]

theorem isWs_nat (c : Char) : isWs c = isSpaceC c.toNat := by
  simp only [isWs, isSpaceC, beq_lit, Char.reduceToNat]
  rw [Bool.eq_iff_iff]
  simp only [Bool.or_eq_true, beq_iff_eq, Bool.and_eq_true, decide_eq_true_eq]
  omega

theorem isWord_nat (c : Char) : isWord c = isWordC c.toNat := by
  simp only [isWord, isWordC, Char.isAlphanum, isAlpha_nat, isDigit_nat, beq_lit, Char.reduceToNat]

theorem cls_digit (c : Char) : clsMem false [.digit] c.toNat = c.isDigit := by
  rw [isDigit_nat]; simp [clsMem, Item.mem]

theorem cls_word (c : Char) : clsMem false [.word] c.toNat = isWord c := by
  rw [isWord_nat]; simp [clsMem, Item.mem]

theorem cls_space (c : Char) : clsMem false [.space] c.toNat = isWs c := by
  rw [isWs_nat]; simp [clsMem, Item.mem]

theorem cls_sep (c : Char) : clsMem false [.ch 9, .ch 32, .ch 44] c.toNat = isSep c := by
  simp only [clsMem, Item.mem, isSep, beq_lit, List.any_cons, List.any_nil, Bool.or_false, Char.reduceToNat]
  generalize (c.toNat == 9) = a
  generalize (c.toNat == 32) = b
  generalize (c.toNat == 44) = d
  cases a <;> cases b <;> cases d <;> rfl

theorem cls_wsComma (c : Char) : clsMem false [.space, .ch 44] c.toNat = isWsComma c := by
  simp only [isWsComma, isWs_nat, beq_lit, Char.reduceToNat]
  simp [clsMem, Item.mem]

theorem cls_wsEq (c : Char) : clsMem false [.space, .ch 61] c.toNat = isWsEq c := by
  simp only [isWsEq, isWs_nat, beq_lit, Char.reduceToNat]
  simp [clsMem, Item.mem]

/-- a literal character -/
theorem cls_ch (c : Char) (k : Nat) : clsMem false [.ch k] c.toNat = (c.toNat == k) := by
  simp [clsMem, Item.mem]

/-- `[^x]` -/
theorem cls_not_ch (c : Char) (k : Nat) : clsMem true [.ch k] c.toNat = (c.toNat != k) := by
  simp [clsMem, Item.mem, bne]

/-- `[^\n]`, what `.` matches -/
def notNl (c : Char) : Bool := !(c == '\n')

theorem cls_notNl (c : Char) : clsMem true [.ch 10] c.toNat = notNl c := by
  rw [cls_not_ch, notNl, beq_lit]; rfl

theorem notNl_iff (c : Char) : notNl c = true ↔ c ≠ '\n' := by simp [notNl]

theorem toLower_nat (c : Char) : c.toLower.toNat = if 65 ≤ c.toNat ∧ c.toNat ≤ 90 then c.toNat + 32 else c.toNat := by
  unfold Char.toLower
  split
  · rename_i h
    have h' : 65 ≤ c.toNat ∧ c.toNat ≤ 90 := by
      simp only [ge_iff_le, UInt32.le_iff_toNat_le] at h
      exact h
    rw [if_pos h']
    show (c.val + ('a'.val - 'A'.val)).toNat = c.val.toNat + 32
    have h2 : c.val.toNat ≤ 90 := h'.2
    rw [UInt32.toNat_add]
    have : ('a'.val - 'A'.val).toNat = 32 := by decide
    rw [this]
    omega
  · rename_i h
    have h' : ¬ (65 ≤ c.toNat ∧ c.toNat ≤ 90) := by
      simp only [ge_iff_le, UInt32.le_iff_toNat_le] at h
      exact h
    rw [if_neg h']

/-- a letter under IGNORECASE, as the translator folds it (`[.ch lower, .ch upper]`): the character lower-cases to it -/
theorem cls_ci (c : Char) (k : Nat) (hk : 97 ≤ k ∧ k ≤ 122) :
    clsMem false [.ch k, .ch (k - 32)] c.toNat = (c.toLower.toNat == k) := by
  rw [toLower_nat]
  simp only [clsMem, Item.mem, List.any_cons, List.any_nil, Bool.or_false]
  rw [Bool.eq_iff_iff]
  by_cases h : 65 ≤ c.toNat ∧ c.toNat ≤ 90
  · simp only [h, and_self, if_true, bne_iff_ne, ne_eq, Bool.not_eq_false, Bool.or_eq_true, beq_iff_eq]
    omega
  · simp only [h, if_false, bne_iff_ne, ne_eq, Bool.not_eq_false, Bool.or_eq_true, beq_iff_eq]
    omega

end QcelVerif.MolText
