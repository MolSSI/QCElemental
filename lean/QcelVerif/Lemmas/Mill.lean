import QcelVerif.Model.Mill
import Mathlib.Tactic.Ring
import Mathlib.Tactic.LinearCombination
import Mathlib.Tactic.FinCases
import Mathlib.Algebra.BigOperators.Fin
import Mathlib.Algebra.BigOperators.Ring.Finset
import Mathlib.Data.Fintype.BigOperators
import Mathlib.LinearAlgebra.Matrix.SemiringInverse
/-!
Definitions and helper lemmas for C13 (property theorems are in `Props/C13.lean`), over an arbitrary
commutative ring `K`.  Defined here because the statements of C13 are about them: `IsOrtho` (`R Rᵀ = I`),
the frame and differential `J` of a recipe, `dist2`, `flat`, `bilin`, the polynomial pair energies
`energy` / `gradE` / `hessE`, `permute`, and the polynomial vector field `fieldMu` / `fieldD`.
-/
namespace QcelVerif.Mill

variable {K : Type} [CommRing K]

/-! ### index arithmetic of the 3×3 (and general) blocking -/

theorem idx_blk_off {g l : Nat} (r : Fin (g * l)) : idx (blk r) (off r) = r := by
  apply Fin.ext
  simp only [idx, blk, off]
  exact Nat.div_add_mod' _ _

theorem divmod_of_eq {k x y z : Nat} (h : k = x * z + y) (hy : y < z) : k / z = x ∧ k % z = y :=
  (Nat.div_mod_unique (Nat.zero_lt_of_lt hy)).2 ⟨by rw [h, Nat.mul_comm, Nat.add_comm], hy⟩

theorem blk_idx {g l : Nat} (i : Fin g) (p : Fin l) : blk (idx i p) = i :=
  Fin.ext (divmod_of_eq rfl p.isLt).1

theorem off_idx {g l : Nat} (i : Fin g) (p : Fin l) : off (idx i p) = p :=
  Fin.ext (divmod_of_eq rfl p.isLt).2

/-- a sum over the flat index is the double sum over (block, offset) -/
theorem sum_flat {g l : Nat} (f : Fin (g * l) → K) :
    ∑ r, f r = ∑ i : Fin g, ∑ p : Fin l, f (idx i p) := by
  rw [← Fintype.sum_prod_type' (fun i p => f (idx i p))]
  rw [← Equiv.sum_comp finProdFinEquiv f]
  apply Finset.sum_congr rfl
  intro x _
  congr 1
  apply Fin.ext
  simp [finProdFinEquiv, idx, Nat.mul_comm, Nat.add_comm]


/-! ### the frame of a recipe, orthogonality -/

/-- `R Rᵀ = I` (rows orthonormal), the hypothesis "rotation" of the property, entry by entry -/
def IsOrtho (R : Mat3 K) : Prop :=
  ∀ c c' : Fin 3, sum3 (fun a => R c a * R c' a) = if c = c' then 1 else 0

/-- sign applied to Cartesian component `c` by the mirror step (`arr[:,1] *= -1`) -/
def msign {n m : Nat} (r : Recipe K n m) (c : Fin 3) : K := if r.mirror then (if c = 1 then -1 else 1) else 1

/-- the linear frame change of a recipe: reflect `y` (if mirror), then rotate: `F = diag(1,∓1,1)·R` -/
def frame {n m : Nat} (r : Recipe K n m) : Mat3 K := fun c a => msign r c * r.rot c a

/-- differential of the forward coordinate map: `(J d)_i = d_{map i} · F` -/
def J {n m : Nat} (r : Recipe K n m) (d : Geom K n) : Geom K m :=
  fun i a => sum3 fun c => d (r.map i) c * frame r c a

theorem msign_sq {n m : Nat} (r : Recipe K n m) (c : Fin 3) : msign r c * msign r c = 1 := by
  unfold msign; split_ifs <;> ring

theorem frame_of_not_mirror {n m : Nat} (r : Recipe K n m) (hm : r.mirror = false) : frame r = r.rot := by
  funext c a; simp [frame, msign, hm]

theorem hessFrame_eq {n m : Nat} (r : Recipe K n m) : hessFrame r = frame r := by
  funext c a
  unfold hessFrame frame msign
  cases hm : r.mirror
  · simp
  · fin_cases c <;> simp [matMul, diagMirror, sum3]

theorem frame_ortho {n m : Nat} (r : Recipe K n m) (h : IsOrtho r.rot) : IsOrtho (frame r) := by
  intro c c'
  have := h c c'
  simp only [sum3, frame] at this ⊢
  by_cases hc : c = c'
  · subst hc
    simp only [if_true] at this ⊢
    linear_combination (msign r c * msign r c) * this + msign_sq r c
  · simp only [hc, if_false] at this ⊢
    linear_combination (msign r c * msign r c') * this

/-- over a commutative ring `R Rᵀ = I` gives `Rᵀ R = I` (columns orthonormal) -/
theorem ortho_cols {R : Mat3 K} (h : IsOrtho R) (a b : Fin 3) :
    sum3 (fun c => R c a * R c b) = if a = b then 1 else 0 := by
  have h1 : (Matrix.of R) * (Matrix.of R).transpose = 1 := by
    ext c c'
    have := h c c'
    simp only [sum3] at this
    simp [Matrix.mul_apply, Fin.sum_univ_three, Matrix.one_apply, this]
  have h2 : (Matrix.of R).transpose * (Matrix.of R) = 1 := mul_eq_one_comm.mp h1
  have := congrFun (congrFun h2 a) b
  simp only [Matrix.mul_apply, Fin.sum_univ_three, Matrix.transpose_apply, Matrix.of_apply, Matrix.one_apply] at this
  simp only [sum3]
  exact this

/-- rotating back: `(uF)·Fᵀ = u` for an orthogonal frame, component `c` -/
theorem rowDot_back {F : Mat3 K} (h : IsOrtho F) (u : Vec3 K) (c : Fin 3) :
    rowDot u F 0 * F c 0 + rowDot u F 1 * F c 1 + rowDot u F 2 * F c 2 = u c := by
  have h0 := h 0 c; have h1 := h 1 c; have h2 := h 2 c
  simp only [sum3, rowDot] at *
  fin_cases c <;> simp at h0 h1 h2 ⊢ <;> linear_combination u 0 * h0 + u 1 * h1 + u 2 * h2

/-- rotating forth: `(vFᵀ)·F = v`, component `a` (columns are orthonormal too) -/
theorem rowDot_transpose_rowDot {F : Mat3 K} (h : IsOrtho F) (v : Vec3 K) (a : Fin 3) :
    rowDot v (transpose F) 0 * F 0 a + rowDot v (transpose F) 1 * F 1 a + rowDot v (transpose F) 2 * F 2 a = v a :=
  rowDot_back (F := transpose F) (fun c c' => ortho_cols h c c') v a

/-- an orthogonal frame preserves the dot product of row vectors: `(uF)·(vF) = u·v` -/
theorem pair3 {F : Mat3 K} (h : IsOrtho F) (u v : Vec3 K) :
    sum3 (fun a => rowDot u F a * rowDot v F a) = sum3 (fun c => u c * v c) := by
  have hu := rowDot_back h u
  generalize rowDot u F = p at hu ⊢
  simp only [sum3, rowDot]
  linear_combination v 0 * hu 0 + v 1 * hu 1 + v 2 * hu 2

theorem J_inner {n m : Nat} (r : Recipe K n m) (hR : IsOrtho r.rot) (hmap : Function.Bijective r.map)
    (d e : Geom K n) :
    ∑ i, sum3 (fun a => J r d i a * J r e i a) = ∑ i, sum3 (fun a => d i a * e i a) :=
  Fintype.sum_bijective r.map hmap _ _ fun i => pair3 (frame_ortho r hR) (d (r.map i)) (e (r.map i))

/-- conjugating `α·u uᵀ + β·I` by a frame with orthonormal columns: `Fᵀ(α u uᵀ + β I)F = α (uF)(uF)ᵀ + β I`,
    entry `(a, b)` -/
theorem rank1_cov {F : Mat3 K} (hF : IsOrtho F) (u : Vec3 K) (α β : K) (a b : Fin 3) :
    α * rowDot u F a * rowDot u F b + (if a = b then β else 0)
      = sum3 fun c => sum3 fun d => F c a * (α * u c * u d + if c = d then β else 0) * F d b := by
  have hc := ortho_cols hF a b
  simp only [rowDot, sum3] at hc ⊢
  by_cases hab : a = b
  · subst hab
    simp at hc ⊢
    linear_combination (-β) * hc
  · simp [hab] at hc ⊢
    linear_combination (-β) * hc

/-! ### coordinates, gradient -/

/-- the affine map every atom goes through in `alignCoords` (does not depend on the atom) -/
def pointMap {n m : Nat} (r : Recipe K n m) (p : Vec3 K) : Vec3 K :=
  fun a => sum3 fun c => (msign r c * p c - r.shift c) * r.rot c a

theorem mirror_apply {n m k : Nat} (r : Recipe K n m) (x : Geom K k) (i : Fin k) (a : Fin 3) :
    (if r.mirror then flipY x else x) i a = msign r a * x i a := by
  unfold msign flipY
  cases r.mirror
  · simp
  · by_cases ha : a = 1 <;> simp [ha]

theorem alignCoords_apply {n m : Nat} (r : Recipe K n m) (x : Geom K n) (i : Fin m) :
    alignCoords r x i = pointMap r (x (r.map i)) := by
  funext a
  simp only [alignCoords, takeRows, rowDot, mirror_apply, pointMap]

theorem alignGradient_eq_J {n m : Nat} (r : Recipe K n m) (g : Geom K n) : alignGradient r g = J r g := by
  funext i a
  simp only [alignGradient, takeRows, rowDot, mirror_apply, J, frame, sum3]
  ring

/-- differences of aligned coordinates: the shift cancels, the frame acts -/
theorem alignCoords_sub {n m : Nat} (r : Recipe K n m) (x : Geom K n) (i j : Fin m) (a : Fin 3) :
    alignCoords r x i a - alignCoords r x j a
      = rowDot (fun c => x (r.map i) c - x (r.map j) c) (frame r) a := by
  rw [alignCoords_apply, alignCoords_apply]
  simp only [pointMap, rowDot, sum3, frame]
  ring

/-- squared distance between atoms `i` and `j` -/
def dist2 {n : Nat} (x : Geom K n) (i j : Fin n) : K :=
  sum3 fun a => (x i a - x j a) * (x i a - x j a)

theorem dist2_symm {n : Nat} (x : Geom K n) (i j : Fin n) : dist2 x i j = dist2 x j i := by
  simp only [dist2, sum3]; ring

theorem dist2_self {n : Nat} (x : Geom K n) (i : Fin n) : dist2 x i i = 0 := by
  simp only [dist2, sum3]; ring

/-- polarisation of `dist2`: `Σ_a (x_ia − x_ja)(d_ia − d_ja)` -/
def dist2Pol {n : Nat} (x d : Geom K n) (i j : Fin n) : K :=
  sum3 fun a => (x i a - x j a) * (d i a - d j a)

/-- the squared distance along the line `x + t d` -/
theorem dist2_line {n : Nat} (x d : Geom K n) (t : K) (i j : Fin n) :
    dist2 (fun i a => x i a + t * d i a) i j
      = dist2 x i j + t * (2 * dist2Pol x d i j) + t ^ 2 * dist2 d i j := by
  simp only [dist2, dist2Pol, sum3]; ring

theorem dist2_align {n m : Nat} (r : Recipe K n m) (h : IsOrtho r.rot) (x : Geom K n) (i j : Fin m) :
    dist2 (alignCoords r x) i j = dist2 x (r.map i) (r.map j) := by
  unfold dist2
  simp only [alignCoords_sub]
  exact pair3 (frame_ortho r h) _ _

/-- reverse map on differences: rotate, then sign -/
theorem alignCoordsRev_sub {n m : Nat} (r : Recipe K n m) (x : Geom K n) (i j : Fin m) (a : Fin 3) :
    alignCoordsRev r x i a - alignCoordsRev r x j a
      = msign r a * rowDot (fun c => x (r.map i) c - x (r.map j) c) r.rot a := by
  simp only [alignCoordsRev, takeRows, mirror_apply, rowDot, sum3]
  ring

theorem dist2_alignRev {n m : Nat} (r : Recipe K n m) (h : IsOrtho r.rot) (x : Geom K n) (i j : Fin m) :
    dist2 (alignCoordsRev r x) i j = dist2 x (r.map i) (r.map j) := by
  unfold dist2
  simp only [alignCoordsRev_sub]
  have := pair3 h (fun c => x (r.map i) c - x (r.map j) c) (fun c => x (r.map i) c - x (r.map j) c)
  have s0 := msign_sq r 0; have s1 := msign_sq r 1; have s2 := msign_sq r 2
  simp only [sum3] at this ⊢
  generalize rowDot (fun c => x (r.map i) c - x (r.map j) c) r.rot = w at this ⊢
  linear_combination this + (w 0 * w 0) * s0 + (w 1 * w 1) * s1 + (w 2 * w 2) * s2


/-! ### Hessian -/

/-- flatten an `(n,3)` array to `(3n,)` (numpy `ravel`) -/
def flat {n : Nat} (d : Geom K n) : Fin (n * 3) → K := fun r => d (blk r) (off r)

/-- `uᵀ H v` -/
def bilin {N : Nat} (H : Fin N → Fin N → K) (u v : Fin N → K) : K := ∑ r, ∑ c, u r * H r c * v c

theorem alignHessian_apply {n m : Nat} (r : Recipe K n m) (H : Hess K n) (s t : Fin (m * 3)) :
    alignHessian r H s t
      = sum3 fun c => sum3 fun d =>
          frame r c (off s) * H (idx (r.map (blk s)) c) (idx (r.map (blk t)) d) * frame r d (off t) := by
  unfold alignHessian blockwiseContract blockwiseExpand matMul transpose
  rw [hessFrame_eq]
  simp only [sum3]
  ring

/-- entry `(a, 3i+b)` of `align_vector_gradient(μ)` is entry `(a, b)` of `Rᵀ · μ[:, atom map i] · R` -/
theorem alignVectorGradient_apply {n : Nat} (r : Recipe K n n) (mu : Fin 3 → Fin (n * 3) → K)
    (a : Fin 3) (s : Fin (n * 3)) :
    alignVectorGradient r mu a s
      = sum3 fun c => sum3 fun d => r.rot c a * mu c (idx (r.map (blk s)) d) * r.rot d (off s) := by
  unfold alignVectorGradient matMul transpose
  simp only [sum3]
  ring

/-- `(uF) (Fᵀ B F) (vF)ᵀ = u B vᵀ` for an orthogonal frame -/
theorem form3 {F : Mat3 K} (h : IsOrtho F) (u v : Vec3 K) (B : Mat3 K) :
    sum3 (fun a => sum3 fun b =>
        rowDot u F a * (sum3 fun c => sum3 fun d => F c a * B c d * F d b) * rowDot v F b)
      = sum3 fun c => sum3 fun d => u c * B c d * v d := by
  have hu := rowDot_back h u
  have hv := rowDot_back h v
  generalize rowDot u F = p at hu ⊢
  generalize rowDot v F = q at hv ⊢
  calc _ = sum3 fun c => sum3 fun d => (p 0 * F c 0 + p 1 * F c 1 + p 2 * F c 2) * B c d
              * (q 0 * F d 0 + q 1 * F d 1 + q 2 * F d 2) := by simp only [sum3]; ring
    _ = _ := by simp only [hu, hv]

theorem bilin_blocks {g : Nat} (H : Fin (g * 3) → Fin (g * 3) → K) (u v : Geom K g) :
    bilin H (flat u) (flat v)
      = ∑ i, ∑ j, sum3 fun a => sum3 fun b => u i a * H (idx i a) (idx j b) * v j b := by
  unfold bilin
  rw [sum_flat]
  apply Finset.sum_congr rfl; intro i _
  simp_rw [sum_flat (g := g) (l := 3)]
  simp only [flat, blk_idx, off_idx, Fin.sum_univ_three, sum3, Finset.sum_add_distrib]
  ring


/-! ### the polynomial pair energies `E_{k,c}(x) = Σ_{i<j} k_ij (|x_i − x_j|² − c_ij)²` -/

section Energy
variable {n : Nat}

/-- one pair term -/
def pairE (k c : Fin n → Fin n → K) (x : Geom K n) (i j : Fin n) : K :=
  k i j * ((dist2 x i j - c i j) * (dist2 x i j - c i j))

/-- `E_{k,c}(x) = Σ_{i<j} k_ij (|x_i − x_j|² − c_ij)²` -/
def energy (k c : Fin n → Fin n → K) (x : Geom K n) : K :=
  ∑ i, ∑ j, if i < j then pairE k c x i j else 0

/-- explicit gradient `∂E/∂x_ia = Σ_j 4 k_ij (|x_i−x_j|² − c_ij)(x_ia − x_ja)`
(tied to `energy` by `gradE_is_derivative`) -/
def gradE (k c : Fin n → Fin n → K) (x : Geom K n) : Geom K n :=
  fun i a => ∑ j, 4 * k i j * (dist2 x i j - c i j) * (x i a - x j a)

/-- second derivative of one pair term w.r.t. `x_ia, x_ib` -/
def Tblk (k c : Fin n → Fin n → K) (x : Geom K n) (i j : Fin n) (a b : Fin 3) : K :=
  8 * k i j * (x i a - x j a) * (x i b - x j b) + (if a = b then 4 * k i j * (dist2 x i j - c i j) else 0)

/-- a block `T(i,l)` applied to a vector: `8k (x_i − x_l)_a ((x_i − x_l)·w) + 4k (|x_i − x_l|² − c) w_a` -/
theorem Tblk_mulVec (k c : Fin n → Fin n → K) (x : Geom K n) (i l : Fin n) (a : Fin 3) (w : Vec3 K) :
    ∑ b : Fin 3, Tblk k c x i l a b * w b
      = 8 * k i l * (x i a - x l a) * (sum3 fun b => (x i b - x l b) * w b)
        + 4 * k i l * (dist2 x i l - c i l) * w a := by
  simp only [Tblk, add_mul, Finset.sum_add_distrib, ite_mul, zero_mul, Finset.sum_ite_eq, Finset.mem_univ, if_true]
  simp only [Fin.sum_univ_three, sum3]
  ring

/-- explicit Hessian as a `(3n,3n)` array: block `(i,j)`, `i ≠ j`, is `−T(i,j)`; block `(i,i)` is
`Σ_{l≠i} T(i,l)` (tied to `gradE` by `hessE_is_derivative`) -/
def hessE (k c : Fin n → Fin n → K) (x : Geom K n) : Hess K n :=
  fun s t =>
    if blk s = blk t then ∑ l, (if l = blk s then 0 else Tblk k c x (blk s) l (off s) (off t))
    else - Tblk k c x (blk s) (blk t) (off s) (off t)

/-- the atom map acting on a coupling matrix: `k'_{ij} = k_{map i, map j}` -/
def permute {m : Nat} (σ : Fin m → Fin n) (k : Fin n → Fin n → K) : Fin m → Fin m → K :=
  fun i j => k (σ i) (σ j)

theorem Tblk_cov {m : Nat} (r : Recipe K n m) (hR : IsOrtho r.rot) (k c : Fin n → Fin n → K)
    (x : Geom K n) (i j : Fin m) (a b : Fin 3) :
    Tblk (permute r.map k) (permute r.map c) (alignCoords r x) i j a b
      = sum3 fun c' => sum3 fun d' =>
          frame r c' a * Tblk k c x (r.map i) (r.map j) c' d' * frame r d' b := by
  unfold Tblk permute
  rw [dist2_align r hR, alignCoords_sub, alignCoords_sub]
  exact rank1_cov (frame_ortho r hR) (fun c' => x (r.map i) c' - x (r.map j) c') _ _ a b

theorem Tblk_symm (k c : Fin n → Fin n → K) (hk : ∀ i j, k i j = k j i) (hc : ∀ i j, c i j = c j i)
    (x : Geom K n) (i j : Fin n) (a b : Fin 3) : Tblk k c x i j a b = Tblk k c x j i b a := by
  simp only [Tblk, hk j i, hc j i, dist2_symm x j i, eq_comm (a := b)]
  ring

theorem Tblk_symm' (k c : Fin n → Fin n → K) (x : Geom K n) (i j : Fin n) (a b : Fin 3) :
    Tblk k c x i j a b = Tblk k c x i j b a := by
  simp only [Tblk, eq_comm (a := b)]
  ring

/-- a double sum of terms vanishing on the diagonal, folded onto the pairs `i < j` -/
theorem sum_offdiag_symm (f : Fin n → Fin n → K) (h0 : ∀ i, f i i = 0) :
    ∑ i, ∑ j, f i j = ∑ i, ∑ j, if i < j then f i j + f j i else 0 := by
  have split : ∀ i j, f i j = (if i < j then f i j else 0) + (if j < i then f i j else 0) := by
    intro i j
    rcases lt_trichotomy i j with h | h | h
    · simp [h, not_lt_of_gt h]
    · subst h; simp [h0]
    · simp [h, not_lt_of_gt h]
  calc ∑ i, ∑ j, f i j
      = ∑ i, ∑ j, ((if i < j then f i j else 0) + (if j < i then f i j else 0)) := by
        apply Finset.sum_congr rfl; intro i _; apply Finset.sum_congr rfl; intro j _; exact split i j
    _ = (∑ i, ∑ j, if i < j then f i j else 0) + ∑ i, ∑ j, if j < i then f i j else 0 := by
        simp only [Finset.sum_add_distrib]
    _ = (∑ i, ∑ j, if i < j then f i j else 0) + ∑ j, ∑ i, if j < i then f i j else 0 := by
        rw [Finset.sum_comm (f := fun i j => if j < i then f i j else 0)]
    _ = ∑ i, ∑ j, if i < j then f i j + f j i else 0 := by
        simp only [← Finset.sum_add_distrib]
        apply Finset.sum_congr rfl; intro i _; apply Finset.sum_congr rfl; intro j _
        split_ifs <;> simp

theorem sum_ite_ne' {n : Nat} (f : Fin n → K) (i : Fin n) :
    ∑ l, (if l = i then 0 else f l) = ∑ l, f l - f i := by
  have : ∀ l, (if l = i then 0 else f l) = f l - (if l = i then f l else 0) := by
    intro l; split_ifs <;> simp
  simp only [this, Finset.sum_sub_distrib, Finset.sum_ite_eq', Finset.mem_univ, if_true]

/-- `H e` for the explicit Hessian, row `(i,a)` -/
theorem hessE_mulVec {n : Nat} (k c : Fin n → Fin n → K) (x e : Geom K n) (i : Fin n) (a : Fin 3) :
    ∑ s, hessE k c x (idx i a) s * flat e s
      = ∑ l, ∑ b : Fin 3, Tblk k c x i l a b * (e i b - e l b) := by
  rw [sum_flat]
  simp only [hessE, flat, blk_idx, off_idx]
  have e1 : ∀ (j : Fin n) (b : Fin 3),
      (if i = j then ∑ l, (if l = i then 0 else Tblk k c x i l a b) else -Tblk k c x i j a b) * e j b
        = -Tblk k c x i j a b * e j b
          + (if i = j then ((∑ l, Tblk k c x i l a b) - Tblk k c x i i a b + Tblk k c x i j a b) * e j b else 0) := by
    intro j b
    rw [sum_ite_ne']
    split_ifs <;> ring
  simp only [e1, Fin.sum_univ_three, Finset.sum_add_distrib, Finset.sum_ite_eq, Finset.mem_univ, if_true, sub_add_cancel]
  simp only [Finset.sum_mul, mul_sub, neg_mul, Finset.sum_sub_distrib, Finset.sum_neg_distrib]
  ring



end Energy

/-! ### a polynomial vector field attached to the molecule -/

/-- polynomial pair vector field `μ_w(x) = Σ_{i,j} w_ij |x_i − x_j|² (x_i − x_j)` (any weights) -/
def fieldMu {n : Nat} (w : Fin n → Fin n → K) (x : Geom K n) : Vec3 K :=
  fun a => ∑ i, ∑ j, w i j * dist2 x i j * (x i a - x j a)

/-- derivative of one pair term of the field w.r.t. `x_ib` -/
def Pblk {n : Nat} (x : Geom K n) (i j : Fin n) (a b : Fin 3) : K :=
  (if a = b then dist2 x i j else 0) + 2 * (x i a - x j a) * (x i b - x j b)

/-- a block `P(i,j)` applied to a vector: `|x_i − x_j|² w_a + 2 (x_i − x_j)_a ((x_i − x_j)·w)` -/
theorem Pblk_mulVec {n : Nat} (x : Geom K n) (i j : Fin n) (a : Fin 3) (w : Vec3 K) :
    ∑ b : Fin 3, Pblk x i j a b * w b
      = dist2 x i j * w a + 2 * (x i a - x j a) * (sum3 fun b => (x i b - x j b) * w b) := by
  simp only [Pblk, add_mul, Finset.sum_add_distrib, ite_mul, zero_mul, Finset.sum_ite_eq, Finset.mem_univ, if_true]
  simp only [Fin.sum_univ_three, sum3]
  ring

/-- explicit nuclear derivatives `∂μ_a/∂x_{k,b}` as the `(3,3n)` array `align_vector_gradient` takes -/
def fieldD {n : Nat} (w : Fin n → Fin n → K) (x : Geom K n) : Fin 3 → Fin (n * 3) → K :=
  fun a s => ∑ j, (w (blk s) j - w j (blk s)) * Pblk x (blk s) j a (off s)

theorem Pblk_symm {n : Nat} (x : Geom K n) (i j : Fin n) (a b : Fin 3) : Pblk x i j a b = Pblk x j i a b := by
  simp only [Pblk, dist2_symm x i j]; ring

theorem Pblk_cov {n m : Nat} (r : Recipe K n m) (hR : IsOrtho r.rot)
    (x : Geom K n) (i j : Fin m) (a b : Fin 3) :
    Pblk (alignCoords r x) i j a b
      = sum3 fun c' => sum3 fun d' => frame r c' a * Pblk x (r.map i) (r.map j) c' d' * frame r d' b := by
  unfold Pblk
  rw [dist2_align r hR, alignCoords_sub, alignCoords_sub, add_comm,
    rank1_cov (frame_ortho r hR) (fun c' => x (r.map i) c' - x (r.map j) c') 2 _ a b]
  simp only [sum3]; ring

end QcelVerif.Mill
