/-!
A structural merge sort on `Nat` that the kernel evaluates fast, and the duplicate check built on it (`nodup_of_msort`):
`n log n` comparisons where the pairwise check needs `n²/2`.  Core Lean only.
-/
namespace QcelVerif.PT.Src

def mergeFuel : Nat → List Nat → List Nat → List Nat
  | 0, xs, ys => xs ++ ys
  | _ + 1, [], ys => ys
  | _ + 1, x :: xs, [] => x :: xs
  | f + 1, x :: xs, y :: ys =>
      if x ≤ y then x :: mergeFuel f xs (y :: ys) else y :: mergeFuel f (x :: xs) ys

def mergePairs : List (List Nat) → List (List Nat)
  | a :: b :: t => mergeFuel (a.length + b.length) a b :: mergePairs t
  | l => l

def mergeIter : Nat → List (List Nat) → List Nat
  | 0, ls => ls.flatten
  | _ + 1, [] => []
  | _ + 1, [l] => l
  | f + 1, a :: b :: t => mergeIter f (mergePairs (a :: b :: t))

/-- bottom-up merge sort (64 rounds: enough for 2^64 elements; with less it still returns the elements) -/
def msort (l : List Nat) : List Nat := mergeIter 64 (l.map fun x => [x])

theorem mergeFuel_perm : ∀ (f : Nat) (xs ys : List Nat), (mergeFuel f xs ys).Perm (xs ++ ys)
  | 0, _, _ => .refl _
  | _ + 1, [], _ => .refl _
  | _ + 1, _ :: _, [] => by simp [mergeFuel]
  | f + 1, x :: xs, y :: ys => by
    simp only [mergeFuel]
    split
    · exact (mergeFuel_perm f xs (y :: ys)).cons x
    · exact ((mergeFuel_perm f (x :: xs) ys).cons y).trans List.perm_middle.symm

theorem mergePairs_perm : ∀ ls : List (List Nat), (mergePairs ls).flatten.Perm ls.flatten
  | a :: b :: t => by
    simp only [mergePairs, List.flatten_cons, ← List.append_assoc]
    exact (mergeFuel_perm _ a b).append (mergePairs_perm t)
  | [] => .refl _
  | [_] => .refl _

theorem mergeIter_perm : ∀ (f : Nat) (ls : List (List Nat)), (mergeIter f ls).Perm ls.flatten
  | 0, _ => .refl _
  | _ + 1, [] => .refl _
  | _ + 1, [l] => by simp [mergeIter]
  | f + 1, a :: b :: t => (mergeIter_perm f _).trans (mergePairs_perm _)

theorem msort_perm (l : List Nat) : (msort l).Perm l := by
  refine (mergeIter_perm 64 _).trans ?_
  induction l with
  | nil => exact .refl _
  | cons x t ih => exact ih.cons x

theorem mem_msort (l : List Nat) (x : Nat) (h : x ∈ msort l) : x ∈ l := (msort_perm l).mem_iff.1 h

def ascending : List Nat → Bool
  | a :: b :: t => Nat.blt a b && ascending (b :: t)
  | _ => true

theorem pairwise_of_ascending : ∀ {l : List Nat}, ascending l = true → l.Pairwise (· < ·)
  | [], _ => .nil
  | [_], _ => List.pairwise_singleton ..
  | a :: b :: t, h => by
    simp only [ascending, Bool.and_eq_true, Nat.blt_eq] at h
    have ih := pairwise_of_ascending h.2
    refine List.pairwise_cons.2 ⟨fun x hx => ?_, ih⟩
    rcases List.mem_cons.1 hx with rfl | hx
    · exact h.1
    · exact Nat.lt_trans h.1 (List.rel_of_pairwise_cons ih hx)

theorem nodup_of_msort {l : List Nat} (h : ascending (msort l) = true) : l.Nodup :=
  (msort_perm l).nodup_iff.1 ((pairwise_of_ascending h).imp Nat.ne_of_lt)

end QcelVerif.PT.Src
