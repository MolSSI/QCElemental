import QcelVerif.Lib.PStr
import QcelVerif.Lib.ListLemmas
/-!
Lemmas for the ASCII string model: `capitalize` and `int()` do not see letter case; and `unpack (pack s) = s`
for byte strings of at most 96 bytes, hence `pack` is injective on them.
-/
namespace QcelVerif.PStr

theorem toUpper_toLower (c : Nat) : toUpper (toLower c) = toUpper c := by
  simp only [toUpper, toLower, isUpper, isLower]; grind
theorem toLower_toLower (c : Nat) : toLower (toLower c) = toLower c := by
  simp only [toLower, isUpper]; grind
theorem isSpace_toLower (c : Nat) : isSpace (toLower c) = isSpace c := by
  simp only [toLower, isUpper, isSpace]; grind
theorem isDigit_toLower (c : Nat) : isDigit (toLower c) = isDigit c := by
  simp only [toLower, isUpper, isDigit]; grind
theorem toLower_of_isDigit (c : Nat) (h : isDigit c = true) : toLower c = c := by
  simp only [toLower, isUpper, isDigit] at *; grind
theorem toLower_eq_iff_of_nonletter (c k : Nat) (hk : k < 65) : (toLower c == k) = (c == k) := by
  simp only [toLower, isUpper]; grind
theorem toLower_eq_95 (c : Nat) : (toLower c == 95) = (c == 95) := by
  simp only [toLower, isUpper]; grind

theorem lower_lower (s : Bytes) : lower (lower s) = lower s := by
  simp [lower, List.map_map, Function.comp_def, toLower_toLower]

theorem lower_upper (s : Bytes) : lower (upper s) = lower s := by
  simp only [lower, upper, List.map_map]
  congr 1; funext c
  simp only [Function.comp, toLower, toUpper, isUpper, isLower]; grind

/-- `capitalize` only depends on the lower-cased text -/
theorem capitalize_lower (s : Bytes) : capitalize (lower s) = capitalize s := by
  cases s with
  | nil => rfl
  | cons c t =>
    have := lower_lower t
    simp only [lower] at this
    simp only [lower, List.map_cons, capitalize, toUpper_toLower, this]

theorem capitalize_congr {s s' : Bytes} (h : lower s = lower s') : capitalize s = capitalize s' := by
  rw [← capitalize_lower s, ← capitalize_lower s', h]

theorem dropWhile_map_lower (s : Bytes) :
    (lower s).dropWhile isSpace = lower (s.dropWhile isSpace) :=
  dropWhile_map_of isSpace_toLower s

theorem strip_lower (s : Bytes) : strip (lower s) = lower (strip s) := by
  unfold strip
  rw [dropWhile_map_lower]
  have : (lower (List.dropWhile isSpace s)).reverse = lower (List.dropWhile isSpace s).reverse := by
    simp [lower, List.map_reverse]
  rw [this, dropWhile_map_lower]
  simp [lower, List.map_reverse]

theorem pyIntBody_lower (s : Bytes) (p : Bool) (acc : Option Nat) :
    pyIntBody (lower s) p acc = pyIntBody s p acc := by
  induction s generalizing p acc with
  | nil => rfl
  | cons c t ih =>
    simp only [lower, List.map_cons, pyIntBody, isDigit_toLower, toLower_eq_95]
    by_cases hd : isDigit c = true
    · simp only [hd, ↓reduceIte, toLower_of_isDigit c hd]
      exact ih _ _
    · simp only [hd, Bool.false_eq_true, ↓reduceIte]
      by_cases hu : (c == 95) = true
      · simp only [hu, ↓reduceIte]
        split
        · exact ih _ _
        · rfl
      · simp [hu]

theorem pySign_lower (t : Bytes) : pySign (lower t) = ((pySign t).1, lower (pySign t).2) := by
  cases t with
  | nil => rfl
  | cons c t =>
    simp only [lower, List.map_cons, pySign, toLower_eq_iff_of_nonletter c 43 (by omega),
      toLower_eq_iff_of_nonletter c 45 (by omega)]
    split
    · rfl
    · split <;> rfl

/-- `int(text)` does not see letter case (a string with a letter is rejected either way) -/
theorem pyInt_lower (s : Bytes) : pyInt (lower s) = pyInt s := by
  unfold pyInt
  simp only [strip_lower, pySign_lower, pyIntBody_lower]

theorem pyInt_congr {s s' : Bytes} (h : lower s = lower s') : pyInt s = pyInt s' := by
  rw [← pyInt_lower s, ← pyInt_lower s', h]

def packFrom (a : Nat) (s : Bytes) : Nat := s.foldl (fun a b => a * 256 + b) a

theorem pack_eq_packFrom (s : Bytes) : pack s = packFrom 1 s := rfl

theorem unpackAux_one (fuel : Nat) (acc : Bytes) : unpackAux fuel 1 acc = acc := by
  cases fuel <;> simp [unpackAux]

theorem unpackAux_packFrom : ∀ (t : Bytes) (a fuel : Nat) (acc : Bytes), 1 ≤ a → (∀ b ∈ t, b < 256) →
    unpackAux (fuel + t.length) (packFrom a t) acc = unpackAux fuel a (t ++ acc)
  | [], a, fuel, acc, _, _ => by simp [packFrom]
  | x :: t, a, fuel, acc, ha, hb => by
      have hx : x < 256 := hb x (by simp)
      have ht : ∀ b ∈ t, b < 256 := fun b h => hb b (by simp [h])
      have ih := unpackAux_packFrom t (a * 256 + x) (fuel + 1) acc (by omega) ht
      have e : fuel + (x :: t).length = fuel + 1 + t.length := by simp; omega
      have h1 : ¬ (a * 256 + x ≤ 1) := by omega
      have hd : (a * 256 + x) / 256 = a := by omega
      have hm : (a * 256 + x) % 256 = x := by omega
      rw [e, show packFrom a (x :: t) = packFrom (a * 256 + x) t from rfl, ih]
      simp only [unpackAux, h1, ↓reduceIte, hd, hm, List.cons_append]

/-- **`unpack ∘ pack = id`** for byte strings of at most 96 bytes: the single-`Nat` encoding of strings
used by all table theorems loses nothing (and `pack` is therefore injective on them). -/
theorem unpack_pack (s : Bytes) (hb : ∀ b ∈ s, b < 256) (hl : s.length ≤ 96) : unpack (pack s) = s := by
  have h := unpackAux_packFrom s 1 (96 - s.length) [] (by omega) hb
  have e : 96 - s.length + s.length = 96 := by omega
  rw [e, unpackAux_one] at h
  simpa [unpack, pack_eq_packFrom] using h

theorem pack_injective (s t : Bytes) (hs : ∀ b ∈ s, b < 256) (ht : ∀ b ∈ t, b < 256)
    (ls : s.length ≤ 96) (lt : t.length ≤ 96) (h : pack s = pack t) : s = t := by
  rw [← unpack_pack s hs ls, ← unpack_pack t ht lt, h]

example : unpack (pack [75, 114, 56, 52]) = [75, 114, 56, 52] := by decide   -- "Kr84"

end QcelVerif.PStr
