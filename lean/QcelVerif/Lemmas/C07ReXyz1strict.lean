import QcelVerif.Lemmas.C07ReShapes
import QcelVerif.Lemmas.C07ReCaps
/-! xyz1strict = `\A(?P<nat>\d+)\Z`: the strict xyz count line -/
namespace QcelVerif.MolText
open QcelVerif.Regex QcelVerif.Gen

theorem isNatLine_iff (s : Str) : isNatLine s = true ↔ LPlus Char.isDigit s := by
  cases s <;> simp [isNatLine, allDigits, LPlus]

theorem xyz1strict_eq_regex (s : Str) : xyz1strictRe s = xyz1strictHand s := by
  unfold xyz1strictRe xyz1strictHand
  rw [xyz1strict_shape]
  have h : CExt (.seq (.group 1 digits1) .eos) _ := .seq (CExt.group 1 (.ofExt (Ext.plus cls_digit))) .eos
  refine h.match_bos s (g := fun c => (c.lookup 1).map ofBytes) (fun t r c hs hD => ?_) fun hne => ?_
  · obtain ⟨t, _, _, rfl, ⟨_, ⟨ht, rfl⟩, rfl⟩, rfl, rfl, rfl⟩ := hD
    simp only [List.append_nil] at hs
    subst hs
    simp [List.lookup, ofBytes_toBytes, (isNatLine_iff _).mpr ht]
  · have hs : isNatLine s = true := by
      by_cases h : isNatLine s = true
      · exact h
      · simp [h] at hne
    exact ⟨s, [], _, by simp, s, [], _, by simp, ⟨_, ⟨(isNatLine_iff s).mp hs, rfl⟩, rfl⟩, rfl, rfl, rfl⟩

end QcelVerif.MolText
