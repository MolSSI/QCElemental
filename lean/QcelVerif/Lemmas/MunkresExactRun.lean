import QcelVerif.Lemmas.MunkresExact
/-!
C14 — exactness of the work dtype, assembled over the whole run.

* `EInv` — the step invariant of `Lemmas/MunkresInv2` plus "the working matrix is on the grid and
  `≤ 2K`"; `doStep_einv`: every step preserves it; `arith_box`: under it every arithmetic result
  of the step is on the grid and in `[0, 4K]`, so (`doStepF_eq`) the rounded step is the exact step;
  `runStepsF_eq`, `solveWideF_eq`, `solveFloat_eq`: hence the whole rounded run is the exact run (same trace,
  same answer, same error if any) — for any fuel, termination not needed.
* `Reach` — the states the state machine visits from a start state, `reach_einv`: all of them satisfy
  `EInv`; `Input.Visits`: the states visited by the run of `solve inp` (in the wide orientation);
  `trace_visited`: every state recorded in the answer's trace is one of them.
* `pot_exact` — potentials read off row 0 / column 0 of `cost − C` are on the grid and bounded.
-/
namespace QcelVerif.Munkres
open QcelVerif.Assign

/-- the invariant handed to the next step `nx` (or to the read-out, `nx = none`), plus the grid/box
clause on the working matrix once `_step1` has run -/
def EInv (g lo hi : Rat) (n m : Nat) (cost : Nat → Nat → Rat) (nx : Option Step) (s : State) : Prop :=
  Post n m cost nx s ∧ (nx ≠ some .s1 → GB g (2 * (hi - lo)) n m s.C)

theorem GB.mono {g B B' : Rat} {n m : Nat} {C : Mat Rat} (h : GB g B n m C)
    (hB : ∀ i, i < n → ∀ j, j < m → B ≤ B') : GB g B' n m C := by
  intro i hi j hj
  exact ⟨(h i hi j hj).1, le_trans (h i hi j hj).2 (hB i hi j hj)⟩

theorem CostBox.spread_nonneg {g lo hi : Rat} {n m : Nat} {cost : Nat → Nat → Rat}
    (hb : CostBox g lo hi n m cost) {i j : Nat} (hi' : i < n) (hj : j < m) : 0 ≤ hi - lo := by
  have a := hb.lo_le i hi' j hj
  have b := hb.le_hi i hi' j hj
  linarith

/-- **one step preserves the extended invariant** -/
theorem doStep_einv {g lo hi : Rat} {n m : Nat} {cost : Nat → Nat → Rat} (hb : CostBox g lo hi n m cost)
    {st : Step} {s s' : State} {nx : Option Step} (hrun : doStep st s = .ok (s', nx))
    (h : EInv g lo hi n m cost (some st) s) : EInv g lo hi n m cost nx s' := by
  refine ⟨doStep_inv hrun h.1, fun _ => ?_⟩
  cases st <;> simp only [doStep, Except.ok.injEq] at hrun
  · have e1 : s' = (step1 s).1 := by rw [hrun]
    rw [e1]
    exact (step1_GB h.1 hb).mono (fun i hi' j hj => by
      have := hb.spread_nonneg hi' hj
      linarith)
  · have e1 : s' = (step3 s).1 := by rw [hrun]
    rw [e1, (step3_state s).2.1]
    exact h.2 (by simp)
  · rw [step4_C s s' nx hrun]
    exact h.2 (by simp)
  · rw [step5_C s s' nx hrun]
    exact h.2 (by simp)
  · have e1 : s' = (step6 s).1 := by rw [hrun]
    rw [e1]
    exact step6_GB h.1 hb (h.2 (by simp))

/-- under the extended invariant every result of an arithmetic operation of the step is on the grid and in
`[0, 4K]` -/
theorem arith_box {g lo hi : Rat} {n m : Nat} {cost : Nat → Nat → Rat} (hb : CostBox g lo hi n m cost)
    {st : Step} {s : State} (h : EInv g lo hi n m cost (some st) s) {x : Rat} (hx : ArithVal st s x) :
    OnGrid g x ∧ 0 ≤ x ∧ x ≤ 4 * (hi - lo) := by
  cases st with
  | s1 =>
    obtain ⟨hg, h0, hK⟩ := step1_arith h.1 hb hx
    exact ⟨hg, h0, by linarith⟩
  | s6 => exact step6_arith h.1 hb (h.2 (by simp)) hx
  | _ => exact hx.elim

/-- **under the extended invariant the rounded step is the exact step** -/
theorem doStepF_eq {g lo hi : Rat} {n m : Nat} {cost : Nat → Nat → Rat} (hb : CostBox g lo hi n m cost)
    (rnd : Rat → Rat) (hrnd : ∀ x, OnGrid g x → 0 ≤ x → x ≤ 4 * (hi - lo) → rnd x = x)
    {st : Step} {s : State} (h : EInv g lo hi n m cost (some st) s) : doStepF rnd st s = doStep st s :=
  doStepF_congr rnd st s fun x hx => (arith_box hb h hx).elim fun hg hx => hrnd x hg hx.1 hx.2

/-- **the rounded run is the exact run**, for any fuel (termination is not needed) -/
theorem runStepsF_eq {g lo hi : Rat} {n m : Nat} {cost : Nat → Nat → Rat} (hb : CostBox g lo hi n m cost)
    (rnd : Rat → Rat) (hrnd : ∀ x, OnGrid g x → 0 ≤ x → x ≤ 4 * (hi - lo) → rnd x = x) :
    ∀ (f : Nat) (st : Step) (s : State) (tr : Array (Step × State)),
      EInv g lo hi n m cost (some st) s → runStepsF rnd f st s tr = runSteps f st s tr
  | 0, _, _, _, _ => rfl
  | f + 1, st, s, tr, h => by
    unfold runStepsF runSteps
    rw [doStepF_eq hb rnd hrnd h]
    cases hd : doStep st s with
    | error e => rfl
    | ok r =>
      obtain ⟨s', nx⟩ := r
      cases nx with
      | none => rfl
      | some st' => exact runStepsF_eq hb rnd hrnd f st' s' _ (doStep_einv hb hd h)

theorem initState_einv {g lo hi : Rat} {n m : Nat} {costM : Mat Rat} {cost : Nat → Nat → Rat}
    (hM : Stores n m costM cost) : EInv g lo hi n m cost (some .s1) (initState n m costM) :=
  ⟨initState_inv1 hM, fun h => absurd rfl h⟩

theorem solveWideF_eq {g lo hi : Rat} {n m : Nat} {cost : Nat → Nat → Rat} (hb : CostBox g lo hi n m cost)
    (rnd : Rat → Rat) (hrnd : ∀ x, OnGrid g x → 0 ≤ x → x ≤ 4 * (hi - lo) → rnd x = x)
    {costM : Mat Rat} (hM : Stores n m costM cost) :
    solveWideF rnd n m costM = solveWide n m costM := by
  unfold solveWideF solveWide
  simp only
  split
  · rfl
  · exact runStepsF_eq hb rnd hrnd _ _ _ _ (initState_einv hM)

/-- the cost box of the transposed problem -/
theorem CostBox.tr {g lo hi : Rat} {n m : Nat} {cost : Nat → Nat → Rat} (hb : CostBox g lo hi n m cost) :
    CostBox g lo hi m n (Assign.tr cost) :=
  ⟨fun j hj i hi' => hb.grid i hi' j hj, fun j hj i hi' => hb.lo_le i hi' j hj,
   fun j hj i hi' => hb.le_hi i hi' j hj⟩

theorem Input.wide_box {g lo hi : Rat} (inp : Input) (hb : CostBox g lo hi inp.n inp.m inp.costFn) :
    CostBox g lo hi inp.wideN inp.wideM inp.wideCost := by
  unfold Input.wideN Input.wideM Input.wideCost
  split
  · exact hb.tr
  · exact hb

/-- **`solveFloat rnd = solve`** whenever the cost entries lie on a grid `g·ℤ` inside `[lo, hi]` and
`rnd` is the identity on the grid values in `[0, 4·(hi − lo)]` -/
theorem solveFloat_eq {g lo hi : Rat} (inp : Input) (hw : inp.WellShaped)
    (hb : CostBox g lo hi inp.n inp.m inp.costFn)
    (rnd : Rat → Rat) (hrnd : ∀ x, OnGrid g x → 0 ≤ x → x ≤ 4 * (hi - lo) → rnd x = x) :
    solveFloat rnd inp = solve inp :=
  solveVia_congr (wide := solveWideF rnd) (solveWideF_eq (inp.wide_box hb) rnd hrnd (inp.wide_stores hw))

/-! ### the states the run visits -/

/-- the states the state machine visits from `(st0, s0)`, each with the step it hands over to
(`none`: the read-out) -/
inductive Reach (st0 : Step) (s0 : State) : Option Step → State → Prop
  | start : Reach st0 s0 (some st0) s0
  | step {st : Step} {s s' : State} {nx : Option Step} :
      Reach st0 s0 (some st) s → doStep st s = .ok (s', nx) → Reach st0 s0 nx s'

theorem reach_einv {g lo hi : Rat} {n m : Nat} {cost : Nat → Nat → Rat} (hb : CostBox g lo hi n m cost)
    {st0 : Step} {s0 : State} (h0 : EInv g lo hi n m cost (some st0) s0) {nx : Option Step} {s : State}
    (hr : Reach st0 s0 nx s) : EInv g lo hi n m cost nx s := by
  induction hr with
  | start => exact h0
  | step _ hd ih => exact doStep_einv hb hd ih

/-- `_Hungary(cost_matrix)` of the run of `solve inp` -/
def Input.start (inp : Input) : State := initState inp.wideN inp.wideM inp.wideMat

/-- `(nx, s)` is a state of the run of `solve inp`: reached from the fresh `_Hungary` state by the
state machine, about to execute step `nx` (`none`: finished) -/
def Input.Visits (inp : Input) (nx : Option Step) (s : State) : Prop := Reach .s1 inp.start nx s

theorem Input.start_einv {g lo hi : Rat} (inp : Input) (hw : inp.WellShaped) :
    EInv g lo hi inp.wideN inp.wideM inp.wideCost (some .s1) inp.start :=
  initState_einv (inp.wide_stores hw)

/-- every visited state satisfies the extended invariant -/
theorem Input.visits_einv {g lo hi : Rat} (inp : Input) (hw : inp.WellShaped)
    (hb : CostBox g lo hi inp.n inp.m inp.costFn) {nx : Option Step} {s : State} (hv : inp.Visits nx s) :
    EInv g lo hi inp.wideN inp.wideM inp.wideCost nx s :=
  reach_einv (inp.wide_box hb) (inp.start_einv hw) hv

/-- every state a run of `solveWide` records in its trace was visited -/
theorem solveWide_trace_reach {n m : Nat} {costM : Mat Rat} {s : State} {tr : Array (Step × State)}
    (h : solveWide n m costM = .ok (s, tr)) :
    ∀ p ∈ tr, ∃ nx, Reach .s1 (initState n m costM) nx p.2 := by
  rcases solveWide_cases h with ⟨_, _, rfl⟩ | ⟨_, _, hrun⟩
  · intro p hp
    simp at hp
  · intro p hp
    have := (runSteps_ind (P := Reach .s1 (initState n m costM)) (fun _ _ _ _ hd hr => Reach.step hr hd)
      _ _ _ _ _ _ hrun Reach.start).2 p hp
    exact this.resolve_left (by simp)

/-- **every state in the trace of an answer of `solve` is a visited state** -/
theorem trace_visited (inp : Input) (o : Output) (h : solve inp = .ok o) :
    ∀ p ∈ o.trace, ∃ nx, inp.Visits nx p.2 := by
  obtain ⟨r, hr, rfl⟩ := solveVia_ok (wide := solveWide) h
  rw [inp.readout_trace]
  exact solveWide_trace_reach hr

/-! ### potentials -/

/-- potentials of a working matrix with constant cross differences, read off row 0 and column 0 of
`cost − C`: they are on the grid, and bounded once `C` and `cost` are -/
theorem pot_exact {g lo hi B : Rat} {n m : Nat} {cost : Nat → Nat → Rat} {s : State}
    (hbase : Base n m cost s) (hb : CostBox g lo hi n m cost) (hg : GB g B n m s.C) (hn : 0 < n) (hm : 0 < m) :
    ∃ u v : Nat → Rat,
      (∀ i, i < n → ∀ j, j < m → get2 s.C i j = cost i j - u i - v j)
      ∧ (∀ i, i < n → OnGrid g (u i) ∧ lo - B ≤ u i ∧ u i ≤ hi)
      ∧ (∀ j, j < m → OnGrid g (v j) ∧ lo - B - hi ≤ v j ∧ v j ≤ hi - (lo - B)) := by
  refine ⟨fun i => cost i 0 - get2 s.C i 0,
    fun j => (cost 0 j - get2 s.C 0 j) - (cost 0 0 - get2 s.C 0 0), ?_, ?_, ?_⟩
  · intro i hi' j hj
    have h1 := pot_cross hbase.pot hi' hn hj hm
    have h2 := pot_cross hbase.pot hn hn hm hm
    simp only
    linarith
  · intro i hi'
    have a := hbase.nonneg i hi' 0 hm
    have b := (hg i hi' 0 hm)
    have c1 := hb.lo_le i hi' 0 hm
    have c2 := hb.le_hi i hi' 0 hm
    refine ⟨(hb.grid i hi' 0 hm).sub b.1, ?_, ?_⟩ <;> simp only <;> linarith only [a, b.2, c1, c2]
  · intro j hj
    have a := hbase.nonneg 0 hn j hj
    have b := (hg 0 hn j hj)
    have a0 := hbase.nonneg 0 hn 0 hm
    have b0 := (hg 0 hn 0 hm)
    have c1 := hb.lo_le 0 hn j hj
    have c2 := hb.le_hi 0 hn j hj
    have d1 := hb.lo_le 0 hn 0 hm
    have d2 := hb.le_hi 0 hn 0 hm
    refine ⟨((hb.grid 0 hn j hj).sub b.1).sub ((hb.grid 0 hn 0 hm).sub b0.1), ?_, ?_⟩ <;> simp only <;>
      linarith only [a, b.2, a0, b0.2, c1, c2, d1, d2]

/-- the base invariant is part of every post-condition except the fresh state's -/
theorem Post.toBase {n m : Nat} {cost : Nat → Nat → Rat} {nx : Option Step} {s : State}
    (h : Post n m cost nx s) (hne : nx ≠ some .s1) : Base n m cost s := by
  cases nx with
  | none => exact Final.base h
  | some st =>
    cases st with
    | s1 => exact absurd rfl hne
    | s3 => exact Inv3.base h
    | s4 => exact Loop.base h
    | s5 => exact Inv5.base h
    | s6 => exact Loop.base h

end QcelVerif.Munkres
